/-
  C18 — GraphQL names map lawfully to Python names.

  Sections 1–10 and 13 (a run of calls is history-free): statements (and their final proofs) about the model in
  Model/Names.lean; helper lemmas are in Proofs/Names.lean.  Quantification: every name (list of characters) of the stated domain, of any
  length; every combination of the three flags of `process_name`; every scope; every list of names.
  Tables (`kwlist`, `pydanticReserved`, the fallback literal, `__typename`/`typename__`) are the ones
  regenerated from /repo on every run; what is evaluated over the two word tables is one linear sweep
  (`Names.table_ends`: no entry is empty, begins or ends with `_`), the laws of §1 follow from it by argument.

  Sections 11 (method scope) and 12 (class scope fed by several selection sources) are about the models in
  Model/NameScopes.lean; helper lemmas in Proofs/NameScopes.lean.  Quantification there: every list of
  variables / every selection tree, both snake settings, ordinary and subscription methods.
-/
import AriadneModel.Proofs.Names
import AriadneModel.Proofs.NameScopes
import AriadneModel.Proofs.ListLemmas

namespace Ariadne.C18
open Ariadne Ariadne.Names

/-! ## 1. Table law: appending `_` to a keyword never yields a keyword or a reserved name -/

/-- `suffix_not_keyword`, on the tables as strings. -/
theorem suffix_not_keyword :
    ∀ k ∈ Tables.kwlist, (k ++ "_") ∉ Tables.kwlist ++ Tables.pydanticReserved :=
  fun k _ => append_underscore_not_in_tables k

/-- appending `_` to a reserved pydantic name yields neither a keyword nor a reserved name (the second suffix step) -/
theorem suffix_not_reserved :
    ∀ r ∈ Tables.pydanticReserved, (r ++ "_") ∉ Tables.kwlist ++ Tables.pydanticReserved :=
  fun r _ => append_underscore_not_in_tables r

/-- no keyword / reserved name begins with an underscore (so trimming never *creates* the need for
    the check to have run earlier on the untrimmed name) and none is empty -/
theorem tables_shape :
    ∀ k ∈ Tables.kwlist ++ Tables.pydanticReserved, k ≠ "" ∧ k.toList.head? ≠ some '_' := by
  intro k hk
  have := table_ends _ (mem_tablesC hk)
  exact ⟨fun e => this.1 (by rw [e]; rfl), this.2.1⟩

/-! ## 2. `str_to_snake_case` -/

/-- `snake_idempotent`: for every name (no hypothesis needed). -/
theorem snake_idempotent (n : Name) : snake (snake n) = snake n := snake_idem n

/-- `alnum_preserved` for `str_to_snake_case`: the letters and digits of the output are those of
    the input, in order, lower-cased. -/
theorem snake_alnum_preserved (n : Name) : alnum (snake n) = lower (alnum n) := alnum_snake n

/-- the output is a word string whose words are separated by single underscores: tokenizing it
    again gives the same words -/
theorem snake_tokens_fixed (n : Name) : tokens (snake n) = (tokens n).map lower :=
  tokens_joinU _ (snakeWords_canon n)

/-- What the kernel evaluates on concrete names in §2–§5, in one declaration: every evaluation that converts a name decodes the
    keyword tables of `Model/Names.lean`, and the kernel shares work only inside one declaration.  The witnesses and `example`s of
    these sections are its components. -/
theorem evaluated_names :
    (snake "fooBarHTTPResponse2x_ABc".toList = "foo_bar_http_response_2_x_a_bc".toList) ∧
    (fallbackFires ⟨true, true, true⟩ "fooBar".toList = false) ∧
    (fallbackFires ⟨false, true, true⟩ "__".toList = true) ∧
    (GName "_1".toList ∧ trigDigitLead ⟨true, true, true⟩ "_1".toList = true) ∧
    (GName "_class".toList ∧ trigTrimToKeyword ⟨false, true, true⟩ "_class".toList = true) ∧
    (GName "fooBar".toList ∧ trigDigitLead ⟨true, true, true⟩ "fooBar".toList = false
      ∧ trigTrimToKeyword ⟨false, true, true⟩ "fooBar".toList = false) ∧
    (processName ⟨true, true, true⟩ "_1".toList = "1".toList ∧
      ¬ PyIdent (processName ⟨true, true, true⟩ "_1".toList)) ∧
    (processName ⟨false, true, true⟩ "_class".toList = "class".toList ∧ "class".toList ∈ kwlistC ∧
      processName ⟨false, true, true⟩ "_copy".toList = "copy".toList ∧ "copy".toList ∈ reservedC) ∧
    ((∀ t r, processName ⟨true, t, r⟩ (processName ⟨true, t, r⟩ "_".toList) ≠ processName ⟨true, t, r⟩ "_".toList) ∧
      (∀ r, processName ⟨false, true, r⟩ (processName ⟨false, true, r⟩ "_class".toList) ≠ processName ⟨false, true, r⟩ "_class".toList)) ∧
    (GName "__".toList ∧ trigFallbackNotFixed ⟨true, false, false⟩ "__".toList = true) ∧
    (GName "fooBar".toList ∧ trigFallbackNotFixed ⟨true, true, true⟩ "fooBar".toList = false) := by
  decide +kernel

example : snake "fooBarHTTPResponse2x_ABc".toList = "foo_bar_http_response_2_x_a_bc".toList := evaluated_names.1


/-! ## 3. `process_name`: letters kept -/

/-- `alnum_preserved`, for every name and every flag combination: unless the all-underscore
    fallback fires, the letters and digits of the output are exactly those of the input, in order -
    lower-cased when snake-casing is on, with their case kept when it is off. -/
theorem alnum_preserved (cfg : Cfg) (n : Name) (h : fallbackFires cfg n = false) :
    alnum (processName cfg n) = if cfg.snake then lower (alnum n) else alnum n :=
  alnum_processName cfg n h

/-- ... and when it fires the input had no letter or digit to keep (the output is the literal). -/
theorem alnum_fallback (cfg : Cfg) (n : Name) (h : fallbackFires cfg n = true) :
    alnum n = [] ∧ processName cfg n = fallbackName :=
  fallback_processName cfg n h

example : fallbackFires ⟨true, true, true⟩ "fooBar".toList = false := evaluated_names.2.1
example : fallbackFires ⟨false, true, true⟩ "__".toList = true := evaluated_names.2.2.1

/-! ## 4. `process_name`: the output is a usable Python name, exactly outside two trigger regions -/

/-- `valid_identifier_iff`: for every GraphQL name and every flag combination the output is a valid
    identifier, not a keyword, and (when the reserved-names flag is on) not a public attribute of
    pydantic's BaseModel  ⇔  the name lies in neither finding region
    (C18-F4 `trigDigitLead`: `_1` → `1`;  C18-F5 `trigTrimToKeyword`: `_class` → `class`). -/
theorem valid_identifier_iff (cfg : Cfg) (n : Name) (hg : GName n) :
    OutOK cfg (processName cfg n) ↔ (trigDigitLead cfg n = false ∧ trigTrimToKeyword cfg n = false) := by
  have hw := gname_word hg
  cases hs : cfg.snake
  ·
    cases n with
    | nil => exact absurd hg (by simp [GName])
    | cons c r =>
      by_cases hc : c = '_'
      · subst hc
        cases ht : cfg.trim
        · -- nothing is stripped: the suffixed name
          rw [processName_plain cfg _ hs ht (by simp), outOK_iff, pyIdent_suffix cfg _ (by simp)]
          simp [trigDigitLead, trigTrimToKeyword, hs, ht, suspect_suffix]
          exact hg
        · rw [processName_trim_lead cfg r hs ht]
          have hne : ('_' :: r) ≠ lstripU ('_' :: r) := by rw [lstripU_underscore]; exact lstripU_lead_ne r
          rcases lstripU_shape r with hl | ⟨d, r', hl, hd⟩
          · simp [hl, outOK_fallback, trigDigitLead, trigTrimToKeyword, hs, ht, lstripU_underscore, cls1, suspect_nil]
          · have hwl : Word (d :: r') := by
              rw [← hl]; exact word_lstripU ((word_cons _ _).mp hw).2
            rw [hl]
            simp only [List.cons_ne_nil, if_false, outOK_iff, pyIdent_of_word_ne hwl hd]
            simp only [trigDigitLead, trigTrimToKeyword, hs, ht, lstripU_underscore, hl, cls1]
            have hne' : ('_' :: r != d :: r') = true := by
              simp only [bne_iff_ne, ne_eq]; rw [← hl]; rw [lstripU_underscore] at hne; exact hne
            simp [hne']
      · rw [processName_trim_nolead cfg c r hs hc, outOK_iff, pyIdent_suffix cfg _ (by simp)]
        have hD : cls c ≠ .D := by
          rcases hg.1 with e | e | e
          · simp [e]
          · simp [e]
          · exact absurd e hc
        simp only [suspect_suffix, and_true, trigDigitLead, trigTrimToKeyword, hs, lstripU_of_ne r hc, cls1]
        simp [hD]
        exact hg
  ·
    have hT : trigTrimToKeyword cfg n = false := by simp [trigTrimToKeyword, hs]
    cases hu : allUnderscore n
    · rw [processName_snake cfg n hs hu]
      rcases snake_head n with ⟨h1, _⟩ | ⟨a, as, r, h1, h2⟩
      · exact absurd h1 (alnum_ne_nil_of_gname hg hu)
      · have haO : cls a ≠ .O := cls_head_alnum h1
        have hws : Word (lowerChar a :: r) := by rw [← h2]; exact word_snake n
        rw [outOK_iff, h2, pyIdent_suffix cfg _ (by simp), suspect_suffix,
          pyIdent_of_word_ne hws (ne_underscore_of_cls (cls_lowerChar_ne_O haO))]
        simp only [and_true, hT, trigDigitLead, hs, if_true, h1, cls1]
        rw [cls_lowerChar]
        cases hca : cls a <;> simp
    · rw [processName_snake_allU cfg n hs hu]
      simp [outOK_fallback, hT, trigDigitLead, hs, allUnderscore_alnum hu, cls1]

example : GName "_1".toList ∧ trigDigitLead ⟨true, true, true⟩ "_1".toList = true := evaluated_names.2.2.2.1
example : GName "_class".toList ∧ trigTrimToKeyword ⟨false, true, true⟩ "_class".toList = true := evaluated_names.2.2.2.2.1
example : GName "fooBar".toList ∧ trigDigitLead ⟨true, true, true⟩ "fooBar".toList = false
    ∧ trigTrimToKeyword ⟨false, true, true⟩ "fooBar".toList = false := evaluated_names.2.2.2.2.2.1

/-- C18-F4 on the model: `_1` becomes `1`. -/
theorem digit_lead_witness : processName ⟨true, true, true⟩ "_1".toList = "1".toList ∧
    ¬ PyIdent (processName ⟨true, true, true⟩ "_1".toList) := evaluated_names.2.2.2.2.2.2.1

/-- C18-F5 on the model: with snake-casing off `_class` becomes the keyword, `_copy` shadows `BaseModel.copy`. -/
theorem trim_to_keyword_witness :
    processName ⟨false, true, true⟩ "_class".toList = "class".toList ∧ "class".toList ∈ kwlistC ∧
    processName ⟨false, true, true⟩ "_copy".toList = "copy".toList ∧ "copy".toList ∈ reservedC := evaluated_names.2.2.2.2.2.2.2.1


/-! ## 5. `process_name`: idempotence, exactly outside two trigger regions -/

/-- `process_idempotent`, as an equivalence: for every GraphQL name and every flag combination,
    mapping the output again changes nothing  ⇔  the name lies in neither
    C18-F6 `trigFallbackNotFixed` (snake-casing on, all-underscore name: `_` → `underscore_named_field_`
    → `underscore_named_field`) nor C18-F5 `trigTrimToKeyword` (`_class` → `class` → `class_`).
    In particular it holds for all names under (snake off, trim off), for all names with a letter
    or digit under snake on, and fails on the two witnesses below. -/
theorem process_idempotent_iff (cfg : Cfg) (n : Name) (hg : GName n) :
    processName cfg (processName cfg n) = processName cfg n ↔
      (trigFallbackNotFixed cfg n = false ∧ trigTrimToKeyword cfg n = false) := by
  have hw := gname_word hg
  cases hs : cfg.snake
  · have hF : trigFallbackNotFixed cfg n = false := by simp [trigFallbackNotFixed, hs]
    simp only [hF, true_and]
    cases n with
    | nil => exact absurd hg (by simp [GName])
    | cons c r =>
      by_cases hc : c = '_'
      · subst hc
        cases ht : cfg.trim
        · have hT : trigTrimToKeyword cfg ('_' :: r) = false := by simp [trigTrimToKeyword, ht]
          rw [processName_plain cfg ('_' :: r) hs ht (by simp),
            processName_plain cfg (suffix cfg ('_' :: r)) hs ht (suffix_ne_nil cfg (by simp)), suffix_idem]
          simp [hT]
        · rw [processName_trim_lead cfg r hs ht]
          rcases lstripU_shape r with hl | ⟨d, r', hl, hd⟩
          · simp [hl, processName_fallback_plain cfg hs, trigTrimToKeyword, lstripU_underscore, suspect_nil]
          · have hne' : ('_' :: r != d :: r') = true := by
              simp only [bne_iff_ne, ne_eq]
              intro e; injection e with e1 _; exact hd e1.symm
            simp only [hl, List.cons_ne_nil, if_false]
            rw [processName_trim_nolead cfg d r' hs hd, suffix_eq_self_iff]
            simp [trigTrimToKeyword, hs, ht, lstripU_underscore, hl, hne']
      · have hT : trigTrimToKeyword cfg (c :: r) = false := by
          simp [trigTrimToKeyword, lstripU_of_ne r hc]
        rw [processName_trim_nolead cfg c r hs hc]
        obtain ⟨r', hr'⟩ := suffix_head cfg c r
        have h2 := processName_trim_nolead cfg c r' hs hc
        rw [← hr'] at h2
        rw [h2, suffix_idem]
        simp [hT]
  · have hT : trigTrimToKeyword cfg n = false := by simp [trigTrimToKeyword, hs]
    simp only [hT, and_true]
    cases hu : allUnderscore n
    · rw [processName_snake_fixed cfg n hs hu (alnum_ne_nil_of_gname hg hu)]
      simp [trigFallbackNotFixed, hu]
    · rw [processName_snake_allU cfg n hs hu]
      simp [trigFallbackNotFixed, hs, hu, processName_fallback_snake cfg hs]

/-- the usual form: idempotent on every GraphQL name outside the two finding regions -/
theorem process_idempotent (cfg : Cfg) (n : Name) (hg : GName n)
    (h6 : trigFallbackNotFixed cfg n = false) (h5 : trigTrimToKeyword cfg n = false) :
    processName cfg (processName cfg n) = processName cfg n :=
  (process_idempotent_iff cfg n hg).mpr ⟨h6, h5⟩

/-- the flag combinations for which it holds for ALL GraphQL names: snake-casing off and trimming off -/
theorem process_idempotent_plain (cfg : Cfg) (hs : cfg.snake = false) (ht : cfg.trim = false) (n : Name) (hg : GName n) :
    processName cfg (processName cfg n) = processName cfg n :=
  process_idempotent cfg n hg (by simp [trigFallbackNotFixed, hs]) (by simp [trigTrimToKeyword, ht])

/-- ... and it is false for every other flag combination (snake on: `_`; snake off, trim on: `_class`) -/
theorem process_idempotent_false :
    (∀ t r, processName ⟨true, t, r⟩ (processName ⟨true, t, r⟩ "_".toList) ≠ processName ⟨true, t, r⟩ "_".toList) ∧
    (∀ r, processName ⟨false, true, r⟩ (processName ⟨false, true, r⟩ "_class".toList) ≠ processName ⟨false, true, r⟩ "_class".toList) := evaluated_names.2.2.2.2.2.2.2.2.1

example : GName "__".toList ∧ trigFallbackNotFixed ⟨true, false, false⟩ "__".toList = true := evaluated_names.2.2.2.2.2.2.2.2.2.1
example : GName "fooBar".toList ∧ trigFallbackNotFixed ⟨true, true, true⟩ "fooBar".toList = false := evaluated_names.2.2.2.2.2.2.2.2.2.2


/-! ## 6. The wire name is kept -/

/-- `wire_name_kept`: in every scope and for every name, the name that travels is the original:
    pydantic fields carry `alias=<original>` exactly when the Python name differs (else the Python
    name *is* the original), variables are keyed by the original in the `variables` dict, operations
    are sent under the original `operation_name`, enum members keep the original as their value. -/
theorem wire_name_kept (snakeSetting : Bool) (s : Scope) (n : Name) : (emit snakeSetting s n).wire = n := by
  cases s <;> simp only [emit]
  · by_cases h : pyName snakeSetting .resultField n = n <;> simp [h]
  · by_cases h : pyName snakeSetting .inputField n = n <;> simp [h]

/-- the alias is emitted exactly when needed -/
theorem alias_iff (snakeSetting : Bool) (n : Name) :
    ((emit snakeSetting .resultField n).alias = some n ↔ (emit snakeSetting .resultField n).py ≠ n) ∧
    ((emit snakeSetting .inputField n).alias = some n ↔ (emit snakeSetting .inputField n).py ≠ n) := by
  constructor
  · by_cases h : pyName snakeSetting .resultField n = n <;> simp [emit, h]
  · by_cases h : pyName snakeSetting .inputField n = n <;> simp [emit, h]

/-- The same for §6 and §7. -/
theorem evaluated_emit :
    (emit true .resultField "fooBar".toList = ⟨"foo_bar".toList, some "fooBar".toList, "fooBar".toList⟩) ∧
    (emit true .resultField "__typename".toList = ⟨"typename__".toList, some "__typename".toList, "__typename".toList⟩) ∧
    (emit false .inputField "x".toList = ⟨"x".toList, none, "x".toList⟩) ∧
    (trigMerge ⟨true, true, true⟩ "fooBar".toList "foo_bar".toList = true) ∧
    (trigMerge ⟨false, true, true⟩ "_x".toList "x".toList = true) ∧
    (trigMerge ⟨false, false, false⟩ "class".toList "class_".toList = true) ∧
    (trigMerge ⟨false, true, true⟩ "_class".toList "class".toList = false) ∧
    (trigMerge ⟨false, true, true⟩ "fooBar".toList "foo_bar".toList = false) := by
  decide +kernel

example : emit true .resultField "fooBar".toList = ⟨"foo_bar".toList, some "fooBar".toList, "fooBar".toList⟩ := evaluated_emit.1
example : emit true .resultField "__typename".toList = ⟨"typename__".toList, some "__typename".toList, "__typename".toList⟩ := evaluated_emit.2.1
example : emit false .inputField "x".toList = ⟨"x".toList, none, "x".toList⟩ := evaluated_emit.2.2.1

/-! ## 7. When do two names of one scope get the same Python name? -/

/-- `collision_iff`: for GraphQL names `a`, `b` and every flag combination, `process_name` gives
    both the same Python name  ⇔  they are equal or the pair lies in one of the four merge regions
    (C18-F1 same lower-cased words under snake-casing; C18-F2 equal after `lstrip("_")`;
    C18-F3 keyword/reserved name vs. its suffixed form; C18-F7 all-underscore vs. the fallback literal).
    The regions are stated on the inputs only (Model/Names.lean) and are therefore exact. -/
theorem collision_iff (cfg : Cfg) (a b : Name) (ha : GName a) (hb : GName b) :
    processName cfg a = processName cfg b ↔ (a = b ∨ trigMerge cfg a b = true) := by
  cases hs : cfg.snake
  · cases ht : cfg.trim
    · rw [collide_plain cfg hs ht a b (gname_ne_nil ha) (gname_ne_nil hb)]
      simp [trigMerge, trigSnakeMerge, trigTrimMerge, trigSuffixMerge, trigFallbackMerge, stem, hs, ht]
    · rw [collide_trim cfg hs ht a b (gname_ne_nil ha) (gname_ne_nil hb)]
      simp only [TrimRHS, trigMerge, trigSnakeMerge, trigTrimMerge, trigSuffixMerge, trigFallbackMerge, stem, hs, ht]
      simp only [Bool.false_and, Bool.false_or, Bool.not_false, Bool.true_and, Bool.or_eq_true, Bool.and_eq_true,
        beq_iff_eq, bne_iff_ne, ne_eq, Bool.not_eq_true', if_true]
      constructor
      · rintro (h | h | h | h)
        · exact Or.inl h
        · exact Or.inr (Or.inl (Or.inl h))
        · exact Or.inr (Or.inl (Or.inr h))
        · exact Or.inr (Or.inr (by simpa [and_assoc] using h))
      · rintro (h | (h | h) | h)
        · exact Or.inl h
        · exact Or.inr (Or.inl h)
        · exact Or.inr (Or.inr (Or.inl h))
        · exact Or.inr (Or.inr (Or.inr (by simpa [and_assoc] using h)))
  · rw [collide_snake cfg hs a b ha hb]
    simp only [trigMerge, trigSnakeMerge, trigTrimMerge, trigSuffixMerge, trigFallbackMerge, hs]
    simp only [Bool.true_and, Bool.not_true, Bool.false_and, Bool.or_false, beq_iff_eq]
    constructor
    · intro h; exact Or.inr h
    · rintro (h | h)
      · rw [h]
      · exact h

example : trigMerge ⟨true, true, true⟩ "fooBar".toList "foo_bar".toList = true := evaluated_emit.2.2.2.1
example : trigMerge ⟨false, true, true⟩ "_x".toList "x".toList = true := evaluated_emit.2.2.2.2.1
example : trigMerge ⟨false, false, false⟩ "class".toList "class_".toList = true := evaluated_emit.2.2.2.2.2.1
example : trigMerge ⟨false, true, true⟩ "_class".toList "class".toList = false := evaluated_emit.2.2.2.2.2.2.1
example : trigMerge ⟨false, true, true⟩ "fooBar".toList "foo_bar".toList = false := evaluated_emit.2.2.2.2.2.2.2


/-! ## 8. Scopes: the property at full strength, its refutation, and the exact supported region -/

/-- Two names of one scope get the same Python name ⇔ they are equal or lie in a merge region of
    that scope (the four regions of `collision_iff` under the scope's flags, plus C18-F8 for
    response keys: `__typename` ↦ `typename__` meets names that strip to `typename__`). -/
theorem scope_collision_iff (snakeSetting : Bool) (s : Scope) (a b : Name) (ha : GName a) (hb : GName b) :
    pyName snakeSetting s a = pyName snakeSetting s b ↔ (a = b ∨ trigScopeMerge snakeSetting s a b = true) := by
  have hane := gname_ne_nil ha
  have hbne := gname_ne_nil hb
  by_cases hT : s = .resultField ∧ (a = typenameField ∨ b = typenameField)
  · obtain ⟨hs, hab⟩ := hT
    subst hs
    simp only [trigScopeMerge, true_and, hab, if_true]
    have key : ∀ x : Name, GName x → x ≠ typenameField →
        (pyName snakeSetting .resultField x = typenameAlias ↔
          (snakeSetting = false ∧ lstripU x = typenameAlias)) := by
      intro x hx hne
      rw [pyName_eq snakeSetting .resultField x (gname_ne_nil hx) (fun h => hne h.2)]
      cases snakeSetting
      · simp only [true_and]
        exact processName_trim_eq_typenameAlias_iff _ rfl rfl x (gname_ne_nil hx)
      · simp only [Bool.true_eq_false, false_and, iff_false]
        exact processName_snake_ne_typenameAlias _ rfl x
    by_cases hae : a = typenameField <;> by_cases hbe : b = typenameField
    · simp [hae, hbe]
    · rw [hae, pyName_typename, eq_comm, key b hb hbe]
      have : typenameField ≠ b := fun e => hbe e.symm
      simp [trigTypenameClash, hbe, this]
    · rw [hbe, pyName_typename, key a ha hae]
      simp [trigTypenameClash, hae]
    · rcases hab with h | h
      · exact absurd h hae
      · exact absurd h hbe
  · have h1 : ¬ (s = .resultField ∧ a = typenameField) := fun h => hT ⟨h.1, Or.inl h.2⟩
    have h2 : ¬ (s = .resultField ∧ b = typenameField) := fun h => hT ⟨h.1, Or.inr h.2⟩
    rw [pyName_eq snakeSetting s a hane h1, pyName_eq snakeSetting s b hbne h2, collision_iff _ a b ha hb]
    simp [trigScopeMerge, hT]

/-- In every scope the emitted name is a usable Python name ⇔ the name is in no single-name region. -/
theorem scope_valid_iff (snakeSetting : Bool) (s : Scope) (n : Name) (hg : GName n) :
    OutOK (scopeCfg snakeSetting s) (pyName snakeSetting s n) ↔ trigScopeSingle snakeSetting s n = false := by
  by_cases hT : s = .resultField ∧ n = typenameField
  · obtain ⟨hs, hn⟩ := hT
    subst hs; subst hn
    rw [pyName_typename]
    simp only [trigScopeSingle, true_and, if_true, iff_true]
    exact (outOK_iff _ _).mpr ⟨typename_facts.2.2, suspect_typenameAlias _⟩
  · rw [pyName_eq snakeSetting s n (gname_ne_nil hg) hT, valid_identifier_iff _ n hg]
    simp [trigScopeSingle, hT]

/-- What the property demands of one scope of generated code: distinct GraphQL names keep distinct
    Python names, every Python name is usable, every name travels under its original spelling. -/
def Lawful (snakeSetting : Bool) (s : Scope) (names : List Name) : Prop :=
  (scopeNames snakeSetting s names).Nodup ∧
  ∀ n ∈ names, OutOK (scopeCfg snakeSetting s) (pyName snakeSetting s n) ∧ (emit snakeSetting s n).wire = n

instance (sn : Bool) (s : Scope) (names : List Name) : Decidable (Lawful sn s names) := by
  unfold Lawful; infer_instance

/-- C18 at full strength: "Every GraphQL name that becomes a Python name is mapped to a valid
    identifier that is not a keyword and does not shadow a pydantic model attribute; … the original
    name stays the wire name.  Two distinct names in one scope are never silently merged into one
    Python name: both remain usable or generation fails with an error."  (`scopeRefused` is the only
    name-dependent refusal the generators contain.) -/
def C18_full : Prop :=
  ∀ (fixed : List Name) (snakeSetting : Bool) (s : Scope) (names : List Name),
    (∀ n ∈ names, GName n) → names.Nodup →
      scopeRefused fixed s names = true ∨ Lawful snakeSetting s names

/-- The region outside every known finding: no name of the scope in a single-name region
    (C18-F4, C18-F5), no two distinct names of it in a merge region (C18-F1, F2, F3, F7, F8). -/
def Supported_18 (snakeSetting : Bool) (s : Scope) (names : List Name) : Prop :=
  (∀ n ∈ names, trigScopeSingle snakeSetting s n = false) ∧
  (∀ a ∈ names, ∀ b ∈ names, a ≠ b → trigScopeMerge snakeSetting s a b = false)

instance (sn : Bool) (s : Scope) (names : List Name) : Decidable (Supported_18 sn s names) := by
  unfold Supported_18; infer_instance

/-- fixed module stems of a package generated with the default settings -/
def defaultFixed : List Name :=
  ["client", "async_base_client", "base_model", "enums", "input_types", "fragments", "exceptions"].map String.toList

/-- a counterexample to `C18_full`: GraphQL names, distinct, not refused, not lawful -/
def Bad (sn : Bool) (s : Scope) (names : List String) : Prop :=
  (∀ n ∈ names.map String.toList, GName n) ∧ (names.map String.toList).Nodup ∧
  scopeRefused defaultFixed s (names.map String.toList) = false ∧ ¬ Lawful sn s (names.map String.toList)

instance (sn : Bool) (s : Scope) (names : List String) : Decidable (Bad sn s names) := by
  unfold Bad; infer_instance

/-- The same for §8–§10. -/
theorem evaluated_scopes :
    (GName "fooBar".toList ∧ GName "foo_bar".toList ∧ "fooBar".toList ≠ "foo_bar".toList ∧
      processName ⟨true, false, false⟩ "fooBar".toList = processName ⟨true, false, false⟩ "foo_bar".toList) ∧
    (Bad true .inputField ["fooBar", "foo_bar"] ∧ Bad true .variable ["fooBar", "foo_bar"] ∧
      Bad false .operation ["fooBar", "FooBar"] ∧                 -- C18-F1 (operations are always snake-cased)
      Bad false .resultField ["_x", "x"] ∧ Bad false .inputField ["__x", "_x"] ∧   -- C18-F2
      Bad true .enumValue ["class", "class_"] ∧ Bad false .variable ["class", "class_"] ∧
      Bad false .resultField ["copy", "copy_"] ∧                  -- C18-F3
      Bad true .resultField ["_1"] ∧ Bad false .inputField ["_1"] ∧               -- C18-F4
      Bad false .resultField ["_class"] ∧ Bad false .inputField ["_copy"] ∧       -- C18-F5
      Bad false .inputField ["_", "underscore_named_field_"] ∧                    -- C18-F7
      Bad false .resultField ["__typename", "typename__"]) ∧
    ((∀ n ∈ ["id", "firstName", "HTTPStatus", "class", "copy", "__typename", "_private"].map String.toList, GName n) ∧
      (["id", "firstName", "HTTPStatus", "class", "copy", "__typename", "_private"].map String.toList).Nodup ∧
      Supported_18 true .resultField (["id", "firstName", "HTTPStatus", "class", "copy", "__typename", "_private"].map String.toList)) ∧
    (let cfg : Cfg := ⟨true, true, true⟩
      let a := processName cfg "_".toList
      let b := processName cfg "underscoreNamedField".toList
      a ≠ b ∧ processName cfg a = processName cfg b) ∧
    (pascal "_".toList = [] ∧ pascal "_1".toList = "1".toList ∧ pascal "none".toList = "None".toList ∧
      "None".toList ∈ kwlistC ∧ trigPascalBad "none".toList = true ∧ trigPascalBad "getUser".toList = false) := by
  decide +kernel

/-- `fooBar` and `foo_bar` are two GraphQL names with one Python name -/
theorem fooBar_foo_bar_facts :
    GName "fooBar".toList ∧ GName "foo_bar".toList ∧ "fooBar".toList ≠ "foo_bar".toList ∧
    processName ⟨true, false, false⟩ "fooBar".toList = processName ⟨true, false, false⟩ "foo_bar".toList := evaluated_scopes.1

/-- the function-level form (DESIGN.md Appendix A): injectivity of `process_name` on GraphQL names fails for some flag
    combination (snake-casing on: `fooBar`, `foo_bar`; for the others see `C18_witnesses`) -/
theorem process_name_not_injective :
    ¬ (∀ (cfg : Cfg) (a b : Name), GName a → GName b → a ≠ b → processName cfg a ≠ processName cfg b) :=
  fun h => h _ _ _ fooBar_foo_bar_facts.1 fooBar_foo_bar_facts.2.1 fooBar_foo_bar_facts.2.2.1 fooBar_foo_bar_facts.2.2.2

/-- the other witnesses, one per finding and scope -/
theorem C18_witnesses :
    Bad true .inputField ["fooBar", "foo_bar"] ∧ Bad true .variable ["fooBar", "foo_bar"] ∧
    Bad false .operation ["fooBar", "FooBar"] ∧                 -- C18-F1 (operations are always snake-cased)
    Bad false .resultField ["_x", "x"] ∧ Bad false .inputField ["__x", "_x"] ∧   -- C18-F2
    Bad true .enumValue ["class", "class_"] ∧ Bad false .variable ["class", "class_"] ∧
    Bad false .resultField ["copy", "copy_"] ∧                  -- C18-F3
    Bad true .resultField ["_1"] ∧ Bad false .inputField ["_1"] ∧               -- C18-F4
    Bad false .resultField ["_class"] ∧ Bad false .inputField ["_copy"] ∧       -- C18-F5
    Bad false .inputField ["_", "underscore_named_field_"] ∧                    -- C18-F7
    Bad false .resultField ["__typename", "typename__"] := evaluated_scopes.2.1   -- C18-F8

/-- a counterexample in a scope that refuses nothing refutes the property, whatever the fixed modules are -/
theorem not_full_of_bad {sn : Bool} {s : Scope} {names : List String} (hs : s ≠ .operation) (h : Bad sn s names) :
    ¬ C18_full := by
  intro hf
  obtain ⟨hg, hnd, _, hl⟩ := h
  rcases hf [] sn s _ hg hnd with hr | hr
  · cases s <;> simp [scopeRefused] at hr hs
  · exact hl hr

/-- `C18_full_false`: the property is false on the pinned tree - nothing refuses `fooBar` and
    `foo_bar` as two fields of one input type, and they become one pydantic field (the first of `C18_witnesses`). -/
theorem C18_full_false : ¬ C18_full := not_full_of_bad (by decide) C18_witnesses.1

/-- `C18_partial`, in its exact form: for GraphQL names without repetition, a scope is lawful
    ⇔ it lies outside every finding region.  (⇐ is the partial theorem; ⇒ says the regions are not
    wider than the defects.)  No refusal is needed on the supported side. -/
theorem C18_exact (snakeSetting : Bool) (s : Scope) (names : List Name)
    (hg : ∀ n ∈ names, GName n) (hnd : names.Nodup) :
    Lawful snakeSetting s names ↔ Supported_18 snakeSetting s names := by
  constructor
  · rintro ⟨hn, hall⟩
    refine ⟨fun n hn' => (scope_valid_iff snakeSetting s n (hg n hn')).mp (hall n hn').1, ?_⟩
    intro a ha b hb hab
    cases ht : trigScopeMerge snakeSetting s a b
    · rfl
    · exfalso
      have e := (scope_collision_iff snakeSetting s a b (hg a ha) (hg b hb)).mpr (Or.inr ht)
      exact hab (Lists.eq_of_nodup_map hn ha hb e)
  · rintro ⟨h1, h2⟩
    refine ⟨?_, fun n hn => ⟨(scope_valid_iff snakeSetting s n (hg n hn)).mpr (h1 n hn), wire_name_kept snakeSetting s n⟩⟩
    apply Lists.nodup_map_of_inj _ names hnd
    intro a ha b hb e
    rcases (scope_collision_iff snakeSetting s a b (hg a ha) (hg b hb)).mp e with h | h
    · exact h
    · cases hab : decide (a = b)
      · have := h2 a ha b hb (of_decide_eq_false hab); rw [this] at h; exact absurd h (by simp)
      · exact of_decide_eq_true hab

theorem C18_partial (fixed : List Name) (snakeSetting : Bool) (s : Scope) (names : List Name)
    (hg : ∀ n ∈ names, GName n) (hnd : names.Nodup) (hs : Supported_18 snakeSetting s names) :
    scopeRefused fixed s names = true ∨ Lawful snakeSetting s names :=
  Or.inr ((C18_exact snakeSetting s names hg hnd).mpr hs)

/-- non-vacuity: a realistic scope satisfies the hypotheses -/
example : (∀ n ∈ ["id", "firstName", "HTTPStatus", "class", "copy", "__typename", "_private"].map String.toList, GName n) ∧
    (["id", "firstName", "HTTPStatus", "class", "copy", "__typename", "_private"].map String.toList).Nodup ∧
    Supported_18 true .resultField (["id", "firstName", "HTTPStatus", "class", "copy", "__typename", "_private"].map String.toList) := evaluated_scopes.2.2.1

/-! ## 9. Injectivity on canonical names -/

/-- a canonical name: the image of a GraphQL name outside the two regions where the image is not a fixed point -/
def Canonical (cfg : Cfg) (m : Name) : Prop :=
  ∃ n, GName n ∧ trigFallbackNotFixed cfg n = false ∧ trigTrimToKeyword cfg n = false ∧ processName cfg n = m

theorem canonical_fixed (cfg : Cfg) (m : Name) (h : Canonical cfg m) : processName cfg m = m := by
  obtain ⟨n, hg, h6, h5, rfl⟩ := h
  exact process_idempotent cfg n hg h6 h5

/-- `injective_on_canonical`: `process_name` is injective on names that are already in its image
    (it fixes them). -/
theorem injective_on_canonical (cfg : Cfg) (a b : Name) (ha : Canonical cfg a) (hb : Canonical cfg b)
    (h : processName cfg a = processName cfg b) : a = b := by
  rw [canonical_fixed cfg a ha, canonical_fixed cfg b hb] at h; exact h

/-- ... but not on the whole image: with snake-casing on, the fallback literal (image of `_`) and
    its own image `underscore_named_field` are both in the image and are mapped to the same name. -/
theorem injective_on_image_false :
    let cfg : Cfg := ⟨true, true, true⟩
    let a := processName cfg "_".toList
    let b := processName cfg "underscoreNamedField".toList
    a ≠ b ∧ processName cfg a = processName cfg b := evaluated_scopes.2.2.2.1

example : Canonical ⟨true, true, true⟩ "foo_bar".toList :=
  ⟨"fooBar".toList, by decide +kernel⟩


/-! ## 10. `str_to_pascal_case` (the result class of an operation) -/

/-- idempotent, for every name -/
theorem pascal_idempotent (n : Name) : pascal (pascal n) = pascal n := pascal_idem n

/-- letters and digits are kept in order, up to case -/
theorem pascal_alnum_preserved (n : Name) : lower (alnum (pascal n)) = lower (alnum n) := lower_alnum_pascal n

/-- the class name of an operation is a usable Python name ⇔ the operation name is outside C18-F9
    (`_` ↦ empty name, `_1` ↦ `1`, `none` ↦ `None`) -/
theorem pascal_valid_iff (n : Name) (hg : GName n) :
    (PyIdent (pascal n) ∧ pascal n ∉ kwlistC) ↔ trigPascalBad n = false := by
  rw [pyIdent_pascal_iff hg]
  simp only [trigPascalBad, Bool.or_eq_false_iff, beq_eq_false_iff_ne, ne_eq, decide_eq_false_iff_not, and_assoc]

theorem pascal_witnesses :
    pascal "_".toList = [] ∧ pascal "_1".toList = "1".toList ∧ pascal "none".toList = "None".toList ∧
    "None".toList ∈ kwlistC ∧ trigPascalBad "none".toList = true ∧ trigPascalBad "getUser".toList = false := evaluated_scopes.2.2.2.2

/-! ## 11. The scope of a client method

  Names inside one generated method: `self`, one parameter per GraphQL variable, `**kwargs`, the
  helper locals `query`/`variables`/`response`/`data` (renamed by `get_variable_names` on a clash),
  and the two module globals the body reads (`gql`, the result class). -/

section MethodScope
open Ariadne.NameScopes

/-- What the property demands of a generated method: the `def` compiles (distinct, usable parameter
    names), and a call hands `execute` the operation text and EVERY caller's value under its GraphQL
    name (no helper local captured a parameter, wire names kept), and returns the parsed data. -/
def MethodLawful (sn sub : Bool) (ret : Name) (vars : List Var) : Prop :=
  runMethod sn sub ret vars = .ok (specSent vars)

/-- The region outside every known finding of the method scope: the variable names are a supported
    scope (C18-F1..F5 as for any scope), no parameter is `self` (C18-F10) or `kwargs` (C18-F11), not
    both `query` and `_query` are parameters (C18-F12), no parameter shadows `gql`, the result class or the
    serialize function of a custom scalar the method uses (C18-F13). -/
def Supported_18m (sn : Bool) (ret : Name) (vars : List Var) : Prop :=
  Supported_18 sn .variable (vars.map (·.name)) ∧
  trigSelfParam sn vars = false ∧ trigKwargsParam sn vars = false ∧
  trigQueryCapture sn vars = false ∧ trigGlobalShadow sn ret vars = false

instance (sn : Bool) (ret : Name) (vars : List Var) : Decidable (Supported_18m sn ret vars) := by
  unfold Supported_18m; infer_instance

/-- the `def` compiles ⇔ every parameter is a usable name, none is `self` or `kwargs`, none occurs twice -/
theorem defCompiles_iff (sn : Bool) (vars : List Var) :
    defCompiles sn vars = true ↔
      ((∀ p ∈ docParams sn vars, OutOK (variableCfg sn) p) ∧ selfName ∉ docParams sn vars ∧
        kwargsName ∉ docParams sn vars ∧ (docParams sn vars).Nodup) := by
  have hsk : selfName ≠ kwargsName := by decide
  simp only [defCompiles, Bool.and_eq_true, List.all_eq_true, decide_eq_true_eq, List.nodup_cons,
    List.mem_append, List.mem_singleton, List.nodup_append, not_or]
  constructor
  · rintro ⟨h1, ⟨h2, _⟩, h3, _, h5⟩
    exact ⟨h1, h2, fun hm => h5 _ hm _ rfl rfl, h3⟩
  · rintro ⟨h1, h2, h3, h4⟩
    refine ⟨h1, ⟨h2, hsk⟩, h4, by simp, ?_⟩
    intro a ha b hb e
    subst hb; subst e; exact h3 ha

/-- the helper locals never coincide with each other, whatever the parameters are -/
theorem locals_pairwise_distinct (args : List Name) :
    let L := getVariableNames args
    [L.q, L.v, L.r, L.d].Nodup := by
  have h := locals_distinct args
  simp only at h ⊢
  obtain ⟨h1, h2, h3, h4, h5, h6⟩ := h
  simp only [List.nodup_cons, List.mem_cons, List.not_mem_nil, or_false, not_or, List.nodup_nil, and_true, not_false_eq_true]
  exact ⟨⟨fun e => h1 e.symm, fun e => h2 e.symm, fun e => h4 e.symm⟩, ⟨fun e => h3 e.symm, fun e => h5 e.symm⟩, fun e => h6 e.symm⟩

/-- `rename_captures_iff`: the (renamed) helper local is one of the parameters ⇔ both `h` and `_h`
    are parameters - the rename of `get_variable_names` avoids the first clash and walks into the second. -/
theorem rename_captures_iff (sn : Bool) (vars : List Var) (h : Name) (hs : h ≠ selfName) (hs' : '_' :: h ≠ selfName) :
    rename (argNames sn vars) h ∈ argNames sn vars ↔
      (h ∈ docParams sn vars ∧ ('_' :: h) ∈ docParams sn vars) := by
  rcases rename_cases (argNames sn vars) h with ⟨hin, e⟩ | ⟨hout, e⟩
  · rw [e]
    have hin' := (mem_argNames sn vars h).mp hin
    constructor
    · intro h1
      rcases (mem_argNames sn vars _).mp h1 with h1 | h1
      · exact absurd h1 hs'
      · rcases hin' with h2 | h2
        · exact absurd h2 hs
        · exact ⟨h2, h1⟩
    · rintro ⟨_, h1⟩; exact (mem_argNames sn vars _).mpr (Or.inr h1)
  · rw [e]
    constructor
    · intro h1; exact absurd h1 hout
    · rintro ⟨h1, _⟩; exact absurd ((mem_argNames sn vars h).mpr (Or.inr h1)) hout

/-- the result class of an operation never has one of the names a method fixes itself
    (`str_to_pascal_case` output contains no underscore and does not start with a lower-case letter) -/
theorem pascal_not_fixed (n : Name) : pascal n ∉ fixedMethodNames := by
  -- one look at the table: every fixed name contains an underscore or starts with a small letter
  have table : ∀ x ∈ fixedMethodNames, '_' ∈ x ∨ cls1 x = .L := by decide +kernel
  intro hm
  rcases table _ hm with hu | hL
  · exact pascal_no_underscore n hu
  · have hcap : capitalize (pascal n) = pascal n := capitalize_flatten_head _
    cases hp : pascal n with
    | nil => rw [hp] at hL; cases hL
    | cons c r =>
      rw [hp] at hcap hL
      simp only [capitalize, List.cons.injEq, and_true] at hcap
      have := cls_upperChar c
      simp only [cls1] at hL
      rw [hcap, hL] at this
      cases this

/-- `method_exact`: for GraphQL variable names without repetition, any number of variables, both
    snake settings, ordinary and subscription methods, and any result-class name a generator can
    produce: the method is lawful ⇔ the operation lies outside every finding region.
    (⇐ is the partial theorem; ⇒ says the regions are exact.) -/
theorem method_exact (sn sub : Bool) (ret : Name) (vars : List Var)
    (hg : ∀ v ∈ vars, GName v.name) (hnd : (vars.map (·.name)).Nodup) (hret : ret ∉ fixedMethodNames) :
    MethodLawful sn sub ret vars ↔ Supported_18m sn ret vars := by
  have hgn : ∀ n ∈ vars.map (·.name), GName n := by
    intro n hn
    obtain ⟨v, hv, rfl⟩ := List.mem_map.mp hn
    exact hg v hv
  have hex := C18_exact sn .variable (vars.map (·.name)) hgn hnd
  have hdp := docParams_eq_scopeNames sn vars
  have hcomp : defCompiles sn vars = true ↔
      (Supported_18 sn .variable (vars.map (·.name)) ∧ trigSelfParam sn vars = false ∧ trigKwargsParam sn vars = false) := by
    rw [defCompiles_iff, ← hex]
    constructor
    · rintro ⟨hok, hself, hkw, hnodup⟩
      refine ⟨⟨by rw [← hdp]; exact hnodup, fun n hn => ⟨hok _ ?_, wire_name_kept sn .variable n⟩⟩, ?_, ?_⟩
      · rw [hdp]; exact List.mem_map.mpr ⟨n, hn, rfl⟩
      · simpa [trigSelfParam] using hself
      · simpa [trigKwargsParam] using hkw
    · rintro ⟨⟨hnodup, hall⟩, h10, h11⟩
      refine ⟨fun p hp => ?_, contains_false h10, contains_false h11, by rw [hdp]; exact hnodup⟩
      rw [hdp] at hp
      obtain ⟨n, hn, rfl⟩ := List.mem_map.mp hp
      exact (hall n hn).1
  -- the result class and the serialize function are none of the names the method fixes
  have hfix : ∀ x ∈ fixedMethodNames, ret ≠ x := fun x hx e => hret (e ▸ hx)
  obtain ⟨L, hL⟩ : ∃ L, L = getVariableNames (argNames sn vars) := ⟨_, rfl⟩
  have hloc : ∀ h, h ∈ fixedMethodNames → ('_' :: h) ∈ fixedMethodNames → ret ≠ rename (argNames sn vars) h := by
    intro h h1 h2
    rcases rename_eq_or (argNames sn vars) h with e | e <;> rw [e]
    · exact hfix _ h1
    · exact hfix _ h2
  have hrq : ret ≠ L.q := by rw [hL]; exact hloc queryLocal (by simp [fixedMethodNames]) (by simp [fixedMethodNames])
  have hrv : ret ≠ L.v := by rw [hL]; exact hloc variablesLocal (by simp [fixedMethodNames]) (by simp [fixedMethodNames])
  have hrr : ret ≠ L.r := by rw [hL]; exact hloc responseLocal (by simp [fixedMethodNames]) (by simp [fixedMethodNames])
  have hrd : ret ≠ L.d := by rw [hL]; exact hloc dataLocal (by simp [fixedMethodNames]) (by simp [fixedMethodNames])
  have hsq : serName ≠ L.q := by rw [hL]; exact (rename_query_ne (argNames sn vars)).2
  have hvq : L.v ≠ L.q := by rw [hL]; exact (locals_distinct (argNames sn vars)).1
  unfold MethodLawful runMethod Supported_18m
  cases hc : defCompiles sn vars
  · -- the module does not compile: not lawful, and by `hcomp` not supported
    simp only [Bool.false_eq_true, if_false, reduceCtorEq, false_iff]
    rintro ⟨h1, h2, h3, _, _⟩
    rw [hcomp.mpr ⟨h1, h2, h3⟩] at hc
    cases hc
  · obtain ⟨hsup, h10, h11⟩ := hcomp.mp hc
    obtain ⟨_, hself, _, hnodup⟩ := (defCompiles_iff sn vars).mp hc
    have hspec : specSent vars = ⟨.text, .dict (vars.map (·.name)) (applySer (serFlags vars) (argVals 0 (docParams sn vars).length)),
        .parsed (.data (.resp .text (.dict (vars.map (·.name)) (applySer (serFlags vars) (argVals 0 (docParams sn vars).length)))))⟩ := by
      simp [specSent, docParams]
    have hreads : dictReads sn vars = docParams sn vars := rfl
    have hcap : L.q ∈ docParams sn vars ↔ trigQueryCapture sn vars = true := by
      have table : queryLocal ≠ selfName ∧ '_' :: queryLocal ≠ selfName := by decide
      have := rename_captures_iff sn vars queryLocal table.1 table.2
      simp only [trigQueryCapture, Bool.and_eq_true, List.contains_iff_mem, ← this, hL, getVariableNames, mem_argNames]
      constructor
      · exact Or.inr
      · exact fun h => h.resolve_left (rename_query_ne (argNames sn vars)).1
    simp only [if_true, ← hL, hreads, hspec, hsup, h10, h11, true_and]
    rw [runBody_ok_iff sub L ret _ _ _ hself hnodup hvq (hfix _ (by simp [fixedMethodNames]))
      (hfix _ (by simp [fixedMethodNames])) hrq hrv hrr hrd hsq, hcap]
    simp only [trigGlobalShadow, Bool.or_eq_false_iff, Bool.and_eq_false_iff, ← List.contains_iff_mem,
      Bool.not_eq_true]
    constructor
    · rintro ⟨h1, h2, h3, h4⟩
      refine ⟨h2, ⟨h1, h4⟩, ?_⟩
      cases h : (serFlags vars).any id
      · exact Or.inl rfl
      · exact Or.inr (h3 h)
    · rintro ⟨h2, ⟨h1, h4⟩, h3⟩
      refine ⟨h1, h2, fun h => ?_, h4⟩
      rcases h3 with h3 | h3
      · rw [h] at h3; cases h3
      · exact h3

/-- with snake-casing on no parameter begins with an underscore: the capture region C18-F12 is empty
    there (`$query` + `$_query` is then the duplicate parameter of C18-F1 instead) -/
theorem capture_needs_snake_off (vars : List Var) (hg : ∀ v ∈ vars, GName v.name) :
    trigQueryCapture true vars = false := by
  have key : ('_' :: queryLocal) ∉ docParams true vars := by
    intro hm
    simp only [docParams, paramOf, List.mem_map] at hm
    obtain ⟨v, hv, e⟩ := hm
    have hgv := hg v hv
    have e' : processName (variableCfg true) v.name = '_' :: queryLocal := e
    cases hu : allUnderscore v.name
    · rw [processName_snake _ v.name rfl hu] at e'
      rcases snake_head v.name with ⟨_, h2⟩ | ⟨a, as, r, h1, h2⟩
      · rw [h2, suffix_nil] at e'; exact absurd e' (by simp)
      · have hne : lowerChar a ≠ '_' := ne_underscore_of_cls (cls_lowerChar_ne_O (cls_head_alnum h1))
        obtain ⟨r', hr'⟩ := suffix_head (variableCfg true) (lowerChar a) r
        rw [h2, hr'] at e'
        injection e' with e1 _
        exact hne e1
    · rw [processName_snake_allU _ v.name rfl hu] at e'
      revert e'
      decide +kernel
  cases h : trigQueryCapture true vars
  · rfl
  · simp only [trigQueryCapture, Bool.and_eq_true, List.contains_iff_mem] at h
    exact absurd h.2 key

/-- `method_reads_bound`: every name the emitted method body READS is bound when it is read - a parameter, a
    helper local assigned earlier, or a module global - for EVERY variable list, flag combination and method
    kind, inside the finding regions too: the dict values read the parameters (`dictReads = docParams`:
    `_get_dict_value` is given the processed name, with and without a serialize call), the helper locals are
    read after their assignment.  So a call never raises NameError. -/
theorem method_reads_bound (sn sub : Bool) (ret : Name) (vars : List Var) (n : Name) :
    dictReads sn vars = docParams sn vars ∧ runMethod sn sub ret vars ≠ .error (.nameError n) := by
  refine ⟨rfl, ?_⟩
  unfold runMethod
  split
  · exact runBody_no_nameError sub _ ret _ _ _ _ (fun p hp => hp) n
  · intro h; exact absurd h (by simp)

/-- `method_exact` from right to left: outside the finding regions the method is lawful -/
theorem method_partial (sn sub : Bool) (ret : Name) (vars : List Var)
    (hg : ∀ v ∈ vars, GName v.name) (hnd : (vars.map (·.name)).Nodup) (hret : ret ∉ fixedMethodNames)
    (hs : Supported_18m sn ret vars) : MethodLawful sn sub ret vars :=
  (method_exact sn sub ret vars hg hnd hret).mpr hs

/-- the method scope at full strength: every operation with distinct GraphQL variable names gets a lawful method -/
def Method_full : Prop :=
  ∀ (sn sub : Bool) (opName : Name) (vars : List Var),
    (∀ v ∈ vars, GName v.name) → (vars.map (·.name)).Nodup → MethodLawful sn sub (pascal opName) vars

/-- `Method_full_false`: nothing refuses `$self`, and the method does not compile -/
theorem Method_full_false : ¬ Method_full := by
  intro h
  have w : (∀ v ∈ ([⟨"self".toList, false, false⟩] : List Var), GName v.name) ∧
      (([⟨"self".toList, false, false⟩] : List Var).map (·.name)).Nodup ∧
      defCompiles false [⟨"self".toList, false, false⟩] = false := by decide +kernel
  have hl := h false false "Q".toList _ w.1 w.2.1
  rw [MethodLawful, runMethod_of_not_compiles _ _ _ _ w.2.2] at hl
  cases hl

/-- the four method-scope findings on the model, evaluated: what the generated method does -/
theorem method_witnesses :
    -- C18-F10: `$self` / (snake) `$Self`: duplicate argument
    runMethod false false "Q".toList [⟨"self".toList, false, false⟩] = .error .syntaxError ∧
    runMethod true false "Q".toList [⟨"x".toList, true, false⟩, ⟨"Self".toList, false, false⟩] = .error .syntaxError ∧
    -- C18-F11: `$kwargs` / (snake) `$_kwargs`
    runMethod false false "Q".toList [⟨"kwargs".toList, false, false⟩] = .error .syntaxError ∧
    runMethod true true "Q".toList [⟨"_kwargs".toList, false, false⟩, ⟨"x".toList, false, false⟩] = .error .syntaxError ∧
    -- C18-F12: `$query` + `$_query`, snake off: the operation text is sent as the value of `$_query`
    runMethod false false "Q".toList [⟨"query".toList, false, false⟩, ⟨"_query".toList, false, false⟩] =
      .ok ⟨.text, .dict ["query".toList, "_query".toList] [.arg 0, .text],
           .parsed (.data (.resp .text (.dict ["query".toList, "_query".toList] [.arg 0, .text])))⟩ ∧
    -- C18-F13: `$gql` (snake: `$Gql`) is called instead of the module function; `$Q` in `query Q` (snake off) hides the result class
    runMethod true true "Q".toList [⟨"Gql".toList, true, false⟩] = .error (.notCallable gqlName) ∧
    runMethod false false "Q".toList [⟨"Q".toList, true, false⟩] = .error (.noAttribute "Q".toList) ∧
    runMethod false false "Q".toList [⟨"serialize_dt".toList, true, true⟩] = .error (.notCallable serName) ∧
    -- a renamed variable of a custom scalar with a serialize function: the PARAMETER is what gets serialized
    runMethod true false "Q".toList [⟨"createdAfter".toList, true, true⟩, ⟨"class".toList, false, true⟩] =
      .ok ⟨.text, .dict ["createdAfter".toList, "class".toList] [.ser (.arg 0), .ser (.arg 1)],
           .parsed (.data (.resp .text (.dict ["createdAfter".toList, "class".toList] [.ser (.arg 0), .ser (.arg 1)])))⟩ :=
  ⟨rfl, rfl, rfl, rfl, rfl, rfl, rfl, rfl, rfl⟩

/-- The same for the method scope. -/
theorem evaluated_methods :
    (Supported_18m false "Q".toList [⟨"query".toList, false, false⟩, ⟨"variables".toList, true, false⟩] ∧
      Supported_18m false "Q".toList [⟨"response".toList, false, false⟩, ⟨"_response".toList, false, false⟩, ⟨"data".toList, false, false⟩, ⟨"_data".toList, false, false⟩] ∧
      Supported_18m true "Q".toList [⟨"_query".toList, false, false⟩, ⟨"Data".toList, false, false⟩] ∧
      Supported_18m false "Q".toList [⟨"Self".toList, false, false⟩, ⟨"_kwargs".toList, false, false⟩, ⟨"Gql".toList, false, false⟩]) ∧
    ((∀ v ∈ ([⟨"query".toList, false, false⟩, ⟨"userId".toList, true, false⟩] : List Var), GName v.name) ∧
      (([⟨"query".toList, false, false⟩, ⟨"userId".toList, true, false⟩] : List Var).map (·.name)).Nodup ∧
      pascal "getUser".toList ∉ fixedMethodNames ∧
      Supported_18m true (pascal "getUser".toList) [⟨"query".toList, false, false⟩, ⟨"userId".toList, true, false⟩]) := by
  decide +kernel

/-- the neighbours that work: `$query` alone is renamed around; `$response`+`$_response` is harmless
    (the helper is bound only after the dict was built); with snake-casing `$_query` alone is just `query` -/
theorem method_neighbours :
    Supported_18m false "Q".toList [⟨"query".toList, false, false⟩, ⟨"variables".toList, true, false⟩] ∧
    Supported_18m false "Q".toList [⟨"response".toList, false, false⟩, ⟨"_response".toList, false, false⟩, ⟨"data".toList, false, false⟩, ⟨"_data".toList, false, false⟩] ∧
    Supported_18m true "Q".toList [⟨"_query".toList, false, false⟩, ⟨"Data".toList, false, false⟩] ∧
    Supported_18m false "Q".toList [⟨"Self".toList, false, false⟩, ⟨"_kwargs".toList, false, false⟩, ⟨"Gql".toList, false, false⟩] := evaluated_methods.1

/-- non-vacuity of `method_exact` / `method_partial` -/
example : (∀ v ∈ ([⟨"query".toList, false, false⟩, ⟨"userId".toList, true, false⟩] : List Var), GName v.name) ∧
    (([⟨"query".toList, false, false⟩, ⟨"userId".toList, true, false⟩] : List Var).map (·.name)).Nodup ∧
    pascal "getUser".toList ∉ fixedMethodNames ∧
    Supported_18m true (pascal "getUser".toList) [⟨"query".toList, false, false⟩, ⟨"userId".toList, true, false⟩] := evaluated_methods.2

end MethodScope

/-! ## 12. The scope of a result class fed by several selection sources

  One class gets its fields from the selection set itself, from inline fragments and from unpacked
  fragment spreads (`_resolve_selection_set`); fragments used as base classes contribute by inheritance. -/

section ClassScope
open Ariadne.NameScopes

/-- `class_rows`: the class declares one attribute per resolved field node, in order, nothing
    de-duplicated - whatever source the node came from - and the fragments not unpacked become bases. -/
theorem class_rows (sn : Bool) (e : TypeEnv) (root : Name) (addT : Bool) (sels : List Sel) (items : List Item)
    (h : resolveSels e root sels = .ok items) :
    classOf sn e root addT sels =
      .ok ⟨(classKeys addT items).map (emit sn .resultField), (itemBases items).eraseDups.map pascal⟩ := by
  simp [classOf, h]

/-- every attribute of the class travels under the response key of its field node -/
theorem class_wire_kept (sn : Bool) (keys : List Name) :
    (keys.map (emit sn .resultField)).map (·.wire) = keys := by
  induction keys with
  | nil => rfl
  | cons k ks ih => simp only [List.map_cons, wire_name_kept, ih]

/-- `class_rows_distinct`: two different response keys of one class get different attributes ⇔
    the pair lies in no merge region (C18-F1, F2, F3, F7, F8) - for keys from any mix of sources. -/
theorem class_rows_distinct (sn : Bool) (a b : Name) (ha : GName a) (hb : GName b) (hab : a ≠ b) :
    (emit sn .resultField a).py ≠ (emit sn .resultField b).py ↔ trigScopeMerge sn .resultField a b = false := by
  have h := scope_collision_iff sn .resultField a b ha hb
  have ea : (emit sn .resultField a).py = pyName sn .resultField a := rfl
  have eb : (emit sn .resultField b).py = pyName sn .resultField b := rfl
  rw [ea, eb]
  constructor
  · intro hne
    cases ht : trigScopeMerge sn .resultField a b
    · rfl
    · exact absurd (h.mpr (Or.inr ht)) hne
  · intro ht heq
    rcases h.mp heq with h1 | h1
    · exact hab h1
    · rw [ht] at h1; exact absurd h1 (by simp)

/-- `class_keys_eq_collect`: where the generator's type tests agree with GraphQL (`noDropSels`), the class
    together with the fragments it inherits from carries exactly the response keys GraphQL's
    CollectFields yields for an object of runtime type `T` - same keys, same order, same multiplicity. -/
theorem class_keys_eq_collect (e : TypeEnv) (T root : Name) (sels : List Sel)
    (h : noDropSels e T root sels = true) : effectiveSels e root sels = .ok (collectSels e T sels) :=
  effectiveSels_eq_collect e T root sels h

/-- `class_nothing_lost`: a class without base classes declares every collected key itself -/
theorem class_nothing_lost (e : TypeEnv) (T root : Name) (sels : List Sel) (items : List Item)
    (hres : resolveSels e root sels = .ok items) (hb : itemBases items = [])
    (h : noDropSels e T root sels = true) : itemKeys items = collectSels e T sels := by
  have h1 := effectiveSels_of_no_bases e root sels items hres hb
  have h2 := effectiveSels_eq_collect e T root sels h
  rw [h1] at h2
  exact Except.ok.inj h2

/-- What the property demands of a result class, for an object of runtime type `T`: every response key
    GraphQL collects has an attribute that travels under it; attributes of different keys are different
    Python names; every attribute is a usable name. -/
def ClassLawful (sn : Bool) (e : TypeEnv) (T : Name) (sels : List Sel) (out : ClassOut) : Prop :=
  (∀ k ∈ collectSels e T sels, ∃ row ∈ out.rows, row.wire = k) ∧
  (∀ r1 ∈ out.rows, ∀ r2 ∈ out.rows, r1.wire ≠ r2.wire → r1.py ≠ r2.py) ∧
  (∀ r ∈ out.rows, OutOK (fieldCfg sn) r.py)

/-- `class_exact`: for selection trees of any shape and depth whose fragments are all unpacked (no
    base class) and in which nothing is dropped, the generated class is lawful ⇔ its response keys
    lie outside every finding region of the response-key scope.  In particular two response keys of
    one class - e.g. two aliases of ONE schema field, one of them inside an inline fragment - always
    get two attributes. -/
theorem class_exact (sn : Bool) (e : TypeEnv) (T root : Name) (sels : List Sel) (items : List Item) (out : ClassOut)
    (hres : resolveSels e root sels = .ok items) (hb : itemBases items = [])
    (hnd : noDropSels e T root sels = true) (hg : ∀ k ∈ itemKeys items, GName k)
    (hout : classOf sn e root false sels = .ok out) :
    ClassLawful sn e T sels out ↔ Supported_18 sn .resultField (itemKeys items) := by
  have hrows : out.rows = (itemKeys items).map (emit sn .resultField) := by
    rw [class_rows sn e root false sels items hres] at hout
    have := Except.ok.inj hout
    rw [← this]; simp [classKeys]
  have hcol := class_nothing_lost e T root sels items hres hb hnd
  have hmem : ∀ r, r ∈ out.rows ↔ ∃ k ∈ itemKeys items, emit sn .resultField k = r := by
    intro r; rw [hrows]; exact List.mem_map
  constructor
  · rintro ⟨_, h2, h3⟩
    refine ⟨fun n hn => ?_, fun a ha b hb' hab => ?_⟩
    · have := h3 _ ((hmem _).mpr ⟨n, hn, rfl⟩)
      exact (scope_valid_iff sn .resultField n (hg n hn)).mp this
    · have hne := h2 _ ((hmem _).mpr ⟨a, ha, rfl⟩) _ ((hmem _).mpr ⟨b, hb', rfl⟩)
        (by rw [wire_name_kept, wire_name_kept]; exact hab)
      exact (class_rows_distinct sn a b (hg a ha) (hg b hb') hab).mp hne
  · rintro ⟨h1, h2⟩
    refine ⟨fun k hk => ?_, fun r1 hr1 r2 hr2 hw => ?_, fun r hr => ?_⟩
    · rw [← hcol] at hk
      exact ⟨_, (hmem _).mpr ⟨k, hk, rfl⟩, wire_name_kept sn .resultField k⟩
    · obtain ⟨a, ha, rfl⟩ := (hmem _).mp hr1
      obtain ⟨b, hb', rfl⟩ := (hmem _).mp hr2
      rw [wire_name_kept, wire_name_kept] at hw
      exact (class_rows_distinct sn a b (hg a ha) (hg b hb') hw).mpr (h2 a ha b hb' hw)
    · obtain ⟨k, hk, rfl⟩ := (hmem _).mp hr
      exact (scope_valid_iff sn .resultField k (hg k hk)).mpr (h1 k hk)

/-- the selection of the seeded change, on the model: `small: avatar  ... on User { large: avatar }`
    gives two attributes; with `fooBar: avatar ... on User { foo_bar: avatar }` the two keys are merged (C18-F1) -/
def userEnv : TypeEnv :=
  ⟨[("User".toList, ["Node".toList]), ("Query".toList, [])], [("Node".toList, ["User".toList])], []⟩

/-- The same for the class scope and §13. -/
theorem evaluated_classes :
    ((classOf true userEnv "User".toList false
          [.field (some "small".toList) "avatar".toList,
           .inline "User".toList [.field (some "large".toList) "avatar".toList]]).toOption.map (·.rows.map (·.py))
        = some ["small".toList, "large".toList] ∧
      (classOf true userEnv "User".toList false
          [.field (some "fooBar".toList) "avatar".toList,
           .spread "F".toList "Node".toList [.field (some "foo_bar".toList) "avatar".toList]]).toOption.map (·.rows.map (·.py))
        = some ["foo_bar".toList, "foo_bar".toList] ∧
      noDropSels userEnv "User".toList "User".toList
          [.field (some "small".toList) "avatar".toList,
           .inline "User".toList [.field (some "large".toList) "avatar".toList],
           .spread "F".toList "Node".toList [.field (some "foo_bar".toList) "avatar".toList]] = true) ∧
    (processName ⟨false, true, true⟩ "json".toList = "json_".toList ∧ processName ⟨false, false, false⟩ "json".toList = "json".toList ∧
      processName ⟨false, true, true⟩ "__rank".toList = "rank".toList ∧ processName ⟨false, false, false⟩ "__rank".toList = "__rank".toList) := by
  decide +kernel

theorem class_witnesses :
    (classOf true userEnv "User".toList false
        [.field (some "small".toList) "avatar".toList,
         .inline "User".toList [.field (some "large".toList) "avatar".toList]]).toOption.map (·.rows.map (·.py))
      = some ["small".toList, "large".toList] ∧
    (classOf true userEnv "User".toList false
        [.field (some "fooBar".toList) "avatar".toList,
         .spread "F".toList "Node".toList [.field (some "foo_bar".toList) "avatar".toList]]).toOption.map (·.rows.map (·.py))
      = some ["foo_bar".toList, "foo_bar".toList] ∧
    noDropSels userEnv "User".toList "User".toList
        [.field (some "small".toList) "avatar".toList,
         .inline "User".toList [.field (some "large".toList) "avatar".toList],
         .spread "F".toList "Node".toList [.field (some "foo_bar".toList) "avatar".toList]] = true := evaluated_classes.1

end ClassScope

/-! ## 13. Determinism: a run is history-free

  "the mapping is deterministic": what a call returns depends on its flags and its name only - not on
  the calls made before it in the same process (other scopes, other flags), nor on their order. -/

/-- `process_history_free`: whatever was called before and after, the call at any position of a run
    returns what it returns alone. -/
theorem process_history_free (before after : List Call) (c : Call) :
    (runCalls (before ++ c :: after))[before.length]? = some (processName c.cfg c.name) := by
  simp [runCalls]

/-- ... in particular a call repeated later in the run (same flags, same name, anything in between) returns the same name -/
theorem process_repeatable (a b c' : List Call) (c : Call) :
    (runCalls (a ++ c :: b ++ c :: c'))[a.length]? = (runCalls (a ++ c :: b ++ c :: c'))[a.length + 1 + b.length]? := by
  have h1 := process_history_free a (b ++ c :: c') c
  have h2 := process_history_free (a ++ c :: b) c' c
  simp only [List.append_assoc, List.cons_append] at h1 h2 ⊢
  rw [h1]
  have : (a ++ c :: b).length = a.length + 1 + b.length := by simp; omega
  rw [this] at h2
  exact h2.symm

/-- `process_order_free`: re-ordering the calls of a run re-orders the answers and changes none -/
theorem process_order_free (l₁ l₂ : List Call) (h : l₁.Perm l₂) : (runCalls l₁).Perm (runCalls l₂) :=
  h.map _

/-- the flags matter (so a result must not be shared between calls that differ in flags only):
    `json` is suffixed for a pydantic field and left alone for a method parameter; `__rank` loses BOTH
    underscores as a field and none as a parameter -/
theorem flags_matter :
    processName ⟨false, true, true⟩ "json".toList = "json_".toList ∧ processName ⟨false, false, false⟩ "json".toList = "json".toList ∧
    processName ⟨false, true, true⟩ "__rank".toList = "rank".toList ∧ processName ⟨false, false, false⟩ "__rank".toList = "__rank".toList := evaluated_classes.2

end Ariadne.C18
