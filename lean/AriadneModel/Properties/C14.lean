/-
  C14 — The custom operation builder emits valid, faithful, history-free documents.

  Models:  Model/CustomGen.lean (schema ↦ generated builder classes), Model/Builder.lean (GraphQLField
  objects, the store of class-level objects, `to_ast`, `get_formatted_variables`, the client's
  assembly), Spec/BuilderDoc.lean (what an expression says, resolved documents, validator, triggers).
  Quantification: every schema IR, every history (list of operations), every operation (list of
  builder expressions of any size and depth), every store — no size bound anywhere.

  The property is FALSE on the pinned tree (four open findings about tree expressions, F1, F3, F4, F5; F2 - variables of fields
  nested deeper than two levels were never declared - was repaired by /repo commit dfbc7ef, and its old
  region now belongs to the theorem).  Hence:
    `C14_full`        the property at full strength,
    `C14_full_false`  refuted by the F1 witness; `C14_full_false_each`: a concrete witness per open finding (F1, F3, F4 twice, F5),
    `C14_F2_witness_now_ok`  the old F2 witness satisfies the property (regression theorem);
                      `C14_F2_old_behaviour_violates`: the pre-repair `get_formatted_variables` does not,
    `C14_partial`     the property outside the finding triggers (`Supported_14`), narrowed by the explicitly
                      named `Proved_14` (the operation ITSELF applies no mutator to a class-level object; the
                      HISTORY is constrained by the F4 trigger alone, `history_free_outside_F4`); the region
                      between the two - an operation that applies alias/on to a class-level accessor it uses once -
                      is covered by correspondence and oracle only.
  Objects kept in python variables (Model/BuilderLet.lean): `rendering_changes_only_formatted`,
  `rerender_formatted_irrelevant`, `history_free_owned`, `history_free_owned_calls`, `runProg_conservative`;
  `C14_owned_full` is refuted by finding F6 (`owned_reuse_in_one_operation_undeclared`, `C14_owned_full_false`).
-/
import AriadneModel.Proofs.C14Total
import AriadneModel.Proofs.C14Old
import AriadneModel.Proofs.C14Prog
import AriadneModel.Proofs.C14Frame
import AriadneModel.Spec.BuilderLetDoc

namespace Ariadne.C14
open Ariadne Ariadne.Builder Ariadne.CustomGen Ariadne.BuilderDoc

/-! ## Must-tier theorems about the builder runtime (any package, any store, any tree) -/

/-- `var_names_unique`: whatever the tree (references to mutated class-level objects included), whatever
    the names already taken: the variables `to_ast` writes into the selection of one top-level field are
    pairwise distinct, none of them was taken before, and the used-names set grows by exactly them. -/
theorem var_names_unique (fuel idx : Nat) (st : Store) (used : List String) (n : Node)
    (s : Sel) (n' : Node) (st' : Store) (used' : List String)
    (h : toAst fuel idx st used n = .ok (s, n', st', used')) :
    (selVars s).Nodup ∧ (∀ v ∈ selVars s, v ∉ used) ∧ used' = used ++ selVars s := by
  obtain ⟨e, nd, dj⟩ := (toAst_ext idx fuel st used n s n' st' used' trivial h).1
  exact ⟨nd, dj, e⟩

example : ∃ s n' st' u', toAst 5 0 [] ["n_0"]
    (.obj { cls := "C", fieldName := "f", vars := [{ key := "n", ty := "Int", value := .num 1 0 }] }
      [.obj { cls := "C", fieldName := "g", vars := [{ key := "n", ty := "Int", value := .num 2 0 }] } [] []] [])
    = .ok (s, n', st', u') ∧ selVars s = ["n_0_1", "n_0_2"] := ⟨_, _, _, _, rfl, by decide +kernel⟩

/-- `none_omitted`: a generated accessor records exactly the arguments the caller passed a non-None value
    for — under the GraphQL argument name, with the recorded type and the caller's value; an argument left
    as None produces neither an argument nor (there being no entry) a variable. -/
theorem none_omitted (specs : List ArgSpec) (kw : List (String × J)) (vars : List Var)
    (h : bindArgs specs kw = .ok vars) :
    (∀ v ∈ vars, v.value ≠ .null) ∧
    (∀ v ∈ vars, ∃ s ∈ specs, v.key = s.key ∧ v.ty = s.ty ∧ lookupKw s.param kw = some v.value) ∧
    (∀ s ∈ specs, ∀ x, lookupKw s.param kw = some x → x ≠ .null →
        ∃ v ∈ vars, v.key = s.key ∧ v.ty = s.ty ∧ v.value = x) :=
  bindArgs_none_omitted h

example : bindArgs [{ key := "first", ty := "Int", param := "first", required := false },
                    { key := "orderBy", ty := "Order!", param := "order_by", required := true }]
    [("order_by", .str "ASC"), ("first", .null)] = .ok [{ key := "orderBy", ty := "Order!", value := .str "ASC" }] := rfl

/-- `history_free` (expressions built from fresh objects only): a history none of whose operations applies
    `alias`/`on`/`fields` to a class-level object leaves no trace — whatever `E` is (even one that does
    mutate class-level objects), it produces after that history exactly what it produces in a fresh process. -/
theorem history_free (p : Package) (H : List Op) (E : Op)
    (hH : ∀ op ∈ H, opMutatesShared op = false) :
    (runOps p (H ++ [E])).getLast? = (runOps p [E]).getLast? := by
  obtain ⟨a, b⟩ := getLast_runOps p H E hH
  rw [a, b]

/-- the `while unique_name in used_names` loop always ends with a free name: `|used| + 1` pairwise distinct
    candidates cannot all be taken (the model's guard branch is unreachable) -/
theorem format_variable_name_total (idx : Nat) (name : String) (used : List String) :
    ∃ u used', formatVarName idx name used = .ok (u, used') := formatVarName_ok idx name used

/-- An operation that applies no mutator to a class-level object and is well-formed for the generated classes
    (`Intended` exists) sends a document after ANY history that never applied a mutator to a class-level accessor the
    operation names (the complement of the F4 trigger) - no RecursionError (the fuel covers every acyclic tree), no
    AttributeError/TypeError. -/
theorem sends_outside_F4 (p : Package) (H : List Op) (E : Op) (hE : opMutatesShared E = false)
    (hI : (Intended p E).isSome = true) (hT : trigSharedMut H E = false) :
    ∃ d, (runOps p (H ++ [E])).getLast? = some (.ok d) := by
  obtain ⟨d, hd⟩ := runOp_sends p E hE hI
  exact ⟨d, by rw [history_free_unmutated p H E hE hI hT]; simp [runOps, runOpsFrom, hd]⟩

/-- `fresh_never_raises`: in a process whose class-level objects are untouched, an operation that applies no
    mutator to them and that is well-formed for the generated classes (`Intended` exists) always sends a
    document — no RecursionError (the fuel covers every acyclic tree), no AttributeError/TypeError. -/
theorem fresh_never_raises (p : Package) (H : List Op) (E : Op)
    (hH : ∀ op ∈ H, opMutatesShared op = false) (hE : opMutatesShared E = false)
    (hI : (Intended p E).isSome = true) : ∃ d, (runOps p (H ++ [E])).getLast? = some (.ok d) :=
  sends_outside_F4 p H E hE hI (trigSharedMut_of_noMut H E hH hE)

/-- `declared_once_and_bound` + the recorded type: one client call over a process whose class-level objects
    are untouched, a tree of ANY depth (fields, sub-fields, members of inline fragments, nested without bound)
    with no variable name shared between two top-level fields (¬F5): substituting (declared type, sent value)
    for every variable of the document gives back the tree of field objects — each field's name, alias, its
    non-None arguments with recorded type and the caller's value, its selections; every variable is used exactly
    once; the definitions are exactly the used variables; and the process is left as it was found.
    (Until dfbc7ef this needed "no argument below level 2": finding C14-F2, fixed.) -/
theorem declared_once_and_bound (st : Store) (hp : Pristine st) (ty nm : String) (nodes : List Node) (d : Doc) (st' : Store)
    (h : execOp ty nm st nodes = .ok (d, st')) (hclash : crossClash d.sels = false) :
    resolveDoc d = some (intendedList st nodes) ∧ (docVars d).Nodup ∧ d.varDefs.map (·.1) = docVars d ∧ st' = st := by
  obtain ⟨a, b, c, e, -, -⟩ := execOp_bound hp ty nm nodes d st' h hclash
  exact ⟨b, c, e, a⟩

/-- non-vacuity: an argument at level 4, inside an inline fragment, is declared and bound -/
example : ∃ d st', execOp "query" "Op" []
    [.obj { cls := "Q", fieldName := "search", vars := [{ key := "text", ty := "String", value := .str "a" }] } []
      [.mk "Dog" [.obj { cls := "D", fieldName := "owner" }
        [.obj { cls := "U", fieldName := "posts" }
          [.obj { cls := "P", fieldName := "title", vars := [{ key := "maxLen", ty := "Int", value := .num 3 0 }] } [] []] []] []]]]
    = .ok (d, st') ∧ crossClash d.sels = false ∧ d.varDefs = [("text_0", "String"), ("maxLen_0", "Int")] :=
  ⟨_, _, rfl, by decide +kernel, by decide +kernel⟩

/-- `sent_name_and_kind`: whatever the process state, whatever the expression - when `client.query(...)` /
    `client.mutation(...)` sends, the document is an operation of THAT kind under THAT name, and `execute` is handed the
    same name as `operation_name` and the collected values as `variables` (`Doc.request`). -/
theorem sent_name_and_kind (p : Package) (E : Op) (st : Store) (d : Doc) (h : (runOp p E st).1 = .ok d) :
    d.opType = E.opType ∧ d.name = E.name ∧ d.request.operationName = E.name ∧ d.request.variables = d.values :=
  runOp_name_kind p E st d h

example : ∃ d, (runOp (genPackage { types := [], query := none, mutation := none })
    { opType := "mutation", name := "M", fields := [] } []).1 = .ok d := ⟨_, rfl⟩

/-! ## The generators -/

/-- a type reference as GraphQL allows it: `!` never directly wraps `!` -/
def TRef.wf : TRef → Bool
  | .named _ => true
  | .list t => TRef.wf t
  | .nonNull (.nonNull _) => false
  | .nonNull t => TRef.wf t

/-- `declared_type_exact`: for a well-formed argument type without a list wrapper the string the generator records
    (`final.name` + `!` iff non-null) IS the exact GraphQL type. -/
theorem declared_type_exact (t : TRef) (hwf : TRef.wf t = true) (hl : t.hasList = false) :
    typeString t = t.render := by
  cases t with
  | named n => rfl
  | list t => simp [TRef.hasList] at hl
  | nonNull t =>
    cases t with
    | named n => rfl
    | list t => simp [TRef.hasList] at hl
    | nonNull t => simp [TRef.wf] at hwf

/-- … and for list types it never is (F1 is unavoidable for every list-typed argument): the recorded
    string has no bracket. -/
example : typeString (.nonNull (.list (.nonNull (.named "Order")))) = "Order!" ∧
    (TRef.nonNull (.list (.nonNull (.named "Order")))).render = "[Order!]!" := by decide +kernel

theorem argSpec_exact (a : ArgDef) (hwf : TRef.wf a.ty = true) (hl : a.ty.hasList = false) :
    (argSpec a).ty = (argSpec a).exactTy := declared_type_exact a.ty hwf hl

theorem fieldAccessor_method (s : Schema) (t : String) (f : FieldDef)
    (h : (fieldAccessor s t f).kind = .method) :
    (fieldAccessor s t f).fieldName = f.py ∧ (fieldAccessor s t f).gqlName = f.name := by
  unfold fieldAccessor at h ⊢
  simp only []
  split <;> simp_all <;> split <;> simp_all

theorem rootAccessor_name (s : Schema) (f : FieldDef) :
    (rootAccessor s f).fieldName = f.name ∧ (rootAccessor s f).gqlName = f.name ∧ (rootAccessor s f).kind = .method := by
  simp [rootAccessor]

/-! ## "Valid against the schema" -/

/-- the Spec validator accepts the document whenever the document, with variables substituted, is a non-empty
    well-typed selection on the schema's root type, every variable is used once and the definitions are
    exactly the used variables. -/
theorem valid_against_schema (s : Schema) (d : Doc) (rs : List RSel) (root : String)
    (hroot : rootType s d.opType = some root) (hres : resolveDoc d = some rs)
    (hne : rs.isEmpty = false) (hv : validRSels s root rs = true)
    (hnd : (docVars d).Nodup) (hdefs : d.varDefs.map (·.1) = docVars d) : validDoc s d = true :=
  valid_of_resolved s d rs root hroot hres hne hv hnd hdefs

/-! ## The property -/

/-- What C14 promises for the operation `E` sent after the history `H` (statement of properties.jsonl):
    a document is sent (no exception); with its variables substituted it is what the expression says —
    fields and arguments under their GraphQL names, every non-None argument present with the argument's exact
    GraphQL type and the caller's value, None arguments omitted; every used variable is declared exactly once
    and used once; the document is valid against the schema; and it is the document the same expression
    produces in a fresh process. -/
structure GoodDoc (s : Schema) (H : List Op) (E : Op) (doc : Doc) : Prop where
  sent : (runOps (genPackage s) (H ++ [E])).getLast? = some (.ok doc)
  faithful : resolveDoc doc = Intended (genPackage s) E
  usedOnce : (docVars doc).Nodup
  declaredOnce : doc.varDefs.map (·.1) = docVars doc
  valid : validDoc s doc = true
  historyFree : (runOps (genPackage s) [E]).getLast? = some (.ok doc)

def GoodAfter (s : Schema) (H : List Op) (E : Op) : Prop := ∃ doc, GoodDoc s H E doc

/-- every operation of the history and the operation itself is a well-typed selection written with the
    generated classes -/
def ValidInput (s : Schema) (H : List Op) (E : Op) : Prop :=
  ∀ op ∈ H ++ [E], ValidExpr s (genPackage s) op = true

def C14_full : Prop := ∀ (s : Schema) (H : List Op) (E : Op), ValidInput s H E → GoodAfter s H E

/-- outside every finding trigger (one decidable predicate per OPEN finding of findings.d/C14.json about tree expressions -
    F6, about objects kept in variables, has `trigOwnedReuse`; the region of the fixed finding F2,
    `trigDeepList 1 E.fields`, is not excluded: it belongs to the theorem) -/
def Supported_14 (s : Schema) (H : List Op) (E : Op) : Prop :=
  ¬ (trigListArgList (genPackage s) E.fields = true            -- F1 listArg
     ∨ trigPyNameList (genPackage s) E.fields = true            -- F3 pyName
     ∨ trigSharedMut H E = true                                 -- F4 sharedMut
     ∨ trigClash ((runOps (genPackage s) (H ++ [E])).getLast?.getD (.error .recursion)) = true)  -- F5 nameClash

/-- `history_free_outside_F4`: HISTORY-FREEDOM on the whole complement of the F4 trigger (history part).  An operation
    that applies no mutator to a class-level object itself and is well-formed sends, after ANY history that never
    applied `alias`/`fields`/`on` to a class-level accessor the operation names, exactly what it sends in a fresh
    process - whatever that history did to OTHER class-level objects (aliases, inline fragments, cycles), whatever
    it raised.  (`history_free`: any operation, after a history without any mutator.) -/
theorem history_free_outside_F4 (p : Package) (H : List Op) (E : Op) (hE : opMutatesShared E = false)
    (hI : (Intended p E).isSome = true) (hT : trigSharedMut H E = false) :
    (runOps p (H ++ [E])).getLast? = (runOps p [E]).getLast? :=
  history_free_unmutated p H E hE hI hT

/-- the narrowing in force: the operation ITSELF applies no mutator to a class-level object (the history is
    constrained by the F4 trigger alone, `history_free_outside_F4`).  What is left between `Supported_14` and the theorem:
    operations that apply `alias`/`on` to a class-level accessor which they use exactly once and which no earlier
    operation mutated - covered by correspondence and oracle only. -/
def Proved_14 (E : Op) : Prop := opMutatesShared E = false

/-- `Proved_14` lies inside the complement of the F4 trigger as far as the operation itself is concerned -/
theorem proved_within_supported (E : Op) (h : Proved_14 E) : trigSharedMut [] E = false :=
  trigSharedMut_of_noMut [] E (by simp) h

theorem C14_partial (s : Schema) (H : List Op) (E : Op)
    (hvalid : ValidExpr s (genPackage s) E = true) (hsup : Supported_14 s H E) (hpr : Proved_14 E) :
    GoodAfter s H E := by
  have hI : (Intended (genPackage s) E).isSome = true := by
    unfold ValidExpr at hvalid
    split at hvalid
    · rename_i root rs hroot hint; simp [hint]
    · simp at hvalid
  unfold Supported_14 at hsup
  simp only [not_or, Bool.not_eq_true] at hsup
  obtain ⟨h1, h3, h4, h5⟩ := hsup
  have hfree := history_free_outside_F4 (genPackage s) H E hpr hI h4
  obtain ⟨d, hd⟩ := fresh_never_raises (genPackage s) [] E (by simp) hpr hI
  simp only [List.nil_append] at hd
  rw [hfree, hd] at h5
  simp only [Option.getD_some, trigClash] at h5
  obtain ⟨g1, g2, g3, g4, g5, g6, g7⟩ :=
    op_good (genPackage s) [] E d (genPackage_sharedExact s) (by simp) hpr h1 h3 (by simpa using hd) h5
  refine ⟨d, by rw [hfree, hd], g1, g3, g4, ?_, g7⟩
  unfold ValidExpr at hvalid
  rw [← g5] at hvalid
  split at hvalid
  · rename_i root rs hroot hint
    simp only [Bool.and_eq_true, Bool.not_eq_true'] at hvalid
    exact valid_of_resolved s d rs root hroot (by rw [g1, hint]) hvalid.1 hvalid.2 g3 g4
  · simp at hvalid

/-! ## Witnesses: one schema, one operation per finding (open or fixed) -/

namespace W

def nn (n : String) : TRef := .nonNull (.named n)
def idF : FieldDef := { name := "id", py := "id", opPy := "id", ty := nn "ID", args := [] }

def schema : Schema :=
  { types := [
      { name := "String", kind := .scalar }, { name := "Int", kind := .scalar }, { name := "ID", kind := .scalar },
      { name := "Order", kind := .enum },
      { name := "User", kind := .object, fields := [
          idF,
          { name := "bestFriend", py := "best_friend", opPy := "best_friend", ty := .named "User", args := [] },
          { name := "posts", py := "posts", opPy := "posts", ty := .list (.named "Post"),
            args := [{ name := "tags", py := "tags", ty := .list (nn "String") }] },
          { name := "pet", py := "pet", opPy := "pet", ty := .named "Pet", args := [] }] },
      { name := "Post", kind := .object, fields := [
          idF, { name := "title", py := "title", opPy := "title", ty := .named "String",
                 args := [{ name := "maxLen", py := "max_len", ty := .named "Int" }] }] },
      { name := "Dog", kind := .object, fields := [
          idF, { name := "name", py := "name", opPy := "name", ty := .named "String", args := [] },
          { name := "owner", py := "owner", opPy := "owner", ty := .named "User", args := [] }] },
      { name := "Cat", kind := .object, fields := [
          idF, { name := "name", py := "name", opPy := "name", ty := .named "String", args := [] }] },
      { name := "Pet", kind := .union, members := ["Dog", "Cat"] },
      { name := "Item", kind := .object, fields := [
          idF, { name := "part", py := "part", opPy := "part", ty := .named "String",
                 args := [{ name := "n", py := "n", ty := .named "Int" }] }] },
      { name := "Query", kind := .object, fields := [
          { name := "me", py := "me", opPy := "me", ty := .named "User", args := [] },
          { name := "users", py := "users", opPy := "users", ty := .nonNull (.list (nn "User")),
            args := [{ name := "orderBy", py := "order_by", ty := .nonNull (.list (nn "Order")) },
                     { name := "tags", py := "tags", ty := .list (nn "String") }] },
          { name := "a", py := "a", opPy := "a", ty := .named "Item", args := [] },
          { name := "b", py := "b", opPy := "b", ty := .named "Item",
            args := [{ name := "n_0", py := "n_0", ty := .named "String" }] },
          { name := "search", py := "search", opPy := "search", ty := .named "Pet",
            args := [{ name := "text", py := "text", ty := .named "String" }] }] }],
    query := some "Query", mutation := none }

def uid : Expr := .attr "UserFields" "id"
def me (cs : List Expr) : Expr := .fields (.call "Query" "me" []) cs
def q (name : String) (fs : List Expr) : Op := { opType := "query", name := name, fields := fs }

/-- F1  `Query.users(order_by=["ASC"], tags=["x"]).fields(UserFields.id)` -/
def opF1 : Op := q "Op" [.fields (.call "Query" "users" [("order_by", .arr [.str "ASC"]), ("tags", .arr [.str "x"])]) [uid]]
/-- F2 (fixed)  `Query.me().fields(UserFields.posts().fields(PostFields.title(max_len=3)))` -/
def opF2 : Op := q "Op" [me [.fields (.call "UserFields" "posts" []) [.call "PostFields" "title" [("max_len", .num 3 0)]]]]
/-- F3  `Query.me().fields(UserFields.best_friend().fields(UserFields.id))` -/
def opF3 : Op := q "Op" [me [.fields (.call "UserFields" "best_friend" []) [uid]]]
/-- F4  history `Query.me().fields(UserFields.id.alias("ident"))`, then `Query.me().fields(UserFields.id)` -/
def opF4h : Op := q "Op0" [me [.alias uid "ident"]]
def opF4 : Op := q "Op1" [me [uid]]
/-- F4' `UserFields.pet.on("Dog", DogFields.owner().fields(UserFields.pet.on("Cat", CatFields.name)))`: RecursionError -/
def opF4r : Op := q "Op" [me [.on (.attr "UserFields" "pet") "Dog"
  [.fields (.call "DogFields" "owner" []) [.on (.attr "UserFields" "pet") "Cat" [.attr "CatFields" "name"]]]]]
/-- F5  `Query.a().fields(part(n=1).alias("p"), part(n=2).alias("q")), Query.b(n_0="s").fields(ItemFields.id)` -/
def opF5 : Op := q "Op" [
  .fields (.call "Query" "a" []) [.alias (.call "ItemFields" "part" [("n", .num 1 0)]) "p",
                                  .alias (.call "ItemFields" "part" [("n", .num 2 0)]) "q"],
  .fields (.call "Query" "b" [("n_0", .str "s")]) [.attr "ItemFields" "id"]]

/-- the classes the generator makes for `schema`, written out: `fieldName := "best_friend"` beside `gqlName := "bestFriend"`
    is F3, `ty := "String"` beside `exactTy := "[String!]"` is F1.  Every evaluation below runs on this value; that it is
    what `genPackage` returns is checked once. -/
def pkg : Package :=
  { classes := [
    { name := "UserFields", accessors := [
        { attr := "id", kind := .shared, cls := "UserGraphQLField", fieldName := "id", args := [], gqlName := "id" },
        { attr := "best_friend", kind := .method, cls := "UserFields", fieldName := "best_friend", args := [], gqlName := "bestFriend" },
        { attr := "posts", kind := .method, cls := "PostFields", fieldName := "posts", args := [{ key := "tags", ty := "String", param := "tags", required := false, exactTy := "[String!]" }], gqlName := "posts" },
        { attr := "pet", kind := .shared, cls := "PetUnion", fieldName := "pet", args := [], gqlName := "pet" }],
      hasFields := true, hasOn := false, hasAlias := true },
    { name := "PostFields", accessors := [
        { attr := "id", kind := .shared, cls := "PostGraphQLField", fieldName := "id", args := [], gqlName := "id" },
        { attr := "title", kind := .method, cls := "PostGraphQLField", fieldName := "title", args := [{ key := "maxLen", ty := "Int", param := "max_len", required := false, exactTy := "Int" }], gqlName := "title" }],
      hasFields := true, hasOn := false, hasAlias := true },
    { name := "DogFields", accessors := [
        { attr := "id", kind := .shared, cls := "DogGraphQLField", fieldName := "id", args := [], gqlName := "id" },
        { attr := "name", kind := .shared, cls := "DogGraphQLField", fieldName := "name", args := [], gqlName := "name" },
        { attr := "owner", kind := .method, cls := "UserFields", fieldName := "owner", args := [], gqlName := "owner" }],
      hasFields := true, hasOn := false, hasAlias := true },
    { name := "CatFields", accessors := [
        { attr := "id", kind := .shared, cls := "CatGraphQLField", fieldName := "id", args := [], gqlName := "id" },
        { attr := "name", kind := .shared, cls := "CatGraphQLField", fieldName := "name", args := [], gqlName := "name" }],
      hasFields := true, hasOn := false, hasAlias := true },
    { name := "ItemFields", accessors := [
        { attr := "id", kind := .shared, cls := "ItemGraphQLField", fieldName := "id", args := [], gqlName := "id" },
        { attr := "part", kind := .method, cls := "ItemGraphQLField", fieldName := "part", args := [{ key := "n", ty := "Int", param := "n", required := false, exactTy := "Int" }], gqlName := "part" }],
      hasFields := true, hasOn := false, hasAlias := true },
    { name := "UserGraphQLField", accessors := [],
      hasFields := false, hasOn := false, hasAlias := true },
    { name := "PostGraphQLField", accessors := [],
      hasFields := false, hasOn := false, hasAlias := true },
    { name := "DogGraphQLField", accessors := [],
      hasFields := false, hasOn := false, hasAlias := true },
    { name := "CatGraphQLField", accessors := [],
      hasFields := false, hasOn := false, hasAlias := true },
    { name := "PetUnion", accessors := [],
      hasFields := false, hasOn := true, hasAlias := true },
    { name := "ItemGraphQLField", accessors := [],
      hasFields := false, hasOn := false, hasAlias := true },
    { name := "GraphQLField", accessors := [],
      hasFields := false, hasOn := false, hasAlias := true },
    { name := "Query", accessors := [
        { attr := "me", kind := .method, cls := "UserFields", fieldName := "me", args := [], gqlName := "me" },
        { attr := "users", kind := .method, cls := "UserFields", fieldName := "users", args := [{ key := "orderBy", ty := "Order!", param := "order_by", required := true, exactTy := "[Order!]!" }, { key := "tags", ty := "String", param := "tags", required := false, exactTy := "[String!]" }], gqlName := "users" },
        { attr := "a", kind := .method, cls := "ItemFields", fieldName := "a", args := [], gqlName := "a" },
        { attr := "b", kind := .method, cls := "ItemFields", fieldName := "b", args := [{ key := "n_0", ty := "String", param := "n_0", required := false, exactTy := "String" }], gqlName := "b" },
        { attr := "search", kind := .method, cls := "PetUnion", fieldName := "search", args := [{ key := "text", ty := "String", param := "text", required := false, exactTy := "String" }], gqlName := "search" }],
      hasFields := false, hasOn := false, hasAlias := false }] }

deriving instance DecidableEq for ArgSpec, Accessor, ClassDef, Package

theorem pkg_eq : genPackage schema = pkg := by decide +kernel

def lastDoc (rs : List (Except Err Doc)) : Option Doc :=
  match rs.getLast? with
  | some (.ok d) => some d
  | _ => none

theorem lastDoc_of {rs : List (Except Err Doc)} {d : Doc} (h : rs.getLast? = some (.ok d)) : lastDoc rs = some d := by
  simp [lastDoc, h]

def sentText (H : List Op) (E : Op) : Option String := (lastDoc (runOps (genPackage schema) (H ++ [E]))).map showDoc
def resolvedText (H : List Op) (E : Op) : Option String :=
  ((lastDoc (runOps (genPackage schema) (H ++ [E]))).bind resolveDoc).map showRSels
def intendedText (E : Op) : Option String := (Intended (genPackage schema) E).map showRSels

theorem texts_agree {H : List Op} {E : Op} (g : GoodAfter schema H E) : resolvedText H E = intendedText E := by
  obtain ⟨d, g⟩ := g
  simp only [resolvedText, intendedText, lastDoc_of g.sent, Option.bind_some, g.faithful]

theorem texts_history {H : List Op} {E : Op} (g : GoodAfter schema H E) : sentText H E = sentText [] E := by
  obtain ⟨d, g⟩ := g
  simp only [sentText, lastDoc_of g.sent, List.nil_append, lastDoc_of g.historyFree]

/-- What the kernel evaluates on the witness operations, in one declaration (the kernel shares work only inside one declaration):
    per operation, what refutes the property on it and the trigger it is filed under.  The texts themselves are exhibited by the
    `example`s below, each evaluating its own. -/
theorem evaluated :
    (∀ op ∈ [opF1, opF2, opF3, opF4h, opF4, opF4r, opF5], ValidExpr schema (genPackage schema) op = true) ∧
    (resolvedText [] opF1 ≠ intendedText opF1 ∧ trigListArgList (genPackage schema) opF1.fields = true) ∧
    (resolvedText [] opF2 = intendedText opF2 ∧ trigDeepList 1 opF2.fields = true) ∧
    (resolvedText [] opF3 ≠ intendedText opF3 ∧ trigPyNameList (genPackage schema) opF3.fields = true) ∧
    (sentText [opF4h] opF4 ≠ sentText [] opF4 ∧ trigSharedMut [opF4h] opF4 = true) ∧
    (lastDoc (runOps (genPackage schema) ([] ++ [opF4r])) = none ∧ trigSharedMut [] opF4r = true) ∧
    (resolvedText [] opF5 ≠ intendedText opF5 ∧
      trigClash ((runOps (genPackage schema) [opF5]).getLast?.getD (.error .recursion)) = true) := by
  simp only [resolvedText, intendedText, sentText, pkg_eq]; decide +kernel

theorem witnesses_valid : ∀ op ∈ [opF1, opF2, opF3, opF4h, opF4, opF4r, opF5], ValidExpr schema (genPackage schema) op = true :=
  evaluated.1

/-- F1: `$orderBy_0: Order!` for `[Order!]!`, `$tags_0: String` for `[String!]` -/
theorem F1_witness : ¬ GoodAfter schema [] opF1 := fun g => absurd (texts_agree g) evaluated.2.1.1
example : resolvedText [] opF1 = some "users(orderBy: Order! = [\"ASC\",] tags: String = [\"x\",]) { id() } " := by rw [resolvedText, pkg_eq]; decide +kernel
example : intendedText opF1 = some "users(orderBy: [Order!]! = [\"ASC\",] tags: [String!] = [\"x\",]) { id() } " := by rw [intendedText, pkg_eq]; decide +kernel
example : trigListArgList (genPackage schema) opF1.fields = true := evaluated.2.1.2

/-- F2 (FIXED by dfbc7ef): `$maxLen_0`, used at depth 3, is declared and bound now -/
example : sentText [] opF2 = some "query Op($maxLen_0: Int) { me() { posts() { title(maxLen: $maxLen_0) } } } maxLen_0:3e-0," := by rw [sentText, pkg_eq]; decide +kernel
example : resolvedText [] opF2 = intendedText opF2 := evaluated.2.2.1.1
/-- the old trigger predicate still recognises the input (the harness uses it to MEASURE how many generated
    operations lie in the region the theorem gained) -/
example : trigDeepList 1 opF2.fields = true := evaluated.2.2.1.2

/-- … whereas the code before the repair sent a document that uses `$maxLen_0` without declaring it:
    it does not even resolve -/
example : (Old.freshDoc (genPackage schema) opF2).map showDoc
    = some "query Op() { me() { posts() { title(maxLen: $maxLen_0) } } } " := by rw [pkg_eq]; decide +kernel

/-- F3: `best_friend` instead of `bestFriend` -/
theorem F3_witness : ¬ GoodAfter schema [] opF3 := fun g => absurd (texts_agree g) evaluated.2.2.2.1.1
example : resolvedText [] opF3 = some "me() { best_friend() { id() } } " := by rw [resolvedText, pkg_eq]; decide +kernel
example : intendedText opF3 = some "me() { bestFriend() { id() } } " := by rw [intendedText, pkg_eq]; decide +kernel
example : trigPyNameList (genPackage schema) opF3.fields = true := evaluated.2.2.2.1.2

/-- F4: the alias given to the class-level `UserFields.id` in an earlier operation is still there -/
theorem F4_witness : ¬ GoodAfter schema [opF4h] opF4 := fun g => absurd (texts_history g) evaluated.2.2.2.2.1.1
example : sentText [opF4h] opF4 = some "query Op1() { me() { ident: id() } } " := by rw [sentText, pkg_eq]; decide +kernel
example : sentText [] opF4 = some "query Op1() { me() { id() } } " := by rw [sentText, pkg_eq]; decide +kernel
example : trigSharedMut [opF4h] opF4 = true := evaluated.2.2.2.2.1.2

/-- F4': nesting the class-level union accessor inside itself: `to_ast` never returns (RecursionError) -/
theorem F4r_witness : ¬ GoodAfter schema [] opF4r := fun ⟨d, g⟩ => by
  have h := lastDoc_of g.sent
  have hn : lastDoc (runOps (genPackage schema) ([] ++ [opF4r])) = none := evaluated.2.2.2.2.2.1.1
  rw [hn] at h
  simp at h
example : trigSharedMut [] opF4r = true := evaluated.2.2.2.2.2.1.2

/-- F5: `n_0_1` is both the second `n` of field 0 and the `n_0` of field 1: declared once (String), bound once ("s") -/
theorem F5_witness : ¬ GoodAfter schema [] opF5 := fun g => absurd (texts_agree g) evaluated.2.2.2.2.2.2.1
example : sentText [] opF5 = some
    "query Op($n_0: Int $n_0_1: String) { a() { p: part(n: $n_0) q: part(n: $n_0_1) } b(n_0: $n_0_1) { id() } } n_0:1e-0,n_0_1:\"s\"," := by
  rw [sentText, pkg_eq]; decide +kernel
example : trigClash ((runOps (genPackage schema) [opF5]).getLast?.getD (.error .recursion)) = true := evaluated.2.2.2.2.2.2.2

end W

theorem C14_full_false : ¬ C14_full := by
  intro h
  refine W.F1_witness (h W.schema [] W.opF1 ?_)
  intro op hop
  simp only [List.nil_append, List.mem_singleton] at hop
  subst hop
  exact W.witnesses_valid _ (by simp)

/-- each open finding refutes the property on its own -/
theorem C14_full_false_each :
    (ValidInput W.schema [] W.opF1 ∧ ¬ GoodAfter W.schema [] W.opF1) ∧
    (ValidInput W.schema [] W.opF3 ∧ ¬ GoodAfter W.schema [] W.opF3) ∧
    (ValidInput W.schema [W.opF4h] W.opF4 ∧ ¬ GoodAfter W.schema [W.opF4h] W.opF4) ∧
    (ValidInput W.schema [] W.opF4r ∧ ¬ GoodAfter W.schema [] W.opF4r) ∧
    (ValidInput W.schema [] W.opF5 ∧ ¬ GoodAfter W.schema [] W.opF5) := by
  have v := W.witnesses_valid
  refine ⟨⟨?_, W.F1_witness⟩, ⟨?_, W.F3_witness⟩, ⟨?_, W.F4_witness⟩, ⟨?_, W.F4r_witness⟩, ⟨?_, W.F5_witness⟩⟩
  all_goals
    intro op hop
    simp only [List.nil_append, List.cons_append, List.mem_cons, List.not_mem_nil, or_false] at hop
    rcases hop with rfl | rfl <;> exact v _ (by simp)

/-! ## Regression theorems for the fixed finding F2 -/

/-- the old F2 witness (`Query.me().fields(UserFields.posts().fields(PostFields.title(max_len=3)))`, an argument
    at depth 3) now satisfies the property at full strength: it lies inside the region of `C14_partial` -/
theorem C14_F2_witness_now_ok : ValidInput W.schema [] W.opF2 ∧ GoodAfter W.schema [] W.opF2 := by
  refine ⟨?_, C14_partial W.schema [] W.opF2 (W.witnesses_valid _ (by simp)) (by unfold Supported_14; rw [W.pkg_eq]; decide +kernel) (by unfold Proved_14; decide +kernel)⟩
  intro op hop
  simp only [List.nil_append, List.mem_singleton] at hop
  subst hop
  exact W.witnesses_valid _ (by simp)

/-- the behaviour before dfbc7ef (`Proofs/C14Old.lean`: the recursive result of `get_formatted_variables`
    discarded) violates the property on that witness: the document it sends uses a variable that is neither
    declared nor bound, so it cannot be resolved to what the expression says.  A re-introduction of the defect
    therefore cannot go unnoticed by the correspondence (the model does not produce this document). -/
theorem C14_F2_old_behaviour_violates :
    ∃ d, Old.freshDoc (genPackage W.schema) W.opF2 = some d ∧ (resolveDoc d).isNone = true ∧
      (Intended (genPackage W.schema) W.opF2).isSome = true ∧ "maxLen_0" ∈ docVars d ∧ d.varDefs = [] := by
  have key : (Old.freshDoc (genPackage W.schema) W.opF2).map
      (fun d => ((resolveDoc d).isNone, (docVars d).contains "maxLen_0", d.varDefs)) = some (true, true, []) := by
    rw [W.pkg_eq]; decide +kernel
  cases h : Old.freshDoc (genPackage W.schema) W.opF2 with
  | none => rw [h] at key; simp at key
  | some d =>
    rw [h] at key
    simp only [Option.map_some, Option.some.injEq, Prod.mk.injEq] at key
    exact ⟨d, rfl, key.1, by rw [W.pkg_eq]; decide +kernel, by simpa using key.2.1, key.2.2⟩

/-! ## Non-vacuity of `C14_partial`: a non-trivial operation satisfying every hypothesis -/

namespace W
/-- `Query.me().fields(UserFields.id, UserFields.posts(tags=None).alias("p").fields(PostFields.id))`,
    `Query.b(n_0="s").alias("other").fields(ItemFields.part(n=1))`  after an unrelated earlier operation -/
def opOK : Op := q "Op" [
  me [uid, .fields (.alias (.call "UserFields" "posts" [("tags", .null)]) "p") [.attr "PostFields" "id"]],
  .fields (.alias (.call "Query" "b" [("n_0", .str "s")]) "other") [.call "ItemFields" "part" [("n", .num 1 0)]]]
def opHist : Op := q "Op0" [me [uid]]
/-- `Query.me().fields(UserFields.posts(tags=None).alias("p").fields(PostFields.id))`, `Query.b(n_0="s").fields(ItemFields.part(n=1))` -/
def opOK2 : Op := q "Op" [
  me [.fields (.alias (.call "UserFields" "posts" [("tags", .null)]) "p") [.attr "PostFields" "id"]],
  .fields (.call "Query" "b" [("n_0", .str "s")]) [.call "ItemFields" "part" [("n", .num 1 0)]]]
/-- inside the region gained by the repair: arguments at levels 3 and 4, below an inline fragment of a fresh
    union-typed object: `Query.search(text="a").on("Dog", DogFields.owner().fields(UserFields.posts()
    .fields(PostFields.title(max_len=3)), UserFields.id)).on("Cat", CatFields.name)`, `Query.me().fields(…title(max_len=4)…)` -/
def opDeep : Op := q "Op" [
  .on (.on (.call "Query" "search" [("text", .str "a")]) "Dog"
    [.fields (.call "DogFields" "owner" [])
      [.fields (.call "UserFields" "posts" []) [.call "PostFields" "title" [("max_len", .num 3 0)]], uid]])
    "Cat" [.attr "CatFields" "name"],
  me [.fields (.call "UserFields" "posts" []) [.alias (.call "PostFields" "title" [("max_len", .num 4 0)]) "t"]]]
end W

theorem W.opOK_valid : ValidExpr W.schema (genPackage W.schema) W.opOK = true := by rw [W.pkg_eq]; decide +kernel
theorem W.opOK_supported : Supported_14 W.schema [W.opHist] W.opOK := by unfold Supported_14; rw [W.pkg_eq]; decide +kernel
theorem W.opOK_proved : Proved_14 W.opOK := by unfold Proved_14; decide +kernel

example : ValidExpr W.schema (genPackage W.schema) W.opOK = true := W.opOK_valid
example : Supported_14 W.schema [W.opHist] W.opOK := W.opOK_supported
example : Proved_14 W.opOK := W.opOK_proved
example : W.sentText [W.opHist] W.opOK = some
    "query Op($n_0_1: String $n_1: Int) { me() { id() p: posts() { id() } } other: b(n_0: $n_0_1) { part(n: $n_1) } } n_0_1:\"s\",n_1:1e-0," := by
  rw [W.sentText, W.pkg_eq]; decide +kernel
/-- … so `C14_partial` applies to it: -/
example : GoodAfter W.schema [W.opHist] W.opOK :=
  C14_partial W.schema [W.opHist] W.opOK W.opOK_valid W.opOK_supported W.opOK_proved

/-- … and to an operation of the region the repair added (arguments at depth 3 and 4, inline fragments): -/
example : trigDeepList 1 W.opDeep.fields = true := by decide +kernel
example : W.sentText [W.opHist] W.opDeep = some
    "query Op($text_0: String $maxLen_0: Int $maxLen_1: Int) { search(text: $text_0) { ... on Dog { owner() { posts() { title(maxLen: $maxLen_0) } id() } } ... on Cat { name() } } me() { posts() { t: title(maxLen: $maxLen_1) } } } text_0:\"a\",maxLen_0:3e-0,maxLen_1:4e-0," := by
  rw [W.sentText, W.pkg_eq]; decide +kernel
example : GoodAfter W.schema [W.opHist] W.opDeep :=
  C14_partial W.schema [W.opHist] W.opDeep (by rw [W.pkg_eq]; decide +kernel) (by unfold Supported_14; rw [W.pkg_eq]; decide +kernel) (by unfold Proved_14; decide +kernel)

/-- … and after a history that DID mutate class-level objects - `UserFields.id.alias("ident")`, and the union accessor
    `UserFields.pet` nested inside itself (RecursionError) - none of which the operation names (it uses
    `PostFields.id`, `ItemFields.part`): the region where `history_free_outside_F4` is needed -/
example : opMutatesShared W.opF4h = true ∧ opMutatesShared W.opF4r = true := by decide +kernel
theorem W.opOK2_supported : Supported_14 W.schema [W.opF4h, W.opF4r] W.opOK2 := by unfold Supported_14; rw [W.pkg_eq]; decide +kernel

example : Supported_14 W.schema [W.opF4h, W.opF4r] W.opOK2 := W.opOK2_supported
example : GoodAfter W.schema [W.opF4h, W.opF4r] W.opOK2 :=
  C14_partial W.schema [W.opF4h, W.opF4r] W.opOK2 (by rw [W.pkg_eq]; decide +kernel) W.opOK2_supported (by unfold Proved_14; decide +kernel)

/-! ## Objects kept in python variables (Model/BuilderLet.lean, Spec/BuilderLetDoc.lean)

An object returned by a classmethod may be assigned to a variable and used again: it is then allocated in the
store, rendered once per use, and carries `formatted_variables` from one rendering to the next.
`eraseL` / `eraseN` (Proofs/C14Owned.lean) forget `formatted` in every object of a store / a node; two stores
with `eraseL st1 = eraseL st2` are two processes that agree up to `formatted_variables`. -/

/-- `rendering_changes_only_formatted`: one client call (`to_ast` of every argument, `get_formatted_variables`)
    changes nothing in the process but `formatted_variables` - whatever the store, whatever the arguments. -/
theorem rendering_changes_only_formatted (ty nm : String) (st : Store) (nodes : List Node) (d : Doc) (st' : Store)
    (h : execOp ty nm st nodes = .ok (d, st')) : eraseL st' = eraseL st := execOp_erase h

/-- `rerender_formatted_irrelevant`: one client call never READS the `formatted_variables` it finds
    (`_collect_all_variables` starts from `{}`; `get_formatted_variables` only visits objects the same call has
    just rendered).  Two processes / argument lists that agree up to `formatted` raise the same exception or send
    the SAME document (selections, definitions, values), and agree again up to `formatted` afterwards.
    Every store, every list of argument objects (shared, owned, cyclic ...), no bound. -/
theorem rerender_formatted_irrelevant (ty nm : String) (st1 st2 : Store) (ns1 ns2 : List Node)
    (hs : eraseL st1 = eraseL st2) (hn : eraseL ns1 = eraseL ns2) :
    (∃ e, execOp ty nm st1 ns1 = .error e ∧ execOp ty nm st2 ns2 = .error e) ∨
    (∃ d t1 t2, execOp ty nm st1 ns1 = .ok (d, t1) ∧ execOp ty nm st2 ns2 = .ok (d, t2) ∧ eraseL t1 = eraseL t2) :=
  execOp_formatted_irrelevant ty nm hs hn

namespace W
/-- `ItemFields.part(n=1)` as it sits in the store after having been rendered under top-level field 7 -/
def stalePart : Node :=
  .obj { cls := "ItemFields", fieldName := "part", vars := [{ key := "n", ty := "Int", value := .num 1 0 }],
         formatted := [{ uname := "n_7", key := "n", ty := "Int", value := .num 1 0 }] } [] []
def freshPart : Node :=
  .obj { cls := "ItemFields", fieldName := "part", vars := [{ key := "n", ty := "Int", value := .num 1 0 }] } [] []
def useZero : List Node := [.obj { cls := "ItemFields", fieldName := "a" } [.ref 0] []]
end W

/-- non-vacuity: a stale `$n_7` in the object does not show in the document -/
example : eraseL [W.stalePart] = eraseL [W.freshPart] := rfl
example : (match execOp "query" "Op" [W.stalePart] W.useZero with | .ok (d, _) => some (showDoc d) | .error _ => none)
    = some "query Op($n_0: Int) { a() { part(n: $n_0) } } n_0:1e-0," := by decide +kernel
example : (match execOp "query" "Op" [W.freshPart] W.useZero with | .ok (d, _) => some (showDoc d) | .error _ => none)
    = some "query Op($n_0: Int) { a() { part(n: $n_0) } } n_0:1e-0," := by decide +kernel

/-- `history_free_owned`: HISTORY-FREEDOM for programs with variables.  Whatever the earlier operations of the
    process SENT - re-using objects kept in variables at any position, any number of times -, as long as the
    ARGUMENTS of those client calls apply no `alias`/`fields`/`on` to an object that outlives the call (a class-level
    object or a variable; assignments may do what they like), the last operation gives exactly what it gives in a
    process that executed only the ASSIGNMENTS of the history and sent nothing.  Every package, every history, every
    operation; exceptions included. -/
theorem history_free_owned (p : Package) (H : List POp) (E : POp)
    (hH : ∀ op ∈ H, pMutatesList op.fields = false) :
    (runProg p (H ++ [E])).getLast? =
      some (runPOp p E (letsOnlyFrom p H [] p.initStore).1 (letsOnlyFrom p H [] p.initStore).2).1 :=
  runProgFrom_last p E H [] p.initStore p.initStore rfl hH

/-- … hence two histories with the same assignments are indistinguishable, whatever they sent -/
theorem history_free_owned_calls (p : Package) (H1 H2 : List POp) (E : POp)
    (h1 : ∀ op ∈ H1, pMutatesList op.fields = false) (h2 : ∀ op ∈ H2, pMutatesList op.fields = false)
    (hl : H1.map (·.lets) = H2.map (·.lets)) :
    (runProg p (H1 ++ [E])).getLast? = (runProg p (H2 ++ [E])).getLast? := by
  rw [history_free_owned p H1 E h1, history_free_owned p H2 E h2, letsOnlyFrom_congr p H1 H2 hl]

namespace W
def partCall : PExpr := .call "ItemFields" "part" [("n", .num 1 0)]
def pq (lets : List (String × PExpr)) (name : String) (fs : List PExpr) : POp :=
  { lets := lets, opType := "query", name := name, fields := fs }
/-- `part = ItemFields.part(n=1); client.query(Query.me().fields(UserFields.id), Query.a().fields(part))` ($n_1) -/
def popH : POp := pq [("part", partCall)] "Op0"
  [.fields (.call "Query" "me" []) [.attr "UserFields" "id"], .fields (.call "Query" "a" []) [.var "part"]]
/-- the same assignment, nothing rendered before: `client.query(Query.me().fields(UserFields.id))` -/
def popH' : POp := pq [("part", partCall)] "Op0" [.fields (.call "Query" "me" []) [.attr "UserFields" "id"]]
/-- `client.query(Query.a().fields(part))`: the same OBJECT, now under top-level field 0 ($n_0) -/
def popE : POp := pq [] "Op1" [.fields (.call "Query" "a" []) [.var "part"]]
def progText (P : List POp) : Option String := (lastDoc (runProg (genPackage schema) P)).map showDoc
/-- `part = ItemFields.part(n=1); client.query(Query.a().fields(part.alias("z")))` -/
def popMut : POp := pq [("part", partCall)] "Op0" [.fields (.call "Query" "a" []) [.alias (.var "part") "z"]]
/-- `part = ItemFields.part(n=1); z = part.alias("z"); client.query(Query.a().fields(part))` -/
def popLetMut : POp := pq [("part", partCall), ("z", .alias (.var "part") "z")] "Op0"
  [.fields (.call "Query" "a" []) [.var "part"]]
end W

/-- non-vacuity of `history_free_owned`: an object with an argument rendered as `$n_1` in the history, as `$n_0` after -/
example : ∀ op ∈ [W.popH], pMutatesList op.fields = false := by decide +kernel
example : W.progText [W.popH] = some
    "query Op0($n_1: Int) { me() { id() } a() { part(n: $n_1) } } n_1:1e-0," := by rw [W.progText, W.pkg_eq]; decide +kernel
example : W.progText ([W.popH] ++ [W.popE]) = some "query Op1($n_0: Int) { a() { part(n: $n_0) } } n_0:1e-0," := by rw [W.progText, W.pkg_eq]; decide +kernel
example : (runProg (genPackage W.schema) ([W.popH] ++ [W.popE])).getLast? =
    (runProg (genPackage W.schema) ([W.popH'] ++ [W.popE])).getLast? :=
  history_free_owned_calls _ _ _ _ (by decide +kernel) (by decide +kernel) rfl

/-- the hypothesis of `history_free_owned` is needed, and it is the only thing that is: a mutator applied through a
    variable INSIDE THE ARGUMENTS of a client call (`client.query(Query.a().fields(part.alias("z")))`) stays on the
    object, as on any python object; two histories with the same assignments then differ for the next operation.
    (Not a finding: the caller mutated an object it holds.  The same mutator written in an ASSIGNMENT -
    `part = ItemFields.part(n=1).alias("z")` - is covered by the theorem.) -/
example : pMutatesList W.popMut.fields = true ∧ W.popMut.lets = W.popH'.lets := ⟨by decide +kernel, rfl⟩
example : W.progText ([W.popMut] ++ [W.popE]) = some "query Op1($n_0: Int) { a() { z: part(n: $n_0) } } n_0:1e-0," := by rw [W.progText, W.pkg_eq]; decide +kernel
example : W.progText ([W.popH'] ++ [W.popE]) = some "query Op1($n_0: Int) { a() { part(n: $n_0) } } n_0:1e-0," := by rw [W.progText, W.pkg_eq]; decide +kernel
/-- … whereas in an assignment it is part of what the theorem keeps: -/
example : ∀ op ∈ [W.popLetMut], pMutatesList op.fields = false := by decide +kernel
example : W.progText ([W.popLetMut] ++ [W.popE]) = some "query Op1($n_0: Int) { a() { z: part(n: $n_0) } } n_0:1e-0," := by rw [W.progText, W.pkg_eq]; decide +kernel

/-- `runProg_conservative`: on programs without variables the model with variables IS the tree model
    (`Expr.toP` / `Op.toP`: a tree expression read as a program) -/
theorem runProg_conservative (p : Package) (ops : List Op) : runProg p (ops.map Op.toP) = runOps p ops :=
  runProgFrom_toP p ops [] p.initStore

/-- What C14 promises for the LAST operation of a program with variables, `E` being that operation written out with
    fresh objects (`inlineProg`): the program sends a document, and that document is good for `E` in a fresh process -
    in particular it IS the document `E` sends there ("depends only on the expression that built it"). -/
def GoodProg (s : Schema) (P : List POp) (E : Op) : Prop :=
  ∃ doc, (runProg (genPackage s) P).getLast? = some (.ok doc) ∧ GoodDoc s [] E doc

/-- the property for programs that keep objects in variables and use them again UNCHANGED (no `alias`/`fields`/`on`
    applied to a class-level object - that is F4, `C14_full` - or through a variable), every written-out operation
    being a well-typed selection -/
def C14_owned_full : Prop :=
  ∀ (s : Schema) (P : List POp) (ops : List Op) (E : Op),
    inlineProg P = some ops → ops.getLast? = some E →
    (∀ op ∈ ops, ValidExpr s (genPackage s) op = true) → (∀ op ∈ P, op.mutates = false) → GoodProg s P E

namespace W
/-- F6  `part = ItemFields.part(n=1); client.query(Query.a().alias("x").fields(part), Query.a().alias("y").fields(part))` -/
def progF6 : List POp := [pq [("part", partCall)] "Op"
  [.fields (.alias (.call "Query" "a" []) "x") [.var "part"], .fields (.alias (.call "Query" "a" []) "y") [.var "part"]]]
/-- the same operation with the variable written out: two fresh `ItemFields.part(n=1)` objects -/
def opF6 : Op := q "Op" [
  .fields (.alias (.call "Query" "a" []) "x") [.call "ItemFields" "part" [("n", .num 1 0)]],
  .fields (.alias (.call "Query" "a" []) "y") [.call "ItemFields" "part" [("n", .num 1 0)]]]
end W

example : inlineProg W.progF6 = some [W.opF6] := rfl
example : ValidExpr W.schema (genPackage W.schema) W.opF6 = true := by rw [W.pkg_eq]; decide +kernel
example : ∀ op ∈ W.progF6, op.mutates = false := by decide +kernel
example : ∀ op ∈ W.progF6, trigOwnedReuse [] op = true := by decide +kernel

/-- `owned_reuse_in_one_operation_undeclared` (finding C14-F6): the object of a variable, carrying an argument, used
    twice in ONE operation is rendered twice (`$n_0`, `$n_1`) but remembers only its last rendering: `$n_0` is used
    and neither declared nor sent - the document cannot be resolved (and is invalid: NoUndefinedVariables), whereas
    the written-out expression declares both. -/
theorem owned_reuse_in_one_operation_undeclared :
    ∃ d, (runProg (genPackage W.schema) W.progF6).getLast? = some (.ok d) ∧
      docVars d = ["n_0", "n_1"] ∧ d.varDefs = [("n_1", "Int")] ∧ (resolveDoc d).isNone = true ∧
      validDoc W.schema d = false ∧
      W.sentText [] W.opF6 = some
        "query Op($n_0: Int $n_1: Int) { x: a() { part(n: $n_0) } y: a() { part(n: $n_1) } } n_0:1e-0,n_1:1e-0," := by
  have key : (W.lastDoc (runProg (genPackage W.schema) W.progF6)).map
      (fun d => (docVars d, d.varDefs, (resolveDoc d).isNone, validDoc W.schema d)) =
      some (["n_0", "n_1"], [("n_1", "Int")], true, false) := by rw [W.pkg_eq]; decide +kernel
  unfold W.lastDoc at key
  split at key
  · rename_i d hd
    simp only [Option.map_some, Option.some.injEq, Prod.mk.injEq] at key
    exact ⟨d, hd, key.1, key.2.1, key.2.2.1, key.2.2.2, by rw [W.sentText, W.pkg_eq]; decide +kernel⟩
  · simp at key

example : W.progText W.progF6 = some
    "query Op($n_1: Int) { x: a() { part(n: $n_0) } y: a() { part(n: $n_1) } } n_1:1e-0," := by rw [W.progText, W.pkg_eq]; decide +kernel

theorem C14_owned_full_false : ¬ C14_owned_full := by
  intro h
  obtain ⟨doc, hsent, g⟩ := h W.schema W.progF6 [W.opF6] W.opF6 rfl rfl (by rw [W.pkg_eq]; decide +kernel) (by decide +kernel)
  have h1 : W.progText W.progF6 = some (showDoc doc) := by simp only [W.progText, W.lastDoc_of hsent, Option.map_some]
  have h2 : W.sentText [] W.opF6 = some (showDoc doc) := by
    simp only [W.sentText, List.nil_append, W.lastDoc_of g.historyFree, Option.map_some]
  have h3 : W.progText W.progF6 = W.sentText [] W.opF6 := h1.trans h2.symm
  exact absurd h3 (by rw [W.progText, W.sentText, W.pkg_eq]; decide +kernel)

end Ariadne.C14
