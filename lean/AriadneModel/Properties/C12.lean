/-
  C12 — Every HTTP response is classified into exactly one documented outcome.

  Models: Model/GetData.lean (`get_data`, `from_errors_dicts`, `from_dict`, the exception objects
  and their `str()`), Model/RawResponse.lean (`get_data` on status + raw body BYTES, over the JSON
  decoding reference Spec/PyJson.lean), Model/MethodTail.lean (the tail of the generated client
  method and of the generated subscription method over the names `get_variable_names` chose).

  Sections
    1. `get_data` on a decoded body (status : Nat, body : Option J, `none` = `response.json()` raised
       `ValueError`), under the property's hypothesis `SpecShaped`: the four iff's, `exactly_one_outcome`,
       and that nothing else escapes (`escape_only_outside_claim`).
    2. outside the hypothesis: exactly which shapes of `errors` escape as which exception
       (`internal_iff`).
    3. the decoding glue, on raw bytes: `C12_full` (false: `RecursionError` for deep nesting,
       finding C12-F1, trigger `decodeEscapes`), `C12_partial` outside the trigger, which byte
       bodies are "not JSON" (`raw_invalid_iff`, non-UTF-8, the integer digit limit).
    4. the exception objects: attributes carried, `str()`.
    5. the generated method: its outcome is `get_data`'s outcome, then validation of exactly the
       data `get_data` returned — for every parameter list (every renaming of the locals), every
       `get_data`, every validator, every scope.
  Quantification: every status code, every body (bytes or decoded), every recursion/digit limit of
  the interpreter, no bound on the size of the body, of the error list or of the parameter list.
-/
import AriadneModel.Model.GetData
import AriadneModel.Model.RawResponse
import AriadneModel.Model.MethodTail
import AriadneModel.Proofs.C12Decode
import AriadneModel.Proofs.GetData

namespace Ariadne.C12
open Ariadne Ariadne.GetData

/-- A spec-shaped error entry: an object carrying a `message`. -/
def ErrShaped : J → Prop
  | .obj kvs => (J.lookup "message" kvs).isSome
  | _ => False

/-- The hypothesis of the property: the `errors` member, *when present*, is a list of objects
    each carrying a message.  Nothing is assumed about status, `data`, or other members. -/
def SpecShaped (r : HttpResp) : Prop :=
  ∀ kvs e, r.body = some (.obj kvs) → J.lookup "errors" kvs = some e →
    ∃ es, e = .arr es ∧ ∀ x ∈ es, ErrShaped x

/-- The four documented outcomes as predicates on the result of `getData`. -/
def IsHttp (o : Outcome) : Prop := ∃ s, o = .http s
def IsInvalid (o : Outcome) : Prop := o = .invalid
def IsMulti (o : Outcome) : Prop := ∃ gs d, o = .multi gs d
def IsData (o : Outcome) : Prop := ∃ d, o = .data d

/-- What `from_dict` must produce for a shaped entry. -/
def errOf (kvs : List (String × J)) (m : J) : GqlErr :=
  { message := m, locations := J.getD "locations" kvs, path := J.getD "path" kvs,
    extensions := J.getD "extensions" kvs, original := .obj kvs }

theorem fromDict_shaped {e : J} (h : ErrShaped e) :
    ∃ kvs m, e = .obj kvs ∧ J.lookup "message" kvs = some m ∧ fromDict e = .ok (errOf kvs m) := by
  cases e <;> simp only [ErrShaped] at h
  case obj kvs =>
    obtain ⟨m, hm⟩ := Option.isSome_iff_exists.mp h
    exact ⟨kvs, m, rfl, hm, by simp [fromDict, hm, errOf]⟩

theorem fromDicts_shaped (es : List J) (h : ∀ x ∈ es, ErrShaped x) :
    ∃ gs, fromDicts es = .ok gs ∧ gs.length = es.length ∧
      ∀ i (hi : i < es.length), ∃ kvs m g, es[i] = .obj kvs ∧ J.lookup "message" kvs = some m ∧
        gs[i]? = some g ∧ g = errOf kvs m := by
  rw [fromDicts_eq_mapM]
  obtain ⟨gs, hgs⟩ := Lists.mapM_isOk_iff.mpr fun x hx => let ⟨_, _, _, _, hf⟩ := fromDict_shaped (h x hx); ⟨_, hf⟩
  -- item by item the results are what `from_dict` gives
  have hmap := Lists.mapM_ok_map (fun e => (fromDict e).toOption) some (fun _ _ hb => by rw [hb]; rfl) hgs
  refine ⟨gs, hgs, by simpa using (congrArg List.length hmap).symm, fun i hi => ?_⟩
  obtain ⟨kvs, m, he, hm, hf⟩ := fromDict_shaped (h _ (List.getElem_mem hi))
  refine ⟨kvs, m, _, he, hm, ?_, rfl⟩
  have := congrArg (·[i]?) hmap
  simpa [List.getElem?_map, List.getElem?_eq_getElem hi, hf, Except.toOption] using this.symm

/-- the exception `from_dict(entry)` dies with (`none`: the entry is spec-shaped):
    `entry["message"]` on a dict without the key is a `KeyError`, on anything that is not a dict
    (None, bool, number, str, list) a `TypeError` -/
def entryExc : J → Option String
  | .obj kvs => if (J.lookup "message" kvs).isSome then none else some "KeyError"
  | _ => some "TypeError"

/-- the list comprehension stops at the first entry `from_dict` cannot build -/
def firstBad : List J → Option String
  | [] => none
  | e :: es =>
    match entryExc e with
    | some x => some x
    | none => firstBad es

theorem entryExc_none_iff (e : J) : entryExc e = none ↔ ErrShaped e := by
  cases e <;> simp [entryExc, ErrShaped, Option.isSome_iff_ne_none]

theorem firstBad_eq_findSome : ∀ es : List J, firstBad es = es.findSome? entryExc
  | [] => rfl
  | e :: es => by rw [List.findSome?_cons, ← firstBad_eq_findSome es, firstBad]; cases entryExc e <;> rfl

theorem firstBad_none_iff (es : List J) : firstBad es = none ↔ ∀ x ∈ es, ErrShaped x := by
  simp only [firstBad_eq_findSome, List.findSome?_eq_none_iff, entryExc_none_iff]

theorem fromDict_entryExc (e : J) :
    (∃ g, fromDict e = .ok g ∧ entryExc e = none) ∨ (∃ x, fromDict e = .error x ∧ entryExc e = some x) := by
  cases e
  case obj kvs => rcases h : J.lookup "message" kvs with _ | m <;> simp [fromDict, entryExc, h]
  all_goals simp [fromDict, entryExc]

theorem fromDicts_error_iff (es : List J) (x : String) : fromDicts es = .error x ↔ firstBad es = some x := by
  rw [fromDicts_eq_mapM, Lists.mapM_eq_error_iff, firstBad_eq_findSome, List.findSome?_eq_some_iff]
  refine exists_congr fun pre => exists_congr fun e => exists_congr fun post => and_congr_right fun _ => ?_
  have hok : ∀ y, (∃ b, fromDict y = .ok b) ↔ entryExc y = none := fun y => by
    rcases fromDict_entryExc y with ⟨g, h1, h2⟩ | ⟨z, h1, h2⟩ <;> simp [h1, h2]
  have herr : fromDict e = .error x ↔ entryExc e = some x := by
    rcases fromDict_entryExc e with ⟨g, h1, h2⟩ | ⟨z, h1, h2⟩ <;> simp [h1, h2]
  simp only [hok, herr, and_comm]

/-- how a value of the `errors` member makes `from_errors_dicts` die: a list with a first
    non-shaped entry (that entry's exception), or any truthy non-list (`TypeError`: a str/dict
    iterates into strings, which `["message"]` cannot index; numbers/True are not iterable) -/
def EscapesAs (e : J) (x : String) : Prop :=
  (∃ es, e = .arr es ∧ firstBad es = some x) ∨ (e.isArr = false ∧ e.truthy = true ∧ x = "TypeError")

theorem EscapesAs.truthy {e : J} {x : String} (h : EscapesAs e x) : e.truthy = true := by
  rcases h with ⟨es, rfl, hb⟩ | ⟨_, ht, _⟩
  · cases es with
    | nil => simp [firstBad] at hb
    | cons a as => simp [J.truthy]
  · exact ht

theorem fromErrorsDicts_internal_iff (e d : J) (x : String) (ht : e.truthy = true) :
    fromErrorsDicts e d = .internal x ↔ EscapesAs e x := by
  cases e
  case arr es =>
    have hiff := fromDicts_error_iff es x
    cases hf : fromDicts es with
    | ok gs =>
      have : ¬ firstBad es = some x := fun h => by rw [hf] at hiff; simp at hiff; exact hiff h
      simp [fromErrorsDicts, hf, EscapesAs, J.isArr, this]
    | error y =>
      rw [hf] at hiff
      simp only [Except.error.injEq] at hiff
      simp [fromErrorsDicts, hf, EscapesAs, J.isArr, hiff]
  -- a truthy non-list is not iterable as a list of dicts: `TypeError`, whatever it is
  all_goals simp [fromErrorsDicts, EscapesAs, J.isArr, ht, eq_comm]

/-! ## 1. The four documented outcomes of `get_data`, for every response -/

/-- Shape of a body that is "not a JSON object or has neither data nor errors". -/
def BodyInvalid (b : Option J) : Prop :=
  match b with
  | none => True
  | some (.obj kvs) => J.lookup "data" kvs = none ∧ J.lookup "errors" kvs = none
  | some _ => True

/-- `get_data` as a decision table, one row per outcome.  The outcome is the index, so taking a `Row r o` apart at a
    given shape of `o` leaves only the rows that can produce it. -/
inductive Row (r : HttpResp) : Outcome → Prop
  | http (h : ¬ (200 ≤ r.status ∧ r.status ≤ 299)) : Row r (.http r.status)
  | invalid (h : 200 ≤ r.status ∧ r.status ≤ 299) (hb : BodyInvalid r.body) : Row r .invalid
  | data (h : 200 ≤ r.status ∧ r.status ≤ 299) (kvs) (hb : r.body = some (.obj kvs))
      (hne : J.lookup "data" kvs ≠ none ∨ J.lookup "errors" kvs ≠ none)
      (hf : (J.getD "errors" kvs).truthy = false) : Row r (.data (J.getD "data" kvs))
  | multi (h : 200 ≤ r.status ∧ r.status ≤ 299) (kvs e es gs) (hb : r.body = some (.obj kvs))
      (he : J.lookup "errors" kvs = some (.arr (e :: es))) (hgs : fromDicts (e :: es) = .ok gs) :
      Row r (.multi gs (J.getD "data" kvs))
  | internal (h : 200 ≤ r.status ∧ r.status ≤ 299) (kvs e x) (hb : r.body = some (.obj kvs))
      (he : J.lookup "errors" kvs = some e) (hx : EscapesAs e x) : Row r (.internal x)

theorem Row.sound {r : HttpResp} {o : Outcome} (hr : Row r o) : getData r = o := by
  have ok : ∀ {s : Nat}, (200 ≤ s ∧ s ≤ 299) → (decide (200 ≤ s) && decide (s ≤ 299)) = true := by
    intro s h; simp [h]
  cases hr with
  | http h =>
    have : (decide (200 ≤ r.status) && decide (r.status ≤ 299)) = false := by
      simp only [Bool.and_eq_false_iff, decide_eq_false_iff_not]; omega
    simp [getData, isSuccess, this]
  | invalid h hb =>
    rcases r with ⟨s, _ | b⟩
    · simp [getData, isSuccess, ok h]
    · cases b with
      | obj kvs => simp [getData, isSuccess, ok h, J.hasKey_of_none hb.1, J.hasKey_of_none hb.2]
      | _ => simp [getData, isSuccess, ok h]
  | data h kvs hb hne hf =>
    rcases hne with hne | hne <;> simp [getData, isSuccess, ok h, hb, J.hasKey, hf, hne]
  | multi h kvs e es gs hb he hgs =>
    simp [getData, isSuccess, ok h, hb, J.hasKey_of_some he, J.getD_of_some he, J.truthy, fromErrorsDicts, hgs]
  | internal h kvs e x hb he hx =>
    simp [getData, isSuccess, ok h, hb, J.hasKey_of_some he, J.getD_of_some he, hx.truthy,
      fromErrorsDicts_internal_iff e _ x hx.truthy, hx]

theorem Row.total (r : HttpResp) : ∃ o, Row r o := by
  by_cases h : 200 ≤ r.status ∧ r.status ≤ 299
  case neg => exact ⟨_, .http h⟩
  rcases hb : r.body with _ | b
  · exact ⟨_, .invalid h (by simp [hb, BodyInvalid])⟩
  cases b with
  | obj kvs =>
    rcases he : J.lookup "errors" kvs with _ | e
    · rcases hd : J.lookup "data" kvs with _ | d
      · exact ⟨_, .invalid h (by simp [hb, BodyInvalid, hd, he])⟩
      · exact ⟨_, .data h kvs hb (.inl (by simp [hd])) (by simp [J.getD_of_none he, J.truthy])⟩
    · by_cases ht : e.truthy = true
      · cases e with
        | arr es =>
          cases es with
          | nil => simp [J.truthy] at ht
          | cons a as =>
            cases hgs : fromDicts (a :: as) with
            | ok gs => exact ⟨_, .multi h kvs a as gs hb he hgs⟩
            | error x => exact ⟨_, .internal h kvs _ x hb he (.inl ⟨_, rfl, (fromDicts_error_iff _ _).mp hgs⟩)⟩
        | _ => exact ⟨_, .internal h kvs _ "TypeError" hb he (.inr ⟨rfl, ht, rfl⟩)⟩
      · exact ⟨_, .data h kvs hb (.inr (by simp [he])) (by simpa [J.getD_of_some he] using ht)⟩
  | _ => exact ⟨_, .invalid h (by simp [hb, BodyInvalid])⟩

/-- Each row is right and the rows cover every response; that no two rows apply at once is never needed: `getData` is a function. -/
theorem getData_iff (r : HttpResp) (o : Outcome) : getData r = o ↔ Row r o := by
  refine ⟨?_, Row.sound⟩
  rintro rfl
  obtain ⟨o, hr⟩ := Row.total r
  exact hr.sound ▸ hr

theorem falsy_shaped {r : HttpResp} (hs : SpecShaped r) {kvs} (hb : r.body = some (.obj kvs)) :
    (J.getD "errors" kvs).truthy = false ↔
      (J.lookup "errors" kvs = none ∨ J.lookup "errors" kvs = some (.arr [])) := by
  rcases he : J.lookup "errors" kvs with _ | e
  · simp [J.getD_of_none he, J.truthy]
  · obtain ⟨es, rfl, -⟩ := hs kvs e hb he
    cases es <;> simp [J.getD_of_some he, J.truthy]

/-- (1) A non-2xx status raises the HTTP error carrying the status — and nothing else does. -/
theorem http_error_iff (r : HttpResp) (s : Nat) :
    getData r = .http s ↔ (¬ (200 ≤ r.status ∧ r.status ≤ 299) ∧ s = r.status) := by
  rw [getData_iff]
  constructor
  · rintro ⟨h⟩; exact ⟨h, rfl⟩
  · rintro ⟨h, rfl⟩; exact .http h

/-- (2) Invalid-response error ⇔ success status and an invalid body. -/
theorem invalid_iff (r : HttpResp) :
    getData r = .invalid ↔ ((200 ≤ r.status ∧ r.status ≤ 299) ∧ BodyInvalid r.body) := by
  rw [getData_iff]
  exact ⟨fun | .invalid h hb => ⟨h, hb⟩, fun ⟨h, hb⟩ => .invalid h hb⟩

/-- (3) For a spec-shaped response, the multi-error is raised exactly when the status is 2xx and
    `errors` is a non-empty list.  (That it then carries *every* error — message, locations, path,
    extensions, original, in order — and the partial data, `null` when there is none, is `multi_carries_all`.) -/
theorem multi_error_iff (r : HttpResp) (hs : SpecShaped r) :
    IsMulti (getData r) ↔
      ((200 ≤ r.status ∧ r.status ≤ 299) ∧
        ∃ kvs e es, r.body = some (.obj kvs) ∧ J.lookup "errors" kvs = some (.arr (e :: es))) := by
  simp only [IsMulti, getData_iff]
  refine ⟨fun ⟨_, _, .multi h kvs e es _ hb he _⟩ => ⟨h, kvs, e, es, hb, he⟩, ?_⟩
  · rintro ⟨h, kvs, e, es, hb, he⟩
    obtain ⟨_, heq, hall⟩ := hs kvs _ hb he
    cases heq
    obtain ⟨gs, hgs, -⟩ := fromDicts_shaped _ hall
    exact ⟨gs, _, .multi h kvs e es gs hb he hgs⟩

theorem multi_carries_all (r : HttpResp) (hs : SpecShaped r) (gs : List GqlErr) (d : J)
    (h : getData r = .multi gs d) :
    ∃ kvs es, r.body = some (.obj kvs) ∧ J.lookup "errors" kvs = some (.arr es) ∧
      d = J.getD "data" kvs ∧ gs.length = es.length ∧
      ∀ i (_ : i < es.length), ∃ ekvs m g, es[i]? = some (.obj ekvs) ∧
        J.lookup "message" ekvs = some m ∧ gs[i]? = some g ∧ g = errOf ekvs m := by
  rw [getData_iff] at h
  cases h with
  | multi _ kvs e es _ hb he hgs =>
    obtain ⟨_, heq, hall⟩ := hs kvs _ hb he
    cases heq
    obtain ⟨gs', hgs', hlen, hidx⟩ := fromDicts_shaped (e :: es) hall
    rw [hgs] at hgs'
    cases hgs'
    refine ⟨kvs, e :: es, hb, he, rfl, hlen, ?_⟩
    intro i hi
    obtain ⟨ekvs, m, g, h1, h2, h3, h4⟩ := hidx i hi
    exact ⟨ekvs, m, g, by rw [List.getElem?_eq_getElem hi, h1], h2, h3, h4⟩

/-- (4) Otherwise the data member is returned unchanged (`None` when the member is absent). -/
theorem data_returned_iff (r : HttpResp) (hs : SpecShaped r) (d : J) :
    getData r = .data d ↔
      ((200 ≤ r.status ∧ r.status ≤ 299) ∧
        ∃ kvs, r.body = some (.obj kvs) ∧
          (J.lookup "data" kvs ≠ none ∨ J.lookup "errors" kvs ≠ none) ∧
          (J.lookup "errors" kvs = none ∨ J.lookup "errors" kvs = some (.arr [])) ∧
          d = J.getD "data" kvs) := by
  rw [getData_iff]
  exact ⟨fun | .data h kvs hb hne hf => ⟨h, kvs, hb, hne, (falsy_shaped hs hb).mp hf, rfl⟩,
    fun ⟨h, kvs, hb, hne, he, hd⟩ => hd ▸ .data h kvs hb hne ((falsy_shaped hs hb).mpr he)⟩

/-- Data is never returned when the server reported errors. -/
theorem never_data_with_errors (r : HttpResp) (hs : SpecShaped r) (d : J) (kvs : List (String × J))
    (e : J) (es : List J) (hb : r.body = some (.obj kvs))
    (he : J.lookup "errors" kvs = some (.arr (e :: es))) : getData r ≠ .data d := by
  intro h
  obtain ⟨-, kvs', hb', -, hne, -⟩ := (data_returned_iff r hs d).mp h
  rw [hb] at hb'
  cases hb'
  rcases hne with h1 | h1 <;> rw [he] at h1 <;> simp at h1

/-- no undocumented exception escapes inside the property's hypothesis -/
theorem escape_only_outside_claim (r : HttpResp) (x : String) (h : getData r = .internal x) : ¬ SpecShaped r := by
  intro hs
  rw [getData_iff] at h
  cases h with
  | internal _ kvs e _ hb he hx =>
    obtain ⟨es, rfl, hall⟩ := hs kvs e hb he
    rcases hx with ⟨_, heq, hbad⟩ | ⟨hna, -, -⟩
    · cases heq
      rw [(firstBad_none_iff _).mpr hall] at hbad
      cases hbad
    · cases hna

/-- No other exception type escapes (the `.internal` branch is unreachable for spec-shaped
    responses), and the outcome is exactly one of the four documented ones. -/
theorem exactly_one_outcome (r : HttpResp) (hs : SpecShaped r) :
    (IsHttp (getData r) ∧ ¬ IsInvalid (getData r) ∧ ¬ IsMulti (getData r) ∧ ¬ IsData (getData r)) ∨
    (¬ IsHttp (getData r) ∧ IsInvalid (getData r) ∧ ¬ IsMulti (getData r) ∧ ¬ IsData (getData r)) ∨
    (¬ IsHttp (getData r) ∧ ¬ IsInvalid (getData r) ∧ IsMulti (getData r) ∧ ¬ IsData (getData r)) ∨
    (¬ IsHttp (getData r) ∧ ¬ IsInvalid (getData r) ∧ ¬ IsMulti (getData r) ∧ IsData (getData r)) := by
  unfold IsHttp IsInvalid IsMulti IsData
  cases hg : getData r with
  | http s => left; simp
  | invalid => right; left; simp
  | multi gs d => right; right; left; simp
  | data d => right; right; right; simp
  | internal x => exact absurd hs (escape_only_outside_claim r x hg)

/-! ## 2. Outside the hypothesis: which shapes escape as which exception

    The property excludes responses whose `errors` member is not a list of objects carrying a
    message.  What the code does there is still part of the model; these theorems make the
    excluded region exact. -/

/-- (outside the claim, exact) an undocumented exception escapes `get_data` if and only if the
    status is 2xx, the body is an object whose `errors` member is a truthy non-list or a list with
    a non-shaped entry — and then it is exactly that entry's `KeyError`/`TypeError` -/
theorem internal_iff (r : HttpResp) (x : String) :
    getData r = .internal x ↔
      ((200 ≤ r.status ∧ r.status ≤ 299) ∧
        ∃ kvs e, r.body = some (.obj kvs) ∧ J.lookup "errors" kvs = some e ∧ EscapesAs e x) := by
  rw [getData_iff]
  exact ⟨fun | .internal h kvs e _ hb he hx => ⟨h, kvs, e, hb, he, hx⟩,
    fun ⟨h, kvs, e, hb, he, hx⟩ => .internal h kvs e x hb he hx⟩

theorem firstBad_names (es : List J) (x : String) (h : firstBad es = some x) : x = "KeyError" ∨ x = "TypeError" := by
  induction es with
  | nil => simp [firstBad] at h
  | cons e es ih =>
    cases he : entryExc e with
    | none => simp [firstBad, he] at h; exact ih h
    | some y =>
      simp [firstBad, he] at h
      subst h
      cases e <;> simp [entryExc] at he
      case obj kvs => exact Or.inl he.2.symm
      all_goals exact Or.inr he.symm

/-- the only exceptions that ever escape the decoded-body stage are `KeyError` and `TypeError` -/
theorem internal_exception_names (r : HttpResp) (x : String) (h : getData r = .internal x) :
    x = "KeyError" ∨ x = "TypeError" := by
  obtain ⟨-, kvs, e, -, -, hesc⟩ := (internal_iff r x).mp h
  rcases hesc with ⟨es, -, hb⟩ | ⟨-, -, hx⟩
  · exact firstBad_names es x hb
  · exact Or.inr hx

/-- non-shaped but falsy `errors` (`null`, `false`, `0`, `""`, `{}`) raise nothing: data is returned -/
theorem falsy_errors_return_data (r : HttpResp) (kvs : List (String × J)) (e : J)
    (h2 : 200 ≤ r.status ∧ r.status ≤ 299) (hb : r.body = some (.obj kvs))
    (he : J.lookup "errors" kvs = some e) (hf : e.truthy = false) : getData r = .data (J.getD "data" kvs) := by
  have : (decide (200 ≤ r.status) && decide (r.status ≤ 299)) = true := by simp [h2]
  simp [getData, isSuccess, this, hb, J.hasKey_of_some he, J.getD_of_some he, hf]

/-! ## 3. The decoding glue: `get_data` on raw bytes -/

open Ariadne.RawResponse

/-- the decoded view of a raw response (`none` when `json()` did not return) -/
def respOf (cfg : PyJson.Cfg) (r : Raw) : HttpResp := ⟨r.status, (jsonCall cfg r).body⟩

/-- finding C12-F1, trigger: the status is 2xx (so `json()` is called) and `json()` raises something
    that is not a `ValueError` -/
def decodeEscapes (cfg : PyJson.Cfg) (r : Raw) : Bool :=
  isSuccess r.status &&
    (match PyJson.loads cfg r.content with
     | .raises _ => true
     | _ => false)

def Supported_12 (cfg : PyJson.Cfg) (r : Raw) : Prop := ¬ (decodeEscapes cfg r = true)

/-- one of the four documented outcomes (no other exception) -/
def Documented (o : Outcome) : Prop := IsHttp o ∨ IsInvalid o ∨ IsMulti o ∨ IsData o

/-- exactly one of them -/
def ExactlyOne (o : Outcome) : Prop :=
  (IsHttp o ∧ ¬ IsInvalid o ∧ ¬ IsMulti o ∧ ¬ IsData o) ∨
  (¬ IsHttp o ∧ IsInvalid o ∧ ¬ IsMulti o ∧ ¬ IsData o) ∨
  (¬ IsHttp o ∧ ¬ IsInvalid o ∧ IsMulti o ∧ ¬ IsData o) ∨
  (¬ IsHttp o ∧ ¬ IsInvalid o ∧ ¬ IsMulti o ∧ IsData o)

/-- The property at full strength on raw responses: for every interpreter limit, status and body
    bytes whose decoded `errors` member (when present) is spec-shaped, the outcome is documented. -/
def C12_full : Prop :=
  ∀ (cfg : PyJson.Cfg) (r : Raw), SpecShaped (respOf cfg r) → Documented (getDataRaw cfg r)

/-- outside the trigger the raw `get_data` IS the decoded-body `get_data` of section 1 -/
theorem raw_eq_getData (cfg : PyJson.Cfg) (r : Raw) (h : Supported_12 cfg r) :
    getDataRaw cfg r = getData (respOf cfg r) := by
  unfold Supported_12 decodeEscapes at h
  unfold getDataRaw getDataCall respOf jsonCall
  cases hl : PyJson.loads cfg r.content with
  | value j => by_cases hs : isSuccess r.status = true <;> simp [hs, getData, JsonCall.body]
  | valueError => by_cases hs : isSuccess r.status = true <;> simp [hs, getData, JsonCall.body]
  | raises x =>
    have hs : isSuccess r.status = false := by
      cases hh : isSuccess r.status with
      | false => rfl
      | true => simp [hl, hh] at h
    simp [hs, getData]

/-- inside the trigger the decoder's exception escapes, and it is `RecursionError` -/
theorem raw_escape (cfg : PyJson.Cfg) (r : Raw) (h : decodeEscapes cfg r = true) :
    getDataRaw cfg r = .internal PyJson.recursionError := by
  unfold decodeEscapes at h
  unfold getDataRaw getDataCall jsonCall
  cases hl : PyJson.loads cfg r.content with
  | value j => simp [hl] at h
  | valueError => simp [hl] at h
  | raises x =>
    have hx := PyJson.loads_raises cfg _ x hl
    subst hx
    cases hh : isSuccess r.status with
    | false => simp [hl, hh] at h
    | true => simp

/-- a body of `depthLimit + 1` opening brackets, under any 2xx status: `RecursionError` escapes -/
theorem deep_body_escapes (cfg : PyJson.Cfg) (status : Nat) (h2 : 200 ≤ status ∧ status ≤ 299) :
    getDataRaw cfg ⟨status, List.replicate (cfg.depthLimit + 1) 91⟩ = .internal "RecursionError" := by
  have hs : isSuccess status = true := by simp [isSuccess, h2]
  have := raw_escape cfg ⟨status, List.replicate (cfg.depthLimit + 1) 91⟩
    (by simp [decodeEscapes, hs]; rw [show (91 : Nat) = PyJson.lbr from rfl, PyJson.loads_deep])
  simpa [PyJson.recursionError] using this

theorem C12_full_false : ¬ C12_full := by
  intro hfull
  let cfg : PyJson.Cfg := ⟨1000, 4300⟩
  let r : Raw := ⟨200, List.replicate (cfg.depthLimit + 1) 91⟩
  have hl : PyJson.loads cfg r.content = .raises PyJson.recursionError := by
    show PyJson.loads cfg (List.replicate (cfg.depthLimit + 1) PyJson.lbr) = _
    exact PyJson.loads_deep cfg
  have hshape : SpecShaped (respOf cfg r) := by
    intro kvs e hb
    simp [respOf, jsonCall, hl, JsonCall.body] at hb
  have hesc := deep_body_escapes cfg 200 (by omega)
  have := hfull cfg r hshape
  simp [r, hesc, Documented, IsHttp, IsInvalid, IsMulti, IsData] at this

/-- The property outside the finding's trigger: exactly one documented outcome. -/
theorem C12_partial (cfg : PyJson.Cfg) (r : Raw) (hs : SpecShaped (respOf cfg r)) (hsup : Supported_12 cfg r) :
    ExactlyOne (getDataRaw cfg r) := by
  rw [raw_eq_getData cfg r hsup]
  exact exactly_one_outcome (respOf cfg r) hs

/-- theorem region ∪ trigger region = everything, and the trigger region is exactly the escape -/
theorem raw_outcome_cases (cfg : PyJson.Cfg) (r : Raw) :
    (decodeEscapes cfg r = true ∧ getDataRaw cfg r = .internal PyJson.recursionError) ∨
    (Supported_12 cfg r ∧ getDataRaw cfg r = getData (respOf cfg r)) := by
  by_cases h : decodeEscapes cfg r = true
  · exact Or.inl ⟨h, raw_escape cfg r h⟩
  · exact Or.inr ⟨h, raw_eq_getData cfg r h⟩

/-- the HTTP error needs no hypothesis at all: `json()` is not even called for a non-2xx status -/
theorem raw_http_iff (cfg : PyJson.Cfg) (r : Raw) (s : Nat) :
    getDataRaw cfg r = .http s ↔ (¬ (200 ≤ r.status ∧ r.status ≤ 299) ∧ s = r.status) := by
  rcases raw_outcome_cases cfg r with ⟨htr, hesc⟩ | ⟨hsup, heq⟩
  · have h2 : 200 ≤ r.status ∧ r.status ≤ 299 := by
      simp [decodeEscapes, isSuccess] at htr; exact htr.1
    simp [hesc, h2]
  · rw [heq]; exact http_error_iff (respOf cfg r) s

/-- which byte bodies are "not JSON" for `get_data`: the invalid-response error is raised exactly
    for a 2xx status when `json.loads` raises a `ValueError`, or returns something that is not an
    object carrying `data` or `errors` -/
theorem raw_invalid_iff (cfg : PyJson.Cfg) (r : Raw) :
    getDataRaw cfg r = .invalid ↔
      ((200 ≤ r.status ∧ r.status ≤ 299) ∧
        (PyJson.loads cfg r.content = .valueError ∨
          ∃ j, PyJson.loads cfg r.content = .value j ∧ BodyInvalid (some j))) := by
  rcases raw_outcome_cases cfg r with ⟨htr, hesc⟩ | ⟨hsup, heq⟩
  · simp only [decodeEscapes, Bool.and_eq_true] at htr
    cases hl : PyJson.loads cfg r.content with
    | raises x => simp [hesc]
    | value j => simp [hl] at htr
    | valueError => simp [hl] at htr
  · rw [heq, invalid_iff]
    cases hl : PyJson.loads cfg r.content with
    | value j => simp [respOf, jsonCall, hl, JsonCall.body, BodyInvalid]
    | valueError => simp [respOf, jsonCall, hl, JsonCall.body, BodyInvalid]
    | raises x =>
      have hno : ¬ (200 ≤ r.status ∧ r.status ≤ 299) := by
        intro h2; apply hsup; simp [decodeEscapes, isSuccess, h2, hl]
      simp [respOf, jsonCall, hl, JsonCall.body, BodyInvalid, hno]

/-- a body that is not valid UTF-8/16/32 is "not JSON" (`UnicodeDecodeError` is a `ValueError`) -/
theorem undecodable_body_is_invalid (cfg : PyJson.Cfg) (r : Raw) (h2 : 200 ≤ r.status ∧ r.status ≤ 299)
    (hd : PyJson.decodeBytes r.content = none) : getDataRaw cfg r = .invalid :=
  (raw_invalid_iff cfg r).mpr ⟨h2, Or.inl (PyJson.loads_undecodable cfg _ hd)⟩

/-- an integer literal over the interpreter's digit limit is "not JSON", for every limit that is set (0 sets none) -/
theorem long_int_body_is_invalid (cfg : PyJson.Cfg) (status n : Nat) (h2 : 200 ≤ status ∧ status ≤ 299)
    (h0 : cfg.intMaxDigits ≠ 0) (hn : cfg.intMaxDigits < n) :
    getDataRaw cfg ⟨status, List.replicate n 49⟩ = .invalid :=
  (raw_invalid_iff cfg ⟨status, List.replicate n 49⟩).mpr
    ⟨h2, Or.inl (by show PyJson.loads cfg (List.replicate n PyJson.one) = _; exact PyJson.loads_long_int cfg n h0 hn)⟩

/-- the only undocumented exceptions that can ever leave `get_data`, over all bytes -/
theorem raw_escape_names (cfg : PyJson.Cfg) (r : Raw) (x : String) (h : getDataRaw cfg r = .internal x) :
    x = "RecursionError" ∨ x = "KeyError" ∨ x = "TypeError" := by
  rcases raw_outcome_cases cfg r with ⟨_, hesc⟩ | ⟨_, heq⟩
  · rw [hesc] at h; simp [PyJson.recursionError] at h; exact Or.inl h.symm
  · rw [heq] at h; exact Or.inr (internal_exception_names _ x h)

/-- duplicate keys: the decoder keeps the LAST value (so `{"errors": [...], "errors": []}` reports no error) -/
theorem duplicate_key_last_wins (k : String) (v : J) (kvs : List (String × J)) :
    J.lookup k (PyJson.insertKv k v kvs) = some v ∧
      ∀ k2, k2 ≠ k → J.lookup k2 (PyJson.insertKv k v kvs) = J.lookup k2 kvs :=
  ⟨(PyJson.lookup_insertKv k v k kvs).trans (if_pos rfl), fun k2 h => (PyJson.lookup_insertKv k v k2 kvs).trans (if_neg (Ne.symm h))⟩

/-! ## 4. The exception objects: what they carry, what `str()` says -/

theorem http_error_carries (cfg : PyJson.Cfg) (r : Raw) (s : Nat) (h : getDataRaw cfg r = .http s) :
    excOf r (getDataRaw cfg r) = some (.http r.status r) ∧
      (Exc.http r.status r).str = .ok ("HTTP status code: " ++ toString r.status) := by
  have := (raw_http_iff cfg r s).mp h
  rw [h]
  simp [excOf, this.2, Exc.str, httpPrefix]

theorem invalid_error_carries (cfg : PyJson.Cfg) (r : Raw) (h : getDataRaw cfg r = .invalid) :
    excOf r (getDataRaw cfg r) = some (.invalid r) ∧ (Exc.invalid r).str = .ok "Invalid response format." := by
  rw [h]; simp [excOf, Exc.str, invalidText]

theorem strAll_ok_iff (es : List GqlErr) (ss : List String) :
    strAll es = .ok ss ↔ es.map (·.message) = ss.map J.str := by
  induction es generalizing ss with
  | nil => cases ss <;> simp [strAll]
  | cons g gs ih =>
    cases hm : g.message with
    | str m =>
      cases hr : strAll gs with
      | error x =>
        cases ss with
        | nil => simp [strAll, GqlErr.str, hm, hr]
        | cons t ts =>
          have h' := (ih ts)
          rw [hr] at h'
          simp at h'
          simp [strAll, GqlErr.str, hm, hr]
          intro _; exact h'
      | ok rs =>
        cases ss with
        | nil => simp [strAll, GqlErr.str, hm, hr]
        | cons t ts =>
          have h' := (ih ts)
          rw [hr] at h'
          simp at h'
          simp [strAll, GqlErr.str, hm, hr, h']
    | null => cases ss <;> simp [strAll, GqlErr.str, hm]
    | bool _ => cases ss <;> simp [strAll, GqlErr.str, hm]
    | num _ _ => cases ss <;> simp [strAll, GqlErr.str, hm]
    | arr _ => cases ss <;> simp [strAll, GqlErr.str, hm]
    | obj _ => cases ss <;> simp [strAll, GqlErr.str, hm]

theorem strAll_error (es : List GqlErr) (x : String) (h : strAll es = .error x) : x = "TypeError" := by
  induction es with
  | nil => simp [strAll] at h
  | cons g gs ih =>
    cases hm : g.message <;> simp [strAll, GqlErr.str, hm] at h
    case str m =>
      cases hr : strAll gs with
      | error y => simp [hr] at h; subst h; exact ih hr
      | ok rs => simp [hr] at h
    all_goals exact h.symm

/-- `str()` of the multi-error is the `"; "`-joined messages — exactly when every message IS a
    string; otherwise `str()` itself raises `TypeError` (`__str__ returned non-string`) -/
theorem multi_str {R : Type} (es : List GqlErr) (d : J) :
    (∀ s, (Exc.multi (R := R) es d).str = .ok s ↔
        ∃ ss, es.map (·.message) = ss.map J.str ∧ s = "; ".intercalate ss) ∧
    (∀ x, (Exc.multi (R := R) es d).str = .error x → x = "TypeError") := by
  constructor
  · intro s
    cases hr : strAll es with
    | ok rs =>
      have h1 := (strAll_ok_iff es rs).mp hr
      simp only [Exc.str, hr, multiSep, Except.ok.injEq]
      constructor
      · intro h; exact ⟨rs, h1, h.symm⟩
      · rintro ⟨ss, hss, rfl⟩
        have := (strAll_ok_iff es ss).mpr hss
        rw [hr] at this
        cases this; rfl
    | error x =>
      simp only [Exc.str, hr]
      constructor
      · intro h; cases h
      · rintro ⟨ss, hss, -⟩
        have := (strAll_ok_iff es ss).mpr hss
        rw [hr] at this; cases this
  · intro x h
    cases hr : strAll es with
    | ok rs => simp [Exc.str, hr] at h
    | error y => simp [Exc.str, hr] at h; subst h; exact strAll_error es _ hr

/-! ## 5. The generated method -/

open Ariadne.MethodTail

theorem lookup_assign_same {R : Type} (n : String) (v : Val R) (env : Env R) :
    MethodTail.lookup n (assign n v env) = some v := by
  induction env with
  | nil => simp [assign, MethodTail.lookup]
  | cons p rest ih =>
    obtain ⟨k, w⟩ := p
    by_cases h : k = n <;> simp [assign, MethodTail.lookup, h, ih]

/-- any body whose `get_data` argument is the response target and whose `model_validate` argument
    is the data target does what the property demands, in every scope -/
theorem run_of_names {R V : Type} (b : Body) (h1 : b.getDataArg = b.respTarget) (h2 : b.validateArg = b.dataTarget)
    (gd : R → Outcome) (validate : J → Option V) (env0 : Env R) (r : R) :
    run b gd validate env0 r = expected gd validate r := by
  unfold run expected
  simp only [h1, h2, lookup_assign_same]

/-- THE GENERATED METHOD, for every parameter list (so for every renaming `get_variable_names`
    performs: `query/_query`, `variables/_variables`, `response/_response`, `data/_data`), every
    `get_data`, every validator, every response and every scope: its outcome is `get_data`'s outcome,
    then validation of exactly the data `get_data` returned. -/
theorem method_outcome {R V : Type} (params : List String) (gd : R → Outcome) (validate : J → Option V)
    (env0 : Env R) (r : R) :
    run (emit params) gd validate env0 r = expected gd validate r :=
  run_of_names (emit params) rfl rfl gd validate env0 r

/-- the three clauses of the property's last sentence, spelled out -/
theorem method_clauses {R V : Type} (params : List String) (gd : R → Outcome) (validate : J → Option V)
    (env0 : Env R) (r : R) :
    (∀ o, gd r = o → (∀ d, o ≠ .data d) → run (emit params) gd validate env0 r = .raised o) ∧
    (∀ d, gd r = .data d → validate d = none → run (emit params) gd validate env0 r = .validationError) ∧
    (∀ d v, gd r = .data d → validate d = some v → run (emit params) gd validate env0 r = .returned v) := by
  rw [method_outcome]
  refine ⟨?_, ?_, ?_⟩
  · intro o ho hne
    unfold expected
    rw [ho]
    cases o with
    | data d => exact absurd rfl (hne d)
    | _ => simp
  · intro d hd hv; simp [expected, hd, hv]
  · intro d v hd hv; simp [expected, hd, hv]

/-- instantiated with the raw `get_data`: what a generated method makes of status + body bytes -/
theorem generated_method_on_bytes {V : Type} (cfg : PyJson.Cfg) (params : List String) (validate : J → Option V) (r : Raw) :
    run (emit params) (getDataRaw cfg) validate (initEnv params) r = expected (getDataRaw cfg) validate r :=
  method_outcome params (getDataRaw cfg) validate (initEnv params) r

theorem loop_of_names {R V : Type} (b : SubBody) (h : b.yieldArg = b.loopTarget) (validate : J → Option V)
    (fin : StreamEnd) (items : List J) : ∀ env : Env R, loop b validate fin env items = expectedSub validate fin items := by
  induction items with
  | nil => intro env; simp [loop, expectedSub]
  | cons d ds ih =>
    intro env
    simp only [loop, expectedSub, h, lookup_assign_same]
    cases validate d with
    | none => rfl
    | some v => simp only [ih]

/-- the generated subscription method yields the validated model of every item, in order, up to
    the first item the model class rejects, and ends as the stream ends — for every parameter list -/
theorem subscription_method_outcome {R V : Type} (params : List String) (validate : J → Option V)
    (env0 : Env R) (items : List J) (fin : StreamEnd) :
    runSub (emitSub params) validate env0 items fin = expectedSub validate fin items := by
  unfold runSub
  exact loop_of_names (emitSub params) rfl validate fin items _

/-- non-vacuity of the renaming: with a parameter called `data`, a body that forgot the renaming
    in the last position validates the caller's argument instead (what `misapplied` records) -/
example (gd : Unit → Outcome) (validate : J → Option Nat) (d : J) (h : gd () = .data d) :
    run ⟨"query", "variables", "response", "response", "_data", "data"⟩ gd validate (initEnv ["data"]) () =
      .misapplied "model_validate" := by
  simp [run, MethodTail.lookup, assign, initEnv, ClientMethod.selfName, h]

example : emit ["query", "data"] = ⟨"_query", "variables", "response", "response", "_data", "_data"⟩ := by decide +kernel
example : emit [] = ⟨"query", "variables", "response", "response", "data", "data"⟩ := by decide +kernel

/-! ### Non-vacuity and concrete byte bodies (tests, not theorems) -/

def cfg0 : PyJson.Cfg := ⟨1000, 4300⟩

/-- `{"errors": [{"message": "x"}], "data": null}` as bytes -/
def exBytes : List Nat :=
  [123, 34, 101, 114, 114, 111, 114, 115, 34, 58, 32, 91, 123, 34, 109, 101, 115, 115, 97, 103, 101, 34, 58, 32, 34, 120, 34,
   125, 93, 44, 32, 34, 100, 97, 116, 97, 34, 58, 32, 110, 117, 108, 108, 125]

example : respOf cfg0 ⟨200, exBytes⟩ =
    ⟨200, some (.obj [("errors", .arr [.obj [("message", .str "x")]]), ("data", .null)])⟩ := by rfl

example : Supported_12 cfg0 ⟨200, exBytes⟩ := by unfold Supported_12; decide +kernel

example : SpecShaped (respOf cfg0 ⟨200, exBytes⟩) := by
  intro kvs e hb he
  have hr : respOf cfg0 ⟨200, exBytes⟩ =
      ⟨200, some (.obj [("errors", .arr [.obj [("message", .str "x")]]), ("data", .null)])⟩ := by rfl
  rw [hr] at hb
  simp only [Option.some.injEq, J.obj.injEq] at hb
  subst hb
  simp [J.lookup] at he
  subst he
  exact ⟨[.obj [("message", .str "x")]], rfl, by simp [ErrShaped, J.lookup]⟩

example : getDataRaw cfg0 ⟨200, exBytes⟩ = .multi [errOf [("message", .str "x")] (.str "x")] .null := by rfl
example : getDataRaw cfg0 ⟨404, exBytes⟩ = .http 404 := by rfl

/-- the decoding glue on concrete bodies: which are "not JSON" -/
example : getDataRaw cfg0 ⟨200, []⟩ = .invalid := by rfl                                     -- empty body
example : getDataRaw cfg0 ⟨200, [255, 254, 123]⟩ = .invalid := by rfl                        -- truncated UTF-16
example : getDataRaw cfg0 ⟨200, [34, 233, 34]⟩ = .invalid := by rfl                          -- latin-1 `"é"`
example : PyJson.loads cfg0 [78, 97, 78] = .value (PyJson.nonFinite "nan") := by rfl        -- `NaN` IS JSON here
example : PyJson.loads cfg0 [110, 97, 110] = .valueError := by rfl                          -- `nan` is not
example : PyJson.loads cfg0 [45, 73, 110, 102, 105, 110, 105, 116, 121] = .value (PyJson.nonFinite "-inf") := by rfl
example : PyJson.loads cfg0 [49, 101, 57, 57, 57] = .value (PyJson.nonFinite "inf") := by rfl   -- `1e999`
-- `{"a":1,"a":2}`: the last value wins
example : PyJson.loads cfg0 [123, 34, 97, 34, 58, 49, 44, 34, 97, 34, 58, 50, 125] = .value (.obj [("a", .num 2 0)]) := by rfl
-- an integer literal one digit over the limit is "not JSON"; nesting one level over the limit escapes
example : getDataRaw cfg0 ⟨200, List.replicate 4301 49⟩ = .invalid :=
  long_int_body_is_invalid cfg0 200 4301 (by omega) (by decide) (by decide)
example : getDataRaw cfg0 ⟨201, List.replicate 1001 91⟩ = .internal "RecursionError" :=
  deep_body_escapes cfg0 201 (by omega)

/-- non-shaped but falsy: `{"errors": null}` returns `None` -/
example : getData ⟨200, some (.obj [("errors", .null)])⟩ = .data .null :=
  falsy_errors_return_data ⟨200, some (.obj [("errors", .null)])⟩ [("errors", .null)] .null (by decide) rfl rfl rfl

/-- `str()` of a multi-error: joined messages, or `TypeError` when a message is not a string -/
example : (Exc.multi (R := Unit) [⟨.str "a", .null, .null, .null, .null⟩, ⟨.str "b", .null, .null, .null, .null⟩] .null).str = .ok "a; b" := by rfl
example : (Exc.multi (R := Unit) [] .null).str = .ok "" := by rfl
example : (Exc.multi (R := Unit) [⟨.str "a", .null, .null, .null, .null⟩, ⟨.null, .null, .null, .null, .null⟩] .null).str = .error "TypeError" := by rfl
example : (Exc.http 404 ()).str = .ok "HTTP status code: 404" := by rfl

/-! ### Non-vacuity: concrete spec-shaped responses hitting each outcome -/

def exErr : J := .obj [("message", .str "boom"), ("path", .arr [.str "a"])]
def exBody : J := .obj [("data", .obj [("a", .null)]), ("errors", .arr [exErr])]

example : SpecShaped ⟨200, some exBody⟩ := by
  intro kvs e hb he
  simp only [exBody, Option.some.injEq, J.obj.injEq] at hb
  subst hb
  simp [J.lookup] at he
  subst he
  exact ⟨[exErr], rfl, by simp [exErr, ErrShaped, J.lookup]⟩

example : getData ⟨200, some exBody⟩ =
    .multi [errOf [("message", .str "boom"), ("path", .arr [.str "a"])] (.str "boom")]
      (.obj [("a", .null)]) := by
  simp [getData, isSuccess, exBody, exErr, J.hasKey, J.lookup, J.getD, J.truthy, fromErrorsDicts,
    fromDicts, fromDict, errOf]
example : getData ⟨503, some exBody⟩ = .http 503 := by simp [getData, isSuccess]
example : getData ⟨200, none⟩ = .invalid := by simp [getData, isSuccess]
example : getData ⟨204, some (.obj [("data", .num 1 0)])⟩ = .data (.num 1 0) := by
  simp [getData, isSuccess, J.hasKey, J.lookup, J.getD, J.truthy]

/-- Outside the hypothesis the property is *not* claimed: a non-spec-shaped `errors` escapes as a
    bare `KeyError`/`TypeError` (recorded as an observation, DESIGN.md §3 C12). -/
example : getData ⟨200, some (.obj [("errors", .arr [.obj []])])⟩ = .internal "KeyError" := by
  simp [getData, isSuccess, J.hasKey, J.lookup, J.getD, J.truthy, fromErrorsDicts, fromDicts, fromDict]

end Ariadne.C12
