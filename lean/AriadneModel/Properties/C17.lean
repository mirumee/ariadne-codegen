/-
  C17 — Invalid input is rejected up front, with a typed error and no side effects.

  Statements and final proofs.  Models: Model/Toml.lean (TOML values of every kind and the Python
  operations applied to them), Model/Settings.lean (settings.py + config.py), Model/SourceLoad.lean
  (schema.py: file or directory tree -> one document), Model/ConfigFile.lean (config.get_config_file_path),
  Model/Pipeline.lean (phase order of main.client / main.graphql_schema with an effect log, plugin
  lookup; graphql-core's verdicts are oracle inputs).  Lemmas: Proofs/Settings.lean, Proofs/SourceLoad.lean,
  Proofs/Pipeline.lean.

  Shape (DESIGN.md §0):  `C17_full` is the property at full strength, `C17_full_false` refutes it
  from the witness of C17-F3 (there is one witness per open finding, each replayed on the real code by
  harness/c17.py), `C17_partial` proves it outside the finding triggers.  The settings clauses
  (`violation_raises`, `valid_accepted`, `accepted_iff_documented`, `unknown_keys_ignored`, `settings_pure`)
  hold for option values of EVERY TOML kind (`violation_typed`: of the documented kinds); the phase clause
  (`no_write_before_generate`) holds for all inputs, the per-file syntax clause
  (`source_refused_iff_some_file_bad`) for all directory trees whose graphql files are readable and every `parses`.
-/
import AriadneModel.Model.Settings
import AriadneModel.Model.SourceLoad
import AriadneModel.Model.ConfigFile
import AriadneModel.Model.Pipeline
import AriadneModel.Proofs.Settings
import AriadneModel.Proofs.SourceLoad
import AriadneModel.Proofs.Pipeline

namespace Ariadne.C17
open Ariadne Ariadne.Settings Ariadne.SourceLoad Ariadne.Pipeline

/-! ## 1. Every documented single-constraint violation yields its exception (client settings),
       for option values of every kind -/

/-- a flag value that selects a bundled base client: equal to `True` or `False` as a dict key
    (booleans, but also 0 / 1 / 0.0 / 1.0) -/
def BoolLike (v : TV) : Prop := ∃ b, v.boolKey = some (some b)

/-- the constraint guarded by check `k` is violated (stated on the dataclass fields, the file
    system, the environment — not on the model's check functions) -/
def Violates (env : Env) (s : ClientSettings) : ClientCheck → Prop
  | .queriesRequired => s.queriesPath.truthy = false ∧ s.enableCustomOperations.truthy = false
  | .schemaSource => s.schemaPath.truthy = false ∧ s.remoteSchemaUrl.truthy = false
  | .schemaPathExists => s.schemaPath.truthy = true ∧ ¬ IsPath env.pathExists s.schemaPath
  | .headers => ¬ HeadersOk env s.remoteSchemaHeaders
  | .commentMode => isCommentMode s.includeComments = false
  | .baseClientDefaults =>
      s.baseClientName.truthy = false ∧ s.baseClientFilePath.truthy = false ∧
        ¬ (BoolLike s.asyncClient ∧ BoolLike s.opentelemetryClient)
  | .queriesPathExists => ¬ IsPath env.pathExists s.queriesPath
  | .packageName => ¬ IsName env s.targetPackageName
  | .packagePathDir => ¬ IsPath env.isDir s.targetPackagePath
  | .clientName => ¬ IsName env s.clientName
  | .clientFileName => ¬ IsName env s.clientFileName
  | .baseClientName => ¬ IsName env (baseClientData env s).1
  | .baseClientPathExists => ¬ IsPath env.pathExists (baseClientData env s).2
  | .baseClientIsFile => ¬ IsPath env.isFile (baseClientData env s).2
  | .baseClientClass =>
      ¬ IsPath (fun p => classDefinedIn env p (baseClientData env s).1.pyStr) (baseClientData env s).2
  | .enumsModule => ¬ IsName env s.enumsModuleName
  | .inputTypesModule => ¬ IsName env s.inputTypesModuleName
  | .fragmentsModule => ¬ IsName env s.fragmentsModuleName
  | .filesToInclude => ¬ FilesOk env s.filesToInclude

/-- what a failing path check raises: the path exception naming the `str`, or — for a value that is
    not a `str` — `Path(v)`'s `TypeError`, which config.py reports as `MissingConfiguration` -/
def PathExpected (missing : List String) (err : String → ConfigError) (v : TV) (e : ConfigError) : Prop :=
  (∃ p, v = .str p ∧ e = err p) ∨ (v.isStr = false ∧ e = .typeErrorAsMissing missing)

/-- what a failing name check raises: the identifier exception naming the `str`, or — for a value
    that is not a `str` — a bare `AttributeError` -/
def NameExpected (v : TV) (e : ConfigError) : Prop :=
  (∃ n, v = .str n ∧ e = .badIdentifier n) ∨ (v.isStr = false ∧ e = .internal "AttributeError")

/-- the exception that corresponds to check `k` (it names the offending value) -/
def Expected (env : Env) (s : ClientSettings) : ClientCheck → ConfigError → Prop
  | .queriesRequired, e => e = .missingFields s.missing
  | .schemaSource, e => e = .noSchemaSource
  | .schemaPathExists, e => PathExpected s.missing .pathMissing s.schemaPath e
  | .headers, e =>
      (∃ kvs, s.remoteSchemaHeaders = .table kvs ∧ HeaderErrorOf kvs e) ∨
      (s.remoteSchemaHeaders.isTable = false ∧ e = .internal "AttributeError")
  | .commentMode, e => e = .badCommentMode s.includeComments.pyStr
  | .baseClientDefaults, e => e = .internal "KeyError" ∨ e = .typeErrorAsMissing s.missing
  | .queriesPathExists, e => PathExpected s.missing .pathMissing s.queriesPath e
  | .packageName, e => NameExpected s.targetPackageName e
  | .packagePathDir, e => PathExpected s.missing .notDirectory s.targetPackagePath e
  | .clientName, e => NameExpected s.clientName e
  | .clientFileName, e => NameExpected s.clientFileName e
  | .baseClientName, e => NameExpected (baseClientData env s).1 e
  | .baseClientPathExists, e => PathExpected s.missing .pathMissing (baseClientData env s).2 e
  | .baseClientIsFile, e => PathExpected s.missing .notFile (baseClientData env s).2 e
  | .baseClientClass, e =>
      PathExpected s.missing (fun p => .classNotInFile (baseClientData env s).1.pyStr p) (baseClientData env s).2 e
  | .enumsModule, e => NameExpected s.enumsModuleName e
  | .inputTypesModule, e => NameExpected s.inputTypesModuleName e
  | .fragmentsModule, e => NameExpected s.fragmentsModuleName e
  | .filesToInclude, e =>
      (s.filesToInclude.pyIter = none ∧ e = .typeErrorAsMissing s.missing) ∨
      (∃ items, s.filesToInclude.pyIter = some items ∧ FileErrorOf env s.missing items e)

theorem defaults_raises_iff (s : ClientSettings) :
    (defaultsOutcome s = .keyError ∨ defaultsOutcome s = .typeError) ↔
      (s.baseClientName.truthy = false ∧ s.baseClientFilePath.truthy = false ∧
        ¬ (BoolLike s.asyncClient ∧ BoolLike s.opentelemetryClient)) := by
  unfold defaultsOutcome BoolLike
  cases hn : s.baseClientName.truthy <;> cases hp : s.baseClientFilePath.truthy <;> simp
  rcases ha : s.asyncClient.boolKey with _ | _ | a <;> rcases ho : s.opentelemetryClient.boolKey with _ | _ | o <;> simp

theorem check_raises_iff (env : Env) (s : ClientSettings) (k : ClientCheck) :
    (∃ e, evalClientCheck env s k = some e) ↔ Violates env s k := by
  cases k <;> simp only [evalClientCheck, Violates]
  case queriesRequired => cases s.queriesPath.truthy <;> cases s.enableCustomOperations.truthy <;> simp
  case schemaSource => cases s.schemaPath.truthy <;> cases s.remoteSchemaUrl.truthy <;> simp
  case schemaPathExists =>
    cases ht : s.schemaPath.truthy
    · simp
    · simp only [if_true, true_and]; exact pathCheck_some_iff _ _ _ _
  case headers =>
    rw [← firstBadHeaderV_none_iff]
    cases firstBadHeaderV env s.remoteSchemaHeaders <;> simp
  case commentMode => cases isCommentMode s.includeComments <;> simp
  case baseClientDefaults =>
    rw [← defaults_raises_iff]
    cases defaultsOutcome s <;> simp
  case queriesPathExists => exact pathCheck_some_iff _ _ _ _
  case packageName => exact identCheckV_some_iff env _
  case packagePathDir => exact pathCheck_some_iff _ _ _ _
  case clientName => exact identCheckV_some_iff env _
  case clientFileName => exact identCheckV_some_iff env _
  case baseClientName => exact identCheckV_some_iff env _
  case baseClientPathExists => exact pathCheck_some_iff _ _ _ _
  case baseClientIsFile => exact pathCheck_some_iff _ _ _ _
  case baseClientClass => exact pathCheck_some_iff _ _ _ _
  case enumsModule => exact identCheckV_some_iff env _
  case inputTypesModule => exact identCheckV_some_iff env _
  case fragmentsModule => exact identCheckV_some_iff env _
  case filesToInclude =>
    unfold FilesOk
    cases hi : s.filesToInclude.pyIter with
    | none => simp
    | some items =>
      simp only [Option.some.injEq, exists_eq_left']
      rw [← firstNonFileV_none_iff env s.missing]
      cases firstNonFileV env s.missing items <;> simp

theorem pathExpected_of (missing : List String) (test : String → Bool) (err : String → ConfigError) (v : TV)
    (e : ConfigError) (h : pathCheck missing test err v = some e) : PathExpected missing err v e := by
  rcases pathCheck_eq missing test err v e h with ⟨p, hv, _, he⟩ | h2
  · exact Or.inl ⟨p, hv, he⟩
  · exact Or.inr h2

theorem check_error_expected (env : Env) (s : ClientSettings) (k : ClientCheck) (e : ConfigError)
    (h : evalClientCheck env s k = some e) : Expected env s k e := by
  cases k <;> simp only [evalClientCheck, Expected] at h ⊢
  case queriesRequired => split at h <;> simp_all
  case schemaSource => split at h <;> simp_all
  case schemaPathExists =>
    split at h
    · exact pathExpected_of _ _ _ _ _ h
    · cases h
  case headers => exact firstBadHeaderV_some env _ e h
  case commentMode => split at h <;> simp_all
  case baseClientDefaults =>
    split at h
    · left; simp_all
    · right; simp_all
    · cases h
  case queriesPathExists => exact pathExpected_of _ _ _ _ _ h
  case packageName => exact identCheckV_eq env _ e h
  case packagePathDir => exact pathExpected_of _ _ _ _ _ h
  case clientName => exact identCheckV_eq env _ e h
  case clientFileName => exact identCheckV_eq env _ e h
  case baseClientName => exact identCheckV_eq env _ e h
  case baseClientPathExists => exact pathExpected_of _ _ _ _ _ h
  case baseClientIsFile => exact pathExpected_of _ _ _ _ _ h
  case baseClientClass => exact pathExpected_of _ _ _ _ _ h
  case enumsModule => exact identCheckV_eq env _ e h
  case inputTypesModule => exact identCheckV_eq env _ e h
  case fragmentsModule => exact identCheckV_eq env _ e h
  case filesToInclude =>
    cases hi : s.filesToInclude.pyIter with
    | none => simp [hi] at h; exact Or.inl ⟨rfl, h.symm⟩
    | some items =>
      simp only [hi] at h
      exact Or.inr ⟨items, rfl, firstNonFileV_some env s.missing items e h⟩

/-- **violation_raises** (must), for values of every kind: if the constraint of check `k` is violated
    and no earlier check of `__post_init__` fires, the settings are rejected with the exception of `k`
    (`Expected`: it names the offending value; for a value of the wrong kind it says which Python
    exception that is). -/
theorem violation_raises (env : Env) (s : ClientSettings) (k : ClientCheck) (pre post : List ClientCheck)
    (hord : ClientCheck.order = pre ++ k :: post)
    (hk : Violates env s k) (hpre : ∀ k' ∈ pre, ¬ Violates env s k') :
    ∃ e, clientPostInit env s = .error e ∧ Expected env s k e := by
  obtain ⟨e, he, hf⟩ := firstError_first_violation (check_raises_iff env s) (post := post) hk hpre
  exact ⟨e, by unfold clientPostInit; rw [hord, hf], check_error_expected env s k e he⟩

def strList : TV → Bool
  | .list xs => xs.all TV.isStr
  | _ => false

def strTable : TV → Bool
  | .table kvs => kvs.all (fun kv => kv.2.isStr)
  | _ => false

/-- the fields of the dataclass hold values of the kinds its annotations name -/
structure WellTyped (s : ClientSettings) : Prop where
  schemaPath : s.schemaPath.isStr = true
  headers : strTable s.remoteSchemaHeaders = true
  queriesPath : s.queriesPath.isStr = true
  packageName : s.targetPackageName.isStr = true
  packagePath : s.targetPackagePath.isStr = true
  clientName : s.clientName.isStr = true
  clientFileName : s.clientFileName.isStr = true
  baseClientName : s.baseClientName.isStr = true
  baseClientPath : s.baseClientFilePath.isStr = true
  enumsModule : s.enumsModuleName.isStr = true
  inputTypesModule : s.inputTypesModuleName.isStr = true
  fragmentsModule : s.fragmentsModuleName.isStr = true
  asyncClient : s.asyncClient.isBool = true
  otelClient : s.opentelemetryClient.isBool = true
  files : strList s.filesToInclude = true

theorem pathExpected_typed (missing : List String) (err : String → ConfigError) (v : TV) (e : ConfigError)
    (hv : v.isStr = true) (herr : ∀ p, (err p).typed = true) (h : PathExpected missing err v e) : e.typed = true := by
  rcases h with ⟨p, _, rfl⟩ | ⟨hn, _⟩
  · exact herr p
  · rw [hv] at hn; cases hn

theorem nameExpected_typed (v : TV) (e : ConfigError) (hv : v.isStr = true) (h : NameExpected v e) : e.typed = true := by
  rcases h with ⟨p, _, rfl⟩ | ⟨hn, _⟩
  · rfl
  · rw [hv] at hn; cases hn

theorem headersExpected_typed (v : TV) (e : ConfigError) (hh : strTable v = true)
    (hx : (∃ kvs, v = .table kvs ∧ HeaderErrorOf kvs e) ∨ (v.isTable = false ∧ e = .internal "AttributeError")) :
    e.typed = true := by
  rcases hx with ⟨kvs, hk, kv, hm, hkv⟩ | ⟨hn, _⟩
  · rw [hk] at hh
    simp only [strTable, List.all_eq_true] at hh
    rcases hkv with ⟨x, _, rfl⟩ | ⟨hns, _⟩
    · rfl
    · rw [hh kv hm] at hns; cases hns
  · cases v <;> simp [strTable, TV.isTable] at hh hn

theorem baseClientData_isStr (env : Env) (s : ClientSettings) (hn : s.baseClientName.isStr = true)
    (hp : s.baseClientFilePath.isStr = true) :
    (baseClientData env s).1.isStr = true ∧ (baseClientData env s).2.isStr = true := by
  unfold baseClientData
  cases defaultsOutcome s
  case pick kind => exact ⟨rfl, rfl⟩
  all_goals exact ⟨hn, hp⟩

theorem check_error_typed (env : Env) (s : ClientSettings) (hw : WellTyped s) (k : ClientCheck) (e : ConfigError)
    (h : evalClientCheck env s k = some e) : e.typed = true := by
  have hx := check_error_expected env s k e h
  have hb := baseClientData_isStr env s hw.baseClientName hw.baseClientPath
  cases k <;> simp only [Expected] at hx
  case queriesRequired => subst hx; rfl
  case schemaSource => subst hx; rfl
  case schemaPathExists => exact pathExpected_typed _ _ _ _ hw.schemaPath (fun _ => rfl) hx
  case headers => exact headersExpected_typed _ _ hw.headers hx
  case commentMode => subst hx; rfl
  case baseClientDefaults =>
    -- boolean flags always select a bundled client
    exfalso
    have hv : Violates env s .baseClientDefaults := (check_raises_iff env s .baseClientDefaults).mp ⟨e, h⟩
    simp only [Violates] at hv
    apply hv.2.2
    have ha := hw.asyncClient
    have ho := hw.otelClient
    cases hva : s.asyncClient <;> simp [hva, TV.isBool] at ha
    cases hvo : s.opentelemetryClient <;> simp [hvo, TV.isBool] at ho
    exact ⟨⟨_, rfl⟩, ⟨_, rfl⟩⟩
  case queriesPathExists => exact pathExpected_typed _ _ _ _ hw.queriesPath (fun _ => rfl) hx
  case packageName => exact nameExpected_typed _ _ hw.packageName hx
  case packagePathDir => exact pathExpected_typed _ _ _ _ hw.packagePath (fun _ => rfl) hx
  case clientName => exact nameExpected_typed _ _ hw.clientName hx
  case clientFileName => exact nameExpected_typed _ _ hw.clientFileName hx
  case baseClientName => exact nameExpected_typed _ _ hb.1 hx
  case baseClientPathExists => exact pathExpected_typed _ _ _ _ hb.2 (fun _ => rfl) hx
  case baseClientIsFile => exact pathExpected_typed _ _ _ _ hb.2 (fun _ => rfl) hx
  case baseClientClass => exact pathExpected_typed _ _ _ _ hb.2 (fun _ => rfl) hx
  case enumsModule => exact nameExpected_typed _ _ hw.enumsModule hx
  case inputTypesModule => exact nameExpected_typed _ _ hw.inputTypesModule hx
  case fragmentsModule => exact nameExpected_typed _ _ hw.fragmentsModule hx
  case filesToInclude =>
    have hf := hw.files
    cases hv : s.filesToInclude <;> simp [hv, strList] at hf
    case list xs =>
      rw [hv] at hx
      simp only [TV.pyIter, reduceCtorEq, false_and, Option.some.injEq, exists_eq_left', false_or] at hx
      obtain ⟨f, hm, hh⟩ := hx
      rcases hh with ⟨p, _, _, rfl⟩ | ⟨hns, _⟩
      · rfl
      · have := hf f hm
        rw [this] at hns; cases hns

/-- **violation_typed** (must): for option values of the documented kinds, a violated constraint whose
    predecessors hold is rejected with the corresponding ariadne-codegen exception class -/
theorem violation_typed (env : Env) (s : ClientSettings) (hw : WellTyped s) (k : ClientCheck) (pre post : List ClientCheck)
    (hord : ClientCheck.order = pre ++ k :: post)
    (hk : Violates env s k) (hpre : ∀ k' ∈ pre, ¬ Violates env s k') :
    ∃ e, clientPostInit env s = .error e ∧ Expected env s k e ∧ e.typed = true := by
  obtain ⟨e, he, hf⟩ := firstError_first_violation (check_raises_iff env s) (post := post) hk hpre
  exact ⟨e, by unfold clientPostInit; rw [hord, hf], check_error_expected env s k e he, check_error_typed env s hw k e he⟩

/-- non-vacuity of `violation_typed`: a keyword as client name with everything else in order -/
def exEnv : Env := {
  pathExists := fun _ => true, isDir := fun _ => true, isFile := fun _ => true,
  readText := fun _ => "class AsyncBaseClient:", environ := fun _ => none, isIdent := fun _ => true,
  cwd := "/w", defaultPath := fun k => k }
def exSettings : ClientSettings :=
  { schemaPath := "s.graphql", queriesPath := "q.graphql", targetPackagePath := "/w", clientName := "class" }
example : clientPostInit exEnv exSettings = .error (.badIdentifier "class") := by decide +kernel
example : WellTyped exSettings := by constructor <;> decide

/-- the Python `1 == True` trap, at the level of `__post_init__`: the NUMBER 1 as comment mode is an
    unknown comment mode (`CommentsStrategy(1)` raises), while as a FLAG it selects the async client -/
example : clientPostInit exEnv { exSettings with clientName := "Client", includeComments := .int 1 } =
    .error (.badCommentMode "1") := by decide +kernel
example : clientPostInit exEnv { exSettings with clientName := "Client", includeComments := .float "1.0" } =
    .error (.badCommentMode "1.0") := by decide +kernel
example : (clientPostInit exEnv { exSettings with clientName := "Client", asyncClient := .int 1, opentelemetryClient := .float "0.0" }).toOption.map
    (·.baseClientName) = some (.str "AsyncBaseClient") := by decide +kernel
example : clientPostInit exEnv { exSettings with clientName := "Client", asyncClient := .int 2 } = .error (.internal "KeyError") := by decide +kernel
example : clientPostInit exEnv { exSettings with clientName := .int 5 } = .error (.internal "AttributeError") := by decide +kernel

/-- conversely every rejection comes from a violated constraint all of whose predecessors hold -/
theorem rejection_is_a_violation (env : Env) (s : ClientSettings) (e : ConfigError)
    (h : clientPostInit env s = .error e) :
    ∃ pre k post, ClientCheck.order = pre ++ k :: post ∧ Violates env s k ∧ Expected env s k e ∧
      ∀ k' ∈ pre, ¬ Violates env s k' := by
  unfold clientPostInit at h
  cases hf : firstError (evalClientCheck env s) ClientCheck.order with
  | none => simp [hf] at h
  | some e' =>
    simp [hf] at h
    subst h
    obtain ⟨pre, k, post, hs, hk, hv, hpre⟩ := firstError_some_violation (check_raises_iff env s) _ _ hf
    exact ⟨pre, k, post, hs, hv, check_error_expected env s k _ hk, hpre⟩

/-! ## 2. Every configuration meeting the constraints is accepted -/

/-- **valid_accepted** (must): when no constraint is violated the settings are accepted -/
theorem valid_accepted (env : Env) (s : ClientSettings) (h : ∀ k, ¬ Violates env s k) :
    clientPostInit env s = .ok (finalizeClient env s) := by
  have : firstError (evalClientCheck env s) ClientCheck.order = none :=
    (firstError_none_iff_no_violation (check_raises_iff env s) _).mpr fun k _ => h k
  simp [clientPostInit, this]

theorem accepted_iff (env : Env) (s : ClientSettings) :
    (∃ s', clientPostInit env s = .ok s') ↔ ∀ k, ¬ Violates env s k := by
  constructor
  · rintro ⟨s', hs'⟩ k
    unfold clientPostInit at hs'
    cases hf : firstError (evalClientCheck env s) ClientCheck.order with
    | some e => simp [hf] at hs'
    | none => exact (firstError_none_iff_no_violation (check_raises_iff env s) _).mp hf k (mem_order k)
  · intro h; exact ⟨_, valid_accepted env s h⟩

theorem exSettings_Client_facts :
    clientPostInit exEnv { exSettings with clientName := "Client" } =
      .ok (finalizeClient exEnv { exSettings with clientName := "Client" }) ∧
    classDeclared exEnv "" (baseClientData exEnv { exSettings with clientName := "Client" }).1.pyStr = true := by
  decide +kernel

example : clientPostInit exEnv { exSettings with clientName := "Client" } =
    .ok (finalizeClient exEnv { exSettings with clientName := "Client" }) := exSettings_Client_facts.1

/-- The DOCUMENTED constraints of the client strategy (README option table + property text), read
    on values of every kind: a path is a `str` naming something that exists, a name is a `str` usable as
    an identifier, a comment mode is one of the three strings, headers are a table of resolvable `str`s,
    "given" is Python's truthiness.  One of them is stronger than what the code tests: the base
    client class must be declared in the file (not merely occur as a substring; finding C17-F7).
    Options the property names no constraint for (the remaining flags, `remote_schema_url` when a path is
    given, `plugins`, `remote_schema_verify_ssl`) do not occur. -/
structure Documented (env : Env) (s : ClientSettings) : Prop where
  queries : s.queriesPath.truthy = true ∨ s.enableCustomOperations.truthy = true
  source : s.schemaPath.truthy = true ∨ s.remoteSchemaUrl.truthy = true
  schemaPath : s.schemaPath.truthy = true → IsPath env.pathExists s.schemaPath
  headers : HeadersOk env s.remoteSchemaHeaders
  comments : isCommentMode s.includeComments = true
  bundled : s.baseClientName.truthy = false → s.baseClientFilePath.truthy = false →
      BoolLike s.asyncClient ∧ BoolLike s.opentelemetryClient
  queriesPath : IsPath env.pathExists s.queriesPath
  packageName : IsName env s.targetPackageName
  packagePath : IsPath env.isDir s.targetPackagePath
  clientName : IsName env s.clientName
  clientFileName : IsName env s.clientFileName
  baseClientName : IsName env (baseClientData env s).1
  baseClientPath : IsPath env.pathExists (baseClientData env s).2
  baseClientFile : IsPath env.isFile (baseClientData env s).2
  baseClientClass : IsPath (fun p => classDeclared env p (baseClientData env s).1.pyStr) (baseClientData env s).2
  enumsModule : IsName env s.enumsModuleName
  inputTypesModule : IsName env s.inputTypesModuleName
  fragmentsModule : IsName env s.fragmentsModuleName
  files : FilesOk env s.filesToInclude

theorem documented_no_violation (env : Env) (s : ClientSettings) (d : Documented env s) (k : ClientCheck) :
    ¬ Violates env s k := by
  cases k <;> simp only [Violates]
  case queriesRequired => rintro ⟨h1, h2⟩; rcases d.queries with h | h <;> simp_all
  case schemaSource => rintro ⟨h1, h2⟩; rcases d.source with h | h <;> simp_all
  case schemaPathExists => rintro ⟨h1, h2⟩; exact h2 (d.schemaPath h1)
  case headers => exact fun h => h d.headers
  case commentMode => have := d.comments; simp_all
  case baseClientDefaults => rintro ⟨h1, h2, h3⟩; exact h3 (d.bundled h1 h2)
  case queriesPathExists => exact fun h => h d.queriesPath
  case packageName => exact fun h => h d.packageName
  case packagePathDir => exact fun h => h d.packagePath
  case clientName => exact fun h => h d.clientName
  case clientFileName => exact fun h => h d.clientFileName
  case baseClientName => exact fun h => h d.baseClientName
  case baseClientPathExists => exact fun h => h d.baseClientPath
  case baseClientIsFile => exact fun h => h d.baseClientFile
  case baseClientClass =>
    exact fun h => h (isPath_mono _ _ _ (fun p hp => classDeclared_imp_definedIn env p _ hp) d.baseClientClass)
  case enumsModule => exact fun h => h d.enumsModule
  case inputTypesModule => exact fun h => h d.inputTypesModule
  case fragmentsModule => exact fun h => h d.fragmentsModule
  case filesToInclude => exact fun h => h d.files

/-- every configuration meeting the documented constraints is accepted -/
theorem documented_accepted (env : Env) (s : ClientSettings) (d : Documented env s) :
    clientPostInit env s = .ok (finalizeClient env s) :=
  valid_accepted env s (documented_no_violation env s d)

def badEnv : Env := { exEnv with isIdent := fun n => n != "not-valid" }
def badSettings : ClientSettings := { exSettings with clientName := "Client", fragmentsModuleName := "not-valid" }

/-- `__post_init__` as it was BEFORE /repo 0686a80 (the check of `fragments_module_name` absent).
    Kept only to document what a regression looks like; nothing else refers to it. -/
def orderBefore0686a80 : List ClientCheck := ClientCheck.order.filter (· != .fragmentsModule)
def clientPostInitBefore0686a80 (env : Env) (s : ClientSettings) : Except ConfigError ClientSettings :=
  match firstError (evalClientCheck env s) orderBefore0686a80 with
  | some e => .error e
  | none => .ok (finalizeClient env s)

/-- the old witness of C17-F2 is rejected now, was accepted by the old check list, and is no valid name -/
theorem badSettings_facts :
    clientPostInit badEnv badSettings = .error (.badIdentifier "not-valid") ∧
    clientPostInitBefore0686a80 badEnv badSettings = .ok (finalizeClient badEnv badSettings) ∧
    validName badEnv "not-valid" = false := by decide +kernel

/-- regression for the repaired finding C17-F2, at the level of `__post_init__`: the old witness
    (`fragments_module_name = "not-valid"`, everything else in order) is rejected with the
    identifier exception naming the value -/
theorem F2_settings_now_rejected :
    clientPostInit badEnv badSettings = .error (.badIdentifier "not-valid") := badSettings_facts.1

/-- the old code accepted the witness although it violates a documented constraint (what C17-F2 was) -/
theorem before_0686a80_accepted_undocumented :
    (∃ s', clientPostInitBefore0686a80 badEnv badSettings = .ok s') ∧ ¬ Documented badEnv badSettings := by
  refine ⟨⟨_, badSettings_facts.2.1⟩, fun d => ?_⟩
  obtain ⟨n, hn, hv⟩ := d.fragmentsModule
  have : n = "not-valid" := by
    have h : badSettings.fragmentsModuleName = TV.str "not-valid" := rfl
    rw [h] at hn; injection hn with hn; exact hn.symm
  subst this
  rw [badSettings_facts.2.2] at hv
  cases hv

def prefEnv : Env := { exEnv with readText := fun _ => "class MyBaseClient:" }
def prefSettings : ClientSettings :=
  { exSettings with clientName := "Client", baseClientName := "MyBase", baseClientFilePath := "/w/custom_base.py" }

/-- a base client name that is only a prefix of the declared class: accepted, yet not declared -/
theorem prefSettings_facts :
    clientPostInit prefEnv prefSettings = .ok (finalizeClient prefEnv prefSettings) ∧
    (baseClientData prefEnv prefSettings).2 = TV.str "/w/custom_base.py" ∧
    classDeclared prefEnv "/w/custom_base.py" (baseClientData prefEnv prefSettings).1.pyStr = false := by decide +kernel

/-- the converse of `documented_accepted` fails: the code accepts a configuration that violates a documented
    constraint (finding C17-F7; C17-F2 was the other such case until /repo 0686a80). -/
theorem accepted_not_documented :
    ¬ (∀ env s, (∃ s', clientPostInit env s = .ok s') → Documented env s) := by
  intro h
  have d := h prefEnv prefSettings ⟨_, prefSettings_facts.1⟩
  obtain ⟨p, hp, hv⟩ := d.baseClientClass
  rw [prefSettings_facts.2.1] at hp
  injection hp with hp
  subst hp
  exact Bool.noConfusion (prefSettings_facts.2.2.symm.trans hv)

theorem documented_of_no_violation (env : Env) (s : ClientSettings) (h : ∀ k, ¬ Violates env s k)
    (hc : ∀ p, (baseClientData env s).2 = .str p → classDefinedIn env p (baseClientData env s).1.pyStr = true →
            classDeclared env p (baseClientData env s).1.pyStr = true) : Documented env s where
  queries := by
    have := h .queriesRequired; simp only [Violates] at this
    cases hq : s.queriesPath.truthy
    · right
      cases he : s.enableCustomOperations.truthy
      · exact absurd ⟨hq, he⟩ this
      · rfl
    · exact Or.inl rfl
  source := by
    have := h .schemaSource; simp only [Violates] at this
    cases hq : s.schemaPath.truthy
    · right
      cases he : s.remoteSchemaUrl.truthy
      · exact absurd ⟨hq, he⟩ this
      · rfl
    · exact Or.inl rfl
  schemaPath := by
    intro hne
    have := h .schemaPathExists; simp only [Violates] at this
    exact Classical.byContradiction fun hn => this ⟨hne, hn⟩
  headers := Classical.not_not.mp (h .headers)
  comments := by have := h .commentMode; simp only [Violates] at this; simpa using this
  bundled := by
    intro h1 h2
    have := h .baseClientDefaults; simp only [Violates] at this
    exact Classical.byContradiction fun hn => this ⟨h1, h2, hn⟩
  queriesPath := Classical.not_not.mp (h .queriesPathExists)
  packageName := Classical.not_not.mp (h .packageName)
  packagePath := Classical.not_not.mp (h .packagePathDir)
  clientName := Classical.not_not.mp (h .clientName)
  clientFileName := Classical.not_not.mp (h .clientFileName)
  baseClientName := Classical.not_not.mp (h .baseClientName)
  baseClientPath := Classical.not_not.mp (h .baseClientPathExists)
  baseClientFile := Classical.not_not.mp (h .baseClientIsFile)
  baseClientClass := by
    have := h .baseClientClass; simp only [Violates] at this
    obtain ⟨p, hp, hdef⟩ := Classical.byContradiction this
    exact ⟨p, hp, hc p hp hdef⟩
  enumsModule := Classical.not_not.mp (h .enumsModule)
  inputTypesModule := Classical.not_not.mp (h .inputTypesModule)
  fragmentsModule := Classical.not_not.mp (h .fragmentsModule)
  files := Classical.not_not.mp (h .filesToInclude)

/-- **accepted_iff_documented**, for option values of EVERY kind at every option: with C17-F2 repaired,
    acceptance by `__post_init__` and the documented constraints differ ONLY by finding C17-F7 — where
    the base client class is really declared in the file, the settings are accepted exactly when every
    documented constraint holds.  (`s` ranges over dataclasses whose fields hold arbitrary `TV`s: a number
    as comment mode is not a comment mode, a number as name is not a name, a list as path is not a path.) -/
theorem accepted_iff_documented (env : Env) (s : ClientSettings)
    (hc : ∀ p, (baseClientData env s).2 = .str p → classDefinedIn env p (baseClientData env s).1.pyStr = true →
            classDeclared env p (baseClientData env s).1.pyStr = true) :
    (∃ s', clientPostInit env s = .ok s') ↔ Documented env s := by
  constructor
  · intro h
    exact documented_of_no_violation env s ((accepted_iff env s).mp h) hc
  · intro d; exact ⟨_, documented_accepted env s d⟩

theorem exEnv_class_declared (cls : String) (p : String) : classDeclared exEnv p cls = classDeclared exEnv "" cls := rfl

example : Documented exEnv { exSettings with clientName := "Client" } :=
  (accepted_iff_documented exEnv _ (by intro p _ _; rw [exEnv_class_declared]; exact exSettings_Client_facts.2)).mp
    ⟨_, exSettings_Client_facts.1⟩

/-! ### values of another kind than the documented one are not accepted (corollaries of `accepted_iff`, one per
      constraint class) -/

theorem comment_mode_must_be_a_mode (env : Env) (s : ClientSettings) (h : isCommentMode s.includeComments = false) :
    ∀ s', clientPostInit env s ≠ .ok s' := by
  intro s' hs
  exact (accepted_iff env s).mp ⟨s', hs⟩ .commentMode (by simpa [Violates] using h)

/-- numbers, lists and tables are never comment modes (in particular 1, 0, 1.0, 0.0) -/
theorem non_str_is_no_comment_mode (v : TV) (h : v.isStr = false) : isCommentMode v = false := by
  cases v <;> simp_all [isCommentMode, TV.isStr]

theorem name_options_must_be_str (env : Env) (s : ClientSettings)
    (h : s.targetPackageName.isStr = false ∨ s.clientName.isStr = false ∨ s.clientFileName.isStr = false ∨
         s.enumsModuleName.isStr = false ∨ s.inputTypesModuleName.isStr = false ∨ s.fragmentsModuleName.isStr = false) :
    ∀ s', clientPostInit env s ≠ .ok s' := by
  intro s' hs
  have hnv := (accepted_iff env s).mp ⟨s', hs⟩
  have key : ∀ v : TV, v.isStr = false → ¬ IsName env v := by
    rintro v hv ⟨n, rfl, _⟩; cases hv
  rcases h with h | h | h | h | h | h
  · exact hnv .packageName (key _ h)
  · exact hnv .clientName (key _ h)
  · exact hnv .clientFileName (key _ h)
  · exact hnv .enumsModule (key _ h)
  · exact hnv .inputTypesModule (key _ h)
  · exact hnv .fragmentsModule (key _ h)

theorem path_options_must_be_str (env : Env) (s : ClientSettings)
    (h : (s.schemaPath.truthy = true ∧ s.schemaPath.isStr = false) ∨ s.queriesPath.isStr = false ∨
         s.targetPackagePath.isStr = false) :
    ∀ s', clientPostInit env s ≠ .ok s' := by
  intro s' hs
  have hnv := (accepted_iff env s).mp ⟨s', hs⟩
  have key : ∀ (t : String → Bool) (v : TV), v.isStr = false → ¬ IsPath t v := by
    rintro t v hv ⟨n, rfl, _⟩; cases hv
  rcases h with ⟨ht, h⟩ | h | h
  · exact hnv .schemaPathExists ⟨ht, key _ _ h⟩
  · exact hnv .queriesPathExists (key _ _ h)
  · exact hnv .packagePathDir (key _ _ h)

/-! ## 3. The graphqlschema strategy's settings -/

/-- the target file name has one of the three supported suffixes -/
def GoodTarget (f : String) : Prop :=
  (pathSuffix f).isEmpty = false ∧
    (asciiLower ((pathSuffix f).drop 1) = "py" ∨ asciiLower ((pathSuffix f).drop 1) = "graphql"
      ∨ asciiLower ((pathSuffix f).drop 1) = "gql")

def ViolatesS (env : Env) (s : SchemaSettings) : SchemaCheck → Prop
  | .schemaSource => s.schemaPath.truthy = false ∧ s.remoteSchemaUrl.truthy = false
  | .schemaPathExists => s.schemaPath.truthy = true ∧ ¬ IsPath env.pathExists s.schemaPath
  | .headers => ¬ HeadersOk env s.remoteSchemaHeaders
  | .targetFileType => ¬ ∃ f, s.targetFilePath = .str f ∧ GoodTarget f
  | .schemaVariable => ¬ IsName env s.schemaVariableName
  | .typeMapVariable => ¬ IsName env s.typeMapVariableName

set_option linter.unusedVariables false in
def ExpectedS (env : Env) (s : SchemaSettings) : SchemaCheck → ConfigError → Prop
  | .schemaSource, e => e = .noSchemaSource
  | .schemaPathExists, e => PathExpected s.missing .pathMissing s.schemaPath e
  | .headers, e =>
      (∃ kvs, s.remoteSchemaHeaders = .table kvs ∧ HeaderErrorOf kvs e) ∨
      (s.remoteSchemaHeaders.isTable = false ∧ e = .internal "AttributeError")
  | .targetFileType, e =>
      (∃ f, s.targetFilePath = .str f ∧ (e = .targetNoFileType f ∨
          e = .targetBadFileType f (asciiLower ((pathSuffix f).drop 1)))) ∨
      (s.targetFilePath.isStr = false ∧ e = .typeErrorAsMissing s.missing)
  | .schemaVariable, e => NameExpected s.schemaVariableName e
  | .typeMapVariable, e => NameExpected s.typeMapVariableName e

theorem targetFileCheck_some_iff (f : String) : (∃ e, targetFileCheck f = some e) ↔ ¬ GoodTarget f := by
  simp only [targetFileCheck, GoodTarget]
  generalize (pathSuffix f).isEmpty = b
  generalize asciiLower ((pathSuffix f).drop 1) = t
  cases b
  · by_cases h1 : t = "py" <;> by_cases h2 : t = "graphql" <;> by_cases h3 : t = "gql" <;> simp [h1, h2, h3]
  · simp

theorem checkS_raises_iff (env : Env) (s : SchemaSettings) (k : SchemaCheck) :
    (∃ e, evalSchemaCheck env s k = some e) ↔ ViolatesS env s k := by
  cases k <;> simp only [evalSchemaCheck, ViolatesS]
  case schemaSource => cases s.schemaPath.truthy <;> cases s.remoteSchemaUrl.truthy <;> simp
  case schemaPathExists =>
    cases ht : s.schemaPath.truthy
    · simp
    · simp only [if_true, true_and]; exact pathCheck_some_iff _ _ _ _
  case headers =>
    rw [← firstBadHeaderV_none_iff]
    cases firstBadHeaderV env s.remoteSchemaHeaders <;> simp
  case targetFileType =>
    cases hv : s.targetFilePath <;> simp [targetFileCheckV]
    case str f => simpa using targetFileCheck_some_iff f
  case schemaVariable => exact identCheckV_some_iff env _
  case typeMapVariable => exact identCheckV_some_iff env _

theorem checkS_error_expected (env : Env) (s : SchemaSettings) (k : SchemaCheck) (e : ConfigError)
    (h : evalSchemaCheck env s k = some e) : ExpectedS env s k e := by
  cases k <;> simp only [evalSchemaCheck, ExpectedS] at h ⊢
  case schemaSource => split at h <;> simp_all
  case schemaPathExists =>
    split at h
    · exact pathExpected_of _ _ _ _ _ h
    · cases h
  case headers => exact firstBadHeaderV_some env _ e h
  case targetFileType =>
    cases hv : s.targetFilePath <;> simp only [hv, targetFileCheckV, TV.isStr] at h ⊢
    case str f =>
      left
      refine ⟨f, rfl, ?_⟩
      simp only [targetFileCheck] at h
      split at h
      · left; simp_all
      · split at h
        · simp at h
        · right; simp_all
    all_goals
      right
      simp at h
      first | exact ⟨rfl, h.symm⟩ | exact ⟨trivial, h.symm⟩ | simp_all
  case schemaVariable => exact identCheckV_eq env _ e h
  case typeMapVariable => exact identCheckV_eq env _ e h

/-- the fields of `GraphQLSchemaSettings` hold values of the kinds its annotations name -/
structure WellTypedS (s : SchemaSettings) : Prop where
  schemaPath : s.schemaPath.isStr = true
  headers : strTable s.remoteSchemaHeaders = true
  target : s.targetFilePath.isStr = true
  schemaVariable : s.schemaVariableName.isStr = true
  typeMapVariable : s.typeMapVariableName.isStr = true

theorem checkS_error_typed (env : Env) (s : SchemaSettings) (hw : WellTypedS s) (k : SchemaCheck) (e : ConfigError)
    (h : evalSchemaCheck env s k = some e) : e.typed = true := by
  have hx := checkS_error_expected env s k e h
  cases k <;> simp only [ExpectedS] at hx
  case schemaSource => subst hx; rfl
  case schemaPathExists => exact pathExpected_typed _ _ _ _ hw.schemaPath (fun _ => rfl) hx
  case headers => exact headersExpected_typed _ _ hw.headers hx
  case targetFileType =>
    rcases hx with ⟨f, _, rfl | rfl⟩ | ⟨hn, _⟩
    · rfl
    · rfl
    · rw [hw.target] at hn; cases hn
  case schemaVariable => exact nameExpected_typed _ _ hw.schemaVariable hx
  case typeMapVariable => exact nameExpected_typed _ _ hw.typeMapVariable hx

/-- **violation_typed** for `GraphQLSchemaSettings` (bad target file suffix, invalid variable names ...) -/
theorem violation_typed_schema (env : Env) (s : SchemaSettings) (k : SchemaCheck) (pre post : List SchemaCheck)
    (hord : SchemaCheck.order = pre ++ k :: post)
    (hk : ViolatesS env s k) (hpre : ∀ k' ∈ pre, ¬ ViolatesS env s k') :
    ∃ e, schemaPostInit env s = .error e ∧ ExpectedS env s k e ∧ (WellTypedS s → e.typed = true) := by
  obtain ⟨e, he, hf⟩ := firstError_first_violation (checkS_raises_iff env s) (post := post) hk hpre
  exact ⟨e, by unfold schemaPostInit; rw [hord, hf], checkS_error_expected env s k e he,
    fun hw => checkS_error_typed env s hw k e he⟩

example : schemaPostInit exEnv { schemaPath := "s.graphql", targetFilePath := "out/schema.txt" } =
    .error (.targetBadFileType "out/schema.txt" "txt") := by decide +kernel
example : schemaPostInit exEnv { schemaPath := "s.graphql", targetFilePath := "schema" } =
    .error (.targetNoFileType "schema") := by decide +kernel
example : schemaPostInit exEnv { schemaPath := "s.graphql", targetFilePath := .int 1, missing := ["plugins"] } =
    .error (.typeErrorAsMissing ["plugins"]) := by decide +kernel

/-- a base name that is only a dot plus an extension (`out/.py`, `.graphql`, `.GQL`) has NO file type
    (`PurePath.suffix` is empty for it): whatever the directory part, it is refused as "missing a file type" -/
theorem dot_only_name_refused (f : String) (h : pathSuffix f = []) : targetFileCheck f = some (.targetNoFileType f) := by
  simp [targetFileCheck, h]

theorem dot_only_name_violates (env : Env) (s : SchemaSettings) (f : String) (hs : s.targetFilePath = .str f)
    (h : pathSuffix f = []) : ViolatesS env s .targetFileType := by
  simp only [ViolatesS]
  rintro ⟨g, hg, hgood⟩
  rw [hs] at hg
  injection hg with hg
  subst hg
  simp [GoodTarget, h] at hgood

example : pathSuffix "out/.py" = [] ∧ pathSuffix ".graphql" = [] ∧ pathSuffix ".GQL" = [] ∧ pathSuffix "a.b/.gql" = [] ∧
    pathSuffix "out/..py" = ['.', 'p', 'y'] := by decide +kernel
example : schemaPostInit exEnv { schemaPath := "s.graphql", targetFilePath := "out/.py" } =
    .error (.targetNoFileType "out/.py") := by decide +kernel
example : schemaPostInit exEnv { schemaPath := "s.graphql", targetFilePath := ".GQL" } =
    .error (.targetNoFileType ".GQL") := by decide +kernel

/-- the operations are validated as ONE document (`validate(schema, document, rules)` on everything
    `queries_path` holds - fragments-only documents and rules that need the whole document, such as unique
    operation names, included): whenever that reports an error and the files loaded, `get_graphql_queries`
    raises InvalidOperationForSchema carrying every message -/
theorem invalid_document_refused (q : QueriesOracle) (h : loadSource q.src = .ok ()) (hv : q.validationErrors ≠ []) :
    loadQueries q = .error (.codegen "InvalidOperationForSchema" ("\n\n".intercalate q.validationErrors)) := by
  rw [loadQueries_eq, h]
  cases hq : q.validationErrors with
  | nil => exact absurd hq hv
  | cons a l => rfl

theorem valid_accepted_schema (env : Env) (s : SchemaSettings) (h : ∀ k, ¬ ViolatesS env s k) :
    schemaPostInit env s = .ok (finalizeSchema env s) := by
  have : firstError (evalSchemaCheck env s) SchemaCheck.order = none :=
    (firstError_none_iff_no_violation (checkS_raises_iff env s) _).mpr fun k _ => h k
  simp [schemaPostInit, this]

example : schemaPostInit exEnv { schemaPath := "s.graphql", targetFilePath := "d.x/S.GraphQL" } =
    .ok (finalizeSchema exEnv { schemaPath := "s.graphql", targetFilePath := "d.x/S.GraphQL" }) := by decide +kernel

/-! ## 4. config.py: section lookup, scalars, unknown keys, purity — for values of every kind -/

/-- a configuration whose section is `[tool.ariadne-codegen]` -/
def mkCfg (sec : Dict) : Dict := [("tool", .table [("ariadne-codegen", .table sec)])]

theorem getSection_mkCfg (sec : Dict) : getSection (mkCfg sec) = .ok (.table sec, false) := by
  simp [getSection, mkCfg, TV.lookup]

/-- no `[tool.ariadne-codegen]` and no `[ariadne-codegen]` section: `MissingConfiguration`, both strategies -/
theorem no_section_rejected (env : Env) (top : Dict)
    (h1 : TV.lookup "tool" top = none ∨ ∃ tool, TV.lookup "tool" top = some (.table tool) ∧ TV.lookup "ariadne-codegen" tool = none)
    (h2 : TV.lookup "ariadne-codegen" top = none) :
    (getClientSettings env top).result = .error .missingSection ∧
    (getSchemaSettings env top).result = .error .missingSection := by
  have hs : getSection top = .error .missingSection := by
    rcases h1 with h | ⟨tool, ht, hn⟩
    · simp [getSection, h, h2]
    · simp [getSection, ht, hn, h2]
  simp [getClientSettings, readRawClient, getSchemaSettings, readRawSchema, hs, bind, Except.bind]

example : (getClientSettings exEnv [("tool", .table [("black", .table [])])]).result = .error .missingSection := by decide +kernel

set_option linter.unusedVariables false in
/-- without a `tool` table the deprecated top-level section is still read (with a warning) -/
theorem deprecated_section_read (env : Env) (top : Dict) (sec : TV) (h1 : TV.lookup "tool" top = none)
    (h2 : TV.lookup "ariadne-codegen" top = some sec) :
    getSection top = .ok (sec, true) := by
  simp [getSection, h1, h2]

/-- a section that is not a table (`ariadne-codegen = 1` under `[tool]`): `.copy()` / `.items()` fail
    with a bare `AttributeError`, both strategies -/
theorem section_not_table (env : Env) (top : Dict) (v : TV) (d : Bool) (hs : getSection top = .ok (v, d))
    (hv : v.isTable = false) :
    (getClientSettings env top).result = .error (.internal "AttributeError") ∧
    (getSchemaSettings env top).result = .error (.internal "AttributeError") := by
  cases v <;> simp [TV.isTable] at hv <;>
    simp [getClientSettings, readRawClient, getSchemaSettings, readRawSchema, hs, bind, Except.bind]

/-- `tool = <number / boolean>`: `"ariadne-codegen" in tool` is a bare `TypeError` -/
theorem tool_not_iterable (top : Dict) (v : TV) (ht : TV.lookup "tool" top = some v)
    (hv : v.containsStr "ariadne-codegen" = none) : getSection top = .error (.internal "TypeError") := by
  cases v <;> simp [TV.containsStr] at hv <;> simp [getSection, ht, TV.containsStr]

example : getSection [("tool", .str "see ariadne-codegen docs")] = .error (.internal "TypeError") := by decide +kernel
example : getSection [("tool", .str "nothing"), ("ariadne-codegen", .table [])] = .ok (.table [], true) := by decide +kernel

/-- **scalar without type**: the first scalar table lacking `type` (all earlier ones well-formed)
    makes `get_client_settings` raise `MissingConfiguration("Missing 'type' field ...")` -/
theorem scalar_without_type_rejected (env : Env) (sec : Dict) (pre post : List (String × TV)) (n : String)
    (d : List (String × TV)) (pres : List ScalarData)
    (hs : TV.lookup "scalars" sec = some (.table (pre ++ (n, .table d) :: post)))
    (hpre : parseScalars pre = .ok pres) (hd : TV.lookup "type" d = none) :
    (getClientSettings env (mkCfg sec)).result = .error .scalarMissingType := by
  simp [getClientSettings, readRawClient, getSection_mkCfg, Heap.copy, hs, bind, Except.bind,
    parseScalars_missing_type pre post n d pres hpre hd]

example : (getClientSettings exEnv (mkCfg [("schema_path", .str "s"), ("queries_path", .str "q"),
    ("scalars", .table [("A", .table [("type", .str "str")]), ("B", .table [("parse", .str "p")])])])).result
    = .error .scalarMissingType := by decide +kernel

/-- `scalars` that is not a table: `.items()` is a bare `AttributeError` -/
theorem scalars_not_table (env : Env) (sec : Dict) (v : TV) (hs : TV.lookup "scalars" sec = some v)
    (hv : v.isTable = false) : (getClientSettings env (mkCfg sec)).result = .error (.internal "AttributeError") := by
  cases v <;> simp [TV.isTable] at hv <;>
    simp [getClientSettings, readRawClient, getSection_mkCfg, Heap.copy, hs, bind, Except.bind]

/-- a scalar entry that is not a table (`scalars.DT = "datetime"`): `data["type"]` is a bare `TypeError` -/
theorem scalar_entry_not_table (n : String) (v : TV) (hv : v.isTable = false) :
    parseScalar n v = .error (.internal "TypeError") := by
  cases v <;> simp [TV.isTable] at hv <;> rfl

example : (getClientSettings exEnv (mkCfg [("schema_path", .str "s"), ("queries_path", .str "q"),
    ("scalars", .table [("DT", .str "datetime.datetime")])])).result = .error (.internal "TypeError") := by decide +kernel
/-- a scalar whose `type` is a number is NOT a scalar without type for the code: `"." in 1` -/
example : parseScalar "DT" (.table [("type", .int 1)]) = .error (.internal "TypeError") := by decide +kernel
example : (parseScalar "DT" (.table [("type", .list [])])).toOption.map (·.type_) = some (.list []) := by decide +kernel

/-- **settings_pure** (must): reading settings never mutates the configuration it is given —
    `get_client_settings` copies the section before its two item assignments, and
    `get_graphql_schema_settings` assigns nothing. -/
theorem settings_pure (env : Env) (cfg : Dict) :
    (getClientSettings env cfg).callerAfter = cfg ∧ (getSchemaSettings env cfg).callerAfter = cfg := by
  constructor
  · simp only [getClientSettings, readRawClient]
    cases hs : getSection cfg with
    | error e => rfl
    | ok p =>
      obtain ⟨sec, depr⟩ := p
      cases sec <;> simp only [Heap.copy] <;> try rfl
      case table kvs =>
        split
        · rfl
        · split <;> simp [Heap.setItem]
  · simp only [getSchemaSettings, readRawSchema]
    cases hs : getSection cfg with
    | error e => rfl
    | ok p =>
      obtain ⟨sec, depr⟩ := p
      cases sec <;> rfl

/-- the copy is what makes it so: an item assignment through an ALIASED section reaches the caller -/
example : ((({ caller := mkCfg [("a", .int 0)], viaTool := true, section_ := [("a", .int 0)], aliased := true } : Heap).setItem
    "scalars" (.table [])).caller == mkCfg [("a", .int 0), ("scalars", .table [])]) = true := by decide +kernel

def knownClientKey (k : String) : Bool := clientFieldNames.contains k
def onlyKnown (sec : Dict) : Dict := sec.filter (fun kv => knownClientKey kv.1)

theorem onlyKnown_idem (sec : Dict) : onlyKnown (onlyKnown sec) = onlyKnown sec := by
  simp [onlyKnown, List.filter_filter]

/-- the scalars table as `get_client_settings` reads it -/
def scalarsOf (sec : Dict) : Except ConfigError (List ScalarData) :=
  (match TV.lookup "scalars" sec with
    | none => (Except.ok [] : Except ConfigError (List (String × TV)))
    | some (TV.table kvs) => Except.ok kvs
    | some _ => Except.error (ConfigError.internal "AttributeError")) >>= parseScalars

/-- the section after the two item assignments of `get_client_settings` -/
def sectionAfter (sec : Dict) (scalars : List ScalarData) : Dict :=
  match TV.lookup "include_comments" sec with
  | some (.bool b) => dictSet "include_comments" (.str (if b then "timestamp" else "none")) (dictSet "scalars" (scalarsMarker scalars) sec)
  | _ => dictSet "scalars" (scalarsMarker scalars) sec

theorem readRawClient_mkCfg (env : Env) (sec : Dict) :
    (readRawClient env (mkCfg sec)).result =
      (match scalarsOf sec with
       | .error e => .error e
       | .ok scalars => .ok (buildClient env (sectionAfter sec scalars) scalars)) ∧
    (readRawClient env (mkCfg sec)).deprecatedBoolComments =
      (match scalarsOf sec with
       | .error _ => false
       | .ok _ => (match TV.lookup "include_comments" sec with
                   | some (.bool _) => true
                   | _ => false)) := by
  simp only [readRawClient, getSection_mkCfg, Heap.copy, scalarsOf, sectionAfter]
  generalize (match TV.lookup "scalars" sec with
    | none => (Except.ok [] : Except ConfigError (List (String × TV)))
    | some (TV.table kvs) => Except.ok kvs
    | some _ => Except.error (ConfigError.internal "AttributeError")) >>= parseScalars = parsed
  cases parsed with
  | error e => exact ⟨rfl, rfl⟩
  | ok scalars =>
    simp only [Heap.setItem]
    rw [lookup_dictSet_ne "include_comments" "scalars" _ sec (by decide)]
    cases hl : TV.lookup "include_comments" sec with
    | none => exact ⟨rfl, rfl⟩
    | some v => cases v <;> exact ⟨rfl, rfl⟩

theorem raw_result_onlyKnown (env : Env) (sec : Dict) :
    (readRawClient env (mkCfg sec)).result = (readRawClient env (mkCfg (onlyKnown sec))).result := by
  have hsc : TV.lookup "scalars" (onlyKnown sec) = TV.lookup "scalars" sec :=
    lookup_filter_key knownClientKey "scalars" (by decide) sec
  have hic : TV.lookup "include_comments" (onlyKnown sec) = TV.lookup "include_comments" sec :=
    lookup_filter_key knownClientKey "include_comments" (by decide) sec
  rw [(readRawClient_mkCfg env sec).1, (readRawClient_mkCfg env (onlyKnown sec)).1]
  have hso : scalarsOf (onlyKnown sec) = scalarsOf sec := by simp only [scalarsOf, hsc]
  rw [hso]
  cases scalarsOf sec with
  | error e => rfl
  | ok scalars =>
    have hf1 : ∀ v l, onlyKnown (dictSet "scalars" v l) = dictSet "scalars" v (onlyKnown l) :=
      fun v l => filter_dictSet knownClientKey "scalars" v (by decide) l
    have hf2 : ∀ v l, onlyKnown (dictSet "include_comments" v l) = dictSet "include_comments" v (onlyKnown l) :=
      fun v l => filter_dictSet knownClientKey "include_comments" v (by decide) l
    have key : onlyKnown (sectionAfter sec scalars) = onlyKnown (sectionAfter (onlyKnown sec) scalars) := by
      simp only [sectionAfter, hic]
      cases hl : TV.lookup "include_comments" sec with
      | none => simp only [hf1, onlyKnown_idem]
      | some v => cases v <;> simp only [hf1, hf2, onlyKnown_idem]
    show Except.ok (assignClientFields env (onlyKnown _) scalars) = Except.ok (assignClientFields env (onlyKnown _) scalars)
    rw [key]

/-- **unknown_keys_ignored** (must): two sections that agree on the keys `ClientSettings` knows
    (same values of whatever kind, same order) are read to the same result, whatever else they contain -/
theorem unknown_keys_ignored (env : Env) (sec sec' : Dict) (h : onlyKnown sec = onlyKnown sec') :
    (getClientSettings env (mkCfg sec)).result = (getClientSettings env (mkCfg sec')).result := by
  simp only [getClientSettings]
  rw [raw_result_onlyKnown env sec, raw_result_onlyKnown env sec', h]

example : onlyKnown [("zzz", .int 1), ("schema_path", .str "s"), ("Schema_Path", .str "x"), ("queries_path", .str "q")]
    = onlyKnown [("schema_path", .str "s"), ("queries_path", .str "q"), ("nested", .table [])] := by
  simp [onlyKnown, knownClientKey, clientFieldNames, Tables.clientSettingsFields, List.filter]

def knownSchemaKey (k : String) : Bool := schemaFieldNames.contains k

theorem unknown_keys_ignored_schema (env : Env) (sec sec' : Dict)
    (h : sec.filter (fun kv => knownSchemaKey kv.1) = sec'.filter (fun kv => knownSchemaKey kv.1)) :
    (getSchemaSettings env (mkCfg sec)).result = (getSchemaSettings env (mkCfg sec')).result := by
  have h' : sec.filter (fun kv => schemaFieldNames.contains kv.1) = sec'.filter (fun kv => schemaFieldNames.contains kv.1) := h
  simp only [getSchemaSettings, readRawSchema, getSection_mkCfg, buildSchema, h']

/-! ### `include_comments`: only a TOML boolean takes the deprecated path; 1 / 0 / 1.0 are numbers -/

theorem includeComments_of_section (env : Env) (sec : Dict) (scalars : List ScalarData) (v : TV)
    (h : TV.lookup "include_comments" sec = some v) (hb : v.isBool = false) :
    (buildClient env (sectionAfter sec scalars) scalars).includeComments = v := by
  have hsa : sectionAfter sec scalars = dictSet "scalars" (scalarsMarker scalars) sec := by
    simp only [sectionAfter, h]
    cases v <;> simp [TV.isBool] at hb <;> rfl
  have hk : knownClientKey "include_comments" = true := by decide
  show getV ((sectionAfter sec scalars).filter (fun kv => knownClientKey kv.1)) "include_comments" (.str "stable") = v
  rw [hsa]
  unfold getV
  rw [lookup_filter_key knownClientKey "include_comments" hk, lookup_dictSet_ne "include_comments" "scalars" _ sec (by decide), h]
  rfl

/-- **comment_value_reaches_validation**: a value of `include_comments` that is not a TOML boolean —
    in particular the numbers 1, 0, 1.0, 0.0, which Python considers EQUAL to `True` / `False` — is handed
    to the dataclass unchanged and without the deprecation warning -/
theorem comment_value_reaches_validation (env : Env) (sec : Dict) (v : TV)
    (h : TV.lookup "include_comments" sec = some v) (hb : v.isBool = false) :
    (readRawClient env (mkCfg sec)).deprecatedBoolComments = false ∧
    ∀ s, (readRawClient env (mkCfg sec)).result = .ok s → s.includeComments = v := by
  constructor
  · rw [(readRawClient_mkCfg env sec).2, h]
    cases scalarsOf sec with
    | error e => rfl
    | ok sc => cases v <;> simp [TV.isBool] at hb <;> rfl
  · intro s hs
    rw [(readRawClient_mkCfg env sec).1] at hs
    cases hsc : scalarsOf sec with
    | error e => simp [hsc] at hs
    | ok scalars =>
      simp only [hsc] at hs
      injection hs with hs
      rw [← hs]
      exact includeComments_of_section env sec scalars v h hb

/-- **unknown_comment_mode_rejected**: whatever else the section says, an `include_comments` that is
    neither a TOML boolean nor one of the three mode strings is never accepted — for values of every
    kind (numbers, lists, tables, other strings) -/
theorem unknown_comment_mode_rejected (env : Env) (sec : Dict) (v : TV)
    (h : TV.lookup "include_comments" sec = some v) (hb : v.isBool = false) (hm : isCommentMode v = false) :
    ∀ s', (getClientSettings env (mkCfg sec)).result ≠ .ok s' := by
  intro s' hs
  simp only [getClientSettings, bind, Except.bind] at hs
  cases hr : (readRawClient env (mkCfg sec)).result with
  | error e => simp [hr] at hs
  | ok s =>
    simp only [hr] at hs
    have hv := (comment_value_reaches_validation env sec v h hb).2 s hr
    exact comment_mode_must_be_a_mode env s (by rw [hv]; exact hm) s' hs

/-- the real TOML boolean is still translated (and warned about), when the scalars table is read without error -/
theorem bool_comment_translated (env : Env) (sec : Dict) (b : Bool) (scalars : List ScalarData)
    (h : TV.lookup "include_comments" sec = some (.bool b)) (hsc : scalarsOf sec = .ok scalars) :
    (readRawClient env (mkCfg sec)).deprecatedBoolComments = true ∧
    ∃ s, (readRawClient env (mkCfg sec)).result = .ok s ∧
      s.includeComments = .str (if b then "timestamp" else "none") := by
  constructor
  · rw [(readRawClient_mkCfg env sec).2, hsc, h]
  · rw [(readRawClient_mkCfg env sec).1, hsc]
    refine ⟨_, rfl, ?_⟩
    have hk : knownClientKey "include_comments" = true := by decide
    show getV ((sectionAfter sec scalars).filter (fun kv => knownClientKey kv.1)) "include_comments" (.str "stable") = _
    simp only [sectionAfter, h]
    unfold getV
    rw [lookup_filter_key knownClientKey "include_comments" hk, lookup_dictSet_eq]
    rfl

def okSec : Dict := [("schema_path", .str "s.graphql"), ("queries_path", .str "q.graphql"), ("target_package_path", .str "/w/out")]

/-- the seeded change `include_comments = 1` in one line each: rejected as a comment mode, no deprecation warning -/
theorem okSec_include_comments_1_facts :
    (getClientSettings exEnv (mkCfg (okSec ++ [("include_comments", .int 1)]))).result = .error (.badCommentMode "1") ∧
    (getClientSettings exEnv (mkCfg (okSec ++ [("include_comments", .int 1)]))).deprecatedBoolComments = false := by
  decide +kernel
theorem okSec_include_comments_true_facts :
    (getClientSettings exEnv (mkCfg (okSec ++ [("include_comments", .bool true)]))).deprecatedBoolComments = true ∧
    ((getClientSettings exEnv (mkCfg (okSec ++ [("include_comments", .bool true)]))).result.toOption.map (·.includeComments))
      = some (.str "timestamp") := by decide +kernel

example : (getClientSettings exEnv (mkCfg (okSec ++ [("include_comments", .int 1)]))).result = .error (.badCommentMode "1") :=
  okSec_include_comments_1_facts.1
example : (getClientSettings exEnv (mkCfg (okSec ++ [("include_comments", .float "0.0")]))).result = .error (.badCommentMode "0.0") := by decide +kernel
example : (getClientSettings exEnv (mkCfg (okSec ++ [("include_comments", .int 1)]))).deprecatedBoolComments = false :=
  okSec_include_comments_1_facts.2
example : (getClientSettings exEnv (mkCfg (okSec ++ [("include_comments", .bool true)]))).deprecatedBoolComments = true :=
  okSec_include_comments_true_facts.1
example : ((getClientSettings exEnv (mkCfg (okSec ++ [("include_comments", .bool true)]))).result.toOption.map (·.includeComments))
    = some (.str "timestamp") := okSec_include_comments_true_facts.2

/-- the option names the two filters are built from are the dataclass fields of the pinned tree
    (regenerated table: a new or renamed option breaks this and with it the build) -/
theorem client_field_names :
    clientFieldNames = ["schema_path", "remote_schema_url", "remote_schema_headers", "remote_schema_verify_ssl",
      "enable_custom_operations", "plugins", "queries_path", "target_package_name", "target_package_path",
      "client_name", "client_file_name", "base_client_name", "base_client_file_path", "enums_module_name",
      "input_types_module_name", "fragments_module_name", "include_comments", "convert_to_snake_case",
      "include_all_inputs", "include_all_enums", "async_client", "opentelemetry_client", "files_to_include",
      "scalars"] := by decide +kernel

/-- the defaults the model assigns are the dataclass defaults of the pinned tree -/
theorem client_defaults_table :
    Tables.clientSettingsFields.filter (fun p => p.2 != "<factory>") =
      [("schema_path", "''"), ("remote_schema_url", "''"), ("remote_schema_verify_ssl", "True"),
       ("enable_custom_operations", "False"), ("queries_path", "''"), ("target_package_name", "'graphql_client'"),
       ("client_name", "'Client'"), ("client_file_name", "'client'"), ("base_client_name", "''"),
       ("base_client_file_path", "''"), ("enums_module_name", "'enums'"), ("input_types_module_name", "'input_types'"),
       ("fragments_module_name", "'fragments'"), ("include_comments", "'stable'"), ("convert_to_snake_case", "True"),
       ("include_all_inputs", "True"), ("include_all_enums", "True"), ("async_client", "True"),
       ("opentelemetry_client", "False")] ∧
    Tables.schemaSettingsFields.filter (fun p => p.2 != "<factory>") =
      [("schema_path", "''"), ("remote_schema_url", "''"), ("remote_schema_verify_ssl", "True"),
       ("enable_custom_operations", "False"), ("target_file_path", "'schema.py'"), ("schema_variable_name", "'schema'"),
       ("type_map_variable_name", "'type_map'")] := by decide +kernel

/-- the four bundled base clients the defaults refer to exist in the regenerated table -/
theorem default_clients_table :
    ∀ a o, (defaultClassName (clientKind a o)).isSome = true := by decide +kernel

/-- no keyword is accepted as a name, whatever `str.isidentifier` says (C17-F1 stays fixed) -/
theorem keyword_never_valid (env : Env) (n : String) (h : n ∈ Tables.kwlist) : validName env n = false := by
  have : isKeyword n = true := by simpa [isKeyword] using h
  simp [validName, this]

/-! ## 5. The phase order: nothing is written before `PackageGenerator.generate` reaches `mkdir` -/

theorem no_write_before_generate (r : ClientRun) (ph : Phase) (e : PyErr)
    (h : (client r).result = .error (ph, e)) (hph : ph ≠ .generateWrite) : (client r).log = [] := by
  unfold client at h ⊢
  cases hp : prepare r with
  | error x => rfl
  | ok p =>
    simp only [hp] at h ⊢
    rcases generate_spec r p with ⟨hl, _⟩ | ⟨e', he'⟩ | ⟨fs, hfs⟩
    · exact hl
    · rw [he'] at h
      simp at h
      exact absurd h.1.symm hph
    · rw [hfs] at h
      cases h

/-- a phase `prepare` fails in is one of the six before `generate` -/
theorem prepare_phase (r : ClientRun) (ph : Phase) (e : PyErr) (h : prepare r = .error (ph, e)) :
    ph = .settings ∨ ph = .loadSchema ∨ ph = .plugins ∨ ph = .assertValid ∨ ph = .loadQueries ∨ ph = .addOperation := by
  cases prepares_of h <;> simp

/-- the graphqlschema strategy: every failure leaves the target file untouched -/
theorem schema_no_write_on_failure (r : SchemaRun) (x : Phase × PyErr)
    (h : (graphqlSchema r).result = .error x) : (graphqlSchema r).log = [] := by
  -- each of the five branches that fail returns the empty log; the sixth succeeds
  have : (graphqlSchema r).log = [] ∨ ∃ fs, (graphqlSchema r).result = .ok fs := by
    unfold graphqlSchema
    iterate 5 (split; (· exact Or.inl rfl))
    exact Or.inr ⟨_, rfl⟩
  rcases this with hl | ⟨fs, hfs⟩
  · exact hl
  · rw [hfs] at h; cases h

/-! ## 5b. Files and directory trees: every file is syntax-checked on its own -/

/-- **source_refused_iff_some_file_bad**: for EVERY directory tree (or single file) whose graphql
    files are readable, and every `parses`: loading refuses with `InvalidGraphqlSyntax` exactly when SOME
    graphql file of the tree does not parse on its own.  Whether the concatenation of the files would
    parse plays no role (a file that ends inside a selection set which the next file closes is still
    refused). -/
theorem source_refused_iff_some_file_bad (s : Source) (hread : AllReadable s.root) :
    (∃ m, loadSource s = .error (.codegen "InvalidGraphqlSyntax" m)) ↔
      ∃ p t, HasFile s.root p (.text t) ∧ s.parses t = false :=
  loadSource_refuses_iff s hread

/-- the refusal names a graphql file of the tree that does not parse on its own -/
theorem refusal_names_a_bad_file (s : Source) (m : String)
    (h : loadSource s = .error (.codegen "InvalidGraphqlSyntax" m)) :
    ∃ f t, m = "Invalid graphql syntax in file " ++ f ∧ HasFile s.root f (.text t) ∧ s.parses t = false := by
  rcases loadSource_error_cases s _ h with ⟨f, t, he, hf, hp⟩ | ⟨cls, p, he, _⟩ | ⟨he, _⟩
  · injection he with _ hm
    exact ⟨f, t, hm, hf, hp⟩
  · cases he
  · cases he

/-- which objects of a tree are its graphql files: exactly those whose last component has one of the
    three suffixes, at any depth (specification `InList`, independent of the walk) -/
theorem walk_is_the_suffix_filter (pre : List String) (ns : List FsNode) (e : Entry) :
    e ∈ sortEntries (walkList pre ns) ↔ InList pre ns e.parts e.content := by
  rw [mem_sortEntries]; exact mem_walkList pre ns e

/-- a toy `parses` for the examples: three texts parse, nothing else does -/
def toyParses (t : String) : Bool := t == "ok" || t == "ok\nok" || t == "{\n}"

/-- a queries directory whose two files are each invalid but whose concatenation `{\n}` parses:
    refused, naming the first file in sorted order; a comment-only / empty neighbour is refused too -/
example : loadSource { root := .dir "/w/q" [.file "b_rest.graphql" (.text "}"), .file "a_users.graphql" (.text "{")],
                       parses := toyParses }
    = .error (.codegen "InvalidGraphqlSyntax" "Invalid graphql syntax in file /w/q/a_users.graphql") := by decide +kernel
example : toyParses "{\n}" = true := by decide +kernel
example : loadSource { root := .dir "/w/q" [.file "z.gql" (.text ""), .dir "sub" [.file "a.graphqls" (.text "ok")],
                                             .file "notes.txt" (.text "}")],
                       parses := toyParses }
    = .error (.codegen "InvalidGraphqlSyntax" "Invalid graphql syntax in file /w/q/z.gql") := by decide +kernel
/-- files in sub-directories count, other suffixes do not, the order is by path components -/
example : (filesRead (.dir "/w/q" [.file "b.gql" (.text "2"), .dir "a" [.file "x.graphql" (.text "1")],
    .file "a.b.graphqls" (.text "3"), .file "c.GQL" (.text "4"), .file ".graphql" (.text "5")])).map (·.1)
    = ["/w/q/a/x.graphql", "/w/q/a.b.graphqls", "/w/q/b.gql"] := by decide +kernel

/-- **schema_file_refused_up_front**: through the whole command — accepted settings with a schema path, readable files:
    `main.client` fails in the schema-loading phase with `InvalidGraphqlSyntax` exactly when some graphql
    file below `schema_path` does not parse on its own; the message names such a file and nothing was
    written. -/
theorem schema_file_refused_up_front (r : ClientRun) (s : ClientSettings)
    (h1 : (getClientSettings r.env r.cfg).result = .ok s) (hsp : s.schemaPath.truthy = true)
    (hread : AllReadable r.schema.src.root) :
    ((∃ m, (client r).result = .error (.loadSchema, .codegen "InvalidGraphqlSyntax" m)) ↔
      ∃ p t, HasFile r.schema.src.root p (.text t) ∧ r.schema.src.parses t = false) ∧
    (∀ m, (client r).result = .error (.loadSchema, .codegen "InvalidGraphqlSyntax" m) → (client r).log = [] ∧
      ∃ f t, m = "Invalid graphql syntax in file " ++ f ∧ HasFile r.schema.src.root f (.text t) ∧
        r.schema.src.parses t = false) := by
  have key : ∀ m, (client r).result = .error (.loadSchema, .codegen "InvalidGraphqlSyntax" m) ↔
      loadSource r.schema.src = .error (.codegen "InvalidGraphqlSyntax" m) := by
    intro m
    rw [client_error_iff_prepare r _ _ (by decide) (by decide), ← loadSchema_syntax_iff, ← hsp]
    constructor
    · intro hp
      cases prepares_of hp with
      | loadSchema h1' h2 => rw [h1] at h1'; cases h1'; exact h2
    · exact fun h => (Prepares.loadSchema h1 h).eq
  constructor
  · rw [← source_refused_iff_some_file_bad _ hread]
    exact exists_congr key
  · intro m hm
    exact ⟨no_write_before_generate r _ _ hm (by decide), refusal_names_a_bad_file _ m ((key m).mp hm)⟩

/-- the same for `queries_path` (without the file name in the message), once the schema was loaded, the plugins found
    and the validity assertion passed -/
theorem queries_file_refused_up_front (r : ClientRun) (s : ClientSettings) (sch : SchemaState)
    (h1 : (getClientSettings r.env r.cfg).result = .ok s) (h2 : loadSchema s.schemaPath.truthy r.schema = .ok sch)
    (h3 : resolvePlugins s.plugins r.plugins = .ok ()) (h4 : assertValid (processSchema r.plugins sch) = .ok ())
    (hq : s.queriesPath.truthy = true) (hread : AllReadable r.queries.src.root) :
    ((∃ m, (client r).result = .error (.loadQueries, .codegen "InvalidGraphqlSyntax" m)) ↔
      ∃ p t, HasFile r.queries.src.root p (.text t) ∧ r.queries.src.parses t = false) ∧
    (∀ m, (client r).result = .error (.loadQueries, .codegen "InvalidGraphqlSyntax" m) → (client r).log = []) := by
  have key : ∀ m, (client r).result = .error (.loadQueries, .codegen "InvalidGraphqlSyntax" m) ↔
      loadSource r.queries.src = .error (.codegen "InvalidGraphqlSyntax" m) := by
    intro m
    rw [client_error_iff_prepare r _ _ (by decide) (by decide), ← loadQueries_syntax_iff]
    constructor
    · intro hp
      cases prepares_of hp with
      | loadQueries _ _ _ _ _ h5 => exact h5
    · exact fun h => (Prepares.loadQueries h1 h2 h3 h4 hq h).eq
  constructor
  · rw [← source_refused_iff_some_file_bad _ hread]
    exact exists_congr key
  · exact fun m hm => no_write_before_generate r _ _ hm (by decide)

/-! ## 5c. The plugins list -/

/-- a plugin string without a dot that is not a module (and whose import does not raise by itself): refused with
    `PluginImportError` -/
theorem plugin_without_dot_refused (look : String → PluginLookup) (s : String)
    (hm : look s ≠ .module) (hr : ∀ c, look s ≠ .raises c) (hd : rsplitDot s = none) :
    resolvePlugin look s = .error (.codegen "PluginImportError" "Incorrect plugin path. Use an absolute import path.") := by
  unfold resolvePlugin
  cases hk : look s with
  | module => exact absurd hk hm
  | raises c => exact absurd hk (hr c)
  | classOk => simp [hd]
  | noModule => simp [hd]
  | noAttribute => simp [hd]
  | notPlugin => simp [hd]

/-- every failure of the plugin lookup is typed (a list of strings, an import system that answers) -/
theorem plugin_failures_typed (plugins : TV) (p : PluginsOracle) (e : PyErr)
    (hlist : ∃ items, plugins = .list items ∧ ∀ x ∈ items, x.isStr = true) (hl : LookupsTame p)
    (h : resolvePlugins plugins p = .error e) : e.typed = true :=
  resolvePlugins_error_typed plugins p e hlist hl h

example : resolvePlugin (fun _ => .noAttribute) "pkg.mod.Cls" =
    .error (.codegen "PluginImportError" "Class Cls not found in module pkg.mod") := by decide +kernel
example : resolvePlugins (.list [.str "a.B", .str "nodots"]) { lookup := fun _ => .classOk } =
    .error (.codegen "PluginImportError" "Incorrect plugin path. Use an absolute import path.") := by decide +kernel

/-! ## 5d. Where the configuration file is looked for (`get_config_file_path`) -/

open Ariadne.ConfigFile in
/-- the loop is a search for the first ancestor (nearest first, `/` last) that contains the file -/
theorem searchUp_eq (pathExists : String → Bool) (file : String) : ∀ rev, searchUp pathExists file rev =
    match (ancestorsRev rev).find? (fun d => pathExists (joinPath d file)) with
    | some d => .path (joinPath d file)
    | none => .notFound ("Config file " ++ file ++ " not found.")
  | [] => by simp only [searchUp, ancestorsRev, List.find?_cons]; cases pathExists (joinPath [] file) <;> rfl
  | c :: rev => by
    simp only [searchUp, ancestorsRev, List.find?_cons, searchUp_eq pathExists file rev]
    cases pathExists (joinPath (c :: rev).reverse file) <;> rfl

open Ariadne.ConfigFile in
/-- the nearest ancestor of the current directory (itself included) that contains the file wins -/
theorem config_file_nearest_ancestor (pathExists : String → Bool) (file : String) (rev : List String) :
    (∀ p, searchUp pathExists file rev = .path p →
      ∃ pre d post, ancestorsRev rev = pre ++ d :: post ∧ p = joinPath d file ∧ pathExists p = true ∧
        ∀ d' ∈ pre, pathExists (joinPath d' file) = false) := by
  intro p hp
  rw [searchUp_eq] at hp
  split at hp
  · rename_i d hd
    obtain ⟨hd1, pre, post, hs, hpre⟩ := List.find?_eq_some_iff_append.mp hd
    cases hp
    exact ⟨pre, d, post, hs, rfl, hd1, fun d' hd' => by simpa using hpre d' hd'⟩
  · cases hp

open Ariadne.ConfigFile in
/-- `ConfigFileNotFound` is raised exactly when no ancestor up to the root contains the file (it names the
    file: `config_file_not_found_message`) -/
theorem config_file_not_found_iff (pathExists : String → Bool) (file : String) (rev : List String) :
    (∃ m, searchUp pathExists file rev = .notFound m) ↔ ∀ d ∈ ancestorsRev rev, pathExists (joinPath d file) = false := by
  rw [searchUp_eq]
  cases h : (ancestorsRev rev).find? (fun d => pathExists (joinPath d file)) with
  | none => simpa using List.find?_eq_none.mp h
  | some d =>
    simp only [reduceCtorEq, exists_false, false_iff]
    exact fun hall => by simpa [hall d (List.mem_of_find?_eq_some h)] using List.find?_some h

open Ariadne.ConfigFile in
theorem config_file_not_found_message (pathExists : String → Bool) (file : String) (rev : List String) (m : String)
    (h : searchUp pathExists file rev = .notFound m) : m = "Config file " ++ file ++ " not found." := by
  rw [searchUp_eq] at h
  split at h <;> cases h
  rfl

open Ariadne.ConfigFile in
example : getConfigFilePath (fun p => p == "/a/pyproject.toml" || p == "/pyproject.toml") ["a", "b", "c"] "pyproject.toml"
    = .path "/a/pyproject.toml" := by decide +kernel
open Ariadne.ConfigFile in
example : getConfigFilePath (fun _ => false) ["a", "b"] "x.toml" = .notFound "Config file x.toml not found." := by decide +kernel
open Ariadne.ConfigFile in
example : getConfigFilePath (fun p => p == "/etc/cfg.toml") ["a", "b"] "/etc/cfg.toml" = .path "/etc/cfg.toml" := by decide +kernel

/-! ## 6. `assume_valid` makes the validity assertion vacuous (proved negative, finding C17-F3) -/

/-- **assert_valid_is_vacuous**: a schema that came out of `get_graphql_schema_from_path/_from_url`
    (built with `assume_valid=True`) passes `assert_valid_schema` however many errors validation would
    find, unless a plugin swapped the schema object. -/
theorem assert_valid_is_vacuous (fromPath : Bool) (o : SchemaOracle) (p : PluginsOracle) (sch : SchemaState)
    (h : loadSchema fromPath o = .ok sch) (hp : p.replaces = none) :
    assertValid (processSchema p sch) = .ok () := by
  have hc := (loadSchema_ok fromPath o sch h).1
  simp [processSchema, hp, assertValid, validationErrorsSeen, hc]

/-- consequently `main.client` never fails in the validity assertion -/
theorem client_never_fails_at_assertValid (r : ClientRun) (hp : r.plugins.replaces = none) (e : PyErr) :
    prepare r ≠ .error (.assertValid, e) := by
  intro h
  cases prepares_of h with
  | assertValid _ h2 _ h4 => rw [assert_valid_is_vacuous _ _ _ _ h2 hp] at h4; cases h4

/-- only a schema object that was NOT built with assume_valid can make the assertion fire — and then
    what escapes is graphql-core's bare `TypeError`, not an ariadne-codegen exception -/
theorem assertValid_error_untyped (s : SchemaState) (e : PyErr) (h : assertValid s = .error e) : e.typed = false := by
  simp only [assertValid] at h
  generalize validationErrorsSeen s = n at h
  by_cases hn : (n == 0) = true
  · simp [hn] at h
  · simp only [hn] at h
    injection h with h
    subst h
    rfl

/-! ## 7. C17 at full strength, its refutation, and the part that holds -/

/-- the configuration violates a documented constraint: reading it fails before the dataclass exists
    (no section, a scalar without type, a section / scalars table that is no table ...), or the
    dataclass does not meet `Documented` -/
def ConfigInvalid (env : Env) (cfg : Dict) : Prop :=
  match (readRawClient env cfg).result with
  | .error _ => True
  | .ok s => ¬ Documented env s

/-- a graphql source with a file that does not parse on its own, or whose concatenation does not
    parse (in particular: no graphql file at all) -/
def BadSource (s : Source) : Prop :=
  (∃ p t, HasFile s.root p (.text t) ∧ s.parses t = false) ∨
  (∃ t, loadText s.parses s.root = .ok t ∧ s.parses t = false)

def SyntaxInvalid (r : ClientRun) : Prop :=
  ∃ s, (getClientSettings r.env r.cfg).result = .ok s ∧
    ((s.schemaPath.truthy = true ∧ BadSource r.schema.src) ∨ (s.queriesPath.truthy = true ∧ BadSource r.queries.src))

/-- graphql-core cannot build the schema, or validation (SDL + type-system rules) finds errors -/
def SchemaInvalid (r : ClientRun) : Prop := r.schema.buildError.isSome = true ∨ r.schema.trueErrors ≠ 0

def OperationInvalid (r : ClientRun) : Prop :=
  ∃ s, (getClientSettings r.env r.cfg).result = .ok s ∧ s.queriesPath.truthy = true ∧ r.queries.validationErrors ≠ []

/-- the four classes of invalid input the property names -/
def Invalid (r : ClientRun) : Prop :=
  ConfigInvalid r.env r.cfg ∨ SyntaxInvalid r ∨ SchemaInvalid r ∨ OperationInvalid r

/-- the modelled domain (`Valid` of the conventions): an introspection transport that answers (C19's
    subject), plugins that do not swap the schema object, a `plugins` option that is a list of strings
    and an import system that answers, graphql files that can be read as UTF-8 text (no directory
    named like a graphql file) -/
structure InDomain (r : ClientRun) : Prop where
  remote : ∀ c, r.schema.remote ≠ .raw c
  plugins : r.plugins.replaces = none
  lookups : LookupsTame r.plugins
  pluginList : ∀ s, (getClientSettings r.env r.cfg).result = .ok s →
      ∃ items, s.plugins = .list items ∧ ∀ x ∈ items, x.isStr = true
  readableSchema : AllReadable r.schema.src.root
  readableQueries : AllReadable r.queries.src.root

/-- fails with one of ariadne-codegen's exception classes, before anything was written -/
def RejectedUpFront (o : Outcome) : Prop := ∃ ph e, o.result = .error (ph, e) ∧ e.typed = true ∧ o.log = []

/-- **C17 at full strength** (the property as stated) -/
def C17_full : Prop := ∀ r : ClientRun, InDomain r → Invalid r → RejectedUpFront (client r)

/-- complement of the finding triggers -/
def Supported (r : ClientRun) : Prop :=
  ¬ (trigInvalidSchemaAssumed r.schema r.plugins = true ∨
     trigSchemaBuildTypeError r.schema = true ∨ trigFragmentGenError r.queries = true ∨
     trigNoGraphqlFiles r = true ∨ trigClassSubstring r.env r.cfg = true ∨
     trigIllTypedInternal r.env r.cfg = true ∨ trigJoinedNotParsable r = true)

/-! ### witnesses (each is replayed on the real code by harness/c17.py, corpus/C17) -/

def wCfg (extra : Dict) : Dict :=
  mkCfg ([("schema_path", .str "schema.graphql"), ("queries_path", .str "queries.graphql"),
          ("target_package_path", .str "/w/out")] ++ extra)

def wOp : OpInfo := { name := some "GetA", moduleName := "get_a" }

def wSrc (path : String) : Source := { root := .file path (.text "ok"), parses := toyParses }

/-- a valid run, to be damaged in one place per witness -/
def wBase : ClientRun := {
  env := exEnv, cfg := wCfg [],
  schema := { src := wSrc "/w/schema.graphql" },
  queries := { src := wSrc "/w/queries.graphql", ops := [wOp] },
  pkgDirExists := false }

/-- F3: interface not implemented (one validation error) — accepted, the whole package is written -/
def wInvalidSchema : ClientRun := { wBase with schema := { wBase.schema with trueErrors := 1 } }
/-- F4: unknown type — graphql-core's TypeError escapes -/
def wUnknownType : ClientRun := { wBase with schema := { wBase.schema with buildError := some "Unknown type: 'Missing'.", trueErrors := 1 } }
/-- F2 (fixed by /repo 0686a80): `fragments_module_name = "not-valid"` — was accepted by the
    settings, is rejected now (`C17_F2_witness_now_ok` below) -/
def wFragmentsModule : ClientRun :=
  { wBase with env := badEnv, cfg := wCfg [("fragments_module_name", .str "not-valid")] }
/-- F6: a schema directory without graphql files -/
def wNoFiles : ClientRun :=
  { wBase with schema := { src := { root := .dir "/w/schema" [.file "readme.txt" (.text "x")], parses := toyParses } } }
/-- F5: malformed @mixin on a fragment that ends up in the fragments module -/
def wMixinFragment : ClientRun :=
  { wBase with queries := { wBase.queries with
      frags := [{ name := "UF", genError := some (.codegen "ParsingError" "Required arguments (from, import) not found.") }] } }
/-- F8: `client_name = 5` — a name that cannot be used as an identifier, reported as bare AttributeError -/
def wIllTypedName : ClientRun := { wBase with cfg := wCfg [("client_name", .int 5)] }
/-- F9: two schema files that each parse (`ok`) whose concatenation does not (`ok\nok` parses for the
    toy predicate, so the second file is `{\n}`: `ok\n{\n}` does not) -/
def wJoined : ClientRun :=
  { wBase with schema := { src := { root := .dir "/w/schema" [.file "a.graphql" (.text "ok"), .file "b.graphql" (.text "{\n}")],
                                    parses := toyParses } } }

theorem supported_of_no_triggers (r : ClientRun) (h : clientTriggers r = []) : Supported r := by
  intro hor
  rcases hor with h' | h' | h' | h' | h' | h' | h' <;> simp [clientTriggers, h'] at h

/-- what the settings phase makes of a run, as far as the witnesses need it: the `plugins` option and whether
    `schema_path` / `queries_path` are given (`none`: the settings are rejected) -/
def settingsView (r : ClientRun) : Option (TV × Bool × Bool) :=
  (getClientSettings r.env r.cfg).result.toOption.map fun s => (s.plugins, s.schemaPath.truthy, s.queriesPath.truthy)

theorem of_settingsView (r : ClientRun) (pl : TV) (sp qp : Bool) (h : settingsView r = some (pl, sp, qp)) :
    ∃ s, (getClientSettings r.env r.cfg).result = .ok s ∧ s.plugins = pl ∧ s.schemaPath.truthy = sp ∧
      s.queriesPath.truthy = qp := by
  unfold settingsView at h
  cases hr : (getClientSettings r.env r.cfg).result with
  | error e => simp [hr, Except.toOption] at h
  | ok s =>
    simp only [hr, Except.toOption, Option.map, Option.some.injEq, Prod.mk.injEq] at h
    exact ⟨s, rfl, h.1, h.2.1, h.2.2⟩

theorem inDomain_of_view (r : ClientRun) (sp qp : Bool) (h : settingsView r = some (.list [], sp, qp))
    (hr : r.schema.remote = .ok) (hp : r.plugins.replaces = none) (hl : LookupsTame r.plugins)
    (h1 : AllReadable r.schema.src.root) (h2 : AllReadable r.queries.src.root) : InDomain r := by
  obtain ⟨s, hs, hpl, _, _⟩ := of_settingsView r _ sp qp h
  refine ⟨fun c hc => (by rw [hr] at hc; cases hc), hp, hl, fun s' hs' => ⟨[], ?_, by simp⟩, h1, h2⟩
  rw [hs] at hs'
  cases hs'
  exact hpl

/-- What the kernel evaluates on the witness configurations about the settings and the schema source, in one declaration: every run reads the settings and
    converts names (which decodes the keyword tables of `Model/Names.lean`), and the kernel shares work only inside one
    declaration.  The `w…_facts` lemmas are its components. -/
theorem evaluated_schema :
    (settingsView wBase = some (.list [], true, true) ∧ isOk (client wBase).result = true ∧ (client wBase).log ≠ []) ∧
    (settingsView wInvalidSchema = some (.list [], true, true) ∧ isOk (client wInvalidSchema).result = true) ∧
    (settingsView wNoFiles = some (.list [], true, true) ∧
      loadText wNoFiles.schema.src.parses wNoFiles.schema.src.root = .ok "" ∧ wNoFiles.schema.src.parses "" = false ∧
      (client wNoFiles).result = .error (.loadSchema, .raw "GraphQLSyntaxError") ∧ trigNoGraphqlFiles wNoFiles = true) ∧
    (settingsView wJoined = some (.list [], true, true) ∧
      loadText wJoined.schema.src.parses wJoined.schema.src.root = .ok "ok\n{\n}" ∧
      wJoined.schema.src.parses "ok\n{\n}" = false ∧
      (client wJoined).result = .error (.loadSchema, .raw "GraphQLSyntaxError") ∧
      trigJoinedNotParsable wJoined = true) ∧
    ((readRawClient wIllTypedName.env wIllTypedName.cfg).result.toOption.map (·.clientName) = some (.int 5) ∧
      (client wIllTypedName).result = .error (.settings, .config (.internal "AttributeError")) ∧
      trigIllTypedInternal wIllTypedName.env wIllTypedName.cfg = true) := by
  decide +kernel

/-- the valid run: accepted, a package is written -/
theorem wBase_facts :
    settingsView wBase = some (.list [], true, true) ∧ isOk (client wBase).result = true ∧ (client wBase).log ≠ [] := evaluated_schema.1

theorem wBase_accepted : isOk (client wBase).result = true ∧ (client wBase).log ≠ [] := wBase_facts.2
theorem wBase_inDomain : InDomain wBase :=
  inDomain_of_view _ _ _ wBase_facts.1 rfl rfl tame_default (readable_file _ _) (readable_file _ _)

/-- one validation error in the schema: the settings are accepted and so is the run -/
theorem wInvalidSchema_facts :
    settingsView wInvalidSchema = some (.list [], true, true) ∧ isOk (client wInvalidSchema).result = true := evaluated_schema.2.1

theorem invalid_schema_accepted :
    Invalid wInvalidSchema ∧ InDomain wInvalidSchema ∧ isOk (client wInvalidSchema).result = true :=
  ⟨Or.inr (Or.inr (Or.inl (Or.inr (by decide)))),
   inDomain_of_view _ _ _ wInvalidSchema_facts.1 rfl rfl tame_default (readable_file _ _) (readable_file _ _),
   wInvalidSchema_facts.2⟩

theorem unknown_type_untyped :
    Invalid wUnknownType ∧ (client wUnknownType).result = .error (.loadSchema, .raw "TypeError") :=
  ⟨Or.inr (Or.inr (Or.inl (Or.inl (by decide)))), by decide +kernel⟩

/-- a schema directory without graphql files: the loader returns the empty text, which does not parse -/
theorem wNoFiles_facts :
    settingsView wNoFiles = some (.list [], true, true) ∧
    loadText wNoFiles.schema.src.parses wNoFiles.schema.src.root = .ok "" ∧ wNoFiles.schema.src.parses "" = false ∧
    (client wNoFiles).result = .error (.loadSchema, .raw "GraphQLSyntaxError") ∧ trigNoGraphqlFiles wNoFiles = true := evaluated_schema.2.2.1

theorem no_files_untyped :
    Invalid wNoFiles ∧ (client wNoFiles).result = .error (.loadSchema, .raw "GraphQLSyntaxError") := by
  obtain ⟨hv, hl, hp, hc, _⟩ := wNoFiles_facts
  obtain ⟨s, hs, _, hf, _⟩ := of_settingsView _ _ _ _ hv
  exact ⟨Or.inr (Or.inl ⟨s, hs, Or.inl ⟨hf, Or.inr ⟨"", hl, hp⟩⟩⟩), hc⟩

/-- two files that each parse, joined by a line break: `ok\n{\n}` does not parse -/
theorem wJoined_facts :
    settingsView wJoined = some (.list [], true, true) ∧
    loadText wJoined.schema.src.parses wJoined.schema.src.root = .ok "ok\n{\n}" ∧
    wJoined.schema.src.parses "ok\n{\n}" = false ∧
    (client wJoined).result = .error (.loadSchema, .raw "GraphQLSyntaxError") ∧
    trigJoinedNotParsable wJoined = true := evaluated_schema.2.2.2.1

/-- finding C17-F9 in the model: every file parses, the concatenation does not — graphql-core's bare
    `GraphQLSyntaxError` escapes from the second `parse` -/
theorem joined_untyped :
    Invalid wJoined ∧ (client wJoined).result = .error (.loadSchema, .raw "GraphQLSyntaxError") ∧
    trigJoinedNotParsable wJoined = true := by
  obtain ⟨hv, hl, hp, hc, ht⟩ := wJoined_facts
  obtain ⟨s, hs, _, hf, _⟩ := of_settingsView _ _ _ _ hv
  exact ⟨Or.inr (Or.inl ⟨s, hs, Or.inl ⟨hf, Or.inr ⟨"ok\n{\n}", hl, hp⟩⟩⟩), hc, ht⟩

theorem configInvalid_of_field (env : Env) (cfg : Dict) {α : Type} (f : ClientSettings → α) (a : α)
    (h : (readRawClient env cfg).result.toOption.map f = some a) (hn : ∀ s, f s = a → ¬ Documented env s) :
    ConfigInvalid env cfg := by
  unfold ConfigInvalid
  cases hr : (readRawClient env cfg).result with
  | error e => trivial
  | ok s => exact hn s (by simpa [hr, Except.toOption] using h)

/-- `client_name = 5` reaches the dataclass as the number and the settings end in a bare `AttributeError` -/
theorem wIllTypedName_facts :
    (readRawClient wIllTypedName.env wIllTypedName.cfg).result.toOption.map (·.clientName) = some (.int 5) ∧
    (client wIllTypedName).result = .error (.settings, .config (.internal "AttributeError")) ∧
    trigIllTypedInternal wIllTypedName.env wIllTypedName.cfg = true := evaluated_schema.2.2.2.2

/-- finding C17-F8 in the model: a number as client name violates "names usable as identifiers" and
    comes out as a bare `AttributeError` -/
theorem illtyped_name_untyped :
    Invalid wIllTypedName ∧ (client wIllTypedName).result = .error (.settings, .config (.internal "AttributeError")) ∧
    trigIllTypedInternal wIllTypedName.env wIllTypedName.cfg = true := by
  obtain ⟨hraw, hc, ht⟩ := wIllTypedName_facts
  refine ⟨Or.inl (configInvalid_of_field _ _ _ _ hraw fun s hs d => ?_), hc, ht⟩
  obtain ⟨n, hn, _⟩ := d.clientName
  rw [hs] at hn
  cases hn

/-- **C17_full_false**: the property as stated does not hold of the code (model): an invalid schema
    is accepted and a package is written (finding C17-F3). -/
theorem C17_full_false : ¬ C17_full := by
  intro h
  obtain ⟨hinv, hdom, hok⟩ := invalid_schema_accepted
  obtain ⟨ph, e, herr, _⟩ := h wInvalidSchema hdom hinv
  rw [herr] at hok
  cases hok

/-! ### "no side effects" for every failure, not only for the four classes -/

/-- a failing run leaves the target untouched -/
def FailsClean (o : Outcome) : Prop := ∀ x, o.result = .error x → o.log = []

def NoSideEffects_full : Prop := ∀ r : ClientRun, FailsClean (client r)

/-- non-vacuity of `C17_partial`: an invalid operation on an otherwise valid, supported run -/
def wInvalidOperation : ClientRun :=
  { wBase with queries := { wBase.queries with validationErrors := ["Cannot query field 'zzz' on type 'Query'."] } }

/-- non-vacuity on the syntax class: a queries DIRECTORY whose two files are each invalid but jointly
    valid lies in the theorem's region and is rejected up front naming the first file -/
def wSplitQueries : ClientRun :=
  { wBase with queries := { wBase.queries with
      src := { root := .dir "queries.graphql" [.file "b_rest.graphql" (.text "}"), .file "a_users.graphql" (.text "{")],
               parses := toyParses } } }

/-- F7: `base_client_name = "MyBase"` for a file that only declares `MyBaseClient` -/
def wClassPrefix : ClientRun :=
  { wBase with env := prefEnv,
               cfg := wCfg [("base_client_name", .str "MyBase"), ("base_client_file_path", .str "/w/custom_base.py")] }

/-- The same for the witness configurations about the queries source and generation. -/
theorem evaluated_queries :
    ((client wMixinFragment).result =
        .error (.generateWrite, .codegen "ParsingError" "Required arguments (from, import) not found.") ∧
      (client wMixinFragment).log ≠ [] ∧ trigFragmentGenError wMixinFragment.queries = true) ∧
    (settingsView wInvalidOperation = some (.list [], true, true) ∧ clientTriggers wInvalidOperation = [] ∧
      (client wInvalidOperation).result =
        .error (.loadQueries, .codegen "InvalidOperationForSchema" "Cannot query field 'zzz' on type 'Query'.") ∧
      (client wInvalidOperation).log = []) ∧
    (settingsView wSplitQueries = some (.list [], true, true) ∧ clientTriggers wSplitQueries = [] ∧
      ("queries.graphql/a_users.graphql", Content.text "{") ∈ filesRead wSplitQueries.queries.src.root ∧
      wSplitQueries.queries.src.parses "{" = false ∧
      (client wSplitQueries).result = .error (.loadQueries,
        .codegen "InvalidGraphqlSyntax" "Invalid graphql syntax in file queries.graphql/a_users.graphql") ∧
      (client wSplitQueries).log = []) ∧
    ((readRawClient wFragmentsModule.env wFragmentsModule.cfg).result.toOption.map (·.fragmentsModuleName)
        = some (.str "not-valid") ∧
      validName wFragmentsModule.env "not-valid" = false ∧
      (getClientSettings wFragmentsModule.env wFragmentsModule.cfg).result = .error (.badIdentifier "not-valid") ∧
      clientTriggers wFragmentsModule = [] ∧
      (client wFragmentsModule).result = .error (.settings, .config (.badIdentifier "not-valid"))) ∧
    ((readRawClient wClassPrefix.env wClassPrefix.cfg).result.toOption.map (baseClientData wClassPrefix.env)
        = some (.str "MyBase", .str "/w/custom_base.py") ∧
      classDeclared wClassPrefix.env "/w/custom_base.py" "MyBase" = false ∧
      isOk (client wClassPrefix).result = true ∧
      trigClassSubstring wClassPrefix.env wClassPrefix.cfg = true) := by
  decide +kernel

/-- the malformed `@mixin` surfaces in the write phase, with something already written -/
theorem wMixinFragment_facts :
    (client wMixinFragment).result =
      .error (.generateWrite, .codegen "ParsingError" "Required arguments (from, import) not found.") ∧
    (client wMixinFragment).log ≠ [] ∧ trigFragmentGenError wMixinFragment.queries = true := evaluated_queries.1

/-- finding C17-F5: a ParsingError raised by the fragments step comes after `mkdir` and two writes -/
theorem NoSideEffects_full_false : ¬ NoSideEffects_full :=
  fun h => wMixinFragment_facts.2.1 (h wMixinFragment _ wMixinFragment_facts.1)

theorem generate_no_late_error (r : ClientRun) (p : Prepared) (ht : trigFragmentGenError r.queries = false)
    (hc : ∀ st, r.codeError st = none) (e : PyErr) : (generate r p).result ≠ .error (.generateWrite, e) := by
  by_cases hd : (!(duplicates (allFileNames r.env p.settings p.resultFiles)).isEmpty) = true
  · simp [generate, hd]
  · simp only [generate, hd]
    have hfr : fragmentsStep (if p.settings.queriesPath.truthy = true then r.queries.frags else []) = none ∨
        fragmentsStep (if p.settings.queriesPath.truthy = true then r.queries.frags else []) = some none := by
      split
      · exact fragmentsStep_of_no_trigger _ ht
      · exact Or.inl rfl
    have hclean := runSteps_clean r.codeError hc _ (plannedSteps_clean r.env p.settings p.schema p.resultFiles _ hfr)
      (if r.pkgDirExists = true then [] else [Effect.mkdir])
    generalize runSteps r.codeError _ _ = rs at hclean ⊢
    obtain ⟨oe, log⟩ := rs
    simp at hclean
    subst hclean
    simp

/-- **NoSideEffects_partial**: outside finding C17-F5 (and with black accepting every emitted
    module) EVERY failure of `main.client` — not only those of the four classes — leaves the target
    untouched. -/
theorem NoSideEffects_partial (r : ClientRun) (ht : trigFragmentGenError r.queries = false)
    (hc : ∀ st, r.codeError st = none) : FailsClean (client r) := by
  intro x hx
  unfold client at hx ⊢
  cases hp : prepare r with
  | error y => rfl
  | ok p =>
    simp only [hp] at hx ⊢
    rcases generate_spec r p with ⟨hl, _⟩ | ⟨e', he'⟩ | ⟨fs, hfs⟩
    · exact hl
    · exact absurd he' (generate_no_late_error r p ht hc e')
    · rw [hfs] at hx; cases hx

example : trigFragmentGenError wBase.queries = false ∧ ∀ st, wBase.codeError st = none := ⟨by decide, fun _ => rfl⟩

theorem finalize_keeps (env : Env) (s0 : ClientSettings) :
    (finalizeClient env s0).fragmentsModuleName = s0.fragmentsModuleName ∧
    (finalizeClient env s0).baseClientName = (baseClientData env s0).1 ∧
    (finalizeClient env s0).baseClientFilePath = (baseClientData env s0).2 ∧
    (finalizeClient env s0).schemaPath = s0.schemaPath ∧ (finalizeClient env s0).queriesPath = s0.queriesPath :=
  ⟨rfl, rfl, rfl, rfl, rfl⟩

theorem loaded_not_bad (s : Source) (h : loadSource s = .ok ()) : ¬ BadSource s := by
  obtain ⟨t, ht, hp⟩ := (loadSource_ok_iff s).mp h
  rintro (⟨p, x, hf, hx⟩ | ⟨t', ht', hp'⟩)
  · obtain ⟨y, hy, hpy⟩ := loadSource_ok_files s h p _ hf
    injection hy with hy
    subst hy
    rw [hx] at hpy
    cases hpy
  · rw [ht] at ht'
    injection ht' with ht'
    subst ht'
    rw [hp] at hp'
    cases hp'

/-- outside the finding triggers, an input on which every phase up to the validation of the
    operations succeeds is not invalid -/
theorem passes_contradict (r : ClientRun) (hd : InDomain r) (hs : Supported r) (hi : Invalid r)
    (s : ClientSettings) (sch : SchemaState)
    (h1 : (getClientSettings r.env r.cfg).result = .ok s)
    (h2 : loadSchema s.schemaPath.truthy r.schema = .ok sch)
    (h5 : s.queriesPath.truthy = true → loadQueries r.queries = .ok ()) : False := by
  simp only [Supported, not_or] at hs
  obtain ⟨hF3, hF4, _, hF6, hF7, _, _⟩ := hs
  rcases hi with hc | hsyn | hsch | hop
  ·
    unfold ConfigInvalid at hc
    have h1' := h1
    simp only [getClientSettings, bind, Except.bind] at h1'
    cases hraw : (readRawClient r.env r.cfg).result with
    | error e => simp [hraw] at h1'
    | ok s0 =>
      simp only [hraw] at h1' hc
      have hnv := (accepted_iff r.env s0).mp ⟨s, h1'⟩
      have hs' : s = finalizeClient r.env s0 := by
        have := valid_accepted r.env s0 hnv
        rw [this] at h1'
        injection h1' with h
        exact h.symm
      obtain ⟨k1, k2, k3, _, _⟩ := finalize_keeps r.env s0
      apply hc
      apply documented_of_no_violation r.env s0 hnv
      intro p hp hdef
      simp only [trigClassSubstring, h1] at hF7
      rw [hs', k2, k3, hp] at hF7
      have hpp : (TV.str p).pyStr = p := rfl
      rw [hpp] at hF7
      cases hv : classDeclared r.env p (baseClientData r.env s0).1.pyStr with
      | true => rfl
      | false => simp [hv] at hF7
  ·
    obtain ⟨s', hs', hbad⟩ := hsyn
    rw [h1] at hs'
    injection hs' with hs'
    subst hs'
    rcases hbad with ⟨hp, hb⟩ | ⟨hq, hb⟩
    · rw [hp] at h2
      exact loaded_not_bad _ (loadSchema_true_source _ _ h2) hb
    · exact loaded_not_bad _ (loadQueries_ok _ (h5 hq)).1 hb
  ·
    have hb := (loadSchema_ok _ _ _ h2).2.2.2
    rcases hsch with hsome | hne
    · simp [hb] at hsome
    · apply hF3
      simp [trigInvalidSchemaAssumed, hb, hd.plugins, codeAssumeValid, hne]
  ·
    obtain ⟨s', hs', hq, hv⟩ := hop
    rw [h1] at hs'
    injection hs' with hs'
    subst hs'
    exact hv (loadQueries_ok _ (h5 hq)).2

/-- **C17_partial**: outside the seven finding triggers, every input of the four invalid classes
    (configuration violating a documented constraint — with option values of every kind —, a graphql
    file that does not parse on its own or files whose concatenation does not parse, an invalid schema,
    an operation invalid for the schema) makes `main.client` fail with one of ariadne-codegen's own
    exception classes and an EMPTY effect log.  (For invalid schemas the statement is vacuous: every
    invalid schema lies inside the triggers of C17-F3/F4 — that is the finding.) -/
theorem C17_partial (r : ClientRun) (hd : InDomain r) (hs : Supported r) (hi : Invalid r) :
    RejectedUpFront (client r) := by
  have hs' := hs
  simp only [Supported, not_or] at hs'
  obtain ⟨_, hF4, _, hF6, _, hF8, hF9⟩ := hs'
  have hbuild : r.schema.buildError = none := by
    simp only [trigSchemaBuildTypeError] at hF4
    cases hb : r.schema.buildError with
    | none => rfl
    | some m => simp [hb] at hF4
  -- outside C17-F6 and C17-F9 the unguarded second `parse` of a source that is used cannot fail
  have hjoin : ∀ (s : ClientSettings) (src : Source), (getClientSettings r.env r.cfg).result = .ok s →
      (s.schemaPath.truthy = true ∧ src = r.schema.src ∨ s.queriesPath.truthy = true ∧ src = r.queries.src) →
      ∀ t, loadText src.parses src.root = .ok t → src.parses t = true := by
    intro s src h1 hsrc
    apply joined_ok_of_not_triggered
    · cases hemp : src.files.isEmpty with
      | false => rfl
      | true => exfalso; apply hF6; rcases hsrc with ⟨h, rfl⟩ | ⟨h, rfl⟩ <;> simp [trigNoGraphqlFiles, h1, h, hemp]
    · cases hj : joinedBroken src with
      | false => rfl
      | true => exfalso; apply hF9; rcases hsrc with ⟨h, rfl⟩ | ⟨h, rfl⟩ <;> simp [trigJoinedNotParsable, h1, h, hj]
  unfold client
  generalize hp : prepare r = x
  cases prepares_of hp with
  | settings h1 =>
    refine ⟨_, _, rfl, ?_, rfl⟩
    rename_i ce
    rcases typed_or_internal ce with h | ⟨x, rfl⟩
    · exact h
    · exfalso; apply hF8; simp [trigIllTypedInternal, h1]
  | loadSchema h1 h2 =>
    exact ⟨_, _, rfl, loadSchema_error_typed _ _ _ h2 (fun _ => hd.readableSchema)
      (fun hsp => hjoin _ _ h1 (Or.inl ⟨hsp, rfl⟩)) hd.remote hbuild, rfl⟩
  | plugins h1 _ h3 => exact ⟨_, _, rfl, resolvePlugins_error_typed _ _ _ (hd.pluginList _ h1) hd.lookups h3, rfl⟩
  | assertValid _ h2 _ h4 => rw [assert_valid_is_vacuous _ _ _ _ h2 hd.plugins] at h4; cases h4
  | loadQueries h1 _ _ _ hq h5 =>
    exact ⟨_, _, rfl, loadQueries_error_typed _ _ h5 hd.readableQueries (hjoin _ _ h1 (Or.inr ⟨hq, rfl⟩)), rfl⟩
  | addOperation h1 h2 _ _ h5 _ => exact (passes_contradict r hd hs hi _ _ h1 h2 h5).elim
  | ok h1 h2 _ _ h5 _ => exact (passes_contradict r hd hs hi _ _ h1 h2 h5).elim

/-- the run is outside every trigger and is refused when the operations are validated, nothing written -/
theorem wInvalidOperation_facts :
    settingsView wInvalidOperation = some (.list [], true, true) ∧ clientTriggers wInvalidOperation = [] ∧
    (client wInvalidOperation).result =
      .error (.loadQueries, .codegen "InvalidOperationForSchema" "Cannot query field 'zzz' on type 'Query'.") ∧
    (client wInvalidOperation).log = [] := evaluated_queries.2.1

theorem wInvalidOperation_hyps : InDomain wInvalidOperation ∧ Supported wInvalidOperation ∧ Invalid wInvalidOperation := by
  obtain ⟨hv, hsup, _, _⟩ := wInvalidOperation_facts
  obtain ⟨s, hs, _, _, hq⟩ := of_settingsView _ _ _ _ hv
  exact ⟨inDomain_of_view _ _ _ hv rfl rfl tame_default (readable_file _ _) (readable_file _ _),
    supported_of_no_triggers _ hsup, Or.inr (Or.inr (Or.inr ⟨s, hs, hq, by decide⟩))⟩

example : (client wInvalidOperation).result =
    .error (.loadQueries, .codegen "InvalidOperationForSchema" "Cannot query field 'zzz' on type 'Query'.") ∧
    (client wInvalidOperation).log = [] := wInvalidOperation_facts.2.2

/-- the run is outside every trigger; `a_users.graphql` is read first, does not parse, and is named -/
theorem wSplitQueries_facts :
    settingsView wSplitQueries = some (.list [], true, true) ∧ clientTriggers wSplitQueries = [] ∧
    ("queries.graphql/a_users.graphql", Content.text "{") ∈ filesRead wSplitQueries.queries.src.root ∧
    wSplitQueries.queries.src.parses "{" = false ∧
    (client wSplitQueries).result = .error (.loadQueries,
      .codegen "InvalidGraphqlSyntax" "Invalid graphql syntax in file queries.graphql/a_users.graphql") ∧
    (client wSplitQueries).log = [] := evaluated_queries.2.2.1

theorem wSplitQueries_ok :
    InDomain wSplitQueries ∧ Supported wSplitQueries ∧ Invalid wSplitQueries ∧
    (client wSplitQueries).result = .error (.loadQueries,
      .codegen "InvalidGraphqlSyntax" "Invalid graphql syntax in file queries.graphql/a_users.graphql") ∧
    (client wSplitQueries).log = [] := by
  obtain ⟨hv, hsup, hmem, hbad, hres, hlog⟩ := wSplitQueries_facts
  obtain ⟨s, hs, _, _, hq⟩ := of_settingsView _ _ _ _ hv
  exact ⟨inDomain_of_view _ _ _ hv rfl rfl tame_default (readable_file _ _)
      (readable_texts "queries.graphql" [("b_rest.graphql", "}"), ("a_users.graphql", "{")]),
    supported_of_no_triggers _ hsup,
    Or.inr (Or.inl ⟨s, hs, Or.inr ⟨hq, Or.inl ⟨_, _, (mem_filesRead_iff _ _ _).mp hmem, hbad⟩⟩⟩), hres, hlog⟩

/-- the union of the theorem region and the finding regions is everything (by definition) -/
theorem supported_or_triggered (r : ClientRun) :
    Supported r ∨ trigInvalidSchemaAssumed r.schema r.plugins = true ∨
      trigSchemaBuildTypeError r.schema = true ∨ trigFragmentGenError r.queries = true ∨
      trigNoGraphqlFiles r = true ∨ trigClassSubstring r.env r.cfg = true ∨
      trigIllTypedInternal r.env r.cfg = true ∨ trigJoinedNotParsable r = true := by
  unfold Supported
  by_cases h : (trigInvalidSchemaAssumed r.schema r.plugins = true ∨
     trigSchemaBuildTypeError r.schema = true ∨ trigFragmentGenError r.queries = true ∨
     trigNoGraphqlFiles r = true ∨ trigClassSubstring r.env r.cfg = true ∨
     trigIllTypedInternal r.env r.cfg = true ∨ trigJoinedNotParsable r = true)
  · exact Or.inr h
  · exact Or.inl h

/-- the witnesses sit inside their triggers -/
example : trigInvalidSchemaAssumed wInvalidSchema.schema wInvalidSchema.plugins = true := by decide
example : trigSchemaBuildTypeError wUnknownType.schema = true := by decide
example : trigNoGraphqlFiles wNoFiles = true := wNoFiles_facts.2.2.2.2
example : trigFragmentGenError wMixinFragment.queries = true := wMixinFragment_facts.2.2

/-! ### how narrow the region of C17-F8 is: sections whose values have the documented kinds never
      end in a bare Python exception -/

def scalarOk : TV → Bool
  | .table d => d.all (fun kv => kv.2.isStr)
  | _ => false

def scalarsOk : TV → Bool
  | .table kvs => kvs.all (fun kv => scalarOk kv.2)
  | _ => false

/-- the kind each option is documented to take (dataclass annotations, README); options without a
    kind constraint that matters to the settings code are `true` -/
def kindOk (k : String) (v : TV) : Bool :=
  if k = "remote_schema_headers" then strTable v
  else if k = "files_to_include" then strList v
  else if k = "scalars" then scalarsOk v
  else if k = "include_comments" then v.isStr || v.isBool
  else if k = "async_client" ∨ k = "opentelemetry_client" then v.isBool
  else if k ∈ ["schema_path", "queries_path", "target_package_name", "target_package_path", "client_name",
               "client_file_name", "base_client_name", "base_client_file_path", "enums_module_name",
               "input_types_module_name", "fragments_module_name"] then v.isStr
  else true

/-- every option of the section that is present has a value of its documented kind -/
def SectionWellTyped (sec : Dict) : Prop := ∀ k v, TV.lookup k sec = some v → kindOk k v = true

theorem parseScalar_welltyped (n : String) (v : TV) (h : scalarOk v = true) (e : ConfigError)
    (he : parseScalar n v = .error e) : e = .scalarMissingType := by
  cases v <;> simp [scalarOk] at h
  case table d =>
    simp only [parseScalar] at he
    cases ht : TV.lookup "type" d with
    | none => simp [ht] at he; exact he.symm
    | some t =>
      simp only [ht] at he
      have hstr : ∀ k x, TV.lookup k d = some x → x.isStr = true := fun k x hx => h k x (lookup_mem k x d hx)
      rw [objectNameCheck_str t (hstr "type" t ht)] at he
      have hopt : ∀ k, optObjectNameCheck (TV.lookup k d) = none := by
        intro k
        cases hk : TV.lookup k d with
        | none => rfl
        | some x =>
          simp only [optObjectNameCheck]
          split
          · exact objectNameCheck_str x (hstr k x hk)
          · rfl
      simp [hopt] at he

theorem parseScalars_welltyped (kvs : List (String × TV)) (h : kvs.all (fun kv => scalarOk kv.2) = true) (e : ConfigError)
    (he : parseScalars kvs = .error e) : e = .scalarMissingType := by
  obtain ⟨kv, hm, hx⟩ := Lists.mapM_error_mem (parseScalars_eq kvs ▸ he)
  exact parseScalar_welltyped kv.1 kv.2 (List.all_eq_true.mp h kv hm) _ hx

theorem scalarsOf_welltyped (sec : Dict) (hw : SectionWellTyped sec) (e : ConfigError) (he : scalarsOf sec = .error e) :
    e = .scalarMissingType := by
  unfold scalarsOf at he
  cases hl : TV.lookup "scalars" sec with
  | none => simp [hl, bind, Except.bind, parseScalars] at he
  | some v =>
    have hk := hw "scalars" v hl
    simp only [kindOk] at hk
    have hk' : scalarsOk v = true := by simpa using hk
    cases v <;> simp [scalarsOk] at hk'
    case table kvs =>
      simp only [hl, bind, Except.bind] at he
      exact parseScalars_welltyped kvs (by simpa [List.all_eq_true] using hk') e he

/-- the section the dataclass constructor sees keeps the documented kinds (the two item assignments put
    a table and a string) -/
theorem field_kind (sec : Dict) (hw : SectionWellTyped sec) (scalars : List ScalarData) (k : String) (dflt : TV)
    (hknown : knownClientKey k = true) (hns : k ≠ "scalars") (hd : kindOk k dflt = true)
    (hstrict : k = "include_comments" → False) :
    kindOk k (getV ((sectionAfter sec scalars).filter (fun kv => knownClientKey kv.1)) k dflt) = true := by
  unfold getV
  rw [lookup_filter_key knownClientKey k hknown]
  have : TV.lookup k (sectionAfter sec scalars) = TV.lookup k sec := by
    unfold sectionAfter
    split
    · rw [lookup_dictSet_ne k "include_comments" _ _ hstrict, lookup_dictSet_ne k "scalars" _ _ hns]
    · rw [lookup_dictSet_ne k "scalars" _ _ hns]
  rw [this]
  cases hl : TV.lookup k sec with
  | none => exact hd
  | some v => exact hw k v hl

theorem buildClient_welltyped (env : Env) (sec : Dict) (hw : SectionWellTyped sec) (scalars : List ScalarData) :
    WellTyped (buildClient env (sectionAfter sec scalars) scalars) := by
  have F := fun k dflt hknown hns hd hstrict => field_kind sec hw scalars k dflt hknown hns hd hstrict
  constructor
  · have := F "schema_path" (.str "") (by decide) (by decide) (by decide) (by decide); simp [kindOk] at this; exact this
  · have := F "remote_schema_headers" (.table []) (by decide) (by decide) (by decide) (by decide); simp [kindOk] at this; exact this
  · have := F "queries_path" (.str "") (by decide) (by decide) (by decide) (by decide); simp [kindOk] at this; exact this
  · have := F "target_package_name" (.str "graphql_client") (by decide) (by decide) (by decide) (by decide); simp [kindOk] at this; exact this
  · have := F "target_package_path" (.str env.cwd) (by decide) (by decide) (by simp [kindOk, TV.isStr]) (by decide); simp [kindOk] at this; exact this
  · have := F "client_name" (.str "Client") (by decide) (by decide) (by decide) (by decide); simp [kindOk] at this; exact this
  · have := F "client_file_name" (.str "client") (by decide) (by decide) (by decide) (by decide); simp [kindOk] at this; exact this
  · have := F "base_client_name" (.str "") (by decide) (by decide) (by decide) (by decide); simp [kindOk] at this; exact this
  · have := F "base_client_file_path" (.str "") (by decide) (by decide) (by decide) (by decide); simp [kindOk] at this; exact this
  · have := F "enums_module_name" (.str "enums") (by decide) (by decide) (by decide) (by decide); simp [kindOk] at this; exact this
  · have := F "input_types_module_name" (.str "input_types") (by decide) (by decide) (by decide) (by decide); simp [kindOk] at this; exact this
  · have := F "fragments_module_name" (.str "fragments") (by decide) (by decide) (by decide) (by decide); simp [kindOk] at this; exact this
  · have := F "async_client" (.bool true) (by decide) (by decide) (by decide) (by decide); simp [kindOk] at this; exact this
  · have := F "opentelemetry_client" (.bool false) (by decide) (by decide) (by decide) (by decide); simp [kindOk] at this; exact this
  · have := F "files_to_include" (.list []) (by decide) (by decide) (by decide) (by decide); simp [kindOk] at this; exact this

/-- **welltyped_section_typed**: a `[tool.ariadne-codegen]` section whose options have values of the
    documented kinds is either accepted or rejected with an ariadne-codegen exception — the bare Python
    exceptions of finding C17-F8 occur only for values of other kinds -/
theorem welltyped_section_typed (env : Env) (sec : Dict) (hw : SectionWellTyped sec) (e : ConfigError)
    (he : (getClientSettings env (mkCfg sec)).result = .error e) : e.typed = true := by
  simp only [getClientSettings, bind, Except.bind] at he
  rw [(readRawClient_mkCfg env sec).1] at he
  cases hsc : scalarsOf sec with
  | error e' =>
    simp only [hsc] at he
    injection he with he
    subst he
    rw [scalarsOf_welltyped sec hw e' hsc]
    rfl
  | ok scalars =>
    simp only [hsc] at he
    have hwt := buildClient_welltyped env sec hw scalars
    unfold clientPostInit at he
    cases hf : firstError (evalClientCheck env (buildClient env (sectionAfter sec scalars) scalars)) ClientCheck.order with
    | none => simp [hf] at he
    | some e' =>
      simp only [hf] at he
      injection he with he
      subst he
      obtain ⟨pre, k, post, _, hk, _⟩ := List.findSome?_eq_some_iff.mp (firstError_eq _ _ ▸ hf)
      exact check_error_typed env _ hwt k _ hk

example : SectionWellTyped okSec := by
  intro k v h
  have hm := lookup_mem k v _ h
  simp only [okSec, List.mem_cons, Prod.mk.injEq, List.not_mem_nil, or_false] at hm
  rcases hm with ⟨rfl, rfl⟩ | ⟨rfl, rfl⟩ | ⟨rfl, rfl⟩ <;> decide

/-- the old witness of C17-F2: the module name reaches the dataclass, is no valid name, and the settings refuse it -/
theorem wFragmentsModule_facts :
    (readRawClient wFragmentsModule.env wFragmentsModule.cfg).result.toOption.map (·.fragmentsModuleName)
      = some (.str "not-valid") ∧
    validName wFragmentsModule.env "not-valid" = false ∧
    (getClientSettings wFragmentsModule.env wFragmentsModule.cfg).result = .error (.badIdentifier "not-valid") ∧
    clientTriggers wFragmentsModule = [] ∧
    (client wFragmentsModule).result = .error (.settings, .config (.badIdentifier "not-valid")) := evaluated_queries.2.2.2.1

/-- **C17_F2_witness_now_ok** (regression theorem for the repaired finding C17-F2): the old witness
    — `fragments_module_name = "not-valid"`, an invalid configuration — now lies inside the region
    of `C17_partial` and satisfies the property: the command fails in the settings phase with
    `InvalidConfiguration` naming the value, and nothing was written. -/
theorem C17_F2_witness_now_ok :
    Invalid wFragmentsModule ∧ InDomain wFragmentsModule ∧ Supported wFragmentsModule ∧
    RejectedUpFront (client wFragmentsModule) ∧
    (client wFragmentsModule).result = .error (.settings, .config (.badIdentifier "not-valid")) := by
  obtain ⟨hraw, hbad, herr, htrig, hres⟩ := wFragmentsModule_facts
  have hsup := supported_of_no_triggers _ htrig
  have hinv : Invalid wFragmentsModule := by
    refine Or.inl (configInvalid_of_field _ _ _ _ hraw fun s hs d => ?_)
    obtain ⟨n, hn, hv⟩ := d.fragmentsModule
    rw [hs] at hn
    injection hn with hn
    subst hn
    rw [hbad] at hv
    cases hv
  have hdom : InDomain wFragmentsModule :=
    ⟨fun c hc => (by
        have h : wFragmentsModule.schema.remote = .ok := rfl
        rw [h] at hc; cases hc),
     rfl, tame_default,
     fun s hs => (by rw [herr] at hs; cases hs),
     readable_file _ _, readable_file _ _⟩
  exact ⟨hinv, hdom, hsup, C17_partial _ hdom hsup hinv, hres⟩

/-- the configured name is only a prefix of the class the file declares; the settings and the run accept it -/
theorem wClassPrefix_facts :
    (readRawClient wClassPrefix.env wClassPrefix.cfg).result.toOption.map (baseClientData wClassPrefix.env)
      = some (.str "MyBase", .str "/w/custom_base.py") ∧
    classDeclared wClassPrefix.env "/w/custom_base.py" "MyBase" = false ∧
    isOk (client wClassPrefix).result = true ∧
    trigClassSubstring wClassPrefix.env wClassPrefix.cfg = true := evaluated_queries.2.2.2.2

theorem class_prefix_invalid_but_accepted :
    Invalid wClassPrefix ∧ isOk (client wClassPrefix).result = true ∧
    trigClassSubstring wClassPrefix.env wClassPrefix.cfg = true := by
  obtain ⟨hraw, hdecl, hok, ht⟩ := wClassPrefix_facts
  refine ⟨Or.inl (configInvalid_of_field _ _ _ _ hraw fun s hs d => ?_), hok, ht⟩
  obtain ⟨p, hp, hv⟩ := d.baseClientClass
  rw [hs] at hp hv
  injection hp with hp
  subst hp
  exact Bool.noConfusion (hdecl.symm.trans hv)

end Ariadne.C17
