/-
  C07 — Custom scalars are parsed and serialised exactly once per occurrence.

  Statements + final proofs.  Models: Model/Scalars.lean (`ScalarData`, both annotation generators,
  `generate_scalar_imports`), Model/ResultAnn.lean (result annotations over response shapes),
  Model/ResultUnion.lean (result annotations over shapes WITH ABSTRACT POSITIONS: `Union[...]` of member classes,
  `annotate_nested_unions` and the field-level discriminator modelled on annotation syntax; the scalar imports of a
  result module), Model/InputFields.lean (input-class annotations), Model/Arguments.lean (`_get_dict_value`,
  `_used_custom_scalars`), Model/ClientImports.lean (the scalar imports of client.py),
  Model/ArgSend.lean (the emitted method), Model/ArgValues.lean (`serCalls`: the calls a value is
  entitled to), Model/InputImports.lean (the scalar imports of the `input_types.py` module for every
  `include_all_inputs` / `types_to_include`, over C09's class filter `Prune.filterInputDefs`).  Reference semantics of
  pydantic WITH CALL LOGS: Spec/PydLog.lean, and Spec/PydUnionLog.lean for tagged / plain unions of model classes
  (modelled, validated against the real library with instrumented parse/serialize functions, not verified).

  Reading decision (DESIGN.md §3.0): "once per occurrence" counts calls per non-null leaf of the
  VALUE, not per annotation (at an abstract position: per leaf of the member the object belongs to, not per member class).

  The property is FALSE as written (`C07_full_false`, by C07-F1 on a top-level argument):
    C07-F1 `trigSerializeNullable`  `variables = {"d": serialize(d)}` is unconditional → called with None / UNSET
    C07-F2 `trigSerializeList`      a list-typed top-level variable gets ONE `serialize(list)`
    C07-F3 `trigImportKeyDotted`    deprecated `import` key + dotted name → `from m import a.b.C` (not Python)
  Outside the triggers it is proved (`C07_partial`); the result side (`parse_once`, and `parse_once_abs` over abstract
  positions: `unions_all_discriminated`) and input-model fields (`serialize_once_fields`) hold for every wrapper nesting;
  "every needed import is emitted" is proved module by module: `imports_cover` (one scalar), `inputs_imports_cover`
  (input_types.py), `results_imports_cover` (result modules), `client_imports_cover` (client.py).

  Not proved here (correspondence / oracle only): result classes that inherit fields from fragment classes of
  fragments.py and the imports of fragments.py; fields with `@skip` / `@include` (default `None`); which classes and
  `Literal` values an abstract position gets (C01's subject: the shape carries them); autoflake / isort / black and
  the import of the emitted modules.
-/
import AriadneModel.Model.ResultAnn
import AriadneModel.Model.InputImports
import AriadneModel.Proofs.ArgCalls
import AriadneModel.Proofs.Prune
import AriadneModel.Proofs.C07Union
import AriadneModel.Proofs.C07Client
import AriadneModel.Proofs.InputImports
import AriadneModel.Properties.C03


namespace Ariadne.C07
open Ariadne.Scalars Ariadne.ResultAnn Ariadne.PydLog Ariadne.ArgValues Ariadne.Coerce Ariadne.ArgSend
open Ariadne.Arguments Ariadne.ArgFindings Ariadne.ArgProofs
open Ariadne.BaseClient (PV)
open Ariadne.ResultUnion Ariadne.PydUnionLog Ariadne.C07Union

/-! ## 1. Results: `parse` exactly once per non-null occurrence, never on null -/

/-- `parse_once`: for every response shape (any nesting of Optional / List / objects) and every
    conformant value, validation calls `parse` on exactly the non-null custom-scalar occurrences,
    each once, in order.  The shape is one without abstract positions (`ofRT`), on which the two
    validators agree: the statement is `parse_once_abs`'s at that shape. -/
theorem parse_once (accept : Leaf → J → Bool) (cfg : ScalarCfg) (t : RT) (j : J) (h : conforms t j = true) :
    (validateLog accept (annOfR cfg t) j).calls = occurrences cfg t j := by
  rw [← validateU_ofRT, ← occurrencesU_ofRT]
  exact parse_once_final accept cfg (ofRT t) j (by rw [conformsU_ofRT]; exact h)

theorem parse_once_fields (accept : Leaf → J → Bool) (cfg : ScalarCfg) (fs : List (String × RT)) (kvs : List (String × J))
    (h : conformsFields fs kvs = true) :
    (validateFields accept (annOfFields cfg fs) kvs).calls = occurrencesFields cfg fs kvs := by
  rw [← validateUFlds_ofRT, ← occurrencesFlds_ofRT]
  exact flds_once_final accept cfg (ofRTFields fs) kvs (by rw [conformsFlds_ofRT]; exact h)

/-- no occurrence is null (with `parse_once`: `parse` is never called on null); shapes without abstract
    positions are the special case `ofRT` of those with -/
theorem occurrences_non_null (cfg : ScalarCfg) (t : RT) (j : J) : ∀ c ∈ occurrences cfg t j, c.raw.isNull = false := by
  rw [← occurrencesU_ofRT]; exact occurrencesU_non_null cfg (ofRT t) j

/-- `parse` is never called on null -/
theorem parse_never_null (accept : Leaf → J → Bool) (cfg : ScalarCfg) (t : RT) (j : J) (h : conforms t j = true) :
    ∀ c ∈ (validateLog accept (annOfR cfg t) j).calls, c.raw.isNull = false := by
  rw [parse_once accept cfg t j h]; exact occurrences_non_null cfg t j

/-! ## 1b. Results over ABSTRACT positions: unions of member classes, under any nesting of Optional / List

  An interface / union field resolved with inline fragments (or fragments on subtypes) becomes
  `Union["…A", "…B", …]` of classes that each declare the fields selected on the interface level - a custom
  scalar selected there stands in EVERY member class.  pydantic validates a plain union of model classes by
  trying every member (Spec/PydUnionLog.lean), which would call `parse` once per member; with
  `Field(discriminator="typename__")` only the member named by `__typename` is validated.  Whether `parse` is
  called once therefore depends on WHERE the generator puts the discriminator: `annotate_nested_unions`
  (walks the slice through every wrapper) and the field-level keyword (a union at the top).
  Model/ResultUnion.lean models that pipeline on annotation syntax; the theorems below hold for every shape. -/

/-- `unions_all_discriminated`: for every shape - any nesting of `Optional[…]` / `List[…]` above an abstract
    position, abstract positions inside member classes, … - the generator's pipeline (`rawAnn`, then
    `annotate_nested_unions` on the slice, then the field-level discriminator) emits the annotation in which EVERY
    union is a tagged union, and no plain `Union[…]` is left anywhere (at any depth, member classes included). -/
theorem unions_all_discriminated (cfg : ScalarCfg) (t : RTU) :
    annField cfg t = finalAnn cfg t ∧ hasPlainUnion (annField cfg t) = false := by
  have h : annField cfg t = finalAnn cfg t := top_final cfg t
  exact ⟨h, by rw [h]; exact final_no_plain_union cfg t⟩

/-- the walk alone (a slice: what stands below the outer wrapper of a field) -/
theorem nested_walk_discriminates (cfg : ScalarCfg) (t : RTU) :
    annotateNested (rawAnn cfg t) = finalAnn cfg t := nested_final cfg t

/-- `parse_once_abs`: for every response shape WITH abstract positions and every conformant value, validation of
    the emitted annotation calls `parse` on exactly the non-null custom-scalar occurrences of the member each object
    belongs to, each once, in order - never once per member class. -/
theorem parse_once_abs (accept : Leaf → J → Bool) (cfg : ScalarCfg) (t : RTU) (j : J) (h : conformsU t j = true) :
    (validateU accept (annField cfg t) j).calls = occurrencesU cfg t j := by
  rw [(unions_all_discriminated cfg t).1]
  exact parse_once_final accept cfg t j h

/-- … and never on null -/
theorem parse_never_null_abs (accept : Leaf → J → Bool) (cfg : ScalarCfg) (t : RTU) (j : J) (h : conformsU t j = true) :
    ∀ c ∈ (validateU accept (annField cfg t) j).calls, c.raw.isNull = false := by
  rw [parse_once_abs accept cfg t j h]; exact occurrencesU_non_null cfg t j

/-- shapes without abstract positions (section 1) are the special case `ofRT`: same conformant values, same
    occurrences (and the same validation: `C07Union.validateU_ofRT`, through which `parse_once` is read off) -/
theorem abs_extends_plain (cfg : ScalarCfg) (t : RT) (j : J) :
    conformsU (ofRT t) j = conforms t j ∧ occurrencesU cfg (ofRT t) j = occurrences cfg t j :=
  ⟨conformsU_ofRT t j, occurrencesU_ofRT cfg t j⟩

/-- non-vacuity: `animals: [Animal]!` (nullable items) with `stamp: ScA!` selected on the interface and
    `... on Cat { c }`; a conformant value with a `Cat`, a null and a `Bird` -/
def exAnimal : Flds := .cons "__typename" (.tag ["Animal", "Bird"]) (.cons "stamp" (.custom "ScA" true) .nil)
def exCat : Flds := .cons "__typename" (.tag ["Cat"]) (.cons "stamp" (.custom "ScA" true) (.cons "c" (.custom "ScA" false) .nil))
def exAnimals : RTU := .list (.abs (.cons exAnimal (.cons exCat .nil)) false) true
def exAnimalsValue : J := .arr [.obj [("__typename", .str "Cat"), ("stamp", .str "t1"), ("c", .null)], .null,
  .obj [("__typename", .str "Bird"), ("stamp", .str "t2")]]
theorem exAnimals_facts :
    conformsU exAnimals exAnimalsValue = true
    ∧ (occurrencesU [("ScA", C03.scaData)] exAnimals exAnimalsValue).length = 2
    ∧ ((validateU (fun _ _ => true) (annField [("ScA", C03.scaData)] exAnimals) exAnimalsValue).calls.map (·.fn)) =
        ((occurrencesU [("ScA", C03.scaData)] exAnimals exAnimalsValue).map (·.fn))
    ∧ (validateU (fun _ _ => true) (rawAnn [("ScA", C03.scaData)] exAnimals) exAnimalsValue).calls.length = 4 := by
  decide +kernel

example : conformsU exAnimals exAnimalsValue = true := exAnimals_facts.1
example : (occurrencesU [("ScA", C03.scaData)] exAnimals exAnimalsValue).length = 2 := exAnimals_facts.2.1
example : ((validateU (fun _ _ => true) (annField [("ScA", C03.scaData)] exAnimals) exAnimalsValue).calls.map (·.fn)) =
    ((occurrencesU [("ScA", C03.scaData)] exAnimals exAnimalsValue).map (·.fn)) := exAnimals_facts.2.2.1

/-- why the discriminator matters: on the annotation BEFORE the walk (what a walk that stops at `Optional` would
    leave inside the list) the same value makes pydantic call `parse` once per member class: 4 calls for 2 occurrences -/
theorem plain_union_overcalls :
    (validateU (fun _ _ => true) (rawAnn [("ScA", C03.scaData)] exAnimals) exAnimalsValue).calls.length = 4 :=
  exAnimals_facts.2.2.2

/-! ## 2. Input-model fields: `serialize` exactly once per set, non-None leaf, at any depth -/

/-- `serialize_once_fields`: dumping an input-model instance calls `serialize` exactly on its set,
    non-None custom-scalar leaves (list items and nested instances included), each once, in order. -/
theorem serialize_once_fields (cfg : Cfg) (fns : UserFns) (hy : Hyp cfg fns) (n : String) (nn : Bool) (cls : String)
    (fields : List (FieldKey × AV)) (ht : hasType cfg (.named n nn) (.model cls fields) = true) :
    ∃ kvs calls, dumpFields fns fields = .ok (kvs, calls) ∧ calls = serCallsFields cfg fields := by
  obtain ⟨kvs, calls, hd, hc, _⟩ := model_Good cfg fns hy _ cls fields ht
  exact ⟨kvs, calls, hd, hc⟩

mutual
/-- the calls a value is entitled to never have `None` / `UNSET` as argument: always a scalar value -/
theorem serCalls_scalar_args (cfg : Cfg) (v : AV) : ∀ c ∈ serCalls cfg v, ∃ j, c.arg = .leaf (some j) := by
  cases v with
  | custom sc j =>
    intro c hc
    simp only [serCalls] at hc
    cases hs : cfg.serializeOf sc with
    | none => simp [hs] at hc
    | some f => simp [hs] at hc; subst hc; exact ⟨j, rfl⟩
  | list xs => intro c hc; simp only [serCalls] at hc; exact serCallsList_scalar_args cfg xs c hc
  | model cls fields => intro c hc; simp only [serCalls] at hc; exact serCallsFields_scalar_args cfg fields c hc
  | _ => intro c hc; simp [serCalls] at hc
theorem serCallsList_scalar_args (cfg : Cfg) (xs : List AV) : ∀ c ∈ serCallsList cfg xs, ∃ j, c.arg = .leaf (some j) := by
  cases xs with
  | nil => intro c hc; simp [serCallsList] at hc
  | cons x xs =>
    intro c hc
    simp only [serCallsList, List.mem_append] at hc
    rcases hc with hc | hc
    · exact serCalls_scalar_args cfg x c hc
    · exact serCallsList_scalar_args cfg xs c hc
theorem serCallsFields_scalar_args (cfg : Cfg) (fields : List (FieldKey × AV)) :
    ∀ c ∈ serCallsFields cfg fields, ∃ j, c.arg = .leaf (some j) := by
  cases fields with
  | nil => intro c hc; simp [serCallsFields] at hc
  | cons p rest =>
    obtain ⟨fk, v⟩ := p
    intro c hc
    simp only [serCallsFields, List.mem_append] at hc
    rcases hc with hc | hc
    · exact serCalls_scalar_args cfg v c hc
    · exact serCallsFields_scalar_args cfg rest c hc
end

/-! ## 3. Type-only and unconfigured scalars -/

/-- `type_only_roundtrip`: a scalar configured with only a (pydantic-native) type gets the bare
    type name in results and in input classes, and the `variables` dict holds the bare argument; no user function
    stands anywhere, so the value round-trips through pydantic's own handling of that type. -/
theorem type_only_roundtrip (d : ScalarData) (hp : truthy? d.parse = none) (hs : truthy? d.serialize = none) :
    resultLeaf d = .name d.typeName ∧ inputLeaf d = .name d.typeName ∧
    (∀ (env : Env) (sc py : String), lookupScalar env.scalars sc = some d → dictValue env py (.custom sc) = .name py) := by
  refine ⟨by simp [resultLeaf, ScalarData.parseName, hp], by simp [inputLeaf, ScalarData.serializeName, hs], ?_⟩
  intro env sc py hl
  simp [dictValue, hl, ScalarData.serializeName, hs]

/-- `unconfigured_passthrough`: a scalar that is not configured is `Any` everywhere; a response
    value reaches user code unchanged without any call, an argument travels unchanged. -/
theorem unconfigured_passthrough (cfg : ScalarCfg) (sc : String) (nn : Bool) (h : lookupScalar cfg sc = none) :
    annOfR cfg (.custom sc nn) = .leaf (.name "Any") (!nn) ∧
    (∀ accept j, (validateLog accept (annOfR cfg (.custom sc nn)) j).calls = []) ∧
    (∀ (env : Env) py, env.scalars = cfg → env.kind sc = some .scalar →
        parseNamed env sc (!nn) = .ok (.leaf (.name ((Util.lookupStr sc Tables.inputScalarsMap).getD "Any")) (!nn), .plain) ∧
        dictValue env py .plain = .name py) ∧
    (∀ fns opt j, dumpAnn fns (.leaf (.name "Any") opt) (.custom sc j) = .ok (.leaf (some j), [])) := by
  refine ⟨by simp [annOfR, h], ?_, ?_, ?_⟩
  · intro accept j
    simp only [annOfR, h, validateLog]
    by_cases hn : (j.isNull && !nn) = true <;> simp [hn, validateLeaf]
  · intro env py he hk
    subst he
    exact ⟨by simp [parseNamed, hk, h], rfl⟩
  · intro fns opt j; simp [dumpAnn, serLeaf]

/-! ## 4. Imports -/

/-- the names the emitted annotations / calls of a scalar refer to -/
def usedNames (d : ScalarData) : List String :=
  d.typeName :: (d.parseName.toList ++ d.serializeName.toList)

/-- `imports_cover`: every name an emitted annotation or call uses is bound by an emitted import,
    unless it is an undotted name without the `import` key (then it has to be a builtin such as
    `int`, `str`: nothing is imported for it by design). -/
theorem imports_cover (d : ScalarData) :
    ∀ x ∈ d.namesToImport,
      objectName x ∈ boundNames (scalarImports d) ∨ (hasDot x = false ∧ truthy? d.import_ = none) := by
  intro x hx
  by_cases hd : hasDot x = true
  · left
    simp only [scalarImports, boundNames, List.map_append, List.flatten_append, List.mem_append]
    right
    exact InputImports.mem_dottedImports x _ hx hd
  · have hd' : hasDot x = false := by simpa using hd
    cases hi : truthy? d.import_ with
    | none => right; exact ⟨hd', rfl⟩
    | some m =>
      left
      have hne := List.isEmpty_eq_false_iff.mpr (List.ne_nil_of_mem hx)
      simp only [scalarImports, hi, hne, boundNames, List.map_append, List.flatten_append, List.mem_append]
      left
      simp [objectName, hd', hx]

/-- … and each of `usedNames` is the object name of one of `names_to_import` -/
theorem usedNames_from_imports (d : ScalarData) (ht : truthy? (some d.type_) = some d.type_) :
    ∀ n ∈ usedNames d, ∃ x ∈ d.namesToImport, objectName x = n := by
  intro n hn
  simp only [usedNames, List.mem_cons, List.mem_append, Option.mem_toList] at hn
  rcases hn with hn | hn | hn
  · exact ⟨d.type_, by simp [ScalarData.namesToImport, ht], hn.symm⟩
  · simp only [ScalarData.parseName, Option.map_eq_some_iff] at hn
    obtain ⟨p, hp, rfl⟩ := hn
    exact ⟨p, by simp [ScalarData.namesToImport, hp], rfl⟩
  · simp only [ScalarData.serializeName, Option.map_eq_some_iff] at hn
    obtain ⟨p, hp, rfl⟩ := hn
    exact ⟨p, by simp [ScalarData.namesToImport, hp], rfl⟩

/-- the names the annotations / calls of a configured scalar use are bound by ANY import list that holds
    `generate_scalar_imports(d)` (or are undotted names configured without the `import` key) -/
theorem names_bound_of_imports (d : ScalarData) (is : List Import) (himp : ∀ i ∈ scalarImports d, i ∈ is)
    (ht : truthy? (some d.type_) = some d.type_) :
    ∀ x ∈ usedNames d, ∃ y ∈ d.namesToImport, objectName y = x ∧
      (x ∈ boundNames is ∨ (hasDot y = false ∧ truthy? d.import_ = none)) := by
  intro x hu
  obtain ⟨y, hy, hyx⟩ := usedNames_from_imports d ht x hu
  refine ⟨y, hy, hyx, ?_⟩
  rcases imports_cover d y hy with hbd | hnd
  · left
    rw [← hyx]
    simp only [boundNames, List.mem_flatten, List.mem_map] at hbd ⊢
    obtain ⟨l', ⟨i, hi, rfl⟩, hl'⟩ := hbd
    exact ⟨i.names, ⟨i, himp i hi, rfl⟩, hl'⟩
  · right; exact hnd

/-- every emitted `from … import name` is Python iff the finding trigger C07-F3 is off -/
def importsWellFormed (d : ScalarData) : Bool := (scalarImports d).all (fun i => i.names.all (fun n => !hasDot n))

theorem imports_wellformed_iff (d : ScalarData) (hne : d.namesToImport ≠ []) :
    importsWellFormed d = true ↔ trigImportKeyDotted d = false := by
  have hd := InputImports.dottedImports_wellformed d.namesToImport
  cases hi : truthy? d.import_ with
  | none => simp [importsWellFormed, scalarImports, hi, trigImportKeyDotted, hd]
  | some m =>
    have hemp := List.isEmpty_eq_false_iff.mpr hne
    simp only [importsWellFormed, scalarImports, hi, hemp, List.all_append, Bool.and_eq_true, hd, and_true,
      trigImportKeyDotted, Option.isSome_some, Bool.true_and]
    simp [List.all_eq_true, List.any_eq_false]

/-! ## 4b. The `input_types.py` module: the scalar imports cover every input class, whichever are emitted -/

section InputsModule
open Ariadne.InputImports Ariadne.InputFields

/-- `generate` never fails: no `KeyError` on `custom_scalars[...]`, no runaway recursion, for every
    schema, configuration and `types_to_include` -/
theorem inputs_generate_total (s : ISchema) (cfg : ScalarCfg) (roots : Option (List String)) :
    ∃ m, InputImports.generate s cfg roots = .ok m := by
  obtain ⟨is, his⟩ := scalarImportsOf_total cfg _ (usedScalars_configured s cfg)
  obtain ⟨cds, hcds⟩ := Prune.filterInputDefs_total (inputDefsOf s cfg) roots
  exact ⟨⟨cds.map (·.name), usedScalars (inputDefsOf s cfg), is⟩, by simp [InputImports.generate, hcds, his]⟩

/-- every emitted class is an input type of the schema -/
theorem emitted_classes_are_inputs (s : ISchema) (cfg : ScalarCfg) (roots : Option (List String)) (m : InputsModule)
    (h : InputImports.generate s cfg roots = .ok m) : ∀ c ∈ m.classes, ∃ fs, (c, IType.input fs) ∈ s.types := by
  intro c hc
  obtain ⟨cds, is, hf, hi, rfl⟩ := inputs_generate_inv h
  simp only [List.mem_map] at hc
  obtain ⟨dfn, hd, rfl⟩ := hc
  have := (Prune.filterInputDefs_spec hf).1 dfn hd
  simp only [inputDefsOf, List.mem_filterMap] at this
  obtain ⟨p, hp, hp2⟩ := this
  cases hq : p.2 with
  | input fs => simp only [hq, Option.some.injEq] at hp2; subst hp2; exact ⟨fs, by rw [← hq]; exact hp⟩
  | _ => simp [hq] at hp2

/-- `inputs_imports_cover`: for every `types_to_include` (hence both values of `include_all_inputs`),
    every input type `n` of the schema (by `emitted_classes_are_inputs`: every emitted class, the
    directly requested ones and the ones pulled in by the dependency closure alike) and every field of
    it whose base type is a configured custom scalar `d`: the field's annotation leaf is
    `generate_input_scalar_annotation(d)`, every import `generate_scalar_imports(d)` makes is in the
    module, and every name the annotation uses is bound by the module's imports (or is an undotted
    name configured without the `import` key: a builtin such as `str`, by design). -/
theorem inputs_imports_cover (s : ISchema) (cfg : ScalarCfg) (roots : Option (List String)) (m : InputsModule)
    (h : InputImports.generate s cfg roots = .ok m)
    (n : String) (fs : List IField) (hn : (n, IType.input fs) ∈ s.types) (f : IField) (hf : f ∈ fs) (d : ScalarData)
    (hk : kindOf s (baseName f.type) = .scalar) (hb : Util.lookupStr (baseName f.type) Tables.inputScalarsMap = none)
    (hd : lookupScalar cfg (baseName f.type) = some d) (hne : baseName f.type ≠ "")
    (ht : truthy? (some d.type_) = some d.type_) :
    namedLeaf cfg (kindOf s) (baseName f.type) = inputLeaf d ∧
    (∀ i ∈ scalarImports d, i ∈ m.scalarImports) ∧
    (∀ x ∈ (inputLeaf d).uses, ∃ y ∈ d.namesToImport, objectName y = x ∧
        (x ∈ boundNames m.scalarImports ∨ (hasDot y = false ∧ truthy? d.import_ = none))) := by
  have himp : ∀ i ∈ scalarImports d, i ∈ m.scalarImports := by
    have hft := fieldType_of_configured cfg (kindOf s) f.type d hk hb hd
    have hmem : baseName f.type ∈ usedScalars (inputDefsOf s cfg) := by
      simp only [usedScalars, List.mem_flatMap]
      refine ⟨{ name := n, fields := fs.filterMap (fun f => refOf (kindOf s) (fieldType cfg (kindOf s) f.type)) }, ?_, ?_⟩
      · simp only [inputDefsOf, List.mem_filterMap]
        exact ⟨(n, IType.input fs), hn, rfl⟩
      · simp only [scalarRefs, List.mem_filterMap]
        refine ⟨.scalar (baseName f.type), ⟨f, hf, ?_⟩, rfl⟩
        have hne' : (baseName f.type == "") = false := by simpa using hne
        simp [refOf, hft, hne', hk]
    obtain ⟨cds, is, _, hi, rfl⟩ := inputs_generate_inv h
    exact scalarImportsOf_mem cfg _ is hi _ hmem d hd
  refine ⟨by simp [namedLeaf, hk, hb, hd], himp, ?_⟩
  intro x hx
  have hu : x ∈ usedNames d := by
    simp only [inputLeaf] at hx
    cases hs : d.serializeName with
    | none => simp [hs, Leaf.uses] at hx; simp [usedNames, hx]
    | some fn =>
      simp only [hs, Leaf.uses, List.mem_cons, List.not_mem_nil, or_false] at hx
      rcases hx with hx | hx <;> simp [usedNames, hx, hs]
  exact names_bound_of_imports d m.scalarImports himp ht x hu

/-- non-vacuity: `Order.line: Line`, `Line.price: Money` with `Money` configured by dotted paths; only
    `Order` is requested, `Line` is emitted through the closure and its scalar's imports are there -/
def exSchema : ISchema := ⟨[("Money", .scalar), ("Order", .input [⟨"line", .named "Line" true, none⟩]),
  ("Line", .input [⟨"price", .named "Money" true, none⟩]), ("Audit", .input [⟨"at", .named "Money" false, none⟩])]⟩
def exScalars : ScalarCfg := [("Money", { type_ := ".money.Money", serialize := some ".money.ser" })]
example : (match InputImports.generate exSchema exScalars (some ["Order"]) with
    | .ok m => decide (m = ⟨["Order", "Line"], ["Money", "Money"],
        [⟨".money", ["Money"]⟩, ⟨".money", ["ser"]⟩, ⟨".money", ["Money"]⟩, ⟨".money", ["ser"]⟩]⟩)
    | .error _ => false) = true := by decide +kernel

end InputsModule

/-! ## 4c. Result modules: the scalar imports cover every custom-scalar position of the module's classes -/

section ResultsModule

/-- `_add_enums_scalars_fragments_imports` never fails: no `KeyError` on `custom_scalars[...]`, for every shape -/
theorem results_imports_total (cfg : ScalarCfg) (t : RTU) : ∃ is, resultImports cfg t = .ok is :=
  importsOfNames_total cfg _ (usedScalarsU_configured cfg t)

/-- `results_imports_cover`: for every shape (abstract positions, member classes, lists at any depth) every leaf of
    the emitted annotation, classes entered, is either a plain name (`.name py`: a built-in / enum position, or
    `Any` for an unconfigured scalar) or `generate_result_scalar_annotation(d)` of a configured scalar `d` all of whose
    imports are in the module, and then every name the leaf uses is bound by the module's imports (or is an undotted
    name configured without the `import` key: a builtin such as `str`, by design). -/
theorem results_imports_cover (cfg : ScalarCfg) (t : RTU) (is : List Import) (h : resultImports cfg t = .ok is) :
    ∀ l ∈ leavesOf (annField cfg t),
      (∃ py, l = .name py) ∨
      (∃ sc d, lookupScalar cfg sc = some d ∧ l = resultLeaf d ∧ (∀ i ∈ scalarImports d, i ∈ is) ∧
        (truthy? (some d.type_) = some d.type_ →
          ∀ x ∈ l.uses, ∃ y ∈ d.namesToImport, objectName y = x ∧
            (x ∈ boundNames is ∨ (hasDot y = false ∧ truthy? d.import_ = none)))) := by
  intro l hl
  rw [(unions_all_discriminated cfg t).1] at hl
  rcases leaves_origin cfg t l hl with ⟨sc, hsc, d, hd, he⟩ | hp
  · right
    have himp : ∀ i ∈ scalarImports d, i ∈ is := importsOfNames_mem cfg _ is h sc hsc d hd
    refine ⟨sc, d, hd, he, himp, ?_⟩
    intro ht x hx
    have hu : x ∈ usedNames d := by
      subst he
      simp only [resultLeaf] at hx
      cases hs : d.parseName with
      | none => simp [hs, Leaf.uses] at hx; simp [usedNames, hx]
      | some fn =>
        simp only [hs, Leaf.uses, List.mem_cons, List.not_mem_nil, or_false] at hx
        rcases hx with hx | hx <;> simp [usedNames, hx, hs]
    exact names_bound_of_imports d is himp ht x hu
  · left; exact hp

/-- non-vacuity: the member classes of `exAnimals` with a builtin type and a module-qualified parse function
    (`type = "int"`, `parse = ".custom_scalars.parse_stamp"`): the import of `parse_stamp` is there -/
example : (match resultImports [("ScA", { type_ := "int", parse := some ".custom_scalars.parse_stamp" })] exAnimals with
    | .ok is => decide (is = [⟨".custom_scalars", ["parse_stamp"]⟩, ⟨".custom_scalars", ["parse_stamp"]⟩, ⟨".custom_scalars", ["parse_stamp"]⟩])
    | .error _ => false) = true := by decide +kernel

end ResultsModule

/-! ## 4d. client.py: the scalar imports cover every operation variable of a custom-scalar type -/

section ClientModule
open Ariadne.ClientImports Ariadne.C07Client

/-- non-vacuity: the documented configuration shape (dotted type, parse, serialize) -/
example : (∀ i ∈ scalarImports C03.scaData, i ∈ scalarImports C03.scaData ++ []) ∧
    truthy? (some C03.scaData.type_) = some C03.scaData.type_ := ⟨fun i hi => by simpa using hi, by decide⟩

/-- `ClientGenerator.generate` never fails on `custom_scalars[...]`: whatever operations `add_method` saw -/
theorem client_imports_total (env : Env) (ops : List (List VarDef)) (st' : Arguments.St)
    (h : generateAll env ops {} = .ok st') : ∃ is, clientScalarImports env.scalars st'.usedScalars = .ok is :=
  importsOfNames_total env.scalars _ (generateAll_configured env ops {} st' h (by intro sc hsc; cases hsc))

/-- `client_imports_cover`: for every list of operations, every operation and every variable of it whose base type
    is a configured custom scalar `d` (under any list / non-null wrappers): the parameter's annotation names
    `d.type_name`, the `variables` dict holds `serialize(py)` exactly when `serialize` is configured, every import
    `generate_scalar_imports(d)` makes is in the module, and every name used is bound by the module's imports (or is an
    undotted name configured without the `import` key). -/
theorem client_imports_cover (env : Env) (ops : List (List VarDef)) (st' : Arguments.St) (is : List Import)
    (h : generateAll env ops {} = .ok st') (hi : clientScalarImports env.scalars st'.usedScalars = .ok is) :
    ∀ defs ∈ ops, ∀ its, items env defs = .ok its → ∀ i ∈ its, ∀ sc, i.use = .custom sc →
      ∃ d, lookupScalar env.scalars sc = some d ∧ baseLeaf i.arg.ann = .name d.typeName ∧
        i.value = (match d.serializeName with | some f => .call f i.arg.py | none => .name i.arg.py) ∧
        (∀ im ∈ scalarImports d, im ∈ is) ∧
        (truthy? (some d.type_) = some d.type_ →
          ∀ x ∈ usedNames d, ∃ y ∈ d.namesToImport, objectName y = x ∧
            (x ∈ boundNames is ∨ (hasDot y = false ∧ truthy? d.import_ = none))) := by
  intro defs hd its hits i hmem sc hu
  obtain ⟨v, _, hv⟩ := items_mem env defs its hits i hmem
  obtain ⟨d, hl, hb, hval⟩ := item_custom env v i sc hv hu
  have hin : sc ∈ st'.usedScalars := generateAll_mem env ops {} st' h defs hd its hits i hmem sc hu
  have himp : ∀ im ∈ scalarImports d, im ∈ is := importsOfNames_mem env.scalars _ is hi sc hin d hl
  exact ⟨d, hl, hb, hval, himp, fun ht => names_bound_of_imports d is himp ht⟩

/-- non-vacuity: two operations; `$when: [Stamp!]` with `type = "int"`, `serialize = ".custom_scalars.serialize_stamp"` -/
def exStampData : ScalarData := { type_ := "int", serialize := some ".custom_scalars.serialize_stamp" }
def exClientKind (n : String) : Option Gql.Kind := if n = "Stamp" then some Gql.Kind.scalar else none
def exClientEnv : Env := { kind := exClientKind, scalars := [("Stamp", exStampData)] }
example : (match generateAll exClientEnv [[], [⟨"when", .list (.nonNull (.named "Stamp"))⟩]] {} with
    | .ok st => decide (st.usedScalars = ["Stamp"]) &&
        (match clientScalarImports exClientEnv.scalars st.usedScalars with
         | .ok is => decide (is = [⟨".custom_scalars", ["serialize_stamp"]⟩])
         | .error _ => false)
    | .error _ => false) = true := by decide +kernel

end ClientModule

/-! ## 5. Top-level arguments: the property as written is false -/

/-- C07 for the arguments of one call: `serialize` is called exactly once per non-null
    occurrence (as a multiset: the calls of the request are a permutation of the entitled ones),
    hence never for None and never for an omitted argument. -/
def SerializedOnce (cfg : Cfg) (fns : UserFns) (async : Bool) (opName opText : String)
    (defs : List VarDecl) (a : List AV) : Prop :=
  ∃ req, send (envOf cfg) fns async opName opText defs a = .ok req ∧ req.calls.Perm (serCallsList cfg a)

/-- every import emitted for a configured scalar is Python: no dotted name after `import` (that the needed ones are
    there is `imports_cover`, `*_imports_cover`) -/
def ImportsOK (cfg : Cfg) : Prop := ∀ p ∈ cfg.scalars, importsWellFormed p.2 = true

/-- C07 at full strength (argument side + imports; the result side is `parse_once`, which holds
    unconditionally): for every operation, every schema-valid call and every scalar configuration. -/
def C07_full : Prop :=
  ∀ (cfg : Cfg) (fns : UserFns) (async : Bool) (opName opText : String) (defs : List VarDecl) (a : List AV),
    C03.Valid_03 cfg fns defs → argsValid cfg (C03.idefs defs) a = true →
      SerializedOnce cfg fns async opName opText defs a ∧ ImportsOK cfg

/-- one trigger per open finding of findings.d/C07.json; the other name triggers are C03's
    findings (the method cannot be called at all there) -/
def Supported_07 (cfg : Cfg) (defs : List VarDecl) : Prop :=
  C03.Supported_03 cfg defs ∧ ¬ (cfg.scalars.any (fun p => trigImportKeyDotted p.2) = true)   -- C07-F3

instance (cfg : Cfg) (defs : List VarDecl) : Decidable (Supported_07 cfg defs) := by
  unfold Supported_07; infer_instance

theorem C07_partial (cfg : Cfg) (fns : UserFns) (async : Bool) (opName opText : String)
    (defs : List VarDecl) (a : List AV) (hv : C03.Valid_03 cfg fns defs) (hs : Supported_07 cfg defs)
    (hne : ∀ p ∈ cfg.scalars, p.2.namesToImport ≠ [])
    (ha : argsValid cfg (C03.idefs defs) a = true) :
    SerializedOnce cfg fns async opName opText defs a ∧ ImportsOK cfg := by
  refine ⟨?_, ?_⟩
  · exact send_calls cfg fns hv.hyp defs a opName opText "Client" async hv.inputTypes hv.varNames
      ((C03.supported_iff cfg defs).mp hs.1) ha
  · intro p hp
    rw [imports_wellformed_iff p.2 (hne p hp)]
    have := hs.2
    simp only [List.any_eq_true, not_exists, not_and, Bool.not_eq_true] at this
    exact this p hp

/-- with `badCallsB` below: the executable form of `SerializedOnce` (count and arguments of the calls), to evaluate witnesses -/
def callArgKind : PV → String
  | .none => "None"
  | .unset => "UNSET"
  | .list _ => "list"
  | .leaf _ => "scalar"
  | _ => "other"

theorem perm_kinds {l1 l2 : List Call} (h : l1.Perm l2) :
    (l1.map (fun c => callArgKind c.arg)).Perm (l2.map (fun c => callArgKind c.arg)) := h.map _

/-- under `SerializedOnce` every call has a scalar value as argument -/
theorem serializedOnce_scalar_args {cfg : Cfg} {fns : UserFns} {async : Bool} {opName opText : String}
    {defs : List VarDecl} {a : List AV} (h : SerializedOnce cfg fns async opName opText defs a) :
    ∃ req, send (envOf cfg) fns async opName opText defs a = .ok req ∧
      (∀ c ∈ req.calls, callArgKind c.arg = "scalar") ∧ req.calls.length = (serCallsList cfg a).length := by
  obtain ⟨req, h1, h2⟩ := h
  refine ⟨req, h1, fun c hc => ?_, h2.length_eq⟩
  obtain ⟨j, hj⟩ := serCallsList_scalar_args cfg a c (h2.mem_iff.mp hc)
  simp [hj, callArgKind]

def badCallsB (cfg : Cfg) (fns : UserFns) (async : Bool) (opName opText : String) (defs : List VarDecl) (a : List AV) : Bool :=
  match send (envOf cfg) fns async opName opText defs a with
  | .ok req => req.calls.any (fun c => callArgKind c.arg != "scalar") || req.calls.length != (serCallsList cfg a).length
  | .error _ => true

theorem not_bad_of_once {cfg : Cfg} {fns : UserFns} {async : Bool} {opName opText : String}
    {defs : List VarDecl} {a : List AV} (h : SerializedOnce cfg fns async opName opText defs a) :
    badCallsB cfg fns async opName opText defs a = false := by
  obtain ⟨req, h1, h2, h3⟩ := serializedOnce_scalar_args h
  simp only [badCallsB, h1, Bool.or_eq_false_iff, List.any_eq_false, bne_iff_ne, ne_eq, Decidable.not_not]
  exact ⟨fun c hc => by simpa using h2 c hc, by simpa using h3⟩

theorem not_once_of_bad {cfg : Cfg} {fns : UserFns} {async : Bool} {opName opText : String}
    {defs : List VarDecl} {a : List AV} (h : badCallsB cfg fns async opName opText defs a = true) :
    ¬ SerializedOnce cfg fns async opName opText defs a :=
  fun hs => by rw [not_bad_of_once hs] at h; cases h

/-- C07-F1: an omitted / None nullable custom-scalar argument: serialize(UNSET), serialize(None) -/
theorem f1_run : badCallsB C03.scaCfg C03.wFns true "Q" "query Q" C03.f5Defs [.unset] = true
    ∧ badCallsB C03.scaCfg C03.wFns true "Q" "query Q" C03.f5Defs [.none] = true := by decide +kernel
theorem F1_witness_fails : ¬ SerializedOnce C03.scaCfg C03.wFns true "Q" "query Q" C03.f5Defs [.unset] :=
  not_once_of_bad f1_run.1
theorem F1_none_witness_fails : ¬ SerializedOnce C03.scaCfg C03.wFns true "Q" "query Q" C03.f5Defs [.none] :=
  not_once_of_bad f1_run.2

/-- C07-F2: one serialize(list) for a list of two scalars -/
theorem F2_witness_fails : ¬ SerializedOnce C03.scaCfg C03.wFns true "Q" "query Q" C03.f7Defs C03.f7Args :=
  not_once_of_bad (by decide +kernel)

/-- C07-F3: `import` key together with a dotted path -/
def f3Data : ScalarData :=
  { type_ := ".custom_scalars.TA", serialize := some "serialize_a", parse := some "parse_a", import_ := some ".custom_scalars" }
theorem F3_witness_fails : importsWellFormed f3Data = false ∧ trigImportKeyDotted f3Data = true := by decide +kernel

example : argsValid C03.scaCfg (C03.idefs C03.f5Defs) [.unset] = true ∧
    trigSerializeNullable (envOf C03.scaCfg) (C03.vdefs C03.f5Defs) = true := C03.f5_run.2.2
example : argsValid C03.scaCfg (C03.idefs C03.f7Defs) C03.f7Args = true ∧
    trigSerializeList (envOf C03.scaCfg) (C03.vdefs C03.f7Defs) = true := C03.f7_run.2

theorem C07_full_false : ¬ C07_full := by
  intro h
  have hv : C03.Valid_03 C03.scaCfg C03.wFns C03.f5Defs := ⟨C03.sca_hyp, by decide, by decide⟩
  exact F1_witness_fails (h C03.scaCfg C03.wFns true "Q" "query Q" C03.f5Defs [.unset] hv C03.f5_run.2.2.1).1

/-! ### 5b. The C07-F1 region, value by value: a nullable serialised variable with a PRESENT value is fine

  `trigSerializeNullable` (shared with C03) is a predicate on the variable *definitions*: `C07_partial`
  says nothing about an operation that declares `$d: Scalar` even when the caller passes a value.
  On the call-log components of a request (`dictCalls`: the calls of the `variables` dict literal,
  `dumpP`: the calls of the dumps of the arguments - what `send` returns as `req.calls` wherever it
  succeeds, `send_calls`) the region is narrowed to the VALUES on which the unchanged code really
  fails: a serialised scalar variable may be nullable as long as the value passed is a present scalar
  value - truthy or falsy alike: the model has no notion of truthiness, `serialize` is called
  unconditionally.  (For the whole `send` under this condition: `ArgProofs.send_ok`, from `SerArgsOK`.  On the real
  packages the whole-request call log is tied to the model by the `serialize-log` correspondence.) -/

def isCustomValue : AV → Bool
  | .custom _ _ => true
  | _ => false

/-- value-level form of the serialize triggers: a variable whose scalar has `serialize` is not a
    list and is either `Scalar!` or carries a present scalar value -/
def serTopOKV (cfg : Cfg) : List IField → List AV → Bool
  | d :: ds, v :: vs =>
    (match cfg.serOfType d.type with
     | some _ => !d.type.isList && (d.type.nonNull || isCustomValue v)
     | none => true) && serTopOKV cfg ds vs
  | _, _ => true

theorem serTopOKV_of_serTopOK (cfg : Cfg) (ds : List IField) (vs : List AV) (h : serTopOK cfg ds = true) :
    serTopOKV cfg ds vs = true := by
  induction ds generalizing vs with
  | nil => simp [serTopOKV]
  | cons d ds ih =>
    cases vs with
    | nil => simp [serTopOKV]
    | cons v vs =>
      simp only [serTopOK, Bool.and_eq_true] at h
      simp only [serTopOKV, Bool.and_eq_true]
      refine ⟨?_, ih vs h.2⟩
      cases hser : cfg.serOfType d.type with
      | none => rfl
      | some f =>
        have h1 := h.1
        rw [hser] at h1
        simp only [Bool.and_eq_true, Bool.not_eq_true'] at h1
        simp [h1.1, h1.2]

/-- one argument: where the value-level trigger is off and a `serialize` is configured, the value is a scalar value -/
theorem custom_of_serV (cfg : Cfg) (d : IField) (v : AV)
    (hv : (v.isUnset = true ∧ d.type.nonNull = false) ∨ hasType cfg d.type v = true)
    (hs : (match cfg.serOfType d.type with
           | some _ => !d.type.isList && (d.type.nonNull || isCustomValue v)
           | none => true) = true) :
    ∀ f, cfg.serOfType d.type = some f → ∃ sc j, v = .custom sc j := by
  intro f hf
  simp only [hf, Bool.and_eq_true, Bool.not_eq_true', Bool.or_eq_true] at hs
  rcases hs.2 with hnn | hc
  · rcases hv with h | h
    · rw [hnn] at h; cases h.2
    · exact custom_of_scalar_type cfg d.type v h (isScalar_of_serOfType cfg _ f hf) hnn hs.1
  · cases v <;> simp [isCustomValue] at hc
    exact ⟨_, _, rfl⟩

/-- where the value-level triggers are off, `serialize(p)` only stands where a scalar value is passed -/
theorem serArgsOK_of_serTopOKV (cfg : Cfg) (ds : List IField) (vs : List AV) (hv : argsValid cfg ds vs = true)
    (hs : serTopOKV cfg ds vs = true) : SerArgsOK cfg ds vs := by
  induction ds, vs using argsValid.induct with
  | case1 => intro dv hm; simp at hm
  | case2 d ds v vs ih =>
    have hz := (argsValid_zip cfg (d :: ds) (v :: vs) hv).2 (d, v) (by simp)
    simp only [argsValid, Bool.and_eq_true] at hv
    simp only [serTopOKV, Bool.and_eq_true] at hs
    intro dv hm
    simp only [List.zip_cons_cons, List.mem_cons] at hm
    rcases hm with rfl | hm
    · exact custom_of_serV cfg d v hz hs.1
    · exact ih hv.2 hs.2 dv hm
  | case3 ds vs _ _ => simp [argsValid] at hv

/-- `request_calls_present`: for every schema-valid assignment in which each serialised scalar
    variable is `Scalar!` or carries a present value (nullable variables included), the calls of the
    dict literal together with the calls of the dumps are a permutation of one call per non-null
    occurrence - whatever the values are (nothing depends on their truthiness). -/
theorem request_calls_present (cfg : Cfg) (fns : UserFns) (hy : Hyp cfg fns) (ds : List IField) (vs : List AV)
    (hv : argsValid cfg ds vs = true) (hs : serTopOKV cfg ds vs = true) :
    (dictCalls cfg ds vs ++ dumpP fns vs).Perm (serCallsList cfg vs) :=
  request_calls_perm cfg fns hy ds vs hv (serArgsOK_of_serTopOKV cfg ds vs hv hs)

/-- non-vacuity: the C07-F1 witness definitions (`$a: ScA`, nullable) with a present value are inside the region,
    with `None` / omitted they are not -/
example : serTopOKV C03.scaCfg (C03.idefs C03.f5Defs) [.custom "ScA" (.str "")] = true ∧
    argsValid C03.scaCfg (C03.idefs C03.f5Defs) [.custom "ScA" (.str "")] = true ∧
    serTopOK C03.scaCfg (C03.idefs C03.f5Defs) = false ∧
    serTopOKV C03.scaCfg (C03.idefs C03.f5Defs) [.none] = false ∧
    serTopOKV C03.scaCfg (C03.idefs C03.f5Defs) [.unset] = false := by decide +kernel

/-! ## 6. Non-vacuity -/

/-- what C07 asks of the input of `C03.ex_facts` beyond it: its scalar configuration is importable, and the
    assignment holds two serialised scalar values -/
theorem ex_scalar_facts :
    ¬ (C03.exCfg.scalars.any (fun p => trigImportKeyDotted p.2) = true)
    ∧ (∀ p ∈ C03.exCfg.scalars, p.2.namesToImport ≠ [])
    ∧ (serCallsList C03.exCfg C03.exArgs).length = 2 := by decide +kernel

theorem ex_supported : Supported_07 C03.exCfg C03.exDefs :=
  have ⟨_, _, _, _, _, hs, _⟩ := C03.ex_facts; ⟨hs, ex_scalar_facts.1⟩

example : Supported_07 C03.exCfg C03.exDefs ∧ argsValid C03.exCfg (C03.idefs C03.exDefs) C03.exArgs = true :=
  have ⟨_, _, _, _, ha, _⟩ := C03.ex_facts; ⟨ex_supported, ha⟩
/-- … so `C07_partial` applies to the input, and what it promises can be watched on the evaluated call log -/
example : badCallsB C03.exCfg C03.wFns false "Q" "query Q" C03.exDefs C03.exArgs = false :=
  have ⟨_, _, _, _, ha, _⟩ := C03.ex_facts
  not_bad_of_once (C07_partial C03.exCfg C03.wFns false "Q" "query Q" C03.exDefs C03.exArgs C03.ex_valid ex_supported
    ex_scalar_facts.2.1 ha).1
example : (serCallsList C03.exCfg C03.exArgs).length = 2 := ex_scalar_facts.2.2
example : conforms (.obj [("a", .list (.custom "ScA" false) true), ("b", .custom "ScA" true)] true)
    (.obj [("a", .arr [.str "x", .null, .num 3 0]), ("b", .arr [.null])]) = true := by decide +kernel
example : (occurrences [("ScA", C03.scaData)] (.obj [("a", .list (.custom "ScA" false) true), ("b", .custom "ScA" true)] true)
    (.obj [("a", .arr [.str "x", .null, .num 3 0]), ("b", .arr [.null])])).length = 3 := by decide +kernel

end Ariadne.C07
