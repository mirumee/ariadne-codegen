/-
  C13 — Subscriptions follow the graphql-transport-ws protocol for every frame sequence.

  Models: Model/WsClient.lean (`execute_ws` & helpers of AsyncBaseClient), Model/WsClientOT.lean
  (the OpenTelemetry twin), run against the tables extracted from /repo on every check
  (`Tables.wsTypesAsync`, `wsTypesAsyncOT`, `wsSubprotocolAsync*`, `wsConnectAccepted`).
  Vocabulary: Spec/GraphqlTransportWs.lean (`letter`: the property's alphabet, over the protocol's
  literal type names; finding triggers), Spec/WsConnect.lean (keyword contract of the installed
  `websockets.connect`).  Helper lemmas: Proofs/WsClient.lean, Proofs/WsClientHeap.lean, Proofs/SubscriptionMethod.lean;
  Proofs/Schedule.lean (interleaved calls under every schedule, stated once: `interleaved_subscriptions_independent` is an instance).

  Quantification: every configuration, every `variables` value of the modelled value language,
  every list of frames — no bound on its length (induction over the frame list).

  §9 (Model/WsClientHeap.lean): the CONNECTION side on references - `__init__`, the header statements
  of `execute_ws` / `_execute_ws` / `_execute_ws_with_telemetry` on a store of dict objects, sequences
  and schedules of subscriptions on ONE client object sharing dicts in any pattern: no object that
  existed is written, the client object is what it was, every subscription is the one it is alone
  (`sequence_history_free`, `each_socket_headers`, `interleaved_subscriptions_independent`).
  §10: the consumer's side (refused connection, `aclose()` after n items).  Which variables `json.dumps`
  (no `default=`) can serialise (C13-F4) is in §6.

  Verdict on the pinned tree:  `C13_full` is FALSE (`C13_full_false`), for four reasons, each a
  recorded finding with a decidable trigger:
    C13-F1 `trigExtraHeadersKwarg`  the handshake clause (`handshake_full_false`): every call passes
                                    `extra_headers=`, which the installed websockets rejects;
    C13-F2 `trigFalsyNextData`      the yield clause (`yields_in_order_full_false`): `if data:`;
    C13-F3 `trigBinaryNotUtf8`      the invalid-message clause (`invalid_raises_full_false`):
                                    UnicodeDecodeError is not a JSONDecodeError;
    C13-F4 `trigVarsNeedJsonableDefault`  the subscribe clause (`variables_serialised_full_false`): a
                                    `datetime`/`Decimal`/… variable (custom scalar "supported by
                                    pydantic") makes `json.dumps` raise, no subscribe is sent.
  `C13_partial` proves every protocol clause for every input outside the F2/F3/F4 triggers, *given a
  socket* (the model's connect is abstract).  The F1 trigger is true of every call, so the handshake
  clause has no true part on this tree: it is decided by the loopback oracle of harness/c13.py.
-/
import AriadneModel.Generated.Tables
import AriadneModel.Model.WsClient
import AriadneModel.Model.WsClientOT
import AriadneModel.Spec.GraphqlTransportWs
import AriadneModel.Spec.WsConnect
import AriadneModel.Proofs.WsClient
import AriadneModel.Model.SubscriptionMethod
import AriadneModel.Proofs.SubscriptionMethod
import AriadneModel.Model.WsClientHeap
import AriadneModel.Proofs.WsClientHeap

namespace Ariadne.C13
open Ariadne Ariadne.WsClient Ariadne.GqlWs Ariadne.WsProofs

/-- the model of `AsyncBaseClient.execute_ws` on the tables extracted from /repo -/
def runPlain (cfg : Cfg) (vars : Vars) (fs : List Frame) : Trace :=
  WsClient.run Tables.wsTypesAsync Tables.wsSubprotocolAsync cfg vars fs

/-- the model of `AsyncBaseClientOpenTelemetry.execute_ws` (tracer unset / set) -/
def runOT (tracer : Bool) (cfg : Cfg) (vars : Vars) (fs : List Frame) : Trace :=
  WsClientOT.run tracer Tables.wsTypesAsyncOT Tables.wsSubprotocolAsyncOT cfg vars fs

/-! ## 0. The extracted tables are the protocol's -/

/-- `GraphQLTransportWSMessageType` of async_base_client.py has the eight members the code uses and
    their values are the protocol's message types (a changed value breaks this proof). -/
theorem types_resolve : Types.ofTable Tables.wsTypesAsync = some proto := by decide +kernel

theorem types_resolve_ot : Types.ofTable Tables.wsTypesAsyncOT = some proto := by decide +kernel

/-- `GRAPHQL_TRANSPORT_WS` is the protocol's subprotocol token in both modules. -/
theorem subprotocol_is_protocol :
    Tables.wsSubprotocolAsync = subprotocol ∧ Tables.wsSubprotocolAsyncOT = subprotocol := by decide +kernel

theorem runPlain_eq (cfg : Cfg) (vars : Vars) (fs : List Frame) :
    runPlain cfg vars fs = runT proto subprotocol cfg vars fs := by
  simp [runPlain, WsClient.run, types_resolve, subprotocol_is_protocol.1]

/-! ## 1. Vocabulary of the statements -/

/-- the caller did not pass a second `subprotocols=` (Python itself rejects that call) -/
def NoDupKw (cfg : Cfg) : Prop := J.hasKey "subprotocols" cfg.kwargs = false

-- the hypothesis at its unfolded type: `simp` rewrites with this, not with `h : NoDupKw cfg`
theorem NoDupKw.noKey {cfg : Cfg} (h : NoDupKw cfg) : J.hasKey "subprotocols" cfg.kwargs = false := h

def theConnect (cfg : Cfg) : Ev := .connect (connectArgs subprotocol cfg)
def initMsg (cfg : Cfg) : Msg := .connectionInit (initOf cfg)
def subscribeMsg (cfg : Cfg) (v : Option J) : Msg := .subscribe cfg.opId cfg.query cfg.opName v

def Serialised (vars : Vars) (v : Option J) : Prop :=
  (serialise vars = .absent ∧ v = none) ∨ (∃ j, serialise vars = .present j ∧ v = some j)

def Msg.isSubscribe : Msg → Bool
  | .subscribe .. => true
  | _ => false

/-- What the property demands of the terminal outcome, from the first terminal frame
    (`none` = the frame is outside the property's alphabet: nothing demanded). -/
def demandedOutcome : Option Frame → Option Outcome
  | none => some .exhausted
  | some x =>
    match letter x with
    | .complete => some .completed
    | .error es => some (.multiError (es.map errOfJ) (msgOf x))
    | .nonJson => some (.invalidMessage .message)
    | .unknownType => some (.invalidMessage .message)
    | .missingType => some (.invalidMessage .message)
    | .nextNoData => some (.invalidMessage .message)
    | _ => none

/-! ## 2. Shape of every run -/

theorem run_dup_kwarg (cfg : Cfg) (vars : Vars) (fs : List Frame) (h : ¬ NoDupKw cfg) :
    runPlain cfg vars fs = ⟨[], .internal "TypeError"⟩ := by
  have : J.hasKey "subprotocols" cfg.kwargs = true := by simpa [NoDupKw] using h
  simp [runPlain_eq, runT, this]

/-- The server closes before answering: only the init was sent, `recv()` raises. -/
theorem run_no_frames (cfg : Cfg) (vars : Vars) (h : NoDupKw cfg) :
    runPlain cfg vars [] = ⟨[theConnect cfg, .send (initMsg cfg)], .internal "ConnectionClosedOK"⟩ := by
  simp [runPlain_eq, runT, h.noKey, theConnect, initMsg]

/-- A first frame that is not the ack: only the init was sent, nothing is yielded, the frame's
    exception escapes. -/
theorem run_first_not_ack (cfg : Cfg) (vars : Vars) (f : Frame) (fs : List Frame) (h : NoDupKw cfg)
    (hf : (letter f).isAck = false) :
    ∃ o, runPlain cfg vars (f :: fs) = ⟨[theConnect cfg, .send (initMsg cfg), .recv f], o⟩ ∧
      (¬ letter f = .outside → isBadBytes f = false → ∃ a, o = .invalidMessage a) := by
  obtain ⟨o, ho, h2⟩ := first_not_ack f hf
  exact ⟨o, by simp [runPlain_eq, runT, h.noKey, ho,
    theConnect, initMsg], h2⟩

/-- After the ack, with serialisable variables: init, ack, one subscribe, then the streaming loop. -/
theorem run_after_ack (cfg : Cfg) (vars : Vars) (a : Frame) (fs : List Frame) (v : Option J)
    (h : NoDupKw cfg) (ha : (letter a).isAck = true) (hv : Serialised vars v) :
    runPlain cfg vars (a :: fs) =
      ⟨[theConnect cfg, .send (initMsg cfg), .recv a, .send (subscribeMsg cfg v)] ++ (stream proto fs).1,
       (stream proto fs).2⟩ := by
  rcases hv with ⟨hs, rfl⟩ | ⟨j, hs, rfl⟩ <;>
    simp [runPlain_eq, runT, h.noKey, first_ack a ha, afterAck, hs, theConnect, initMsg, subscribeMsg]

/-- Variables that `json.dumps` cannot serialise (outside the reading of the property): the
    `TypeError` escapes after the ack, before anything else is sent. -/
theorem run_unserialisable (cfg : Cfg) (vars : Vars) (a : Frame) (fs : List Frame)
    (h : NoDupKw cfg) (ha : (letter a).isAck = true) (hv : serialise vars = .typeError) :
    runPlain cfg vars (a :: fs) =
      ⟨[theConnect cfg, .send (initMsg cfg), .recv a], .internal "TypeError"⟩ := by
  simp [runPlain_eq, runT, h.noKey, first_ack a ha, afterAck, hv, theConnect, initMsg]

/-! ## 3. The clauses of the property (must tier), each for ALL frame lists -/

theorem run_starts (cfg : Cfg) (vars : Vars) (fs : List Frame) (h : NoDupKw cfg) :
    ∃ rest, (runPlain cfg vars fs).events = theConnect cfg :: .send (initMsg cfg) :: rest := by
  cases fs with
  | nil => rw [run_no_frames cfg vars h]; exact ⟨[], rfl⟩
  | cons f fs =>
    simp only [runPlain_eq, runT, h.noKey]
    cases handle proto (some proto.ack) f <;> simp [theConnect, initMsg]

/-- **init_first.** The socket is opened first, with the protocol's subprotocol token, and the
    first message sent is `connection_init` carrying the configured payload (when it is truthy). -/
theorem init_first (cfg : Cfg) (vars : Vars) (fs : List Frame) (h : NoDupKw cfg) :
    (runPlain cfg vars fs).events.take 2 = [theConnect cfg, .send (initMsg cfg)] ∧
    (runPlain cfg vars fs).sent.head? = some (initMsg cfg) := by
  obtain ⟨rest, hr⟩ := run_starts cfg vars fs h
  simp only [Trace.sent, hr]
  exact ⟨rfl, rfl⟩

theorem connect_args (cfg : Cfg) :
    (connectArgs subprotocol cfg).url = cfg.url ∧
    (connectArgs subprotocol cfg).subprotocols = ["graphql-transport-ws"] ∧
    (J.lookup "origin" cfg.kwargs = none →
      (connectArgs subprotocol cfg).origin =
        match cfg.origin with
        | some s => if s = "" then .null else .str s
        | none => .null) ∧
    (cfg.extraHeaders = none → (connectArgs subprotocol cfg).extraHeaders = cfg.headers) := by
  refine ⟨rfl, rfl, ?_, ?_⟩
  · intro ho; cases hc : cfg.origin <;> simp [connectArgs, originOf, ho, hc]
  · intro he; simp [connectArgs, he, dictUpdate]

/-- The headers the socket is opened with are `ws_headers` updated by `extra_headers` (Python's
    `dict.update`): a configured header survives unless `extra_headers` names it, and a header
    given in `extra_headers` (a dict: keys unique) wins. -/
theorem headers_merge (cfg : Cfg) (k : String) :
    (J.lookup k (cfg.extraHeaders.getD []) = none →
      J.lookup k (connectArgs subprotocol cfg).extraHeaders = J.lookup k cfg.headers) ∧
    (∀ v, ((cfg.extraHeaders.getD []).map (·.1)).Nodup → J.lookup k (cfg.extraHeaders.getD []) = some v →
      J.lookup k (connectArgs subprotocol cfg).extraHeaders = some v) :=
  ⟨fun h => dictUpdate_lookup_none _ _ _ h, fun _ hn h => dictUpdate_lookup_some _ _ _ _ hn h⟩

/-- **nothing_before_ack / first_frame_must_be_ack.**  Whatever the first frame is, if it is not
    the ack then the only message ever sent is the init, nothing is yielded, no further frame is
    consumed and an exception escapes; for the letters of the alphabet (a bad binary frame apart,
    C13-F3) it is the invalid-message error.  With no frame at all `recv()` raises. -/
theorem nothing_before_ack (cfg : Cfg) (vars : Vars) (f : Frame) (fs : List Frame) (h : NoDupKw cfg)
    (hf : (letter f).isAck = false) :
    (runPlain cfg vars (f :: fs)).events = [theConnect cfg, .send (initMsg cfg), .recv f] ∧
    (runPlain cfg vars (f :: fs)).sent = [initMsg cfg] ∧
    (runPlain cfg vars (f :: fs)).yielded = [] ∧
    (runPlain cfg vars (f :: fs)).received = [f] ∧
    (¬ letter f = .outside → isBadBytes f = false →
      ∃ a, (runPlain cfg vars (f :: fs)).outcome = .invalidMessage a) := by
  obtain ⟨o, hr, ho⟩ := run_first_not_ack cfg vars f fs h hf
  rw [hr]
  exact ⟨rfl, rfl, rfl, rfl, ho⟩

/-- The events up to and including the delivery of the first frame never contain more than the
    init — for every first frame, ack or not (nothing is sent "until connection_ack arrives"). -/
theorem only_init_until_first_frame (cfg : Cfg) (vars : Vars) (f : Frame) (fs : List Frame)
    (h : NoDupKw cfg) :
    (runPlain cfg vars (f :: fs)).events.take 3 = [theConnect cfg, .send (initMsg cfg), .recv f] := by
  by_cases hf : (letter f).isAck = true
  · simp only [runPlain_eq, runT, h.noKey, first_ack f hf]
    simp [theConnect, initMsg]
  · have hf' : (letter f).isAck = false := by simpa using hf
    rw [(nothing_before_ack cfg vars f fs h hf').1]; rfl

/-- **exactly_one_subscribe.**  After the ack exactly one subscribe is sent, right after the ack
    was delivered, carrying the operation id, query, operationName and the serialised variables;
    every later message is a pong, one per consumed ping. -/
theorem exactly_one_subscribe (cfg : Cfg) (vars : Vars) (a : Frame) (fs : List Frame) (v : Option J)
    (h : NoDupKw cfg) (ha : (letter a).isAck = true) (hv : Serialised vars v) :
    (runPlain cfg vars (a :: fs)).sent =
      initMsg cfg :: subscribeMsg cfg v :: List.replicate (pingCount fs) Msg.pong ∧
    (runPlain cfg vars (a :: fs)).sent.filter Msg.isSubscribe = [subscribeMsg cfg v] ∧
    (runPlain cfg vars (a :: fs)).events.take 4 =
      [theConnect cfg, .send (initMsg cfg), .recv a, .send (subscribeMsg cfg v)] := by
  rw [run_after_ack cfg vars a fs v h ha hv]
  have hs := (stream_projections fs).1
  refine ⟨?_, ?_, by simp⟩
  · simp only [Trace.sent, List.filterMap_append, hs]; rfl
  · simp only [Trace.sent, List.filterMap_append, hs]
    have : (List.replicate (pingCount fs) Msg.pong).filter Msg.isSubscribe = [] := by
      simp [Msg.isSubscribe]
    show List.filter Msg.isSubscribe (initMsg cfg :: subscribeMsg cfg v :: List.replicate (pingCount fs) Msg.pong) = _
    simp [List.filter_cons, initMsg, subscribeMsg, Msg.isSubscribe, this]

/-- what the subscribe, `connection_init` and pong messages look like on the wire -/
theorem subscribe_wire (cfg : Cfg) (j : J) :
    (subscribeMsg cfg (some j)).render proto =
      .obj [("id", .str cfg.opId), ("type", .str "subscribe"),
            ("payload", .obj [("query", .str cfg.query), ("operationName", optStr cfg.opName),
                              ("variables", j)])] ∧
    (subscribeMsg cfg none).render proto =
      .obj [("id", .str cfg.opId), ("type", .str "subscribe"),
            ("payload", .obj [("query", .str cfg.query), ("operationName", optStr cfg.opName)])] ∧
    (Msg.connectionInit none).render proto = .obj [("type", .str "connection_init")] ∧
    (Msg.connectionInit (some j)).render proto = .obj [("type", .str "connection_init"), ("payload", j)] ∧
    Msg.pong.render proto = .obj [("type", .str "pong")] :=
  ⟨rfl, rfl, rfl, rfl, rfl⟩

/-- **yields_in_order_partial** (true of every frame list): what is yielded is, in order, the data
    of the `next` frames consumed before termination *whose data is truthy*. -/
theorem yields_in_order_partial (cfg : Cfg) (vars : Vars) (a : Frame) (fs : List Frame) (v : Option J)
    (h : NoDupKw cfg) (ha : (letter a).isAck = true) (hv : Serialised vars v) :
    (runPlain cfg vars (a :: fs)).yielded =
      (prefixUntilTerminal fs).filterMap (fun f => (letter f).truthyNextData) := by
  rw [run_after_ack cfg vars a fs v h ha hv]
  simp only [Trace.yielded, List.filterMap_append, (stream_projections fs).2.1]
  rfl

/-- the yield clause at full strength: the data of *each* next frame, in order -/
def YieldsInOrder (cfg : Cfg) (vars : Vars) (a : Frame) (fs : List Frame) : Prop :=
  (runPlain cfg vars (a :: fs)).yielded = (prefixUntilTerminal fs).filterMap (fun f => (letter f).nextData)

/-- **yields_in_order** outside the trigger of C13-F2. -/
theorem yields_in_order_supported (cfg : Cfg) (vars : Vars) (a : Frame) (fs : List Frame) (v : Option J)
    (h : NoDupKw cfg) (ha : (letter a).isAck = true) (hv : Serialised vars v)
    (hs : trigFalsyNextData cfg vars (a :: fs) = false) : YieldsInOrder cfg vars a fs := by
  unfold YieldsInOrder
  rw [yields_in_order_partial cfg vars a fs v h ha hv]
  apply truthy_eq_all_of_no_falsy
  have hst : streamed cfg vars (a :: fs) = some fs := by
    rcases hv with ⟨hs', -⟩ | ⟨j, hs', -⟩ <;> simp [streamed, h.noKey, ha]
  simpa [trigFalsyNextData, hst] using hs

/-- **pong_per_ping**: as many pongs as pings consumed, and on the wire every consumed ping is
    followed immediately by its pong and nothing else is ever sent after the subscribe
    (the interleaving of deliveries and sends is exactly `ioOf` of each consumed frame). -/
theorem pong_per_ping (cfg : Cfg) (vars : Vars) (a : Frame) (fs : List Frame) (v : Option J)
    (h : NoDupKw cfg) (ha : (letter a).isAck = true) (hv : Serialised vars v) :
    ((runPlain cfg vars (a :: fs)).sent.filter (fun m => match m with | .pong => true | _ => false)).length
      = pingCount fs ∧
    (runPlain cfg vars (a :: fs)).events.filter Ev.isIO =
      [.send (initMsg cfg), .recv a, .send (subscribeMsg cfg v)] ++ (consumed fs).flatMap ioOf ∧
    (runPlain cfg vars (a :: fs)).received = a :: consumed fs := by
  refine ⟨?_, ?_, ?_⟩
  · rw [(exactly_one_subscribe cfg vars a fs v h ha hv).1]
    simp [initMsg, subscribeMsg]
  · rw [run_after_ack cfg vars a fs v h ha hv]
    simp only [List.filter_append, (stream_projections fs).2.2.2]
    rfl
  · rw [run_after_ack cfg vars a fs v h ha hv]
    simp only [Trace.received, List.filterMap_append, (stream_projections fs).2.2.1]
    rfl

theorem run_until_terminal (cfg : Cfg) (vars : Vars) (a : Frame) (pre rest : List Frame) (x : Frame)
    (v : Option J) (h : NoDupKw cfg) (ha : (letter a).isAck = true) (hv : Serialised vars v)
    (hpre : ∀ f ∈ pre, continuesF f = true) (hx : continuesF x = false) :
    runPlain cfg vars (a :: (pre ++ x :: rest)) =
      ⟨[theConnect cfg, .send (initMsg cfg), .recv a, .send (subscribeMsg cfg v)] ++
          pre.flatMap contEvents ++ (stream proto [x]).1, (stream proto [x]).2⟩ := by
  have := run_after_ack cfg vars a (pre ++ x :: rest) v h ha hv
  rw [this, stream_prefix pre (x :: rest) hpre, stream_term x rest hx]
  simp

/-- **complete_finishes.**  On `complete` the socket is closed, the generator finishes, and
    nothing that follows is consumed, yielded or answered. -/
theorem complete_finishes (cfg : Cfg) (vars : Vars) (a : Frame) (pre rest : List Frame) (c : Frame)
    (v : Option J) (h : NoDupKw cfg) (ha : (letter a).isAck = true) (hv : Serialised vars v)
    (hpre : ∀ f ∈ pre, continuesF f = true) (hc : letter c = .complete) :
    (runPlain cfg vars (a :: (pre ++ c :: rest))).outcome = .completed ∧
    (runPlain cfg vars (a :: (pre ++ c :: rest))).events =
      [theConnect cfg, .send (initMsg cfg), .recv a, .send (subscribeMsg cfg v)] ++
        pre.flatMap contEvents ++ [.recv c, .close] ∧
    (runPlain cfg vars (a :: (pre ++ c :: rest))).received = a :: pre ++ [c] := by
  have hx : continuesF c = false := by simp [continuesF, hc, Letter.continues]
  rw [run_until_terminal cfg vars a pre rest c v h ha hv hpre hx, terminal_complete c hc]
  refine ⟨rfl, rfl, ?_⟩
  show List.filterMap Ev.recv? _ = _
  rw [received_of_shape _ _ _ _ _ _ rfl rfl rfl, recv_prefix]; rfl

/-- **error_raises_multi.**  On `error` the GraphQL multi-error is raised, carrying every error of
    the payload (message, locations, path, extensions, original, in order). -/
theorem error_raises_multi (cfg : Cfg) (vars : Vars) (a : Frame) (pre rest : List Frame) (e : Frame)
    (es : List J) (v : Option J) (h : NoDupKw cfg) (ha : (letter a).isAck = true) (hv : Serialised vars v)
    (hpre : ∀ f ∈ pre, continuesF f = true) (he : letter e = .error es) :
    (runPlain cfg vars (a :: (pre ++ e :: rest))).outcome = .multiError (es.map errOfJ) (msgOf e) ∧
    (runPlain cfg vars (a :: (pre ++ e :: rest))).received = a :: pre ++ [e] := by
  have hx : continuesF e = false := by simp [continuesF, he, Letter.continues]
  rw [run_until_terminal cfg vars a pre rest e v h ha hv hpre hx, terminal_error e es he]
  refine ⟨rfl, ?_⟩
  show List.filterMap Ev.recv? _ = _
  rw [received_of_shape _ _ _ _ _ _ rfl rfl rfl, recv_prefix]; rfl

/-- **invalid_raises** (mid-stream): a text frame that is not JSON, an unknown type, a missing
    type, a `next` without data raise the invalid-message error carrying the offending message. -/
theorem invalid_raises (cfg : Cfg) (vars : Vars) (a : Frame) (pre rest : List Frame) (x : Frame)
    (v : Option J) (h : NoDupKw cfg) (ha : (letter a).isAck = true) (hv : Serialised vars v)
    (hpre : ∀ f ∈ pre, continuesF f = true) (hx : InvalidLetter x) :
    (runPlain cfg vars (a :: (pre ++ x :: rest))).outcome = .invalidMessage .message ∧
    (runPlain cfg vars (a :: (pre ++ x :: rest))).received = a :: pre ++ [x] := by
  have hc : continuesF x = false := by
    rcases hx with ⟨hl, -⟩ | hl | hl | hl <;> simp [continuesF, hl, Letter.continues]
  rw [run_until_terminal cfg vars a pre rest x v h ha hv hpre hc, terminal_invalid x hx]
  refine ⟨rfl, ?_⟩
  show List.filterMap Ev.recv? _ = _
  rw [received_of_shape _ _ _ _ _ _ rfl rfl rfl, recv_prefix]; rfl

/-- When the frames run out (the server closes normally) the generator just finishes. -/
theorem exhausted_finishes (cfg : Cfg) (vars : Vars) (a : Frame) (fs : List Frame) (v : Option J)
    (h : NoDupKw cfg) (ha : (letter a).isAck = true) (hv : Serialised vars v)
    (hall : ∀ f ∈ fs, continuesF f = true) :
    (runPlain cfg vars (a :: fs)).outcome = .exhausted := by
  rw [run_after_ack cfg vars a fs v h ha hv]
  have := stream_prefix fs [] hall
  simp only [List.append_nil] at this
  simp [this, stream]

/-- **One outcome, decided by the first terminal frame**: whatever the property demands of the
    outcome, except for a bad binary frame (C13-F3), is what happens. -/
theorem outcome_as_demanded (cfg : Cfg) (vars : Vars) (a : Frame) (fs : List Frame) (v : Option J)
    (h : NoDupKw cfg) (ha : (letter a).isAck = true) (hv : Serialised vars v)
    (hb : ∀ x, firstTerminal fs = some x → isBadBytes x = false) :
    ∀ o, demandedOutcome (firstTerminal fs) = some o → (runPlain cfg vars (a :: fs)).outcome = o := by
  intro o hd
  rw [run_after_ack cfg vars a fs v h ha hv]
  simp only [stream_outcome fs]
  cases hft : firstTerminal fs with
  | none => simp [hft, demandedOutcome] at hd ⊢; exact hd
  | some x =>
    have hbx := hb x hft
    simp only [hft, demandedOutcome] at hd ⊢
    cases hl : letter x <;> simp only [hl] at hd <;> try (simp at hd; done)
    · cases hd; rw [terminal_complete x hl]
    · cases hd; rw [terminal_error x _ hl]
    · cases hd; rw [terminal_invalid x (Or.inl ⟨hl, hbx⟩)]
    · cases hd; rw [terminal_invalid x (Or.inr (Or.inl hl))]
    · cases hd; rw [terminal_invalid x (Or.inr (Or.inr (Or.inl hl)))]
    · cases hd; rw [terminal_invalid x (Or.inr (Or.inr (Or.inr hl)))]

/-! ## 4. The OpenTelemetry variant behaves identically -/

/-- **ot_equivalent.**  The OpenTelemetry client — tracer unset (`_execute_ws`) or set
    (`_execute_ws_with_telemetry` and its three re-implemented helpers), over its own copy of the
    enum and of the subprotocol constant — produces the trace of the plain client: same connect
    arguments, same messages in the same order, same items yielded, same outcome, for every
    configuration, variables and frame list. -/
theorem ot_equivalent (tracer : Bool) (cfg : Cfg) (vars : Vars) (fs : List Frame) :
    runOT tracer cfg vars fs = runPlain cfg vars fs := by
  simp only [runOT, WsClientOT.run, types_resolve_ot, runPlain_eq, subprotocol_is_protocol.2, runTel_eq]
  cases tracer <;> rfl

/-! ## 5. The handshake against the installed websockets (C13-F1) -/

/-- the handshake clause: the installed `websockets.connect` accepts the call `execute_ws` makes -/
def HandshakeAccepted : Prop :=
  ∀ cfg : Cfg, NoDupKw cfg → WsConnect.accepts (connectArgs subprotocol cfg) = true

/-- The call always carries the keyword `extra_headers`, which is neither a parameter of the
    installed `websockets.connect` nor of `loop.create_connection`: it is rejected for *every*
    configuration (table `wsConnectAccepted`, re-extracted from the installed library on every run). -/
theorem handshake_never_accepted (cfg : Cfg) :
    WsConnect.accepts (connectArgs subprotocol cfg) = false := by
  have h : "extra_headers" ∉ Tables.wsConnectAccepted := by decide +kernel
  simp only [WsConnect.accepts, WsConnect.acceptsNames, WsConnect.kwNames, Bool.eq_false_iff]
  intro hall
  rw [List.all_eq_true] at hall
  have := hall "extra_headers" (by simp)
  exact h (by simpa using this)

theorem handshake_full_false : ¬ HandshakeAccepted := by
  intro h
  have := h ⟨"", [], none, none, "", none, none, [], ""⟩ rfl
  rw [handshake_never_accepted] at this
  exact Bool.false_ne_true this

/-- the keyword the installed library does accept for the same purpose (the one-word repair) -/
example : WsConnect.acceptsNames Tables.wsConnectAccepted ["subprotocols", "origin", "additional_headers"] = true := by
  decide +kernel

/-! ## 6. The property at full strength, its refutation, and the proved part -/

/-- The protocol clauses at full strength for one input, *given a socket*. -/
structure ProtocolFull (cfg : Cfg) (vars : Vars) (frames : List Frame) : Prop where
  /-- opens the socket, sends connection_init (with the configured payload) first -/
  init_first : (runPlain cfg vars frames).events.take 2 = [theConnect cfg, .send (initMsg cfg)]
  /-- nothing more until the ack arrives; a first frame that is not the ack raises the
      invalid-message error (for every frame of the alphabet, non-JSON of any kind included) -/
  no_ack : ∀ f fs, frames = f :: fs → (letter f).isAck = false →
    (runPlain cfg vars frames).sent = [initMsg cfg] ∧ (runPlain cfg vars frames).yielded = [] ∧
    (runPlain cfg vars frames).received = [f] ∧
    (¬ letter f = .outside → ∃ a, (runPlain cfg vars frames).outcome = .invalidMessage a)
  /-- after the ack: exactly one subscribe with query, operationName, serialised variables; every
      next frame's data yielded in order; one pong per ping, right after it; the first terminal
      frame decides the outcome (complete → finished, error → multi-error, non-JSON / unknown /
      missing type / next without data → invalid-message error) and nothing after it is consumed -/
  acked : ∀ a fs v, frames = a :: fs → (letter a).isAck = true → Serialised vars v →
    (runPlain cfg vars frames).sent =
      initMsg cfg :: subscribeMsg cfg v :: List.replicate (pingCount fs) Msg.pong ∧
    (runPlain cfg vars frames).yielded = (prefixUntilTerminal fs).filterMap (fun f => (letter f).nextData) ∧
    (runPlain cfg vars frames).events.filter Ev.isIO =
      [.send (initMsg cfg), .recv a, .send (subscribeMsg cfg v)] ++ (consumed fs).flatMap ioOf ∧
    (runPlain cfg vars frames).received = a :: consumed fs ∧
    (∀ o, demandedOutcome (firstTerminal fs) = some o → (runPlain cfg vars frames).outcome = o)

/-- the subscribe clause presupposes the variables can be serialised: inside the reading
    (Spec/GraphqlTransportWs.lean `readableVars`) they always must be -/
def VariablesSerialised : Prop :=
  ∀ vars : Vars, readableVars vars = true → ∃ v, Serialised vars v

/-- **C13 at full strength**: every configuration, variables value, frame list. -/
def C13_full : Prop :=
  (∀ cfg vars frames, NoDupKw cfg → ProtocolFull cfg vars frames) ∧
  (∀ tracer cfg vars frames, runOT tracer cfg vars frames = runPlain cfg vars frames) ∧
  HandshakeAccepted ∧
  VariablesSerialised

/-- the inputs outside the trigger regions of the three protocol findings (C13-F2, C13-F3, C13-F4) -/
def Supported_13 (cfg : Cfg) (vars : Vars) (frames : List Frame) : Prop :=
  ¬ (trigFalsyNextData cfg vars frames = true ∨ trigBinaryNotUtf8 cfg vars frames = true ∨
     trigVarsNeedJsonableDefault cfg vars frames = true)

def cfg0 : Cfg :=
  { url := "ws://h/graphql", headers := [("Authorization", .str "Bearer t")], origin := some "https://o",
    initPayload := some (.obj [("token", .str "abc")]), query := "subscription S { counter }",
    opName := some "S", extraHeaders := none, kwargs := [], opId := "id-1" }

def frAck : Frame := .json (.obj [("type", .str "connection_ack")])
def frNext (d : J) : Frame := .json (.obj [("id", .str "1"), ("type", .str "next"), ("payload", .obj [("data", d)])])
def frPing : Frame := .json (.obj [("type", .str "ping")])
def frComplete : Frame := .json (.obj [("id", .str "1"), ("type", .str "complete")])
def frError : Frame :=
  .json (.obj [("id", .str "1"), ("type", .str "error"), ("payload", .arr [.obj [("message", .str "boom")]])])
def frUnknown : Frame := .json (.obj [("type", .str "foo")])

theorem cfg0_ok : NoDupKw cfg0 := rfl
theorem frAck_isAck : (letter frAck).isAck = true := by
  simp [frAck, letter, J.lookup, Letter.isAck]

/-- C13-F2 witness: a `next` frame whose data is `{}` is consumed and not yielded. -/
theorem yields_in_order_full_false : ¬ (∀ cfg vars a fs, NoDupKw cfg → (letter a).isAck = true →
    (∃ v, Serialised vars v) → YieldsInOrder cfg vars a fs) := by
  intro h
  have h1 := h cfg0 none frAck [frNext (.obj [])] cfg0_ok frAck_isAck ⟨none, Or.inl ⟨rfl, rfl⟩⟩
  unfold YieldsInOrder at h1
  rw [yields_in_order_partial cfg0 none frAck _ none cfg0_ok frAck_isAck (Or.inl ⟨rfl, rfl⟩)] at h1
  simp [prefixUntilTerminal, continuesF, frNext, letter, J.lookup, Letter.continues,
    Letter.truthyNextData, Letter.nextData, J.truthy] at h1

/-- C13-F3 witness: a binary frame that is not UTF-8 escapes as `UnicodeDecodeError`. -/
theorem invalid_raises_full_false : ¬ (∀ cfg vars a fs x, NoDupKw cfg → (letter a).isAck = true →
    (∃ v, Serialised vars v) → firstTerminal fs = some x → letter x = .nonJson →
    (runPlain cfg vars (a :: fs)).outcome = .invalidMessage .message) := by
  intro h
  have h1 := h cfg0 none frAck [.badBytes] .badBytes cfg0_ok frAck_isAck ⟨none, Or.inl ⟨rfl, rfl⟩⟩
    (by simp [firstTerminal, continuesF, letter, Letter.continues]) (by simp [letter])
  rw [run_after_ack cfg0 none frAck _ none cfg0_ok frAck_isAck (Or.inl ⟨rfl, rfl⟩)] at h1
  simp [stream, handle] at h1

theorem C13_full_false : ¬ C13_full := fun h => handshake_full_false h.2.2.1

/-- …and the protocol part alone is false as well (independently of the handshake). -/
theorem C13_protocol_full_false : ¬ (∀ cfg vars frames, NoDupKw cfg → ProtocolFull cfg vars frames) := by
  intro h
  have h1 := ((h cfg0 none [frAck, frNext (.obj [])] cfg0_ok).acked frAck _ none rfl frAck_isAck
    (Or.inl ⟨rfl, rfl⟩)).2.1
  have h2 := yields_in_order_partial cfg0 none frAck [frNext (.obj [])] none cfg0_ok frAck_isAck (Or.inl ⟨rfl, rfl⟩)
  rw [h2] at h1
  simp [prefixUntilTerminal, continuesF, frNext, letter, J.lookup, Letter.continues,
    Letter.truthyNextData, Letter.nextData, J.truthy] at h1

/-- variables inside the reading without a foreign leaf are serialised (the proof is
    `convDict_readable`: induction over the value tree) -/
theorem readable_clean_serialised (vars : Vars) (hr : readableVars vars = true) (hf : hasForeignVars vars = false) :
    ∃ v, Serialised vars v := by
  cases vars with
  | none => exact ⟨none, Or.inl ⟨rfl, rfl⟩⟩
  | some kvs =>
    cases kvs with
    | nil => exact ⟨none, Or.inl ⟨rfl, rfl⟩⟩
    | cons kv rest =>
      obtain ⟨o, ho⟩ := Option.isSome_iff_exists.mp (convDict_readable (kv :: rest) hr hf)
      exact ⟨some (.obj o), Or.inr ⟨.obj o, by simp [serialise, ho], rfl⟩⟩

/-- …and the trigger of C13-F4 is tight: ANY foreign leaf (a `datetime`, an `Upload`, …), wherever
    it sits, makes `json.dumps` raise - for every variables value, readable or not. -/
theorem foreign_never_serialised (vars : Vars) (hf : hasForeignVars vars = true) : serialise vars = .typeError := by
  cases vars with
  | none => simp [hasForeignVars] at hf
  | some kvs =>
    cases kvs with
    | nil => simp [hasForeignVars, hasForeignKvs] at hf
    | cons kv rest => simp [serialise, convDict_foreign (kv :: rest) hf]

/-- what happens then: the ack is consumed, the `TypeError` escapes, no subscribe is ever sent -/
theorem foreign_variables_run (cfg : Cfg) (vars : Vars) (a : Frame) (fs : List Frame) (h : NoDupKw cfg)
    (ha : (letter a).isAck = true) (hf : hasForeignVars vars = true) :
    runPlain cfg vars (a :: fs) = ⟨[theConnect cfg, .send (initMsg cfg), .recv a], .internal "TypeError"⟩ ∧
    (runPlain cfg vars (a :: fs)).sent.filter Msg.isSubscribe = [] := by
  have hr := run_unserialisable cfg vars a fs h ha (foreign_never_serialised vars hf)
  rw [hr]
  exact ⟨rfl, rfl⟩

/-- C13-F4 witness: `{"since": datetime(...)}` - a custom scalar "supported by pydantic" -/
def varsF4 : Vars := some [("since", .foreign (some (.str "2020-01-01T00:00:00")))]

theorem variables_serialised_full_false : ¬ VariablesSerialised := by
  intro h
  obtain ⟨v, hv⟩ := h varsF4 rfl
  have : serialise varsF4 = .typeError := foreign_never_serialised varsF4 rfl
  rcases hv with ⟨hs, -⟩ | ⟨j, hs, -⟩ <;> rw [this] at hs <;> cases hs

/-- **C13_partial**: outside the trigger regions of C13-F2, C13-F3 and C13-F4 every protocol clause
    holds at full strength, for every configuration, variables value and frame list (given a
    socket), and variables inside the reading reach the subscribe message. -/
theorem C13_partial (cfg : Cfg) (vars : Vars) (frames : List Frame) (h : NoDupKw cfg)
    (hs : Supported_13 cfg vars frames) :
    ProtocolFull cfg vars frames ∧
    (∀ a fs, frames = a :: fs → (letter a).isAck = true → readableVars vars = true → ∃ v, Serialised vars v) := by
  have hs1 : trigFalsyNextData cfg vars frames = false := by
    cases hh : trigFalsyNextData cfg vars frames
    · rfl
    · exact absurd (Or.inl hh) hs
  have hs2 : trigBinaryNotUtf8 cfg vars frames = false := by
    cases hh : trigBinaryNotUtf8 cfg vars frames
    · rfl
    · exact absurd (Or.inr (Or.inl hh)) hs
  have hs3 : trigVarsNeedJsonableDefault cfg vars frames = false := by
    cases hh : trigVarsNeedJsonableDefault cfg vars frames
    · rfl
    · exact absurd (Or.inr (Or.inr hh)) hs
  refine ⟨⟨(init_first cfg vars frames h).1, ?_, ?_⟩, ?_⟩
  · intro f fs hfr hf
    subst hfr
    obtain ⟨-, h2, h3, h4, h5⟩ := nothing_before_ack cfg vars f fs h hf
    refine ⟨h2, h3, h4, fun hout => h5 hout ?_⟩
    have : isBadBytes f = false := by
      cases hb : isBadBytes f
      · rfl
      · simp [trigBinaryNotUtf8, h.noKey, hb] at hs2
    exact this
  · intro a fs v hfr ha hv
    subst hfr
    have hst : streamed cfg vars (a :: fs) = some fs := by
      rcases hv with ⟨hs', -⟩ | ⟨j, hs', -⟩ <;> simp [streamed, h.noKey, ha]
    refine ⟨(exactly_one_subscribe cfg vars a fs v h ha hv).1,
      yields_in_order_supported cfg vars a fs v h ha hv hs1,
      (pong_per_ping cfg vars a fs v h ha hv).2.1, (pong_per_ping cfg vars a fs v h ha hv).2.2, ?_⟩
    apply outcome_as_demanded cfg vars a fs v h ha hv
    intro x hx
    cases hb : isBadBytes x
    · rfl
    · simp [trigBinaryNotUtf8, h.noKey, hst, hx, hb] at hs2
  · intro a fs hfr ha hr
    subst hfr
    apply readable_clean_serialised vars hr
    cases hf : hasForeignVars vars
    · rfl
    · simp [trigVarsNeedJsonableDefault, h.noKey, ha, hr, hf] at hs3

/-! ## 7. Non-vacuity: concrete inputs satisfying the hypotheses, hitting each clause -/

example : Supported_13 cfg0 none [frAck, frNext (.obj [("counter", .num 1 0)]), frPing, frComplete, frPing] := by unfold Supported_13; decide +kernel

/-- the trigger of C13-F2 is true of its witness (so the witness is outside `C13_partial`) -/
example : trigFalsyNextData cfg0 none [frAck, frNext (.obj [])] = true := by decide +kernel

example : trigBinaryNotUtf8 cfg0 none [frAck, .badBytes] = true := by decide +kernel

example : continuesF frPing = true ∧ continuesF (frNext (.num 0 0)) = true ∧ letter frComplete = .complete ∧
    InvalidLetter frUnknown ∧ letter frError = .error [.obj [("message", .str "boom")]] := by
  refine ⟨?_, ?_, ?_, ?_, ?_⟩ <;>
    simp [continuesF, frPing, frNext, frComplete, frUnknown, frError, InvalidLetter, letter, J.lookup,
      Letter.continues, errShaped]

/-- the trigger of C13-F4 is true of its witness, and a clean readable value is outside it -/
example : trigVarsNeedJsonableDefault cfg0 varsF4 [frAck] = true := by decide +kernel

example : readableVars (some [("a", .unset), ("w", .modelPy [("since", .foreign (some (.str "x")))]),
    ("l", .list [.model (.obj []), .foreign (some .null)])]) = true := by decide +kernel

/-- an `Upload` is outside the reading and refused the same way (`foreign_never_serialised`) -/
example : readableVars (some [("file", .foreign none)]) = false ∧
    serialise (some [("file", .foreign none)]) = .typeError := ⟨by simp [readableVars, readableTop, readable], rfl⟩

/-- variables with a top-level UNSET, a model and a list of models serialise -/
example : Serialised
    (some [("a", .num 1 0), ("skip", .unset), ("input", .model (.obj [("id", .str "x")])),
           ("items", .list [.model (.obj [("x", .num 1 0)]), .null])])
    (some (.obj [("a", .num 1 0), ("input", .obj [("id", .str "x")]),
                 ("items", .arr [.obj [("x", .num 1 0)], .null])])) :=
  Or.inr ⟨_, rfl, rfl⟩

/-- `None` and `{}` give no `variables` member; `{"a": UNSET}` gives an empty one -/
example : Serialised none none ∧ Serialised (some []) none ∧ Serialised (some [("a", .unset)]) (some (.obj [])) :=
  ⟨Or.inl ⟨rfl, rfl⟩, Or.inl ⟨rfl, rfl⟩, Or.inr ⟨_, rfl, rfl⟩⟩

/-- outside the reading of the property (recorded, not claimed): UNSET below the top level makes
    `json.dumps` raise -/
example : serialise (some [("a", .list [.unset])]) = .typeError := rfl

/-- a whole run, evaluated: ack, next, ping, falsy next, complete, (ignored) next -/
example :
    (runPlain cfg0 none [frAck, frNext (.num 7 0), frPing, frNext (.num 0 0), frComplete, frNext (.num 8 0)]).sent
      = [initMsg cfg0, subscribeMsg cfg0 none, .pong] ∧
    (runPlain cfg0 none [frAck, frNext (.num 7 0), frPing, frNext (.num 0 0), frComplete, frNext (.num 8 0)]).yielded
      = [.num 7 0] := by
  have hv : Serialised none none := Or.inl ⟨rfl, rfl⟩
  refine ⟨?_, ?_⟩
  · rw [(exactly_one_subscribe cfg0 none frAck _ none cfg0_ok frAck_isAck hv).1]
    simp [pingCount, pingF, prefixUntilTerminal, continuesF, frNext, frPing, frComplete, letter, J.lookup,
      Letter.continues, Letter.isPing]
  · rw [yields_in_order_partial cfg0 none frAck _ none cfg0_ok frAck_isAck hv]
    simp [prefixUntilTerminal, continuesF, frNext, frPing, frComplete, letter, J.lookup, Letter.continues,
      Letter.truthyNextData, J.truthy]

/-! ## 8. The GENERATED subscription method (client_generators/client.py) composed with `execute_ws`

  `SubMethod.emit` = which name `_generate_subscription_method_def` puts in which position after
  `get_variable_names`; `SubMethod.call` = Python's evaluation of those statements; `runMethod` =
  that call handed to the base client.  Parameter list and variables dict (ArgumentsGenerator,
  C03) are inputs, universally quantified. -/

open Ariadne.SubMethod in
/-- the model of a generated subscription method on the extracted tables -/
def runGenerated (cfg : Cfg) (params : List String) (dict : List (String × String)) (opName opText : String)
    (args : List (String × PV)) (frames : List Frame) : Trace :=
  SubMethod.runMethod Tables.wsTypesAsync Tables.wsSubprotocolAsync cfg (SubMethod.emit params dict opName)
    opText params args frames

/-- The generated signature is a legal Python signature whose variables dict only mentions its own
    parameters, and the (possibly renamed) locals `query` / `variables` are not parameters
    themselves.  The complement is C03's finding region (C03-F1: `$query` together with `$_query`,
    C03-F2/F3: a variable called `self` / `kwargs`), not judged by C13. -/
structure MethodWF (params : List String) (dict : List (String × String)) : Prop where
  noSelf : "self" ∉ params
  noKwargs : "kwargs" ∉ params
  dictFromParams : ∀ kv ∈ dict, kv.2 ∈ params
  queryLocalFree : (SubMethod.emit params dict "").queryTarget ∉ params
  varsLocalFree : (SubMethod.emit params dict "").varsTarget ∉ params

/-- the caller's values under the original GraphQL names -/
def callerVariables (dict : List (String × String)) (args : List (String × PV)) : List (String × PV) :=
  dict.map fun kv => (kv.1, SubMethod.argValue args kv.2)

/-- **generated_method_call**: for every parameter-name list (the names that clash with the method's
    locals - `query`, `variables`, `response`, `data` - included: they are renamed consistently) the
    generated body passes the operation document as `query=`, the caller's values under the
    GraphQL names as `variables=`, and the caller's `**kwargs`. -/
theorem generated_method_call (params : List String) (dict : List (String × String)) (opName opText : String)
    (args : List (String × PV)) (h : MethodWF params dict) :
    SubMethod.call (SubMethod.emit params dict opName) opText (SubMethod.initEnv params args) =
      .ok (.doc, .vars (callerVariables dict args), .kwargs) :=
  SubMethodProofs.emitted_call params dict opName opText args h.noSelf h.noKwargs h.dictFromParams
    h.queryLocalFree

/-- the generated method is `execute_ws` on (operation document, operation name, caller's variables) -/
theorem generated_method_runs_execute_ws (cfg : Cfg) (params : List String) (dict : List (String × String))
    (opName opText : String) (args : List (String × PV)) (frames : List Frame) (h : MethodWF params dict) :
    runGenerated cfg params dict opName opText args frames =
      runPlain { cfg with query := opText, opName := some opName } (some (callerVariables dict args)) frames := by
  have hc := generated_method_call params dict opName opText args h
  unfold runGenerated SubMethod.runMethod SubMethod.runMethodWith
  rw [hc]
  rfl

/-- **generated_method_subscribe**: after the ack the generated method sends exactly one subscribe,
    carrying the operation document, the operation's name and the serialised caller's variables -
    for every variable-name list, configuration and frame list. -/
theorem generated_method_subscribe (cfg : Cfg) (params : List String) (dict : List (String × String))
    (opName opText : String) (args : List (String × PV)) (a : Frame) (fs : List Frame) (v : Option J)
    (h : MethodWF params dict) (hk : NoDupKw cfg) (ha : (letter a).isAck = true)
    (hv : Serialised (some (callerVariables dict args)) v) :
    (runGenerated cfg params dict opName opText args (a :: fs)).sent.filter Msg.isSubscribe =
      [.subscribe cfg.opId opText (some opName) v] := by
  rw [generated_method_runs_execute_ws cfg params dict opName opText args (a :: fs) h]
  exact (exactly_one_subscribe { cfg with query := opText, opName := some opName } _ a fs v hk ha hv).2.1

def PV.isUnset : PV → Bool
  | .unset => true
  | _ => false

/-- arguments left `UNSET` are omitted from the serialised variables -/
theorem variables_omit_unset (kvs : List (String × PV)) :
    convDict kvs = convDict (kvs.filter fun kv => !PV.isUnset kv.2) := by
  induction kvs with
  | nil => rfl
  | cons kv kvs ih =>
    obtain ⟨k, v⟩ := kv
    by_cases hu : v = .unset
    · subst hu; simpa [convDict, PV.isUnset] using ih
    · have : PV.isUnset v = false := by cases v <;> first | rfl | exact absurd rfl hu
      simp only [List.filter_cons, this, Bool.not_false, if_true, convDict_cons k v _ hu, ih]

/-- parameters named like the locals of the generated body: `$query`, `$variables`, `$data` -/
example : MethodWF ["query", "limit", "variables", "data"]
    [("query", "query"), ("limit", "limit"), ("variables", "variables"), ("data", "data")] := by
  refine ⟨by decide +kernel, by decide +kernel, by decide +kernel, ?_, ?_⟩ <;>
    simp [SubMethod.emit, ClientMethod.getVariableNames, ClientMethod.rename, ClientMethod.selfName]

example : (SubMethod.emit ["query", "limit"] [("query", "query"), ("limit", "limit")] "Search").callQuery = "_query" := by
  simp [SubMethod.emit, ClientMethod.getVariableNames, ClientMethod.rename, ClientMethod.selfName]

/-- what the theorem excludes: a body that passes the un-renamed name `query` sends the caller's
    argument as the document (this is the seeded change C13-subscription-query-shadow) -/
example :
    SubMethod.call { SubMethod.emit ["query"] [("query", "query")] "Search" with callQuery := "query" } "DOC"
        (SubMethod.initEnv ["query"] [("query", .str "needle")])
      = .ok (.arg (.str "needle"), .vars [("query", .str "needle")], .kwargs) := by
  simp [SubMethod.call, SubMethod.emit, SubMethod.initEnv, SubMethod.assign, SubMethod.lookup, SubMethod.evalDict,
    SubMethod.argValue, ClientMethod.getVariableNames, ClientMethod.rename, ClientMethod.selfName]

/-- outside `MethodWF` (C03-F1, not judged here): `$query` and `$_query` together -/
example : ¬ MethodWF ["query", "_query"] [("query", "query"), ("_query", "_query")] := by
  intro h
  have := h.queryLocalFree
  simp [SubMethod.emit, ClientMethod.getVariableNames, ClientMethod.rename, ClientMethod.selfName] at this


/-- the loop of the generated method hands `model_validate` the element it just received, whatever
    the parameters are called (the loop target and the yield argument are the same - renamed - local,
    and the `async for` rebinds it on every round) -/
theorem generated_method_yields_item (params : List String) (dict : List (String × String)) (opName : String)
    (env : SubMethod.Env) :
    SubMethod.yieldValue (SubMethod.emit params dict opName) env = some .item :=
  SubMethodProofs.lookup_assign_same _ _ _

/-- what the theorem excludes: `yield Ret.model_validate(data)` where the loop variable was renamed
    to `_data` validates the caller's argument instead of the element -/
example :
    SubMethod.yieldValue { SubMethod.emit ["data"] [("data", "data")] "Feed" with yieldArg := "data" }
        (SubMethod.initEnv ["data"] [("data", .str "mine")]) = some (.arg (.str "mine")) := by
  simp [SubMethod.yieldValue, SubMethod.emit, SubMethod.initEnv, SubMethod.assign, SubMethod.lookup, SubMethod.argValue,
    ClientMethod.getVariableNames, ClientMethod.rename, ClientMethod.selfName]

/-! ## 9. The CONNECTION side on references: one client object, many subscriptions

  Model/WsClientHeap.lean.  `s` is any store of dict objects, `cl` any client object whose
  `ws_headers` / `ws_connection_init_payload` are addresses into it, every call names its
  `extra_headers` dict by address - so the dict given to the constructor, the dicts given to
  different calls and the dict of one call may all be the same object or not. -/

open Ariadne.WsHeap Ariadne.WsHeapProofs

/-- the three real code paths as executors over the extracted tables -/
def execOf : Variant → Cfg → Vars → List Frame → Trace
  | .plain => runPlain
  | .ot tracer => runOT tracer

theorem execOf_viaMerge (v : Variant) : HeadersViaMerge (execOf v) := by
  cases v with
  | plain => intro cfg vars fs; exact run_viaMerge Tables.wsTypesAsync Tables.wsSubprotocolAsync cfg vars fs
  | ot tracer =>
    intro cfg vars fs
    exact runOT_viaMerge tracer Tables.wsTypesAsyncOT Tables.wsSubprotocolAsyncOT cfg vars fs

theorem execOf_eq_plain (v : Variant) : execOf v = runPlain := by
  cases v with
  | plain => rfl
  | ot tracer => funext cfg vars fs; exact ot_equivalent tracer cfg vars fs

/-- **ws_merge_writes_only_own_object.**  The header statements of `execute_ws` - each of the three
    copies - on EVERY store and every pair of references: they succeed iff the references name
    objects; every object that existed before is what it was (`self.ws_headers.copy()` allocates, and
    `update` writes into the copy); the dict handed to `ws_connect` is the new object, holding the
    configured headers updated by the call's `extra_headers` (Python's `dict.update`). -/
theorem ws_merge_writes_only_own_object (v : Variant) (s : Store) (w : Nat) (e : Option Nat) :
    match v.merge s w e with
    | some (s', a) =>
        (∀ i, i < s.length → s'[i]? = s[i]?) ∧ a = s.length ∧
        ∃ d x, s[w]? = some d ∧ extraAt s e = some x ∧ s'[a]? = some (dictUpdate d (x.getD []))
    | none => s[w]? = none ∨ extraAt s e = none := by
  cases hw : s[w]? with
  | none =>
    rw [variant_merge_eq]
    simp [mergeHeadersS, hw]
  | some d =>
    cases he : extraAt s e with
    | none =>
      rw [variant_merge_eq]
      cases e with
      | none => simp [extraAt] at he
      | some a =>
        simp only [extraAt, Option.map_eq_none_iff] at he
        have hlt : ¬ a < s.length := by
          intro hlt; rw [List.getElem?_eq_getElem hlt] at he; cases he
        simp [mergeHeadersS, hw, hlt]
    | some x =>
      obtain ⟨tail, hm⟩ := merge_closed v s w e d x hw he
      rw [hm]
      refine ⟨fun i hi => List.getElem?_append_left hi, rfl, d, x, rfl, rfl, by simp⟩

/-- The theorem above is about the code, not about the shape of the model: the condensed rewrite
    that updates `self.ws_headers` itself (Model/WsClientHeap.lean `mergeHeadersInPlaceS`) writes
    the per-call headers into the configured object - which, after `ws_headers or {}`, is the dict
    the caller passed to the constructor. -/
theorem inplace_merge_breaks_frame :
    ∃ (s s' : Store) (a : Nat), mergeHeadersInPlaceS s 0 (some 1) = some (s', a) ∧ s'[0]? ≠ s[0]? :=
  ⟨[[("Authorization", .str "Bearer service")], [("Authorization", .str "Bearer user-42")]], _, _, rfl,
    by intro h; simp [dictUpdate, dictSet] at h⟩

/-- **constructor_keeps_reference.**  `self.ws_headers = ws_headers or {}`: a non-empty dict is kept
    by reference and nothing is allocated; `None` / `{}` give the client a new empty dict; in every
    case every object that existed is what it was and the client's references name objects. -/
theorem constructor_keeps_reference (s : Store) (a : CtorArgs) (s0 : Store) (cl : ClientObj)
    (h : construct s a = some (s0, cl)) :
    (∃ t, s0 = s ++ t) ∧ (s0[cl.wsHeaders]?).isSome = true ∧ cl.url = a.wsUrl ∧ cl.initPayload = a.initPayload ∧
    (∀ hd d rest, a.wsHeaders = some hd → s[hd]? = some (d :: rest) → cl.wsHeaders = hd ∧ s0 = s) ∧
    ((a.wsHeaders = none ∨ ∃ hd, a.wsHeaders = some hd ∧ s[hd]? = some []) →
      cl.wsHeaders = s.length ∧ s0 = s ++ [[]]) := by
  unfold construct at h
  by_cases hi : refOk s a.initPayload = true
  case neg => simp [hi] at h
  case pos =>
    simp only [hi, if_true] at h
    cases hh : a.wsHeaders with
      | none =>
        simp only [hh, Option.some.injEq, Prod.mk.injEq] at h
        obtain ⟨rfl, rfl⟩ := h
        refine ⟨⟨[[]], rfl⟩, by simp, rfl, rfl, (by intro hd d rest h1; cases h1), fun _ => ⟨rfl, rfl⟩⟩
      | some hd =>
        simp only [hh] at h
        cases hs : s[hd]? with
        | none => simp [hs] at h
        | some o =>
          cases o with
          | nil =>
            simp only [hs, Option.some.injEq, Prod.mk.injEq] at h
            obtain ⟨rfl, rfl⟩ := h
            refine ⟨⟨[[]], rfl⟩, by simp, rfl, rfl, ?_, fun _ => ⟨rfl, rfl⟩⟩
            intro hd' d rest h1 h2
            cases h1
            rw [hs] at h2; cases h2
          | cons d rest =>
            simp only [hs, Option.some.injEq, Prod.mk.injEq] at h
            obtain ⟨rfl, rfl⟩ := h
            refine ⟨⟨[], by simp⟩, by simp [hs], rfl, rfl, ?_, ?_⟩
            · intro hd' d' rest' h1 _
              cases h1; exact ⟨rfl, rfl⟩
            · intro h1
              rcases h1 with h1 | ⟨hd', h1, h2⟩
              · cases h1
              · cases h1; rw [hs] at h2; cases h2

/-- **call_on_references.**  One `execute_ws` (any of the three code paths) on references: the store
    afterwards is the store before with new objects appended, the client object is the same, and
    the trace is the trace of the plain value-level model on the CONTENTS the references had. -/
theorem call_on_references (v : Variant) (s : Store) (cl : ClientObj) (c : HCall) (cfg : Cfg) (vars : Vars)
    (fs : List Frame) (h : cfgAt s cl c = some cfg) :
    ∃ tail, runH v.merge (execOf v) s cl c vars fs = some (s ++ tail, cl, runPlain cfg vars fs) := by
  obtain ⟨tail, ht⟩ := runH_eq v (execOf v) (execOf_viaMerge v) s cl c cfg vars fs h
  exact ⟨tail, by rw [ht, execOf_eq_plain]⟩

/-- what the subscription of step `st` shows when it is the only one ever made on the client
    (`alone` of Proofs/WsClientHeap.lean at the plain executor, written out) -/
def standalone (v : Variant) (s : Store) (cl : ClientObj) (st : Step) : Option Obs :=
  (cfgAt s cl st.call).map fun cfg => observe v st.refuse st.take (runPlain cfg st.vars st.frames)

/-- every reference of every step names an object of the initial store (the hypothesis `hwf` of `runSeqH_eq`) -/
def WfSteps (s : Store) (cl : ClientObj) (steps : List Step) : Prop :=
  ∀ st ∈ steps, (cfgAt s cl st.call).isSome = true

/-- **sequence_history_free.**  ANY number of subscriptions one after the other on ONE client object
    - completed, failed, refused or abandoned ones, with any per-call `extra_headers`, sharing dict
    objects with each other and with the constructor in any pattern: afterwards every dict object
    that existed (the one behind `self.ws_headers`, the one passed to the constructor, every
    caller's `extra_headers`, the init payload) holds what it held, the client object is the same,
    and the `i`-th subscription showed exactly what it shows when run alone on the fresh client. -/
theorem sequence_history_free (v : Variant) (s : Store) (cl : ClientObj) (steps : List Step)
    (hwf : WfSteps s cl steps) :
    (∀ i, i < s.length → (runSeqH v (execOf v) s cl steps).1[i]? = s[i]?) ∧
    (runSeqH v (execOf v) s cl steps).2.1 = cl ∧
    (runSeqH v (execOf v) s cl steps).2.2 = steps.map (standalone v s cl) := by
  obtain ⟨g', hg⟩ := runSeqH_eq v (execOf v) (execOf_viaMerge v) s cl steps hwf []
  simp only [List.append_nil] at hg
  rw [hg]
  refine ⟨fun i hi => List.getElem?_append_left hi, rfl, ?_⟩
  rw [execOf_eq_plain]
  rfl

/-- **each_socket_headers.**  The `i`-th socket of such a sequence is opened with the configured
    headers overridden by THAT call's `extra_headers` - and nothing else: for every header name, the
    value is the call's if the call names it, else the configured one, else there is none.
    (`cfg.headers` / `cfg.extraHeaders` are the contents the objects had before the FIRST call.) -/
theorem each_socket_headers (v : Variant) (s : Store) (cl : ClientObj) (steps : List Step)
    (hwf : WfSteps s cl steps) (i : Nat) (st : Step) (cfg : Cfg)
    (hst : steps[i]? = some st) (hcfg : cfgAt s cl st.call = some cfg) (hk : NoDupKw cfg) :
    (runSeqH v (execOf v) s cl steps).2.2[i]? =
      some (some (observe v st.refuse st.take (runPlain cfg st.vars st.frames))) ∧
    (runPlain cfg st.vars st.frames).events.head? = some (.connect (connectArgs subprotocol cfg)) ∧
    s[cl.wsHeaders]? = some cfg.headers ∧ extraAt s st.call.extraHeaders = some cfg.extraHeaders ∧
    (connectArgs subprotocol cfg).url = cl.url ∧
    (connectArgs subprotocol cfg).subprotocols = ["graphql-transport-ws"] ∧
    ∀ k, ((cfg.extraHeaders.getD []).map (·.1)).Nodup →
      J.lookup k (connectArgs subprotocol cfg).extraHeaders =
        match J.lookup k (cfg.extraHeaders.getD []) with
        | some x => some x
        | none => J.lookup k cfg.headers := by
  obtain ⟨hw, he, -, -, hu, -⟩ := cfgAt_parts s cl st.call cfg hcfg
  refine ⟨?_, ?_, hw, he, hu, rfl, fun k hn => dictUpdate_lookup _ _ k hn⟩
  · rw [(sequence_history_free v s cl steps hwf).2.2]
    simp [List.getElem?_map, hst, standalone, hcfg]
  · obtain ⟨rest, hr⟩ := run_starts cfg st.vars st.frames hk
    rw [hr]
    rfl

/-- **constructor_dict_unmodified.**  From the constructor on: whatever the caller passed as
    `ws_headers=` (and every other object of the caller) is unmodified after any sequence of
    subscriptions on the client that was built from it. -/
theorem constructor_dict_unmodified (v : Variant) (s : Store) (a : CtorArgs) (s0 : Store) (cl : ClientObj)
    (hc : construct s a = some (s0, cl)) (steps : List Step) (hwf : WfSteps s0 cl steps) :
    ∀ i, i < s.length → (runSeqH v (execOf v) s0 cl steps).1[i]? = s[i]? := by
  obtain ⟨⟨t, rfl⟩, -⟩ := constructor_keeps_reference s a s0 cl hc
  intro i hi
  rw [(sequence_history_free v (s ++ t) cl steps hwf).1 i (by simp; omega)]
  exact List.getElem?_append_left hi

/-- **interleaved_subscriptions_independent.**  For EVERY schedule of the steps of any number of
    concurrently open subscriptions on one client (any order of first `__anext__`s, unfinished
    ones allowed): no object that existed is written, the client object is the same, and every
    subscription that started shows what it shows alone. -/
theorem interleaved_subscriptions_independent (v : Variant) (s : Store) (cl : ClientObj) (steps : List Step)
    (hwf : WfSteps s cl steps) (sched : List Nat) :
    (∀ i, i < s.length → (runSchedule v (execOf v) (startW s cl steps) sched).store[i]? = s[i]?) ∧
    (runSchedule v (execOf v) (startW s cl steps) sched).client = cl ∧
    ∀ (i : Nat) st o, steps[i]? = some st →
      ((runSchedule v (execOf v) (startW s cl steps) sched).tasks[i]? = some (.opened o) ∨
       (runSchedule v (execOf v) (startW s cl steps) sched).tasks[i]? = some (.done o)) →
      o = standalone v s cl st := by
  obtain ⟨⟨⟨g, hg⟩, h2⟩, h4, -⟩ :=
    Schedule.schedule (stepW_spec v (execOf v) (execOf_viaMerge v) s cl steps hwf) Phase.todo (fun _ => rfl)
      (startW s cl steps) ⟨⟨[], by simp [startW]⟩, rfl⟩ rfl rfl sched
  unfold runSchedule
  refine ⟨fun i hi => by rw [hg]; exact List.getElem?_append_left hi, h2, ?_⟩
  intro i st o hst hp
  have key : o = alone v (execOf v) s cl st := by
    rcases hp with hp | hp
    · simpa [PhaseOk] using h4 i st _ hst hp
    · simpa [PhaseOk] using h4 i st _ hst hp
  rw [key, execOf_eq_plain]
  rfl

/-- non-vacuity.  Object 0 is the dict given to the constructor, object 1
    one caller's `extra_headers`; three subscriptions: with object 1, without, with object 0 ITSELF. -/
def store0 : Store := [[("Authorization", .str "Bearer service"), ("X-Tenant", .str "acme")],
                       [("Authorization", .str "Bearer user-42"), ("X-Request-Id", .str "req-1")]]
def client0 : ClientObj := { url := "ws://h/graphql", wsHeaders := 0, origin := none, initPayload := none }
def call0 (e : Option Nat) : HCall := { query := "subscription S { counter }", opName := some "S", extraHeaders := e, kwargs := [], opId := "id" }
def steps0 : List Step :=
  [{ call := call0 (some 1), vars := none, frames := [frAck, frComplete] },
   { call := call0 none, vars := none, frames := [frAck, frNext (.num 1 0)], take := some 1 },
   { call := call0 (some 0), vars := none, frames := [], refuse := some "OSError" }]

example : construct [store0[0]!, store0[1]!] ⟨"ws://h/graphql", some 0, none, none⟩ = some (store0, client0) := rfl
example : WfSteps store0 client0 steps0 := by
  intro st hst
  simp only [steps0, List.mem_cons, List.not_mem_nil, or_false] at hst
  rcases hst with rfl | rfl | rfl <;> rfl

/-- the second socket of that sequence is opened with the CONFIGURED Authorization, not the first call's -/
example : ∃ cfg, cfgAt store0 client0 (call0 none) = some cfg ∧
    (connectArgs subprotocol cfg).extraHeaders = [("Authorization", .str "Bearer service"), ("X-Tenant", .str "acme")] :=
  ⟨_, rfl, rfl⟩

/-- **current_configuration_each_time.**  Subscriptions on ONE client object with the OWNER'S edits in
    between - `client.ws_connection_init_payload = …` (a refreshed token), `client.ws_headers = …`,
    `ws_origin`, `ws_url` rebound, any dict the client refers to mutated in place: the store afterwards
    is the initial store with exactly the owner's edits applied (plus new objects), the client object
    is the owner's, and EVERY subscription shows what it shows alone on a client configured as the
    edits so far left it - nothing computed by an earlier subscription (a serialised init message,
    merged headers) survives in the client. -/
theorem current_configuration_each_time (v : Variant) (s : Store) (cl : ClientObj) (acts : List Action)
    (hwf : WfActs s cl acts) :
    (∃ g, (runActs v (execOf v) s cl acts).1 = (editsOnly s cl acts).1 ++ g) ∧
    (runActs v (execOf v) s cl acts).2.1 = (editsOnly s cl acts).2 ∧
    (runActs v (execOf v) s cl acts).2.2 = expectedObs v runPlain s cl acts := by
  obtain ⟨g', hg⟩ := runActs_eq v (execOf v) (execOf_viaMerge v) acts s cl [] hwf
  simp only [List.append_nil] at hg
  rw [hg, execOf_eq_plain]
  exact ⟨⟨g', rfl⟩, rfl, rfl⟩

/-- non-vacuity, the token refresh: object 0 = `{"token": "t1"}`, object 1 = `{"token": "t2"}`; subscribe,
    `client.ws_connection_init_payload = <object 1>`, subscribe, mutate object 1 in place, subscribe:
    the three `connection_init` messages carry t1, t2, t3. -/
def storeT : Store := [[("token", .str "t1")], [("token", .str "t2")], []]
def clientT : ClientObj := { url := "ws://h/graphql", wsHeaders := 2, origin := none, initPayload := some 0 }
def subT : Action := .sub { call := call0 none, vars := none, frames := [] }
def actsT : List Action := [subT, .edit (.setInit (some 1)), subT, .edit (.write 1 [("token", .str "t3")]), subT]

example : WfActs storeT clientT actsT := ⟨rfl, rfl, rfl, rfl, rfl, trivial⟩

example : ((expectedObs .plain runPlain storeT clientT actsT).map fun o => o.map fun ob => ob.events.drop 1) =
    [some [.send (.connectionInit (some (.obj [("token", .str "t1")])))],
     some [.send (.connectionInit (some (.obj [("token", .str "t2")])))],
     some [.send (.connectionInit (some (.obj [("token", .str "t3")])))]] := by
  simp [expectedObs, actsT, subT, alone, cfgAt, storeT, clientT, extraAt, initAt, call0, Edit.apply, observe, refuseAt,
    runPlain_eq, runT, J.hasKey, J.lookup, opened, initOf, J.truthy]

/-- an `error` message with an empty or a missing payload is the error letter with no entries: the
    stream ends with the multi-error (`error_raises_multi`, `outcome_as_demanded` apply) -/
example : letter (.json (.obj [("id", .str "1"), ("type", .str "error")])) = .error [] ∧
    letter (.json (.obj [("id", .str "1"), ("type", .str "error"), ("payload", .arr [])])) = .error [] ∧
    continuesF (.json (.obj [("type", .str "error")])) = false := by
  refine ⟨?_, ?_, ?_⟩ <;> simp [letter, J.lookup, continuesF, Letter.continues]

/-! ## 10. The consumer's side: refused connections, abandoned iterators -/

/-- `ws_connect(...)` is called with the same arguments and `__aenter__` raises: the exception
    escapes, nothing is sent, no socket was entered - in all three variants. -/
theorem refused_connection (v : Variant) (cfg : Cfg) (vars : Vars) (fs : List Frame) (exc : String)
    (h : NoDupKw cfg) :
    observe v (some exc) none (runPlain cfg vars fs) = ⟨[theConnect cfg], some (.internal exc), .notOpened⟩ := by
  obtain ⟨rest, hr⟩ := run_starts cfg vars fs h
  simp [observe, refuseAt, hr, theConnect, opened]

/-- **abandoned_iterator.**  The consumer takes `n + 1` items and calls `aclose()`: what happened is
    a prefix of the full run ending with the `n + 1`-th yield - nothing is sent, received or closed
    after the consumer stopped; the socket is released before `aclose()` returns in the plain
    client and only by the event loop's finaliser in the OpenTelemetry client (its `execute_ws` is a
    wrapper generator that does not close the inner one).  If the run has fewer yields the iterator
    ends by itself and the observation is the full one. -/
theorem abandoned_iterator (v : Variant) (n : Nat) (tr : Trace) :
    (∀ evs, cut (n + 1) tr.events = some evs →
      observe v none (some (n + 1)) tr = ⟨evs, none, if v.deferredRelease then .deferred else .sync⟩ ∧
      evs <+: tr.events ∧ (evs.filterMap Ev.yielded?).length = n + 1 ∧ ∃ d, evs.getLast? = some (.yield d)) ∧
    (cut (n + 1) tr.events = none →
      observe v none (some (n + 1)) tr = observe v none none tr ∧ tr.yielded.length < n + 1) := by
  refine ⟨fun evs h => ?_, fun h => ?_⟩
  · obtain ⟨h0, h1, h2⟩ := cut_spec (n + 1) tr.events evs h
    exact ⟨by simp [observe, refuseAt, h], h0, h1, h2 (Nat.succ_pos n)⟩
  · exact ⟨by simp [observe, refuseAt, h], cut_none _ _ h⟩

/-- `aclose()` before the first `__anext__`: the body never starts - no connect, nothing -/
theorem never_started (v : Variant) (refuse : Option String) (tr : Trace) :
    observe v refuse (some 0) tr = ⟨[], none, .notOpened⟩ := rfl

/-- the variants differ in NOTHING the consumer or the server can see - events and outcome - for every
    consumer behaviour; only the moment of the release of an abandoned socket differs -/
theorem ot_equivalent_observed (tracer : Bool) (refuse : Option String) (take : Option Nat) (tr : Trace) :
    (observe (.ot tracer) refuse take tr).events = (observe .plain refuse take tr).events ∧
    (observe (.ot tracer) refuse take tr).outcome = (observe .plain refuse take tr).outcome ∧
    (take = none → observe (.ot tracer) refuse take tr = observe .plain refuse take tr) := by
  cases take with
  | none => exact ⟨rfl, rfl, fun _ => rfl⟩
  | some n =>
    cases n with
    | zero => exact ⟨rfl, rfl, fun h => by cases h⟩
    | succ n =>
      simp only [observe]
      cases cut (n + 1) (refuseAt refuse tr).events <;> exact ⟨rfl, rfl, fun h => by cases h⟩

end Ariadne.C13
