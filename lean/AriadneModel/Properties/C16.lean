/-
  C16 — The graphqlschema strategy reproduces the schema.

  "For every valid schema, executing the generated Python module defines a schema object equal to
   the source — same types, fields, arguments, default values, descriptions, deprecations,
   interfaces, union members, enum values, directives with locations/repeatability, root operation
   types and schema description […]. The chosen variable names are used and the module is valid,
   importable Python."

  Model: Model/SchemaGen.lean (`gen`, `dispatch`).  Reference semantics of CPython + graphql-core:
  Spec/PySchemaEval.lean (`evalSchemaModule`; modelled, validated, not verified).  Hypothesis:
  the explicit decidable predicate `SchemaWF.wf`.  Quantification: every `SchemaIR` (type lists,
  field lists, argument lists, wrapper nesting and default value trees of any size), every pair of
  variable names.

  Two findings make the full statement false on the pinned tree:
    C16-F1 `trigOneOf`  — `generate_input_object_type` does not emit `is_one_of`;
    C16-F2 `trigShadow` — a type-map variable name equal to an imported helper the module still
                          needs after the assignment breaks the module (or silently changes it).
  `eval_gen` says exactly what is lost in the first region (nothing but `is_one_of`);
  `schema_roundtrip` (= `C16_partial`) is the property on the complement of both regions.

  Constants ("defaults of every literal kind incl. nested objects/enums/null/large floats/quotes,
  multi-line descriptions", embedded via `repr`): the IR carries a constant as its VALUE; that the
  TEXT `ast.unparse` writes for it (`repr`, Model/PyRepr.lean) denotes that value again is
  `literal_roundtrip` — for every value tree of any size and depth, every string (every quote
  choice, every escape), every `str.isprintable` table — against the reader of Spec/PyLiteral.lean
  (CPython's literal syntax: modelled, validated on every written file, not verified).
  `default_text_roundtrip` adds `Undefined`, which is written as a NAME, and
  `gen_constants_read_back` says it of every constant position of the module emitted for a
  well-formed schema.  What black does to that text afterwards is outside the model (the reader is
  validated on black's output; black's own AST-equivalence is assumed).

  Order of `schema.type_map` (= the order `print_schema` prints the types in): the evaluator lists
  the types in type-map-dict order; that graphql-core's type collection (Spec/GqlCollect.lean:
  modelled, validated against `list(schema.type_map)` of the source and of the generated schema on
  every case) keeps the user's types in the order of the `types=` argument is `type_map_order`.
-/
import AriadneModel.Proofs.SchemaRoundtrip
import AriadneModel.Proofs.SchemaPrune
import AriadneModel.Proofs.PyLiteral
import AriadneModel.Proofs.SchemaConsts
import AriadneModel.Proofs.GqlCollect

namespace Ariadne.C16
open Ariadne.Schema Ariadne.SchemaGen Ariadne.PySchemaEval Ariadne.SchemaWF Ariadne.SchemaRoundtrip

/-! ### table facts (re-checked against the regenerated tables on every run) -/

/-- every key of ariadne's `STANDARD_SCALARS` maps to the graphql-core export that IS that scalar,
    and all five export names are shadow-sensitive -/
theorem standard_scalars_table :
    ∀ p ∈ Tables.schemaStandardScalars,
      graphqlExport p.2 = some (.std p.1) ∧ shadowSensitive.contains p.2 = true := by decide +kernel

/-- everything `generate_type_map` skips is a name graphql-core reserves, and vice versa -/
theorem standard_types_are_reserved :
    (∀ n ∈ Tables.schemaStandardTypes, Tables.gqlReservedTypes.contains n = true) ∧
    (∀ n ∈ Tables.gqlReservedTypes, Tables.schemaStandardTypes.contains n = true) := by decide +kernel

/-- every specified scalar object exported by graphql-core has a `STANDARD_SCALARS` entry
    (otherwise a reference to it would be emitted as a lookup of a key the type map never has) -/
theorem specified_scalars_covered :
    ∀ p ∈ Tables.gqlStdScalarExports, stdScalarPy p.2 = some p.1 := by decide +kernel

/-- the bindings made by the three import statements `gen` emits -/
def genBindings : List (Name × Builtin) :=
  match bindImports genImports with
  | .ok bs => bs
  | .error _ => []

theorem bindImports_gen : bindImports genImports = .ok genBindings := by rfl

def ρ₁ : Env := envOfImports genBindings

def ρ₂ (tm : Name) : Env := fun n => if n = tm then .typeMap else ρ₁ n

/-- a name the emitted code needs after the type-map assignment: shadow-sensitive, and bound by the imports to `b` -/
abbrev Needed (n : Name) (b : Builtin) : Prop := shadowSensitive.contains n = true ∧ ρ₁ n = .builtin b

/-- what the three import statements bind, for every name the two statements of the module mention -/
theorem imports_table :
    (ρ₁ "GraphQLScalarType" = .builtin .scalarT ∧ ρ₁ "GraphQLObjectType" = .builtin .objectT ∧
     ρ₁ "GraphQLInterfaceType" = .builtin .interfaceT ∧ ρ₁ "GraphQLUnionType" = .builtin .unionT ∧
     ρ₁ "GraphQLEnumType" = .builtin .enumT ∧ ρ₁ "GraphQLInputObjectType" = .builtin .inputT ∧
     ρ₁ "GraphQLEnumValue" = .builtin .enumValue) ∧
    (Needed "GraphQLField" .field ∧ Needed "GraphQLArgument" .argument ∧ Needed "GraphQLInputField" .inputField ∧
     Needed "GraphQLList" .list ∧ Needed "GraphQLNonNull" .nonNull ∧ Needed "cast" .cast ∧ Needed "List" .typingList ∧
     Needed "Undefined" .undefined ∧ Needed "GraphQLDirective" .directive ∧ Needed "GraphQLSchema" .schema ∧
     Needed "DirectiveLocation" .directiveLocation) ∧
    (∀ p ∈ Tables.schemaStandardScalars, Needed p.2 (.std p.1)) ∧
    (∀ k ∈ [Kind.scalar, .object, .interface, .union, .enum, .input], ρ₁ k.className ≠ .unbound) ∧
    ρ₁ "TypeMap" ≠ .unbound := by decide +kernel

theorem env1Good : Env1Good ρ₁ := by
  obtain ⟨⟨h1, h2, h3, h4, h5, h6, h7⟩, _⟩ := imports_table
  exact ⟨h1, h2, h3, h4, h5, h6, h7⟩

theorem ne_of_not_shadow {tm n : Name} (h : trigShadow tm = false) (hn : shadowSensitive.contains n = true) : n ≠ tm := by
  intro e
  subst e
  unfold trigShadow at h
  rw [h] at hn
  exact absurd hn (by simp)

theorem ρ₂_builtin {tm n : Name} {b : Builtin} (h : trigShadow tm = false) (hn : Needed n b) : ρ₂ tm n = .builtin b := by
  unfold ρ₂
  rw [if_neg (ne_of_not_shadow h hn.1)]
  exact hn.2

theorem ρ₂_bound {tm n : Name} (h1 : ρ₁ n ≠ .unbound) : ρ₂ tm n ≠ .unbound := by
  unfold ρ₂
  by_cases e : n = tm
  · simp [e]
  · simp [e, h1]

theorem envGood (tm : Name) (h : trigShadow tm = false) : EnvGood (ρ₂ tm) tm := by
  obtain ⟨_, ⟨h1, h2, h3, h4, h5, h6, h7, h8, h9, h10, h11⟩, hstd, hcls, hann⟩ := imports_table
  exact {
    field := ρ₂_builtin h h1, argument := ρ₂_builtin h h2, inputField := ρ₂_builtin h h3, list := ρ₂_builtin h h4,
    nonNull := ρ₂_builtin h h5, cast := ρ₂_builtin h h6, tlist := ρ₂_builtin h h7, undefined := ρ₂_builtin h h8,
    directive := ρ₂_builtin h h9, schema := ρ₂_builtin h h10, dirLoc := ρ₂_builtin h h11,
    std := fun n py hpy => ρ₂_builtin h (hstd (n, py) (alookup_mem n py _ hpy)),
    clsBound := fun k => ρ₂_bound (hcls k (by cases k <;> simp)),
    tmAnn := ρ₂_bound hann,
    tm := by simp [ρ₂] }

/-- what the emitted module can carry of a schema: everything except `is_one_of` -/
def eraseOneOf (S : SchemaIR) : SchemaIR := { S with types := S.types.map clearOneOf }

/-- **Main theorem.**  For every well-formed schema and every type-map variable name that does
    not shadow a needed import, executing the emitted module yields the source schema with — at
    most — the `is_one_of` flags cleared.  (Induction over the type list, field lists, argument
    lists, TypeRef wrappers; a default value is carried as its value, that its text reads back is `literal_roundtrip`.) -/
theorem eval_gen (S : SchemaIR) (tm sv : Name) (hwf : wf S = true) (hsh : trigShadow tm = false) :
    evalSchemaModule (gen S tm sv) sv = .ok (eraseOneOf S) := by
  have ⟨hnd, hnames, htypes, hq, hm, hs, hds⟩ := SchemaConsts.wf_split S hwf
  have hρ := envGood tm hsh
  have hkeys : (S.types.map fun t => (t.name, genType tm t)).map (·.1) = S.types.map TypeDef.name := by
    simp [List.map_map, Function.comp_def]
  have h1 : evalTypeMap ρ₁ (genTypeMap tm S.types) = .ok (S.types.map fun t => (t.name, objOf tm t)) := by
    unfold evalTypeMap
    rw [genTypeMap_eq tm S.types hnames, constructAll_gen env1Good tm (headsS S.types) S.types hnames htypes, hkeys]
    simp [hnd, require]
  have hnd' : nodupB ((S.types.map clearOneOf).map TypeDef.name) = true := by
    have : (S.types.map clearOneOf).map TypeDef.name = S.types.map TypeDef.name := by
      simp [List.map_map, Function.comp_def, clearOneOf_name]
    rw [this]; exact hnd
  have h2 : evalSchema (ρ₂ tm) (S.types.map fun t => (t.name, objOf tm t)) (genSchema tm S) = .ok (eraseOneOf S) := by
    unfold evalSchema genSchema
    simp only [headsOf_objs]
    rw [callee_eq hρ.schema (by simp)]
    simp only [bind_ok, evalRoot_gen hρ _ S.query hq, evalRoot_gen hρ _ S.mutation hm,
      evalRoot_gen hρ _ S.subscription hs, callee_eq hρ.tm (by simp),
      evalDirectives_gen hρ _ S.directives hds, evalOptStr_gen, forceAll_gen hρ _ S.types htypes, hnd']
    simp [require, eraseOneOf]
  unfold evalSchemaModule
  simp only [gen, bindImports_gen, bind_ok]
  have eρ₁ : envOfImports genBindings = ρ₁ := rfl
  simp only [eρ₁]
  have eρ₂ : (fun n => if n = tm then Binding.typeMap else ρ₁ n) = ρ₂ tm := rfl
  simp only [eρ₂]
  rw [h1]
  simp only [bind_ok, callee_bound hρ.tmAnn, h2]
  by_cases e : "GraphQLSchema" = sv
  · simp [e]
  · simp [e, callee_eq hρ.schema]

theorem eraseOneOf_of_not (S : SchemaIR) (h : trigOneOf S = false) : eraseOneOf S = S := by
  unfold eraseOneOf
  have : S.types.map clearOneOf = S.types := by
    have hall : ∀ t ∈ S.types, isOneOf t = false := by
      unfold trigOneOf at h
      simpa using h
    calc S.types.map clearOneOf = S.types.map id :=
          List.map_congr_left (fun t ht => clearOneOf_of_not t (hall t ht))
      _ = S.types := List.map_id _
  rw [this]

/-- the property for one input -/
def Roundtrip (S : SchemaIR) (tm sv : Name) : Prop := evalSchemaModule (gen S tm sv) sv = .ok S

/-- **schema_roundtrip** (must tier, = `C16_partial`): outside the two finding regions the emitted
    module evaluates to exactly the source schema. -/
theorem schema_roundtrip (S : SchemaIR) (tm sv : Name) (hwf : wf S = true)
    (h1 : trigOneOf S = false) (h2 : trigShadow tm = false) : Roundtrip S tm sv := by
  unfold Roundtrip
  rw [eval_gen S tm sv hwf h2, eraseOneOf_of_not S h1]

/-- The same for the module as `ast_to_str` WRITES it — unused imports removed (`written`, the
    model of the autoflake pass; the harness compares it with the import lists of the real file):
    the evaluator consults only names the body mentions, and those stay imported. -/
theorem schema_roundtrip_written (S : SchemaIR) (tm sv : Name) (hwf : wf S = true)
    (h1 : trigOneOf S = false) (h2 : trigShadow tm = false) :
    evalSchemaModule (written (gen S tm sv)) sv = .ok S := by
  have h := SchemaPrune.eval_written (gen S tm sv) genBindings bindImports_gen
  have e : (gen S tm sv).svName = sv := rfl
  rw [e] at h
  rw [h]
  exact schema_roundtrip S tm sv hwf h1 h2

/-- every name the written module imports is mentioned (or re-bound) by its two statements -/
theorem written_imports_only_needed (m : PyModuleIR) :
    ∀ i ∈ (written m).imports, i.names ≠ [] ∧ ∀ n ∈ i.names, keepName m n = true := by
  intro i hi
  have hi' : i ∈ pruneWith (keepName m) m.imports := hi
  unfold pruneWith at hi'
  rw [List.mem_filter] at hi'
  obtain ⟨hmem, hne⟩ := hi'
  rw [List.mem_map] at hmem
  obtain ⟨j, _, hj⟩ := hmem
  subst hj
  refine ⟨by simpa using hne, ?_⟩
  intro n hn
  exact (List.mem_filter.mp hn).2

/-- The property at full strength (all well-formed schemas × all variable names). -/
def C16_full : Prop := ∀ (S : SchemaIR) (tm sv : Name), wf S = true → Roundtrip S tm sv

/-- theorem region ∪ finding regions = all inputs -/
def Supported_16 (S : SchemaIR) (tm : Name) : Prop := ¬ (trigOneOf S = true ∨ trigShadow tm = true)

theorem C16_partial (S : SchemaIR) (tm sv : Name) (hwf : wf S = true) (hsup : Supported_16 S tm) : Roundtrip S tm sv := by
  simp only [Supported_16, not_or, Bool.not_eq_true] at hsup
  exact schema_roundtrip S tm sv hwf hsup.1 hsup.2

def intRef : TypeRef := .named "Int" .scalar

/-- C16-F1 witness: `input Pick @oneOf { a: Int  b: Int }  type Query { f(p: Pick): Int }` -/
def witnessOneOf : SchemaIR :=
  { types := [.input "Pick" none [⟨"a", intRef, .undefined, none, none⟩, ⟨"b", intRef, .undefined, none, none⟩] true,
              .object "Query" none [] [⟨"f", intRef, [⟨"p", .named "Pick" .input, .undefined, none, none⟩], none, none⟩]],
    query := some ("Query", .object), mutation := none, subscription := none, directives := [], description := none }

/-- C16-F2 witness: `type Query { f: Int }` with `type_map_variable_name = "cast"` -/
def witnessPlain : SchemaIR :=
  { types := [.object "Query" none [] [⟨"f", intRef, [], none, none⟩]],
    query := some ("Query", .object), mutation := none, subscription := none, directives := [], description := none }

theorem witnessOneOf_wf : wf witnessOneOf = true := by decide +kernel
theorem witnessPlain_wf : wf witnessPlain = true := by decide +kernel

/-- the full-strength property fails on the pinned tree (finding C16-F1: `is_one_of` is lost) -/
theorem C16_full_false : ¬ C16_full := by
  intro h
  have h1 := h witnessOneOf "type_map" "schema" witnessOneOf_wf
  unfold Roundtrip at h1
  rw [eval_gen witnessOneOf "type_map" "schema" witnessOneOf_wf (by decide)] at h1
  have h2 : (eraseOneOf witnessOneOf).types = witnessOneOf.types := by
    have := Except.ok.inj h1
    rw [this]
  simp [eraseOneOf, witnessOneOf, clearOneOf] at h2

/-- … and it still fails when `@oneOf` inputs are excluded (finding C16-F2: the type-map variable
    shadows `typing.cast`, the module raises) -/
theorem C16_full_false_shadow :
    ¬ (∀ (S : SchemaIR) (tm sv : Name), wf S = true → trigOneOf S = false → Roundtrip S tm sv) := by
  intro h
  have h1 := h witnessPlain "cast" "schema" witnessPlain_wf (by decide)
  unfold Roundtrip at h1
  have h2 : (evalSchemaModule (gen witnessPlain "cast" "schema") "schema").isOk = false := by decide +kernel
  rw [h1] at h2
  cases h2

/-- non-vacuity of `schema_roundtrip`: a schema with every kind of named type, an interface
    implementing an interface, custom root names, nested defaults, a repeatable directive -/
def sample : SchemaIR :=
  { types :=
      [.scalar "Date" (some "d") (some "https://example.com"),
       .enum "Color" none [⟨"RED", .str "RED", some "r", none⟩, ⟨"BLUE", .str "BLUE", none, some "old"⟩],
       .input "Filter" none
         [⟨"color", .named "Color" .enum, .value (.str "RED"), none, some "dep"⟩,
          ⟨"ids", .nonNull (.list (.nonNull (.named "ID" .scalar))), .value (.list [.str "a"]), none, none⟩,
          ⟨"sub", .named "Filter" .input, .undefined, none, none⟩] false,
       .interface "Node" none [] [⟨"id", .nonNull (.named "ID" .scalar), [], none, none⟩],
       .interface "Named" none ["Node"] [⟨"id", .nonNull (.named "ID" .scalar), [], none, none⟩,
          ⟨"name", .named "String" .scalar, [], some "multi\nline \"q\"", some "No longer supported"⟩],
       .object "User" (some "u") ["Named", "Node"]
         [⟨"id", .nonNull (.named "ID" .scalar), [], none, none⟩, ⟨"name", .named "String" .scalar, [], none, none⟩,
          ⟨"since", .named "Date" .scalar,
            [⟨"f", .named "Filter" .input, .value (.dict [("color", .str "BLUE"), ("ids", .list []), ("x", .dict [("y", .float "1e+300")])]), none, none⟩,
             ⟨"n", .named "Int" .scalar, .value (.int (-3)), some "arg", some "gone"⟩,
             ⟨"z", .named "Float" .scalar, .value .none, none, none⟩], none, none⟩],
       .union "Result" none ["User"],
       .object "RootQ" none [] [⟨"me", .named "Result" .union, [], none, none⟩, ⟨"node", .named "Node" .interface, [], none, none⟩]],
    query := some ("RootQ", .object), mutation := none, subscription := some ("User", .object),
    directives := [⟨"tag", some "t", true, ["FIELD_DEFINITION", "OBJECT"], [⟨"name", .nonNull (.named "String" .scalar), .value (.str "x"), none, none⟩]⟩,
                   ⟨"skip", none, false, ["FIELD"], [⟨"if", .nonNull (.named "Boolean" .scalar), .undefined, none, none⟩]⟩],
    description := some "schema" }

theorem sample_facts :
    wf sample = true ∧ trigOneOf sample = false ∧ trigShadow "type_map" = false ∧
    (gen sample "type_map" "schema").consts.length = 70 := by decide +kernel

example : wf sample = true ∧ trigOneOf sample = false ∧ trigShadow "type_map" = false :=
  ⟨sample_facts.1, sample_facts.2.1, sample_facts.2.2.1⟩
example : Roundtrip sample "type_map" "schema" :=
  schema_roundtrip _ _ _ sample_facts.1 sample_facts.2.1 sample_facts.2.2.1
example : Supported_16 sample "GraphQLEnumValue" := by unfold Supported_16; decide +kernel

/-! ### corollaries: what is reproduced, feature by feature -/

/-- Even inside the `@oneOf` region nothing else is lost: the evaluated schema agrees with the
    source on every type up to `is_one_of`, on the root types, the directives and the description. -/
theorem only_oneOf_lost (S : SchemaIR) (tm sv : Name) (hwf : wf S = true) (hsh : trigShadow tm = false) :
    ∃ S', evalSchemaModule (gen S tm sv) sv = .ok S' ∧ S'.types = S.types.map clearOneOf ∧
      S'.query = S.query ∧ S'.mutation = S.mutation ∧ S'.subscription = S.subscription ∧
      S'.directives = S.directives ∧ S'.description = S.description :=
  ⟨eraseOneOf S, eval_gen S tm sv hwf hsh, rfl, rfl, rfl, rfl, rfl, rfl⟩

/-- same type names in the same order; root operation types (custom names included) -/
theorem same_type_names_and_roots (S : SchemaIR) (tm sv : Name) (hwf : wf S = true) (hsh : trigShadow tm = false) :
    ∃ S', evalSchemaModule (gen S tm sv) sv = .ok S' ∧ S'.types.map TypeDef.name = S.types.map TypeDef.name ∧
      S'.types.map TypeDef.kind = S.types.map TypeDef.kind ∧
      S'.query = S.query ∧ S'.mutation = S.mutation ∧ S'.subscription = S.subscription := by
  refine ⟨eraseOneOf S, eval_gen S tm sv hwf hsh, ?_, ?_, rfl, rfl, rfl⟩
  · simp [eraseOneOf, List.map_map, Function.comp_def, clearOneOf_name]
  · have : ∀ t, (clearOneOf t).kind = t.kind := by intro t; cases t <;> rfl
    simp [eraseOneOf, List.map_map, Function.comp_def, this]

/-- directives: names, descriptions, locations, repeatability, arguments with their defaults -/
theorem same_directives (S : SchemaIR) (tm sv : Name) (hwf : wf S = true) (hsh : trigShadow tm = false) :
    ∃ S', evalSchemaModule (gen S tm sv) sv = .ok S' ∧ S'.directives = S.directives ∧ S'.description = S.description :=
  ⟨eraseOneOf S, eval_gen S tm sv hwf hsh, rfl, rfl⟩

/-- every type that is not an input object comes back identical: descriptions, `specifiedBy`,
    interfaces (incl. interface-implements-interface), fields, arguments, default values,
    deprecation reasons, union members, enum values with their `value` -/
theorem non_input_types_identical (S : SchemaIR) (tm sv : Name) (hwf : wf S = true) (hsh : trigShadow tm = false)
    (i : Nat) (t : TypeDef) (ht : S.types[i]? = some t) (hk : t.kind ≠ .input) :
    ∃ S', evalSchemaModule (gen S tm sv) sv = .ok S' ∧ S'.types[i]? = some t := by
  refine ⟨eraseOneOf S, eval_gen S tm sv hwf hsh, ?_⟩
  have : clearOneOf t = t := by
    cases t <;> first | rfl | exact absurd rfl hk
  simp [eraseOneOf, ht, this]

/-- input objects come back with identical fields, defaults, descriptions, deprecations -/
theorem input_types_up_to_oneOf (S : SchemaIR) (tm sv : Name) (hwf : wf S = true) (hsh : trigShadow tm = false)
    (i : Nat) (n : Name) (d : Option String) (fs : List ArgDef) (o : Bool) (ht : S.types[i]? = some (.input n d fs o)) :
    ∃ S', evalSchemaModule (gen S tm sv) sv = .ok S' ∧ S'.types[i]? = some (.input n d fs false) := by
  refine ⟨eraseOneOf S, eval_gen S tm sv hwf hsh, ?_⟩
  simp [eraseOneOf, ht, clearOneOf]

/-! ### constants: the text `repr` writes denotes the value again -/

open Ariadne.PyRepr Ariadne.PyLiteral in
/-- **literal_roundtrip**: reading the `repr` text of a constant gives the constant — for every
    value tree (no bound on size, depth, string length), whatever `str.isprintable` says of any
    code point.  `finitePV`: every float is a finite float's `repr`. -/
theorem literal_roundtrip (printable : Char → Bool) (v : PyVal) (h : finitePV v = true) :
    readLiteral (reprPV printable v) = some v :=
  PyLiteralProofs.readLiteral_reprPV printable v h

open Ariadne.PyRepr Ariadne.PyLiteral in
/-- `literal_roundtrip` for the installed interpreter's `str.isprintable` table, on `String`s -/
theorem pyRepr_roundtrip (v : PyVal) (h : finitePV v = true) : readLiteral (pyRepr v).toList = some v := by
  unfold pyRepr
  rw [String.toList_ofList]
  exact literal_roundtrip pyPrintable v h

open Ariadne.PyRepr Ariadne.PyLiteral in
/-- every string — description, deprecation reason, `specifiedBy` URL, type / field / argument
    name — reads back, with no hypothesis at all -/
theorem string_roundtrip (printable : Char → Bool) (s : String) :
    readLiteral (reprString printable s.toList) = some (.str s) :=
  literal_roundtrip printable (.str s) rfl

open Ariadne.SchemaConsts (cexprOK)

open Ariadne.PyRepr Ariadne.PyLiteral in
/-- a constant position reads back as what was generated: constants as their value, graphql-core's
    `Undefined` as the NAME (never as a string, never as a constant) -/
theorem cexpr_text_roundtrip (printable : Char → Bool) (c : CExpr) (h : cexprOK c = true) :
    readCExpr (renderCExpr printable c) = some c := by
  cases c with
  | const v =>
    simp only [renderCExpr, readCExpr, literal_roundtrip printable v h]
  | name n =>
    have hn : n = "Undefined" := by simpa [cexprOK] using h
    subst hn
    rfl

open Ariadne.PyRepr Ariadne.PyLiteral in
/-- **default_text_roundtrip**: `generate_constant(arg.default_value)` for every default value —
    absent (`Undefined`), `None`, or any finite constant -/
theorem default_text_roundtrip (printable : Char → Bool) (d : Default) (h : finiteDefault d = true) :
    readCExpr (renderCExpr printable (genDefault d)) = some (genDefault d) := by
  apply cexpr_text_roundtrip
  cases d with
  | undefined => rfl
  | value v => exact h

open Ariadne.PyRepr Ariadne.PyLiteral in
theorem optstr_text_roundtrip (printable : Char → Bool) (o : Option String) :
    readCExpr (renderCExpr printable (genOptStr o)) = some (genOptStr o) := by
  apply cexpr_text_roundtrip
  cases o <;> rfl

open Ariadne.PyRepr Ariadne.PyLiteral in
/-- **gen_constants_read_back**: in the module emitted for a well-formed schema EVERY constant
    position — type names, descriptions, `specified_by_url`s, deprecation reasons, default values of
    arguments / input fields / directive arguments, enum values, `is_repeatable`, the schema
    description — carries a text that reads back as exactly what the generator put there. -/
theorem gen_constants_read_back (printable : Char → Bool) (S : SchemaIR) (tm sv : Name) (hwf : wf S = true) :
    ∀ c ∈ (gen S tm sv).consts, readCExpr (renderCExpr printable c) = some c :=
  fun c hc => cexpr_text_roundtrip printable c (SchemaConsts.gen_consts_ok S tm sv hwf c hc)

/-- non-vacuity: `sample` is well-formed and its module has 70 constant positions (names, `None`
    and string descriptions, `Undefined` and nested dict / list / float / `None` defaults, enum values) -/
example : wf sample = true ∧ (gen sample "type_map" "schema").consts.length = 70 :=
  ⟨sample_facts.1, sample_facts.2.2.2⟩

/-- a string default `"Undefined"` / `"None"` is not confused with the name / the constant -/
example : PyLiteral.readCExpr (PyLiteral.renderCExpr PyRepr.pyPrintable (.const (.str "Undefined"))) = some (.const (.str "Undefined")) :=
  cexpr_text_roundtrip _ _ rfl
example : PyRepr.pyRepr (.str "Undefined") = "'Undefined'" ∧ PyRepr.pyRepr (.str "it's") = "\"it's\"" ∧
    PyRepr.pyRepr (.str "a'b\"c\\\n\x7fé ") = "'a\\'b\"c\\\\\\n\\x7fé\\u2028'" := by
  decide +kernel

/-- non-vacuity of `literal_roundtrip`: a nested object default with an explicit `null` key, a list
    with a `null` item, quotes of both kinds, control and non-printable characters, a negative
    integer beyond 2^64, large / small / negative-zero floats -/
def sampleConst : PyVal :=
  .dict [("name", .none), ("limit", .int 10), ("tags", .list [.str "a", .none, .str "it's \"q\" \\ \n\t\x00\x7f é   😀"]),
         ("nested", .dict [("x", .float "1e+300"), ("y", .float "-0.0"), ("z", .float "5e-324"), ("b", .bool false)]),
         ("big", .int (-36893488147419103233)), ("", .dict []), ("'", .list [])]

example : finitePV sampleConst = true := by decide +kernel
example : PyLiteral.readLiteral (PyRepr.reprPV PyRepr.pyPrintable sampleConst) = some sampleConst :=
  literal_roundtrip _ _ (by decide +kernel)
example : finitePV (.float "inf") = false ∧ finitePV (.float "nan") = false ∧ finitePV (.list [.float "-inf"]) = false := by decide +kernel

theorem nodup_of_nodupB : ∀ xs : List String, nodupB xs = true → xs.Nodup :=
  fun xs => (Lists.nodupB_iff_of_eqns nodupB rfl (fun _ _ => rfl) xs).mp

open Ariadne.GqlCollect in
/-- **type_map_order**: graphql-core's type collection, given the user's types in some order as
    `types=` (the generated module passes `<type_map>.values()`, i.e. the source's order), yields a
    `type_map` that lists them in exactly that order — whatever they reference, wherever the built-in
    scalars and the introspection types end up in between. -/
theorem type_map_order (S : SchemaIR) (hwf : wf S = true) :
    (typeMapOrder S).filter (fun n => (S.types.map TypeDef.name).contains n) = S.types.map TypeDef.name :=
  GqlCollectProofs.typeMapOrder_user S (nodup_of_nodupB _ (SchemaConsts.wf_split S hwf).1)

open Ariadne.GqlCollect in
/-- the same for any `types=` list of distinct names that contains the user's types (what
    `build_client_schema` hands over for an introspected source: built-in types in between) -/
theorem type_map_order_from (S : SchemaIR) (ts : List Name) (hnd : ts.Nodup)
    (hU : ∀ u ∈ S.types.map TypeDef.name, u ∈ ts) :
    (typeMapOrderFrom ts S).filter (fun n => (S.types.map TypeDef.name).contains n) =
      ts.filter (fun n => (S.types.map TypeDef.name).contains n) :=
  GqlCollectProofs.typeMapOrderFrom_user S ts hnd hU

open Ariadne.GqlCollect in
/-- … hence the schema the emitted module defines has the source's type order (same statement about
    the evaluated schema, outside the finding regions) -/
theorem roundtrip_type_order (S : SchemaIR) (tm sv : Name) (hwf : wf S = true)
    (h1 : trigOneOf S = false) (h2 : trigShadow tm = false) :
    ∃ S', evalSchemaModule (gen S tm sv) sv = .ok S' ∧
      (typeMapOrder S').filter (fun n => (S.types.map TypeDef.name).contains n) = S.types.map TypeDef.name :=
  ⟨S, schema_roundtrip S tm sv hwf h1 h2, type_map_order S hwf⟩

/-- non-vacuity: in `sample` the built-in scalars land between the user's types, `Filter` references
    itself, `User` is referenced before it is defined -/
example : GqlCollect.typeMapOrder sample =
    ["Date", "Color", "Filter", "ID", "Node", "Named", "String", "User", "Int", "Float", "Result", "RootQ",
     "Boolean", "__Schema", "__Type", "__TypeKind", "__Field", "__InputValue", "__EnumValue", "__Directive",
     "__DirectiveLocation"] := by decide +kernel

/-- The module binds the configured schema variable to the schema; the configured type-map
    variable to the type map unless both names coincide (then the schema wins: observed on the
    real code, the module still works); and nothing but those two names and the imports. -/
theorem chosen_names_bound (S : SchemaIR) (tm sv : Name) :
    finalBinding (gen S tm sv) sv = .schema ∧
    (tm ≠ sv → finalBinding (gen S tm sv) tm = .typeMap) ∧
    (∀ n, finalBinding (gen S tm sv) n ≠ .unbound ↔ (n = sv ∨ n = tm ∨ n ∈ importNames)) := by
  refine ⟨by simp [finalBinding, gen], ?_, ?_⟩
  · intro h
    simp [finalBinding, gen, h]
  · intro n
    unfold finalBinding
    simp only [gen]
    constructor
    · intro h
      by_cases h1 : n = sv
      · exact Or.inl h1
      · by_cases h2 : n = tm
        · exact Or.inr (Or.inl h2)
        · right; right
          cases hc : (genImports.flatMap (·.names)).contains n with
          | true => exact List.contains_iff_mem.mp hc
          | false =>
            simp only [h1, h2, if_false, hc, Bool.false_eq_true] at h
            exact absurd rfl h
    · intro h
      by_cases h1 : n = sv
      · simp [h1]
      · by_cases h2 : n = tm
        · by_cases h4 : tm = sv <;> simp [h2, h4]
        · have h3 : n ∈ importNames := by
            rcases h with h | h | h
            · exact absurd h h1
            · exact absurd h h2
            · exact h
          have h3' : (genImports.flatMap (·.names)).contains n = true := List.contains_iff_mem.mpr h3
          simp only [h1, h2, if_false, h3', if_true]
          simp

/-- the emitted module mentions the configured names and no other variable of its own -/
theorem chosen_names_used (S : SchemaIR) (tm sv : Name) :
    (gen S tm sv).tmName = tm ∧ (gen S tm sv).svName = sv ∧ (gen S tm sv).schema.typesTm = tm := ⟨rfl, rfl, rfl⟩

/-- the Python emitter runs exactly for a (case-insensitive) `.py` suffix -/
theorem suffix_dispatch_py (p : String) : dispatch p = .ok .py ↔ (suffixOf p ≠ [] ∧ targetFileFormat p = "py") := by
  unfold dispatch assertValidTarget
  by_cases h1 : suffixOf p = []
  · simp [h1]
  · by_cases h2 : targetFileFormat p = "py"
    · simp [h1, h2]
    · by_cases h3 : targetFileFormat p ∈ ["py", "graphql", "gql"]
      · simp [h1, h2, h3]
      · simp [h1, h2, h3]

/-- the SDL printer runs exactly for `.graphql` / `.gql`: the `else` branch of `main.graphql_schema`
    is never reached with any other suffix, because the settings rejected it first -/
theorem suffix_dispatch_sdl (p : String) :
    dispatch p = .ok .sdl ↔ (suffixOf p ≠ [] ∧ (targetFileFormat p = "graphql" ∨ targetFileFormat p = "gql")) := by
  unfold dispatch assertValidTarget
  by_cases h1 : suffixOf p = []
  · simp [h1]
  · by_cases h2 : targetFileFormat p = "py"
    · simp [h1, h2]
    · by_cases h3 : targetFileFormat p = "graphql"
      · simp [h1, h3]
      · by_cases h4 : targetFileFormat p = "gql"
        · simp [h1, h4]
        · simp [h1, h2, h3, h4]

/-- anything else is rejected by the settings, before anything is generated -/
theorem suffix_dispatch_rejects (p : String) :
    (∃ e, dispatch p = .error e) ↔ (suffixOf p = [] ∨ targetFileFormat p ∉ ["py", "graphql", "gql"]) := by
  unfold dispatch assertValidTarget
  by_cases h1 : suffixOf p = []
  · simp [h1]
  · by_cases h3 : targetFileFormat p ∈ ["py", "graphql", "gql"]
    · by_cases h2 : targetFileFormat p = "py" <;> simp [h1, h2, h3]
    · simp [h1, h3]

example : dispatch "out/schema.PY" = .ok .py := by rfl
example : dispatch "schema.py.graphql" = .ok .sdl := by rfl
example : dispatch "dir.py/schema" = .error .missingFileType := by rfl
example : dispatch ".py" = .error .missingFileType := by rfl
example : dispatch "schema.graphqls" = .error .invalidFileType := by rfl

end Ariadne.C16
