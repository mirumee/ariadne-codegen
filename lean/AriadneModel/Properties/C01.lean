/-
  C01 — Result models accept and preserve every conformant response.

  Model: Model/ResultTypes.lean (generator), Model/Marks.lean (document as sent), Spec/Pyd.lean (pydantic),
  Spec/Exec.lean (executor), Spec/Validate.lean (validity); the Boolean pipeline statement `claimB` is in Model/Claim01.lean.
  This file holds statements and final proofs; lemmas are in Proofs/ResultLeaf.lean, Proofs/C01Plain*.lean,
  Proofs/C01Abs*.lean, Proofs/C01Mix*.lean, Proofs/C01Unp*.lean, Proofs/C01Bridge*.lean; the decidable region predicates of the pipeline theorems
  are collected in Proofs/C01Regions.lean, C01RegionsUnp.lean (the compiled driver evaluates them on every sampled case: op `regions`).

  WHAT IS PROVED (kernel-checked, every input of the class, no bound on depth / width / list lengths):
    * `ann_accepts_conformant`: leaf-based field types, every wrapper nesting.
    * `object_selection_roundtrip` (class level) and `C01_partial_plain` (pipeline, `claimB`): PLAIN documents — fields only
      (leaf- or object-typed, aliases, `@skip/@include`), no fragments, no `__typename`; region = `PlainInput`.
    * `abstract_position_roundtrip` (class level; `_nofrags`: the statement without fragment definitions),
      `interface_position_partition`, `union_position_partition`, and `C01_partial_abstract` (pipeline, `claimB`): documents
      WITHOUT NAMED FRAGMENTS whose fields may be of object, INTERFACE or UNION type, with typed inline fragments (content =
      fields) and `__typename`; one class per variant, typename literals that partition the possible types, automatic
      `__typename` marks threaded over the operations; region = `AbsInput`.
    * `mixin_fragments_roundtrip` (class level) and `C01_partial_mixin` (pipeline, `claimB`): plain documents WITH NAMED
      FRAGMENTS USED AS MIXINS (a fragment on exactly the object type of the selection set, no inline fragment inside):
      inheritance from the fragment classes, fragments module, to any nesting depth; region = `MixInput`.
    * `C01_partial_mixabs` (pipeline, `claimB`; class level = `abstract_position_roundtrip`, whose region `C01Abs.AbsOK`
      admits such spreads): MIXINS COMBINED WITH ABSTRACT POSITIONS in one document — the abstract tier extended by spreads of named
      fragments wherever the class the spread lands in is on exactly the OBJECT type the fragment is defined on: directly in
      an object-typed selection set, or inside an inline fragment on that object type at an interface / union position
      (`node { id ... on User { ...UF } }`); fragment definitions as in the mixin tier; region = `MixAbsInput` (⊇ `AbsInput` up to
      the executor fuel bound: `agfuel + maK ≤ execFuel` here, `agfuel ≤ execFuel` there).
    * `unpacked_fragments_roundtrip` (class level) and `C01_partial_unpacked` (pipeline, `claimB`): plain documents with named
      fragments ON AN INTERFACE spread in selection sets on OBJECT types implementing it — the generator UNPACKS them (their
      fields, and those of the fragments they spread, are merged into the class); by reduction to the plain tier on the inlined
      document (`C01Unp.inl`, `C01Unp.respOK_inl`); region = `UnpInput`.
    * `C01_full_false`, `F3_`, `F4_`, `F5_`, `F7_`, `F9_fails_in_model`, `F12_fails_in_model`: the property is false on the pinned tree inside the
      finding regions.
  WHAT IS STATED BUT NOT PROVED (`C01_partial_statement`; covered by correspondence + oracle only):
    * unpacked fragments COMBINED with mixins or abstract positions (`UnpInput` is a tier over the plain one), fragments that
      are unpacked because they contain inline fragments, fragments used as mixins of a class on an INTERFACE, spreads at the top
      level of an abstract position (`node { ...UserFrag }`: a variant class per fragment type);
    * inside the tiers, what their predicates exclude: the same response key reached twice in one class — proved in the
      abstract / mixabs tiers for LEAF selections of the same field (`node { id ... on User { id } }`, `{ ...F id }` with `id` in
      `F`: `C01Abs.dupOK`), still excluded in the plain / mixin / unpacked tiers and inside ONE fragment definition —,
      `__typename` inside an inline fragment or a fragment definition, nested inline fragments, configured custom scalars,
      `@mixin`, covariant field types in implementing objects;
    * inputs outside the explicit decidable side conditions `schemaOK`, `NoShadowedImport` (finding C01-F11 region) and, for the
      fragment definitions of `MixAbsInput`, selection-set ids not shared with a marked operation position (`sidFree`; ids are
      unique in a parsed document).
  FOUND BY THE PROOFS (hypotheses the proofs forced, run against the real code, which violates the property there):
    C01-F10 (`__typename @skip/@include`), C01-F11 (a name bound twice in a result module), C01-F12 (a fragment on an object type
    met while the generator's root is an abstract type — forced by `C01_partial_mixabs`, whose region demands that a spread inside an
    inline fragment is on that inline fragment's own type).
-/
import AriadneModel.Proofs.ResultLeaf
import AriadneModel.Model.Triggers01
import AriadneModel.Model.Marks
import AriadneModel.Spec.Validate
import AriadneModel.Proofs.C01Plain
import AriadneModel.Model.Claim01
import AriadneModel.Proofs.C01BridgePlain
import AriadneModel.Proofs.C01Abs
import AriadneModel.Proofs.C01BridgeAbs
import AriadneModel.Proofs.C01AbsPartition
import AriadneModel.Proofs.C01BridgeMix
import AriadneModel.Proofs.C01BridgeMA
import AriadneModel.Proofs.C01BridgeUnp


namespace Ariadne.C01
open Ariadne Ariadne.Gql Ariadne.ResultTypes Ariadne.ResultLeaf Ariadne.Pyd

/-- The generator emits, for a field of leaf-based type `T` (scalar or enum under any nesting of
    list / non-null wrappers), an annotation that accepts every value a conformant executor can
    return at that position and dumps it back unchanged — for all types, values, list lengths. -/
theorem ann_accepts_conformant (genv : ResultTypes.Env) (penv : Pyd.Env) (ha : EnvAgrees genv penv)
    (T : TypeRef) (hl : LeafName genv T.base) (fuel : Nat) (sel : List Selection) (cn : String) (add : Bool) (ctx : Ctx)
    (j : J) (vfuel : Nat) (hf : need T ≤ vfuel) (hc : Exec.conforms genv.schema true T j = true) :
    ∃ a ctx', parseType genv fuel sel T true cn add ctx = .ok (a, ctx') ∧
      ∃ v, validate penv vfuel a j = .ok v ∧ dump v = j := by
  obtain ⟨ctx', h⟩ := parseType_leaf genv fuel sel T hl true cn add ctx
  exact ⟨_, ctx', h, validate_leaf_dump genv penv ha T hl true j vfuel hf hc⟩

/-- non-vacuity: a concrete schema, type and value meeting the hypotheses -/
def exSchema : Schema := { types := [{ name := "Color", kind := .enum, values := ["RED", "GREEN"] }], query := some "Query" }
def exGenv : ResultTypes.Env := { schema := exSchema, frags := [] }
example : Exec.conforms exSchema true (.list (.nonNull (.named "Color"))) (.arr [.str "RED", .str "GREEN"]) = true := by
  decide
example : LeafName exGenv "Color" := by
  refine ⟨Or.inr (Or.inr ?_), ?_⟩ <;> decide


/-! ### The property at full strength, on the whole model pipeline

`generate` (Model/ResultTypes) → classes; `Marks.applyOp` → the document as sent; `Exec.respOK` →
what a conformant server may answer for it; `Pyd.validate`/`dump` → what the generated models do
with the answer. -/

open Ariadne.Triggers01

/-! `pydEnvOf`, `execFuel`, `claimB`, `ValidInput` are defined in Model/Claim01.lean (same namespace):
    `claimB inp k j` = generation of operation `k` succeeded and, IF `j` is an answer a conformant server can give
    for the document as SENT (`Exec.respOK` on `Marks.applyOp`), THEN the root model accepts it and dumps it back
    (`J.eqv`, i.e. up to member order).  `ValidInput inp` = `Validate.validDoc … = true`.

    A response is a decoded JSON object (a Python `dict`): its objects have no repeated keys, hereditarily
    (`C01Plain.nodupKeys`).  This is part of what "a response" means and therefore a hypothesis of every statement
    below; `old_literal_statement_false` records why it cannot be dropped in this model. -/

open Ariadne.C01Plain (nodupKeys)

/-- C01 at full strength (acceptance + serialising back; the attribute-exposure and
    class-per-runtime-type clauses are consequences checked by the oracle). -/
def C01_full : Prop := ∀ (inp : Input) (k : Nat) (j : J), ValidInput inp → nodupKeys j = true → claimB inp k j = true

/-- C01 outside the finding regions (`Supported_01` = no trigger predicate of Model/Triggers01.lean holds). -/
def C01_partial_statement : Prop :=
  ∀ (inp : Input) (k : Nat) (j : J), ValidInput inp → Supported_01 inp → nodupKeys j = true → claimB inp k j = true

/-! Witness of finding C01-F2: `query Q { me { id } me { friends { id } } }` -/

def wSchema : Schema :=
  { types := [
      { name := "Query", kind := .object, fields := [{ name := "me", type := .named "User" }] },
      { name := "User", kind := .object,
        fields := [{ name := "id", type := .nonNull (.named "ID") },
                   { name := "friends", type := .nonNull (.list (.nonNull (.named "User"))) }] }],
    query := some "Query" }

def wOp : Operation :=
  { kind := .query, name := some "Q", sid := 1,
    sel := [ .field none "me" [] 2 [.field none "id" [] 0 []],
             .field none "me" [] 3 [.field none "friends" [] 4 [.field none "id" [] 0 []]] ] }

def wInp : Input := { env := { schema := wSchema, frags := [] }, ops := [wOp] }

def wResp : J :=
  .obj [("me", .obj [("id", .str "1"), ("friends", .arr [.obj [("id", .str "2")]])])]

def dupInp : Input :=
  { env := { schema := wSchema, frags := [] },
    ops := [{ kind := .query, name := some "Q", sid := 1, sel := [.field none "me" [] 2 [.field none "id" [] 0 []]] }] }
def dupResp : J := .obj [("me", .obj [("id", .str "1"), ("id", .str "2")])]

def w2Schema : Schema :=
  { types := [
      { name := "Query", kind := .object,
        fields := [{ name := "me", type := .named "User" }, { name := "node", type := .named "Node" }] },
      { name := "Node", kind := .interface, fields := [{ name := "id", type := .nonNull (.named "ID") }] },
      { name := "Named", kind := .interface, fields := [{ name := "name", type := .named "String" }] },
      { name := "User", kind := .object, interfaces := ["Node", "Named"],
        fields := [{ name := "id", type := .nonNull (.named "ID") }, { name := "name", type := .named "String" },
                   { name := "friends", type := .nonNull (.list (.nonNull (.named "User"))) },
                   { name := "pet", type := .named "Node" }] },
      { name := "Post", kind := .object, interfaces := ["Node"],
        fields := [{ name := "id", type := .nonNull (.named "ID") }, { name := "title", type := .nonNull (.named "String") }] }],
    query := some "Query" }

def fld (name : String) (sid : Nat := 0) (sub : List Selection := []) : Selection := .field none name [] sid sub
def inc : Directive := { name := "include", args := [("if", none)] }
def mkQ (sel : List Selection) : Operation := { kind := .query, name := some "Q", sid := 1, sel := sel }
def mkInp (frags : List Fragment) (sel : List Selection) : Input :=
  { env := { schema := w2Schema, frags := frags }, ops := [mkQ sel] }
def mkF (name on : String) (sid : Nat) (sel : List Selection) : Fragment := { name := name, on := on, sid := sid, sel := sel }

/-- F3: `query Q($f: Boolean!) { me { id ... on User @include(if: $f) { friends { id } } } }`, answered with `$f = false` -/
def w3 : Input := mkInp []
  ([fld "me" 2 [fld "id", .inline (some "User") [inc] 3 [fld "friends" 4 [fld "id"]]]])
def w3Resp : J := .obj [("me", .obj [("id", .str "1")])]
/-- F4: `query Q { me { ...UF } }  fragment UF on User { id pet { id } }` — the fragment is inherited, its text is sent
    without `__typename`, its class demands it -/
def w4 : Input := mkInp [mkF "UF" "User" 5 [fld "id", fld "pet" 6 [fld "id"]]]
  ([fld "me" 2 [.spread "UF" []]])
def w4Resp : J := .obj [("me", .obj [("id", .str "1"), ("pet", .obj [("id", .str "2")])])]
/-- F5: `query Q { node { ... on Named { name } } }` — the inline fragment on the other interface is ignored -/
def w5 : Input := mkInp []
  ([fld "node" 2 [.inline (some "Named") [] 3 [fld "name"]]])
def w5Resp : J := .obj [("node", .obj [("__typename", .str "User"), ("name", .str "n")])]
/-- F7: `query Q { me { ... { id } } }` — AttributeError in the generator -/
def w7 : Input := mkInp []
  ([fld "me" 2 [.inline none [] 3 [fld "id"]]])
/-- F9 (= C08-F1): `query Q { node { ...NF ... on User { name } } }  fragment NF on Node { id }` — `NF` is a base of the
    interface class and unpacked into the `User` class, hence excluded from the fragments module -/
def w9 : Input := mkInp [mkF "NF" "Node" 5 [fld "id"]]
  ([fld "node" 2 [.spread "NF" [], .inline (some "User") [] 3 [fld "name"]]])
def w9Resp : J := .obj [("node", .obj [("__typename", .str "Post"), ("id", .str "7")])]
/-- F12 (found by the proof of `C01_partial_mixabs`, whose region demands that a spread inside an inline fragment is on the very
    type of that inline fragment): `query Q { me { ... on Node { ...UF } } }  fragment UF on User { name }` — below the inline
    fragment the generator resolves with root `Node`, where the fragment on the object type `User` is dropped -/
def w12 : Input := mkInp [mkF "UF" "User" 5 [fld "name"]]
  ([fld "me" 2 [.inline (some "Node") [] 3 [.spread "UF" []]]])
def w12Resp : J := .obj [("me", .obj [("name", .str "n")])]
def wOk : Input := mkInp []
  ([fld "node" 2 [fld "id", .inline (some "User") [] 3 [fld "name", fld "friends" 4 [fld "id"]],
                                  .inline (some "Post") [] 5 [fld "title"]]])
def wOkResp : J := .obj [("node", .obj [("__typename", .str "User"), ("id", .str "1"), ("name", .null),
  ("friends", .arr [.obj [("id", .str "2")], .obj [("id", .str "3")]])])]

/-- What the kernel evaluates on the concrete inputs of this file, in one declaration: every evaluation that converts a name decodes
    the keyword tables of `Model/Names.lean`, and the kernel shares work only inside one declaration.  The lemmas named after the
    inputs are its components. -/
theorem evaluated :
    (ValidInput wInp ∧
      trigDupCompositeKey wInp = true ∧
      Exec.respOK wSchema [] execFuel "Query" wOp.sel wResp = true ∧
      claimB wInp 0 wResp = false ∧
      nodupKeys wResp = true) ∧
    (ValidInput dupInp ∧ Supported_01 dupInp ∧ claimB dupInp 0 dupResp = false) ∧
    (trigDirOnFragment w3 = true ∧
      (ValidInput w3 ∧ nodupKeys w3Resp = true ∧ claimB w3 0 w3Resp = false)) ∧
    (trigMixinAbstractField w4 (run w4) = true ∧ ValidInput w4 ∧ nodupKeys w4Resp = true ∧ claimB w4 0 w4Resp = false) ∧
    (trigDroppedSelection w5.env.schema (run w5) = true ∧ ValidInput w5 ∧ nodupKeys w5Resp = true ∧ claimB w5 0 w5Resp = false) ∧
    (trigInlineNoType w7 = true ∧
      (ValidInput w7 ∧ claimB w7 0 (.obj [("me", .null)]) = false)) ∧
    (trigMixinAndUnpacked (run w9) = true ∧ ValidInput w9 ∧ nodupKeys w9Resp = true ∧ claimB w9 0 w9Resp = false) ∧
    (trigObjectInAbstract w12 (run w12) = true ∧
      (ValidInput w12 ∧ nodupKeys w12Resp = true ∧ claimB w12 0 w12Resp = false)) ∧
    (ValidInput wOk ∧ Supported_01 wOk ∧ claimB wOk 0 wOkResp = true
      ∧ Exec.respOK w2Schema [] execFuel "Query" (Marks.applySels (marksAfter (run wOk).ops) ((wOk.ops.map (·.sel)).flatten)) wOkResp = true) := by
  decide +kernel

theorem wInp_run :
    ValidInput wInp ∧
    trigDupCompositeKey wInp = true ∧
    Exec.respOK wSchema [] execFuel "Query" wOp.sel wResp = true ∧
    claimB wInp 0 wResp = false ∧
    nodupKeys wResp = true := evaluated.1

theorem witness_valid : ValidInput wInp := wInp_run.1
theorem witness_in_region : trigDupCompositeKey wInp = true := wInp_run.2.1
theorem witness_conformant :
    Exec.respOK wSchema [] execFuel "Query" wOp.sel wResp = true := wInp_run.2.2.1
theorem witness_fails : claimB wInp 0 wResp = false := wInp_run.2.2.2.1
theorem witness_nodup : nodupKeys wResp = true := wInp_run.2.2.2.2

/-- The property is false on the pinned tree (finding C01-F2; replayed on the real code by
    corpus/C01/F2-duplicate-composite-key.json on every run). -/
theorem C01_full_false : ¬ C01_full := by
  intro h
  have := h wInp 0 wResp witness_valid witness_nodup
  rw [witness_fails] at this
  exact absurd this (by decide)


theorem dupInp_run : ValidInput dupInp ∧ Supported_01 dupInp ∧ claimB dupInp 0 dupResp = false := evaluated.2.1

/-- MODELLING ARTEFACT, not a defect of the code: the statement WITHOUT `nodupKeys j` is false
    already on `query Q { me { id } }`, because `J` association lists may repeat a key — `Exec.respOK` judges the first
    binding, the dump has one member, `J.eqv` compares lengths.  A decoded response (a `dict`) cannot look like that. -/
theorem old_literal_statement_false :
    ¬ (∀ (inp : Input) (k : Nat) (j : J), ValidInput inp → Supported_01 inp → claimB inp k j = true) := by
  intro h
  have := h dupInp 0 dupResp dupInp_run.1 dupInp_run.2.1
  rw [dupInp_run.2.2] at this
  exact absurd this (by decide)


/-! Model-level witnesses of the other recorded findings (each is replayed on the REAL code from
    corpus/C01/ on every run; here: the model reproduces the defect and the input lies in the trigger region). -/

theorem F3_run :
    trigDirOnFragment w3 = true ∧
    (ValidInput w3 ∧ nodupKeys w3Resp = true ∧ claimB w3 0 w3Resp = false) := evaluated.2.2.1

theorem F3_in_region : trigDirOnFragment w3 = true := F3_run.1
theorem F3_fails_in_model : ValidInput w3 ∧ nodupKeys w3Resp = true ∧ claimB w3 0 w3Resp = false := F3_run.2

theorem F4_run : trigMixinAbstractField w4 (run w4) = true ∧ ValidInput w4 ∧ nodupKeys w4Resp = true ∧ claimB w4 0 w4Resp = false := evaluated.2.2.2.1
theorem F4_in_region : trigMixinAbstractField w4 (run w4) = true := F4_run.1
theorem F4_fails_in_model : ValidInput w4 ∧ nodupKeys w4Resp = true ∧ claimB w4 0 w4Resp = false := F4_run.2

theorem F5_run : trigDroppedSelection w5.env.schema (run w5) = true ∧ ValidInput w5 ∧ nodupKeys w5Resp = true ∧ claimB w5 0 w5Resp = false := evaluated.2.2.2.2.1
theorem F5_in_region : trigDroppedSelection w5.env.schema (run w5) = true := F5_run.1
theorem F5_fails_in_model : ValidInput w5 ∧ nodupKeys w5Resp = true ∧ claimB w5 0 w5Resp = false := F5_run.2

theorem F7_run :
    trigInlineNoType w7 = true ∧
    (ValidInput w7 ∧ claimB w7 0 (.obj [("me", .null)]) = false) := evaluated.2.2.2.2.2.1

theorem F7_in_region : trigInlineNoType w7 = true := F7_run.1
theorem F7_fails_in_model : ValidInput w7 ∧ claimB w7 0 (.obj [("me", .null)]) = false := F7_run.2

theorem F9_run : trigMixinAndUnpacked (run w9) = true ∧ ValidInput w9 ∧ nodupKeys w9Resp = true ∧ claimB w9 0 w9Resp = false := evaluated.2.2.2.2.2.2.1
theorem F9_in_region : trigMixinAndUnpacked (run w9) = true := F9_run.1
theorem F9_fails_in_model : ValidInput w9 ∧ nodupKeys w9Resp = true ∧ claimB w9 0 w9Resp = false := F9_run.2

theorem F12_run :
    trigObjectInAbstract w12 (run w12) = true ∧
    (ValidInput w12 ∧ nodupKeys w12Resp = true ∧ claimB w12 0 w12Resp = false) := evaluated.2.2.2.2.2.2.2.1

theorem F12_in_region : trigObjectInAbstract w12 (run w12) = true := F12_run.1
theorem F12_fails_in_model : ValidInput w12 ∧ nodupKeys w12Resp = true ∧ claimB w12 0 w12Resp = false := F12_run.2

/-! Non-vacuity of the partial statement: a supported input on which the claim holds for a non-trivial answer
    (interface position, inline fragments on two members, nullable list of non-null objects). -/
example : ValidInput wOk ∧ Supported_01 wOk ∧ claimB wOk 0 wOkResp = true
    ∧ Exec.respOK w2Schema [] execFuel "Query" (Marks.applySels (marksAfter (run wOk).ops) ((wOk.ops.map (·.sel)).flatten)) wOkResp = true := evaluated.2.2.2.2.2.2.2.2


/-! ### The plain-selection tier, proved (Proofs/C01Plain*.lean)

For every selection set made of fields only (aliases, `@skip/@include`, any nesting depth, every wrapper
nesting, leaf- or object-typed fields), evaluated on an object type, under the decidable well-formedness
predicate `PlainOK` (distinct response keys / Python names / class names, fields exist, no `@mixin`):
the generator model succeeds for all sufficiently large fuel, and EVERY answer a conformant executor can
give (`Exec.respOK`, objects without repeated keys) is accepted by the root class and dumped back
(order-insensitively).  No bound on depth, width, list lengths. -/

open Ariadne.C01Plain in
theorem object_selection_roundtrip (env : ResultTypes.Env) (cn tn : String) (sid : Nat) (sel : List Selection) (st : St)
    (h : PlainOK env cn tn sid sel st = true) :
    ∃ classes : List ClassDecl,
      (∀ fuel, gfuel sel ≤ fuel →
        ∃ st', parseTypeDefinition env fuel cn tn sid sel false [] [] st = .ok (classes, st')) ∧
      classes.head?.map (·.name) = some cn ∧
      (∀ (penv : Pyd.Env), PenvOK env penv classes →
        ∀ (efuel : Nat) (j : J), Exec.respOK env.schema [] efuel tn sel j = true → nodupKeys j = true →
        ∀ vfuel, vneed env tn sel + 1 ≤ vfuel →
          ∃ v, Pyd.validate penv vfuel (.cls cn) j = .ok v ∧ J.eqv (Pyd.dump v) j = true) :=
  C01_plain env cn tn sid sel st h


/-! ### The abstract-positions tier, proved (Proofs/C01Abs*.lean)

Extends the plain tier by fields of INTERFACE and UNION type (any wrappers), typed inline fragments (content = fields) in
every selection set, and `__typename` — nested to any depth, ONE induction over selections and variants.
At every composite position the generator emits one class per VARIANT (`C01Abs.relatedOf`: the object type; the interface
plus one class per inline-fragment type condition; every union member); an abstract position gets the automatic `__typename`
unless it selects one (`C01Abs.needSids` = exactly the selection sets the generator marks); every answer `Exec.respOK` allows
for the document AS SENT (`Marks.applySels` with those marks) is validated by the first variant whose `typename__` literal
contains the runtime type, and dumped back.  Hypothesis: the decidable `C01Abs.AbsOK` (what it demands and why: header of
Proofs/C01Abs.lean).  Non-vacuity: `C01Abs.axSel` (interface with two fragments, list of union, plain-in-abstract-in-plain). -/

open Ariadne.C01Abs in
theorem abstract_position_roundtrip (env : ResultTypes.Env) (K F : Nat) (hfr : C01Mix.FragsOK env K) (cn tn : String) (sid : Nat)
    (sel : List Selection) (st : St)
    (h : AbsOK env cn tn sid sel st = true) :
    ∃ classes : List ClassDecl,
      (∀ fuel, agfuel sel ≤ fuel →
        ∃ st', parseTypeDefinition env fuel cn tn sid sel false [] [] st = .ok (classes, st') ∧
          ∀ m, m ∈ st'.marks ↔ m ∈ sentMarks env cn tn sel st) ∧
      classes.head?.map (·.name) = some cn ∧
      (∀ (penv : Pyd.Env), GH env penv K F → (∀ c ∈ classes, penv.class? c.name = some c) →
        ∀ (efuel : Nat), agfuel sel + K ≤ efuel →
        ∀ (j : J), Exec.respOK env.schema env.frags efuel tn (Marks.applySels (sentMarks env cn tn sel st) sel) j = true →
        nodupKeys j = true →
        ∀ vfuel, avneed env cn tn sel + 4 + F ≤ vfuel →
          ∃ v, Pyd.validate penv vfuel (.cls cn) j = .ok v ∧ J.eqv (Pyd.dump v) j = true) :=
  C01_abs env K F hfr cn tn sid sel st h

/-- the same without fragment definitions:
    `PenvOK` = the environment agrees with the schema on enums, knows the classes, has no class `BaseModel` -/
theorem abstract_position_roundtrip_nofrags (env : ResultTypes.Env) (hfr0 : env.frags = []) (cn tn : String) (sid : Nat)
    (sel : List Selection) (st : St) (h : C01Abs.AbsOK env cn tn sid sel st = true) :
    ∃ classes : List ClassDecl,
      (∀ fuel, C01Abs.agfuel sel ≤ fuel →
        ∃ st', parseTypeDefinition env fuel cn tn sid sel false [] [] st = .ok (classes, st') ∧
          ∀ m, m ∈ st'.marks ↔ m ∈ C01Abs.sentMarks env cn tn sel st) ∧
      classes.head?.map (·.name) = some cn ∧
      (∀ (penv : Pyd.Env), C01Plain.PenvOK env penv classes →
        ∀ (efuel : Nat), C01Abs.agfuel sel ≤ efuel →
        ∀ (j : J), Exec.respOK env.schema [] efuel tn (Marks.applySels (C01Abs.sentMarks env cn tn sel st) sel) j = true →
        nodupKeys j = true →
        ∀ vfuel, C01Abs.avneed env cn tn sel + 4 ≤ vfuel →
          ∃ v, Pyd.validate penv vfuel (.cls cn) j = .ok v ∧ J.eqv (Pyd.dump v) j = true) := by
  have hfr : C01Mix.FragsOK env 0 := by intro f hf; rw [hfr0] at hf; cases hf
  obtain ⟨classes, h1, h2, h3⟩ := C01Abs.C01_abs env 0 0 hfr cn tn sid sel st h
  refine ⟨classes, h1, h2, fun penv hp efuel hef j hresp hj vfuel hv => ?_⟩
  have hne : penv.classes ≠ [] := by
    intro hc
    cases hcl : classes with
    | nil => rw [hcl] at h2; simp at h2
    | cons c cs =>
      have := hp.has c (by rw [hcl]; exact List.mem_cons_self)
      simp [Pyd.Env.class?, hc] at this
  exact h3 penv (C01Abs.GH.of_nofrags env penv hfr0 hp.agrees hp.noBaseModel hne) hp.has efuel (by omega) j
    (by rw [hfr0]; exact hresp) hj vfuel (by omega)

/-- DESIGN.md §3's clause `abstract_position_discriminates`, part "the literals partition the possible types" — interface position `n` (classes
    prefixed `C`) whose sub-selection has inline fragments on OBJECT types: a possible type `rt` is in the `typename__` literal
    of the fragment class on `rt` and of no other fragment class, and it is in the literal of the base class ("the rest") iff no
    inline fragment names it.  (That the answer of runtime type `rt` is validated by the first variant whose literal contains
    `rt` is part of `abstract_position_roundtrip`: Proofs/C01Accepts.lean `tagged_accepts`.) -/
theorem interface_position_partition (env : ResultTypes.Env) (C n : String) (sub : List Selection)
    (hk : env.schema.kindOf? n = some .interface) (hne : (C01Abs.inlConds sub).isEmpty = false)
    (hobj : ∀ c ∈ C01Abs.inlConds sub, env.schema.kindOf? c = some .object)
    (rt : String) (hrt : rt ∈ env.schema.possibleTypes n) (hrn : rt ≠ n) :
    (rt ∈ C01Abs.tvOf env (C01Abs.relatedOf env C n sub) n ↔ rt ∉ C01Abs.inlConds sub) ∧
    (∀ c ∈ Util.sortedSet (C01Abs.inlConds sub), (rt ∈ C01Abs.tvOf env (C01Abs.relatedOf env C n sub) c ↔ rt = c)) :=
  C01Abs.interface_literals_partition env C n sub hk hne hobj rt hrt hrn

/-- … and at a union position: one variant per member `m`, with literal `["m"]` -/
theorem union_position_partition (env : ResultTypes.Env) (C n : String) (sub : List Selection) (t : TypeDef)
    (hg : env.schema.get? n = some t) (hk : t.kind = .union) (hobj : ∀ m ∈ t.members, env.schema.isAbstract m = false) :
    C01Abs.relatedOf env C n sub = t.members.map (fun m => (C ++ m, m)) ∧
    ∀ m ∈ t.members, C01Abs.tvOf env (C01Abs.relatedOf env C n sub) m = [m] :=
  C01Abs.union_literals env C n sub t hg hk hobj

/-- non-vacuity of both: the interface position `node { id ... on User {..} ... on Post {..} }` and the union position `search`
    of `C01Abs.axSel` -/
example : C01Abs.axEnv.schema.kindOf? "Node" = some .interface
    ∧ C01Abs.inlConds [.inline (some "User") [] 3 [], .inline (some "Post") [] 5 []] = ["User", "Post"]
    ∧ C01Abs.axEnv.schema.possibleTypes "Node" = ["User", "Post"]
    ∧ (C01Abs.axEnv.schema.get? "SearchResult").map (·.members) = some ["User", "Post"] := by decide +kernel

/-! ### The plain tier on the whole pipeline, proved (Proofs/C01Bridge.lean, C01BridgePlain.lean)

`PlainInput inp` (decidable, Proofs/C01Regions.lean): no fragment definitions; `schemaOK` (type names pairwise
distinct, no enum called `str`/`int`/`float`/`bool`/`Any`, built-in scalar names not redefined); every operation has a
name and a root type, no `@mixin`, satisfies `PlainOK` for its root class in the empty generator state, generates no
class called like a name its module imports (`NoShadowedImport`: `BaseModel`, `Field`, …, the enums), and meets the two fuel bounds `gfuel sel ≤ 100000` (generator) and `vneed … + 1 ≤ execFuel`
(validation).  `ValidInput` is kept as a hypothesis for uniformity; `PlainInput` alone implies what the proof uses.
In this region the generator inserts no automatic `__typename` (the marks stay empty for every operation), the document is
sent as written, and `claimB` holds for EVERY operation index and EVERY duplicate-free payload. -/

theorem C01_partial_plain : ∀ (inp : Input) (k : Nat) (j : J),
    ValidInput inp → PlainInput inp → nodupKeys j = true → claimB inp k j = true :=
  fun inp k j _ hp hj => claimB_plain inp k j hp hj

/-- non-vacuity (`plInp`, Proofs/C01BridgePlain.lean): two operations over the schema of Proofs/C01Plain.lean; the answer of
    the first has a nested list with a `null` element, aliases, an enum leaf and an absent conditional field -/
example : ValidInput plInp ∧ PlainInput plInp ∧ nodupKeys C01Plain.exResp = true
    ∧ Exec.respOK plInp.env.schema [] execFuel "Query" C01Plain.exSel C01Plain.exResp = true
    ∧ claimB plInp 0 C01Plain.exResp = true := plInp_nonvacuous

/-! ### The abstract-positions tier on the whole pipeline, proved (Proofs/C01BridgeAbs.lean, C01BridgeMA.lean)

`AbsInput inp` (decidable): no fragment definitions; `schemaOK`; `NoCondTypename` (no `__typename @skip/@include` — the trigger of
finding C01-F10; implied for operations by `AbsOK`, named separately);
the operations IN ORDER with the marks threaded as the package generator does (`absOpsOK`): each has a name and a root type, no
`@mixin`, satisfies `C01Abs.AbsOK` in the generator state left by its predecessors, `NoShadowedImport`, and the fuel bounds
(`agfuel ≤ 100000` generator, `agfuel ≤ execFuel` executor, `avneed + 4 ≤ execFuel` validation).  The answer is judged against the
document AS SENT after operations `0..k` (the accumulated `__typename` marks).  `PlainInput ⊆ AbsInput` in spirit (the plain tier
is the marks-free special case). -/

theorem C01_partial_abstract : ∀ (inp : Input) (k : Nat) (j : J),
    ValidInput inp → AbsInput inp → nodupKeys j = true → claimB inp k j = true :=
  fun inp k j _ hp hj => claimB_abs inp k j hp hj

/-- non-vacuity (`abInp`, Proofs/C01BridgeAbs.lean): two operations, both with abstract positions (interface with inline
    fragments, list of union, interface below an object below an interface); the marks accumulate over the operations; the answer
    of the first is conformant for the document as sent -/
example : ValidInput abInp ∧ AbsInput abInp ∧ nodupKeys C01Abs.axResp = true
    ∧ marksAfter ((run abInp).ops.take 1) = [2, 7] ∧ marksAfter ((run abInp).ops.take 2) = [2, 7, 21, 24]
    ∧ Exec.respOK abInp.env.schema [] execFuel "Query" (Marks.applySels [2, 7] C01Abs.axSel) C01Abs.axResp = true
    ∧ claimB abInp 0 C01Abs.axResp = true := abInp_nonvacuous

/-! ### Named fragments used as mixins, proved (Proofs/C01Mix*.lean, C01BridgeMix.lean)

The plain tier extended by spreads `...F` of a fragment defined on exactly the (object) type of the selection set and free of
inline fragments: the generator does not unpack such a fragment, the class of the selection set INHERITS from the class
generated for `F` in the fragments module and declares only its own fields; fragments spread fragments, and their composite
fields spread fragments again, to any depth.  `mixin_fragments_roundtrip` (class level): generation returns `C01Mix.mClass`
(bases = the spread fragments, sorted), nothing is unpacked, no mark is added; every answer a conformant executor gives — it
resolves the spreads with the fragment definitions — is accepted by the class, whose fields pydantic gathers along the
inheritance chain, and dumped back.  `C01_partial_mixin`: the same on `claimB` (all operations, the fragments module =
classes of ALL fragment definitions, `pydEnvOf`).  Regions: `C01Mix.MixOK` / `C01Mix.FragsOK`, `MixInput` (decidable; what they
demand and why: headers of Proofs/C01Mix.lean, C01BridgeMix.lean; notably per class the response keys / Python names of ALL
field nodes, own and inherited, are pairwise distinct). -/

open Ariadne.C01Mix in
theorem mixin_fragments_roundtrip (env : ResultTypes.Env) (K : Nat) (hfr : FragsOK env K) (cn tn : String) (sid : Nat)
    (sel : List Selection) (st : St) (h : MixOK env K cn tn sel = true) (hmarks : st.marks = [])
    (hnd : ((mClass env cn tn sel).map (·.name)).Nodup)
    (hfresh : ∀ n ∈ (mClass env cn tn sel).map (·.name), n ∉ st.publicNames) :
    (∀ fuel, C01Plain.gfuel sel ≤ fuel →
      ∃ st', parseTypeDefinition env fuel cn tn sid sel false [] [] st = .ok (mClass env cn tn sel, st') ∧
        st'.marks = [] ∧ st'.unpacked = st.unpacked) ∧
    (∀ (penv : Pyd.Env), ResultLeaf.EnvAgrees env penv → penv.class? "BaseModel" = none →
      (∀ c ∈ mClass env cn tn sel, penv.class? c.name = some c) → FragsIn env penv → fragDepth env ≤ penv.clsFuel →
      ∀ (efuel : Nat), K ≤ efuel →
      ∀ (j : J), Exec.respOK env.schema env.frags efuel tn sel j = true → nodupKeys j = true →
      ∀ vfuel, mneed env K tn sel + 1 ≤ vfuel →
        ∃ v, Pyd.validate penv vfuel (.cls cn) j = .ok v ∧ J.eqv (Pyd.dump v) j = true) := by
  refine ⟨fun fuel hf => ?_, fun penv ha hbm hcls hF hK efuel hef j hresp hj vfuel hv =>
    mix_roundtrip env K hfr cn tn sel h penv ha hbm hcls hF hK efuel hef j hresp hj vfuel hv⟩
  obtain ⟨st', h1, _, h3, h4⟩ := mix_generation env K hfr cn tn sid sel st h (by rw [hmarks]; rfl)
    (by rw [hmarks]; exact sidFree_nil _) hnd hfresh fuel hf
  exact ⟨st', h1, by rw [h3, hmarks], h4⟩

theorem C01_partial_mixin : ∀ (inp : Input) (k : Nat) (j : J),
    ValidInput inp → MixInput inp → nodupKeys j = true → claimB inp k j = true :=
  fun inp k j _ hp hj => claimB_mix inp k j hp hj

/-- non-vacuity (`mxInp`, Proofs/C01BridgeMix.lean): `fragment UG on User { ...UF friends { ...UF } }`, `fragment UF on User
    { id name }`, `query Q { me { ...UG } }`, `query R { again: me { ...UF } }` -/
example : ValidInput mxInp ∧ MixInput mxInp ∧ nodupKeys mxResp = true
    ∧ (fragModule mxInp.env).map (fun c => (c.name, c.bases)) = [("UF", ["BaseModel"]), ("UG", ["UF"]), ("UGFriends", ["UF"])]
    ∧ Exec.respOK mxSchema mxInp.env.frags execFuel "Query" [.field none "me" [] 2 [.spread "UG" []]] mxResp = true
    ∧ claimB mxInp 0 mxResp = true := mxInp_nonvacuous


/-! ### Mixins COMBINED with abstract positions, proved (Proofs/C01Abs*.lean, Proofs/C01BridgeMA.lean)

The abstract-positions tier and the mixin tier compose: the region of the abstract tier (`C01Abs.aSel1`) also admits a spread
`...G` of a named fragment `G` wherever the class it lands in is on exactly the OBJECT type `G` is defined on — directly in an
object-typed selection set (`me { ...UF pet { id } }`, `author { ...UG }` below an inline fragment), or inside an inline fragment
on that object type at an interface / union position (`node { id ... on User { ...UF } }`) — while the fragment definitions are
those of the mixin tier (`C01Mix.fragOK`: plain content, further mixin spreads, any depth).  The class then INHERITS from the
fragment's class and declares its own fields, among them `typename__: Literal[..]` and the discriminated unions of its abstract
fields.  The class-level theorem is `abstract_position_roundtrip` above (one induction over selections, variants and — through
`C01Mix.val_spec` — fragment classes); on the pipeline: the operations in order with the marks threaded, the fragments module
= classes of ALL fragment definitions generated with the accumulated marks (which never touch a fragment: `C01Mix.sidFree`),
nothing unpacked, the fragments sent as written.  Region `MixAbsInput` (decidable; header of Proofs/C01BridgeMA.lean).
`AbsInput` is the case without fragment definitions (there with `K = 0` for `maK` in the executor fuel bound); `MixInput` documents whose operations satisfy `AbsOK` are covered too. -/

theorem C01_partial_mixabs : ∀ (inp : Input) (k : Nat) (j : J),
    ValidInput inp → MixAbsInput inp → nodupKeys j = true → claimB inp k j = true :=
  fun inp k j _ hp hj => claimB_mixabs inp k j hp hj

/-- non-vacuity (`maInp`, Proofs/C01BridgeMA.lean):
    `query Q { node { id ... on User { ...UF } ... on Post { title author { ...UG } } } me { ...UF pet { __typename id } } }`,
    `query R { again: node { ... on Post { author { ...UG pet { id } } } } }`,
    `fragment UF on User { name friends { ...UG } }`, `fragment UG on User { id }` — outside every finding region -/
example : ValidInput maInp ∧ MixAbsInput maInp ∧ Supported_01 maInp ∧ nodupKeys maResp = true
    ∧ marksAfter ((run maInp).ops.take 2) = [2, 21, 24]
    ∧ Exec.respOK maSchema maInp.env.frags execFuel "Query" (Marks.applySels [2] maSel) maResp = true
    ∧ claimB maInp 0 maResp = true :=
  ⟨maInp_nonvacuous.1, maInp_nonvacuous.2.1, maInp_nonvacuous.2.2.1, maInp_nonvacuous.2.2.2.1,
   maInp_nonvacuous.2.2.2.2.2.2.2.1, maInp_nonvacuous.2.2.2.2.2.2.2.2.1, maInp_nonvacuous.2.2.2.2.2.2.2.2.2⟩



/-- non-vacuity with response keys reached SEVERAL times (`maDupInp`): `query Q { node { id ... on User { id ...UF } } me { ...UF name } }`,
    `fragment UF on User { id name }` — the class `QNodeUser(UF)` declares `id` twice and inherits it a third time -/
example : ValidInput maDupInp ∧ MixAbsInput maDupInp ∧ Supported_01 maDupInp ∧ nodupKeys maDupResp = true
    ∧ claimB maDupInp 0 maDupResp = true :=
  ⟨maDupInp_nonvacuous.1, maDupInp_nonvacuous.2.1, maDupInp_nonvacuous.2.2.1, maDupInp_nonvacuous.2.2.2.1,
   maDupInp_nonvacuous.2.2.2.2.2.2⟩

/-! ### Named fragments that the generator UNPACKS, proved (Proofs/C01Unp*.lean, C01BridgeUnp.lean)

The plain tier extended by spreads `...F` of a fragment defined on an INTERFACE, in a selection set evaluated on an OBJECT type that
implements the interface: `_unpack_fragment` answers "unpack", `_resolve_selection_set` resolves `F`'s selections with the SAME
root, and the fields of `F` — and of the fragments `F` spreads, to any depth — are merged into the class of the selection set.
`unpacked_fragments_roundtrip` (class level): generation returns the plain tier's classes of the INLINED document (`C01Unp.inl`),
adds no mark, records every fragment met in `_unpacked_fragments`; every answer a conformant executor gives for the document WITH
the spreads is an answer for the inlined document (`C01Unp.respOK_inl`: CollectFields applies the interface fragment to the
implementing object), hence accepted and dumped back by the plain tier's theorem.  `C01_partial_unpacked`: the same on `claimB`
(every fragment definition is unpacked by some operation, so `package.py` leaves its classes out of the fragments module; the
document is sent as written).  Regions: `C01Unp.UnpOK`, `UnpInput` (decidable; headers of Proofs/C01Unp.lean, C01RegionsUnp.lean). -/

open Ariadne.C01Unp in
theorem unpacked_fragments_roundtrip (env : ResultTypes.Env) (k : Nat) (cn tn : String) (sid : Nat) (sel : List Selection) (st : St)
    (h : UnpOK env k cn tn sid sel st = true) :
    (∀ fuel, 2 * k + 2 ≤ fuel →
      ∃ st', parseTypeDefinition env fuel cn tn sid sel false [] [] st = .ok (C01Plain.plainClasses env cn tn (inl env k sel), st') ∧
        st'.marks = st.marks ∧ (∀ n ∈ reach env k sel, n ∈ st'.unpacked)) ∧
    (∀ (penv : Pyd.Env), C01Plain.PenvOK env penv (C01Plain.plainClasses env cn tn (inl env k sel)) →
      ∀ (efuel : Nat), k ≤ efuel →
      ∀ (j : J), Exec.respOK env.schema env.frags efuel tn sel j = true → nodupKeys j = true →
      ∀ vfuel, C01Plain.vneed env tn (inl env k sel) + 1 ≤ vfuel →
        ∃ v, Pyd.validate penv vfuel (.cls cn) j = .ok v ∧ J.eqv (Pyd.dump v) j = true) := by
  refine ⟨fun fuel hf => ?_, fun penv hp efuel hk j hresp hj vfuel hv =>
    unp_roundtrip env k cn tn sid sel st h penv hp efuel hk j hresp hj vfuel hv⟩
  obtain ⟨st', h1, _, h3, _, h5⟩ := unp_generation env k cn tn sid sel st h [] fuel hf
  exact ⟨st', h1, h3, h5⟩

theorem C01_partial_unpacked : ∀ (inp : Input) (k : Nat) (j : J),
    ValidInput inp → UnpInput inp → nodupKeys j = true → claimB inp k j = true :=
  fun inp k j _ hp hj => claimB_unp inp k j hp hj

/-- non-vacuity (`uxInp`, Proofs/C01BridgeUnp.lean): `query Q { me { ...NF name bestFriend { ...NM ...NG } } }`,
    `query R { again: me { ...NM } }`, `fragment NF on Node { id ...NG }`, `fragment NG on Node { rev }`,
    `fragment NM on Named { nick }` — outside every finding region; all three fragments are unpacked -/
example : ValidInput uxInp ∧ UnpInput uxInp ∧ Supported_01 uxInp ∧ nodupKeys uxResp = true
    ∧ Exec.respOK uxInp.env.schema uxInp.env.frags execFuel "Query" C01Unp.uxSel uxResp = true
    ∧ claimB uxInp 0 uxResp = true :=
  ⟨uxInp_nonvacuous.1, uxInp_nonvacuous.2.1, uxInp_nonvacuous.2.2.1, uxInp_nonvacuous.2.2.2.1,
   uxInp_nonvacuous.2.2.2.2.2.1, uxInp_nonvacuous.2.2.2.2.2.2⟩


end Ariadne.C01
