/-
  C09 — Pruning unused inputs and enums never removes something needed.

  Statements + final proofs; the model is Model/Prune.lean, the DFS lemmas are Proofs/Prune.lean.
  Quantification: every table of input types (any dependency graph: chains, diamonds, cycles,
  self-loops, dangling references, duplicate names — no size bound), every list of enums, every
  list of operations (each with its variable inputs / variable enums / result enums), fragments
  module written or not, and the four combinations of `include_all_inputs` / `include_all_enums`.

  The property is TRUE of the default configuration (`C09_default`); it is FALSE when
  `enable_custom_operations = true` (finding C09-F1: the custom_* modules import input/enum classes
  that nothing reports to the pruning) — `C09_full_false`, `C09_partial`.

  Document side (last section; model Model/PruneDoc.lean, lemmas Proofs/PruneDoc.lean): the
  `add_operation` loop of `main.client` with the ONE shared `ArgumentsGenerator` (variable types as
  type-node trees: any nesting of list / non-null wrappers; `ParsingError` for unknown / object types),
  `_generate_fragments` (early return when every fragment definition was unpacked by an operation;
  `exclude_names`; the set `_fragments_names` enumerated in any order) and then the steps above.
  `generateDoc` is proved to be `Prune.generate ∘ toInput` (`generateDoc_ok_iff`, `doc_error_iff`), so
  the roots and the enum lists are derived from the document, not given: `doc_inputs_is_closure`, `doc_enums_is_closure`,
  `doc_fragments_written_iff`, `doc_total`, `doc_error_flag_independent`, `doc_set_order_irrelevant`,
  `C09_doc`, `C09_doc_closed`; `order_matters_add_operation` is the counter-model for reading the arguments generator
  before `add_method`.

  Parameters (component outputs, compared with the real code by harness/c09.py on every run, the
  walk that produces them is Model/ResultTypes.lean of C01/C08): per operation / per fragment definition
  `ResultTypesGenerator.get_used_enums()` and `get_unpacked_fragments()`; per input type the classified
  named type of every field (the wrappers of input FIELDS are stripped by the harness; C06's
  Model/InputDeps.lean models that step).  Outside the model: the emitted text (class bodies are opaque),
  autoflake / isort / black, CPython import, pydantic, plugins, Python's recursion limit.
-/
import AriadneModel.Proofs.Prune
import AriadneModel.Proofs.PruneOrder
import AriadneModel.Proofs.PruneDoc
import Mathlib.Logic.Relation


namespace Ariadne.C09
open Ariadne.Prune

/-- `n` is reachable from the variables of some operation through input fields. -/
def InClosure (x : Input) (n : Name) : Prop :=
  ∃ r ∈ varInputsOf x, Relation.ReflTransGen (fun a b => b ∈ depsOf x.inputs a) r n

/-- `e` is used by a variable, by a retained input class, by a result field or by a fragment. -/
def EnumNeeded (x : Input) (retained : List InputDef) (e : Name) : Prop :=
  e ∈ varEnumsOf x ∨ (∃ c ∈ retained, e ∈ enumRefs c) ∨ e ∈ resultEnumsOf x ∨ e ∈ fragEnumsOf x

/- `varInputsOf`, `varEnumsOf`, `resultEnumsOf`, `fragEnumsOf`, `names`, `enames`, `usedEnumsFinal`,
   `closureNames`, `retainedInputsOf`, `trigCustomOpsPruned` are defined next to the model
   (Model/Prune.lean) so that the compiled driver evaluates the very same trigger. -/

/-- Every name a module of the package refers to is defined where the module looks for it
    (the part of "the package loads" that pruning can affect; default configuration). -/
structure WellScoped (x : Input) (out : Output) : Prop where
  /-- forward references `"B"` between input classes resolve inside input_types.py -/
  inputRefs : ∀ c ∈ out.inputsModule, ∀ n ∈ inputRefs c, n ∈ names out.inputsModule
  /-- enums used by an input class are imported by input_types.py … -/
  inputEnumsImported : ∀ c ∈ out.inputsModule, ∀ e ∈ enumRefs c, e ∈ out.inputsEnumImport
  /-- … and everything input_types.py imports from enums.py is defined there -/
  inputEnumImport : ∀ e ∈ out.inputsEnumImport, e ∈ enames out.enumsModule
  /-- client.py imports the variable types, and what it imports is defined -/
  clientInputsCover : ∀ n ∈ varInputsOf x, n ∈ out.clientInputs
  clientEnumsCover : ∀ e ∈ varEnumsOf x, e ∈ out.clientEnums
  clientInputs : ∀ n ∈ out.clientInputs, n ∈ names out.inputsModule
  clientEnums : ∀ e ∈ out.clientEnums, e ∈ enames out.enumsModule
  /-- result modules and fragments.py import their enums from enums.py -/
  resultEnums : ∀ e ∈ resultEnumsOf x, e ∈ enames out.enumsModule
  fragEnums : ∀ e ∈ fragEnumsOf x, e ∈ enames out.enumsModule

/-- With `enable_custom_operations` the custom_* modules import these names too. -/
def CustomLoads (x : Input) (out : Output) : Prop :=
  x.customOps = true →
    (∀ n ∈ x.customInputs, n ∈ names out.inputsModule) ∧ (∀ e ∈ x.customEnums, e ∈ enames out.enumsModule)

def Loads (x : Input) (out : Output) : Prop := WellScoped x out ∧ CustomLoads x out

/-- The same input with both flags at their default `true`. -/
def unpruned (x : Input) : Input := { x with allInputs := true, allEnums := true }

/-! ### Bridge to Mathlib's closure -/

theorem reach_iff (deps : Name → List Name) (a b : Name) :
    Reach deps a b ↔ Relation.ReflTransGen (fun a b => b ∈ deps a) a b := by
  constructor
  · intro h
    induction h with
    | refl => exact .refl
    | tail _ hc ih => exact .tail ih hc
  · intro h
    induction h with
    | refl => exact .refl _
    | tail _ hc ih => exact .tail ih hc

/-- `typesNames_spec` in terms of Mathlib's closure -/
theorem typesNames_closure (tbl : List InputDef) (roots : List Name) :
    ∃ l, typesNames tbl roots = some l ∧
      ∀ n, n ∈ l ↔ ∃ r ∈ roots, Relation.ReflTransGen (fun a b => b ∈ depsOf tbl a) r n := by
  obtain ⟨l, hl, hx⟩ := typesNames_spec tbl roots
  exact ⟨l, hl, fun n => by simp only [hx n, reach_iff]⟩

/-! ### The DFS is the closure (every table, cycles included; the fuel always suffices) -/

theorem dfs_total (tbl : List InputDef) (roots : List Name) : ∃ l, typesNames tbl roots = some l := by
  obtain ⟨l, hl, _⟩ := typesNames_closure tbl roots
  exact ⟨l, hl⟩

/-- One call of `_get_dependencies_of_type(r)` returns exactly the types reachable from `r`. -/
theorem get_dependencies_is_closure (tbl : List InputDef) (r : Name) :
    ∃ l, getDependenciesOfType tbl r = some l ∧
      ∀ n, n ∈ l ↔ Relation.ReflTransGen (fun a b => b ∈ depsOf tbl a) r n := by
  obtain ⟨l, hl, h⟩ := getDependenciesOfType_spec tbl r
  exact ⟨l, hl, fun n => (h n).trans (reach_iff _ _ _)⟩

/-- DESIGN.md Appendix A: `types_names` of `_filter_class_defs` is the closure of the roots. -/
theorem dfs_is_closure (tbl : List InputDef) (roots l : List Name) (n : Name)
    (h : typesNames tbl roots = some l) :
    n ∈ l ↔ ∃ r ∈ roots, Relation.ReflTransGen (fun a b => b ∈ depsOf tbl a) r n := by
  obtain ⟨l', hl', hx⟩ := typesNames_closure tbl roots
  rw [h] at hl'
  cases hl'
  exact hx n

/-! ### Closed form of `generate` (`generate_eq`, `initState_eq`: Proofs/Prune.lean) -/

/-- The retained input classes: the name-filter of all of them by "the flag is set, or in the closure". -/
def InputsShape (x : Input) (cds : List InputDef) : Prop :=
  ∃ keep : Name → Bool, cds = x.inputs.filter (fun c => keep c.name) ∧
    ∀ n, keep n = true ↔ (x.allInputs = true ∨ InClosure x n)

theorem filterInputDefs_shape (x : Input) :
    ∃ cds, filterInputDefs x.inputs (if x.allInputs then none else some (varInputsOf x)) = some cds ∧
      InputsShape x cds := by
  obtain ⟨keep, e, hk⟩ := filterInputDefs_filter x.inputs (if x.allInputs then none else some (varInputsOf x))
  refine ⟨_, e, keep, rfl, fun n => (hk n).trans ?_⟩
  cases x.allInputs <;> simp [InClosure, reach_iff]

/-- The whole of `generate` in one statement. -/
theorem generate_shape (x : Input) :
    ∃ out, generate x = some out ∧ InputsShape x out.inputsModule ∧
      out.enumsModule = filterEnumDefs x.enums
        (if x.allEnums then none else some (usedEnumsFinal x out.inputsModule)) ∧
      out.inputsEnumImport = inputsUsedEnums x.inputs (names out.inputsModule) ∧
      out.clientInputs = varInputsOf x ∧ out.clientEnums = varEnumsOf x := by
  obtain ⟨cds, hc, hs⟩ := filterInputDefs_shape x
  refine ⟨_, by rw [generate_eq, hc]; rfl, hs, rfl, rfl, rfl, rfl⟩

/-- `generate` never runs out of fuel. -/
theorem generate_total (x : Input) : ∃ out, generate x = some out := by
  obtain ⟨out, h, _⟩ := generate_shape x
  exact ⟨out, h⟩

theorem InputsShape.sub {x : Input} {cds : List InputDef} (h : InputsShape x cds) :
    ∀ c ∈ cds, c ∈ x.inputs := by
  obtain ⟨_, rfl, _⟩ := h
  exact fun c hc => (List.mem_filter.mp hc).1

theorem mem_inputsEnums {x : Input} {cds : List InputDef} (h : InputsShape x cds) (e : Name) :
    e ∈ inputsUsedEnums x.inputs (names cds) ↔ ∃ c ∈ cds, e ∈ enumRefs c := by
  obtain ⟨keep, rfl, _⟩ := h
  exact mem_inputsUsedEnums_filter x.inputs keep e

theorem mem_usedEnumsFinal {x : Input} {cds : List InputDef} (h : InputsShape x cds) (e : Name) :
    e ∈ usedEnumsFinal x cds ↔ EnumNeeded x cds e := by
  unfold usedEnumsFinal EnumNeeded
  simp only [List.mem_append, mem_inputsEnums h]
  constructor
  · rintro (((h1 | h2) | h3) | h4)
    · exact .inr (.inr (.inl h1))
    · exact .inr (.inl h2)
    · exact .inr (.inr (.inr h3))
    · exact .inl h4
  · rintro (h4 | h2 | h1 | h3)
    · exact .inr h4
    · exact .inl (.inl (.inr h2))
    · exact .inl (.inl (.inl h1))
    · exact .inl (.inr h3)

theorem shape_of_generate (x : Input) (out : Output) (h : generate x = some out) :
    InputsShape x out.inputsModule ∧
      out.enumsModule = filterEnumDefs x.enums (if x.allEnums then none else some (usedEnumsFinal x out.inputsModule)) ∧
      out.inputsEnumImport = inputsUsedEnums x.inputs (names out.inputsModule) ∧
      out.clientInputs = varInputsOf x ∧ out.clientEnums = varEnumsOf x := by
  obtain ⟨out', h', hs⟩ := generate_shape x
  rw [h] at h'
  cases h'
  exact hs

/-- **Both pruned modules, for all four flag combinations at once**: input_types.py is the order-preserving filter of the
    input classes by "the flag is set, or the class is in the closure of the variables", enums.py the filter of the enum
    classes by "the flag is set, or the enum is needed".  The theorems below are its readings. -/
theorem modules_are_filters (x : Input) (out : Output) (h : generate x = some out) :
    (∃ p : InputDef → Bool, out.inputsModule = x.inputs.filter p ∧
      ∀ c, p c = true ↔ (x.allInputs = true ∨ InClosure x c.name)) ∧
    (∃ q : EnumDef → Bool, out.enumsModule = x.enums.filter q ∧
      ∀ c, q c = true ↔ (x.allEnums = true ∨ EnumNeeded x out.inputsModule c.name)) := by
  obtain ⟨hs, he, _⟩ := shape_of_generate x out h
  obtain ⟨keep, e, hk⟩ := hs
  obtain ⟨keepE, eE, hkE⟩ := filterEnumDefs_filter x.enums (if x.allEnums then none else some (usedEnumsFinal x out.inputsModule))
  refine ⟨⟨fun c => keep c.name, e, fun c => hk c.name⟩, fun c => keepE c.name, he.trans eE, fun c => (hkE c.name).trans ?_⟩
  cases x.allEnums <;> simp [mem_usedEnumsFinal ⟨keep, e, hk⟩]

/-- Flag `include_all_inputs = true`: nothing is pruned. -/
theorem inputs_unpruned (x : Input) (out : Output) (h : generate x = some out) (hf : x.allInputs = true) :
    out.inputsModule = x.inputs := by
  obtain ⟨⟨p, e, hp⟩, _⟩ := modules_are_filters x out h
  rw [e, List.filter_eq_self.mpr fun c _ => (hp c).mpr (Or.inl hf)]

/-- Flag `include_all_enums = true`: nothing is pruned. -/
theorem enums_unpruned (x : Input) (out : Output) (h : generate x = some out) (hf : x.allEnums = true) :
    out.enumsModule = x.enums := by
  obtain ⟨_, q, e, hq⟩ := modules_are_filters x out h
  rw [e, List.filter_eq_self.mpr fun c _ => (hq c).mpr (Or.inl hf)]

/-- `include_all_inputs = false`: input_types.py holds exactly the closure, as an order-preserving
    filter of the unpruned class list. -/
theorem inputs_is_closure (x : Input) (out : Output) (h : generate x = some out) (hf : x.allInputs = false) :
    ∃ p : InputDef → Bool, out.inputsModule = x.inputs.filter p ∧ ∀ c, p c = true ↔ InClosure x c.name := by
  obtain ⟨⟨p, e, hp⟩, _⟩ := modules_are_filters x out h
  exact ⟨p, e, fun c => by simp [hp c, hf]⟩

/-- `include_all_enums = false`: enums.py holds exactly
    enums(vars) ∪ enums(retained inputs) ∪ enums(results) ∪ enums(fragments), as an order-preserving
    filter of the unpruned class list (whatever `include_all_inputs` is). -/
theorem enums_is_closure (x : Input) (out : Output) (h : generate x = some out) (hf : x.allEnums = false) :
    ∃ q : EnumDef → Bool, out.enumsModule = x.enums.filter q ∧
      ∀ c, q c = true ↔ EnumNeeded x out.inputsModule c.name := by
  obtain ⟨_, q, e, hq⟩ := modules_are_filters x out h
  exact ⟨q, e, fun c => by simp [hq c, hf]⟩

/-- Nothing of a pruned kind outside the closure. -/
theorem no_extra (x : Input) (out : Output) (h : generate x = some out) :
    (x.allInputs = false → ∀ c ∈ out.inputsModule, InClosure x c.name) ∧
    (x.allEnums = false → ∀ c ∈ out.enumsModule, EnumNeeded x out.inputsModule c.name) := by
  obtain ⟨⟨p, e, hp⟩, q, e', hq⟩ := modules_are_filters x out h
  constructor
  · intro hf c hc
    rw [e] at hc
    exact ((hp c).mp (List.mem_filter.mp hc).2).resolve_left (by simp [hf])
  · intro hf c hc
    rw [e'] at hc
    exact ((hq c).mp (List.mem_filter.mp hc).2).resolve_left (by simp [hf])

/-- Nothing needed is removed — for every flag combination. -/
theorem nothing_needed_removed (x : Input) (out : Output) (h : generate x = some out) :
    (∀ c ∈ x.inputs, InClosure x c.name → c ∈ out.inputsModule) ∧
    (∀ c ∈ x.enums, EnumNeeded x out.inputsModule c.name → c ∈ out.enumsModule) := by
  obtain ⟨⟨p, e, hp⟩, q, e', hq⟩ := modules_are_filters x out h
  exact ⟨fun c hc hcl => e ▸ List.mem_filter.mpr ⟨hc, (hp c).mpr (Or.inr hcl)⟩,
    fun c hc hn => e' ▸ List.mem_filter.mpr ⟨hc, (hq c).mpr (Or.inr hn)⟩⟩

/-- … in the form in which the flags need no case distinction -/
theorem kept_of (x : Input) (out : Output) (h : generate x = some out) :
    (∀ c ∈ x.inputs, (x.allInputs = false → InClosure x c.name) → c ∈ out.inputsModule) ∧
    (∀ c ∈ x.enums, (x.allEnums = false → EnumNeeded x out.inputsModule c.name) → c ∈ out.enumsModule) := by
  obtain ⟨⟨p, e, hp⟩, q, e', hq⟩ := modules_are_filters x out h
  constructor
  · intro c hc hk
    refine e ▸ List.mem_filter.mpr ⟨hc, (hp c).mpr ?_⟩
    cases hf : x.allInputs with
    | true => exact Or.inl rfl
    | false => exact Or.inr (hk hf)
  · intro c hc hk
    refine e' ▸ List.mem_filter.mpr ⟨hc, (hq c).mpr ?_⟩
    cases hf : x.allEnums with
    | true => exact Or.inl rfl
    | false => exact Or.inr (hk hf)

theorem unpruned_modules (x : Input) (outAll : Output) (hall : generate (unpruned x) = some outAll) :
    outAll.inputsModule = x.inputs ∧ outAll.enumsModule = x.enums :=
  ⟨inputs_unpruned (unpruned x) outAll hall rfl, enums_unpruned (unpruned x) outAll hall rfl⟩

/-- Everything retained is the same `ClassDef` value as in the unpruned package, in the same
    relative order: both pruned modules are `List.filter`s of the unpruned ones. -/
theorem retained_identical (x : Input) (outAll out : Output)
    (hall : generate (unpruned x) = some outAll) (h : generate x = some out) :
    (∃ p, out.inputsModule = outAll.inputsModule.filter p) ∧
    (∃ q, out.enumsModule = outAll.enumsModule.filter q) := by
  obtain ⟨hi, he⟩ := unpruned_modules x outAll hall
  obtain ⟨⟨p, e, _⟩, q, e', _⟩ := modules_are_filters x out h
  exact ⟨⟨p, hi ▸ e⟩, q, he ▸ e'⟩

theorem retained_sublist (x : Input) (outAll out : Output)
    (hall : generate (unpruned x) = some outAll) (h : generate x = some out) :
    out.inputsModule.Sublist outAll.inputsModule ∧ out.enumsModule.Sublist outAll.enumsModule := by
  obtain ⟨⟨p, hp⟩, ⟨q, hq⟩⟩ := retained_identical x outAll out hall h
  rw [hp, hq]
  exact ⟨List.filter_sublist, List.filter_sublist⟩

/-- The schema/operation side conditions under which the UNPRUNED package is well-scoped. -/
structure Resolvable (x : Input) : Prop where
  inputRefs : ∀ d ∈ x.inputs, ∀ n ∈ inputRefs d, n ∈ names x.inputs
  enumRefs : ∀ d ∈ x.inputs, ∀ e ∈ enumRefs d, e ∈ enames x.enums
  roots : ∀ r ∈ varInputsOf x, r ∈ names x.inputs
  varEnums : ∀ e ∈ varEnumsOf x, e ∈ enames x.enums
  resultEnums : ∀ e ∈ resultEnumsOf x, e ∈ enames x.enums
  fragEnums : ∀ e ∈ fragEnumsOf x, e ∈ enames x.enums

theorem wellScoped_unpruned_resolvable (x : Input) (outAll : Output)
    (hall : generate (unpruned x) = some outAll) (hw : WellScoped x outAll) : Resolvable x := by
  obtain ⟨hi, hen⟩ := unpruned_modules x outAll hall
  refine ⟨?_, ?_, ?_, ?_, ?_, ?_⟩
  · intro d hd n hn; have := hw.inputRefs d (by rw [hi]; exact hd) n hn; rwa [hi] at this
  · intro d hd e hdE
    have h1 := hw.inputEnumsImported d (by rw [hi]; exact hd) e hdE
    have h2 := hw.inputEnumImport e h1
    rwa [hen] at h2
  · intro r hr; have := hw.clientInputs r (hw.clientInputsCover r hr); rwa [hi] at this
  · intro e h1; have := hw.clientEnums e (hw.clientEnumsCover e h1); rwa [hen] at this
  · intro e h1; have := hw.resultEnums e h1; rwa [hen] at this
  · intro e h1; have := hw.fragEnums e h1; rwa [hen] at this

/-- every needed, resolvable enum name is defined in the written enums module -/
theorem needed_enum_defined (x : Input) (out : Output) (h : generate x = some out) (e : Name)
    (hres : e ∈ enames x.enums) (hn : EnumNeeded x out.inputsModule e) : e ∈ enames out.enumsModule := by
  obtain ⟨c, hc, rfl⟩ := List.mem_map.mp hres
  exact List.mem_map.mpr ⟨c, (nothing_needed_removed x out h).2 c hc hn, rfl⟩

theorem resolvable_wellScoped (x : Input) (out : Output) (hr : Resolvable x) (h : generate x = some out) :
    WellScoped x out := by
  obtain ⟨hs, he, himp, hci, hce⟩ := shape_of_generate x out h
  have hsub := hs.sub
  have inClosure_defined : ∀ n, n ∈ names x.inputs → (x.allInputs = false → InClosure x n) →
      n ∈ names out.inputsModule := by
    intro n hn hcl
    obtain ⟨c, hc, rfl⟩ := List.mem_map.mp hn
    exact List.mem_map.mpr ⟨c, (kept_of x out h).1 c hc hcl, rfl⟩
  refine ⟨?_, ?_, ?_, ?_, ?_, ?_, ?_, ?_, ?_⟩
  · -- forward references between retained input classes
    intro c hc n hn
    apply inClosure_defined n (hr.inputRefs c (hsub c hc) n hn)
    intro hf
    obtain ⟨r, hroot, hreach⟩ := (no_extra x out h).1 hf c hc
    exact ⟨r, hroot, .tail hreach ((mem_depsOf _ _ _).mpr ⟨c, hsub c hc, rfl, hn⟩)⟩
  · intro c hc e hce'
    rw [himp]; exact (mem_inputsEnums hs e).mpr ⟨c, hc, hce'⟩
  · intro e hi
    rw [himp] at hi
    obtain ⟨c, hc, hce'⟩ := (mem_inputsEnums hs e).mp hi
    exact needed_enum_defined x out h e (hr.enumRefs c (hsub c hc) e hce') (.inr (.inl ⟨c, hc, hce'⟩))
  · intro n hn; rw [hci]; exact hn
  · intro e hn; rw [hce]; exact hn
  · intro n hn
    rw [hci] at hn
    exact inClosure_defined n (hr.roots n hn) (fun _ => ⟨n, hn, .refl⟩)
  · intro e hn
    rw [hce] at hn
    exact needed_enum_defined x out h e (hr.varEnums e hn) (.inl hn)
  · intro e hn
    exact needed_enum_defined x out h e (hr.resultEnums e hn) (.inr (.inr (.inl hn)))
  · intro e hn
    exact needed_enum_defined x out h e (hr.fragEnums e hn) (.inr (.inr (.inr hn)))

/-- If the unpruned package is well-scoped, so is the pruned one (all four flag combinations):
    every name referenced by a retained class, by the client, by a result module or by the fragments
    module is still defined. -/
theorem pruned_wellscoped (x : Input) (outAll out : Output)
    (hall : generate (unpruned x) = some outAll) (hw : WellScoped x outAll) (h : generate x = some out) :
    WellScoped x out :=
  resolvable_wellScoped x out (wellScoped_unpruned_resolvable x outAll hall hw) h

structure Holds (x : Input) (outAll out : Output) : Prop where
  loads : Loads x out
  inputsIdentical : ∃ p, out.inputsModule = outAll.inputsModule.filter p
  enumsIdentical : ∃ q, out.enumsModule = outAll.enumsModule.filter q
  inputsKept : ∀ c ∈ outAll.inputsModule, InClosure x c.name → c ∈ out.inputsModule
  enumsKept : ∀ c ∈ outAll.enumsModule, EnumNeeded x out.inputsModule c.name → c ∈ out.enumsModule
  noExtraInputs : x.allInputs = false → ∀ c ∈ out.inputsModule, InClosure x c.name
  noExtraEnums : x.allEnums = false → ∀ c ∈ out.enumsModule, EnumNeeded x out.inputsModule c.name

/-- C09 at full strength: whenever the unpruned package loads, the pruned one is produced, loads,
    holds the closure and nothing else of a pruned kind, and what it holds is identical. -/
def C09_full : Prop :=
  ∀ (x : Input) (outAll : Output), generate (unpruned x) = some outAll → Loads x outAll →
    ∃ out, generate x = some out ∧ Holds x outAll out

/-- Everything except the custom-operations imports. -/
theorem holds_but_custom (x : Input) (outAll : Output) (hall : generate (unpruned x) = some outAll)
    (hw : WellScoped x outAll) :
    ∃ out, generate x = some out ∧ WellScoped x out ∧
      (CustomLoads x out → Holds x outAll out) := by
  obtain ⟨out, h⟩ := generate_total x
  obtain ⟨hi, he⟩ := unpruned_modules x outAll hall
  have hws := pruned_wellscoped x outAll out hall hw h
  refine ⟨out, h, hws, fun hc => ⟨⟨hws, hc⟩, (retained_identical x outAll out hall h).1,
    (retained_identical x outAll out hall h).2, ?_, ?_, (no_extra x out h).1, (no_extra x out h).2⟩⟩
  · rw [hi]; exact (nothing_needed_removed x out h).1
  · rw [he]; exact (nothing_needed_removed x out h).2

/-! #### Finding C09-F1: `enable_custom_operations` with pruning -/

def Supported_09 (x : Input) : Prop := ¬ (trigCustomOpsPruned x = true)

instance (x : Input) : Decidable (Supported_09 x) := by unfold Supported_09; infer_instance

theorem mem_closureNames (x : Input) (n : Name) : n ∈ closureNames x ↔ InClosure x n := by
  obtain ⟨l, hl, hx⟩ := typesNames_closure x.inputs (varInputsOf x)
  unfold closureNames
  rw [hl]
  exact hx n

theorem retainedInputsOf_shape (x : Input) : InputsShape x (retainedInputsOf x) := by
  unfold retainedInputsOf
  cases hf : x.allInputs with
  | true => exact ⟨fun _ => true, (List.filter_eq_self.mpr fun _ _ => rfl).symm, fun n => by simp [hf]⟩
  | false => exact ⟨fun n => decide (n ∈ closureNames x), by simp, fun n => by simp [mem_closureNames, hf]⟩

theorem retainedInputsOf_eq (x : Input) (out : Output) (h : generate x = some out) :
    out.inputsModule = retainedInputsOf x := by
  obtain ⟨⟨p, e, hp⟩, _⟩ := modules_are_filters x out h
  unfold retainedInputsOf
  split
  · rename_i hf
    exact inputs_unpruned x out h hf
  · rename_i hf
    rw [e]
    apply List.filter_congr
    intro c _
    rw [Bool.eq_iff_iff, hp c]
    simp [mem_closureNames, hf]

/-- The trigger in the vocabulary of the property. -/
theorem trig_iff (x : Input) :
    trigCustomOpsPruned x = true ↔
      x.customOps = true ∧
        ((x.allInputs = false ∧ ∃ n ∈ x.customInputs, ¬ InClosure x n) ∨
         (x.allEnums = false ∧ ∃ e ∈ x.customEnums, ¬ EnumNeeded x (retainedInputsOf x) e)) := by
  simp [trigCustomOpsPruned, mem_closureNames, mem_usedEnumsFinal (retainedInputsOf_shape x)]

/-- Outside the trigger the custom modules' imports resolve in the pruned package whenever they
    resolve in the unpruned one. -/
theorem custom_loads_of_supported (x : Input) (outAll out : Output)
    (hall : generate (unpruned x) = some outAll) (hc : CustomLoads x outAll)
    (h : generate x = some out) (hs : Supported_09 x) : CustomLoads x out := by
  intro hco
  obtain ⟨hi, he⟩ := unpruned_modules x outAll hall
  obtain ⟨hci, hce⟩ := hc hco
  rw [hi] at hci
  rw [he] at hce
  have hnt : ¬ _ := fun ht => hs ((trig_iff x).mpr ht)
  constructor
  · intro n hn
    obtain ⟨c, hcm, rfl⟩ := List.mem_map.mp (hci n hn)
    refine List.mem_map.mpr ⟨c, (kept_of x out h).1 c hcm fun hf => ?_, rfl⟩
    exact Classical.byContradiction fun hnc => hnt ⟨hco, .inl ⟨hf, c.name, hn, hnc⟩⟩
  · intro e hn
    obtain ⟨c, hcm, rfl⟩ := List.mem_map.mp (hce e hn)
    refine List.mem_map.mpr ⟨c, (kept_of x out h).2 c hcm fun hf => ?_, rfl⟩
    rw [retainedInputsOf_eq x out h]
    exact Classical.byContradiction fun hnc => hnt ⟨hco, .inr ⟨hf, c.name, hn, hnc⟩⟩

/-- C09 outside the trigger of C09-F1 (in particular for the default configuration). -/
theorem C09_partial (x : Input) (outAll : Output) (hall : generate (unpruned x) = some outAll)
    (hl : Loads x outAll) (hs : Supported_09 x) :
    ∃ out, generate x = some out ∧ Holds x outAll out := by
  obtain ⟨out, h, _, hh⟩ := holds_but_custom x outAll hall hl.1
  exact ⟨out, h, hh (custom_loads_of_supported x outAll out hall hl.2 h hs)⟩

/-- The default configuration (`enable_custom_operations = false`) is never in the trigger region:
    there the property holds at full strength for all four flag combinations. -/
theorem C09_default (x : Input) (outAll : Output) (hc : x.customOps = false)
    (hall : generate (unpruned x) = some outAll) (hw : WellScoped x outAll) :
    ∃ out, generate x = some out ∧ Holds x outAll out :=
  C09_partial x outAll hall ⟨hw, fun h => by rw [hc] at h; cases h⟩ (by simp [Supported_09, trigCustomOpsPruned, hc])

/-- Witness of C09-F1: `type Mutation { m(u: U): Int }`, `input U { x: Int }`, no operation uses `U`,
    `enable_custom_operations = true`, `include_all_inputs = false`. -/
def witnessF1 : Input :=
  { inputs := [⟨"U", [], ""⟩], enums := [], ops := [], fragEnums := none,
    allInputs := false, allEnums := true, customOps := true, customInputs := ["U"], customEnums := [] }

def witnessF1All : Output := ⟨[⟨"U", [], ""⟩], [], [], [], []⟩

theorem witnessF1_unpruned : generate (unpruned witnessF1) = some witnessF1All := by decide +kernel

theorem witnessF1_pruned : generate witnessF1 = some ⟨[], [], [], [], []⟩ := by decide +kernel

theorem witnessF1_in_trigger : trigCustomOpsPruned witnessF1 = true := by decide +kernel

theorem C09_full_false : ¬ C09_full := by
  intro hfull
  have hl : Loads witnessF1 witnessF1All := by
    refine ⟨⟨?_, ?_, ?_, ?_, ?_, ?_, ?_, ?_, ?_⟩, ?_⟩ <;>
      simp [witnessF1, witnessF1All, varInputsOf, varEnumsOf, resultEnumsOf, fragEnumsOf, names, enames,
        CustomLoads, Prune.inputRefs, Prune.enumRefs]
  obtain ⟨out, h, hh⟩ := hfull witnessF1 witnessF1All witnessF1_unpruned hl
  rw [witnessF1_pruned] at h
  cases h
  have := (hh.loads.2 rfl).1 "U" (by simp [witnessF1])
  simp [names] at this

/-- Inside the trigger region the custom imports break — the failing region is exactly the trigger. -/
theorem custom_fails_iff_trigger (x : Input) (outAll out : Output)
    (hall : generate (unpruned x) = some outAll) (hc : CustomLoads x outAll) (h : generate x = some out) :
    ¬ CustomLoads x out ↔ trigCustomOpsPruned x = true := by
  constructor
  · intro hn
    apply Classical.byContradiction
    intro ht
    exact hn (custom_loads_of_supported x outAll out hall hc h ht)
  · intro ht hcl
    obtain ⟨hco, hcase⟩ := (trig_iff x).mp ht
    obtain ⟨hci, hce⟩ := hcl hco
    rcases hcase with ⟨hf, n, hn, hnc⟩ | ⟨hf, e, he, hne⟩
    · obtain ⟨c, hcm, rfl⟩ := List.mem_map.mp (hci n hn)
      exact hnc ((no_extra x out h).1 hf c hcm)
    · obtain ⟨c, hcm, rfl⟩ := List.mem_map.mp (hce e he)
      rw [← retainedInputsOf_eq x out h] at hne
      exact hne ((no_extra x out h).2 hf c hcm)

/-! ### Why the order of `PackageGenerator.generate` matters -/

/-- A variant that writes enums.py before the client (and so before the arguments generator's enums
    reach `_used_enums`). -/
def enumsBeforeClient : List Step := [.inputs, .results, .fragments, .enums, .client]

/-- A variant that writes enums.py before input_types.py. -/
def enumsBeforeInputs : List Step := [.enums, .inputs, .results, .fragments, .client]

/-- `enum E {A}  type Query { f(e: E): Int }   query q($e: E) { f(e: $e) }`, both flags false. -/
def orderWitness : Input :=
  { inputs := [], enums := [⟨"E", ""⟩], ops := [⟨[], ["E"], []⟩], fragEnums := none,
    allInputs := false, allEnums := false }

/-- `enum E {A}  input I { e: E }  type Query { f(i: I): Int }   query q($i: I) { f(i: $i) }`. -/
def orderWitness2 : Input :=
  { inputs := [⟨"I", [.enum "E"], ""⟩], enums := [⟨"E", ""⟩], ops := [⟨["I"], [], []⟩], fragEnums := none,
    allInputs := false, allEnums := false }

/-- With the real order the variable's enum is kept … -/
theorem order_real_keeps : generate orderWitness = some ⟨[], [⟨"E", ""⟩], [], [], ["E"]⟩ := by decide +kernel

/-- … with enums written before the client it is pruned although the client imports it:
    `enums_is_closure` (and well-scopedness) fail for that variant. -/
theorem order_matters_client :
    ∃ out, generateWith enumsBeforeClient orderWitness = some out ∧
      "E" ∈ varEnumsOf orderWitness ∧ "E" ∈ out.clientEnums ∧ "E" ∉ enames out.enumsModule := by
  refine ⟨⟨[], [], [], [], ["E"]⟩, by decide +kernel, by decide +kernel, by decide +kernel, by decide +kernel⟩

/-- … and with enums written before the inputs, the enum of a retained input class is pruned. -/
theorem order_matters_inputs :
    ∃ out, generateWith enumsBeforeInputs orderWitness2 = some out ∧
      (∃ c ∈ out.inputsModule, "E" ∈ enumRefs c) ∧ "E" ∉ enames out.enumsModule := by
  refine ⟨⟨[⟨"I", [.enum "E"], ""⟩], [], ["E"], ["I"], []⟩, by decide +kernel, ⟨⟨"I", [.enum "E"], ""⟩, by decide +kernel, by decide +kernel⟩, by decide +kernel⟩

/-- Any order of `generate` in which input_types.py, fragments.py and client.py are produced (in any
    order, even repeatedly) before enums.py is written last gives the same two pruned modules and the
    same imports as the real order: the only order constraint is "enums last". -/
theorem order_sufficient (x : Input) (pre : List Step) (out : Output)
    (hne : Step.enums ∉ pre) (hi : Step.inputs ∈ pre) (hf : Step.fragments ∈ pre) (hc : Step.client ∈ pre)
    (h : generateWith (pre ++ [Step.enums]) x = some out) : generate x = some out := by
  unfold generateWith runSteps at h
  rw [List.foldlM_append] at h
  cases hp : List.foldlM (step x) (initState x) pre with
  | none => simp [hp] at h
  | some st' =>
    have e := preEffect x pre (initState x) st' hne hp
    rw [initState_eq] at e
    obtain ⟨cds, hcds, hshape⟩ := filterInputDefs_shape x
    have hcd : cdsOf x { usedEnums := resultEnumsOf x, argInputs := varInputsOf x, argEnums := varEnumsOf x } = some cds := by
      simp [cdsOf, hcds]
    obtain ⟨i1, i2⟩ := Prod.mk.inj (e.inputs.trans (if_pos hi))
    obtain ⟨c1, c2⟩ := Prod.mk.inj (e.client.trans (if_pos hc))
    rw [hcd] at i1
    simp only [contrib, hcd] at i2
    simp only [hp, List.foldlM_cons, List.foldlM_nil, step] at h
    simp [finish, i1] at h
    rw [generate_eq, hcds]
    simp only [Option.map_some, Option.some.injEq]
    rw [← h]
    simp only [i2, c1, c2, Output.mk.injEq, true_and, and_true]
    cases hae : x.allEnums with
    | true => simp
    | false =>
      simp only [Bool.false_eq_true, ↓reduceIte, filterEnumDefs]
      apply List.filter_congr
      intro c _
      have : c.name ∈ usedEnumsFinal x cds ↔ c.name ∈ st'.usedEnums := by
        rw [e.usedEnums]
        simp only [usedEnumsFinal, List.mem_append, List.mem_flatMap]
        constructor
        · rintro (((h1 | h2) | h3) | h4)
          · exact .inl h1
          · exact .inr ⟨.inputs, hi, by simpa [contrib, hcd] using h2⟩
          · exact .inr ⟨.fragments, hf, by simpa [contrib] using h3⟩
          · exact .inr ⟨.client, hc, by simpa [contrib] using h4⟩
        · rintro (h1 | ⟨s, hs, hm⟩)
          · exact .inl (.inl (.inl h1))
          · cases s with
            | inputs => exact .inl (.inl (.inr (by simpa [contrib, hcd] using hm)))
            | results => simp [contrib] at hm
            | fragments => exact .inl (.inr (by simpa [contrib] using hm))
            | client => exact .inr (by simpa [contrib] using hm)
            | enums => simp [contrib] at hm
      simp [this]

/-- A cycle A → B → A with a self-loop on S, an unused input U holding the only use of enum X,
    enums used only by a variable (V), a nested result (R), a fragment (F), an input field (C, reached
    through the cycle), and an unused enum (Z). -/
def exInput : Input :=
  { inputs := [⟨"A", [.input "B", .enum "C"], "a"⟩, ⟨"U", [.enum "X"], "u"⟩, ⟨"B", [.input "A", .scalar "Date"], "b"⟩,
               ⟨"S", [.input "S"], "s"⟩],
    enums := [⟨"C", ""⟩, ⟨"X", ""⟩, ⟨"V", ""⟩, ⟨"R", ""⟩, ⟨"F", ""⟩, ⟨"Z", ""⟩],
    ops := [⟨["B"], ["V"], ["R"]⟩, ⟨[], [], []⟩], fragEnums := some ["F"],
    allInputs := false, allEnums := false }

example : generate exInput =
    some ⟨[⟨"A", [.input "B", .enum "C"], "a"⟩, ⟨"B", [.input "A", .scalar "Date"], "b"⟩],
          [⟨"C", ""⟩, ⟨"V", ""⟩, ⟨"R", ""⟩, ⟨"F", ""⟩], ["C"], ["B"], ["V"]⟩ := by decide +kernel

example : (generate (unpruned exInput)).map (fun o => (names o.inputsModule, enames o.enumsModule)) =
    some (["A", "U", "B", "S"], ["C", "X", "V", "R", "F", "Z"]) := by decide +kernel

example : (generate { exInput with allInputs := true }).map (fun o => enames o.enumsModule) =
    some ["C", "X", "V", "R", "F"] := by decide +kernel

example : Supported_09 exInput := by decide +kernel

example : getDependenciesOfType exInput.inputs "A" = some ["A", "B"] := by decide +kernel

/-- `order_sufficient` is not vacuous: a permuted order with enums last, on the example. -/
example : generateWith ([.client, .fragments, .inputs, .results] ++ [.enums]) exInput = generate exInput := by decide +kernel

/-! ### The document side: from operations and fragments to roots and used enums (Model/PruneDoc.lean)

  `generateDoc` runs the `add_operation` loop of `main.client` (result-types generator, then the shared
  arguments generator over variable types with any nesting of list / non-null wrappers), decides in
  `_generate_fragments` whether fragments.py is written and which fragment definitions it holds
  (those no OPERATION unpacked), and then the steps of `PackageGenerator.generate`.  It is proved to be
  `Prune.generate` of the closed-form abstraction `toInput`, so everything above transfers; the
  statements below are in the vocabulary of the document. -/

section Doc
open Ariadne.PruneDoc

/-- `r` is the named type of some operation variable and an input object of the schema. -/
def DocRoot (x : DocInput) (r : Name) : Prop :=
  ∃ op ∈ x.ops, ∃ t ∈ op.vars, t.base = r ∧ kindOf x r = .input

def DocVarEnum (x : DocInput) (e : Name) : Prop :=
  ∃ op ∈ x.ops, ∃ t ∈ op.vars, t.base = e ∧ kindOf x e = .enum

/-- `e` is used by a fragment definition that fragments.py holds: one that no operation unpacked. -/
def DocFragEnum (x : DocInput) (e : Name) : Prop :=
  ∃ f ∈ x.frags, (∀ op ∈ x.ops, f.name ∉ op.unpacked) ∧ e ∈ f.enums

def DocInClosure (x : DocInput) (n : Name) : Prop :=
  ∃ r, DocRoot x r ∧ Relation.ReflTransGen (fun a b => b ∈ depsOf x.inputs a) r n

def DocEnumNeeded (x : DocInput) (retained : List InputDef) (e : Name) : Prop :=
  DocVarEnum x e ∨ (∃ c ∈ retained, e ∈ enumRefs c) ∨ (∃ op ∈ x.ops, e ∈ op.resultEnums) ∨ DocFragEnum x e

/-- Every variable is typed by an input object, an enum or a scalar of the schema (what graphql-core's
    validation guarantees for the operations `main.client` accepts). -/
def VarsTyped (x : DocInput) : Prop :=
  ∀ op ∈ x.ops, ∀ t ∈ op.vars,
    kindOf x t.base = .input ∨ kindOf x t.base = .enum ∨ kindOf x t.base = .scalar

/-- List and non-null wrappers of a variable type are transparent for the bookkeeping, at any depth. -/
theorem variable_wrappers_transparent (kinds : Name → Kind) (st : ArgSt) (t : TypeNode) :
    parseTypeNode kinds st t = parseNamed kinds st t.base :=
  parseTypeNode_base kinds st t

/-- What one `ArgumentsGenerator.generate` call that returns records: exactly the named types of the variables
    that are input objects / enums. -/
theorem variables_use_exact (kinds : Name → Kind) (vars : List TypeNode) (a : ArgSt) (h : varsUse kinds vars = .ok a) :
    (∀ n, n ∈ a.usedInputs ↔ ∃ t ∈ vars, t.base = n ∧ kinds n = .input) ∧
    (∀ n, n ∈ a.usedEnums ↔ ∃ t ∈ vars, t.base = n ∧ kinds n = .enum) := by
  rw [varsUse_eq] at h
  cases hb : firstBad kinds vars with
  | some e => simp [hb] at h
  | none =>
    simp only [hb, Except.ok.injEq] at h
    subst h
    exact ⟨mem_usesKind kinds .input vars, mem_usesKind kinds .enum vars⟩

theorem mem_varInputsOf_doc (x : DocInput) (i : Input) (h : toInput x = .ok i) (r : Name) :
    r ∈ varInputsOf i ↔ DocRoot x r := by
  obtain ⟨_, _, _, _, _, _, _, _, hops⟩ := toInput_fields x i h
  rw [varInputsOf, hops, List.flatMap_map]
  exact mem_flatMap_usesKind (kindOf x) .input x.ops r

theorem mem_varEnumsOf_doc (x : DocInput) (i : Input) (h : toInput x = .ok i) (e : Name) :
    e ∈ varEnumsOf i ↔ DocVarEnum x e := by
  obtain ⟨_, _, _, _, _, _, _, _, hops⟩ := toInput_fields x i h
  rw [varEnumsOf, hops, List.flatMap_map]
  exact mem_flatMap_usesKind (kindOf x) .enum x.ops e

theorem mem_resultEnumsOf_doc (x : DocInput) (i : Input) (h : toInput x = .ok i) (e : Name) :
    e ∈ resultEnumsOf i ↔ ∃ op ∈ x.ops, e ∈ op.resultEnums := by
  obtain ⟨_, _, _, _, _, _, _, _, hops⟩ := toInput_fields x i h
  rw [resultEnumsOf, hops, List.flatMap_map]
  exact List.mem_flatMap

/-- fragments.py is written exactly when some fragment definition is left that no operation unpacked … -/
theorem doc_fragments_written_iff (x : DocInput) (i : Input) (h : toInput x = .ok i) :
    i.fragEnums.isSome = true ↔ ∃ f ∈ x.frags, ∀ op ∈ x.ops, f.name ∉ op.unpacked := by
  obtain ⟨_, _, _, _, _, _, _, hfr, _⟩ := toInput_fields x i h
  rw [hfr]
  unfold fragmentsEnums
  simp only [fragmentsEnumsWith_isSome, not_mem_unpackedOf]

/-- … and the enums it reports are exactly those of the definitions it holds. -/
theorem mem_fragEnumsOf_doc (x : DocInput) (i : Input) (h : toInput x = .ok i) (e : Name) :
    e ∈ fragEnumsOf i ↔ DocFragEnum x e := by
  obtain ⟨_, _, _, _, _, _, _, hfr, _⟩ := toInput_fields x i h
  unfold fragEnumsOf DocFragEnum
  rw [hfr]
  unfold fragmentsEnums
  simp only [mem_fragmentsEnumsWith id (fun l => List.Perm.refl l), not_mem_unpackedOf]

/-- The vocabulary of the model is the vocabulary of the document. -/
theorem doc_vocabulary (x : DocInput) (i : Input) (h : toInput x = .ok i) :
    (∀ n, InClosure i n ↔ DocInClosure x n) ∧
    (∀ retained e, EnumNeeded i retained e ↔ DocEnumNeeded x retained e) := by
  obtain ⟨hin, _⟩ := toInput_fields x i h
  constructor
  · intro n
    unfold InClosure DocInClosure
    rw [hin]
    constructor
    · rintro ⟨r, hr, hreach⟩; exact ⟨r, (mem_varInputsOf_doc x i h r).mp hr, hreach⟩
    · rintro ⟨r, hr, hreach⟩; exact ⟨r, (mem_varInputsOf_doc x i h r).mpr hr, hreach⟩
  · intro retained e
    unfold EnumNeeded DocEnumNeeded
    rw [mem_varEnumsOf_doc x i h, mem_resultEnumsOf_doc x i h, mem_fragEnumsOf_doc x i h]

/-- `generateDoc` succeeds exactly when `toInput` does, with `Prune.generate`'s output. -/
theorem generateDoc_ok_iff (x : DocInput) (out : Output) :
    generateDoc x = .ok out ↔ ∃ i, toInput x = .ok i ∧ generate i = some out := by
  rw [generateDoc_eq]
  cases ht : toInput x with
  | error e => simp
  | ok i =>
    obtain ⟨o, ho⟩ := generate_total i
    simp [ho]

/-- The only errors are the two `ParsingError`s of the arguments generator (never the fuel). -/
theorem doc_error_iff (x : DocInput) (e : Err) : generateDoc x = .error e ↔ toInput x = .error e := by
  rw [generateDoc_eq]
  cases ht : toInput x with
  | error e' => simp
  | ok i =>
    obtain ⟨o, ho⟩ := generate_total i
    simp [ho]

/-- A refused document is refused because of one variable, named in the error. -/
theorem doc_refuses (x : DocInput) (e : Err) (h : generateDoc x = .error e) :
    ∃ op ∈ x.ops, ∃ t ∈ op.vars,
      (kindOf x t.base = .missing ∧ e = .argNotFound t.base) ∨ (kindOf x t.base = .other ∧ e = .argIncorrect t.base) := by
  rw [doc_error_iff] at h
  unfold toInput toInputWith at h
  cases ho : opsOf (kindOf x) x.ops with
  | ok os => simp [ho] at h
  | error e' =>
    simp only [ho, Except.error.injEq] at h
    subst h
    obtain ⟨op, hop, hb⟩ := opsOf_error _ _ _ ho
    obtain ⟨t, ht, hbad⟩ := firstBad_eq_some _ _ _ hb
    refine ⟨op, hop, t, ht, ?_⟩
    unfold badOf at hbad
    cases hk : kindOf x t.base <;> simp [hk] at hbad
    · exact .inr ⟨rfl, hbad.symm⟩
    · exact .inl ⟨rfl, hbad.symm⟩

/-- Documents whose variables are typed are never refused (all flag combinations). -/
theorem doc_total (x : DocInput) (h : VarsTyped x) : ∃ out, generateDoc x = .ok out := by
  have hg : ∀ op ∈ x.ops, firstBad (kindOf x) op.vars = none := by
    intro op hop
    rw [firstBad_eq_none]
    intro t ht
    unfold badOf
    rcases h op hop t ht with hk | hk | hk <;> simp [hk]
  have ho := opsOf_of_good (kindOf x) x.ops hg
  have : ∃ i, toInput x = .ok i := by
    unfold toInput toInputWith
    rw [ho]
    exact ⟨_, rfl⟩
  obtain ⟨i, hi⟩ := this
  obtain ⟨out, hout⟩ := generate_total i
  exact ⟨out, (generateDoc_ok_iff x out).mpr ⟨i, hi, hout⟩⟩

/-- Refusal does not depend on the two flags: the pruned run fails exactly when the unpruned one does,
    with the same error. -/
theorem doc_error_flag_independent (x : DocInput) (e : Err) :
    generateDoc x = .error e ↔ generateDoc (unprunedDoc x) = .error e := by
  rw [doc_error_iff, doc_error_iff, toInput_unprunedDoc]
  cases toInput x <;> simp

/-- `include_all_inputs = false`: input_types.py is the closure of the variables' input objects. -/
theorem doc_inputs_is_closure (x : DocInput) (out : Output) (h : generateDoc x = .ok out) (hf : x.allInputs = false) :
    ∃ p : InputDef → Bool, out.inputsModule = x.inputs.filter p ∧ ∀ c, p c = true ↔ DocInClosure x c.name := by
  obtain ⟨i, hi, hg⟩ := (generateDoc_ok_iff x out).mp h
  obtain ⟨hin, _, hai, _⟩ := toInput_fields x i hi
  obtain ⟨p, e, hp⟩ := inputs_is_closure i out hg (by rw [hai]; exact hf)
  exact ⟨p, by rw [e, hin], fun c => (hp c).trans ((doc_vocabulary x i hi).1 c.name)⟩

/-- `include_all_enums = false`: enums.py holds exactly the enums of variable types (under any wrappers),
    of retained input classes, of the operations' result types and of the fragment definitions that
    fragments.py holds — an enum used only by fragments that some operation unpacked is not among them. -/
theorem doc_enums_is_closure (x : DocInput) (out : Output) (h : generateDoc x = .ok out) (hf : x.allEnums = false) :
    ∃ q : EnumDef → Bool, out.enumsModule = x.enums.filter q ∧
      ∀ c, q c = true ↔ DocEnumNeeded x out.inputsModule c.name := by
  obtain ⟨i, hi, hg⟩ := (generateDoc_ok_iff x out).mp h
  obtain ⟨_, hen, _, hae, _⟩ := toInput_fields x i hi
  obtain ⟨q, e, hq⟩ := enums_is_closure i out hg (by rw [hae]; exact hf)
  exact ⟨q, by rw [e, hen], fun c => (hq c).trans ((doc_vocabulary x i hi).2 out.inputsModule c.name)⟩

/-- The set `_fragments_names` may be enumerated in any order: the package does not change. -/
theorem doc_set_order_irrelevant (e : List FragDef → List FragDef) (he : ∀ l, (e l).Perm l) (x : DocInput) :
    generateDocWith false e x = generateDoc x := by
  unfold generateDoc
  rw [generateDocWith_eq, generateDocWith_eq]
  unfold toInputWith
  cases ho : opsOf (kindOf x) x.ops with
  | error err => rfl
  | ok os =>
    simp only
    have := generate_frag_congr
      { inputs := x.inputs, enums := x.enums, ops := os, fragEnums := fragmentsEnumsWith id x.frags (unpackedOf x),
        allInputs := x.allInputs, allEnums := x.allEnums, customOps := x.customOps,
        customInputs := x.customInputs, customEnums := x.customEnums }
      (fragmentsEnumsWith e x.frags (unpackedOf x))
      (fun n => by
        simp only
        rw [mem_fragmentsEnumsWith e he, mem_fragmentsEnumsWith id (fun l => List.Perm.refl l)])
    simp only at this
    rw [this]

/-- C09 for documents, outside the trigger of C09-F1: whenever the unpruned package is produced and
    loads, the pruned one is produced and `Holds`. -/
theorem C09_doc (x : DocInput) (i : Input) (hi : toInput x = .ok i) (outAll : Output)
    (hall : generateDoc (unprunedDoc x) = .ok outAll) (hl : Loads i outAll) (hs : Supported_09 i) :
    ∃ out, generateDoc x = .ok out ∧ Holds i outAll out := by
  obtain ⟨j, hj, hgj⟩ := (generateDoc_ok_iff _ _).mp hall
  rw [toInput_unprunedDoc, hi] at hj
  simp only [Except.ok.injEq] at hj
  subst hj
  obtain ⟨out, hg, hh⟩ := C09_partial i outAll hgj hl hs
  exact ⟨out, (generateDoc_ok_iff x out).mpr ⟨i, hi, hg⟩, hh⟩

/-- The schema's classification agrees with the class tables. -/
def KindsAgree (x : DocInput) : Prop :=
  ∀ p ∈ x.kinds, (p.2 = .input → p.1 ∈ names x.inputs) ∧ (p.2 = .enum → p.1 ∈ enames x.enums)

instance (x : DocInput) : Decidable (KindsAgree x) := by unfold KindsAgree; infer_instance

instance (x : DocInput) : Decidable (VarsTyped x) := by unfold VarsTyped; infer_instance

/-- Two of the side conditions of `Resolvable` are consequences for documents: every root and every
    variable enum is a class of the unpruned modules. -/
theorem doc_roots_defined (x : DocInput) (i : Input) (hi : toInput x = .ok i) (hk : KindsAgree x) :
    (∀ r ∈ varInputsOf i, r ∈ names i.inputs) ∧ (∀ e ∈ varEnumsOf i, e ∈ enames i.enums) := by
  obtain ⟨hin, hen, _⟩ := toInput_fields x i hi
  rw [hin, hen]
  constructor
  · intro r hr
    obtain ⟨_, _, _, _, _, hkr⟩ := (mem_varInputsOf_doc x i hi r).mp hr
    exact (hk _ (mem_kinds_of_kindOf x r .input (by simp) hkr)).1 rfl
  · intro e he
    obtain ⟨_, _, _, _, _, hke⟩ := (mem_varEnumsOf_doc x i hi e).mp he
    exact (hk _ (mem_kinds_of_kindOf x e .enum (by simp) hke)).2 rfl

/-- A closed document description: the kind table agrees with the class tables, the variables are typed,
    and every name an input class, an operation's result types or a fragment definition refers to is a
    class of the unpruned modules (what a schema accepted by graphql-core and validated operations give). -/
def DocResolvable (x : DocInput) : Prop :=
  KindsAgree x ∧ VarsTyped x ∧
  (∀ d ∈ x.inputs, ∀ n ∈ inputRefs d, n ∈ names x.inputs) ∧
  (∀ d ∈ x.inputs, ∀ e ∈ enumRefs d, e ∈ enames x.enums) ∧
  (∀ op ∈ x.ops, ∀ e ∈ op.resultEnums, e ∈ enames x.enums) ∧
  (∀ f ∈ x.frags, ∀ e ∈ f.enums, e ∈ enames x.enums)

instance (x : DocInput) : Decidable (DocResolvable x) := by unfold DocResolvable; infer_instance

theorem doc_resolvable (x : DocInput) (i : Input) (hi : toInput x = .ok i) (h : DocResolvable x) : Resolvable i := by
  obtain ⟨hk, _, h1, h2, h3, h4⟩ := h
  obtain ⟨hin, hen, _⟩ := toInput_fields x i hi
  obtain ⟨hr, hv⟩ := doc_roots_defined x i hi hk
  refine ⟨?_, ?_, hr, hv, ?_, ?_⟩
  · rw [hin]; exact h1
  · rw [hin, hen]; exact h2
  · intro e he
    obtain ⟨op, hop, heo⟩ := (mem_resultEnumsOf_doc x i hi e).mp he
    rw [hen]; exact h3 op hop e heo
  · intro e he
    obtain ⟨f, hf, _, hef⟩ := (mem_fragEnumsOf_doc x i hi e).mp he
    rw [hen]; exact h4 f hf e hef

/-- C09 for closed documents in the default configuration, without any hypothesis about the output:
    for all four flag combinations both packages are produced, the unpruned one is well-scoped, and the
    pruned one loads, holds the closure and nothing else of a pruned kind, identically. -/
theorem C09_doc_closed (x : DocInput) (h : DocResolvable x) (hc : x.customOps = false) :
    ∃ i outAll out, toInput x = .ok i ∧ generateDoc (unprunedDoc x) = .ok outAll ∧ generateDoc x = .ok out ∧
      WellScoped i outAll ∧ Holds i outAll out := by
  obtain ⟨out0, hout0⟩ := doc_total x h.2.1
  obtain ⟨i, hi, _⟩ := (generateDoc_ok_iff x out0).mp hout0
  have hres := doc_resolvable x i hi h
  obtain ⟨outAll, hall⟩ := generate_total (unpruned i)
  have hw' : WellScoped (unpruned i) outAll :=
    resolvable_wellScoped (unpruned i) outAll
      ⟨hres.inputRefs, hres.enumRefs, hres.roots, hres.varEnums, hres.resultEnums, hres.fragEnums⟩ hall
  -- `WellScoped` reads the input only through `varInputsOf`, `varEnumsOf`, `resultEnumsOf`, `fragEnumsOf`, which ignore the two
  -- flags: its fields for `unpruned i` are, as they stand, its fields for `i`
  have hw : WellScoped i outAll :=
    ⟨hw'.inputRefs, hw'.inputEnumsImported, hw'.inputEnumImport, hw'.clientInputsCover, hw'.clientEnumsCover,
      hw'.clientInputs, hw'.clientEnums, hw'.resultEnums, hw'.fragEnums⟩
  have hci : i.customOps = false := by
    obtain ⟨_, _, _, _, hco, _⟩ := toInput_fields x i hi
    rw [hco]; exact hc
  obtain ⟨out, hg, hh⟩ := C09_default i outAll hci hall hw
  refine ⟨i, outAll, out, hi, ?_, (generateDoc_ok_iff x out).mpr ⟨i, hi, hg⟩, hw, hh⟩
  apply (generateDoc_ok_iff _ _).mpr
  refine ⟨unpruned i, ?_, hall⟩
  rw [toInput_unprunedDoc, hi]
  rfl

/-! #### Why `_used_enums` must read the arguments generator after ALL `add_operation` calls -/

/-- `enum E {A}  type Query { f(e: E): Int }   query q($e: [E!]) { f(e: $e) }`, both flags false. -/
def docOrderWitness : DocInput :=
  { kinds := [("E", .enum)], inputs := [], enums := [⟨"E", ""⟩],
    ops := [⟨[.list (.nonNull (.named "E"))], [], []⟩], frags := [], allInputs := false, allEnums := false }

theorem doc_order_real_keeps : generateDoc docOrderWitness = .ok ⟨[], [⟨"E", ""⟩], [], [], ["E"]⟩ := by decide +kernel

/-- A variant that extends `_used_enums` from the shared arguments generator inside `add_operation`,
    before `add_method` parsed the operation's own variables, loses the variable enums of the last
    operation: client.py imports `E`, enums.py does not define it. -/
theorem order_matters_add_operation :
    ∃ out, generateDocWith true id docOrderWitness = .ok out ∧
      "E" ∈ out.clientEnums ∧ "E" ∉ enames out.enumsModule := by
  refine ⟨⟨[], [], [], [], ["E"]⟩, by decide +kernel, by decide +kernel, by decide +kernel⟩

/-- Variables under nested wrappers (`[[In!]!]`, `[E!]`), a scalar variable; `PF` (on a union, no class of its
    own) unpacked by the first operation, `HF` inherited; enum `P` reaches enums.py through the operation
    that unpacked `PF`, `H` through fragments.py, `X` only through the unpacked fragment's own entry:
    pruned. -/
def exDoc : DocInput :=
  { kinds := [("In", .input), ("Dep", .input), ("E", .enum), ("P", .enum), ("H", .enum), ("X", .enum), ("C", .enum),
              ("Int", .scalar), ("Query", .other)],
    inputs := [⟨"In", [.input "Dep"], ""⟩, ⟨"Dep", [.enum "C"], ""⟩, ⟨"Un", [], ""⟩],
    enums := [⟨"E", ""⟩, ⟨"P", ""⟩, ⟨"H", ""⟩, ⟨"X", ""⟩, ⟨"C", ""⟩],
    ops := [⟨[.list (.nonNull (.list (.nonNull (.named "In")))), .named "Int"], ["P"], ["PF"]⟩,
            ⟨[.list (.nonNull (.named "E"))], [], []⟩],
    frags := [⟨"PF", ["X"]⟩, ⟨"HF", ["H"]⟩],
    allInputs := false, allEnums := false }

example : generateDoc exDoc =
    .ok ⟨[⟨"In", [.input "Dep"], ""⟩, ⟨"Dep", [.enum "C"], ""⟩],
         [⟨"E", ""⟩, ⟨"P", ""⟩, ⟨"H", ""⟩, ⟨"C", ""⟩], ["C"], ["In"], ["E"]⟩ := by decide +kernel

example : VarsTyped exDoc := by decide +kernel

example : KindsAgree exDoc := by decide +kernel

example : DocResolvable exDoc ∧ exDoc.customOps = false := by decide +kernel

example : varsUse (kindOf exDoc) [.list (.nonNull (.list (.nonNull (.named "In")))), .named "Int", .nonNull (.named "E")] =
    .ok ⟨["In"], ["E"]⟩ := rfl

/-- the abstraction `exDoc` amounts to -/
def exDocInput : Input :=
  { inputs := exDoc.inputs, enums := exDoc.enums, ops := [⟨["In"], [], ["P"]⟩, ⟨[], ["E"], []⟩], fragEnums := some ["H"],
    allInputs := false, allEnums := false }

example : toInput exDoc = .ok exDocInput := rfl

/-- the hypotheses of `C09_doc` are satisfiable: the unpruned package of `exDoc` loads -/
example : ∃ outAll, generateDoc (unprunedDoc exDoc) = .ok outAll ∧ Loads exDocInput outAll ∧ Supported_09 exDocInput := by
  refine ⟨⟨exDoc.inputs, exDoc.enums, ["C"], ["In"], ["E"]⟩, by decide +kernel, ⟨⟨?_, ?_, ?_, ?_, ?_, ?_, ?_, ?_, ?_⟩, ?_⟩, by decide +kernel⟩ <;>
    simp [exDocInput, exDoc, varInputsOf, varEnumsOf, resultEnumsOf, fragEnumsOf, names, enames, CustomLoads,
      Prune.inputRefs, Prune.enumRefs]

/-- every fragment unpacked: fragments.py is not written -/
example : (toInput { exDoc with frags := [⟨"PF", ["X"]⟩] }).toOption.map (·.fragEnums) = some none := by decide +kernel

/-- a variable of object type is refused, pruned or not -/
example : generateDoc { exDoc with ops := [⟨[.named "Query"], [], []⟩] } = .error (.argIncorrect "Query") := by decide +kernel

/-- `doc_set_order_irrelevant` is not vacuous: the reversed enumeration -/
example : generateDocWith false List.reverse exDoc = generateDoc exDoc := by decide +kernel

end Doc

end Ariadne.C09
