/-
  C02 — The document sent is the document written.

  "For every operation, the query text its generated client method hands to the transport parses, is
   valid against the user's schema under the full specification rule set, and is sent with an
   operationName naming its single operation.  After undoing the two documented rewrites (automatic
   __typename in abstract selections, removal of the codegen-only @mixin directive) it is AST-equal to
   the authored operation followed by exactly the fragment definitions reachable from it; no string
   literal, argument, alias, directive, default value or variable definition is altered."

  Two models carry the statement (DESIGN.md §3 C02):

  * `Model/OpText.lean`  — the DOCUMENT that `get_operation_as_str` prints for an operation, produced by
    `addOperation` on top of the result-type generator's state (`Model/ResultTypes.lean`);
  * `Model/Embed.lean` + `Spec/PyStr.lean` — the STRING pipeline from the printed text to the value of
    the `"""…"""` literal in the generated client (what the transport receives).

  The property is FALSE on the pinned tree:
    - document side: `C02_full_false` (finding C02-F6: `@mixin` stays on a sent fragment definition) and
      `C02_full_false_dropped_spread` (finding C02-F7: a reachable fragment is not sent);
    - text side, inside the model: `C02_full_false_escN` (findings C02-F2/F3: a backslash-`n` pair inside a line
      becomes a line continuation of the emitted Python literal) and `C02_full_false_lineSep` (C02-F8: U+2028 and the
      other `str.splitlines` separators become line breaks).  On every text without `'` and `"""` the model is exact
      and `embed_described` says in closed form what the transport receives;
    - text side, outside the model: the regions `quote` and `blockString` (findings C02-F1, F4, F5).  There the outcome
      is decided by the backtracking of two regexes over Python source whose quotes no longer pair up and by whether
      Python's / black's parser accepts the damaged module; the model answers `.unmodelled`, the findings are demonstrated
      on the real code by the harness on every run, and NO theorem is claimed for them (DESIGN.md §1.2, Model/Embed.lean).
  What holds is `C02_partial`: outside the triggers (`Supported_02` for the document, `trigger q = none` for the text) and
  with no further hypothesis.  That the generator registers only reachable fragments is the theorem
  `generator_state_sound`, proved for every environment, fuel, operation and `marksIn` by induction over the run of
  `_parse_type_definition` (Proofs/C08Runs.lean) and the fuel of `_resolve_selection_set` (Proofs/C08Acyclic.lean
  `runs_low`, `resolve_low`; last section of Proofs/OpText.lean).  It is a statement about ONE `ResultTypesGenerator`: `_fragments_used_as_mixins` and
  `_unpacked_fragments` are attributes initialised to `set()` in `__init__`, and `PackageGenerator.add_operation`
  constructs a fresh generator per operation — only the `__typename` insertions (`marksIn`) survive between operations.

  The theorems here carry the names MANIFEST.json and DESIGN.md cite; many are one-line readings of a lemma of Proofs/OpText.lean,
  Proofs/Embed*.lean or Proofs/GqlLex.lean, where the work is.

  Not in this file: graphql-core's `print_ast`/`parse` between the two models (observed by the harness),
  black/isort/autoflake on the emitted module.  "Re-indentation does not change the GraphQL parse" is proved at
  token level (`indent_invariant`, over the reference lexer of Spec/GqlLex.lean) and observed at AST level by the oracle.
-/
import AriadneModel.Proofs.OpText
import AriadneModel.Proofs.Embed
import AriadneModel.Proofs.EmbedBN
import AriadneModel.Proofs.EmbedExact
import AriadneModel.Proofs.GqlLex


namespace Ariadne.C02
open Ariadne Ariadne.Gql Ariadne.Util Ariadne.ResultTypes Ariadne.OpText Ariadne.Embed Ariadne.PyStr
open Ariadne.OpTextProofs Ariadne.EmbedProofs Ariadne.GqlLex

/-- What operation validation at load time (`get_graphql_queries`: `validate` against the schema with the
    injected `@mixin(from, import) repeatable on FIELD | FRAGMENT_DEFINITION`) guarantees and the theorems use:
    `@mixin` stands only where that directive may stand. -/
structure Valid (env : Env) (o : Operation) : Prop where
  opSel : mixinPlacedSels o.sel = true
  fragSel : ∀ n f, findFragment? env.frags n = some f → mixinPlacedSels f.sel = true
  opDirs : o.dirs.any isMixin = false

/-- `_get_all_related_fragments()` for a generator state (`[]` when the Python code raises) -/
def relatedOf (env : Env) (fuel : Nat) (st : St) : List String :=
  match relatedFragments env.frags fuel st.mixins st.unpacked with
  | .ok r => r
  | .error _ => []

/-- trigger of finding C02-F6 -/
def trigMixinOnFragDef (env : Env) (fuel : Nat) (st : St) : Bool := mixinOnSentFragment env.frags (relatedOf env fuel st)
/-- trigger of finding C02-F7 -/
def trigDroppedSpread (env : Env) (fuel : Nat) (o : Operation) (st : St) : Bool :=
  droppedSpread env.frags o st.unpacked (relatedOf env fuel st)

/-- the theorem region of the document clause: neither trigger fires (C02-F6: `@mixin` on a sent fragment definition; C02-F7: a
    dropped spread).  The plain complement of the triggers, so theorem region ∪ finding regions = all inputs by definition -/
def Supported_02 (env : Env) (fuel : Nat) (o : Operation) (st : St) : Prop :=
  ¬ (trigMixinOnFragDef env fuel st = true ∨ trigDroppedSpread env fuel o st = true)

/-- the generator state mentions only fragments reachable from the operation (the Boolean `stateSound` of the driver,
    compared with the real generator's sets on every correspondence case); `generator_state_sound` proves it for every
    run of the generator. -/
def StateSound (env : Env) (o : Operation) (st : St) : Prop :=
  ∀ m, m ∈ st.mixins ∨ m ∈ st.unpacked → Reach env.frags o.sel m

/-- The document clause of the property for one operation: `d` is what is sent, `st` the generator state. -/
structure DocOK (env : Env) (o : Operation) (d : Doc) (st : St) : Prop where
  /-- `operationName` names the single operation of the document (`Doc` has exactly one by construction) -/
  opName : sentOperationName o = d.op.name ∧ d.op.name = o.name
  /-- fragment definitions: each once, in sorted order … -/
  sorted : (d.frags.map (·.name)).Pairwise (· < ·)
  /-- … and exactly the ones reachable from the operation -/
  exact : ∀ n, n ∈ d.frags.map (·.name) ↔ Reach env.frags o.sel n
  /-- after undoing the rewrites the operation is the authored one -/
  opEq : undoOp st.marks d.op = expectedOp o
  /-- … and so is every fragment definition -/
  fragEq : ∀ f' ∈ d.frags, ∃ f, findFragment? env.frags f'.name = some f ∧ undoFrag st.marks f' = expectedFrag f

/-- text clause: the transport receives the printed text, re-indented, character for character (`expectedText`:
    only `\n` ends a line; every character of every line is kept).
    (Texts of at least two lines: a printed operation has at least three, and `format_multiline_strings` only
    rewrites two or more adjacent constants — the model is validated on that domain.) -/
def TextOK (env : Char → Bool) (vi off : Nat) (q : List Char) : Prop :=
  sentText env vi off q = some (expectedText (vi + off) q)

/-- The property at full strength (both clauses, every input). -/
def C02_full : Prop :=
  (∀ (env : Env) (fuel : Nat) (o : Operation) (marksIn : List Nat) (d : Doc) (st : St),
      Valid env o → addOperation env fuel o marksIn = .ok (d, st) → DocOK env o d st)
  ∧ (∀ (penv : Char → Bool) (vi off : Nat) (q : List Char), 2 ≤ (splitlines q).length → TextOK penv vi off q)

/-- `_get_fragments_names(selection_set)` is exactly the set of fragments reachable from the selection set through
    the spread graph (all inputs; DFS-closure induction over the fuel). -/
theorem fragment_names_iff_reachable (frags : List Fragment) (fuel : Nat) (sels : List Selection) (L : List String)
    (h : fragNames frags fuel sels = .ok L) (n : String) : n ∈ L ↔ Reach frags sels n :=
  fragNames_iff frags fuel sels L h n

/-- `closure_sound` (all inputs): what `_get_all_related_fragments` adds to the generator's sets is reachable —
    the related set is within the reachable set as soon as the generator's own sets are. -/
theorem closure_sound (frags : List Fragment) (fuel : Nat) (sels : List Selection) (mixins unpacked related : List String)
    (h : relatedFragments frags fuel mixins unpacked = .ok related)
    (hst : ∀ m, m ∈ mixins ∨ m ∈ unpacked → Reach frags sels m) :
    ∀ n ∈ related, Reach frags sels n := by
  intro n hn
  rcases (related_iff frags fuel mixins unpacked related h n).mp hn with hn | hn | ⟨m, hm, f, hf, hr⟩
  · exact hst n (Or.inl hn)
  · exact hst n (Or.inr hn)
  · exact reach_step (hst m (Or.inl hm)) hf hr

/-- `closure_complete`: no dropped spread ⇒ every reachable fragment is related. -/
theorem closure_complete (frags : List Fragment) (fuel : Nat) (o : Operation) (mixins unpacked related : List String)
    (h : relatedFragments frags fuel mixins unpacked = .ok related)
    (hnd : droppedSpread frags o unpacked related = false) :
    ∀ n, Reach frags o.sel n → n ∈ related := by
  intro n hn
  have hiff := related_iff frags fuel mixins unpacked related h
  simp only [droppedSpread, Bool.not_eq_false', Bool.and_eq_true, List.all_eq_true] at hnd
  obtain ⟨h0, hu⟩ := hnd
  have h0' := (subset_iff _ _).mp h0
  refine reach_of_closed h0' ?_ hn
  intro a ha b hab
  obtain ⟨fa, hfa, hb⟩ := hab
  rcases (hiff a).mp ha with ha | ha | ⟨m, hm, f, hf, hr⟩
  · exact (hiff b).mpr (Or.inr (Or.inr ⟨a, ha, fa, hfa, ⟨b, hb, .refl⟩⟩))
  · have := hu a ha
    rw [hfa] at this
    exact (subset_iff _ _).mp this b hb
  · obtain ⟨r, hr0, hp⟩ := hr
    exact (hiff b).mpr (Or.inr (Or.inr ⟨m, hm, f, hf, ⟨r, hr0, hp.tail ⟨fa, hfa, hb⟩⟩⟩))

/-- Fuel is a proof device only: once `_get_fragments_names` answers, every larger fuel gives the same answer
    (the drivers' large constant is immaterial; exhaustion models Python's RecursionError on a spread cycle). -/
theorem fuel_irrelevant (frags : List Fragment) (fuel fuel' : Nat) (hle : fuel ≤ fuel') (sels : List Selection) (L : List String)
    (h : fragNames frags fuel sels = .ok L) : fragNames frags fuel' sels = .ok L :=
  fragNames_mono_le frags fuel fuel' hle sels L h

/-- The finding region of C02-F7 is exactly the failure region: (given that the state is sound — `generator_state_sound`) a spread was dropped iff a
    reachable fragment is missing from what is sent. -/
theorem dropped_iff_missing (frags : List Fragment) (fuel : Nat) (o : Operation) (mixins unpacked related : List String)
    (h : relatedFragments frags fuel mixins unpacked = .ok related)
    (hst : ∀ m, m ∈ mixins ∨ m ∈ unpacked → Reach frags o.sel m) :
    droppedSpread frags o unpacked related = true ↔ ∃ n, Reach frags o.sel n ∧ n ∉ related := by
  constructor
  · intro hd
    rcases (droppedSpread_eq_true_iff frags o unpacked related).mp hd with ⟨x, hx, hnx⟩ | ⟨u, hu, fu, hf, x, hx, hnx⟩
    · exact ⟨x, ⟨x, hx, .refl⟩, hnx⟩
    · exact ⟨x, reach_step (hst u (Or.inr hu)) hf ⟨x, hx, .refl⟩, hnx⟩
  · rintro ⟨n, hn, hnr⟩
    cases hd : droppedSpread frags o unpacked related with
    | true => rfl
    | false => exact absurd (closure_complete frags fuel o mixins unpacked related h hd n hn) hnr

/-- `closure_walks_through_registered` (all inputs): the walk below an inherited fragment does not stop at a fragment the
    generator has registered already.  Whatever an inherited fragment `m` reaches — in particular a fragment `u` that was
    UNPACKED at another position of the operation, where part of it was not followed (an inline fragment on a sibling
    type, a spread on an overlapping interface) — is walked in full: every spread written in `u` is in the related set.
    (A walk that marks the registered names as visited loses exactly these spreads.) -/
theorem closure_walks_through_registered (frags : List Fragment) (fuel : Nat) (mixins unpacked related : List String)
    (h : relatedFragments frags fuel mixins unpacked = .ok related)
    (m : String) (hm : m ∈ mixins) (fm : Fragment) (hfm : findFragment? frags m = some fm)
    (u : String) (hu : Reach frags fm.sel u) (fu : Fragment) (hfu : findFragment? frags u = some fu) :
    u ∈ related ∧ ∀ x ∈ directSels fu.sel, x ∈ related := by
  have hiff := related_iff frags fuel mixins unpacked related h
  refine ⟨(hiff u).mpr (Or.inr (Or.inr ⟨m, hm, fm, hfm, hu⟩)), ?_⟩
  intro x hx
  obtain ⟨r, hr, hp⟩ := hu
  exact (hiff x).mpr (Or.inr (Or.inr ⟨m, hm, fm, hfm, ⟨r, hr, hp.tail ⟨fu, hfu, hx⟩⟩⟩))

/-- The region of finding C02-F7 is no wider than the defect: when `droppedSpread` fires, the spread whose fragment is
    missing is written in the operation itself, or in an unpacked fragment that NO inherited fragment reaches.  A spread
    the generator skipped where a fragment was unpacked, but which the closure walk meets below an inherited fragment,
    is outside the trigger (the unchanged code sends its fragment). -/
theorem dropped_only_outside_walk (frags : List Fragment) (fuel : Nat) (o : Operation) (mixins unpacked related : List String)
    (h : relatedFragments frags fuel mixins unpacked = .ok related)
    (hd : droppedSpread frags o unpacked related = true) :
    (∃ x ∈ directSels o.sel, x ∉ related)
    ∨ ∃ u ∈ unpacked, ∃ fu, findFragment? frags u = some fu ∧ (∃ x ∈ directSels fu.sel, x ∉ related)
        ∧ ∀ m ∈ mixins, ∀ fm, findFragment? frags m = some fm → ¬ Reach frags fm.sel u := by
  rcases (droppedSpread_eq_true_iff frags o unpacked related).mp hd with h | ⟨u, hu, fu, hf, x, hx, hnx⟩
  · exact Or.inl h
  · refine Or.inr ⟨u, hu, fu, hf, ⟨x, hx, hnx⟩, fun m hm fm hfm hreach => ?_⟩
    exact hnx ((closure_walks_through_registered frags fuel mixins unpacked related h m hm fm hfm u hreach fu hf).2 x hx)

/-- **`generator_state_sound`**: for every environment, fuel, operation and
    generator history `marksIn`, the `ResultTypesGenerator` constructed for operation `o` registers — in
    `_fragments_used_as_mixins` and in `_unpacked_fragments` — only fragments reachable from `o`'s selection set through
    the spread graph.  Induction over the run of `_parse_type_definition` / `_parse_field_selection_set_types`
    (Proofs/C08Runs.lean) and the fuel of `_resolve_selection_set` (last section of Proofs/OpText.lean
    `generate_registers_reachable`); the sets are per generator object, i.e. per operation. -/
theorem generator_state_sound (env : Env) (fuel : Nat) (o : Operation) (marksIn : List Nat) (d : Doc) (st : St)
    (h : addOperation env fuel o marksIn = .ok (d, st)) : StateSound env o st := by
  obtain ⟨out, hg, rfl, _⟩ := addOperation_ok_iff.mp h
  exact generate_registers_reachable env fuel (.op o) marksIn out hg

/-- the same for the generator `FragmentsGenerator` constructs for a fragment definition (relative to the fragment's
    own selection set) -/
theorem fragment_generator_state_sound (env : Env) (fuel : Nat) (f : Fragment) (marksIn : List Nat) (out : ModuleOut)
    (h : generate env fuel (.frag f) marksIn = .ok out) :
    ∀ m, m ∈ out.st.mixins ∨ m ∈ out.st.unpacked → Reach env.frags f.sel m :=
  generate_registers_reachable env fuel (.frag f) marksIn out h

/-- `sent_doc_shape`: the document sent for an operation is `op' :: (sorted related).map frag'` with
    `x' = addTypename (stripFieldMixin x)`: one operation, named by `operationName`; every related fragment once,
    in sorted order; and — for a valid operation outside the two triggers, with no further hypothesis — after undoing the two rewrites it is the
    authored operation followed by exactly the reachable fragment definitions. -/
theorem sent_doc_shape (env : Env) (fuel : Nat) (o : Operation) (marksIn : List Nat) (d : Doc) (st : St)
    (hv : Valid env o) (h : addOperation env fuel o marksIn = .ok (d, st))
    (hs : Supported_02 env fuel o st) : DocOK env o d st := by
  have hp : StateSound env o st := generator_state_sound env fuel o marksIn d st h
  obtain ⟨_, _, _, hd⟩ := addOperation_ok_iff.mp h
  obtain ⟨related, fs, hr, hl, rfl⟩ := sentDoc_ok_iff.mp hd
  have hrel : relatedOf env fuel st = related := by simp [relatedOf, hr]
  have hmix : mixinOnSentFragment env.frags related = false := by
    cases hm : mixinOnSentFragment env.frags related with
    | false => rfl
    | true => exact absurd (Or.inl (by simp [trigMixinOnFragDef, hrel, hm])) hs
  have hdrop : droppedSpread env.frags o st.unpacked related = false := by
    cases hm : droppedSpread env.frags o st.unpacked related with
    | false => rfl
    | true => exact absurd (Or.inr (by simp [trigDroppedSpread, hrel, hm])) hs
  have hall := lookupAll_spec env.frags st.marks _ _ hl
  have hnames := forall2_names hall
  obtain ⟨hsorted, hmem⟩ := sentNames_spec related
  refine ⟨⟨rfl, rfl⟩, ?_, ?_, ?_, ?_⟩
  · simpa [hnames] using hsorted
  · intro n
    simp only [hnames, hmem]
    constructor
    · exact closure_sound env.frags fuel o.sel st.mixins st.unpacked related hr hp n
    · exact closure_complete env.frags fuel o st.mixins st.unpacked related hr hdrop n
  · simp only [undoOp, sentOp, expectedOp, undo_sentSet st.marks o.sid o.sel hv.opSel, filter_noMixin o.dirs hv.opDirs]
  · intro f' hf'
    have : ∀ (ns : List String) (gs : List Fragment),
        List.Forall₂ (fun n g' => ∃ g, findFragment? env.frags n = some g ∧ g' = sentFrag st.marks g) ns gs →
        (∀ n ∈ ns, n ∈ related) → ∀ g' ∈ gs, ∃ g, findFragment? env.frags g'.name = some g ∧ g' = sentFrag st.marks g ∧ g.name ∈ related := by
      intro ns gs hfa
      induction hfa with
      | nil => intro _ g' hg'; cases hg'
      | cons hx _ ih =>
        intro hsub g' hg'
        rcases List.mem_cons.mp hg' with rfl | hg'
        · obtain ⟨g, hg, rfl⟩ := hx
          have hn := findFragment_name hg
          refine ⟨g, ?_, rfl, ?_⟩
          · simpa [sentFrag, hn] using hg
          · rw [hn]; exact hsub _ (by simp)
        · exact ih (fun n hn => hsub n (by simp [hn])) g' hg'
    obtain ⟨f, hf, rfl, hfr⟩ := this _ _ hall (fun n hn => (hmem n).mp hn) f' hf'
    refine ⟨f, hf, ?_⟩
    have hname : findFragment? env.frags f.name = some f := by simpa [sentFrag] using hf
    have hnomix : f.dirs.any isMixin = false := by
      simp only [mixinOnSentFragment, List.any_eq_false] at hmix
      have := hmix f.name hfr
      rw [hname] at this
      simpa using this
    simp only [undoFrag, sentFrag, expectedFrag, undo_sentSet st.marks f.sid f.sel (hv.fragSel _ _ hname), filter_noMixin f.dirs hnomix]

/-- `embed_safe` on the line list: from the literal emitted for safe lines Python reads back a newline, the lines re-indented,
    and the indentation of the closing quotes -/
theorem embed_safe_lines (penv : Char → Bool) (vi off : Nat) (ls : List (List Char)) (hne : ls ≠ [])
    (h : ∀ l ∈ ls, SafeLine l) :
    evalTripleQuoted (convert vi off (unparseConsts penv (ls.map (· ++ ['\n']))))
      = some ('\n' :: (indentLines (vi + off) ls ++ List.replicate (vi + off) ' ')) :=
  embed_lines penv vi off ls hne h

/-- `embed_safe`: for every operation text outside the four text triggers — in particular with `"`, `#`, `=`,
    backslash escapes other than `\n`, any Unicode, printable or not — and for every `isprintable` environment,
    Python reads back from the emitted triple-quoted literal
        "\n" ++ (every line, indented unless blank) ++ (indentation of the closing quotes). -/
theorem embed_safe (penv : Char → Bool) (vi off : Nat) (q : List Char) (ht : trigger q = none) (hne : splitlines q ≠ []) :
    TextOK penv vi off q := by
  unfold TextOK
  rw [embed_text penv vi off q ht hne, expectedSent_eq_expectedText _ q (trigger_none q ht).2.2.2]

/-- `indent_invariant`: re-indentation keeps the GraphQL tokens (reference lexer of
    Spec/GqlLex.lean — line-local, no block strings; validated against graphql-core's lexer on every run). -/
theorem indent_invariant (k : Nat) (q : List Char) : lexText (expectedSent k q) = lexText q :=
  GqlLexProofs.indent_invariant k q

/-- the text clause at token level: outside the text triggers the transport receives a text with exactly the
    tokens of the printed operation (same names, punctuators, numbers and raw string literals, in order). -/
theorem sent_tokens (penv : Char → Bool) (vi off : Nat) (q : List Char) (ht : trigger q = none) (hne : splitlines q ≠ []) :
    ∃ s, sentText penv vi off q = some s ∧ lexText s = lexText q :=
  ⟨expectedSent (vi + off) q, embed_text penv vi off q ht hne, indent_invariant (vi + off) q⟩

/-- **`embed_described`**: what the rewriter does, exactly, on EVERY text without `'` and `"""` — safe or inside the
    finding regions `escN` / `lineSep`, for every `isprintable` environment and both embeddings (`vi`, `off`): the
    transport receives `describedSent`: a leading newline; per `str.splitlines` line, the line cut at its backslash-`n`
    pairs with every segment indented (the last one unless blank) and the pairs gone; the indentation of the closing
    quotes.  (A separator other than `\n` has become a line break; `\n` inside a literal has become indentation.) -/
theorem embed_described (penv : Char → Bool) (vi off : Nat) (q : List Char) (htq : hasTQ q = false) (hq : hasQuote q = false)
    (hne : splitlines q ≠ []) : sentText penv vi off q = some (describedSent (vi + off) q) :=
  embed_described_text penv vi off q htq hq hne

/-- **`text_clause_iff`**: the finding regions `escN` (C02-F2, F3) and `lineSep` (C02-F8) are exactly the failure region
    of the text clause among the texts the model answers on: a text without `'` and `"""` reaches the transport
    character for character IF AND ONLY IF it is outside every text trigger.  (Counting argument, Proofs/EmbedExact.lean:
    the rewriter adds only blanks and newlines, a backslash-`n` pair costs two other characters, a separator one.) -/
theorem text_clause_iff (penv : Char → Bool) (vi off : Nat) (q : List Char) (htq : hasTQ q = false) (hq : hasQuote q = false)
    (hne : splitlines q ≠ []) : TextOK penv vi off q ↔ trigger q = none := by
  constructor
  · intro h
    unfold TextOK at h
    rw [embed_described penv vi off q htq hq hne, Option.some.injEq] at h
    obtain ⟨hb, he⟩ := described_eq_expected (vi + off) q h
    simp [trigger, htq, hq, hb, he]
  · intro ht
    exact embed_safe penv vi off q ht hne

/-- inside the regions `quote` and `blockString` the model declines (no claim is made there; DESIGN.md §1.2) -/
theorem embed_unmodelled (penv : Char → Bool) (vi off : Nat) (q : List Char) (t : Trig) (ht : trigger q = some t)
    (hd : t.declined = true) : sentText penv vi off q = none := by
  cases t <;> simp [Trig.declined] at hd <;> simp [sentText, embed, ht]

def wQuery : TypeDef := { name := "Query", kind := .object, fields := [{ name := "me", type := TypeRef.named "User" }, { name := "node", type := TypeRef.named "Node" }] }
def wNode : TypeDef := { name := "Node", kind := .interface, fields := [{ name := "id", type := TypeRef.nonNull (TypeRef.named "ID") }] }
def wNamed : TypeDef := { name := "Named", kind := .interface, fields := [{ name := "name", type := TypeRef.named "String" }] }
def wUser : TypeDef :=
  { name := "User", kind := .object, interfaces := ["Node", "Named"],
    fields := [{ name := "id", type := TypeRef.nonNull (TypeRef.named "ID") }, { name := "name", type := TypeRef.named "String" }] }
def wSchema : Schema := Schema.mk [wQuery, wNode, wNamed, wUser] (some "Query") none none

/-- finding C02-F6: `query Q { me { ...F } }  fragment F on User @mixin(from: "abc", import: "ABC") { id }` -/
def wF6Frag : Fragment :=
  { name := "F", on := "User", dirs := [{ name := "mixin", args := [("from", some "abc"), ("import", some "ABC")] }], sid := 3,
    sel := [.field none "id" [] 0 []] }
def wF6Op : Operation := { kind := .query, name := some "Q", sid := 1, sel := [.field none "me" [] 2 [.spread "F" []]] }
def wF6Env : Env := { schema := wSchema, frags := [wF6Frag] }

/-- finding C02-F7: `query Q { node { id ...F } }  fragment F on Named { name }` -/
def wF7Frag : Fragment := { name := "F", on := "Named", sid := 3, sel := [.field none "name" [] 0 []] }
def wF7Op : Operation :=
  { kind := .query, name := some "Q", sid := 1, sel := [.field none "node" [] 2 [.field none "id" [] 0 [], .spread "F" []]] }
def wF7Env : Env := { schema := wSchema, frags := [wF7Frag] }

def sentHasMixinFragment : Except GenErr (Doc × St) → Bool
  | .ok (d, _) => d.frags.any fun f => f.dirs.any isMixin
  | .error _ => false

def sentFragmentNames : Except GenErr (Doc × St) → Option (List String)
  | .ok (d, _) => some (d.frags.map (·.name))
  | .error _ => none

/-- finding C02-F2: `query Q {⏎  echo(s: "a\nb")⏎}` (the GraphQL escape backslash-`n` inside a string literal) -/
def wEscN : List Char := "query Q {\n  echo(s: \"a\\nb\")\n}".toList
/-- finding C02-F3: an escaped backslash followed by `n`: `"a\\nb"` -/
def wEscBsN : List Char := "query Q {\n  echo(s: \"a\\\\nb\")\n}".toList
/-- finding C02-F8: U+2028 inside a string literal (printed raw by `print_ast`) -/
def wLineSep : List Char := "query Q {\n  echo(s: \"a".toList ++ [Char.ofNat 0x2028] ++ "b\")\n}".toList

/-- a supported operation with a nested, shared fragment graph and an automatic `__typename` -/
def exFragA : Fragment := { name := "A", on := "User", sid := 4, sel := [.field none "id" [] 0 [], .spread "B" []] }
def exFragB : Fragment := { name := "B", on := "User", sid := 5, sel := [.field none "name" [] 0 []] }
def exOp : Operation :=
  { kind := .query, name := some "Q", sid := 1,
    sel := [.field none "me" [{ name := "mixin", args := [("from", some "abc"), ("import", some "ABC")] }] 2 [.spread "A" []],
            .field none "node" [] 3 [.field none "id" [] 0 []]] }
def exEnv : Env := { schema := wSchema, frags := [exFragB, exFragA] }

def exSummary : Except GenErr (Doc × St) → Option (List String × List Nat × List String × List String × Bool × Bool)
  | .ok (d, st) => some (d.frags.map (·.name), st.marks, st.mixins, st.unpacked,
      mixinOnSentFragment exEnv.frags (relatedOf exEnv 20 st), droppedSpread exEnv.frags exOp st.unpacked (relatedOf exEnv 20 st))
  | .error _ => none

/-- TWO PATHS to one fragment (regression: seeded change `C02-related-fragments-visited-once`; corpus
    `ok_two_paths_sibling_inline.json`):
      query GetLibrary { featured { ...ItemParts } shelf { ...ShelfParts } }
      fragment ShelfParts on Shelf { id items { ...ItemParts } }
      fragment ItemParts on Item { id ... on Film { ...FilmParts } }      fragment FilmParts on Film { director }
    `ItemParts` is unpacked at the `Book` position (the inline fragment on `Film` is skipped: `FilmParts` is registered
    nowhere) and reached again below the inherited `ShelfParts`. -/
def tpQuery : TypeDef :=
  { name := "Query", kind := .object,
    fields := [{ name := "shelf", type := TypeRef.nonNull (TypeRef.named "Shelf") }, { name := "featured", type := TypeRef.nonNull (TypeRef.named "Book") }] }
def tpShelf : TypeDef :=
  { name := "Shelf", kind := .object,
    fields := [{ name := "id", type := TypeRef.nonNull (TypeRef.named "ID") },
               { name := "items", type := TypeRef.nonNull (TypeRef.list (TypeRef.nonNull (TypeRef.named "Item"))) }] }
def tpItem : TypeDef := { name := "Item", kind := .interface, fields := [{ name := "id", type := TypeRef.nonNull (TypeRef.named "ID") }] }
def tpBook : TypeDef :=
  { name := "Book", kind := .object, interfaces := ["Item"],
    fields := [{ name := "id", type := TypeRef.nonNull (TypeRef.named "ID") }, { name := "title", type := TypeRef.nonNull (TypeRef.named "String") }] }
def tpFilm : TypeDef :=
  { name := "Film", kind := .object, interfaces := ["Item"],
    fields := [{ name := "id", type := TypeRef.nonNull (TypeRef.named "ID") }, { name := "director", type := TypeRef.nonNull (TypeRef.named "String") }] }
def tpSchema : Schema := Schema.mk [tpQuery, tpShelf, tpItem, tpBook, tpFilm] (some "Query") none none
def tpShelfParts : Fragment :=
  { name := "ShelfParts", on := "Shelf", sid := 4, sel := [.field none "id" [] 0 [], .field none "items" [] 5 [.spread "ItemParts" []]] }
def tpItemParts : Fragment :=
  { name := "ItemParts", on := "Item", sid := 6, sel := [.field none "id" [] 0 [], .inline (some "Film") [] 7 [.spread "FilmParts" []]] }
def tpFilmParts : Fragment := { name := "FilmParts", on := "Film", sid := 8, sel := [.field none "director" [] 0 []] }
def tpOp : Operation :=
  { kind := .query, name := some "GetLibrary", sid := 1,
    sel := [.field none "featured" [] 2 [.spread "ItemParts" []], .field none "shelf" [] 3 [.spread "ShelfParts" []]] }
def tpEnv : Env := { schema := tpSchema, frags := [tpShelfParts, tpItemParts, tpFilmParts] }

def tpSummary : Except GenErr (Doc × St) → Option (List String × List String × List String × Bool)
  | .ok (d, st) => some (d.frags.map (·.name), st.mixins, st.unpacked, droppedSpread tpEnv.frags tpOp st.unpacked (relatedOf tpEnv 20 st))
  | .error _ => none

/-- What the kernel evaluates on the concrete inputs of this file, in one declaration: every evaluation that converts a name decodes
    the keyword tables of `Model/Names.lean`, and the kernel shares work only inside one declaration.  The lemmas named after the
    inputs are its components. -/
theorem evaluated :
    (sentHasMixinFragment (addOperation wF6Env 20 wF6Op []) = true) ∧
    (sentFragmentNames (addOperation wF7Env 20 wF7Op []) = some []) ∧
    ((hasTQ wEscN = false ∧ hasQuote wEscN = false ∧ splitlines wEscN ≠ []) ∧
      2 ≤ (splitlines wEscN).length ∧ trigger wEscN = some .escN) ∧
    ((hasTQ wEscBsN = false ∧ hasQuote wEscBsN = false ∧ splitlines wEscBsN ≠ []) ∧
      trigger wEscBsN = some .escN) ∧
    ((hasTQ wLineSep = false ∧ hasQuote wLineSep = false ∧ splitlines wLineSep ≠ []) ∧
      2 ≤ (splitlines wLineSep).length ∧ trigger wLineSep = some .lineSep) ∧
    ((exSummary (addOperation exEnv 20 exOp [])).map (fun t => (t.1, t.2.1, t.2.2.1)) = some (["A", "B"], [3], ["A"]) ∧
      (exSummary (addOperation exEnv 20 exOp [])).map (fun t => t.2.2.2) = some ([], false, false)) ∧
    (tpSummary (addOperation tpEnv 20 tpOp []) = some (["FilmParts", "ItemParts", "ShelfParts"], ["ShelfParts"], ["ItemParts"], false)) := by
  decide +kernel

theorem wF6_sent : sentHasMixinFragment (addOperation wF6Env 20 wF6Op []) = true := evaluated.1

theorem wF7_sent : sentFragmentNames (addOperation wF7Env 20 wF7Op []) = some [] := evaluated.2.1

theorem wF6_valid : Valid wF6Env wF6Op := by
  refine ⟨by decide +kernel, ?_, by decide +kernel⟩
  intro n f hf
  have : f ∈ wF6Env.frags := List.mem_of_find?_eq_some hf
  simp only [wF6Env, List.mem_singleton] at this
  subst this
  decide +kernel

theorem wF7_valid : Valid wF7Env wF7Op := by
  refine ⟨by decide +kernel, ?_, by decide +kernel⟩
  intro n f hf
  have : f ∈ wF7Env.frags := List.mem_of_find?_eq_some hf
  simp only [wF7Env, List.mem_singleton] at this
  subst this
  decide +kernel

/-- The property is false (finding C02-F6): a fragment definition carrying `@mixin` is sent with the directive,
    so undoing the documented rewrites does not give the authored document without `@mixin` (and the user's
    schema does not know the directive). -/
theorem C02_full_false : ¬ C02_full := by
  intro hfull
  have hw := wF6_sent
  cases h : addOperation wF6Env 20 wF6Op [] with
  | error e => rw [h] at hw; simp [sentHasMixinFragment] at hw
  | ok p =>
    obtain ⟨d, st⟩ := p
    rw [h] at hw
    simp only [sentHasMixinFragment, List.any_eq_true] at hw
    obtain ⟨f', hf', dir, hdir, hm⟩ := hw
    obtain ⟨f, _, he⟩ := (hfull.1 wF6Env 20 wF6Op [] d st wF6_valid h).fragEq f' hf'
    have hd : f'.dirs = f.dirs.filter (!isMixin ·) := by
      have := congrArg Fragment.dirs he
      simpa [undoFrag, expectedFrag] using this
    rw [hd, List.mem_filter] at hdir
    simp [hm] at hdir

/-- The property is false also through finding C02-F7: the fragment `F` is reachable from the operation (the
    spread is printed) but its definition is not sent. -/
theorem C02_full_false_dropped_spread : ¬ C02_full := by
  intro hfull
  have hw := wF7_sent
  cases h : addOperation wF7Env 20 wF7Op [] with
  | error e => rw [h] at hw; simp [sentFragmentNames] at hw
  | ok p =>
    obtain ⟨d, st⟩ := p
    rw [h] at hw
    simp only [sentFragmentNames, Option.some.injEq] at hw
    have hr : Reach wF7Env.frags wF7Op.sel "F" := ⟨"F", by decide +kernel, .refl⟩
    have := ((hfull.1 wF7Env 20 wF7Op [] d st wF7_valid h).exact "F").mpr hr
    rw [hw] at this
    cases this

/-- each witness text: no `"""`, no `'`, at least two lines, and the trigger it is in -/
theorem wEscN_facts : (hasTQ wEscN = false ∧ hasQuote wEscN = false ∧ splitlines wEscN ≠ []) ∧
    2 ≤ (splitlines wEscN).length ∧ trigger wEscN = some .escN := evaluated.2.2.1

theorem wEscBsN_facts : (hasTQ wEscBsN = false ∧ hasQuote wEscBsN = false ∧ splitlines wEscBsN ≠ []) ∧
    trigger wEscBsN = some .escN := evaluated.2.2.2.1

theorem wLineSep_facts : (hasTQ wLineSep = false ∧ hasQuote wLineSep = false ∧ splitlines wLineSep ≠ []) ∧
    2 ≤ (splitlines wLineSep).length ∧ trigger wLineSep = some .lineSep := evaluated.2.2.2.2.1

example : trigger wEscN = some .escN ∧ trigger wEscBsN = some .escN ∧ trigger wLineSep = some .lineSep :=
  ⟨wEscN_facts.2.2, wEscBsN_facts.2, wLineSep_facts.2.2⟩

/-- what the generated client method hands to the transport for `wEscN`, in a client module (indentation 8 + 4):
    the literal `"a\nb"` has become `"a            b"` — the GraphQL string value changed from a-newline-b to
    a-twelve-blanks-b (silently: the text still parses and validates) -/
theorem wEscN_sent (penv : Char → Bool) :
    sentText penv 8 4 wEscN
      = some "\n            query Q {\n              echo(s: \"a            b\")\n            }\n            ".toList := by
  rw [embed_described penv 8 4 wEscN wEscN_facts.1.1 wEscN_facts.1.2.1 wEscN_facts.1.2.2]
  decide +kernel

/-- … and for `wEscBsN`: `"a\\nb"` has become `"a\            b"` — backslash-blank is not a GraphQL escape: the server
    rejects the document (finding C02-F3) -/
theorem wEscBsN_sent (penv : Char → Bool) :
    sentText penv 8 4 wEscBsN
      = some "\n            query Q {\n              echo(s: \"a\\            b\")\n            }\n            ".toList := by
  rw [embed_described penv 8 4 wEscBsN wEscBsN_facts.1.1 wEscBsN_facts.1.2.1 wEscBsN_facts.1.2.2]
  decide +kernel

/-- … and for `wLineSep`: the literal is cut in two lines — an unterminated string (finding C02-F8) -/
theorem wLineSep_sent (penv : Char → Bool) :
    sentText penv 8 4 wLineSep
      = some "\n            query Q {\n              echo(s: \"a\n            b\")\n            }\n            ".toList := by
  rw [embed_described penv 8 4 wLineSep wLineSep_facts.1.1 wLineSep_facts.1.2.1 wLineSep_facts.1.2.2]
  decide +kernel

/-- The property is false (findings C02-F2/F3), at model level: a text with a backslash-`n` pair does not reach the
    transport character for character. -/
theorem C02_full_false_escN : ¬ C02_full := by
  intro hfull
  have h := hfull.2 (fun _ => true) 8 4 wEscN wEscN_facts.2.1
  have ht := (text_clause_iff _ 8 4 wEscN wEscN_facts.1.1 wEscN_facts.1.2.1 wEscN_facts.1.2.2).mp h
  rw [wEscN_facts.2.2] at ht
  cases ht

/-- The property is false (finding C02-F8), at model level: a text with a line separator other than `\n`. -/
theorem C02_full_false_lineSep : ¬ C02_full := by
  intro hfull
  have h := hfull.2 (fun _ => true) 8 4 wLineSep wLineSep_facts.2.1
  have ht := (text_clause_iff _ 8 4 wLineSep wLineSep_facts.1.1 wLineSep_facts.1.2.1 wLineSep_facts.1.2.2).mp h
  rw [wLineSep_facts.2.2] at ht
  cases ht

/-- **C02_partial**: outside the finding triggers the property holds — the document clause for every valid
    operation in every generator history (`marksIn`: the `__typename` insertions left by the operations before it),
    the text clause for every text of at least two lines (the domain `TextOK` speaks of) outside the four text triggers and
    every `isprintable`.  No other hypothesis: theorem region ∪ finding regions = all inputs. -/
theorem C02_partial :
    (∀ (env : Env) (fuel : Nat) (o : Operation) (marksIn : List Nat) (d : Doc) (st : St),
        Valid env o → addOperation env fuel o marksIn = .ok (d, st) →
        Supported_02 env fuel o st → DocOK env o d st)
    ∧ (∀ (penv : Char → Bool) (vi off : Nat) (q : List Char), 2 ≤ (splitlines q).length → trigger q = none → TextOK penv vi off q) :=
  ⟨fun env fuel o marksIn d st hv h hs => sent_doc_shape env fuel o marksIn d st hv h hs,
   fun penv vi off q hne ht => embed_safe penv vi off q ht (by intro h0; rw [h0] at hne; simp at hne)⟩

/-- instance search gives up on the six-fold product: the value is compared in two halves -/
theorem exSummary_run :
    (exSummary (addOperation exEnv 20 exOp [])).map (fun t => (t.1, t.2.1, t.2.2.1)) = some (["A", "B"], [3], ["A"]) ∧
      (exSummary (addOperation exEnv 20 exOp [])).map (fun t => t.2.2.2) = some ([], false, false) := evaluated.2.2.2.2.2.1

set_option maxRecDepth 100000 in
/-- the hypotheses of `C02_partial` are satisfiable by a non-trivial input: fragments A → B are sent sorted,
    `node { … }` got the automatic `__typename` (mark 3), neither trigger fires -/
example : exSummary (addOperation exEnv 20 exOp []) = some (["A", "B"], [3], ["A"], [], false, false) := by
  have h := exSummary_run
  generalize exSummary (addOperation exEnv 20 exOp []) = o at h
  match o, h with
  | some (_, _, _, _), ⟨h1, h2⟩ =>
    simp only [Option.map_some, Option.some.injEq, Prod.mk.injEq] at h1 h2
    obtain ⟨rfl, rfl, rfl⟩ := h1
    obtain ⟨rfl, rfl, rfl⟩ := h2
    rfl

example : Valid exEnv exOp := by
  refine ⟨by decide +kernel, ?_, by decide +kernel⟩
  intro n f hf
  have : f ∈ exEnv.frags := List.mem_of_find?_eq_some hf
  simp only [exEnv, List.mem_cons, List.not_mem_nil, or_false] at this
  rcases this with rfl | rfl <;> decide +kernel

set_option maxRecDepth 100000 in
/-- `generator_state_sound` / `fragment_generator_state_sound` are not vacuous: the generators of `exOp` and of the
    fragment `A` succeed and register fragments (`A` resp. `B`, inherited) -/
example : (match generate exEnv 20 (.frag exFragA) [] with
    | .ok out => some (out.st.mixins, out.st.unpacked)
    | .error _ => none) = some (["B"], []) := by decide +kernel

example : Reach exEnv.frags exOp.sel "B" := ⟨"A", by decide +kernel, .single ⟨exFragA, rfl, by decide +kernel⟩⟩

/-- the regions in which the model declines -/
example : Trig.quote.declined = true ∧ Trig.blockString.declined = true ∧ Trig.escN.declined = false ∧ Trig.lineSep.declined = false :=
  ⟨rfl, rfl, rfl, rfl⟩

set_option maxRecDepth 100000 in
/-- the generator registers `ShelfParts` (inherited) and `ItemParts` (unpacked) only; all three fragments are sent; the
    input is OUTSIDE the `droppedSpread` trigger: the hypotheses of `closure_walks_through_registered` hold with
    `m = ShelfParts`, `u = ItemParts ∈ unpacked`, and its conclusion is what puts `FilmParts` into the document -/
example : tpSummary (addOperation tpEnv 20 tpOp []) = some (["FilmParts", "ItemParts", "ShelfParts"], ["ShelfParts"], ["ItemParts"], false) := evaluated.2.2.2.2.2.2

example : Reach tpEnv.frags tpShelfParts.sel "ItemParts" := ⟨"ItemParts", by decide +kernel, .refl⟩

/-- a safe text with quotes, `#`, `=`, backslash escapes and a blank line -/
example : trigger "query Q {\n  a: echo(s: \"x # y = \\\"z\\\" \\\\ \\t\")\n\n}".toList = none
    ∧ 2 ≤ (splitlines "query Q {\n  a: echo(s: \"x # y = \\\"z\\\" \\\\ \\t\")\n\n}".toList).length := by
  constructor <;> decide +kernel

/-- the hypotheses of `embed_described` on the witness of C02-F2 -/
example : hasTQ wEscN = false ∧ hasQuote wEscN = false ∧ splitlines wEscN ≠ [] := wEscN_facts.1

/-- the four text triggers on the findings' witnesses -/
example : trigger "echo(s: \"it's\")".toList = some .quote := by decide +kernel
example : trigger "echo(s: \"a\\nb\")".toList = some .escN := by decide +kernel
example : trigger "echo(s: \"\"\"b\"\"\")".toList = some .blockString := by decide +kernel
example : trigger ['a', Char.ofNat 0x2028, 'b'] = some .lineSep := by decide +kernel

end Ariadne.C02
