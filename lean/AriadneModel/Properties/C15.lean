/-
  C15 — Bundled plugins preserve client behaviour apart from their documented change.

  "For every input and every subset of the bundled plugins, the package still loads and each method
   sends the same request and accepts the same responses as without plugins. ShorterResults changes
   only the return value to exactly the single top-level field of the unplugged result,
   ExtractOperations moves the identical operation strings to a module the client imports,
   ClientForwardRefs defers imports without changing any annotation's meaning, NoReimports only empties
   __init__; a plugin overriding no hook changes no byte, and several plugins are applied to each hook
   in configuration order."

  Statements and final proofs.  Models: Model/Plugins.lean (plugin manager + the four bundled
  plugins on the Python-AST fragment Model/PyIR.lean), Model/PluginPipeline.lean (hook call sites of
  client.py / init_file.py), Model/ClientSem.lean (shape and denotation of a generated method),
  Model/PluginFindings.lean (finding triggers).  Lemmas: Proofs/C15.lean, C15Method, C15MethodFwd,
  C15Manager, C15Class.

  Quantification: every hook call, every payload, every plugin list (any length, any order, any
  plugin state), every method of the shape client.py emits (`bodyOf s` for every `Shape`), every
  class dictionary, every list of methods (§3b: ShorterResults over the whole generation run, per method,
  history-free), every response.  The whole-pipeline statement `C15_full` is false on the pinned
  tree (six witnesses, §9); `C15_partial` is what is proved of it — for every configuration made of
  ShorterResults, ExtractOperations, NoReimports and the identity plugin in any order, i.e. every configuration
  without ClientForwardRefs, and for every configuration with ClientForwardRefs in which no ShorterResults comes
  after it - each plugin at most once and freshly constructed (`validB`) and, unless the list is made of NoReimports and the
  identity plugin, on inputs whose generation has the generator's form (`genShaped*` in `Proved_15`); the per-plugin theorems of
  §3–§6 hold without any restriction on the plugin list.  §8b: the plugin manager itself over the regenerated
  table of hooks (dispatch, order, `None`, exceptions, construction, configuration lookup).
  Further models: Model/PluginManager.lean, Model/PluginWhole.lean (vocabulary of §9);
  further lemmas: Proofs/C15Chain, C15Scope, C15History, C15Shape, C15Quiet, C15ShorterModule, C15ShorterRun, C15ShorterWhole,
  C15ShorterMain, C15ShorterPipeline, C15ExtractRun, C15ExtractWhole, C15ShorterRel, C15ShorterRelRun, C15ShorterRelWhole,
  C15FwdModule, C15FwdImports, C15FwdRel, C15FwdRelRun, C15FwdRelWhole (Model/PluginWholeF.lean), C15Ascii.
-/
import AriadneModel.Proofs.C15
import AriadneModel.Proofs.C15MethodFwd
import AriadneModel.Proofs.C15Manager
import AriadneModel.Proofs.C15History
import AriadneModel.Proofs.C15ShorterPipeline
import AriadneModel.Proofs.C15ExtractWhole
import AriadneModel.Proofs.C15ShorterRelWhole
import AriadneModel.Proofs.C15FwdRelWhole
import AriadneModel.Proofs.C15Chain
import AriadneModel.Proofs.C15Ascii
import AriadneModel.Model.PluginManager
import AriadneModel.Model.PluginWhole
import AriadneModel.Generated.Tables
import AriadneModel.Generated.PluginTables


namespace Ariadne.C15
open Ariadne Ariadne.Py Ariadne.Plugins Ariadne.ClientSem
open Ariadne.Lists (bind_eq_ok)

/-! ## 1. The plugin manager: hooks in configuration order (all lists, all hooks, any state type) -/

/-- `_apply_plugins_on_object` on `p :: ps` = the hook of `p` first, then the rest of the list on
    what `p` returned (and every plugin keeps the state its own hook produced). -/
theorem hooks_in_order {σ : Type} (step : Call → σ → Payload → M (σ × Payload)) (c : Call)
    (p : σ) (ps : List σ) (x : Payload) :
    applyAll step c (p :: ps) x =
      (step c p x >>= fun r => applyAll step c ps r.2 >>= fun r' => pure (r.1 :: r'.1, r'.2)) :=
  applyAll_cons step c p ps x

theorem hooks_in_order_nil {σ : Type} (step : Call → σ → Payload → M (σ × Payload)) (c : Call) (x : Payload) :
    applyAll step c [] x = pure ([], x) := rfl

theorem hooks_in_order_append {σ : Type} (step : Call → σ → Payload → M (σ × Payload)) (c : Call)
    (ps qs : List σ) (x : Payload) :
    applyAll step c (ps ++ qs) x =
      (applyAll step c ps x >>= fun r => applyAll step c qs r.2 >>= fun r' => pure (r.1 ++ r'.1, r'.2)) :=
  applyAll_append step c ps qs x

/-! ## 2. A plugin overriding no hook changes nothing -/

/-- alone, for every hook and every object -/
theorem identity_plugin_noop (c : Call) (x : Payload) : manager c [.identity] x = pure ([.identity], x) := rfl

/-- anywhere in any list of plugins (any state type): the other plugins see and return exactly
    what they see and return without it, for every hook -/
theorem identity_plugin_noop_anywhere {σ : Type} (step : Call → σ → Payload → M (σ × Payload)) (idp : σ)
    (hid : ∀ c x, step c idp x = .ok (idp, x)) (c : Call) (a b : List σ) (x : Payload) :
    applyAll step c (a ++ idp :: b) x =
      (applyAll step c a x >>= fun ra => applyAll step c b ra.2 >>= fun rb => pure (ra.1 ++ idp :: rb.1, rb.2)) ∧
    applyAll step c (a ++ b) x =
      (applyAll step c a x >>= fun ra => applyAll step c b ra.2 >>= fun rb => pure (ra.1 ++ rb.1, rb.2)) :=
  ⟨applyAll_insert step idp hid c a b x, applyAll_append step c a b x⟩

/-- a whole generation: with the identity plugin inserted anywhere among any bundled plugins, every
    hook call is handed and returns the same objects (so every emitted file has the same bytes), and
    the generation fails iff it failed without it, with the same exception -/
theorem identity_plugin_noop_pipeline (a b : List PState) (evs : List Event) :
    (runPipeline { plugins := a ++ .identity :: b } evs).1.trace = (runPipeline { plugins := a ++ b } evs).1.trace ∧
    (runPipeline { plugins := a ++ .identity :: b } evs).2 = (runPipeline { plugins := a ++ b } evs).2 := by
  have h := runPipeline_rel evs { plugins := a ++ .identity :: b } { plugins := a ++ b }
    ⟨⟨a, b, rfl, rfl⟩, ⟨rfl, rfl, rfl, rfl, rfl⟩, rfl⟩
  exact ⟨h.2.2.2, h.1⟩

/-! ## 3. ShorterResults is exactly the projection on the single top-level field -/

/-- "the result class has exactly one field `f`" as the plugin decides it: the class is known, the
    fields collected through the recorded base classes (fragments included) are exactly one
    `f: <ann>`, and the annotation unwraps to `node` -/
theorem shorter_single_field_iff (dict : List (String × ClassDef)) (cls : String) (node : Ex) (classes : List String)
    (f : String) :
    nodeAndClass dict cls = .ok (some (node, classes, f)) ↔
      ∃ cd ann, alookup cls dict = some cd ∧
        getAllFields dict (dict.length + 1) cd = .ok [(.name f, ann)] ∧
        updateNode (ann.size + 1) ann = .ok (node, classes) :=
  nodeAndClass_some dict cls node classes f

/-- query / mutation methods of the shape client.py emits (async or sync), any plugin state:
    single field `f` ⇒ the method becomes the same body with `.f` behind `model_validate` and the
    unwrapped annotation; otherwise the method is returned unchanged; an exception of the lookup
    (`RecursionError` on cyclic bases, unmodelled literal) propagates. -/
theorem shorter_is_projection_method (st : ShorterState) (m : Method) (s : Shape) (aw : Bool) (r d cls : String)
    (hb : m.body = bodyOf s) (ht : s.tail = .call aw r d) (hr : m.returns = some (.name cls)) :
    shorterModifyMethod st m =
      (nodeAndClass st.classDict cls >>= fun x =>
        match x with
        | none => pure (st, m)
        | some (node, classes, f) =>
          pure (shorterUpdateImports st m.name classes,
            { m with returns := some node, body := bodyOf (shorterShape s f) })) :=
  shorter_call st m s aw r d cls hb ht hr

/-- subscriptions: `yield C.model_validate(data).f`, `AsyncIterator[<unwrapped>]` -/
theorem shorter_is_projection_subscription (st : ShorterState) (m : Method) (s : Shape) (d cls : String) (o : Nat) (a : Ex)
    (hb : m.body = bodyOf s) (ht : s.tail = .sub d true o) (hr : m.returns = some (.sub a (.name cls))) :
    shorterModifyMethod st m =
      (nodeAndClass st.classDict cls >>= fun x =>
        match x with
        | none => pure (st, m)
        | some (node, classes, f) =>
          pure (shorterUpdateImports st m.name classes,
            { m with returns := some (.sub (.name "AsyncIterator") node), body := bodyOf (shorterShape s f) })) :=
  shorter_sub st m s d cls o a hb ht hr

/-- the denotation: the rewritten method sends the same request and returns `getattr f` of what the
    original returns — same acceptance, same rejection (`sem (SR m) = (req m, proj f ∘ ret m)`), in
    every package, for every response, whatever pydantic and `getattr` are -/
theorem shorter_is_projection {PyV : Type} (validate : String × String → J → Except String PyV)
    (getattr : String → PyV → PyV) (pkg : Pkg) (s : Shape) (f : String) :
    (sem validate getattr pkg (shorterShape s f)).1 = (sem validate getattr pkg s).1 ∧
    ∀ d, (sem validate getattr pkg (shorterShape s f)).2 d = ((sem validate getattr pkg s).2 d).map (getattr f) :=
  ⟨request_shorterShape pkg s f, fun d => respond_shorterShape validate getattr pkg s f d⟩

/-- "unchanged otherwise", the part that depends on the annotation: a return annotation that is not
    a plain class name is never touched -/
theorem shorter_unchanged_without_class_annotation (st : ShorterState) (m : Method) (s : Shape) (aw : Bool) (r d : String)
    (hb : m.body = bodyOf s) (ht : s.tail = .call aw r d) (hr : ∀ id, m.returns ≠ some (.name id)) :
    shorterModifyMethod st m = pure (st, m) :=
  shorter_skips_non_name st m s aw r d hb ht hr

/-! ## 3b. ShorterResults over a whole generation run: per method, history-free

  `generate_client_module` walks ALL methods of the client class with ONE plugin object.  The theorems of §3
  speak about one call of `_modify_method_def` in an arbitrary plugin state; the theorems here speak about
  the whole walk, for every list of methods (= every list of operations, in every order). -/

/-- the k-th method of the client class comes out exactly as ShorterResults would rewrite it if it were
    handed that method alone, in ANY plugin state that recorded the same result classes — whatever
    methods were rewritten before it and whatever imports were collected on the way.  (The seeded change
    `visited_bases` shared between calls breaks exactly this: there the outcome for method k depends on the
    fragment bases walked for the methods before it.) -/
theorem shorter_per_method_history_free (st st' : ShorterState) (items items' : List ClassItem)
    (h : mapMethodsM shorterModifyMethod st items = .ok (st', items')) :
    st'.classDict = st.classDict ∧ st'.importedTypes = st.importedTypes ∧
    ItemsRel (fun m m' => ∀ st0 : ShorterState, st0.classDict = st.classDict →
      (shorterModifyMethod st0 m).map (·.2) = .ok m') items items' := by
  obtain ⟨hro, hrel⟩ := shorter_methods_history_free items st st' items' h
  exact ⟨congrArg (fun t => t.2.1) hro, congrArg (fun t => t.2.2) hro, hrel⟩

/-- the method a plugin object leaves behind (or the exception it dies with) is a function of the method
    and of the recorded classes alone -/
theorem shorter_method_depends_on_classes_only (st1 st2 : ShorterState) (m : Method) (hd : st1.classDict = st2.classDict) :
    (shorterModifyMethod st1 m).map (·.2) = (shorterModifyMethod st2 m).map (·.2) :=
  shorterModifyMethod_state_free st1 st2 m hd

/-- "the rewritten method returns exactly the single top-level field's value iff the result class has exactly
    one field counting inherited fragment fields": for a query / mutation method of the generated shape in
    ANY plugin state, the body becomes `… return C.model_validate(data).f` iff `SingleField classes C f ann`
    (`_get_all_fields` over the recorded base classes yields exactly `f: ann`), and the method is returned
    untouched iff no field is single. -/
theorem shorter_projects_iff_single_field (st st' : ShorterState) (m m' : Method) (s : Shape) (aw : Bool) (r d cls : String)
    (hb : m.body = bodyOf s) (ht : s.tail = .call aw r d) (hr : m.returns = some (.name cls))
    (h : shorterModifyMethod st m = .ok (st', m')) :
    (∀ f, m'.body = bodyOf (shorterShape s f) ↔ ∃ ann, SingleField st.classDict cls f ann) ∧
    (m' = m ↔ ∀ f ann, ¬ SingleField st.classDict cls f ann) :=
  shorter_call_iff st st' m m' s aw r d cls hb ht hr h

/-- the same for subscription methods (`yield C.model_validate(data).f`) -/
theorem shorter_projects_iff_single_field_subscription (st st' : ShorterState) (m m' : Method) (s : Shape) (d cls : String)
    (o : Nat) (a : Ex) (hb : m.body = bodyOf s) (ht : s.tail = .sub d true o) (hr : m.returns = some (.sub a (.name cls)))
    (h : shorterModifyMethod st m = .ok (st', m')) :
    (∀ f, m'.body = bodyOf (shorterShape s f) ↔ ∃ ann, SingleField st.classDict cls f ann) ∧
    (m' = m ↔ ∀ f ann, ¬ SingleField st.classDict cls f ann) :=
  shorter_sub_iff st st' m m' s d cls o a hb ht hr h

/-- the two together, for every class body: every query / mutation method of the generated shape, wherever
    it stands among the methods of the client class, is projected on `f` iff ITS OWN result class has the
    single field `f` (inherited fragment fields included) in the classes recorded when the walk started -/
theorem shorter_whole_class_iff (st st' : ShorterState) (items items' : List ClassItem)
    (h : mapMethodsM shorterModifyMethod st items = .ok (st', items')) :
    ItemsRel (fun m m' => ∀ (s : Shape) (aw : Bool) (r d cls : String), m.body = bodyOf s → s.tail = .call aw r d →
      m.returns = some (.name cls) →
        (∀ f, m'.body = bodyOf (shorterShape s f) ↔ ∃ ann, SingleField st.classDict cls f ann) ∧
        (m' = m ↔ ∀ f ann, ¬ SingleField st.classDict cls f ann)) items items' := by
  obtain ⟨_, hrel⟩ := shorter_methods_history_free items st st' items' h
  refine ItemsRel.mono (fun m m' hm s aw r d cls hb ht hr => ?_) hrel
  have h0 := hm st rfl
  cases hs : shorterModifyMethod st m with
  | error e => rw [hs] at h0; cases h0
  | ok r0 =>
    rw [hs] at h0
    have : r0.2 = m' := by simpa [Except.map] using h0
    subst this
    exact shorter_call_iff st r0.1 m r0.2 s aw r d cls hb ht hr (by rw [hs])

/-- the hypotheses "the method has the generated shape" of §3–§5 are decidable: the recogniser `shapeOf`
    (Model/ClientSem.lean) accepts a method iff its body is `bodyOf` of the shape it returns (the harness validates the round
    trip `bodyOf (shapeOf m) = m.body` on every real method as well; it is not an assumption) -/
theorem shape_recogniser_exact (m : Method) (s : Shape) : shapeOf m = some s ↔ m.body = bodyOf s :=
  shapeOf_iff m s

/-! ## 4. ExtractOperations: the same strings, in a module the client imports -/

/-- bookkeeping of `generate_operation_str`: the string is stored under the operation name and the
    constant is `<SNAKE>_GQL`; the string itself is returned unchanged -/
theorem extract_records_string (st : ExtractState) (c : Call) (s op snake : String)
    (hn : c.opName = some op) (hs : c.opSnake = some snake) :
    extractStep { c with hook := "generate_operation_str" } st (.str s) =
      .ok ({ st with gqls := aset op s st.gqls, vars := aset op (gqlVarName snake) st.vars }, .str s) := by
  simp [extractStep, extract_opStr st { c with hook := "generate_operation_str" } s op snake hn hs, bind_ok, pure_eq_ok]

theorem extract_method_references_own_constant (st : ExtractState) (c : Call) (m : Method) (s : Shape) (q : String)
    (ls : List String) (op v : String)
    (hb : m.body = bodyOf s) (hi : s.imports = []) (ho : s.op = .inline q ls)
    (hn : c.opName = some op) (hv : alookup op st.vars = some v)
    (hk : match s.tail with
          | .call aw _ _ => c.opKind ≠ some "subscription" ∧ st.asyncClient = aw
          | .sub _ _ _ => c.opKind = some "subscription") :
    extractClientMethod st c m = .ok { m with body := bodyOf { s with op := .const v } } :=
  extract_method st c m s q ls op v hb hi ho hn hv hk

/-- the written module binds the constant of every recorded operation to exactly
    `[l + "\n" for l in operation_str.splitlines()]` — the expression client.py inlines -/
theorem extract_module_binds_same_lines (st : ExtractState) (f : OpsFile) (h : extractOpsFile st = .ok f)
    (op g : String) (hg : (op, g) ∈ st.gqls) :
    ∃ v, alookup op st.vars = some v ∧ (v, pyLines g) ∈ f.assigns :=
  extract_opsFile_binds st f h op g hg

/-- `extract_same_strings`: a method whose inlined lines are the lines of the recorded string
    (what `_generate_operation_str_assign` builds) sends, after extraction, the identical query text,
    operation name and variables — provided the client module binds `gql` before and imports the
    constant from the written module after (both are what `generate_client_module` arranges) -/
theorem extract_same_strings (pkgU pkgP : Pkg) (s : Shape) (q g v opsName : String) (f : OpsFile)
    (ho : s.op = .inline q (pyLines g))
    (hgql : (moduleNames pkgU.client).contains "gql" = true)
    (hops : pkgP.ops = some (opsName, f))
    (himp : resolveRuntime pkgP { s with op := .const v } v = some ("." ++ opsName, v))
    (hbind : alookup v f.assigns = some (pyLines g)) :
    request pkgP { s with op := .const v } = request pkgU s := by
  have hg : "gql" ∈ moduleNames pkgU.client := by simpa using hgql
  unfold request constValue
  simp [ho, hg, hops, himp, hbind]

/-! ## 5. ClientForwardRefs: every call-time name stays bound, every annotation keeps its meaning -/

/-- the validated class is imported at the top of the body from the module recorded for it, the
    rest of the body is untouched (methods with at most one projection, i.e. also after
    ShorterResults) -/
theorem forwardrefs_imports_in_body (st : FwdState) (m : Method) (s : Shape) (src : String)
    (hb : m.body = bodyOf s) (hp : s.proj.length ≤ 1) (hc : alookup s.retClass st.importedClasses = some src) :
    fwdMethod st m = .ok
      ({ st with inputAndReturnTypes := (fwdSignature st m).2.2,
                 importedInMethod := sadd s.retClass st.importedInMethod },
       { m with args := (fwdSignature st m).1, returns := (fwdSignature st m).2.1,
                body := bodyOf (withImport s { module := some src, names := [(s.retClass, none)], level := 0 }) }) :=
  fwd_method st m s src hb hp hc

/-- `forwardrefs_runtime_names`: in the rewritten method the validated class resolves — through the
    in-body import — to (the dotted module text recorded by `_store_imported_classes`, the class):
    the qualified name the removed module-level `from .<module> import <class>` denoted.  (With the
    import levels of the code before commit 0603080 the module text would carry one dot too many.) -/
theorem forwardrefs_runtime_names (pkg : Pkg) (s : Shape) (src : String) :
    resolveRuntime pkg (withImport s { module := some src, names := [(s.retClass, none)], level := 0 }) s.retClass =
      some (src, s.retClass) := by
  simp [resolveRuntime, withImport, importBindings, alookup, dotted]

theorem forwardrefs_same_request (pkg : Pkg) (s : Shape) (i : ImportFrom) (hop : ∀ c, s.op ≠ .const c) :
    request pkg (withImport s i) = request pkg s := by
  unfold request withImport
  cases h : s.op with
  | inline q ls => rfl
  | const c => exact absurd h (hop c)

/-- annotations: the rewritten annotation is the original with some names quoted … -/
theorem forwardrefs_annotations_same_text (classes : List (String × String)) (e : Ex) (s : List String) :
    unconst (toConst classes e s).1 = unconst e :=
  toConst_unconst classes e s

/-- … only locally imported classes are quoted … -/
theorem forwardrefs_quotes_only_imported (classes : List (String × String)) (e : Ex) (s : List String) (n : String)
    (h : n ∈ (toConst classes e s).2) : n ∈ s ∨ ahas n classes = true :=
  toConst_set classes e s n h

/-- … and every quoted class is imported under `if TYPE_CHECKING:` from the module recorded for it -/
theorem forwardrefs_typechecking_imports (st : FwdState) (groups : List (String × List String))
    (h : fwdTypeCheckingImports st = .ok groups) (cls : String) (hc : cls ∈ st.inputAndReturnTypes) :
    ∃ src names, alookup cls st.importedClasses = some src ∧ alookup src groups = some names ∧ cls ∈ names :=
  fwd_typechecking_complete st groups h cls hc

/-- where the in-body import points: if every local import statement of the module that mentions the
    class names the module text `src` (and one does), then `src` is what `_store_imported_classes`
    records, hence (`forwardrefs_imports_in_body`, `forwardrefs_runtime_names`) what the method imports from -/
theorem forwardrefs_records_import_source (n src : String) (body : List Top) (st : FwdState)
    (hall : ∀ t ∈ body, storeTarget n t = none ∨ storeTarget n t = some src)
    (hex : ∃ t ∈ body, storeTarget n t = some src) :
    alookup n (fwdStoreImported st body).importedClasses = some src :=
  fwd_store_records n src body st hall (.inr hex)

/-- `from .get_me import GetMe` (module "get_me", level 1) is recorded as ".get_me" — the same qualified
    module the unplugged module-level import binds `GetMe` to -/
example :
    storeTarget "GetMe" (.simple (.importFrom { module := some "get_me", names := [("GetMe", none)], level := 1 })) = some ".get_me" ∧
    importBindings [{ module := some "get_me", names := [("GetMe", none)], level := 1 }] = [("GetMe", (".get_me", "GetMe"))] ∧
    importBindings [{ module := some ".get_me", names := [("GetMe", none)], level := 0 }] = [("GetMe", (".get_me", "GetMe"))] := by
  decide +kernel

/-- a validated "class" that no local import provides kills the generation (finding C15-F5) -/
theorem forwardrefs_keyerror (st : FwdState) (m : Method) (last : Stmt) (cls : String)
    (hl : m.body.getLast? = some last) (hi : fwdImportClass last = some cls)
    (hc : alookup cls st.importedClasses = none) : fwdMethod st m = .error "KeyError" :=
  fwd_method_keyerror st m last cls hl hi hc

/-! ## 6. NoReimports only empties `__init__` -/

theorem noreimports_other_hooks_identity (c : Call) (x : Payload) (h : c.hook ≠ "generate_init_module") :
    PState.step c .noReimports x = .ok (.noReimports, x) :=
  step_idle (by simpa [hooksOf] using h) x

/-- `noreimports_only_init`: wherever NoReimports stands in the list, the init module that leaves the
    plugin manager is empty (no later bundled plugin puts anything back) -/
theorem noreimports_only_init (c : Call) (hc : c.hook = "generate_init_module") (a b l : List PState) (m : Module) (y : Payload)
    (h : manager c (a ++ .noReimports :: b) (.module m) = .ok (l, y)) : y = .module { body := [] } := by
  unfold manager at h
  rw [applyAll_append] at h
  obtain ⟨ra, ha, h⟩ := bind_eq_ok.mp h
  obtain ⟨rb, hb, h⟩ := bind_eq_ok.mp h
  cases h
  obtain ⟨m', hm'⟩ := applyAll_keeps_module c a ra.1 m ra.2 (by rw [ha])
  obtain ⟨_, x', l', hs, hr, _⟩ := applyAll_cons_ok hb
  cases hs
  have hemp : noReimportsStep c ra.2 = .module { body := [] } := by rw [hm']; simp [noReimportsStep, hc]
  rw [hemp] at hr
  exact empty_init_through_list c hc b l' _ hr


/-! ## 7. Configuration order matters for exactly one pair (finding C15-F3) -/

/-- `[ClientForwardRefs, ShorterResults]`: what ClientForwardRefs leaves of a method (return
    annotation quoted) is skipped by ShorterResults whatever the result class looks like — the
    documented shortening silently does not happen, while `[ShorterResults, ClientForwardRefs]`
    shortens (§3) and then defers the imports (§5, `proj.length ≤ 1`). -/
theorem shorter_after_forwardrefs_noop (stF : FwdState) (stS : ShorterState) (m : Method) (s : Shape) (aw : Bool)
    (r d cls src : String)
    (hb : m.body = bodyOf s) (ht : s.tail = .call aw r d) (hp : s.proj.length ≤ 1)
    (hr : m.returns = some (.name cls)) (hcls : ahas cls stF.importedClasses = true)
    (hc : alookup s.retClass stF.importedClasses = some src) :
    ∃ stF' m', fwdMethod stF m = .ok (stF', m') ∧ shorterModifyMethod stS m' = .ok (stS, m') :=
  shorter_after_fwd_method stF stS m s aw r d cls src hb ht hp hr hcls hc

/-! ## 7b. Every subset, every order, every multiplicity: what a chain of bundled plugins can do to the client module -/

/-- `plugin_chain_preserves_methods`.  The module `ClientGenerator.generate` assembles
    (`imports ++ [gql, class]`, `ClientInv`) goes through the plugin manager with ANY list of bundled
    plugins in ANY state.  If no hook raises, the result is again such a module (the class is still the
    first class, nothing is dropped), and every member of the class body is either untouched or a method
    with the same name which — when it had the generated shape `bodyOf s` — still has a generated shape
    `bodyOf s'` with the same operation source, operation name, variables expression, validated class and
    kind; projections are only appended (ShorterResults), in-body imports only prepended
    (ClientForwardRefs).  Together with §3 (`sem` of a projection), §4 (ExtractOperations, which acts
    on the method hook) and §5 (where the prepended import points) this is "same request, same accepted
    responses, apart from the documented change" at the level the plugins control. -/
theorem plugin_chain_preserves_methods (c : Call) (hc : c.hook = "generate_client_module")
    (ps ps' : List PState) (M : Module) (cls : ClassDef) (y : Payload) (hinv : ClientInv M cls)
    (h : manager c ps (.module M) = .ok (ps', y)) :
    ∃ M' cls', y = .module M' ∧ ClientInv M' cls' ∧ M'.firstClass? = some cls' ∧ cls'.name = cls.name ∧
      cls'.bases = cls.bases ∧ ItemsRel MethodPreserved cls.body cls'.body := by
  obtain ⟨M', cls', hy, hinv', hn, hb, hrel⟩ := chain_client_module c hc ps ps' M cls y hinv h
  exact ⟨M', cls', hy, hinv', firstClass_of_inv hinv', hn, hb,
    ItemsRel.mono (fun m m' hm => hm.preserved) hrel⟩

/-! ## 8. The model reacts to exactly the hooks the source overrides (regenerated tables) -/

def splitCommaAux : List Char → List Char → List String
  | [], cur => [String.ofList cur.reverse]
  | c :: rest, cur => if c == ',' then String.ofList cur.reverse :: splitCommaAux rest [] else splitCommaAux rest (c :: cur)

def splitComma (s : String) : List String := if s == "" then [] else splitCommaAux s.toList []

/-- `splitComma` with the characters of an ASCII string read off its bytes.  The table entries are ASCII; evaluating
    `String.toList` on them in the kernel takes time quadratic in their length, this takes linear time. -/
def splitCommaAscii (s : String) : List String :=
  if isAscii s then (if s == "" then [] else splitCommaAux (asciiChars s) []) else splitComma s

theorem splitComma_eq_ascii : splitComma = splitCommaAscii := by
  funext s
  unfold splitCommaAscii
  split
  · rename_i h
    unfold splitComma
    rw [toList_of_isAscii s h]
  · rfl

def overridesOf (plugin : String) : List String :=
  match Ariadne.Tables.pluginOverrides.find? (fun kv => kv.1 == plugin) with
  | some kv => splitComma kv.2
  | none => []

/-- What the kernel evaluates on the regenerated table of overridden hooks, in one declaration: each sweep decodes the same strings,
    and the kernel shares work only inside one declaration.  The theorems below are its components. -/
theorem evaluated_overrides :
    (overridesOf "NoReimportsPlugin" = ["generate_init_module"]) ∧
    (overridesOf "ClientForwardRefsPlugin" = ["generate_client_module"]) ∧
    (overridesOf "ExtractOperationsPlugin" =
      ["generate_client_method", "generate_client_module", "generate_init_module", "generate_operation_str"]) ∧
    (overridesOf "ShorterResultsPlugin" =
      ["generate_client_module", "generate_fragments_module", "generate_result_class", "generate_result_types_module"]) ∧
    ((Ariadne.Tables.pluginOverrides.all fun kv => (splitComma kv.2).all Ariadne.Tables.pluginHooks.contains) = true) := by
  unfold overridesOf; rw [splitComma_eq_ascii]; decide +kernel

theorem table_noreimports_overrides : overridesOf "NoReimportsPlugin" = ["generate_init_module"] := evaluated_overrides.1
theorem table_forwardrefs_overrides : overridesOf "ClientForwardRefsPlugin" = ["generate_client_module"] := evaluated_overrides.2.1
theorem table_extract_overrides : overridesOf "ExtractOperationsPlugin" =
    ["generate_client_method", "generate_client_module", "generate_init_module", "generate_operation_str"] := evaluated_overrides.2.2.1
theorem table_shorter_overrides : overridesOf "ShorterResultsPlugin" =
    ["generate_client_module", "generate_fragments_module", "generate_result_class", "generate_result_types_module"] := evaluated_overrides.2.2.2.1
/-- every overridden hook is a hook of `plugins.base.Plugin` -/
theorem table_overrides_are_hooks :
    (Ariadne.Tables.pluginOverrides.all fun kv => (splitComma kv.2).all Ariadne.Tables.pluginHooks.contains) = true := evaluated_overrides.2.2.2.2

/-- the hook table the proofs use (`hooksOf`, Proofs/C15Manager.lean) is the regenerated table -/
theorem hooksOf_table (st : ShorterState) (est : ExtractState) (f : FwdState) :
    hooksOf (.shorter st) = overridesOf "ShorterResultsPlugin" ∧ hooksOf (.extract est) = overridesOf "ExtractOperationsPlugin" ∧
    hooksOf (.fwd f) = overridesOf "ClientForwardRefsPlugin" ∧ hooksOf .noReimports = overridesOf "NoReimportsPlugin" :=
  ⟨table_shorter_overrides.symm, table_extract_overrides.symm, table_forwardrefs_overrides.symm, table_noreimports_overrides.symm⟩

/-- the model of each bundled plugin returns its argument (and keeps its state) on every hook the
    source class does not override -/
theorem model_ignores_other_hooks_fwd (c : Call) (st : FwdState) (x : Payload)
    (h : c.hook ∉ overridesOf "ClientForwardRefsPlugin") : fwdStep c st x = .ok (st, x) :=
  hook_idle (p := .fwd st) (by rwa [(hooksOf_table {} {} st).2.2.1]) x

theorem model_ignores_other_hooks_noreimports (c : Call) (x : Payload)
    (h : c.hook ∉ overridesOf "NoReimportsPlugin") : noReimportsStep c x = x :=
  hook_idle (p := .noReimports) (by rwa [(hooksOf_table {} {} {}).2.2.2]) x

theorem model_ignores_other_hooks_extract (c : Call) (st : ExtractState) (x : Payload)
    (h : c.hook ∉ overridesOf "ExtractOperationsPlugin") : extractStep c st x = .ok (st, x) :=
  hook_idle (p := .extract st) (by rwa [(hooksOf_table {} st {}).2.1]) x

theorem model_ignores_other_hooks_shorter (c : Call) (st : ShorterState) (x : Payload)
    (h : c.hook ∉ overridesOf "ShorterResultsPlugin") : shorterStep c st x = .ok (st, x) :=
  hook_idle (p := .shorter st) (by rwa [(hooksOf_table st {} {}).1]) x

/-! ## 8b. The plugin manager itself: every hook of the regenerated table goes through the same loop -/

section Manager
open Ariadne.PluginTables

/-- `return self._apply_plugins_on_object("<own name>", <first parameter>, <every other parameter by keyword under its own name>)` -/
def wrapperUniform (r : String × String × String × String × String) : Bool :=
  let params := splitComma r.2.2.2.1
  r.2.1 == r.1 && some r.2.2.1 == params.head? && splitComma r.2.2.2.2 == (params.drop 1).map (fun p => p ++ "=" ++ p)

/-- The same for the tables of the manager's wrappers and of the base class's hooks. -/
theorem evaluated_wrappers :
    (managerWrappers.map (·.1) = Ariadne.Tables.pluginHooks) ∧
    (pluginBaseHooks.map (·.1) = Ariadne.Tables.pluginHooks) ∧
    (managerWrappers.map (fun r => (r.1, r.2.2.2.1)) = pluginBaseHooks.map (fun r => (r.1, r.2.1))) ∧
    (((managerWrappers.filter (fun r => r.1 != "process_schema")).all wrapperUniform) = true) ∧
    (nonUniformWrappers.map (·.1) = ["process_schema"]) ∧
    ((pluginBaseHooks.all fun r => some r.2.2 == (splitComma r.2.1).head?) = true) ∧
    (∀ w ∈ Ariadne.Tables.pluginHooks, wrapperTarget w = some w) := by
  unfold wrapperUniform; rw [splitComma_eq_ascii]; decide +kernel

/-- `PluginManager` has exactly one public method per hook of `plugins.base.Plugin` … -/
theorem table_wrappers_cover_hooks : managerWrappers.map (·.1) = Ariadne.Tables.pluginHooks := evaluated_wrappers.1

theorem table_base_hooks_are_hooks : pluginBaseHooks.map (·.1) = Ariadne.Tables.pluginHooks := evaluated_wrappers.2.1

/-- … with the same parameters as the hook of the base class … -/
theorem table_wrapper_params_match_base :
    managerWrappers.map (fun r => (r.1, r.2.2.2.1)) = pluginBaseHooks.map (fun r => (r.1, r.2.1)) := evaluated_wrappers.2.2.1

/-- … every wrapper but `process_schema` is that one statement … -/
theorem table_wrappers_uniform :
    ((managerWrappers.filter (fun r => r.1 != "process_schema")).all wrapperUniform) = true := evaluated_wrappers.2.2.2.1

/-- … and `process_schema`, which loops over the plugins itself (and stores the schema on every plugin — an
    attribute no bundled plugin reads), calls `plugin.process_schema`: in the table its target is its own name too -/
theorem table_process_schema_loops_itself : nonUniformWrappers.map (·.1) = ["process_schema"] := evaluated_wrappers.2.2.2.2.1

/-- every hook of the base class returns its first argument: the model of a plugin that overrides nothing
    (`PState.identity`, and every bundled plugin on the hooks it does not override) is the identity -/
theorem table_base_hooks_return_first_argument :
    (pluginBaseHooks.all fun r => some r.2.2 == (splitComma r.2.1).head?) = true := evaluated_wrappers.2.2.2.2.2.1

/-- the string each wrapper hands to `getattr(plugin, …)` is its own name, for every hook of the table -/
theorem table_wrapper_dispatches_own_hook : ∀ w ∈ Ariadne.Tables.pluginHooks, wrapperTarget w = some w := evaluated_wrappers.2.2.2.2.2.2

/-- `hooks_in_order` over the table: for EVERY hook `w` of `plugins.base.Plugin`, calling
    `plugin_manager.w(obj, …)` with the configured list `p :: ps` runs `p.w(obj, …)` first and then the rest of
    the list, in configuration order, on what `p` returned (any plugin type, any state, any object) -/
theorem hooks_in_order_table {σ : Type} (step : Call → σ → Payload → M (σ × Payload)) (w : String)
    (hw : w ∈ Ariadne.Tables.pluginHooks) (c : Call) (p : σ) (ps : List σ) (x : Payload) :
    managerVia step w c (p :: ps) x =
      (step { c with hook := w } p x >>= fun r =>
        applyAll step { c with hook := w } ps r.2 >>= fun r' => pure (r.1 :: r'.1, r'.2)) := by
  unfold managerVia
  rw [table_wrapper_dispatches_own_hook w hw]
  exact applyAll_cons step { c with hook := w } p ps x

theorem hooks_in_order_table_nil {σ : Type} (step : Call → σ → Payload → M (σ × Payload)) (w : String)
    (hw : w ∈ Ariadne.Tables.pluginHooks) (c : Call) (x : Payload) :
    managerVia step w c [] x = pure ([], x) := by
  unfold managerVia
  rw [table_wrapper_dispatches_own_hook w hw]
  rfl

/-- a name that is not a method of `PluginManager` -/
example : (match managerVia PState.step "generate_nothing" {hook := ""} [.identity] (.str "x") with
    | .error e => e == "AttributeError"
    | .ok _ => false) = true := by
  decide +kernel

/-- no guard on what a hook returns: a plugin whose hook returns `None` hands `None` to the next plugin … -/
theorem none_is_passed_on {σ : Type} (step : Call → σ → Payload → M (σ × Payload)) (c : Call) (p p' q : σ) (ps : List σ)
    (x : Payload) (h : step c p x = .ok (p', pyNone)) :
    applyAll step c (p :: q :: ps) x =
      (step c q pyNone >>= fun r => applyAll step c ps r.2 >>= fun r' => pure (p' :: r.1 :: r'.1, r'.2)) := by
  rw [applyAll_cons, h]
  simp only [bind_ok]
  rw [applyAll_cons]
  cases step c q pyNone with
  | error e => rfl
  | ok r =>
    simp only [bind_ok]
    cases applyAll step c ps r.2 with
    | error e => rfl
    | ok r' => rfl

/-- … and if it is the last plugin, `None` is what the generator gets back -/
theorem none_is_returned {σ : Type} (step : Call → σ → Payload → M (σ × Payload)) (c : Call) (p p' : σ)
    (x : Payload) (h : step c p x = .ok (p', pyNone)) : applyAll step c [p] x = .ok ([p'], pyNone) := by
  rw [applyAll_cons, h]
  rfl

/-- an exception raised by a hook propagates; the plugins after it are not called -/
theorem hook_exception_propagates {σ : Type} (step : Call → σ → Payload → M (σ × Payload)) (c : Call) (p : σ) (ps : List σ)
    (x : Payload) (e : Err) (h : step c p x = .error e) : applyAll step c (p :: ps) x = .error e := by
  rw [applyAll_cons, h]
  rfl

/-- the bundled plugins never return `None` for an AST they are handed (they return the object they were
    given, a rebuilt object of the same kind, or raise) — for modules this is `applyAll_keeps_module` -/
example : (testStep { hook := "generate_enum" } (.tag "A") pyNone) = .ok (.tag "A", .opaque "None|A:generate_enum") := rfl

/-! ### from the configured strings to the plugin list (plugins/explorer.py), construction, configuration lookup -/

/-- `explorer_configuration_order`: the list of plugin classes handed to `PluginManager` is the concatenation, in
    configuration order, of what each configured string stands for — whichever way a plugin is spelled (class path or
    module), an entry configured earlier comes earlier, and nothing is dropped or merged -/
theorem explorer_configuration_order {α : Type} (e : PluginRef α) (es : List (PluginRef α)) :
    getPluginsTypes (e :: es) = e.classes ++ getPluginsTypes es := by
  rw [getPluginsTypes_eq_flatMap, getPluginsTypes_eq_flatMap, List.flatMap_cons]

theorem explorer_configuration_order_append {α : Type} (a b : List (PluginRef α)) :
    getPluginsTypes (a ++ b) = getPluginsTypes a ++ getPluginsTypes b := by
  rw [getPluginsTypes_eq_flatMap, getPluginsTypes_eq_flatMap, getPluginsTypes_eq_flatMap, List.flatMap_append]

theorem explorer_class_paths (ks : List PluginKind) : getPluginsTypes (ks.map PluginRef.classPath) = ks := by
  induction ks with
  | nil => rfl
  | cons k rest ih => rw [List.map_cons, explorer_configuration_order, ih]; rfl

/-- mixed spellings: `[module shorter_results, class path ClientForwardRefsPlugin]` is `[ShorterResults, ClientForwardRefs]`,
    the module `ariadne_codegen.contrib` stands for its four plugin classes in `getmembers` (name) order -/
example : getPluginsTypes [PluginRef.module [PluginKind.shorter], .classPath .fwd] = [.shorter, .fwd] ∧
    getPluginsTypes [PluginRef.classPath PluginKind.identity, .module [.fwd, .extract, .noReimports, .shorter]] =
      [.identity, .fwd, .extract, .noReimports, .shorter] := by decide

/-- `PluginManager.__init__`: one instance per configured class, in configuration order, each from the same
    configuration dictionary -/
theorem plugins_constructed_in_order (config : J) (k : PluginKind) (ks : List PluginKind) :
    initPlugins config (k :: ks) =
      (initPlugin config k >>= fun p => initPlugins config ks >>= fun ps => pure (p :: ps)) := by
  unfold initPlugins
  rw [List.mapM_cons]

/-- under `[tool.ariadne-codegen]` the plugins and the generator read the same section … -/
theorem config_lookup_agrees_under_tool (kvs tkvs : List (String × J)) (sect : J)
    (h1 : J.lookup "tool" kvs = some (.obj tkvs)) (h2 : J.lookup "ariadne-codegen" tkvs = some sect) :
    toolSection (.obj kvs) = .ok sect ∧ getSection (.obj kvs) = .ok sect ∧
    shorterFragmentsModuleName (.obj kvs) = generatorFragmentsModuleName (.obj kvs) := by
  have ht : toolSection (.obj kvs) = .ok sect := by
    simp [toolSection, cfgGet, h1, h2, bind_ok, pure_eq_ok]
  have hg : getSection (.obj kvs) = .ok sect := by
    simp [getSection, h1, h2, pure_eq_ok]
  exact ⟨ht, hg, by unfold shorterFragmentsModuleName generatorFragmentsModuleName; rw [ht, hg]⟩

/-- … under the deprecated top-level `[ariadne-codegen]` section they do not: the generator takes the option,
    ShorterResults falls back to the default (finding C15-F8) -/
theorem config_lookup_legacy_section_differs :
    let config : J := .obj [("ariadne-codegen", .obj [("fragments_module_name", .str "frags")])]
    (shorterFragmentsModuleName config).toOption = some "fragments" ∧
    (generatorFragmentsModuleName config).toOption = some "frags" := by
  decide +kernel

end Manager

/-! ## 9. The whole property on the pipeline model: false in general, proved outside the findings -/

/-- the property at full strength, for every valid input and every configuration -/
def C15_full : Prop :=
  ∀ x : Input, validB x = true → loadsB x.plugins x = true ∧ projOKB x.plugins x = true ∧ SameBehaviour x.plugins x

/-! ### witnesses (the models of the replayed corpus entries corpus/C15/*.json) -/

namespace W

def shape (cls opName : String) (lines : List String) : Shape :=
  { imports := [], op := .inline "query" lines, opName := opName, varsVar := "variables",
    varsAnn := .sub (.name "Dict") (.tuple [.name "str", .name "object"]), variables := .other "Dict:{}" [],
    kwargs := .name "kwargs", tail := .call true "response" "data", retClass := cls, proj := [] }

def method (name cls opName : String) (lines : List String) : Method :=
  { isAsync := true, name := name, args := [("self", none)], rest := .other "arguments:**kwargs: Any" ["Any"],
    decorators := 0, returns := some (.name cls), body := bodyOf (shape cls opName lines) }

def imp (level : Nat) (m : String) (ns : List String) : ImportFrom := { module := some m, names := ns.map (·, none), level := level }
def ev (hook : String) (p : Payload) : Event := { call := { hook := hook, caller := some "ClientGenerator" }, payload := p }
def evOp (hook op snake : String) (p : Payload) : Event :=
  { call := { hook := hook, opName := some op, opKind := some "query", opSnake := some snake, caller := some "ClientGenerator" },
    payload := p }

def gqlFn : Method :=
  { isAsync := false, name := "gql", args := [("q", some (.name "str"))], rest := .other "arguments:" [],
    decorators := 0, returns := some (.name "str"), body := [.simple (.ret (some (.name "q")))] }

def cls (name : String) (bases : List String) (fields : List (String × Ex)) : ClassDef :=
  { name := name, bases := bases.map Ex.name, keywords := 0,
    body := if fields.isEmpty then [.stmt (.other "Pass:pass" [])] else fields.map (fun f => .stmt (.annAssign (.name f.1) f.2 none)) }

def resultModule (classes : List ClassDef) (extra : List ImportFrom) : Module :=
  { body := [.simple (.importFrom (imp 0 "typing" ["Any", "List", "Optional"])), .simple (.importFrom (imp 1 "base_model" ["BaseModel"]))] ++
      extra.map (fun i => Top.simple (.importFrom i)) ++ classes.map Top.classDef }

/-- the hook calls of an unplugged generation with one operation -/
def events (op snake clsName : String) (classes : List ClassDef) (extraImports : List ImportFrom) (lines : List String)
    (fragments : List ClassDef) (extraMethods : List ClassItem) : List Event :=
  [ ev "generate_client_import" (.imp (imp 0 "typing" ["Optional", "List", "Dict", "Any", "Union", "AsyncIterator"])),
    ev "generate_client_import" (.imp (imp 1 "async_base_client" ["AsyncBaseClient"])),
    ev "generate_client_import" (.imp (imp 1 "base_model" ["UNSET", "UnsetType"])) ] ++
  classes.map (fun c => evOp "generate_result_class" op snake (.klass c)) ++
  [ evOp "generate_result_types_module" op snake (.module (resultModule classes extraImports)),
    evOp "generate_operation_str" op snake (.str (String.join lines)),
    evOp "generate_client_method" op snake (.method (method snake clsName op lines)),
    ev "generate_client_import" (.imp (imp 1 snake [clsName])) ] ++
  fragments.map (fun c => ev "generate_result_class" (.klass c)) ++
  (if fragments.isEmpty then [] else [ev "generate_fragments_module" (.module (resultModule fragments []))]) ++
  [ ev "generate_gql_function" (.method gqlFn),
    ev "generate_client_class" (.klass { name := "Client", bases := [.name "AsyncBaseClient"], keywords := 0,
                                         body := .method (method snake clsName op lines) :: extraMethods }),
    ev "generate_client_module" (.module { body := [] }),
    ev "generate_init_import" (.imp (imp 1 "client" ["Client"])),
    ev "generate_init_module" (.module { body := [] }) ]

/-- C15-F7: `query C { count }`, plugins = [ShorterResults, ClientForwardRefs] -/
def f7 : Input :=
  { plugins := [.shorter {}, .fwd {}],
    events := events "C" "c" "C" [cls "C" ["BaseModel"] [("count", .name "int")]] [] ["query C {\n", "  count\n", "}\n"] [] [] }

/-- C15-F3: `query GetMe { me { id } }`, plugins = [ClientForwardRefs, ShorterResults] -/
def f3 : Input :=
  { plugins := [.fwd {}, .shorter {}],
    events := events "GetMe" "get_me" "GetMe"
      [cls "GetMeMe" ["BaseModel"] [("id", .name "str")],
       cls "GetMe" ["BaseModel"] [("me", .sub (.name "Optional") (.name "\"GetMeMe\""))]] []
      ["query GetMe {\n", "  me {\n", "    id\n", "  }\n", "}\n"] [] [] }

def f3swapped : Input := { f3 with plugins := [.shorter {}, .fwd {}] }

/-- C15-F4: `query Q { ...QF }  fragment QF on Query { when }` (custom scalar), plugins = [ShorterResults] -/
def f4 : Input :=
  { plugins := [.shorter {}],
    events := events "Q" "q" "Q" [cls "Q" ["QF"] []] [imp 1 "fragments" ["QF"]] ["query Q {\n", "  ...QF\n", "}\n"]
      [cls "QF" ["BaseModel"] [("when", .sub (.name "Optional") (.name "datetime"))]] [] }

/-- C15-F5: enable_custom_operations (the client class also has `execute_custom_operation`, which ends
    in `return self.get_data(response)`), plugins = [ClientForwardRefs] -/
def f5 : Input :=
  { plugins := [.fwd {}], customOps := true,
    events := events "GetMe" "get_me" "GetMe"
      [cls "GetMeMe" ["BaseModel"] [("id", .name "str")],
       cls "GetMe" ["BaseModel"] [("me", .sub (.name "Optional") (.name "\"GetMeMe\""))]] []
      ["query GetMe {\n", "  me {\n", "    id\n", "  }\n", "}\n"] []
      [.method { isAsync := true, name := "execute_custom_operation", args := [("self", none)],
                 rest := .other "arguments:*fields" [], decorators := 0,
                 returns := some (.sub (.name "Dict") (.tuple [.name "str", .name "Any"])),
                 body := [.simple (.ret (some (.call (.attr (.name "self") "get_data") [.name "response"] [] [])))] }] }

/-- C15-F6: an operation named `Operations`, plugins = [ExtractOperations] -/
def f6 : Input :=
  { plugins := [.extract {}],
    events := events "Operations" "operations" "Operations" [cls "Operations" ["BaseModel"] [("count", .name "int")]] []
      ["query Operations {\n", "  count\n", "}\n"] [] [] }

/-- C15-F8: `query Q { ...QF }  fragment QF on Query { me { id } }`, `fragments_module_name = "frags"` in the
    deprecated top-level `[ariadne-codegen]` section: the generator writes `frags.py`, ShorterResults (which looks
    under `[tool.ariadne-codegen]` only) believes in `fragments` -/
def f8 : Input :=
  { plugins := [.shorter {}], genFragmentsModule := "frags",
    events := events "Q" "q" "Q" [cls "Q" ["QF"] []] [imp 1 "frags" ["QF"]] ["query Q {\n", "  ...QF\n", "}\n"]
      [cls "QFMe" ["BaseModel"] [("id", .name "str")],
       cls "QF" ["BaseModel"] [("me", .sub (.name "Optional") (.name "\"QFMe\""))]] [] }

end W

/-- What the kernel evaluates on the concrete inputs of this file, in one declaration: every evaluation that converts a name decodes
    the keyword tables of `Model/Names.lean`, and the kernel shares work only inside one declaration.  The lemmas named after the
    inputs are its components. -/
theorem evaluated :
    (validB W.f7 = true ∧
      loadsB W.f7.plugins W.f7 = false ∧ triggersOf W.f7 = ["fwdEmptyTypeChecking"]) ∧
    ((validB W.f3 = true ∧ validB W.f3swapped = true) ∧
      projOKB W.f3.plugins W.f3 = false ∧ loadsB W.f3.plugins W.f3 = true ∧ triggersOf W.f3 = ["fwdBeforeShorter"] ∧
      projOKB W.f3swapped.plugins W.f3swapped = true ∧ loadsB W.f3swapped.plugins W.f3swapped = true ∧
      triggersOf W.f3swapped = []) ∧
    (validB W.f4 = true ∧
      loadsB W.f4.plugins W.f4 = false ∧ triggersOf W.f4 = ["shorterUnimportedName"]) ∧
    (validB W.f5 = true ∧
      (runWith W.f5.plugins W.f5).2 = some "KeyError" ∧ triggersOf W.f5 = ["fwdSelfCall"]) ∧
    (validB W.f6 = true ∧
      loadsB W.f6.plugins W.f6 = false ∧ triggersOf W.f6 = ["opsModuleClash"]) ∧
    (validB W.f8 = true ∧
      loadsB W.f8.plugins W.f8 = false ∧ triggersOf W.f8 = ["shorterFragmentsModule"] ∧
      loadsB [.shorter { fragmentsModuleName := "frags" }] { W.f8 with plugins := [.shorter { fragmentsModuleName := "frags" }] } = true ∧
      triggersOf { W.f8 with plugins := [.shorter { fragmentsModuleName := "frags" }] } = []) := by
  decide +kernel

theorem witness_f7 : validB W.f7 = true ∧
    loadsB W.f7.plugins W.f7 = false ∧ triggersOf W.f7 = ["fwdEmptyTypeChecking"] := evaluated.1

theorem witness_f3 : (validB W.f3 = true ∧ validB W.f3swapped = true) ∧
    projOKB W.f3.plugins W.f3 = false ∧ loadsB W.f3.plugins W.f3 = true ∧ triggersOf W.f3 = ["fwdBeforeShorter"] ∧
    projOKB W.f3swapped.plugins W.f3swapped = true ∧ loadsB W.f3swapped.plugins W.f3swapped = true ∧
    triggersOf W.f3swapped = [] := evaluated.2.1

theorem witness_f4 : validB W.f4 = true ∧
    loadsB W.f4.plugins W.f4 = false ∧ triggersOf W.f4 = ["shorterUnimportedName"] := evaluated.2.2.1

theorem witness_f5 : validB W.f5 = true ∧
    (runWith W.f5.plugins W.f5).2 = some "KeyError" ∧ triggersOf W.f5 = ["fwdSelfCall"] := evaluated.2.2.2.1

theorem witness_f6 : validB W.f6 = true ∧
    loadsB W.f6.plugins W.f6 = false ∧ triggersOf W.f6 = ["opsModuleClash"] := evaluated.2.2.2.2.1

theorem witness_f8 : validB W.f8 = true ∧
    loadsB W.f8.plugins W.f8 = false ∧ triggersOf W.f8 = ["shorterFragmentsModule"] ∧
    loadsB [.shorter { fragmentsModuleName := "frags" }] { W.f8 with plugins := [.shorter { fragmentsModuleName := "frags" }] } = true ∧
    triggersOf { W.f8 with plugins := [.shorter { fragmentsModuleName := "frags" }] } = [] := evaluated.2.2.2.2.2

theorem witnesses_valid :
    validB W.f7 = true ∧ validB W.f3 = true ∧ validB W.f3swapped = true ∧ validB W.f4 = true ∧ validB W.f5 = true ∧
    validB W.f6 = true ∧ validB W.f8 = true :=
  ⟨witness_f7.1, witness_f3.1.1, witness_f3.1.2, witness_f4.1, witness_f5.1, witness_f6.1, witness_f8.1⟩

/-- C15-F7 on the model: an `if TYPE_CHECKING:` without body, the module cannot be formatted -/
theorem finding_F7_on_model : loadsB W.f7.plugins W.f7 = false ∧ triggersOf W.f7 = ["fwdEmptyTypeChecking"] :=
  witness_f7.2

/-- C15-F3 on the model: ForwardRefs first ⇒ no projection although `GetMe` has the single field `me`;
    the other order projects and loads -/
theorem finding_F3_on_model :
    projOKB W.f3.plugins W.f3 = false ∧ loadsB W.f3.plugins W.f3 = true ∧ triggersOf W.f3 = ["fwdBeforeShorter"] ∧
    projOKB W.f3swapped.plugins W.f3swapped = true ∧ loadsB W.f3swapped.plugins W.f3swapped = true ∧
    triggersOf W.f3swapped = [] := witness_f3.2

/-- C15-F4 on the model: the return annotation `Optional[datetime]` names a class the client module never imports -/
theorem finding_F4_on_model : loadsB W.f4.plugins W.f4 = false ∧ triggersOf W.f4 = ["shorterUnimportedName"] :=
  witness_f4.2

/-- C15-F5 on the model: KeyError inside the hook -/
theorem finding_F5_on_model : (runWith W.f5.plugins W.f5).2 = some "KeyError" ∧ triggersOf W.f5 = ["fwdSelfCall"] :=
  witness_f5.2

/-- C15-F6 on the model: the operations module and the result-types module of `Operations` are the same file -/
theorem finding_F6_on_model : loadsB W.f6.plugins W.f6 = false ∧ triggersOf W.f6 = ["opsModuleClash"] :=
  witness_f6.2

/-- C15-F8 on the model: the client module imports `QFMe` from `.fragments`, the package has `frags.py`; with the
    option under `[tool.ariadne-codegen]` (the plugin then reads "frags" too) the same input loads -/
theorem finding_F8_on_model :
    loadsB W.f8.plugins W.f8 = false ∧ triggersOf W.f8 = ["shorterFragmentsModule"] ∧
    loadsB [.shorter { fragmentsModuleName := "frags" }] { W.f8 with plugins := [.shorter { fragmentsModuleName := "frags" }] } = true ∧
    triggersOf { W.f8 with plugins := [.shorter { fragmentsModuleName := "frags" }] } = [] :=
  witness_f8.2

/-- The property as stated is false on the pinned tree. -/
theorem C15_full_false : ¬ C15_full := by
  intro h
  have h7 := (h W.f7 witnesses_valid.1).1
  rw [finding_F7_on_model.1] at h7
  cases h7

/-- one decidable trigger per open finding (Model/PluginFindings.lean; Python twins in harness/c15.py) -/
def Supported_15 (x : Input) : Prop :=
  ¬ (trigFwdBeforeShorter x = true ∨ trigShorterUnimportedName x = true ∨ trigFwdSelfCall x = true ∨
     trigOpsModuleClash x = true ∨ trigFwdEmptyTypeChecking x = true ∨ trigShorterFragmentsModule x = true)

def withoutShorter (ps : List PState) : List PState := ps.filter (fun p => !p.isShorter)

/-- the region in which the WHOLE-PIPELINE statement (`loadsB ∧ projOKB ∧ SameBehaviour` of `runPipeline`)
    is proved for lists WITHOUT ClientForwardRefs:

    * configurations made of the identity plugin and NoReimports only (any input), and
    * configurations made of ShorterResults, NoReimports and the identity plugin, in ANY order, on inputs whose
      unplugged generation has the form the generator produces — `genShapedS` (Model/PluginWhole.lean), a
      decidable conjunction of facts about the unplugged run: one `generate_client_module` call with nothing
      recorded after it, the client module is `imports ++ [def gql, class Client]`, the recorded result
      classes have acyclic bases and literal-evaluable annotations, every method with a single-field result
      class has the generated shape and a return annotation of the right kind, the unwrapped annotation only
      names classes the plugin knows how to import or names the module binds, no such class is called like a
      validated result class, the modules recorded for them exist, the module binds `gql`, no method name starts with a
      dot, and the class member named like an operation's method returns that method's class;
    * configurations made of ExtractOperations, NoReimports and the identity plugin, in ANY order, on inputs of
      the generator's form — `genShapedE` (Model/PluginWholeE.lean): one `generate_client_module` call, only the
      init hooks after it and `generate_init_module` among them, every operation string recorded once and before
      the method of its operation is handed over, that method has the generated shape and inlines exactly the lines
      of that string, distinct operations have distinct constants, no constant is called like a validated class, the
      module binds `gql`.
    * configurations made of ShorterResults, ExtractOperations, NoReimports and the identity plugin — EVERY list
      without ClientForwardRefs — in ANY order: `genShapedE` of the list without ShorterResults, and `genShapedSR`
      (Model/PluginWholeSE.lean): the generation WITH that list hands ShorterResults a module of the generated form
      (as `genShapedS`, stated on the client module and operations module the other plugins produce; in addition no
      leaf class is called like an operation constant).  Proof: the statement for the list without ShorterResults,
      then `shorter_relative` — ShorterResults added anywhere in the list preserves it.
    The driver evaluates `genShapedS` / `genShapedE` / `genShapedSR` on every generated case (evidence: `proved-region`).

    Lists containing ClientForwardRefs: see `Proved_15` below. -/

def ProvedNoFwd_15 (x : Input) : Prop :=
  (∀ p ∈ x.plugins, p = PState.identity ∨ p = PState.noReimports) ∨
  ((∀ p ∈ x.plugins, p = PState.identity ∨ p = PState.noReimports ∨ p.isShorter = true) ∧ genShapedS x = true) ∨
  ((∀ p ∈ x.plugins, p = PState.identity ∨ p = PState.noReimports ∨ p.isExtract = true) ∧ genShapedE x = true) ∨
  ((∀ p ∈ x.plugins, p = PState.identity ∨ p = PState.noReimports ∨ p.isShorter = true ∨ p.isExtract = true) ∧
    genShapedE { x with plugins := withoutShorter x.plugins } = true ∧ genShapedSR (withoutShorter x.plugins) x = true)

/-- the region in which the WHOLE-PIPELINE statement is proved:

    * every list without ClientForwardRefs (`ProvedNoFwd_15`), and
    * every list `a ++ [ClientForwardRefs] ++ b` in which `b` — the plugins AFTER ClientForwardRefs — is made of
      ExtractOperations, NoReimports and the identity plugin (no ShorterResults after ClientForwardRefs; `a` is any
      list of the other plugins, in any order): the list `a ++ b` without ClientForwardRefs is in `ProvedNoFwd_15`,
      and `genShapedFR` (Model/PluginWholeF.lean): the module the plugins of `a` hand to ClientForwardRefs has the
      generated form — import statements without renaming in front of `def gql`, every method of the generated shape
      and validating a locally imported class, some signature naming a locally imported class (otherwise finding
      C15-F7), no name that stays evaluated at `def` time or inside a method is one of the names ClientForwardRefs
      takes out of the module-level imports (otherwise findings C15-F4 / C15-F6), and the module-level import of
      every validated class is the one ClientForwardRefs recorded.  Proof: the statement for `a ++ b`, then
      `fwd_relative` — ClientForwardRefs added there preserves it.

    NOT proved: lists in which ShorterResults comes after ClientForwardRefs (with a single-field method that is
    finding C15-F3; without one, ShorterResults walks methods whose annotations ClientForwardRefs has already quoted):
    there the kernel-checked statements are `plugin_chain_preserves_methods` (§7b) and the per-plugin theorems of
    §3–§7, the model is evaluated on every generated case and compared with what CPython did (correspondence), and the
    property is judged by the oracle. -/
def Proved_15 (x : Input) : Prop :=
  ProvedNoFwd_15 x ∨
  ∃ a b, splitAtFwd x.plugins = some (a, b) ∧
    (∀ p ∈ b, p = PState.identity ∨ p = PState.noReimports ∨ p.isExtract = true) ∧
    ProvedNoFwd_15 { x with plugins := a ++ b } ∧ genShapedFR x = true

theorem quiet_decompose (ps : List PState)
    (hq : ∀ p ∈ ps, p = PState.identity ∨ p = PState.noReimports ∨ p.isShorter = true) (hd : distinct (ps.map PState.kind) = true) :
    Inert ps ∨ ∃ a b st0, ps = a ++ PState.shorter st0 :: b ∧ Inert a ∧ Inert b := by
  have hq' : ∀ p ∈ ps, (p = PState.identity ∨ p = PState.noReimports) ∨ PState.kind p = 0 := by
    intro p hp
    rcases hq p hp with h | h | h
    · exact .inl (.inl h)
    · exact .inl (.inr h)
    · cases p <;> simp [PState.isShorter] at h
      exact .inr rfl
  rcases decompose_at 0 _ ps hq' hd with h | ⟨a, b, p0, rfl, hp0, ha, hb⟩
  · exact .inl h
  · obtain ⟨st0, rfl⟩ := kind_shorter hp0
    exact .inr ⟨a, b, st0, rfl, ha, hb⟩

theorem quiet_decompose_extract (ps : List PState)
    (hq : ∀ p ∈ ps, p = PState.identity ∨ p = PState.noReimports ∨ p.isExtract = true) (hd : distinct (ps.map PState.kind) = true) :
    Inert ps ∨ ∃ a b e0, ps = a ++ PState.extract e0 :: b ∧ Inert a ∧ Inert b := by
  have hq' : ∀ p ∈ ps, (p = PState.identity ∨ p = PState.noReimports) ∨ PState.kind p = 1 := by
    intro p hp
    rcases hq p hp with h | h | h
    · exact .inl (.inl h)
    · exact .inl (.inr h)
    · cases p <;> simp [PState.isExtract] at h
      exact .inr rfl
  rcases decompose_at 1 _ ps hq' hd with h | ⟨a, b, p0, rfl, hp0, ha, hb⟩
  · exact .inl h
  · obtain ⟨e0, rfl⟩ := kind_extract hp0
    exact .inr ⟨a, b, e0, rfl, ha, hb⟩

theorem nosf_filter (l : List PState) (h : NoSF l) : withoutShorter l = l := by
  unfold withoutShorter
  rw [List.filter_eq_self]
  intro p hp
  rcases h p hp with rfl | rfl | ⟨e, rfl⟩ <;> simp [PState.isShorter]

theorem withoutShorter_split (a b : List PState) (st0 : ShorterState) (ha : NoSF a) (hb : NoSF b) :
    withoutShorter (a ++ .shorter st0 :: b) = a ++ b := by
  have h1 := nosf_filter a ha
  have h2 := nosf_filter b hb
  unfold withoutShorter at h1 h2 ⊢
  rw [List.filter_append, List.filter_cons, h1, h2]
  simp [PState.isShorter]

theorem decompose_se (ps : List PState)
    (hq : ∀ p ∈ ps, p = PState.identity ∨ p = PState.noReimports ∨ p.isShorter = true ∨ p.isExtract = true)
    (hd : distinct (ps.map PState.kind) = true) :
    NoSF ps ∨ ∃ a b st0, ps = a ++ PState.shorter st0 :: b ∧ NoSF a ∧ NoSF b := by
  have hq' : ∀ p ∈ ps, (p = PState.identity ∨ p = PState.noReimports ∨ ∃ e, p = PState.extract e) ∨ PState.kind p = 0 := by
    intro p hp
    rcases hq p hp with h | h | h | h
    · exact .inl (.inl h)
    · exact .inl (.inr (.inl h))
    · cases p <;> simp [PState.isShorter] at h
      exact .inr rfl
    · cases p <;> simp [PState.isExtract] at h
      exact .inl (.inr (.inr ⟨_, rfl⟩))
  rcases decompose_at 0 _ ps hq' hd with h | ⟨a, b, p0, rfl, hp0, ha, hb⟩
  · exact .inl h
  · obtain ⟨st0, rfl⟩ := kind_shorter hp0
    exact .inr ⟨a, b, st0, rfl, ha, hb⟩

theorem inert_run (ps : List PState) (x : Input) (h : Inert ps) :
    (runWith ps x).2 = (runWith [] x).2 ∧ (runWith ps x).1.clientModule? = (runWith [] x).1.clientModule? ∧
    (runWith ps x).1.opsFile? = none ∧ (runWith [] x).1.opsFile? = none := by
  obtain ⟨Q', hQ, hQnil⟩ := run_unplugged x.events { plugins := [] } rfl
  obtain ⟨P', hP, hin, _, _, hf⟩ := run_sim (fun _ : Unit => InertRel) (fun u _ => u) (fun _ _ => True)
    (fun _ P Q e Q1 _ h hs => by
      obtain ⟨q1, q2, e1, e2, hq⟩ := stepEvent_inert P Q e h
      rw [e2] at hs; cases hs
      exact ⟨q1, e1, hq⟩)
    (guarded_of_forall _ _ x.events () (fun _ _ => trivial)) (P := { plugins := ps }) (Q := { plugins := [] })
    ⟨h, rfl, ⟨rfl, rfl, rfl, rfl, rfl⟩, fun _ _ => rfl⟩ hQ
  have hrP : runWith ps x = (P', none) := run_iff.mp hP
  have hrQ : runWith [] x = (Q', none) := run_iff.mp hQ
  rw [hrP, hrQ]
  refine ⟨rfl, ?_, inert_opsFile _ hin, nil_opsFile _ hQnil⟩
  unfold PipeState.clientModule?
  rw [hf "generate_client_module" (by decide)]

/-- with plugins that leave the client module alone, ShorterResults is handed the unplugged client module: the
    form `genShapedS` asks of the unplugged generation is the form `genShapedSR` asks of the generation with them
    (a valid unplugged package has no operation constants, so the additional condition on them is empty) -/
theorem genShapedSR_of_genShapedS (x : Input) (L : List PState) (hL : Inert L) (hv : validB x = true)
    (hg : genShapedS x = true) : genShapedSR L x = true := by
  obtain ⟨_, hcm, hops, hops0⟩ := inert_run L x hL
  unfold genShapedS at hg
  unfold genShapedSR
  rw [hcm, hops]
  cases hsp : splitAtClientModule x.events with
  | none => rw [hsp] at hg; cases hg
  | some t =>
    obtain ⟨pre, cm, post⟩ := t
    cases hM : (runWith [] x).1.clientModule? with
    | none => rw [hsp, hM] at hg; cases hg
    | some M0 =>
      rw [hsp, hM] at hg
      simp only at hg ⊢
      cases hsc : splitClient M0 with
      | none => rw [hsc] at hg; simp at hg
      | some u =>
        obtain ⟨pre0, g, C0⟩ := u
        rw [hsc] at hg
        simp only [Bool.and_eq_true, List.all_eq_true] at hg ⊢
        obtain ⟨⟨⟨h1, h2⟩, h3⟩, ⟨⟨h4, h5⟩, h6⟩, h7⟩ := hg
        refine ⟨⟨⟨h1, h2⟩, h3⟩, ⟨⟨h4, fun md hmd => ?_⟩, h6⟩, h7⟩
        obtain ⟨⟨a1, a2⟩, a3⟩ := h5 md hmd
        refine ⟨⟨a1, ?_⟩, a3⟩
        cases hs : shapeOf md with
        | none => rfl
        | some s =>
          rw [hs] at a2
          -- the unplugged package loads: the operation of `md` is inlined
          obtain ⟨hbody0, hnc0⟩ := splitClient_spec M0 pre0 g C0 hsc
          have hfc := firstClass_of_body M0 pre0 g C0 hbody0 hnc0
          simp only [validB, Bool.and_eq_true] at hv
          obtain ⟨_, _, M, hM', _, _, hwell, _⟩ := (loadsB_iff [] x).mp hv.1.2
          rw [hM] at hM'
          cases hM'
          rw [hops0] at hwell
          obtain ⟨q, ls, hq⟩ := inline_of_unresolved_nil hs ((wellScopedB_iff _ C0 hfc).mp hwell md hmd)
          simp only [hq, Bool.and_true]
          exact a2

/-- configurations made of the identity plugin and NoReimports only, every valid input: the client module and the
    operations module are those of the unplugged generation, so everything is as without plugins -/
theorem C15_partial_inert (x : Input) (hv : validB x = true) (hp : ∀ p ∈ x.plugins, p = PState.identity ∨ p = PState.noReimports) :
    loadsB x.plugins x = true ∧ projOKB x.plugins x = true ∧ SameBehaviour x.plugins x := by
  have hin : Inert x.plugins := hp
  obtain ⟨h1, h2, h3, h4⟩ := inert_run x.plugins x hin
  have k1 := inert_no_shorter x.plugins hin
  simp only [validB, Bool.and_eq_true] at hv
  obtain ⟨⟨_, hl⟩, hproj⟩ := hv
  have hclash : trigOpsModuleClash { x with plugins := x.plugins } = trigOpsModuleClash { x with plugins := [] } := by
    unfold trigOpsModuleClash
    simp only [List.any_nil]
    rw [List.any_eq_false]
    intro p hp'
    rcases hin p hp' with rfl | rfl <;> simp
  have hfm : ∀ n, finalMethod x.plugins x n = finalMethod [] x n := by intro n; unfold finalMethod; rw [h2]
  have hfs : ∀ n, finalShape x.plugins x n = finalShape [] x n := by intro n; unfold finalShape; rw [hfm]
  have hexp : ∀ m, expectedProj x.plugins x m = expectedProj [] x m := by
    intro m; rw [expectedProj_no_shorter _ x m k1, expectedProj_no_shorter [] x m rfl]
  have hpkg : pkgOf x.plugins x = pkgOf [] x := by unfold pkgOf; rw [h2, h3, h4]
  refine ⟨?_, ?_, ?_⟩
  · unfold loadsB at hl ⊢
    simp only [h1, h2, h3, hclash]
    simp only [h4] at hl
    exact hl
  · unfold projOKB at hproj ⊢
    simp only [hfs, hexp]
    exact hproj
  · unfold SameBehaviour
    simp only [hfs, hpkg, hexp]
    exact sameBehaviour_unplugged x

theorem nosf_lists_whole (x : Input) (hn : NoSF x.plugins) (hv : validB x = true) (hclash : trigOpsModuleClash x = false)
    (hg : x.plugins.any PState.isExtract = true → genShapedE x = true) :
    loadsB x.plugins x = true ∧ projOKB x.plugins x = true ∧ SameBehaviour x.plugins x := by
  have hcfg : configOK x.plugins = true := by
    simp only [validB, Bool.and_eq_true] at hv
    exact hv.1.1
  simp only [configOK, Bool.and_eq_true, List.all_eq_true] at hcfg
  have hq : ∀ p ∈ x.plugins, p = PState.identity ∨ p = PState.noReimports ∨ p.isExtract = true := by
    intro p hp
    rcases hn p hp with rfl | rfl | ⟨e, rfl⟩
    · exact .inl rfl
    · exact .inr (.inl rfl)
    · exact .inr (.inr rfl)
  rcases quiet_decompose_extract x.plugins hq hcfg.2 with hin | ⟨a, b, e0, hps, ha, hb⟩
  · exact C15_partial_inert x hv hin
  · have hany : x.plugins.any PState.isExtract = true := by rw [hps]; simp [PState.isExtract]
    exact extract_lists_whole x a b e0 hps ha hb (hcfg.1 _ (by rw [hps]; simp)) hv hclash (hg hany)

theorem provedNoFwdB_iff (x : Input) : provedNoFwdB x = true ↔ ProvedNoFwd_15 x := by
  unfold provedNoFwdB ProvedNoFwd_15 withoutShorter
  simp only [Bool.or_eq_true, Bool.and_eq_true, onlyB_iff, Bool.false_eq_true, or_false, and_assoc, or_assoc]

/-- the Bool the driver evaluates on every case is `Proved_15` -/
theorem proved15B_iff (x : Input) : proved15B x = true ↔ Proved_15 x := by
  unfold proved15B Proved_15
  rw [Bool.or_eq_true, provedNoFwdB_iff]
  apply or_congr Iff.rfl
  cases splitAtFwd x.plugins with
  | none => simp
  | some ab =>
    obtain ⟨a, b⟩ := ab
    simp only [Bool.and_eq_true, onlyB_iff, provedNoFwdB_iff, Option.some.injEq, Prod.mk.injEq]
    constructor
    · rintro ⟨⟨h1, h2⟩, h3⟩
      exact ⟨a, b, ⟨rfl, rfl⟩, h1, h2, h3⟩
    · rintro ⟨a', b', ⟨rfl, rfl⟩, h1, h2, h3⟩
      exact ⟨⟨h1, h2⟩, h3⟩

theorem C15_partial_nofwd (x : Input) (hv : validB x = true) (hclash : trigOpsModuleClash x = false) (hp : ProvedNoFwd_15 x) :
    loadsB x.plugins x = true ∧ projOKB x.plugins x = true ∧ SameBehaviour x.plugins x := by
  have hcfg : configOK x.plugins = true := by
    simp only [validB, Bool.and_eq_true] at hv
    exact hv.1.1
  simp only [configOK, Bool.and_eq_true, List.all_eq_true] at hcfg
  rcases hp with hin | ⟨hq, hg⟩ | ⟨hq, hg⟩ | ⟨hq, hgE, hgS⟩
  · exact C15_partial_inert x hv hin
  · rcases quiet_decompose x.plugins hq hcfg.2 with hin | ⟨a, b, st0, hps, ha, hb⟩
    · exact C15_partial_inert x hv hin
    · -- the inert rest of the list first, then ShorterResults on top
      have hab : Inert (a ++ b) := fun p hp => (List.mem_append.mp hp).elim (ha p) (hb p)
      have hL := C15_partial_inert { x with plugins := a ++ b } (validB_remove x a b _ hps hv) hab
      exact shorter_relative x a b st0 hps (fun p hp => (ha p hp).imp_right .inl) (fun p hp => (hb p hp).imp_right .inl)
        (hcfg.1 _ (by rw [hps]; simp)) hL (genShapedSR_of_genShapedS x (a ++ b) hab hv hg)
  · rcases quiet_decompose_extract x.plugins hq hcfg.2 with hin | ⟨a, b, e0, hps, ha, hb⟩
    · exact C15_partial_inert x hv hin
    · exact extract_lists_whole x a b e0 hps ha hb (hcfg.1 _ (by rw [hps]; simp)) hv hclash hg
  · rcases decompose_se x.plugins hq hcfg.2 with hn | ⟨a, b, st0, hps, ha, hb⟩
    ·
      have hw : withoutShorter x.plugins = x.plugins := nosf_filter _ hn
      rw [hw] at hgE
      exact nosf_lists_whole x hn hv hclash (fun _ => hgE)
    · -- the list without ShorterResults first, then ShorterResults on top
      have hw : withoutShorter x.plugins = a ++ b := by rw [hps]; exact withoutShorter_split a b st0 ha hb
      rw [hw] at hgE hgS
      have hnL : NoSF (a ++ b) := by
        intro p hp
        rcases List.mem_append.mp hp with h | h
        · exact ha p h
        · exact hb p h
      have hvL := validB_remove x a b _ hps hv
      have hclashL : trigOpsModuleClash { x with plugins := a ++ b } = false := by
        have h2 := clash_insert x a b (.shorter st0) rfl
        rw [← hps] at h2
        rw [← h2]
        exact hclash
      have hL := nosf_lists_whole { x with plugins := a ++ b } hnL hvL hclashL (fun _ => hgE)
      exact shorter_relative x a b st0 hps ha hb (hcfg.1 _ (by rw [hps]; simp)) hL hgS

/-- The whole-pipeline statement on `Supported_15 ∩ Proved_15` (which configurations these are is said at `ProvedNoFwd_15`
    and `Proved_15`): for every valid input outside the finding triggers the generation does not raise and the package
    loads; with ShorterResults every method is projected on exactly the single top-level field of its result class
    (inherited fragment fields included) or left alone; with ExtractOperations the operations module is written and
    binds every constant to the lines the unplugged method inlines; with ClientForwardRefs every method imports its
    validated class in its body; and every method sends the same request and handles every response as the unplugged
    method does, up to that projection.  (`Supported_15` stands in the statement as in every `Cxx_partial`; the proof reads its
    module-clash disjunct only: inside `Proved_15` the other five triggers are not needed.) -/
theorem C15_partial (x : Input) (hv : validB x = true) (hs : Supported_15 x) (hp : Proved_15 x) :
    loadsB x.plugins x = true ∧ projOKB x.plugins x = true ∧ SameBehaviour x.plugins x := by
  have hcfg : configOK x.plugins = true := by
    simp only [validB, Bool.and_eq_true] at hv
    exact hv.1.1
  have hfresh : x.plugins.all PState.isFresh = true := by
    simp only [configOK, Bool.and_eq_true] at hcfg
    exact hcfg.1
  have hclash : trigOpsModuleClash x = false := by
    cases hc : trigOpsModuleClash x with
    | false => rfl
    | true => exact absurd (.inr (.inr (.inr (.inl hc)))) hs
  rcases hp with hp | ⟨a, b, hsp, hb, hpL, hg⟩
  · exact C15_partial_nofwd x hv hclash hp
  · obtain ⟨f0, hps⟩ := splitAtFwd_spec _ _ _ hsp
    have hnb : NoSF b := by
      intro p hp
      rcases hb p hp with rfl | rfl | he
      · exact .inl rfl
      · exact .inr (.inl rfl)
      · cases p with
        | extract e => exact .inr (.inr ⟨e, rfl⟩)
        | _ => simp [PState.isExtract] at he
    have hvL := validB_remove x a b _ hps hv
    have hclashL : trigOpsModuleClash { x with plugins := a ++ b } = false := by
      have h2 := clash_insert x a b (.fwd f0) rfl
      rw [← hps] at h2
      rw [← h2]
      exact hclash
    have hL := C15_partial_nofwd { x with plugins := a ++ b } hvL hclashL hpL
    exact fwd_relative x a b hsp hnb hfresh hL hg

/-- the configurations of the non-vacuity examples below, on the witness input `W.f3`.  They are evaluated together:
    every conjunct runs the unplugged generation of `W.f3` (`validB`, `genShapedS`, `genShapedE`, the trigger
    predicates), and inside one kernel call that run is evaluated once. -/
theorem f3_configurations (ps : List PState)
    (h : ps ∈ [[PState.identity, .noReimports], [.identity, .shorter {}, .noReimports], [.noReimports, .extract {}, .identity],
      [.extract {}, .shorter {}, .noReimports], [.shorter {}, .fwd {}, .extract {}], [.extract {}, .fwd {}, .noReimports],
      [.shorter {}, .identity, .extract {}]]) :
    validB { W.f3 with plugins := ps } = true ∧ Supported_15 { W.f3 with plugins := ps } ∧
      Proved_15 { W.f3 with plugins := ps } := by
  revert ps
  simp only [← proved15B_iff, Supported_15]
  decide +kernel

/-- non-vacuity of `C15_partial`: a valid, supported input with `[identity, NoReimports]` -/
example : validB { W.f3 with plugins := [.identity, .noReimports] } = true ∧
    Supported_15 { W.f3 with plugins := [.identity, .noReimports] } ∧
    Proved_15 { W.f3 with plugins := [.identity, .noReimports] } :=
  f3_configurations _ (by simp)

/-- non-vacuity of `C15_partial` with ShorterResults: `query GetMe { me { id } }` with
    `[identity, ShorterResults, NoReimports]` -/
example : validB { W.f3 with plugins := [.identity, .shorter {}, .noReimports] } = true ∧
    Supported_15 { W.f3 with plugins := [.identity, .shorter {}, .noReimports] } ∧
    Proved_15 { W.f3 with plugins := [.identity, .shorter {}, .noReimports] } :=
  f3_configurations _ (by simp)

/-- non-vacuity of `C15_partial` with ExtractOperations: `[NoReimports, ExtractOperations, identity]` -/
example : validB { W.f3 with plugins := [.noReimports, .extract {}, .identity] } = true ∧
    Supported_15 { W.f3 with plugins := [.noReimports, .extract {}, .identity] } ∧
    Proved_15 { W.f3 with plugins := [.noReimports, .extract {}, .identity] } :=
  f3_configurations _ (by simp)

/-- non-vacuity of `C15_partial` with ShorterResults AND ExtractOperations (the other order: the last example of
    this group) -/
example : validB { W.f3 with plugins := [.extract {}, .shorter {}, .noReimports] } = true ∧
    Supported_15 { W.f3 with plugins := [.extract {}, .shorter {}, .noReimports] } ∧
    Proved_15 { W.f3 with plugins := [.extract {}, .shorter {}, .noReimports] } :=
  f3_configurations _ (by simp)

/-- non-vacuity of `C15_partial` with ClientForwardRefs: `[ShorterResults, ClientForwardRefs, ExtractOperations]` and
    `[ExtractOperations, ClientForwardRefs, NoReimports]` -/
example : validB { W.f3 with plugins := [.shorter {}, .fwd {}, .extract {}] } = true ∧
    Supported_15 { W.f3 with plugins := [.shorter {}, .fwd {}, .extract {}] } ∧
    Proved_15 { W.f3 with plugins := [.shorter {}, .fwd {}, .extract {}] } :=
  f3_configurations _ (by simp)

example : validB { W.f3 with plugins := [.extract {}, .fwd {}, .noReimports] } = true ∧
    Supported_15 { W.f3 with plugins := [.extract {}, .fwd {}, .noReimports] } ∧
    Proved_15 { W.f3 with plugins := [.extract {}, .fwd {}, .noReimports] } :=
  f3_configurations _ (by simp)

/-- outside: ShorterResults after ClientForwardRefs -/
example : proved15B { W.f3 with plugins := [.fwd {}, .shorter {}] } = false := by decide +kernel

example : Proved_15 { W.f3 with plugins := [.shorter {}, .identity, .extract {}] } :=
  (f3_configurations _ (by simp)).2.2


example : genShapedS { W.f3 with plugins := [.noReimports, .shorter {}] } = true ∧
    genShapedS { W.f8 with plugins := [.shorter { fragmentsModuleName := "frags" }] } = true ∧
    genShapedS W.f8 = false ∧ genShapedS W.f4 = false := by decide +kernel

/-- non-vacuity of the shape hypotheses of §3–§5: the witness method has the generated shape, its result class
    `GetMe` has the single field `me`, and ShorterResults projects it -/
example : (W.method "get_me" "GetMe" "GetMe" ["query\n"]).body = bodyOf (W.shape "GetMe" "GetMe" ["query\n"]) := rfl

example : (singleFieldOf (shorterFacts "fragments" W.f3.events) (W.method "get_me" "GetMe" "GetMe" [])).map (·.1) = some "me" := by
  decide +kernel

/-- a single field inherited from a fragment class counts (`Q(QF)` with `QF.when`) -/
example : (singleFieldOf (shorterFacts "fragments" W.f4.events) (W.method "q" "Q" "Q" [])).map (·.1) = some "when" := by
  decide +kernel


/-! ## 10. Non-vacuity of the hypotheses used above (concrete instances; tests, not theorems) -/

section NonVacuity

def exLines : List String := ["query GetMe {\n", "  me {\n", "    id\n", "  }\n", "}\n"]
def exMethod : Method := W.method "get_me" "GetMe" "GetMe" exLines
def exShape : Shape := W.shape "GetMe" "GetMe" exLines

/-- §3/§4/§5: the method client.py builds has the generated shape, no in-body import, the operation inlined,
    at most one projection, a plain class name as return annotation -/
example : exMethod.body = bodyOf exShape ∧ exShape.imports = [] ∧ exShape.op = .inline "query" exLines ∧
    exShape.tail = .call true "response" "data" ∧ exShape.proj.length ≤ 1 ∧ exMethod.returns = some (.name "GetMe") :=
  ⟨rfl, rfl, rfl, rfl, by decide, rfl⟩

/-- §3: with the classes of the witness recorded, `GetMe` has exactly one field and the plugin's lookup succeeds -/
example : (match nodeAndClass (shorterFacts "fragments" W.f3.events).classDict "GetMe" with
    | .ok (some (_, classes, f)) => f == "me" && classes == ["GetMeMe"]
    | _ => false) = true := by decide +kernel

/-- §4: after `generate_operation_str` the constant is known and the kind/async hypotheses hold -/
example : alookup "GetMe" ({ vars := [("GetMe", gqlVarName "get_me")] } : ExtractState).vars = some "GET_ME_GQL" ∧
    ((none : Option String) ≠ some "subscription" ∧ ({} : ExtractState).asyncClient = true) := by decide +kernel

/-- §4: the whole ExtractOperations round on the witness: constant referenced, module written with the same lines -/
example : (match runWith [.extract {}] W.f3 with
    | (ps, none) =>
      (match ps.opsFile?, finalShape [.extract {}] W.f3 "get_me" with
       | some (name, f), some s =>
         name == "operations" && f.all == ["GET_ME_GQL"] && alookup "GET_ME_GQL" f.assigns == some exLines &&
         (match s.op with | .const c => c == "GET_ME_GQL" | _ => false)
       | _, _ => false)
    | _ => false) = true := by decide +kernel

/-- §5: ClientForwardRefs on the witness: the class is recorded under ".get_me" and imported in the body from there -/
example : (match finalShape [.fwd {}] W.f3 "get_me" with
    | some s => s.imports == [{ module := some ".get_me", names := [("GetMe", none)], level := 0 }] && s.proj == []
    | none => false) = true := by decide +kernel

/-- §6: NoReimports in the middle of a list: the init module that comes out is empty -/
example : (match manager { hook := "generate_init_module" } [.extract {}, .noReimports, .identity]
      (.module { body := [.simple (.importFrom (W.imp 1 "client" ["Client"])), .simple (.assignList "__all__" ["Client"])] }) with
    | .ok (_, .module m) => m.body.isEmpty
    | _ => false) = true := by decide +kernel

/-- §7/§7b: both orders on the same input — `[S, F]` projects and imports in the body, `[F, S]` only imports -/
example : ((finalShape [.shorter {}, .fwd {}] W.f3 "get_me").map (fun s => (s.proj, s.imports.length))) = some (["me"], 1) ∧
    ((finalShape [.fwd {}, .shorter {}] W.f3 "get_me").map (fun s => (s.proj, s.imports.length))) = some ([], 1) := by
  decide +kernel

/-- non-vacuity: two operations sharing a fragment on the root type, `query A { ...QF }` and
    `query B { ...QF count }` with `fragment QF on Query { me { id } }`, in both orders: `A` is projected on
    `me`, `B` is not, whichever comes first -/
example :
    let dict : List (String × ClassDef) :=
      [("A", { name := "A", bases := [.name "QF"], keywords := 0, body := [.stmt (.other "Pass:pass" [])] }),
       ("B", { name := "B", bases := [.name "QF"], keywords := 0, body := [.stmt (.annAssign (.name "count") (.name "int") none)] }),
       ("QF", { name := "QF", bases := [.name "BaseModel"], keywords := 0,
                body := [.stmt (.annAssign (.name "me") (.sub (.name "Optional") (.name "\"QFMe\"")) none)] })]
    let mk := fun (n c : String) => W.method n c c []
    let projOf' := fun (r : M (ShorterState × List ClassItem)) =>
      match r with
      | .ok (_, items) => items.filterMap (fun it => match it with
          | .method m => some (m.name, (shapeOf m).map (·.proj))
          | _ => none)
      | .error _ => []
    projOf' (mapMethodsM shorterModifyMethod { classDict := dict } [.method (mk "a" "A"), .method (mk "b" "B")]) =
      [("a", some ["me"]), ("b", some [])] ∧
    projOf' (mapMethodsM shorterModifyMethod { classDict := dict } [.method (mk "b" "B"), .method (mk "a" "A")]) =
      [("b", some []), ("a", some ["me"])] := by
  decide +kernel

/-- §7b: the client module of the witness input is of the assembled form -/
example : ClientInv
    { body := [.simple (.importFrom (W.imp 1 "async_base_client" ["AsyncBaseClient"])), .funcDef W.gqlFn,
               .classDef { name := "Client", bases := [.name "AsyncBaseClient"], keywords := 0,
                           body := [.method (W.method "c" "C" "C" ["query C {\n"])] }] }
    { name := "Client", bases := [.name "AsyncBaseClient"], keywords := 0,
      body := [.method (W.method "c" "C" "C" ["query C {\n"])] } :=
  ⟨[.simple (.importFrom (W.imp 1 "async_base_client" ["AsyncBaseClient"]))], W.gqlFn, rfl,
   fun t ht => by simp at ht; subst ht; rfl,
   ⟨.simple (.importFrom (W.imp 1 "async_base_client" ["AsyncBaseClient"])), by simp, rfl⟩⟩

end NonVacuity

end Ariadne.C15
