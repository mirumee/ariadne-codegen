/-
  C05 — Result models are as strict as the schema.

  Statements and final proofs; lemmas in Proofs/ResultLeaf.lean, Proofs/ResultWrap.lean, Proofs/C05Declared.lean,
  Proofs/C05Dup.lean, Proofs/C05Strict.lean and Proofs/C01Plain.lean.  Model: Model/ResultTypes.lean,
  pydantic reference semantics Spec/Pyd.lean (lax python mode; pydantic-core's str→number parsers are
  parameters `Lax`), executor leaf completion Spec/Exec.lean.

  ANNOTATIONS (every field type)
  * `declared_type_is_image`      (all field types of every kind): Optional iff nullable, List iff list.
  * `conditional_makes_optional`  : @skip/@include adds exactly one Optional and a `None` default;
    `conditional_any_condition`   : for every argument of the directive, literal `true` / `false` included.
  * `leaf_base_exact`             : the base is the SIMPLE_TYPE_MAP image, the enum class, or `Any`
                                    (and `Any` only for unconfigured custom scalars).
  LEAF POSITIONS (all leaf types, all wrapper nestings, all JSON values)
  * `accepts_iff_lax`             : pydantic accepts exactly the conformant values plus the cells of the explicit lax table.
  * corollaries: null at a non-null position, a list where a scalar is expected (and vice versa), an
    object where a leaf is expected are rejected.
  CLASSES (Spec/Pyd level: any class declaration)
  * `missing_required_rejected`, `model_with_missing_field_rejected`, `model_with_failing_field_rejected`,
    `foreign_typename_rejected`, `missing_typename_rejected`.
  EVERY GENERATED CLASS OF EVERY DOCUMENT (any successful `_parse_type_definition` call: fragments — inherited, unpacked,
  dropped —, inline fragments, abstract types, aliases, one schema field under several response keys; any generator state;
  no region predicate)
  * `resolved_nodes_history_free` : `_resolve_selection_set` returns the pure function `flatFields` of the document —
                                    nothing depends on what was resolved / generated before.
  * `generated_class_declares_selected` : the class declares exactly one field per resolved node, in order, each under
                                    its own response key (alias-aware), `None` default iff `@skip`/`@include` (never for
                                    `__typename` in a class with typename values: finding C01-F10).
  * `generated_class_rejects_missing_key` : hence a payload object lacking the key of an unconditional node is rejected.
  * `generated_class_rejects_bad_leaf`    : and a non-conformant value (null at non-null, another JSON kind outside the lax
                                    table, list vs scalar, bad list element) under the key of an unconditional LEAF-typed node
                                    is rejected.  (Hypothesis of both, `SameNameSameDecl`: the declarations of the node's python
                                    name in the class body are all the same declaration — e.g. pairwise distinct names, or
                                    `{ id ...F }` with `id` in an unpacked `F`; outside that, finding region C01-F2.)
  * `generated_class_rejects_foreign_typename` : a class generated with `add_typename` and typename values `tv` (every variant
                                    class of an interface / union position) rejects an object whose `__typename` is not in
                                    `tv`; `typename_literal_values_sound`: `tv` ⊆ {own type} ∪ possible types of the position.
  * `interface_fragment_expanded_at_every_use` : a fragment on an interface with inline fragments yields the variant class
                                    `<ClassName><T>` at every interface-typed field that spreads it.
  THE WHOLE RESPONSE TREE, PLAIN TIER (documents satisfying `C01Plain.PlainOK`)
  * `plain_accepted_imp_conformant` : generation succeeds and whatever the root class accepts, at any fuel, satisfies `laxResp`
                                    at every depth; `laxResp_missing_key`, `laxResp_null_at_nonnull`: what `laxResp` excludes.
  FULL STRENGTH
  * `C05_full_false`              : the full-strength claim fails exactly on lax-table cells
                                    (e.g. `Int!` accepts `true`), witness proved by evaluation; `C05_partial` outside them.

  NOT PROVED HERE (correspondence + oracle only): outside the plain tier, that a value found under the key of a
  COMPOSITE-typed node (object / interface / union field) is rejected when it is corrupted somewhere below — i.e. the chaining
  of the per-class theorems through `.cls` / `Union[...]` references from the operation's root class down (the per-class
  statements above hold for every class on the way, and `foreign_typename_rejected` for every discriminated union); configured custom scalars
  (`BeforeValidator`, outside Spec/Pyd); classes that declare one python name in two different ways.
-/
import AriadneModel.Proofs.C05Declared
import AriadneModel.Proofs.C05Dup
import AriadneModel.Proofs.C05Strict
import AriadneModel.Proofs.C01Plain


namespace Ariadne.C05
open Ariadne Ariadne.Gql Ariadne.ResultTypes Ariadne.ResultLeaf Ariadne.Pyd Ariadne.Util Ariadne.C05Decl Ariadne.C05Strict

/-- For every field type (scalar, enum, object, interface, union under any wrappers):
    `Optional[...]` exactly where the GraphQL type is nullable, `List[...]` exactly where it is a list. -/
theorem declared_type_is_image (genv : ResultTypes.Env) (fuel : Nat) (sel : List Selection) (T : TypeRef)
    (nullable : Bool) (cn : String) (add : Bool) (ctx : Ctx) (a : Ann) (ctx' : Ctx)
    (h : parseType genv fuel sel T nullable cn add ctx = .ok (a, ctx')) :
    skelAnn a = skelType nullable T :=
  parseType_skeleton genv fuel sel T nullable cn add ctx a ctx' h

/-- `@skip` / `@include` on the field: the annotation becomes Optional (once) with default `None`;
    without such a directive nothing changes and there is no default. -/
theorem conditional_makes_optional (a : Ann) (dirs : List Directive) :
    (hasConditionalDirective dirs = true →
        (parseDirectives a dirs).2 = true ∧
        skelAnn (parseDirectives a dirs).1 = (match skelAnn a with | .opt s => .opt s | s => .opt s))
    ∧ (hasConditionalDirective dirs = false → parseDirectives a dirs = (a, false)) := by
  rw [C01Ann.parseDirectives_eq]
  constructor
  · intro h
    refine ⟨h, ?_⟩
    unfold C01Plain.condAnn
    simp only [h, if_true]
    cases a <;> simp [isNullableAnn, skelAnn]
  · intro h
    simp [C01Plain.condAnn, h]

/-- … and this for EVERY argument of the directive: the generator looks at the directive's NAME only, so a literal condition
    (`@skip(if: true)`, `@include(if: false)`) makes the field Optional with default `None` exactly as a variable condition does.
    (`d.args` is arbitrary.) -/
theorem conditional_any_condition (a : Ann) (dirs : List Directive) (d : Directive) (hd : d ∈ dirs)
    (hn : d.name = Tables.skipDirectiveName ∨ d.name = Tables.includeDirectiveName) :
    (parseDirectives a dirs).2 = true ∧ isNullableAnn (parseDirectives a dirs).1 = true := by
  have h : hasConditionalDirective dirs = true := by
    unfold hasConditionalDirective
    exact List.any_eq_true.mpr ⟨d, hd, by rcases hn with h | h <;> simp [h]⟩
  unfold parseDirectives
  simp only [h, if_true]
  by_cases hna : isNullableAnn a = true
  · simp [hna]
  · rw [if_neg hna]; exact ⟨trivial, rfl⟩

/-- non-vacuity: `name @skip(if: true)` on a `String!` field (a literal argument arrives as `("if", none)`, like a variable) -/
example : (parseDirectives (.name "str") [{ name := "skip", args := [("if", none)] }]).2 = true
    ∧ isNullableAnn (parseDirectives (.name "str") [{ name := "skip", args := [("if", none)] }]).1 = true :=
  conditional_any_condition _ _ { name := "skip", args := [("if", none)] } (by simp) (Or.inl (by decide))

/-- The base of a leaf annotation: enum class for enums; `str/int/float/bool` exactly for the five
    built-in scalars (regenerated `SIMPLE_TYPE_MAP`); `Any` for — and only for — other scalars that
    are not configured as custom scalars. -/
theorem leaf_base_exact (genv : ResultTypes.Env) (n : String) :
    (genv.schema.kindOf? n = some .enum → leafBase genv n = .name n) ∧
    (genv.schema.kindOf? n ≠ some .enum →
      (n = "String" ∨ n = "ID" → leafBase genv n = .name "str") ∧
      (n = "Int" → leafBase genv n = .name "int") ∧
      (n = "Float" → leafBase genv n = .name "float") ∧
      (n = "Boolean" → leafBase genv n = .name "bool") ∧
      (leafBase genv n = .name "Any" ↔ (n ≠ "String" ∧ n ≠ "ID" ∧ n ≠ "Int" ∧ n ≠ "Boolean" ∧ n ≠ "Float"))) := by
  constructor
  · intro h; simp [leafBase, h]
  · intro h
    have hb : leafBase genv n = (match lookupStr n Tables.simpleTypeMap with
        | some py => .name py
        | none => .name "Any") := by
      unfold leafBase
      split
      · rename_i hk; exact absurd hk h
      · rfl
    refine ⟨?_, ?_, ?_, ?_, ?_⟩
    · rintro (rfl | rfl) <;> (rw [hb]; simp [lookupStr, Tables.simpleTypeMap])
    · rintro rfl; rw [hb]; simp [lookupStr, Tables.simpleTypeMap]
    · rintro rfl; rw [hb]; simp [lookupStr, Tables.simpleTypeMap]
    · rintro rfl; rw [hb]; simp [lookupStr, Tables.simpleTypeMap]
    · rw [hb]
      cases hlk : lookupStr n Tables.simpleTypeMap with
      | none =>
        obtain ⟨h1, h2, h3, h4, h5⟩ := lookup_simple_none n hlk
        simp [h1, h2, h3, h4, h5]
      | some py =>
        rcases lookup_simple n py hlk with ⟨rfl, rfl⟩ | ⟨rfl, rfl⟩ | ⟨rfl, rfl⟩ | ⟨rfl, rfl⟩ | ⟨rfl, rfl⟩ <;> simp

/-- pydantic accepts a payload at a leaf-typed position iff it is conformant up to the explicit lax
    table (`conformsLax`): all leaf types, all wrapper nestings, all JSON values. -/
theorem accepts_iff_lax (genv : ResultTypes.Env) (penv : Pyd.Env) (ha : EnvAgrees genv penv) (T : TypeRef)
    (hl : LeafName genv T.base) (nullable : Bool) (j : J) (fuel : Nat) (hf : need T ≤ fuel) :
    (∃ v, validate penv fuel (leafAnn genv nullable T) j = .ok v) ↔ conformsLax genv.schema penv.lax nullable T j = true := by
  exact ⟨fun ⟨v, h⟩ => leaf_sound genv penv ha T hl nullable j fuel v h, leaf_complete genv penv ha T hl nullable j fuel hf⟩

/-- strictly conformant values are inside the lax table -/
theorem conforms_imp_lax (S : Schema) (lax : Lax) (T : TypeRef) :
    ∀ (nullable : Bool) (j : J), Exec.conforms S nullable T j = true → conformsLax S lax nullable T j = true := by
  intro nullable j h
  rw [conforms_eq] at h
  rw [conformsLax_eq]
  exact completeLax_mono (fun h => by cases h) (fun x => leafOk_imp_lax S lax _ x) T nullable j h

/-- null where the schema says non-null is rejected — for every leaf type except the unconfigured
    custom scalars (`Any` accepts `None`: cell `(custom scalar, null)` of the lax table, finding C05-F2) -/
theorem null_at_nonnull_rejected (genv : ResultTypes.Env) (penv : Pyd.Env) (ha : EnvAgrees genv penv) (n : String)
    (hl : LeafName genv n) (hnotAny : isAnyLeaf genv.schema n = false) (fuel : Nat) (hf : 2 ≤ fuel) (nullable : Bool) :
    ∀ v, validate penv fuel (leafAnn genv nullable (.nonNull (.named n))) .null ≠ .ok v := by
  intro v hv
  have h := (accepts_iff_lax genv penv ha (.nonNull (.named n)) (by simpa [TypeRef.base] using hl) nullable .null fuel
    (by simpa [need] using hf)).mp ⟨v, hv⟩
  simp [conformsLax, hnotAny] at h

/-- null for a non-null list is rejected -/
theorem null_at_nonnull_list_rejected (genv : ResultTypes.Env) (penv : Pyd.Env) (ha : EnvAgrees genv penv) (t : TypeRef)
    (hl : LeafName genv t.base) (fuel : Nat) (hf : need t + 2 ≤ fuel) (nullable : Bool) :
    ∀ v, validate penv fuel (leafAnn genv nullable (.nonNull (.list t))) .null ≠ .ok v := by
  intro v hv
  have h := (accepts_iff_lax genv penv ha (.nonNull (.list t)) (by simpa [TypeRef.base] using hl) nullable .null fuel
    (by simpa [need] using hf)).mp ⟨v, hv⟩
  simp [conformsLax] at h

/-- a scalar or an object where a list is expected is rejected -/
theorem nonlist_at_list_rejected (genv : ResultTypes.Env) (penv : Pyd.Env) (ha : EnvAgrees genv penv) (t : TypeRef)
    (hl : LeafName genv t.base) (fuel : Nat) (hf : need t + 2 ≤ fuel) (nullable : Bool) (j : J)
    (hj : j.isArr = false) (hn : j.isNull = false) :
    ∀ v, validate penv fuel (leafAnn genv nullable (.list t)) j ≠ .ok v := by
  intro v hv
  have h := (accepts_iff_lax genv penv ha (.list t) (by simpa [TypeRef.base] using hl) nullable j fuel
    (by simpa [need] using hf)).mp ⟨v, hv⟩
  cases j <;> simp [conformsLax, J.isArr, J.isNull] at h hj hn

/-- a list or an object where a built-in scalar or an enum is expected is rejected -/
theorem composite_at_leaf_rejected (genv : ResultTypes.Env) (penv : Pyd.Env) (ha : EnvAgrees genv penv) (n : String)
    (hl : LeafName genv n) (hnotAny : isAnyLeaf genv.schema n = false) (fuel : Nat) (hf : 2 ≤ fuel) (nullable : Bool) (j : J)
    (hj : j.isArr = true ∨ j.isObj = true) :
    ∀ v, validate penv fuel (leafAnn genv nullable (.named n)) j ≠ .ok v := by
  intro v hv
  have h := (accepts_iff_lax genv penv ha (.named n) (by simpa [TypeRef.base] using hl) nullable j fuel
    (by simpa [need] using hf)).mp ⟨v, hv⟩
  have hlax : leafOkLax genv.schema penv.lax n j = false := by rw [leafOkLax_composite _ _ _ _ hj]; exact hnotAny
  cases j <;> simp [conformsLax, hlax, J.isArr, J.isObj] at h hj

/-- A selected unconditional field missing from the payload is rejected (whatever else is there). -/
theorem missing_required_rejected (penv : Pyd.Env) (clsFuel : Nat) (rec : Ann → J → Except VErr PV)
    (kvs : List (String × J)) (f : FieldDecl) (hreq : f.defaultNone = false)
    (hpy : J.lookup f.py kvs = none) (halias : ∀ a, f.alias = some a → J.lookup a kvs = none) :
    fieldWith penv clsFuel rec kvs f = .error (.missing (f.alias.getD f.py)) := by
  rw [fieldWith_none (readField_none hpy halias), hreq]
  rfl

/-- a model one of whose fields fails to validate is rejected -/
theorem model_with_failing_field_rejected (penv : Pyd.Env) (clsFuel : Nat) (rec : Ann → J → Except VErr PV)
    (cn : String) (kvs : List (String × J)) (f : FieldDecl) (hf : f ∈ allFields penv clsFuel cn) (e : VErr)
    (he : fieldWith penv clsFuel rec kvs f = .error e) :
    ∀ v, modelWith penv clsFuel rec cn (.obj kvs) ≠ .ok v := by
  intro v hv
  obtain ⟨kvs', hj, hall⟩ := modelWith_ok hv
  cases hj
  obtain ⟨r, hr⟩ := hall f hf
  rw [he] at hr
  cases hr

/-- hence the whole model is rejected -/
theorem model_with_missing_field_rejected (penv : Pyd.Env) (clsFuel : Nat) (rec : Ann → J → Except VErr PV)
    (cn : String) (kvs : List (String × J)) (f : FieldDecl) (hf : f ∈ allFields penv clsFuel cn) (hreq : f.defaultNone = false)
    (hpy : J.lookup f.py kvs = none) (halias : ∀ a, f.alias = some a → J.lookup a kvs = none) :
    ∀ v, modelWith penv clsFuel rec cn (.obj kvs) ≠ .ok v :=
  model_with_failing_field_rejected penv clsFuel rec cn kvs f hf _ (missing_required_rejected penv clsFuel rec kvs f hreq hpy halias)

/-- An object whose `__typename` is not in the literal of any member class of a discriminated
    union is rejected; so is an object without `__typename`. -/
theorem foreign_typename_rejected (penv : Pyd.Env) (clsFuel : Nat) (rec : Ann → J → Except VErr PV)
    (as : List Ann) (kvs : List (String × J)) (tag : String)
    (htag : J.lookup ResultTypes.typenameField kvs = some (.str tag))
    (hforeign : ∀ a ∈ as, ∀ cn, annClassName? a = some cn → ((typenameLiteral penv clsFuel cn).getD []).contains tag = false) :
    taggedWith penv clsFuel rec as (.obj kvs) = .error (.tagInvalid tag) := by
  unfold taggedWith
  simp only [htag]
  rw [List.find?_eq_none.mpr]
  intro a ha
  cases hcn : annClassName? a with
  | none => simp
  | some cn => simpa using hforeign a ha cn hcn

theorem missing_typename_rejected (penv : Pyd.Env) (clsFuel : Nat) (rec : Ann → J → Except VErr PV)
    (as : List Ann) (kvs : List (String × J)) (h : J.lookup ResultTypes.typenameField kvs = none) :
    taggedWith penv clsFuel rec as (.obj kvs) = .error .tagNotFound := by
  unfold taggedWith
  simp [h]

/-! ### Every generated class, any document: what it declares, and what it therefore rejects

    The theorems of this section are about an ARBITRARY successful call of `_parse_type_definition` — the call that
    produces one result class — for an arbitrary document: named fragments (inherited, unpacked or dropped), inline
    fragments, abstract types, aliases, the same schema field under several response keys, directives; any generator
    state and history; any fuel.  There is no region predicate.  (Lemmas: Proofs/C05Declared.lean.) -/

/-- `_resolve_selection_set` has no memory: the field nodes it returns are the pure function `flatFields` of the
    selection set, the root type and the fragment table — whatever was resolved or generated before (`st`). -/
theorem resolved_nodes_history_free (env : ResultTypes.Env) (fuel : Nat) (sels : List Selection) (root : String)
    (st : St) (r : ResultTypes.Acc) (st' : St) (h : resolve env fuel sels root st = .ok (r, st')) :
    r.1 = flatFields env fuel sels root :=
  resolve_fields_eq env fuel sels root st r st' h

/-- The class a successful `_parse_type_definition` call creates declares exactly one field per resolved node, in
    order — (automatic `__typename`s, then) `flatFields` — each under its own RESPONSE KEY (`Field(alias=…)` or the
    python name), with the python name derived from the response key, and with a `None` default iff the node carries
    `@skip`/`@include` (`nodeRequired`: never for `__typename` in a class with typename values, finding C01-F10).  In particular two selections of one schema field under different aliases are two fields. -/
theorem generated_class_declares_selected (env : ResultTypes.Env) (fuel : Nat) (cn tn : String) (sid : Nat)
    (sel : List Selection) (a : Bool) (eb tv : List String) (st : St) (cs : List ClassDecl) (st' : St)
    (h : parseTypeDefinition env fuel cn tn sid sel a eb tv st = .ok (cs, st'))
    (hfresh : st.publicNames.contains cn = false) :
    ∃ (c : ClassDecl) (rest : List ClassDecl) (pre : List RField),
      cs = c :: rest ∧ c.name = cn ∧ (∀ f ∈ pre, f = ResultTypes.typenameRField) ∧
      c.fields.map declSig = (pre ++ flatFields env fuel sel tn).map (nodeSig env tv) := by
  obtain ⟨c, rest, pre, h1, h2, h3, hz, _⟩ := class_declares_exactly env fuel cn tn sid sel a eb tv st cs st' h hfresh
  exact ⟨c, rest, pre, h1, h2, h3, class_sigs_exact hz⟩

/-- a field written directly in the selection set (under whatever alias) is among the nodes -/
theorem direct_selection_is_node (env : ResultTypes.Env) (fuel : Nat) (sels : List Selection) (root : String)
    (alias : Option String) (name : String) (dirs : List Directive) (sid : Nat) (sub : List Selection)
    (h : Selection.field alias name dirs sid sub ∈ sels) :
    (⟨alias, name, dirs, sid, sub⟩ : RField) ∈ flatFields env (fuel + 1) sels root :=
  direct_field_mem_flat env fuel sels root alias name dirs sid sub h

/-- all declarations of the python name `py` in the class body are one and the same declaration (true when the python names
    are pairwise distinct, `sameName_of_nodup`; also true for `{ id ...F }` with `id` in an unpacked `F`: the class body then
    has `id: str` twice).  Outside: one name declared in two different ways — finding region C01-F2. -/
def SameNameSameDecl (c : ClassDecl) (py : String) : Prop :=
  ∀ d₁ ∈ c.fields, ∀ d₂ ∈ c.fields, d₁.py = py → d₂.py = py → d₂ = d₁

theorem sameName_of_nodup (c : ClassDecl) (hnd : (c.fields.map (·.py)).Nodup) (py : String) : SameNameSameDecl c py :=
  fun d₁ h₁ d₂ h₂ e₁ e₂ => ident_of_nodup c.fields hnd d₁ h₁ d₂ h₂ (e₂.trans e₁.symm)

/-- a class rejects an object as soon as one of its own declarations (the only one of its python name, up to repetition) fails -/
theorem class_rejects_of_decl (penv : Pyd.Env) (c : ClassDecl) (cn : String) (hname : c.name = cn)
    (hcls : penv.class? cn = some c) (d : FieldDecl) (hd : d ∈ c.fields) (hdup : SameNameSameDecl c d.py)
    (kvs : List (String × J)) (g : Nat) (e : VErr) (he : fieldWith penv penv.clsFuel (validate penv g) kvs d = .error e) :
    ∀ v, validate penv (g + 1) (.cls cn) (.obj kvs) ≠ .ok v := by
  intro v
  rw [C01Accepts.validate_cls_succ]
  have hmem : d ∈ allFields penv penv.clsFuel c.name :=
    own_mem_allFields_ident penv penv.classes.length c (hname ▸ hcls) d hd (fun m hm hpy' => hdup d hd m hm rfl hpy')
  rw [hname] at hmem
  exact model_with_failing_field_rejected penv penv.clsFuel (validate penv g) cn kvs d hmem e he v

/-- **missing key, any class of any document**: the class generated for `sel` rejects every payload object that lacks the response key of an unconditional node of `sel`
    (and does not carry the field under its python name either: pydantic's `populate_by_name`). -/
theorem generated_class_rejects_missing_key (env : ResultTypes.Env) (fuel : Nat) (cn tn : String) (sid : Nat)
    (sel : List Selection) (a : Bool) (eb tv : List String) (st : St) (c : ClassDecl) (rest : List ClassDecl) (st' : St)
    (h : parseTypeDefinition env fuel cn tn sid sel a eb tv st = .ok (c :: rest, st'))
    (hfresh : st.publicNames.contains cn = false)
    (f : RField) (hf : f ∈ flatFields env fuel sel tn) (hreq : nodeRequired tv f = true)
    (penv : Pyd.Env) (hcls : penv.class? cn = some c) (hdup : SameNameSameDecl c (pyFieldName env f.key))
    (kvs : List (String × J)) (hkey : J.lookup f.key kvs = none) (hpy : J.lookup (pyFieldName env f.key) kvs = none) :
    ∀ g v, validate penv g (.cls cn) (.obj kvs) ≠ .ok v := by
  obtain ⟨c', rest', pre, h1, h2, _, hz, _⟩ := class_declares_exactly env fuel cn tn sid sel a eb tv st _ st' h hfresh
  obtain ⟨rfl, _⟩ := List.cons.inj h1
  obtain ⟨d, hd, hk, hp, hdef, _⟩ := node_declared hz f (List.mem_append_right _ hf)
  intro g v
  cases g with
  | zero => simp [validate]
  | succ g =>
    refine class_rejects_of_decl penv c cn h2 hcls d hd (by rw [hp]; exact hdup) kvs g _
      (missing_required_rejected penv penv.clsFuel (validate penv g) kvs d (by rw [hdef, hreq]; rfl) (by rw [hp]; exact hpy) ?_) v
    intro al hal
    have : al = f.key := by rw [← hk]; simp [declKey, hal]
    rw [this]; exact hkey

/-- **non-conformant leaf value, any class of any document**: if the payload carries, under the response key of an
    unconditional leaf-typed node (scalar / enum under any list / non-null wrappers), a value that is not conformant up to
    the lax table — null at a non-null position, another JSON kind, a list for a scalar, a wrong list element … — the
    class rejects the payload (for every sufficient validation fuel). -/
theorem generated_class_rejects_bad_leaf (env : ResultTypes.Env) (fuel : Nat) (cn tn : String) (sid : Nat)
    (sel : List Selection) (a : Bool) (eb tv : List String) (st : St) (c : ClassDecl) (rest : List ClassDecl) (st' : St)
    (h : parseTypeDefinition env fuel cn tn sid sel a eb tv st = .ok (c :: rest, st'))
    (hfresh : st.publicNames.contains cn = false)
    (f : RField) (hf : f ∈ flatFields env fuel sel tn) (hcond : hasConditionalDirective f.dirs = false)
    (hspecial : (f.name == typenameField && !tv.isEmpty) = false)
    (t : TypeRef) (ht : fieldTypeFromSchema env tn f.name = .ok t) (hl : LeafName env t.base)
    (penv : Pyd.Env) (hagree : EnvAgrees env penv) (hcls : penv.class? cn = some c) (hdup : SameNameSameDecl c (pyFieldName env f.key))
    (kvs : List (String × J)) (x : J) (hkey : J.lookup f.key kvs = some x)
    (hbad : conformsLax env.schema penv.lax true t x = false) :
    ∀ g v, need t + 1 ≤ g → validate penv g (.cls cn) (.obj kvs) ≠ .ok v := by
  obtain ⟨c', rest', pre, h1, h2, _, hz, _⟩ := class_declares_exactly env fuel cn tn sid sel a eb tv st _ st' h hfresh
  obtain ⟨rfl, _⟩ := List.cons.inj h1
  obtain ⟨d, hd, hk, hp, hdef, hdecl⟩ := node_declared hz f (List.mem_append_right _ hf)
  obtain ⟨hann, hdisc⟩ := hdecl.2.1 t ht hl hspecial
  have hann' : d.ann = leafAnn env true t := by
    rw [hann]; simp [C01Plain.condAnn, hcond]
  intro g v hg
  obtain ⟨g, rfl⟩ : ∃ k, g = k + 1 := ⟨g - 1, by omega⟩
  have hrej : ∀ pv, validate penv g (leafAnn env true t) x ≠ .ok pv := by
    intro pv hpv
    have := (accepts_iff_lax env penv hagree t hl true x g (by omega)).mp ⟨pv, hpv⟩
    rw [hbad] at this; cases this
  have herr : ∃ e, fieldWith penv penv.clsFuel (validate penv g) kvs d = .error e := by
    rw [fieldWith_some (readField_key hk hkey) hdisc, hann']
    cases hv : validate penv g (leafAnn env true t) x with
    | ok pv => exact absurd hv (hrej pv)
    | error e => exact ⟨e, rfl⟩
  obtain ⟨e, he⟩ := herr
  exact class_rejects_of_decl penv c cn h2 hcls d hd (by rw [hp]; exact hdup) kvs g e he v

/-- **foreign `__typename`, any variant class of any document**: a class generated with `add_typename` and typename
    values `tv` (the classes of an interface / union position) has a `__typename` field — the selected one or the automatic
    one —, annotated `Literal[tv]`; a payload object whose value under that key is not one of `tv` is rejected.  With
    `typename_literal_values_sound` (every value of `tv` is the class's type or a possible type of the position) this is the
    per-class half of "an object whose `__typename` is not a possible type of its position is rejected"; the other half is
    `foreign_typename_rejected` for the discriminated `Union[...]`. -/
theorem generated_class_rejects_foreign_typename (env : ResultTypes.Env) (fuel : Nat) (cn tn : String) (sid : Nat)
    (sel : List Selection) (eb tv : List String) (st : St) (c : ClassDecl) (rest : List ClassDecl) (st' : St)
    (h : parseTypeDefinition env fuel cn tn sid sel true eb tv st = .ok (c :: rest, st'))
    (hfresh : st.publicNames.contains cn = false) (htv : tv.isEmpty = false)
    (penv : Pyd.Env) (hcls : penv.class? cn = some c) (hdup : ∀ py, SameNameSameDecl c py) :
    ∃ f : RField, f.name = typenameField ∧ (f = ResultTypes.typenameRField ∨ f ∈ flatFields env fuel sel tn) ∧
      ∀ (kvs : List (String × J)) (x : J), J.lookup f.key kvs = some x → (∀ s ∈ tv, x ≠ .str s) →
        ∀ g v, validate penv g (.cls cn) (.obj kvs) ≠ .ok v := by
  obtain ⟨c', rest', pre, h1, h2, hpre, hz, hex⟩ := class_declares_exactly env fuel cn tn sid sel true eb tv st _ st' h hfresh
  obtain ⟨rfl, _⟩ := List.cons.inj h1
  obtain ⟨f, hf, hname⟩ := hex rfl
  refine ⟨f, hname, ?_, ?_⟩
  · rcases List.mem_append.mp hf with h' | h'
    · exact Or.inl (hpre f h')
    · exact Or.inr h'
  · intro kvs x hkey hbad g v
    obtain ⟨d, hd, hk, hp, _, hdecl⟩ := node_declared hz f hf
    have hs : (f.name == typenameField && !tv.isEmpty) = true := by simp [hname, htv]
    obtain ⟨hann, hdisc⟩ := hdecl.2.2 hs
    cases g with
    | zero => simp [validate]
    | succ g =>
      have herr : ∃ e, fieldWith penv penv.clsFuel (validate penv g) kvs d = .error e := by
        rw [fieldWith_some (readField_key hk hkey) hdisc, hann]
        obtain ⟨e, he⟩ := validate_literal_err penv g (sortStr tv) x (fun s hs => hbad s (Util.mem_sortStr.mp hs))
        exact ⟨e, by rw [he]⟩
      obtain ⟨e, he⟩ := herr
      exact class_rejects_of_decl penv c cn h2 hcls d hd (hdup d.py) kvs g e he v

/-- what can be among the typename values of a position's classes: the class's own type name, or a possible type of an
    abstract type of the position — nothing else (`_get_typename_values`) -/
theorem typename_literal_values_sound (env : ResultTypes.Env) (related : List (String × String)) (n : String) (vs : List String)
    (h : (n, vs) ∈ typenameValues env related) (v : String) (hv : v ∈ vs) :
    v = n ∨ ∃ a ∈ related.map (·.2), env.schema.isAbstract a = true ∧ v ∈ env.schema.possibleTypes a :=
  typenameValues_sound env related n vs h v hv

/-- **a fragment on an interface is expanded at every use**: an interface-typed field whose selection set spreads `F`,
    where `F` has `... on T {…}` at its top level, is annotated with a `Union[…]` that has the member `"<ClassName><T>"`, and
    that class is generated — for every such field, in every operation, whatever was generated before. -/
theorem interface_fragment_expanded_at_every_use (env : ResultTypes.Env) (fuel : Nat) (fieldSel : List Selection) (n : String)
    (nullable : Bool) (cn : String) (add : Bool) (ctx : Ctx) (a : Ann) (ctx' : Ctx)
    (hk : env.schema.kindOf? n = some .interface)
    (h : parseType env (fuel + 2) fieldSel (.named n) nullable cn add ctx = .ok (a, ctx'))
    (fn : String) (sd : List Directive) (f : Fragment) (hspread : Selection.spread fn sd ∈ fieldSel)
    (hf : findFragment? env.frags fn = some f)
    (T : String) (d : List Directive) (sid : Nat) (sub : List Selection)
    (hm : Selection.inline (some T) d sid sub ∈ f.sel) :
    (cn ++ T, T) ∈ ctx'.related ∧ ∃ as, a = optionalIf nullable (.union as) ∧ Ann.cls (cn ++ T) ∈ as :=
  interface_spread_variant env fuel fieldSel n nullable cn add ctx a ctx' hk h fn sd f hspread hf T d sid sub hm

/-! non-vacuity: the same schema field under two response keys, one of them inside an inline fragment on the class's own
    type, plus a conditional field

      type Query { user(id: ID): User }   type User { id: ID! name: String! age: Int }
      { first: user { id name } second: user { id ... on User { nick: name } age @skip(if: $b) } }
-/

def dSchema : Schema :=
  { types := [
      { name := "Query", kind := .object, fields := [{ name := "user", type := .named "User" }] },
      { name := "User", kind := .object,
        fields := [{ name := "id", type := .nonNull (.named "ID") }, { name := "name", type := .nonNull (.named "String") },
                   { name := "age", type := .named "Int" }] }],
    query := some "Query" }

def dEnv : ResultTypes.Env := { schema := dSchema, frags := [] }

def dSecond : List Selection :=
  [ .field none "id" [] 0 [],
    .inline (some "User") [] 5 [.field (some "nick") "name" [] 0 []],
    .field none "age" [{ name := "skip", args := [("if", none)] }] 0 [] ]

def dSel : List Selection :=
  [ .field (some "first") "user" [] 2 [.field none "id" [] 0 [], .field none "name" [] 0 []],
    .field (some "second") "user" [] 3 dSecond ]

def iSchema : Schema :=
  { types := [
      { name := "Query", kind := .object,
        fields := [{ name := "reviewer", type := .named "Actor" }, { name := "author", type := .named "Actor" }] },
      { name := "Actor", kind := .interface, fields := [{ name := "id", type := .nonNull (.named "ID") }] },
      { name := "User", kind := .object, interfaces := ["Actor"],
        fields := [{ name := "id", type := .nonNull (.named "ID") }, { name := "name", type := .nonNull (.named "String") }] },
      { name := "Bot", kind := .object, interfaces := ["Actor"],
        fields := [{ name := "id", type := .nonNull (.named "ID") }, { name := "version", type := .nonNull (.named "Int") }] }],
    query := some "Query" }

def iFrag : Fragment :=
  { name := "ActorParts", on := "Actor", sid := 9,
    sel := [.field none "id" [] 0 [], .inline (some "User") [] 10 [.field none "name" [] 0 []],
            .inline (some "Bot") [] 11 [.field none "version" [] 0 []]] }

def iEnv : ResultTypes.Env := { schema := iSchema, frags := [iFrag] }

def iSel : List Selection :=
  [ .field none "reviewer" [] 2 [.spread "ActorParts" []], .field none "author" [] 3 [.spread "ActorParts" []] ]

/-- non-vacuity of `generated_class_rejects_foreign_typename`: the variant class `QAuthorBot` (typename values `["Bot"]`) of the
    interface position above is generated with the automatic `__typename`, and the model's pydantic rejects `__typename: "User"` -/
def iBotSel : List Selection := [.spread "ActorParts" []]

def exRespMissing : J :=
  .obj [("everyone", .arr [.obj [("id", .str "1")]]), ("me", .obj [("givenName", .str "Ada"), ("role", .str "ADMIN")])]
def exRespNull : J :=
  .obj [("everyone", .arr [.obj [("id", .str "1")], .obj [("id", .null)]]), ("me", .null)]

/-- What the kernel evaluates on the concrete inputs of this file, in one declaration: every evaluation that converts a name decodes
    the keyword tables of `Model/Names.lean`, and the kernel shares work only inside one declaration.  The lemmas named after the
    inputs are its components. -/
theorem evaluated :
    ((match parseTypeDefinition dEnv 10 "Q" "Query" 1 dSel false [] [] {} with
      | .ok (cs, _) => cs.map (fun c => (c.name, c.fields.map declSig)) ==
          [("Q", [("first", "first", false), ("second", "second", false)]),
           ("QFirst", [("id", "id", false), ("name", "name", false)]),
           ("QSecond", [("id", "id", false), ("nick", "nick", false), ("age", "age", true)])]
      | .error _ => false) = true) ∧
    ((flatFields dEnv 10 dSecond "User").map (nodeSig dEnv []) = [("id", "id", false), ("nick", "nick", false), ("age", "age", true)]
      ∧ (match parseTypeDefinition dEnv 9 "QSecond" "User" 3 dSecond false [] [] {} with
         | .ok (cs, _) => cs.map (fun c => c.fields.map (·.py)) == [["id", "nick", "age"]]
         | .error _ => false) = true
      ∧ pyFieldName dEnv "nick" = "nick") ∧
    ((match parseTypeDefinition iEnv 10 "Q" "Query" 1 iSel false [] [] {} with
      | .ok (cs, _) => cs.map (fun c => (c.name, c.fields.map declKey)) ==
          [("Q", ["reviewer", "author"]),
           ("QReviewerActor", ["__typename", "id"]), ("QReviewerBot", ["__typename", "id", "version"]),
           ("QReviewerUser", ["__typename", "id", "name"]),
           ("QAuthorActor", ["__typename", "id"]), ("QAuthorBot", ["__typename", "id", "version"]),
           ("QAuthorUser", ["__typename", "id", "name"])]
      | .error _ => false) = true) ∧
    ((match parseTypeDefinition iEnv 8 "QAuthorBot" "Bot" 3 iBotSel true [] ["Bot"] {} with
      | .ok (cs, _) =>
        cs.map (fun c => (c.name, c.fields.map declSig)) == [("QAuthorBot", [("__typename", "typename__", false), ("id", "id", false), ("version", "version", false)])]
        && (match cs.head? with
            | some c => (match validate { classes := [c], enums := [] } 5 (.cls "QAuthorBot")
                           (.obj [("__typename", .str "User"), ("id", .str "1"), ("version", .num 1 0)]) with
                         | .ok _ => false | .error _ => true)
                        && (match validate { classes := [c], enums := [] } 5 (.cls "QAuthorBot")
                           (.obj [("__typename", .str "Bot"), ("id", .str "1"), ("version", .num 1 0)]) with
                         | .ok _ => true | .error _ => false)
            | none => false)
      | .error _ => false) = true) ∧
    (typenameValues iEnv [("QAuthorActor", "Actor"), ("QAuthorBot", "Bot"), ("QAuthorUser", "User")] =
      [("Actor", ["Actor"]), ("Bot", ["Bot"]), ("User", ["User"])]) ∧
    (laxResp C01Plain.exEnv Lax.none "Query" C01Plain.exSel C01Plain.exResp = true
      ∧ laxResp C01Plain.exEnv Lax.none "Query" C01Plain.exSel exRespMissing = false
      ∧ laxResp C01Plain.exEnv Lax.none "Query" C01Plain.exSel exRespNull = false) := by
  decide +kernel

/-- generation succeeds; the root class has BOTH `first` and `second`; the class of `second` has `id`, `nick`, `age` -/
example :
    (match parseTypeDefinition dEnv 10 "Q" "Query" 1 dSel false [] [] {} with
     | .ok (cs, _) => cs.map (fun c => (c.name, c.fields.map declSig)) ==
         [("Q", [("first", "first", false), ("second", "second", false)]),
          ("QFirst", [("id", "id", false), ("name", "name", false)]),
          ("QSecond", [("id", "id", false), ("nick", "nick", false), ("age", "age", true)])]
     | .error _ => false) = true := evaluated.1

theorem dSecond_run :
    (flatFields dEnv 10 dSecond "User").map (nodeSig dEnv []) = [("id", "id", false), ("nick", "nick", false), ("age", "age", true)]
    ∧ (match parseTypeDefinition dEnv 9 "QSecond" "User" 3 dSecond false [] [] {} with
       | .ok (cs, _) => cs.map (fun c => c.fields.map (·.py)) == [["id", "nick", "age"]]
       | .error _ => false) = true
    ∧ pyFieldName dEnv "nick" = "nick" := evaluated.2.1

example : (flatFields dEnv 10 dSecond "User").map (nodeSig dEnv []) =
    [("id", "id", false), ("nick", "nick", false), ("age", "age", true)] := dSecond_run.1

/-- the hypotheses of `generated_class_rejects_missing_key` / `_bad_leaf` are satisfiable: the class `QSecond`, its node
    `nick: name`, a payload without `nick`, and one with `nick: null` -/
theorem dSecond_generates : ∃ c rest st',
    parseTypeDefinition dEnv 9 "QSecond" "User" 3 dSecond false [] [] {} = .ok (c :: rest, st') ∧
    (c.fields.map (·.py)).Nodup := by
  have hpy := dSecond_run.2.1
  cases hr : parseTypeDefinition dEnv 9 "QSecond" "User" 3 dSecond false [] [] {} with
  | error e => rw [hr] at hpy; cases hpy
  | ok p =>
    obtain ⟨cs, st'⟩ := p
    rw [hr] at hpy
    simp only [beq_iff_eq] at hpy
    cases cs with
    | nil => simp at hpy
    | cons c rest =>
      refine ⟨c, rest, st', rfl, ?_⟩
      simp only [List.map_cons, List.cons.injEq] at hpy
      rw [hpy.1]; decide

theorem dSecond_name {c : ClassDecl} {rest : List ClassDecl} {st' : St}
    (hgen : parseTypeDefinition dEnv 9 "QSecond" "User" 3 dSecond false [] [] {} = .ok (c :: rest, st')) : c.name = "QSecond" := by
  obtain ⟨c', _, _, h1, h2, _, _, _⟩ := class_declares_exactly dEnv 9 "QSecond" "User" 3 dSecond false [] [] {} _ st' hgen rfl
  obtain ⟨rfl, _⟩ := List.cons.inj h1
  exact h2

example : ∃ c rest st', parseTypeDefinition dEnv 9 "QSecond" "User" 3 dSecond false [] [] {} = .ok (c :: rest, st') ∧
    ∀ g v, validate { classes := [c], enums := [] } g (.cls "QSecond") (.obj [("id", .str "1"), ("age", .null)]) ≠ .ok v := by
  obtain ⟨c, rest, st', hgen, hnd⟩ := dSecond_generates
  refine ⟨c, rest, st', hgen, ?_⟩
  have hname := dSecond_name hgen
  exact generated_class_rejects_missing_key dEnv 9 "QSecond" "User" 3 dSecond false [] [] {} c rest st' hgen rfl
    ⟨some "nick", "name", [], 0, []⟩
    (inline_field_mem_flat dEnv 7 dSecond "User" "User" "User" [] 5 [.field (some "nick") "name" [] 0 []] (some "nick") "name" [] 0 []
      (by simp [dSecond]) (by decide +kernel) (by simp))
    (by decide) { classes := [c], enums := [] } (by simp [Pyd.Env.class?, hname]) (sameName_of_nodup c hnd _) _ (by decide)
    (by show J.lookup (pyFieldName dEnv "nick") _ = none; rw [dSecond_run.2.2]; decide)

theorem dNoEnum (n : String) (t : TypeDef) (h : dSchema.get? n = some t) : t.kind = .object := by
  have hm := List.mem_of_find?_eq_some h
  simp only [dSchema, List.mem_cons, List.not_mem_nil, or_false] at hm
  rcases hm with rfl | rfl <;> rfl

theorem dAgrees (cs : List ClassDecl) : EnvAgrees dEnv { classes := cs, enums := [] } where
  enums := by
    intro n t h hk
    have := dNoEnum n t h
    rw [this] at hk; cases hk
  notBuiltin := by
    intro n h
    simp only [Schema.kindOf?, dEnv] at h
    cases hg : dSchema.get? n with
    | none => simp [hg] at h
    | some t => simp [hg, dNoEnum n t hg] at h
  builtins := by
    intro n h
    left
    rcases h with rfl | rfl | rfl | rfl | rfl <;> decide +kernel
  noExtraEnums := by intro n _; right; simp [Pyd.Env.enum?]

/-- `generated_class_rejects_bad_leaf` applies: `nick: name` is `String!`; a payload with `nick: null`, `nick: 7` or
    `nick: []` is rejected by the class generated for `second` -/
example (bad : J) (hbad : bad = .null ∨ bad = .num 7 0 ∨ bad = .arr []) :
    ∃ c rest st', parseTypeDefinition dEnv 9 "QSecond" "User" 3 dSecond false [] [] {} = .ok (c :: rest, st') ∧
    ∀ g v, 3 ≤ g → validate { classes := [c], enums := [] } g (.cls "QSecond") (.obj [("id", .str "1"), ("nick", bad)]) ≠ .ok v := by
  obtain ⟨c, rest, st', hgen, hnd⟩ := dSecond_generates
  refine ⟨c, rest, st', hgen, ?_⟩
  have hname := dSecond_name hgen
  have hl : LeafName dEnv (TypeRef.nonNull (.named "String")).base := by
    refine ⟨Or.inl ?_, ?_⟩ <;> decide +kernel
  refine generated_class_rejects_bad_leaf dEnv 9 "QSecond" "User" 3 dSecond false [] [] {} c rest st' hgen rfl
    ⟨some "nick", "name", [], 0, []⟩
    (inline_field_mem_flat dEnv 7 dSecond "User" "User" "User" [] 5 [.field (some "nick") "name" [] 0 []] (some "nick") "name" [] 0 []
      (by simp [dSecond]) (by decide +kernel) (by simp))
    (by decide) (by decide) (.nonNull (.named "String")) (by rfl) hl
    { classes := [c], enums := [] } (dAgrees [c]) (by simp [Pyd.Env.class?, hname]) (sameName_of_nodup c hnd _) _ bad (by simp [J.lookup, RField.key]) ?_
  show conformsLax dSchema Lax.none true (.nonNull (.named "String")) bad = false
  rcases hbad with rfl | rfl | rfl <;> decide +kernel

/-- `SameNameSameDecl` beyond pairwise distinct names: the class body of `{ id ... on User { id } name }` declares `id: str`
    twice; pydantic's field `id` is that declaration -/
example :
    let a : FieldDecl := { py := "id", ann := .name "str", alias := none, discriminator := false, defaultNone := false }
    let b : FieldDecl := { py := "name", ann := .name "str", alias := none, discriminator := false, defaultNone := false }
    a ∈ mergeDup [a, a, b] := by
  intro a b
  refine mem_mergeDup_of_ident a [a, a, b] (by simp) ?_
  intro m hm hpy
  simp only [List.mem_cons, List.not_mem_nil, or_false] at hm
  rcases hm with rfl | rfl | rfl
  · rfl
  · rfl
  · exact absurd hpy (by decide)

/-! non-vacuity of `interface_fragment_expanded_at_every_use` / `resolved_nodes_history_free`: one fragment on an interface,
    with inline fragments on the implementations, spread at TWO interface-typed fields

      interface Actor { id: ID! }  type User implements Actor { id: ID! name: String! }  type Bot implements Actor { id: ID! version: Int! }
      type Query { reviewer: Actor author: Actor }
      { reviewer { ...ActorParts } author { ...ActorParts } }
      fragment ActorParts on Actor { id ... on User { name } ... on Bot { version } }
-/

/-- both positions get all three variant classes, and the `Bot` variants declare `version` -/
example :
    (match parseTypeDefinition iEnv 10 "Q" "Query" 1 iSel false [] [] {} with
     | .ok (cs, _) => cs.map (fun c => (c.name, c.fields.map declKey)) ==
         [("Q", ["reviewer", "author"]),
          ("QReviewerActor", ["__typename", "id"]), ("QReviewerBot", ["__typename", "id", "version"]),
          ("QReviewerUser", ["__typename", "id", "name"]),
          ("QAuthorActor", ["__typename", "id"]), ("QAuthorBot", ["__typename", "id", "version"]),
          ("QAuthorUser", ["__typename", "id", "name"])]
     | .error _ => false) = true := evaluated.2.2.1

example : ∃ a ctx', parseType iEnv 5 [.spread "ActorParts" []] (.named "Actor") true "QAuthor" false {} = .ok (a, ctx') ∧
    ("QAuthor" ++ "Bot", "Bot") ∈ ctx'.related := by
  cases hr : parseType iEnv 5 [.spread "ActorParts" []] (.named "Actor") true "QAuthor" false {} with
  | error e =>
    have : (match parseType iEnv 5 [.spread "ActorParts" []] (.named "Actor") true "QAuthor" false {} with
      | .ok _ => true | .error _ => false) = true := by decide +kernel
    rw [hr] at this; cases this
  | ok p =>
    obtain ⟨a, ctx'⟩ := p
    exact ⟨a, ctx', rfl, (interface_fragment_expanded_at_every_use iEnv 3 [.spread "ActorParts" []] "Actor" true "QAuthor" false {} a ctx'
      (by decide +kernel) hr "ActorParts" [] iFrag (by simp) (by rfl) "Bot" [] 11 [.field none "version" [] 0 []]
      (by simp [iFrag])).1⟩

example :
    (match parseTypeDefinition iEnv 8 "QAuthorBot" "Bot" 3 iBotSel true [] ["Bot"] {} with
     | .ok (cs, _) =>
       cs.map (fun c => (c.name, c.fields.map declSig)) == [("QAuthorBot", [("__typename", "typename__", false), ("id", "id", false), ("version", "version", false)])]
       && (match cs.head? with
           | some c => (match validate { classes := [c], enums := [] } 5 (.cls "QAuthorBot")
                          (.obj [("__typename", .str "User"), ("id", .str "1"), ("version", .num 1 0)]) with
                        | .ok _ => false | .error _ => true)
                       && (match validate { classes := [c], enums := [] } 5 (.cls "QAuthorBot")
                          (.obj [("__typename", .str "Bot"), ("id", .str "1"), ("version", .num 1 0)]) with
                        | .ok _ => true | .error _ => false)
           | none => false)
     | .error _ => false) = true := evaluated.2.2.2.1

example : typenameValues iEnv [("QAuthorActor", "Actor"), ("QAuthorBot", "Bot"), ("QAuthorUser", "User")] =
    [("Actor", ["Actor"]), ("Bot", ["Bot"]), ("User", ["User"])] := evaluated.2.2.2.2.1

/-! ### Plain selections: the whole model, to any depth — accepted ⇒ conformant (up to the lax table)

    The converse of C01's `plain_roundtrip`, for the same region (`C01Plain.PlainOK`: selection sets of fields — leaf- or
    object-typed under any list / non-null wrappers, aliases, `@skip` / `@include` —, no fragments, no `__typename`):
    whatever JSON value the generated ROOT class accepts is `laxResp` (Proofs/C05StrictDefs.lean), i.e. at EVERY depth no
    selected unconditional key is missing, no `null` sits at a non-null unconditional position, every list is a list, every
    object an object, every leaf value a cell of the lax table.  Hence every single-point corruption the property lists
    (outside the lax table) is rejected wherever in the response tree it is made. -/

/-- **C05, plain tier** (class level, with the generation): generation succeeds with the clean classes, and the root class accepts only
    `laxResp` payloads — for every JSON value and every validation fuel. -/
theorem plain_accepted_imp_conformant (env : ResultTypes.Env) (cn tn : String) (sid : Nat) (sel : List Selection) (st : St)
    (h : C01Plain.PlainOK env cn tn sid sel st = true) :
    ∃ classes : List ClassDecl,
      (∀ fuel, C01Plain.gfuel sel ≤ fuel →
        ∃ st', parseTypeDefinition env fuel cn tn sid sel false [] [] st = .ok (classes, st')) ∧
      (∀ (penv : Pyd.Env), C01Plain.PenvOK env penv classes →
        ∀ (j : J) (g : Nat) (v : PV), validate penv g (.cls cn) j = .ok v → laxResp env penv.lax tn sel j = true) := by
  refine ⟨C01Plain.plainClasses env cn tn sel, ?_, ?_⟩
  · intro fuel hfuel
    obtain ⟨st', hst, _⟩ := C01Plain.plain_generation env cn tn sid sel st h [] fuel hfuel
    exact ⟨st', hst⟩
  · intro penv hp j g v hacc
    obtain ⟨_, h2, h3, _, _⟩ := C01Plain.PlainOK_spec h
    exact strict_spec env penv hp.agrees hp.noBaseModel g g (Nat.le_refl _) st.marks cn tn sel j v h2 h3 hp.has hacc

/-- what `laxResp` excludes, at the top of any (sub-)selection set: a selected unconditional key that is absent
    (under the response key and under the python name) -/
theorem laxResp_missing_key (env : ResultTypes.Env) (lax : Lax) (tn : String) (sel : List Selection) (kvs : List (String × J))
    (alias : Option String) (name : String) (dirs : List Directive) (sid : Nat) (sub : List Selection)
    (hm : Selection.field alias name dirs sid sub ∈ sel) (hc : hasConditionalDirective dirs = false)
    (hk : J.lookup (alias.getD name) kvs = none) (hp : J.lookup (pyFieldName env (alias.getD name)) kvs = none) :
    laxResp env lax tn sel (.obj kvs) = false := by
  cases hr : laxResp env lax tn sel (.obj kvs) with
  | false => rfl
  | true =>
    have := (laxSel_iff env lax tn kvs sel).mp hr _ hm
    simp [laxSel1, found, hk, hp, hc] at this

/-- … and `null` under the key of an unconditional field of non-null type (leaf or object, any wrappers below; `hany`: not a
    bare unconfigured custom scalar, whose `Any` accepts `None` — finding C05-F2) -/
theorem laxResp_null_at_nonnull (env : ResultTypes.Env) (lax : Lax) (tn : String) (sel : List Selection) (kvs : List (String × J))
    (alias : Option String) (name : String) (dirs : List Directive) (sid : Nat) (sub : List Selection) (t : TypeRef)
    (hm : Selection.field alias name dirs sid sub ∈ sel) (hc : hasConditionalDirective dirs = false)
    (ht : C01Plain.fieldT env tn name = .nonNull t) (hany : isAnyLeaf env.schema t.base = false ∨ sub.isEmpty = false ∨ ∃ u, t = .list u)
    (hk : J.lookup (alias.getD name) kvs = some .null) :
    laxResp env lax tn sel (.obj kvs) = false := by
  cases hr : laxResp env lax tn sel (.obj kvs) with
  | false => rfl
  | true =>
    have := (laxSel_iff env lax tn kvs sel).mp hr _ hm
    simp only [laxSel1, found, hk, hc, Bool.false_and, Bool.false_or, ht] at this
    by_cases hs : sub.isEmpty = true
    · simp only [hs, if_true, conformsLax, conformsLax_eq] at this
      obtain ⟨h1, h2⟩ := completeLax_null _ _ t this
      rcases hany with h | h | ⟨u, rfl⟩
      · rw [h1] at h; cases h
      · rw [hs] at h; cases h
      · exact absurd rfl (h2 u)
    · simp only [hs, Bool.false_eq_true, if_false, completeLax] at this
      cases (completeLax_null _ _ t this).1

/-! non-vacuity on C01's plain example (nested object, lists of objects, aliases, conditional fields, an enum leaf):
    the real classes accept the conformant response, and the theorem applies to every accepted value; a response with
    `me.id` removed, or with `everyone[1].id` nulled, is not `laxResp` -/
theorem exSel_lax : laxResp C01Plain.exEnv Lax.none "Query" C01Plain.exSel C01Plain.exResp = true
    ∧ laxResp C01Plain.exEnv Lax.none "Query" C01Plain.exSel exRespMissing = false
    ∧ laxResp C01Plain.exEnv Lax.none "Query" C01Plain.exSel exRespNull = false := evaluated.2.2.2.2.2

example : laxResp C01Plain.exEnv Lax.none "Query" C01Plain.exSel C01Plain.exResp = true := exSel_lax.1

example : laxResp C01Plain.exEnv Lax.none "Query" C01Plain.exSel exRespMissing = false
    ∧ laxResp C01Plain.exEnv Lax.none "Query" C01Plain.exSel exRespNull = false := exSel_lax.2

example (j : J) (g : Nat) (v : PV) (hacc : validate C01Plain.exPenv g (.cls "Q") j = .ok v) :
    laxResp C01Plain.exEnv C01Plain.exPenv.lax "Query" C01Plain.exSel j = true := by
  obtain ⟨classes, hgen, hstrict⟩ := plain_accepted_imp_conformant C01Plain.exEnv "Q" "Query" 1 C01Plain.exSel {} C01Plain.exSel_ok.1
  obtain ⟨st', hst⟩ := hgen _ (Nat.le_refl _)
  obtain ⟨st'', hst'', _⟩ := C01Plain.plain_generation C01Plain.exEnv "Q" "Query" 1 C01Plain.exSel {} C01Plain.exSel_ok.1 [] _ (Nat.le_refl _)
  have : classes = C01Plain.plainClasses C01Plain.exEnv "Q" "Query" C01Plain.exSel :=
    (Prod.mk.inj (Except.ok.inj (hst.symm.trans hst''))).1
  exact hstrict C01Plain.exPenv (this ▸ C01Plain.exPenvOK) j g v hacc

/-- The property at full strength for leaf positions: pydantic accepts a payload iff it is conformant. -/
def C05_full_leaf : Prop :=
  ∀ (genv : ResultTypes.Env) (penv : Pyd.Env), EnvAgrees genv penv → ∀ (T : TypeRef), LeafName genv T.base →
    ∀ (j : J) (fuel : Nat), need T ≤ fuel →
      ((∃ v, validate penv fuel (leafAnn genv true T) j = .ok v) ↔ Exec.conforms genv.schema true T j = true)

def emptyGenv : ResultTypes.Env := { schema := { types := [] }, frags := [] }
def emptyPenv : Pyd.Env := { classes := [], enums := [] }

theorem emptyAgrees : EnvAgrees emptyGenv emptyPenv where
  enums := by intro n t h; simp [emptyGenv, Schema.get?] at h
  notBuiltin := by intro n h; simp [emptyGenv, Schema.kindOf?, Schema.get?] at h
  builtins := by intro n _; left; simp [emptyGenv, Schema.kindOf?, Schema.get?]
  noExtraEnums := by intro n _; right; simp [emptyPenv, Pyd.Env.enum?]

/-- witness (finding C05-F1): `Int!` accepts the JSON boolean `true` -/
theorem C05_full_false : ¬ C05_full_leaf := by
  intro h
  have hl : LeafName emptyGenv (TypeRef.nonNull (.named "Int")).base := by
    refine ⟨Or.inl ?_, ?_⟩ <;> simp [TypeRef.base, emptyGenv, Schema.kindOf?, Schema.get?, scalarCfg?]
  have := (h emptyGenv emptyPenv emptyAgrees (.nonNull (.named "Int")) hl (.bool true) 2 (by simp [need])).mp
    ((accepts_iff_lax emptyGenv emptyPenv emptyAgrees _ hl true (.bool true) 2 (by simp [need])).mpr
      (by simp [conformsLax, leafOkLax, emptyGenv, Schema.kindOf?, Schema.get?]))
  simp [Exec.conforms, Exec.leafOk, emptyGenv, Schema.get?] at this

/-- The partial theorem: outside the lax table (`conformsLax` = `conforms`), accepted iff conformant. -/
theorem C05_partial (genv : ResultTypes.Env) (penv : Pyd.Env) (ha : EnvAgrees genv penv) (T : TypeRef)
    (hl : LeafName genv T.base) (j : J) (fuel : Nat) (hf : need T ≤ fuel)
    (hsupp : conformsLax genv.schema penv.lax true T j = Exec.conforms genv.schema true T j) :
    (∃ v, validate penv fuel (leafAnn genv true T) j = .ok v) ↔ Exec.conforms genv.schema true T j = true := by
  rw [accepts_iff_lax genv penv ha T hl true j fuel hf, hsupp]

/-- non-vacuity of `C05_partial`: a string at an `Int` position with no lax string parser is outside the table -/
example : conformsLax emptyGenv.schema Lax.none true (.named "Int") (.str "x") = Exec.conforms emptyGenv.schema true (.named "Int") (.str "x") := by
  simp [conformsLax, leafOkLax, Exec.conforms, Exec.leafOk, emptyGenv, Schema.kindOf?, Schema.get?, Lax.none]

end Ariadne.C05
