/-
  C19 — The schema source does not change the generated client.

  "The same schema supplied as one SDL file, as a directory tree of .graphql/.graphqls/.gql files
   in any split, or through introspection of a remote endpoint yields the same client for the same
   operations: identical result models, enums, method signatures and operation strings, and input
   models that agree on which fields are required and on every default value. Introspection
   failures (bad URL, non-2xx, non-JSON, errors, malformed data) surface as the introspection
   error; configured headers, with $ENV substitution, and the TLS verification flag are what is sent."

  Statements and final proofs only.  Models: Model/SchemaLoad.lean (files), Model/IntrospectChain.lean
  (remote + settings, end to end and stage by stage), Model/InputGen.lean (the generators that read the schema object),
  Spec/BuildClientSchema.lean (top of graphql-core's builder) and Spec/GqlLexer.lean (graphql-core's lexer as a
  one-character automaton) - the two Spec files are modelled, validated, not verified.

  What is a theorem and what is not, file part: §1 works on parsed files (a file = the definitions `parse` finds in it)
  and §1b derives that abstraction from the TEXT level as far as the lexer goes: `joined_text_tokens` (for all texts:
  the text handed to `parse` for a directory has the token streams of the files, in order - a property of the
  separator, `join_separator_resets`, which is measured on the real function on every run) and
  `joined_text_definitions` (the same for definitions, under the explicit token-level hypothesis `DefinitionWise`
  about graphql-core's parser, which is validated on every generated tree and is not proved).
  Settings part: §3 states the end-to-end decision (`headers_resolved_and_sent`, `verify_flag_sent`) and, since the
  headers are STATE handed from `__post_init__` through `main` to the request, the pipeline stage by stage
  (`staged_eq_chooseSource`, `url_stage_sends_what_it_is_given`, `headers_resolved_exactly_once`) together with the
  exact region where one `$ENV` resolution and two differ (`second_resolution_identity_iff`).

  The property is FALSE on the pinned tree in four modelled places, each with its trigger predicate:
    F1  `trigDefaultLost`      input-field defaults are read from `field.ast_node`, absent after introspection
    F3  `trigDataRejected`     a `data` object that `build_client_schema` rejects escapes as TypeError/KeyError
    F4  `trigDeprecatedInput`  the introspection query sent does not ask for deprecated input values
    F6  `trigRequestExcUntyped` an `httpx.RequestError` that is not a `TransportError` (in practice `DecodingError`:
                               a body whose Content-Encoding cannot be undone) escapes untyped
  (F5, repeatable directives, lives entirely in graphql-core's validation and has no model here.)
  F2 (every `httpx.TransportError` escaped untyped: URL without / with an unsupported scheme, refused connection,
  timeouts ...) was REPAIRED by /repo commit 23ffd85; its former trigger region `raised e, e not an InvalidURL`
  now belongs to the theorem region except for the F6 sliver: `transport_failures_typed`, `raised_typed_iff`,
  `C19_F2_witness_now_ok`; `F2_witness_escaped_before_repair` keeps the old chain to say what a regression is.

  Which exceptions of `httpx.post` are "introspection failures" in the sense of the property: `httpx.InvalidURL`
  and the `httpx.RequestError` family (httpx: "all exceptions that may occur when issuing a .request()" - the
  TransportError subtree, DecodingError, TooManyRedirects), including any subclass of those. Exceptions outside
  these families (a non-httpx exception raised by a custom transport, `UnicodeEncodeError` for a non-ASCII header
  value raised by httpx before anything is sent, KeyboardInterrupt ...) are NOT claimed by the property; the model
  lets them escape unchanged and `foreign_exception_escapes` says so.
-/
import AriadneModel.Proofs.SchemaLoad
import AriadneModel.Proofs.InputGen
import AriadneModel.Proofs.GqlLexer
import AriadneModel.Proofs.Introspect
import AriadneModel.Generated.SchemaTextTables
import AriadneModel.Model.IntrospectChain
import AriadneModel.Spec.BuildClientSchema

namespace Ariadne.C19
open Ariadne Ariadne.SchemaLoad Ariadne.InputGen Ariadne.Introspect

/-- core has no decidable equality on `Except`; the examples below compare whole results -/
instance {ε α : Type} [DecidableEq ε] [DecidableEq α] : DecidableEq (Except ε α)
  | .ok a, .ok b => if h : a = b then isTrue (h ▸ rfl) else isFalse fun e => h (Except.ok.inj e)
  | .error a, .error b => if h : a = b then isTrue (h ▸ rfl) else isFalse fun e => h (Except.error.inj e)
  | .ok _, .error _ => isFalse nofun
  | .error _, .ok _ => isFalse nofun

/-! ## 1. One file or any split into files and sub-directories -/

/-- `kids` is a split of the definition list `ds`: every path with a graphql suffix is a file that
    parses, and together the files hold exactly the definitions `ds` (in any arrangement). -/
def IsSplit {δ : Type} (kids : List (Tree δ)) (ds : List δ) : Prop :=
  (∀ e ∈ walk kids, Readable e) ∧ (graphqlDefs kids).Perm ds

/-- Full strength, file part: whatever the split, the directory loads, and the document handed to
    `build_ast_schema` has the same definitions as the single file's (as a multiset). -/
def C19_split_full : Prop :=
  ∀ (δ : Type) (ds : List δ) (kids : List (Tree δ)), IsSplit kids ds →
    load (.file (some ds)) = .ok ds ∧ ∃ ds', load (.dir kids) = .ok ds' ∧ ds'.Perm ds

theorem split_invariant : C19_split_full := by
  intro δ ds kids ⟨hread, hperm⟩
  refine ⟨rfl, ?_⟩
  obtain ⟨ds', h⟩ := (loadDir_ok_iff kids).mpr hread
  exact ⟨ds', h, (loadDir_perm kids ds' h).trans hperm⟩

/-- The generated enum and input class *sets* are functions of the set of definitions: a split
    gives a permutation of the single file's classes (DESIGN §3.0: class order inside enums.py /
    input_types.py is not compared; each class and its text is). -/
theorem split_invariant_classes (m : Mode) (defs : List TypeDef) (kids : List (Tree TypeDef))
    (hs : IsSplit kids defs) (hu : NamesUnique defs) :
    ∃ defs', load (.dir kids) = .ok defs' ∧
      (inputResults m defs').Perm (inputResults m defs) ∧ (enumResults defs').Perm (enumResults defs) := by
  obtain ⟨_, defs', hl, hp⟩ := split_invariant TypeDef defs kids hs
  exact ⟨defs', hl, inputResults_perm m hp (NamesUnique.perm hp.symm hu), enumResults_perm hp⟩

/-- Every type name resolves to the same kind whatever the order of the definitions. -/
theorem name_resolution_order_independent (d₁ d₂ : List TypeDef) (h : d₁.Perm d₂) (hu : NamesUnique d₁) :
    kindOf d₁ = kindOf d₂ := kindOf_perm h hu

/-- The result does not depend on the order in which `glob` enumerates the directory (creation
    order, os.scandir order): two enumerations of the same distinct paths load the same document. -/
theorem load_order_independent {δ : Type} (k₁ k₂ : List (Tree δ)) (hp : (walk k₁).Perm (walk k₂))
    (hnd : ((walk k₁).map (·.path)).Nodup) : load (.dir k₁) = load (.dir k₂) :=
  loadDir_order_independent k₁ k₂ hp hnd

/-- Files whose suffix is not one of the three are ignored; nothing else is. -/
theorem walk_mem_iff {δ : Type} (kids : List (Tree δ)) (e : Entry δ) :
    e ∈ walk kids ↔ e ∈ entriesList [] kids ∧ Tables.graphqlExtensions.contains (suffix e.name) = true := by
  simp [walk, isGraphqlName]

/-- An unreadable graphql entry refuses the whole load — never a silently shorter schema.  The error is one of
    `LoadErr` (InvalidGraphqlSyntax, or IsADirectoryError for a directory carrying a graphql suffix); which of the
    two, and for which entry, the statement does not say. -/
theorem load_refuses_unreadable {δ : Type} (kids : List (Tree δ)) (e : Entry δ) (he : e ∈ walk kids)
    (hbad : ¬ Readable e) : ∃ err, load (.dir kids) = .error err := by
  rcases h : loadDir kids with err | ds
  · exact ⟨err, h⟩
  · exact absurd ((loadDir_ok_iff kids).mp ⟨ds, h⟩ e he) hbad

/-- the three suffixes, as the source has them now -/
theorem extensions_pinned : Tables.graphqlExtensions = [".graphql", ".graphqls", ".gql"] := by decide +kernel

/-- non-vacuity: a nested split with the three extensions, an ignored file, shuffled order -/
def exampleTree : List (Tree Nat) :=
  [.file "z.gql" (some [5]), .file "README.md" none,
   .dir "sub" [.file "b.graphqls" (some [3, 4]), .dir "deep" [.file "a.graphql" (some [1, 2])], .file ".gql" none],
   .file "a.graphql.bak" none]

example : IsSplit exampleTree [1, 2, 3, 4, 5] := by
  refine ⟨readable_of_all _ (by decide +kernel), ?_⟩
  · have : graphqlDefs exampleTree = [5, 3, 4, 1, 2] := by decide +kernel
    rw [this]; decide

example : load (.dir exampleTree) = .ok [3, 4, 1, 2, 5] := by decide +kernel
example : suffix "a.graphql" = ".graphql" ∧ suffix ".gql" = "" ∧ suffix "a." = "" ∧ suffix "x.tar.gql" = ".gql" := by
  decide +kernel

/-- a file at any depth, below directories of any names (dot-directories included), with any name that carries a
    graphql suffix (dot-files included) is walked: `glob("**/*")` has no notion of "hidden" -/
def nest {δ : Type} : List String → Tree δ → Tree δ
  | [], t => t
  | d :: ds, t => .dir d [nest ds t]

theorem nested_entries {δ : Type} (n : String) (c : Option (List δ)) : ∀ (dirs pre : List String),
    (⟨pre ++ dirs ++ [n], n, .file c⟩ : Entry δ) ∈ (nest dirs (.file n c)).entries pre
  | [], pre => by simp [nest, Tree.entries]
  | d :: ds, pre => by
    have ih := nested_entries n c ds (pre ++ [d])
    simp only [nest, Tree.entries, entriesList, List.append_nil, List.mem_cons]
    right
    simpa [List.append_assoc] using ih

theorem nested_file_walked {δ : Type} (dirs : List String) (n : String) (c : Option (List δ)) (kids : List (Tree δ))
    (hn : isGraphqlName n = true) (hk : nest dirs (.file n c) ∈ kids) :
    ∃ e ∈ walk kids, e.name = n ∧ e.item = .file c := by
  have hmem : ∀ (ks : List (Tree δ)) (pre : List String) (t : Tree δ) (e : Entry δ), t ∈ ks → e ∈ t.entries pre → e ∈ entriesList pre ks := by
    intro ks
    induction ks with
    | nil => intro pre t e h; cases h
    | cons k ks ih =>
      intro pre t e ht he
      simp only [entriesList, List.mem_append]
      rcases List.mem_cons.mp ht with rfl | ht'
      · exact Or.inl he
      · exact Or.inr (ih pre t e ht' he)
  refine ⟨⟨[] ++ dirs ++ [n], n, .file c⟩, ?_, rfl, rfl⟩
  simp only [walk, List.mem_filter]
  exact ⟨hmem kids [] _ _ hk (nested_entries n c dirs []), hn⟩

example : isGraphqlName ".legacy.graphqls" = true ∧ isGraphqlName "audit.graphql" = true := by decide +kernel
/-- a dot-file in a dot-directory two levels down is part of the schema -/
example : load (.dir [.file "a.gql" (some [1]), .dir "types" [.dir ".internal" [.file ".audit.graphql" (some [2, 3])]]])
    = .ok [1, 2, 3] := by decide +kernel

/-! ## 1b. The text that is parsed: `sep.join(texts)` at token level

`load_graphql_files_from_path` does not concatenate definitions, it concatenates TEXTS (`"\n".join(schema_list)`) and
`get_graphql_schema_from_path` parses the result.  Section 1 rests on the assumption that the joined text has the
definitions of the parts.  Its lexical half is proved here over the model of graphql-core's lexer
(Spec/GqlLexer.lean, tied to the real `Lexer` text by text): whatever the texts are, if each lexes on its own then the
joined text lexes to the concatenation of their token streams - and that is a property of the SEPARATOR (it must end a
pending name / number / comment), which is measured on the real function on every run (`schemaJoinSeparator`).
What remains assumed is stated at token level (`DefinitionWise`) and validated on every generated tree. -/

open Ariadne.Spec.GqlLexer in
/-- the separator the source uses now brings the lexer back to a token boundary from every state a text may end in -/
theorem join_separator_resets : Resets SchemaTextTables.schemaJoinSeparator.toList :=
  resets_of_sepOk _ (by decide +kernel)

open Ariadne.Spec.GqlLexer in
/-- **joined_text_tokens**: for ANY list of texts that lex on their own (any number of files, any content: names or
    numbers up to the last character, trailing comments without a newline, strings, block strings), the text handed to
    `parse` for the directory lexes, and its token stream is the token streams of the files, in order. -/
theorem joined_text_tokens (texts : List (List Char)) (h : ∀ t ∈ texts, ∃ ks, lexChars t = .ok ks) :
    lexChars (joinWith SchemaTextTables.schemaJoinSeparator.toList texts) = .ok (texts.map tokensOf).flatten :=
  lexChars_joinWith _ join_separator_resets texts h

open Ariadne.Spec.GqlLexer in
theorem joined_pair_tokens (a b : List Char) (ta tb : List Tok) (ha : lexChars a = .ok ta) (hb : lexChars b = .ok tb) :
    lexChars (a ++ SchemaTextTables.schemaJoinSeparator.toList ++ b) = .ok (ta ++ tb) :=
  lexChars_join _ join_separator_resets a b ta tb ha hb

open Ariadne.Spec.GqlLexer in
/-- What a change of the separator would break (why `join_separator_resets` is an obligation): without a separator the
    last name of one file and the first of the next become ONE name; with a blank, a trailing comment swallows the
    next file's first line.  In both cases every part lexes and the joined text has other tokens. -/
theorem other_separators_change_the_tokens :
    lexChars ("scalar A".toList ++ [] ++ "scalar B".toList)
        = .ok [⟨.name, "scalar".toList⟩, ⟨.name, "Ascalar".toList⟩, ⟨.name, "B".toList⟩] ∧
    lexChars ("scalar A # old".toList ++ [' '] ++ "scalar B".toList) = .ok [⟨.name, "scalar".toList⟩, ⟨.name, "A".toList⟩] ∧
    lexChars ("scalar A # old".toList ++ ['\n'] ++ "scalar B".toList)
        = .ok [⟨.name, "scalar".toList⟩, ⟨.name, "A".toList⟩, ⟨.name, "scalar".toList⟩, ⟨.name, "B".toList⟩] := by
  decide +kernel

open Ariadne.Spec.GqlLexer in
/-- The assumption about graphql-core's parser, at token level: the parser, which sees only the token stream,
    parses a stream made of two complete documents definition by definition.
    (True for type-system documents, which is what a schema directory holds and what the generators produce; NOT true
    of the full grammar: `type A` and the query shorthand `{ x: Int }` both parse, and together they are one definition.
    harness/c19.py records that witness on every run and checks the assumption on every generated tree.) -/
def DefinitionWise {δ : Type} (parseToks : List Tok → Option (List δ)) : Prop :=
  ∀ ta tb da db, parseToks ta = some da → parseToks tb = some db → parseToks (ta ++ tb) = some (da ++ db)

open Ariadne.Spec.GqlLexer in
/-- `parse(text).definitions`, for a parser given as a function of the token stream -/
def parseText {δ : Type} (parseToks : List Tok → Option (List δ)) (t : List Char) : Option (List δ) :=
  match lexChars t with
  | .ok ks => parseToks ks
  | .error _ => none

open Ariadne.Spec.GqlLexer in
theorem parse_flatten {δ : Type} (parseToks : List Tok → Option (List δ)) (hp : DefinitionWise parseToks)
    (defs : List Char → List δ) : ∀ texts : List (List Char), texts ≠ [] →
    (∀ t ∈ texts, parseToks (tokensOf t) = some (defs t)) →
    parseToks (texts.map tokensOf).flatten = some (texts.map defs).flatten
  | [], hne, _ => absurd rfl hne
  | [x], _, h => by simpa using h x (by simp)
  | x :: y :: rest, _, h => by
    have ih := parse_flatten parseToks hp defs (y :: rest) (by simp) (fun t ht => h t (by simp [ht]))
    have hx := h x (by simp)
    simpa using hp _ _ _ _ hx ih

open Ariadne.Spec.GqlLexer in
/-- **joined_text_definitions**: under `DefinitionWise`, the document parsed for a directory has the definitions of
    its files, in the order of the files - this is the abstraction `loadDir` uses (`parts.flatten`), here derived
    from the text level. -/
theorem joined_text_definitions {δ : Type} (parseToks : List Tok → Option (List δ)) (hp : DefinitionWise parseToks)
    (defs : List Char → List δ) (texts : List (List Char)) (hne : texts ≠ [])
    (h : ∀ t ∈ texts, parseText parseToks t = some (defs t)) :
    parseText parseToks (joinWith SchemaTextTables.schemaJoinSeparator.toList texts) = some (texts.map defs).flatten := by
  have hlex : ∀ t ∈ texts, ∃ ks, lexChars t = .ok ks := by
    intro t ht
    have := h t ht
    unfold parseText at this
    rcases hl : lexChars t with e | ks
    · simp [hl] at this
    · exact ⟨ks, rfl⟩
  have htok : ∀ t ∈ texts, parseToks (tokensOf t) = some (defs t) := by
    intro t ht
    have := h t ht
    unfold parseText at this
    rcases hl : lexChars t with e | ks
    · simp [hl] at this
    · simpa [tokensOf, hl] using this
  unfold parseText
  rw [joined_text_tokens texts hlex]
  exact parse_flatten parseToks hp defs texts hne htok

/-! ### non-vacuity of `DefinitionWise`: a parser of documents made of `scalar <Name>` definitions -/

open Ariadne.Spec.GqlLexer in
def parseScalars : List Tok → Option (List (List Char))
  | [] => some []
  | [_] => none
  | k :: n :: rest =>
    if k = ⟨.name, "scalar".toList⟩ ∧ n.kind = .name then
      match parseScalars rest with
      | some ds => some (n.text :: ds)
      | none => none
    else none

open Ariadne.Spec.GqlLexer in
theorem parseScalars_definitionWise : DefinitionWise parseScalars := by
  intro ta
  induction ta using parseScalars.induct with
  | case1 =>
    intro tb da db ha hb
    simp [parseScalars] at ha
    subst ha
    simpa using hb
  | case2 t =>
    intro tb da db ha hb
    simp [parseScalars] at ha
  | case3 k n rest hc ds hrest ih =>
    intro tb da db ha hb
    simp only [parseScalars, hc, and_self, if_true, hrest] at ha
    cases ha
    have := ih tb ds db hrest hb
    simp [parseScalars, hc, this]
  | case4 k n rest hc hrest ih =>
    intro tb da db ha hb
    simp [parseScalars, hc, hrest] at ha
  | case5 k n rest hc =>
    intro tb da db ha hb
    unfold parseScalars at ha
    rw [if_neg hc] at ha
    cases ha

/-- three files (the second ends in a comment without a newline, the third in a name): one document, three definitions -/
example : parseText parseScalars (Ariadne.Spec.GqlLexer.joinWith SchemaTextTables.schemaJoinSeparator.toList
      ["scalar A".toList, "scalar B # trailing".toList, "scalar C".toList])
    = some ["A".toList, "B".toList, "C".toList] := by decide +kernel
/-- ... and without the separator the same files do not even give the same tokens -/
example : parseText parseScalars (Ariadne.Spec.GqlLexer.joinWith [] ["scalar A".toList, "scalar B".toList]) = none := by
  decide +kernel

/-! ## 1c. Extension nodes -/

/-- A node of the parsed document as `build_ast_schema` uses it: the definition of a named type, or an `extend` node
    of it, with the members it contributes (fields, enum values, input fields; `μ` abstract). -/
inductive DefNode (μ : Type) where
  | base (name : String) (members : List μ)
  | ext (name : String) (members : List μ)
  deriving Repr, DecidableEq

def DefNode.name {μ : Type} : DefNode μ → String
  | .base n _ => n
  | .ext n _ => n

def DefNode.members {μ : Type} : DefNode μ → List μ
  | .base _ ms => ms
  | .ext _ ms => ms

/-- the members type `n` has in the built schema: those of its definition and of EVERY extension node of that name,
    wherever in the document they stand (graphql-core `extend_schema_impl`: `type_extensions_map[name]`) -/
def membersOf {μ : Type} (ds : List (DefNode μ)) (n : String) : List μ :=
  (ds.filter (fun d => d.name == n)).flatMap DefNode.members

theorem membersOf_perm {μ : Type} {d₁ d₂ : List (DefNode μ)} (h : d₁.Perm d₂) (n : String) :
    (membersOf d₁ n).Perm (membersOf d₂ n) :=
  (h.filter _).flatMap_right _

/-- **split_invariant_extensions**: definitions AND `extend` nodes may be distributed over the files and
    sub-directories in any way (an extension in another file than, or before, the type it extends): the directory
    loads, and every type has the same members as from the single file. -/
theorem split_invariant_extensions {μ : Type} (ds : List (DefNode μ)) (kids : List (Tree (DefNode μ)))
    (hs : IsSplit kids ds) :
    ∃ ds', load (.dir kids) = .ok ds' ∧ ∀ n, (membersOf ds' n).Perm (membersOf ds n) := by
  obtain ⟨_, ds', hl, hp⟩ := split_invariant (DefNode μ) ds kids hs
  exact ⟨ds', hl, fun n => membersOf_perm hp n⟩

/-- what the document must NOT be reduced to: keeping the first node per name (a "de-duplication" of definitions)
    discards every extension node -/
def keepFirstByName {μ : Type} : List (DefNode μ) → List String → List (DefNode μ)
  | [], _ => []
  | d :: ds, seen => if seen.contains d.name then keepFirstByName ds seen else d :: keepFirstByName ds (d.name :: seen)

theorem keeping_first_by_name_loses_extension_members :
    membersOf [DefNode.base "T" [1], .ext "T" [2]] "T" = [1, 2] ∧
    membersOf (keepFirstByName [DefNode.base "T" [1], .ext "T" [2]] []) "T" = [1] := by
  decide +kernel

/-- non-vacuity: the extension in a dot-directory, sorted before the file that defines the type -/
example : IsSplit [.dir ".ext" [.file "a.graphql" (some [DefNode.ext "T" [2]])], .file "t.gql" (some [DefNode.base "T" [1], .base "E" [7]])]
    [DefNode.base "T" [1], .ext "T" [2], .base "E" [7]] := by
  exact ⟨readable_of_all _ (by decide +kernel), by decide +kernel⟩

/-! ## 2. Introspection failures -/

def isErr {ε α : Type} : Except ε α → Bool
  | .error _ => true
  | .ok _ => false

/-- The classes of failing introspection the property lists: `httpx.post` raised an `httpx.InvalidURL`
    (bad URL), an `httpx.TransportError` (unsupported scheme, unreachable endpoint, timeout, protocol
    error ...) or any other `httpx.RequestError` (DecodingError: the body cannot be decoded); non-2xx,
    non-JSON, not an object, no `data`, a non-empty `errors` list, `data` not an object, a `data`
    object the schema builder rejects.  Exceptions outside the three httpx families are not claimed
    (see the header). -/
def Failure {σ : Type} (build : List (String × J) → Except String σ) : PostResult → Prop
  | .raised e => listedFailureExc e = true
  | .response status body =>
    ¬ (200 ≤ status ∧ status ≤ 299) ∨
      match body with
      | none => True
      | some (.obj kvs) =>
        (match J.lookup "data" kvs with
          | none => True
          | some (.obj d) => isErr (build d) = true
          | some _ => True) ∨
        (∃ e es, J.lookup "errors" kvs = some (.arr (e :: es)))
      | some _ => True

def IsIntrospectionError {σ : Type} (o : UrlOutcome σ) : Prop := ∃ k, o = .introspectionError k

/-- Full strength, failure part. -/
def C19_failures_full : Prop :=
  ∀ (σ : Type) (build : List (String × J) → Except String σ) (p : PostResult),
    Failure build p → IsIntrospectionError (schemaFromUrl build p)

-- F6's trigger `trigRequestExcUntyped` is in Model/IntrospectChain.lean (the driver evaluates it).

/-- F3: the checks of `introspect_remote_schema` pass and the builder rejects the `data` object. -/
def trigDataRejected {σ : Type} (build : List (String × J) → Except String σ) (p : PostResult) : Bool :=
  match introspect p with
  | .data d => isErr (build d)
  | _ => false

/-- Exactly which exceptions of `httpx.post` come out typed. -/
theorem raised_typed_iff {σ : Type} (build : List (String × J) → Except String σ) (e : Exc) :
    IsIntrospectionError (schemaFromUrl build (.raised e)) ↔
      (e.isa clsInvalidURL = true ∨ e.isa clsTransportError = true) := by
  rw [raised_outcome]
  by_cases h1 : e.isa clsInvalidURL = true
  · simp [h1, IsIntrospectionError]
  · by_cases h2 : e.isa clsTransportError = true
    · simp [h1, h2, IsIntrospectionError]
    · simp [h1, h2, IsIntrospectionError]

/-- **transport_failures_typed** (the repaired finding F2, for all exceptions): whatever
    `httpx.TransportError` - any class with `httpx.TransportError` in its MRO, any message - `httpx.post`
    raises, the caller sees an `IntrospectionError`. -/
theorem transport_failures_typed {σ : Type} (build : List (String × J) → Except String σ) (e : Exc)
    (h : e.isa clsTransportError = true) : IsIntrospectionError (schemaFromUrl build (.raised e)) :=
  (raised_typed_iff build e).mpr (.inr h)

/-- ... and its message carries `str(exc)` unchanged (unless the `InvalidURL` clause, which comes first, took it). -/
theorem transport_message_kept {σ : Type} (build : List (String × J) → Except String σ) (e : Exc)
    (h0 : e.isa clsInvalidURL = false) (h : e.isa clsTransportError = true) :
    schemaFromUrl build (.raised e) = .introspectionError (.transport e.msg) := by
  rw [raised_outcome]; simp [h0, h]

/-- What the property does not claim and the code does not do: an exception that is neither an
    `InvalidURL` nor a `TransportError` leaves `get_graphql_schema_from_url` as it is (for
    `RequestError`s that is finding F6; for anything else - a foreign exception of a custom transport,
    `UnicodeEncodeError` for a header value - it is outside the property). -/
theorem foreign_exception_escapes {σ : Type} (build : List (String × J) → Except String σ) (e : Exc)
    (h0 : e.isa clsInvalidURL = false) (h1 : e.isa clsTransportError = false) :
    schemaFromUrl build (.raised e) = .escaped e := by
  rw [raised_outcome]; simp [h0, h1]

/-- Whatever `httpx.post` raises - listed failure or not, typed or escaping - no schema comes back. -/
theorem raised_never_yields_schema {σ : Type} (build : List (String × J) → Except String σ) (e : Exc) (s : σ) :
    schemaFromUrl build (.raised e) ≠ .schema s := by
  rw [raised_outcome]
  by_cases h1 : e.isa clsInvalidURL = true
  · simp [h1]
  · by_cases h2 : e.isa clsTransportError = true <;> simp [h1, h2]

/-- **introspection_failures_typed** - outside the two trigger regions every listed failure is an
    `IntrospectionError`. -/
theorem introspection_failures_typed {σ : Type} (build : List (String × J) → Except String σ) (p : PostResult)
    (hf : Failure build p) (h6 : trigRequestExcUntyped p = false) (h3 : trigDataRejected build p = false) :
    IsIntrospectionError (schemaFromUrl build p) := by
  cases p with
  | raised e =>
    apply (raised_typed_iff build e).mpr
    by_cases h1 : e.isa clsInvalidURL = true
    · exact Or.inl h1
    · by_cases h2 : e.isa clsTransportError = true
      · exact Or.inr h2
      · exfalso
        have hr : e.isa clsRequestError = true := by
          simpa [Failure, listedFailureExc, h1, h2] using hf
        simp [trigRequestExcUntyped, h1, h2, hr] at h6
  | response status body =>
    rcases introspect_response_cases status body with ⟨k, hk⟩ | ⟨kvs, d, rfl, hs, hd, ht, hi⟩
    · exact ⟨k, by simp [schemaFromUrl, hk]⟩
    · -- every check passed: what fails can only be the builder, and that is the excluded region
      exfalso
      simp only [trigDataRejected, hi] at h3
      simp only [Failure, hd] at hf
      rcases hf with hf | hf | ⟨e, es, he⟩
      · exact hf hs
      · rw [h3] at hf; cases hf
      · simp [J.getD, he, J.truthy] at ht

/-- `C19_partial`, failure part: theorem region ∪ trigger regions = all listed failures, by definition. -/
theorem C19_failures_partial : ∀ (σ : Type) (build : List (String × J) → Except String σ) (p : PostResult),
    Failure build p → ¬ (trigRequestExcUntyped p = true ∨ trigDataRejected build p = true) →
    IsIntrospectionError (schemaFromUrl build p) := by
  intro σ build p hf hn
  simp only [not_or, Bool.not_eq_true] at hn
  exact introspection_failures_typed build p hf hn.1 hn.2

/-! ### witnesses: the repaired F2 (regression theorems), the open F3 and F6 -/

/-- the MRO of an exception class of httpx, as `[c.__module__ + "." + c.__qualname__ for c in type(e).__mro__]` -/
def httpxMro (chain : List String) : List String :=
  chain.map ("httpx." ++ ·) ++ ["builtins.Exception", "builtins.BaseException", "builtins.object"]

/-- what the real transport raises for `example.com/graphql` (URL without scheme) -/
def excUnsupportedProtocol : Exc :=
  ⟨httpxMro ["UnsupportedProtocol", "TransportError", "RequestError", "HTTPError"],
   "Request URL is missing an 'http://' or 'https://' protocol."⟩
/-- ... and for `http://127.0.0.1:1/graphql` (nothing listens) -/
def excConnectError : Exc :=
  ⟨httpxMro ["ConnectError", "NetworkError", "TransportError", "RequestError", "HTTPError"], "[Errno 111] Connection refused"⟩
/-- a 200 answer with `Content-Encoding: gzip` and a body that is not gzip -/
def excDecodingError : Exc :=
  ⟨httpxMro ["DecodingError", "RequestError", "HTTPError"], "Error -3 while decompressing data: incorrect header check"⟩

/-- the two recorded witnesses of the repaired finding F2, the F3 witness (`{"data": {}}`), the F6 witness -/
def witnessF2 : PostResult := .raised excUnsupportedProtocol
def witnessF2b : PostResult := .raised excConnectError
def witnessF3 : PostResult := .response 200 (some (.obj [("data", .obj [])]))
def witnessF6 : PostResult := .raised excDecodingError

theorem excUnsupportedProtocol_isa : excUnsupportedProtocol.isa clsInvalidURL = false ∧
    excUnsupportedProtocol.isa clsTransportError = true := by decide +kernel
theorem excConnectError_isa : excConnectError.isa clsInvalidURL = false ∧
    excConnectError.isa clsTransportError = true := by decide +kernel
theorem excDecodingError_isa : excDecodingError.isa clsInvalidURL = false ∧
    excDecodingError.isa clsTransportError = false ∧ excDecodingError.isa clsRequestError = true := by decide +kernel

/-- **Regression theorem for the repaired finding C19-F2**: its recorded witnesses are failures in the
    sense of the property, lie outside every remaining trigger, and now come out as the
    `IntrospectionError` that carries the message of the transport. -/
theorem C19_F2_witness_now_ok {σ : Type} (build : List (String × J) → Except String σ) :
    (Failure build witnessF2 ∧ trigRequestExcUntyped witnessF2 = false ∧ trigDataRejected build witnessF2 = false ∧
      schemaFromUrl build witnessF2 = .introspectionError (.transport excUnsupportedProtocol.msg)) ∧
    (Failure build witnessF2b ∧ trigRequestExcUntyped witnessF2b = false ∧ trigDataRejected build witnessF2b = false ∧
      schemaFromUrl build witnessF2b = .introspectionError (.transport excConnectError.msg)) := by
  have a := excUnsupportedProtocol_isa
  have b := excConnectError_isa
  refine ⟨⟨by simp [Failure, witnessF2, listedFailureExc, a.2], ?_, ?_, transport_message_kept build _ a.1 a.2⟩,
          ⟨by simp [Failure, witnessF2b, listedFailureExc, b.2], ?_, ?_, transport_message_kept build _ b.1 b.2⟩⟩
  · simp [trigRequestExcUntyped, witnessF2, a.1, a.2]
  · simp [trigDataRejected, witnessF2, introspect, a.1, a.2]
  · simp [trigRequestExcUntyped, witnessF2b, b.1, b.2]
  · simp [trigDataRejected, witnessF2b, introspect, b.1, b.2]

/-- Why a return of F2 must be caught: on the decision chain as it was before 23ffd85 the same
    witnesses are failures that escape as the bare httpx exception - the property is violated there. -/
theorem F2_witness_escaped_before_repair :
    introspectBefore23ffd85 witnessF2 = .escaped excUnsupportedProtocol ∧
    introspectBefore23ffd85 witnessF2b = .escaped excConnectError ∧
    (∀ k, introspectBefore23ffd85 witnessF2 ≠ .introspectionError k) := by
  have a := excUnsupportedProtocol_isa
  have b := excConnectError_isa
  refine ⟨by simp [introspectBefore23ffd85, witnessF2, a.1], by simp [introspectBefore23ffd85, witnessF2b, b.1], ?_⟩
  intro k h
  simp [introspectBefore23ffd85, witnessF2, a.1] at h

/-- the old and the new chain differ only where an exception is a `TransportError` and not an `InvalidURL` -/
theorem repair_changes_only_transport_errors (p : PostResult) :
    introspectBefore23ffd85 p = introspect p ∨
      ∃ e, p = .raised e ∧ e.isa clsInvalidURL = false ∧ e.isa clsTransportError = true := by
  cases p with
  | response s b => exact Or.inl rfl
  | raised e =>
    by_cases h1 : e.isa clsInvalidURL = true
    · exact Or.inl (by simp [introspectBefore23ffd85, introspect, h1])
    · by_cases h2 : e.isa clsTransportError = true
      · exact Or.inr ⟨e, rfl, by simpa using h1, h2⟩
      · exact Or.inl (by simp [introspectBefore23ffd85, introspect, h1, h2])

/-- F3 on its own witness: a 200 response whose `data` is `{}` ends in a bare `TypeError`. -/
theorem malformed_data_escapes_untyped :
    Failure Spec.BuildClientSchema.build witnessF3 ∧
      schemaFromUrl Spec.BuildClientSchema.build witnessF3 = .other "TypeError" := by
  refine ⟨?_, ?_⟩
  · unfold Failure witnessF3
    right; left
    simp [J.lookup, isErr, Spec.BuildClientSchema.build, Spec.BuildClientSchema.top]
  · rfl

/-- F6 on its witness: an undecodable body is a listed failure and escapes as `httpx.DecodingError`. -/
theorem undecodable_body_escapes_untyped {σ : Type} (build : List (String × J) → Except String σ) :
    Failure build witnessF6 ∧ trigRequestExcUntyped witnessF6 = true ∧
      schemaFromUrl build witnessF6 = .escaped excDecodingError := by
  have a := excDecodingError_isa
  refine ⟨by simp [Failure, witnessF6, listedFailureExc, a.2.2], ?_, foreign_exception_escapes build _ a.1 a.2.1⟩
  simp [trigRequestExcUntyped, witnessF6, a.1, a.2.1, a.2.2]

/-- The failure part is false at full strength (witness of F3; F6's would do as well). -/
theorem C19_failures_full_false : ¬ C19_failures_full := by
  intro h
  obtain ⟨hf, ho⟩ := malformed_data_escapes_untyped
  obtain ⟨k, hk⟩ := h Unit Spec.BuildClientSchema.build witnessF3 hf
  rw [ho] at hk
  cases hk

example : trigDataRejected Spec.BuildClientSchema.build witnessF3 = true := by decide +kernel
/-- non-vacuity of the partial theorem: a 503 and a scheme-less URL are failures outside both triggers -/
example : Failure Spec.BuildClientSchema.build (.response 503 none) ∧
    trigRequestExcUntyped (.response 503 none) = false ∧
    trigDataRejected Spec.BuildClientSchema.build (.response 503 none) = false := by
  refine ⟨Or.inl (by omega), rfl, rfl⟩
example : Failure Spec.BuildClientSchema.build witnessF2 ∧ trigRequestExcUntyped witnessF2 = false ∧
    trigDataRejected Spec.BuildClientSchema.build witnessF2 = false :=
  let h := (C19_F2_witness_now_ok Spec.BuildClientSchema.build).1
  ⟨h.1, h.2.1, h.2.2.1⟩
/-- a user-defined subclass of `httpx.ConnectTimeout` is covered too -/
example : IsIntrospectionError (schemaFromUrl Spec.BuildClientSchema.build
    (.raised ⟨"myapp.Slow" :: httpxMro ["ConnectTimeout", "TimeoutException", "TransportError", "RequestError", "HTTPError"], ""⟩)) :=
  transport_failures_typed _ _ (by decide +kernel)

/-- True at full strength: no failing introspection ever yields a schema (nothing is generated from
    a failed introspection, typed or not). -/
theorem failure_never_yields_schema {σ : Type} (build : List (String × J) → Except String σ) (p : PostResult)
    (hf : Failure build p) (s : σ) : schemaFromUrl build p ≠ .schema s := by
  cases p with
  | raised e => exact raised_never_yields_schema build e s
  | response status body =>
    rcases introspect_response_cases status body with ⟨k, hk⟩ | ⟨kvs, d, rfl, hs, hd, ht, hi⟩
    · simp [schemaFromUrl, hk]
    · simp only [Failure, hd] at hf
      rcases hf with hf | hf | ⟨e, es, he⟩
      · exact absurd hs hf
      · rcases hb : build d with x | v
        · simp [schemaFromUrl, hi, hb]
        · simp [hb, isErr] at hf
      · simp [J.getD, he, J.truthy] at ht

/-- Exactly when `introspect_remote_schema` returns: 2xx, a JSON object with an object `data`
    and a falsy `errors`. -/
theorem introspect_data_iff (p : PostResult) (d : List (String × J)) :
    introspect p = .data d ↔
      ∃ status kvs, p = .response status (some (.obj kvs)) ∧ (200 ≤ status ∧ status ≤ 299) ∧
        J.lookup "data" kvs = some (.obj d) ∧ (J.getD "errors" kvs).truthy = false := by
  constructor
  · intro h
    cases p with
    | raised e =>
      by_cases h1 : e.isa clsInvalidURL = true
      · simp [introspect, h1] at h
      · by_cases h2 : e.isa clsTransportError = true <;> simp [introspect, h1, h2] at h
    | response status body =>
      rcases introspect_response_cases status body with ⟨k, hk⟩ | ⟨kvs, d', rfl, hs, hd, ht, hi⟩
      · rw [hk] at h; cases h
      · rw [hi] at h
        injection h with h
        subst h
        exact ⟨status, kvs, rfl, hs, hd, ht⟩
  · rintro ⟨status, kvs, rfl, hs, hd, ht⟩
    have hsucc : isSuccess status = true := (isSuccess_iff status).mpr hs
    simp [introspect, hsucc, hd, ht]

/-- A 3xx answer is not followed (httpx.post does not follow redirects) and is a typed failure. -/
theorem redirect_is_typed_failure {σ : Type} (build : List (String × J) → Except String σ) (status : Nat) (b : Option J)
    (h : 300 ≤ status ∧ status ≤ 399) :
    schemaFromUrl build (.response status b) = .introspectionError (.httpStatus status) := by
  have : isSuccess status = false := by
    simp only [isSuccess, Bool.and_eq_false_iff, decide_eq_false_iff_not]; omega
  simp [schemaFromUrl, introspect, this]

/-! ## 3. What is sent -/

/-- **headers_resolved_and_sent / verify_flag_sent**: when the remote source is used, the one
    `httpx.post` call carries the configured URL, the headers after `$ENV` substitution (same keys,
    same order), the configured TLS flag and the introspection query built with the pinned flags;
    and the remote source is used only when no `schema_path` is configured. -/
theorem headers_resolved_and_sent (env : String → Option String) (pathExists : Bool) (c : SourceCfg) (call : PostCall)
    (h : chooseSource env pathExists c = .ok (.remote call)) :
    c.schemaPath = "" ∧ call.url = c.remoteUrl ∧ resolveHeaders env c.headers = .ok call.headers ∧
      call.queryFlags = Tables.introspectionQueryFlags := by
  obtain ⟨hp, _, hs, hr, rfl⟩ := (chooseSource_remote_iff env pathExists c call).mp h
  exact ⟨hp, rfl, hr, rfl⟩

theorem verify_flag_sent (env : String → Option String) (pathExists : Bool) (c : SourceCfg) (call : PostCall)
    (h : chooseSource env pathExists c = .ok (.remote call)) : call.verify = c.verifySsl := by
  obtain ⟨_, _, hs, _, rfl⟩ := (chooseSource_remote_iff env pathExists c call).mp h
  rfl

/-- a header whose value does not start with `$` is sent verbatim -/
theorem header_plain (env : String → Option String) (v : String) (h : v.toList.head? ≠ some '$') :
    headerValue env v = .ok v := by
  unfold headerValue
  split
  · rename_i rest heq
    simp [heq] at h
  · rfl

theorem dropWhile_dollar_of_head {name : List Char} (hn : name.head? ≠ some '$') :
    name.dropWhile (· == '$') = name := by
  cases name with
  | nil => rfl
  | cons c cs =>
    have hb : (c == '$') = false := by simpa using hn
    simp [List.dropWhile, hb]

/-- `$NAME` is replaced by the non-empty value of the environment variable `NAME` -/
theorem header_env (env : String → Option String) (name : List Char) (x : String)
    (hn : name.head? ≠ some '$') (hx : env (String.ofList name) = some x) (hne : x ≠ "") :
    headerValue env (String.ofList ('$' :: name)) = .ok x := by
  unfold headerValue
  have hdw := dropWhile_dollar_of_head hn
  simp [hdw, hx, hne]

/-- an unset or empty variable is an `InvalidConfiguration` naming it -/
theorem header_env_missing (env : String → Option String) (name : List Char)
    (hn : name.head? ≠ some '$') (hx : env (String.ofList name) = none ∨ env (String.ofList name) = some "") :
    headerValue env (String.ofList ('$' :: name)) = .error (String.ofList name) := by
  unfold headerValue
  have hdw := dropWhile_dollar_of_head hn
  rcases hx with hx | hx <;> simp [hdw, hx]

theorem no_request_when_env_missing (env : String → Option String) (pathExists : Bool) (c : SourceCfg) (n : String)
    (hr : resolveHeaders env c.headers = .error n) : ∀ ch, chooseSource env pathExists c ≠ .ok ch := by
  intro ch h
  unfold chooseSource at h
  split at h
  · cases h
  · split at h
    · cases h
    · simp [hr] at h

/-- header names and their order are kept; every value goes through `get_header_value` -/
theorem resolveHeaders_pointwise (env : String → Option String) : ∀ (hs r : List (String × String)),
    resolveHeaders env hs = .ok r →
      r.map Prod.fst = hs.map Prod.fst ∧ ∀ i (hi : i < hs.length), ∃ x, r[i]? = some (hs[i].1, x) ∧ headerValue env hs[i].2 = .ok x
  | [], r, h => by simp [resolveHeaders] at h; subst h; simp
  | (k, v) :: rest, r, h => by
    obtain ⟨x, r', hv, hr, rfl⟩ := (resolveHeaders_cons_ok env k v rest r).mp h
    have ⟨ih₁, ih₂⟩ := resolveHeaders_pointwise env rest r' hr
    refine ⟨by simp [ih₁], fun i hi => ?_⟩
    cases i with
    | zero => exact ⟨x, by simp, by simpa using hv⟩
    | succ j =>
      obtain ⟨y, hy₁, hy₂⟩ := ih₂ j (by simpa using hi)
      exact ⟨y, by simpa using hy₁, by simpa using hy₂⟩

/-! ### where the substitution happens: once, in the settings stage; nothing below `main` touches the headers -/

/-- The four calls in sequence (`__post_init__`, the branch in `main.client` / `main.graphql_schema`,
    `get_graphql_schema_from_url`, `introspect_remote_schema`) compute the end-to-end decision. -/
theorem staged_eq_chooseSource (env : String → Option String) (pathExists : Bool) (c : SourceCfg) :
    chooseSourceStaged env pathExists c = chooseSource env pathExists c := by
  unfold chooseSourceStaged postInit chooseSource mainSource urlCall introspectCall
  by_cases h1 : c.schemaPath = "" ∧ c.remoteUrl = ""
  · rw [if_pos h1, if_pos h1]
  · rw [if_neg h1, if_neg h1]
    by_cases h2 : c.schemaPath ≠ "" ∧ (!pathExists) = true
    · rw [if_pos h2, if_pos h2]
    · rw [if_neg h2, if_neg h2]
      rcases hr : resolveHeaders env c.headers with n | hs
      · rfl
      · by_cases hp : c.schemaPath = ""
        · have hu : c.remoteUrl ≠ "" := fun hu => h1 ⟨hp, hu⟩
          simp [hp]
        · have hpe : pathExists = true := by
            cases pathExists
            · exact absurd ⟨hp, rfl⟩ h2
            · rfl
          simp [hp]

/-- `get_graphql_schema_from_url` / `introspect_remote_schema` send exactly what they are given - for every URL,
    every header list (values starting with `$` included: there is no environment at this level) and both TLS flags. -/
theorem url_stage_sends_what_it_is_given (url : String) (hs : List (String × String)) (v : Bool) :
    urlCall url hs v = ⟨url, hs, v, Tables.introspectionQueryFlags⟩ ∧ introspectCall url hs v = urlCall url hs v :=
  ⟨rfl, rfl⟩

/-- What the request of the staged pipeline carries is what the settings stage stored - the state handed from
    `__post_init__` to the request is not transformed again on the way. -/
theorem request_carries_settings_state (env : String → Option String) (pathExists : Bool) (c : SourceCfg) (call : PostCall)
    (h : chooseSourceStaged env pathExists c = .ok (.remote call)) :
    ∃ s, postInit env pathExists c = .ok s ∧ s.schemaPath = "" ∧
      call.url = s.remoteUrl ∧ call.headers = s.headers ∧ call.verify = s.verifySsl := by
  unfold chooseSourceStaged at h
  rcases hs : postInit env pathExists c with e | s
  · simp [hs] at h
  · simp only [hs, Except.ok.injEq] at h
    unfold mainSource at h
    by_cases hp : s.schemaPath = ""
    · simp only [hp, ne_eq, not_true_eq_false, if_false, Chosen.remote.injEq] at h
      subst h
      exact ⟨s, rfl, hp, rfl, rfl, rfl⟩
    · simp [hp] at h

/-- **headers_resolved_exactly_once**: the headers of the request are `resolve_headers` of the configured ones -
    one application, whatever the environment values look like. -/
theorem headers_resolved_exactly_once (env : String → Option String) (pathExists : Bool) (c : SourceCfg) (call : PostCall)
    (h : chooseSourceStaged env pathExists c = .ok (.remote call)) :
    resolveHeaders env c.headers = .ok call.headers := by
  rw [staged_eq_chooseSource] at h
  exact (headers_resolved_and_sent env pathExists c call h).2.2.1

/-- `value.lstrip("$")` -/
def lstripDollar (v : String) : String := String.ofList (v.toList.dropWhile (· == '$'))

/-- Exactly which values `get_header_value` returns unchanged: those that do not start with `$`, and the
    self-referential ones (`NAME=$NAME` in the environment). -/
theorem headerValue_fixed_iff (env : String → Option String) (v : String) :
    headerValue env v = .ok v ↔ (startsWithDollar v = false ∨ env (lstripDollar v) = some v) := by
  unfold headerValue
  split
  · rename_i rest heq
    have hd : startsWithDollar v = true := by simp [startsWithDollar, heq]
    have hn : lstripDollar v = String.ofList (rest.dropWhile (· == '$')) := by
      simp [lstripDollar, heq]
    have hne : v ≠ "" := by
      intro hv; rw [hv] at heq; simp at heq
    rw [hn]
    rcases hx : env (String.ofList (rest.dropWhile (· == '$'))) with _ | x
    · simp only [hx, hd, Bool.true_eq_false, false_or]
      constructor
      · intro h; cases h
      · intro h; cases h
    · simp only [hx, hd, Bool.true_eq_false, false_or, Option.some.injEq]
      by_cases hxe : x = ""
      · subst hxe
        simp only [if_true]
        constructor
        · intro h; cases h
        · intro h; exact absurd h.symm hne
      · simp only [hxe, if_false, Except.ok.injEq]
  · rename_i hno
    have hd : startsWithDollar v = false := by
      unfold startsWithDollar
      rcases hl : v.toList with _ | ⟨c, cs⟩
      · simp
      · by_cases hc : c = '$'
        · subst hc; exact absurd hl (hno cs)
        · simp [hc]
    simp [hd]

/-- **second_resolution_identity_iff**: resolving an (already resolved) header list again gives the same list
    exactly when every value is one that `get_header_value` leaves alone.  So a pipeline that resolves in two
    places agrees with this one on plain values and on nothing else. -/
theorem second_resolution_identity_iff (env : String → Option String) : ∀ r : List (String × String),
    resolveHeaders env r = .ok r ↔ ∀ kv ∈ r, (startsWithDollar kv.2 = false ∨ env (lstripDollar kv.2) = some kv.2)
  | [] => by simp [resolveHeaders]
  | (k, v) :: rest => by
    rw [resolveHeaders_cons_ok, List.forall_mem_cons, ← second_resolution_identity_iff env rest, ← headerValue_fixed_iff]
    constructor
    · rintro ⟨x, r', hv, hr, e⟩
      injection e with e1 e2
      injection e1 with _ e1
      exact ⟨e1 ▸ hv, e2 ▸ hr⟩
    · exact fun ⟨hv, hr⟩ => ⟨v, rest, hv, hr, rfl⟩

/-- in particular a second resolution is harmless on values that do not start with `$` ... -/
theorem second_resolution_plain (env : String → Option String) (r : List (String × String))
    (h : ∀ kv ∈ r, startsWithDollar kv.2 = false) : resolveHeaders env r = .ok r :=
  (second_resolution_identity_iff env r).mpr (fun kv hkv => Or.inl (h kv hkv))

/-- ... and is NOT the identity in general: the documented `Authorization = "$TOKEN"` with a crypt-style secret in
    `TOKEN` resolves to the secret once, and a second pass looks for a variable named after the secret. -/
def cryptEnv : String → Option String := fun n => if n = "TOKEN" then some "$2y$10$abc" else none

theorem second_resolution_not_identity :
    resolveHeaders cryptEnv [("Authorization", "$TOKEN")] = .ok [("Authorization", "$2y$10$abc")] ∧
    resolveHeaders cryptEnv [("Authorization", "$2y$10$abc")] = .error "2y$10$abc" := by
  decide +kernel

/-- and on that configuration the modelled pipeline sends the secret (non-vacuity of `headers_resolved_exactly_once`) -/
example : chooseSourceStaged cryptEnv false ⟨"", "http://h/graphql", [("Authorization", "$TOKEN")], true⟩
    = .ok (.remote ⟨"http://h/graphql", [("Authorization", "$2y$10$abc")], true, Tables.introspectionQueryFlags⟩) := by
  rfl
example : startsWithDollar "$2y$10$abc" = true ∧ startsWithDollar "Bearer $x" = false ∧ startsWithDollar "" = false ∧
    lstripDollar "$$A$b" = "A$b" := by decide +kernel

/-- Full strength, last sentence of the property: when the remote source is used, the one request carries the
    configured URL, the configured headers after one `$ENV` substitution (same names, same order) and the configured
    TLS verification flag - through the pipeline as the code runs it, stage by stage. -/
def C19_sent_full : Prop :=
  ∀ (env : String → Option String) (pathExists : Bool) (c : SourceCfg) (call : PostCall),
    chooseSourceStaged env pathExists c = .ok (.remote call) →
      c.schemaPath = "" ∧ call.url = c.remoteUrl ∧ resolveHeaders env c.headers = .ok call.headers ∧
        call.verify = c.verifySsl ∧ call.queryFlags = Tables.introspectionQueryFlags

theorem sent_as_configured : C19_sent_full := by
  intro env pathExists c call h
  rw [staged_eq_chooseSource] at h
  have h1 := headers_resolved_and_sent env pathExists c call h
  exact ⟨h1.1, h1.2.1, h1.2.2.1, verify_flag_sent env pathExists c call h, h1.2.2.2⟩

/-- ... and it is used: only the remote source configured, every variable set -/
theorem remote_request_goes_out (env : String → Option String) (pathExists : Bool) (c : SourceCfg) (hs : List (String × String))
    (hp : c.schemaPath = "") (hu : c.remoteUrl ≠ "") (hr : resolveHeaders env c.headers = .ok hs) :
    chooseSourceStaged env pathExists c = .ok (.remote ⟨c.remoteUrl, hs, c.verifySsl, Tables.introspectionQueryFlags⟩) := by
  rw [staged_eq_chooseSource]
  exact remote_chosen env pathExists c hs hp hu hr

-- No theorem fixes the flags of the query that is sent: the model reads them from the regenerated table
-- (`Introspect.queryFlag`), so that repairing finding F4 (`input_value_deprecation=True`) moves the model with the
-- code and breaks no proof.

example : headerValue (fun n => if n = "TOKEN" then some "secret" else none) "$TOKEN" = .ok "secret" := by decide +kernel
example : headerValue (fun _ => none) "Bearer x" = .ok "Bearer x" := by decide +kernel
example : chooseSource (fun n => if n = "T" then some "s" else none) false ⟨"", "http://h/graphql", [("Authorization", "$T"), ("X", "y")], false⟩
    = .ok (.remote ⟨"http://h/graphql", [("Authorization", "s"), ("X", "y")], false, Tables.introspectionQueryFlags⟩) := by
  rfl

/-! ## 4. SDL-built vs introspection-built schema object -/

/-- what the introspection path sees, with the query flags of the source as it is now -/
def introMode : Mode := .intro (queryFlag "input_value_deprecation")

/-- a schema the generator accepts: unique type names, every input field of an input type -/
def ValidInputs (defs : List TypeDef) : Prop :=
  NamesUnique defs ∧ ∀ n fs, TypeDef.input n fs ∈ defs → AnnOk (kindOf defs) fs

/-- Full strength, source part (inputs): the input classes — field sets, annotations, which fields
    are required, every default — do not depend on the builder. -/
def C19_inputs_full : Prop :=
  ∀ defs : List TypeDef, ValidInputs defs → inputResults .sdl defs = inputResults introMode defs

/-- the finding-free region: no effective default (F1), no deprecated input field that the query
    that is sent leaves out (F4) -/
def Supported_19 (defs : List TypeDef) : Prop :=
  ¬ (trigDefaultLost defs = true ∨ trigDeprecatedInput (queryFlag "input_value_deprecation") defs = true)

/-- **inputs_agree_iff_no_default**: when the query drops nothing, SDL and introspection give the
    same input classes exactly when no field has an effective default — so requiredness and defaults
    disagree precisely on the F1 region. -/
theorem inputs_agree_iff_no_default (defs : List TypeDef) (hv : ValidInputs defs)
    (h4 : trigDeprecatedInput (queryFlag "input_value_deprecation") defs = false) :
    inputResults .sdl defs = inputResults introMode defs ↔ trigDefaultLost defs = false := by
  unfold inputResults introMode
  rw [inputResultsK_agree_iff (kindOf defs) _ defs hv.2 (visible_of_not_trig _ defs h4)]
  exact (trigDefaultLost_false_iff defs).symm

/-- `C19_partial`, source part. -/
theorem C19_inputs_partial : ∀ defs : List TypeDef, ValidInputs defs → Supported_19 defs →
    inputResults .sdl defs = inputResults introMode defs := by
  intro defs hv hs
  simp only [Supported_19, not_or, Bool.not_eq_true] at hs
  exact (inputs_agree_iff_no_default defs hv hs.2).mpr hs.1

/-- F1 witness: `input In { x: Int = 5 }`. -/
def witnessF1 : List TypeDef := [.input "In" [⟨"x", .named "Int", some (.int 5), false⟩]]

theorem witnessF1_valid : ValidInputs witnessF1 := by
  refine ⟨?_, ?_⟩
  · intro a ha b hb _
    simp [witnessF1] at ha hb
    rw [ha, hb]
  · intro n fs hm f hf
    simp [witnessF1] at hm
    obtain ⟨rfl, rfl⟩ := hm
    simp at hf
    subst hf
    exact ⟨.optional (.name "int"), "", by decide +kernel⟩

theorem C19_inputs_full_false : ¬ C19_inputs_full := by
  intro h
  have h4 : trigDeprecatedInput (queryFlag "input_value_deprecation") witnessF1 = false := by
    unfold trigDeprecatedInput; simp [witnessF1]
  have := (inputs_agree_iff_no_default witnessF1 witnessF1_valid h4).mp (h witnessF1 witnessF1_valid)
  revert this
  decide +kernel

/-- what exactly happens to a default on the introspection path, per nullability -/
theorem default_lost_nullable (ft : String) (f : InputField) (lit : Lit) (d : Bool)
    (hd : f.default = some lit) (hn : f.type.isNonNull = false) :
    fieldDefault .sdl ft f = some (constValue ft lit false false) ∧ fieldDefault (.intro d) ft f = some .none := by
  refine ⟨fieldDefault_sdl_some ft f lit hd, ?_⟩
  rw [fieldDefault_intro_cases]; simp [hn]

/-- `x: T! = v`: optional (with the default) from SDL, *required* after introspection -/
theorem default_lost_required_flip (ft : String) (f : InputField) (lit : Lit) (d : Bool)
    (hd : f.default = some lit) (hn : f.type.isNonNull = true) :
    (fieldDefault .sdl ft f).isSome = true ∧ fieldDefault (.intro d) ft f = none := by
  refine ⟨by rw [fieldDefault_sdl_some ft f lit hd]; rfl, ?_⟩
  rw [fieldDefault_intro_cases]; simp [hn]

/-- F4 (conditional on the flag the source passes): a deprecated input field is missing from the
    introspection-built class. -/
theorem deprecated_field_dropped (kinds : String → Kind) (name : String) (fs : List InputField)
    (h : ∃ f ∈ fs, f.deprecated = true) :
    (genInput (.intro false) kinds name fs).fields.length < (genInput .sdl kinds name fs).fields.length := by
  simp only [genInput, List.length_map]
  exact visibleFields_length_lt fs h

/-- and when the query asks for deprecated input values nothing is dropped -/
theorem nothing_dropped_when_requested (fs : List InputField) : visibleFields (.intro true) fs = visibleFields .sdl fs := rfl

/-! ### everything else does not look at what differs -/

/-- Every read, in the client strategy, of a schema attribute whose value depends on the builder
    (`ast_node`, `extension_ast_nodes`, `default_value`, `description`, `deprecation_reason`,
    `specified_by_url`) — re-extracted from the source on every run — lies on the input-field
    default path modelled by `fieldDefault`. -/
def allowedUses : List (String × String × String) :=
  [("ariadne_codegen/client_generators/input_fields.py", "parse_input_field_default_value", "default_value"),
   ("ariadne_codegen/client_generators/input_types.py", "InputTypesGenerator._parse_input_definition", "ast_node")]

theorem ast_uses_confined : Tables.sourceSensitiveUses.all (fun u => allowedUses.contains u) = true := by
  decide +kernel

/-- A generator that is a function of the source-independent view of the schema object cannot tell
    the two builders apart (`ν` = what only the SDL builder provides: AST nodes). With
    `ast_uses_confined` this is why result models, enums, method signatures and operation strings
    are compared by the oracle as *equal* across sources, with no exception. -/
theorem source_invariant_results {σ ν β : Type} (g : σ → ν → β) (hg : ∀ s a b, g s a = g s b)
    (s₁ s₂ : σ) (a₁ a₂ : ν) (h : s₁ = s₂) : g s₁ a₁ = g s₂ a₂ := by
  subst h; exact hg _ _ _

/-- enums in particular: the generated enum classes are the same function of the definitions on
    both paths (the model has no mode argument), in any order of definitions -/
theorem enums_source_and_order_invariant (d₁ d₂ : List TypeDef) (h : d₁.Perm d₂) :
    (enumResults d₁).Perm (enumResults d₂) := enumResults_perm h

/-! ## 5. The property as a whole -/

/-- C19 at full strength = its four parts (files, sources, failures, what is sent). -/
def C19_full : Prop := C19_split_full ∧ C19_inputs_full ∧ C19_failures_full ∧ C19_sent_full

theorem C19_full_false : ¬ C19_full := fun h => C19_inputs_full_false h.2.1

/-- What holds: the file part and the what-is-sent part at full strength; the source part and the failure part
    outside the trigger regions of the recorded findings. -/
theorem C19_partial :
    C19_split_full ∧
    (∀ defs : List TypeDef, ValidInputs defs → Supported_19 defs → inputResults .sdl defs = inputResults introMode defs) ∧
    (∀ (σ : Type) (build : List (String × J) → Except String σ) (p : PostResult), Failure build p →
        ¬ (trigRequestExcUntyped p = true ∨ trigDataRejected build p = true) → IsIntrospectionError (schemaFromUrl build p)) ∧
    C19_sent_full :=
  ⟨split_invariant, C19_inputs_partial, C19_failures_partial, sent_as_configured⟩

/-- non-vacuity of the source part: a schema with inputs, an enum, a nullable `= null` default, a
    recursive input, inside the supported region -/
def exampleSchema : List TypeDef :=
  [.enum "Color" ["RED", "GREEN"], .scalar "Date", .composite "Query",
   .input "Filter" [⟨"q", .named "String", none, false⟩, ⟨"c", .nonNull (.named "Color"), none, false⟩,
                    ⟨"n", .named "Int", some .null, false⟩, ⟨"sub", .list (.named "Filter"), none, false⟩,
                    ⟨"d", .named "Date", none, false⟩]]

example : trigDefaultLost exampleSchema = false ∧ trigDeprecatedInput false exampleSchema = false := by decide +kernel
example : trigDefaultLost witnessF1 = true := by decide +kernel

end Ariadne.C19
