/-
  C03 — Method arguments arrive at the server as the declared variables.

  Statements + final proofs.  Models: Model/Arguments.lean (`ArgumentsGenerator`), Model/ClientMethod.lean
  (`add_method`, `get_variable_names`), Model/InputFields.lean (attributes of generated input classes),
  Model/ArgValues.lean (caller values, what they mean), Model/ArgSend.lean (the emitted method body and
  the composition with the base client), Model/BaseClient.lean (`_convert_*`, shared with C11),
  Model/ArgConstruct.lean (class-level defaults of the generated input classes per schema SOURCE —
  `parse_input_field_default_value(node=field.ast_node, …)` — and where the caller's input-model
  instances come from).
  Reference semantics (modelled, validated, not verified): Spec/PyCall.lean (CPython def / call binding),
  Spec/PydLog.lean (pydantic `model_dump(by_alias, exclude_unset)`), Spec/PydInit.lean (pydantic
  `Cls(**kw)` with `populate_by_name`), Spec/Coerce.lean (graphql-core variable coercion).
  Lemmas: Proofs/Coerce.lean, Proofs/ArgValues.lean, Proofs/ArgGen.lean, Proofs/ArgCall.lean,
  Proofs/ArgDeliver.lean, Proofs/ArgConstruct.lean, Proofs/ArgHeap.lean.  Model/ArgHeap.lean: the caller's lists and
  instances as OBJECTS, `_convert_value` statement by statement, programs = calls interleaved with the
  caller's own assignments (§1c: frame, denotation, every call sees the current values).

  Quantification: every configuration (schema view, schema source `schema_path` / `remote_schema_url`,
  custom-scalar section, snake-casing on/off,
  sync/async), every list of variable definitions (any wrapper nesting, defaults, any names), every
  user `serialize` function (`UserFns`), every caller assignment — value trees of unbounded size and
  depth: scalars, enum members, custom-scalar values, lists, (nested, recursive) input-model
  instances with set/unset fields, `None`, omitted.

  Reading decisions (DESIGN.md §3.0): "schema-valid Python arguments" = `argsValid` (`hasType`);
  "delivers exactly the caller's values" = graphql-core's coercion of the sent `variables` object
  returns `intendedVars`: per given variable the caller's value under the original names (enum
  members by name, custom scalars as `serialize(value)` when configured), unset input fields /
  omitted variables replaced by the schema's default where one is declared and absent otherwise.
  "every call … with schema-valid Python arguments (… nested generated input models …)" includes that
  the schema-valid value EXISTS as a Python argument: every instance in it is what its generated class
  returns for some keywords (`ConstructibleArgs`).

  The property is FALSE as written (`C03_full_false`): nine findings, one decidable trigger each
  (Model/ArgFindings.lean; Model/ArgConstruct.lean for C03-F9).  Outside the triggers it is proved
  (`C03_partial`).  Named narrowing `Proved_03` (not a finding of C03; the constructibility conjunct
  only): no two attributes of one generated input class share a name or alias — the complement is the
  region of the naming findings C18-F1…F5, F7 = C06-F7, which this check does not generate.
-/
import AriadneModel.Proofs.ArgDeliver
import AriadneModel.Proofs.ArgConstruct
import AriadneModel.Proofs.ArgConstructEx
import AriadneModel.Proofs.ArgHeap
import AriadneModel.Proofs.ArgHeapEx


namespace Ariadne.C03
open Ariadne.Scalars Ariadne.Coerce Ariadne.ArgValues Ariadne.ArgSend Ariadne.Arguments
open Ariadne.ArgFindings Ariadne.ArgProofs Ariadne.ArgConstruct Ariadne.PydInit Ariadne.ArgProofs.F9
open Ariadne.BaseClient (PV)

/-- the variable definitions as the server sees them -/
def idefs (defs : List VarDecl) : List IField := defs.map (·.toIField)
/-- … and as the generator sees them -/
def vdefs (defs : List VarDecl) : List VarDef := defs.map (·.toVarDef)

/-- What GraphQL validation and a sane configuration guarantee (hypotheses of every theorem):
    input-type fields and the operation's variables have pairwise distinct names, every variable has
    an input type, no configured scalar is named like a built-in one, `serialize` never returns null. -/
structure Valid_03 (cfg : Cfg) (fns : UserFns) (defs : List VarDecl) : Prop where
  hyp : Hyp cfg fns
  inputTypes : ∀ d ∈ defs, isInputType cfg.schema d.type.base = true
  varNames : (defs.map (·.name)).Nodup

/-- one trigger per open finding C03-F1…F8 of findings.d/C03.json (C03-F9: `Supported_03v`) -/
def Supported_03 (cfg : Cfg) (defs : List VarDecl) : Prop :=
  ¬ (trigSelf cfg.snake (vdefs defs) = true            -- C03-F2
   ∨ trigKwargs cfg.snake (vdefs defs) = true          -- C03-F3
   ∨ trigMerge cfg.snake (vdefs defs) = true           -- C03-F4
   ∨ trigQueryClobber cfg.snake (vdefs defs) = true    -- C03-F1
   ∨ trigShadow (envOf cfg) (vdefs defs) = true        -- C03-F6
   ∨ trigMangled cfg.snake (vdefs defs) = true         -- C03-F8
   ∨ trigSerializeNullable (envOf cfg) (vdefs defs) = true   -- C03-F5 (= C07-F1)
   ∨ trigSerializeList (envOf cfg) (vdefs defs) = true)      -- C03-F7 (= C07-F2)

instance (cfg : Cfg) (defs : List VarDecl) : Decidable (Supported_03 cfg defs) := by
  unfold Supported_03; infer_instance

theorem supported_iff (cfg : Cfg) (defs : List VarDecl) :
    Supported_03 cfg defs ↔ anyTrigger (envOf cfg) (vdefs defs) = false := by
  simp only [Supported_03, anyTrigger, vdefs, envOf, not_or, Bool.or_eq_false_iff, Bool.not_eq_true]
  constructor
  · rintro ⟨a, b, c, d, e, m, f, g⟩; exact ⟨⟨⟨⟨⟨⟨⟨a, b⟩, c⟩, d⟩, e⟩, m⟩, f⟩, g⟩
  · rintro ⟨⟨⟨⟨⟨⟨⟨a, b⟩, c⟩, d⟩, e⟩, m⟩, f⟩, g⟩; exact ⟨a, b, c, d, e, m, f, g⟩

/-- The property for one call `a` of the method generated for `defs`. -/
structure Delivered (cfg : Cfg) (fns : UserFns) (async : Bool) (opName opText : String)
    (defs : List VarDecl) (a : List AV) : Prop where
  /-- the package imports, the call binds, a request is sent … -/
  sent : ∃ req, send (envOf cfg) fns async opName opText defs a = .ok req ∧
    /- … whose `variables` spec-conformant coercion accepts, delivering exactly the caller's values -/
    coerceVars cfg.schema (idefs defs) req.variables = .ok (intendedVars cfg fns (idefs defs) a) ∧
    /- the keys of the payload are the original GraphQL names of exactly the arguments passed
       (so omitted optional arguments are absent) -/
    req.variables.map (·.1) = givenNames (idefs defs) a ∧
    /- explicit None travels as null -/
    (∀ dv ∈ (idefs defs).zip a, dv.2.isNone = true → (dv.1.name, J.null) ∈ req.variables)

/-- "a required variable cannot be omitted": the call raises TypeError, nothing is sent -/
def RequiredEnforced (cfg : Cfg) (fns : UserFns) (async : Bool) (opName opText : String)
    (defs : List VarDecl) (a : List AV) : Prop :=
  ∀ d v, (d, v) ∈ defs.zip a → isNonNull d.type = true → v.isUnset = true →
    ∃ msg, send (envOf cfg) fns async opName opText defs a = .error (.python (.typeError msg))

/-- the value-level trigger (C03-F9 = C06-F8 = C19-F1 seen from a call): the schema was obtained by
    introspection and an instance among the arguments leaves unset a non-null field that has a schema
    default -/
def Supported_03v (src : Source) (cfg : Cfg) (a : List AV) : Prop :=
  ¬ (trigDefaultLostIntro src cfg a = true)

instance (src : Source) (cfg : Cfg) (a : List AV) : Decidable (Supported_03v src cfg a) := by
  unfold Supported_03v; infer_instance

/-- named narrowing of the constructibility theorems (not a finding of C03: the complement is the region
    of C18-F1…F5, F7 = C06-F7, two fields of one input type sharing a Python name) -/
def Proved_03 (cfg : Cfg) : Prop := ClassNamesClean cfg

/-- C03 at full strength, in the words of properties.jsonl: for every operation and every call with
    schema-valid arguments — which exist as Python values whichever way the schema was obtained — the
    variables are accepted and delivered, omitted/unset are absent, None is null, and a required
    variable cannot be omitted. -/
def C03_full : Prop :=
  ∀ (src : Source) (cfg : Cfg) (fns : UserFns) (async : Bool) (opName opText : String) (defs : List VarDecl) (a : List AV),
    Valid_03 cfg fns defs →
      (argsValid cfg (idefs defs) a = true →
        ConstructibleArgs src cfg a ∧ Delivered cfg fns async opName opText defs a) ∧
      (defs.length = a.length → objsOK fns a → RequiredEnforced cfg fns async opName opText defs a)

/-! ## 1. One call: what is sent, key by key and value by value -/

/-- `vars_delivered`: outside the finding triggers, for every schema-valid assignment the sent
    variables are coerced by the server to exactly the intended values. -/
theorem vars_delivered (cfg : Cfg) (fns : UserFns) (async : Bool) (opName opText : String)
    (defs : List VarDecl) (a : List AV)
    (hv : Valid_03 cfg fns defs) (hs : Supported_03 cfg defs) (ha : argsValid cfg (idefs defs) a = true) :
    ∃ req, send (envOf cfg) fns async opName opText defs a = .ok req ∧ req.query = opText ∧
      coerceVars cfg.schema (idefs defs) req.variables = .ok (intendedVars cfg fns (idefs defs) a) := by
  obtain ⟨req, h1, h2, _, h4⟩ := send_delivers cfg fns hv.hyp defs a opName opText "Client" async hv.inputTypes hv.varNames
    ((supported_iff cfg defs).mp hs) ha
  exact ⟨req, h1, h2, h4⟩

theorem vars_keys_original (cfg : Cfg) (fns : UserFns) (async : Bool) (opName opText : String)
    (defs : List VarDecl) (a : List AV)
    (hv : Valid_03 cfg fns defs) (hs : Supported_03 cfg defs) (ha : argsValid cfg (idefs defs) a = true) :
    ∃ req, send (envOf cfg) fns async opName opText defs a = .ok req ∧
      req.variables.map (·.1) = givenNames (idefs defs) a ∧
      (∀ dv ∈ (idefs defs).zip a, dv.2.isNone = true → (dv.1.name, J.null) ∈ req.variables) := by
  obtain ⟨req, h1, _, h3, _⟩ := send_delivers cfg fns hv.hyp defs a opName opText "Client" async hv.inputTypes hv.varNames
    ((supported_iff cfg defs).mp hs) ha
  obtain ⟨k1, k2⟩ := payload_shape cfg fns (idefs defs) a req.variables h3
  exact ⟨req, h1, k1, k2⟩

/-- an omitted argument's variable name is not a key of the payload (variable names are distinct) -/
theorem omitted_absent (ds : List IField) (vs : List AV) (hnd : (names ds).Nodup) :
    ∀ dv ∈ ds.zip vs, dv.2.isUnset = true → dv.1.name ∉ givenNames ds vs := by
  induction ds generalizing vs with
  | nil => intro dv h; simp at h
  | cons d ds ih =>
    cases vs with
    | nil => intro dv h; simp at h
    | cons v vs =>
      simp only [names, List.map_cons, List.nodup_cons] at hnd
      have hsub := givenNames_sub ds vs
      intro dv hm hu
      simp only [List.zip_cons_cons, List.mem_cons] at hm
      rcases hm with hm | hm
      · subst hm
        simp only at hu
        simp only [givenNames, hu, if_true]
        exact fun h => hnd.1 (hsub _ h)
      · have hrec := ih vs hnd.2 dv hm hu
        have hne : dv.1.name ≠ d.name := by
          intro e; apply hnd.1; rw [← e]; exact List.mem_map_of_mem (List.of_mem_zip hm).1
        by_cases hv : v.isUnset = true
        · simpa [givenNames, hv] using hrec
        · have hv' : v.isUnset = false := by simpa using hv
          simp only [givenNames, hv', Bool.false_eq_true, if_false, List.mem_cons, not_or]
          exact ⟨hne, hrec⟩

/-- unset input fields are absent at every depth: whatever model instance is dumped (top level, in
    a list, as a field of another instance), its dump has exactly the keys of its SET fields, and
    those keys are the original GraphQL field names (`field_key_original`). -/
theorem unset_fields_absent (fns : UserFns) (fields : List (FieldKey × AV)) (kvs : List (String × PV))
    (calls : List Call) (h : PydLog.dumpFields fns fields = .ok (kvs, calls)) :
    kvs.map (·.1) = setKeys fields := dump_keys fns fields kvs calls h

theorem field_key_original (cfg : Cfg) (f : IField) : (fieldKeyOf cfg f).key = f.name := fieldKey_key cfg f

/-- `bindCall` fails with TypeError before anything is sent -/
theorem required_cannot_be_omitted (cfg : Cfg) (fns : UserFns) (async : Bool) (opName opText : String)
    (defs : List VarDecl) (a : List AV)
    (hv : Valid_03 cfg fns defs) (hs : Supported_03 cfg defs) (hlen : defs.length = a.length) (hobj : objsOK fns a) :
    RequiredEnforced cfg fns async opName opText defs a := by
  intro d v hd hreq hu
  exact send_required_omitted cfg fns hv.hyp defs a opName opText "Client" async hv.inputTypes
    ((supported_iff cfg defs).mp hs) hobj hlen d v hd hreq hu

/-- the value-level core (induction over the input-value tree): a schema-valid value inside an
    input model, dumped under the generated annotation and written as JSON, coerces at its GraphQL
    type to the intended value -/
theorem value_delivered (cfg : Cfg) (fns : UserFns) (hy : Hyp cfg fns) (inh : Bool) (t : GT) (v : AV)
    (ht : hasType cfg t v = true)
    (hc : annConf (InputFields.parseType cfg.scalars (InputFields.kindOf cfg.schema) inh t) v = true) :
    ∃ p calls w, PydLog.dumpAnn fns (InputFields.parseType cfg.scalars (InputFields.kindOf cfg.schema) inh t) v = .ok (p, calls) ∧
      BaseClient.toJson p = some w ∧ coerce cfg.schema t w = .ok (intended cfg fns v) := by
  obtain ⟨p, calls, hd, _, _, w, hj, hco⟩ := dump_good cfg fns hy inh t v ht hc
  exact ⟨p, calls, w, hd, hj, hco⟩

/-! ## 1b. Where the caller's input-model arguments come from

  The generated class per schema source, pydantic's `__init__`, and which schema-valid values exist. -/

/-- the class-level default decides: an attribute of the class generated from a `src` schema demands
    a value exactly when the field is non-null and — for the SDL source — declares no default;
    a class generated from an introspected schema demands every non-null field (the default is read
    from `field.ast_node`, which introspection does not provide) -/
theorem class_field_required (src : Source) (cfg : Cfg) (f : IField) :
    (classField src cfg f).required =
      (match src with
       | .sdl => f.default.isNone && f.type.nonNull
       | .intro => f.type.nonNull) := classField_required src cfg f

/-- dump key and annotation of the attribute do not depend on the source (so `send` does not) -/
theorem class_field_key (src : Source) (cfg : Cfg) (f : IField) :
    (classField src cfg f).fieldKey = fieldKeyOf cfg f := classField_fieldKey src cfg f

/-- pydantic's `__init__` on ANY class whose lookup names are pairwise distinct: the instances it can
    return are exactly those that fit the class (keys/annotations of the class, accepted values in
    the set fields, a class-level default behind every unset field) -/
theorem instance_constructible_iff (cs : List InitField) (inst : List (FieldKey × AV))
    (hnd : (lookupNamesOf cs).Nodup) :
    (∃ kw, initModel cs kw = .ok inst) ↔ fitsClass cs inst = true := init_iff_fits cs inst hnd

/-- … and the keywords that build it may use the attribute name or the alias, field by field
    (`populate_by_name=True`) -/
theorem keywords_build_instance (bs : List Bool) (cs : List InitField) (inst : List (FieldKey × AV))
    (hnd : (lookupNamesOf cs).Nodup) (hf : fitsClass cs inst = true) :
    initModel cs (kwFor bs cs inst) = .ok inst :=
  (initModel_ok_iff cs _ inst).mpr (init_builds_fields bs cs inst hnd hf)

/-- a required attribute that the keywords do not mention: `ValidationError` (missing), wherever
    the attribute stands in the class and whatever else is passed -/
theorem required_field_cannot_be_left_out (cs : List InitField) (kw : List (String × AV)) (c : InitField)
    (hc : c ∈ cs) (hr : c.required = true) (hl : lookupField c kw = none) :
    ∃ e, initModel cs kw = .error e ∧ c.key ∈ e.missing := init_required_left_out cs kw c hc hr hl

/-- `args_constructible`: a schema-valid assignment exists as Python arguments exactly when it is
    outside the trigger of C03-F9 (the trigger is exact: inside it the value can NOT be built) -/
theorem args_constructible (src : Source) (cfg : Cfg) (defs : List VarDecl) (a : List AV)
    (hp : Proved_03 cfg) (ha : argsValid cfg (idefs defs) a = true) :
    ConstructibleArgs src cfg a ↔ Supported_03v src cfg a := by
  rw [args_constructible_iff src cfg hp (idefs defs) a ha]
  simp [Supported_03v]

/-- for a schema read from SDL every schema-valid assignment can be built -/
theorem sdl_args_constructible (cfg : Cfg) (defs : List VarDecl) (a : List AV)
    (hp : Proved_03 cfg) (ha : argsValid cfg (idefs defs) a = true) : ConstructibleArgs .sdl cfg a :=
  (args_constructible .sdl cfg defs a hp ha).mpr (by simp [Supported_03v, trig_sdl])

/-! ## 1c. Sequences of calls over the caller's own objects

  "Every call" includes the second call with a list of input models the first call has already
  seen, after the caller updated one of them.  Model/ArgHeap.lean: the caller's lists and instances
  are objects in a store, `_convert_value` is modelled statement by statement on it. -/

section Sequences
open Ariadne.ArgHeap

/-- frame: `_convert_value` (as it is in the four base clients) never writes an object that existed
    before the call — whatever the aliasing and nesting of the caller's lists and instances -/
theorem convert_value_frame (fns : UserFns) (f : Nat) (v : CVal) (s : CStore) (r : PVal) (s' : CStore)
    (h : convertValueC fns f v s = some (r, s')) :
    s.length ≤ s'.length ∧ ∀ a, a < s.length → s'[a]? = s[a]? := convertValueC_keeps fns f v s r s' h

/-- what it returns denotes the value-level `convertValue` of the Python object the argument denotes
    (the function `send` is stated with), for every tree of depth ≤ `f` -/
theorem convert_value_denotes (fns : UserFns) (f : Nat) (v : CVal) (s : CStore) (av : AV) (o : PV) (c : List Call)
    (hd : derefC s f v = some av) (ho : objOf fns av = .ok (o, c)) :
    ∃ r s', convertValueC fns f v s = some (r, s') ∧ derefP s' f r = some (BaseClient.convertValue o) := by
  obtain ⟨r, s', h1, _, h3⟩ := convertValueC_spec fns f v s av o c hd ho
  exact ⟨r, s', h1, h3⟩

/-- `calls_see_current_values`: in every program (calls interleaved with attribute assignments, item
    assignments and appends, any sharing of objects between arguments and between calls) every call
    sends what its arguments denote at that moment — the run on the store the base client really
    leaves behind is the run in which calls touch nothing -/
theorem calls_see_current_values (env : Arguments.Env) (fns : UserFns) (async : Bool) (fuel : Nat) (s : CStore)
    (steps : List Step) (hall : ∀ r ∈ runIdeal env fns async fuel s steps, r.isSome = true) :
    runC env fns async fuel s steps = runIdeal env fns async fuel s steps :=
  runC_eq_ideal env fns async fuel s steps hall

/-- … and after the program the caller's objects are what the caller's own statements made of them -/
theorem caller_objects_untouched (fns : UserFns) (fuel : Nat) (s : CStore) (steps : List Step) :
    ∀ a, a < (callerStore s steps).length →
      (storeWith (convertValueC fns fuel) s steps)[a]? = (callerStore s steps)[a]? :=
  (storeWith_keeps (convertValueC fns fuel) (convertValueC_keeps fns fuel) steps s s (Keeps.refl s)).2

/-- the ideal run, unfolded: a call is the value-level `send` of the tree its arguments denote in
    the store the caller's statements have produced so far -/
theorem runIdeal_call (env : Arguments.Env) (fns : UserFns) (async : Bool) (fuel : Nat) (s : CStore) (c : CallStep)
    (rest : List Step) :
    runIdeal env fns async fuel s (.call c :: rest) =
      (derefArgs s fuel c.args).map (fun avs => send env fns async c.opName c.opText c.defs avs) ::
        runIdeal env fns async fuel s rest := by
  simp [runIdeal, runWith, storeAfter_ideal, requestOf]

/-- so every call of a program delivers the values the caller's objects hold at that moment -/
theorem sequence_call_delivers (cfg : Cfg) (fns : UserFns) (async : Bool) (fuel : Nat) (s : CStore) (c : CallStep) (avs : List AV)
    (hv : Valid_03 cfg fns c.defs) (hs : Supported_03 cfg c.defs)
    (hd : derefArgs s fuel c.args = some avs) (ha : argsValid cfg (idefs c.defs) avs = true) :
    ∃ req, requestOf (envOf cfg) fns async fuel s c = some (.ok req) ∧
      coerceVars cfg.schema (idefs c.defs) req.variables = .ok (intendedVars cfg fns (idefs c.defs) avs) := by
  obtain ⟨req, h1, _, h3⟩ := vars_delivered cfg fns async c.opName c.opText c.defs avs hv hs ha
  exact ⟨req, by simp [requestOf, hd, h1], h3⟩

/-- non-vacuity, and the theorem is about the code: `p = P(limit=3); ps = [p]; q(ps); p.limit = 4; q(ps)`
    sends limit 3 then limit 4 with `_convert_value` as it is, and limit 3 twice with the variant that
    converts the list in place (Proofs/ArgHeapEx.lean) -/
example : runC (envOf f9Cfg) Ex.exFns true 3 Ex.store0 Ex.prog = runIdeal (envOf f9Cfg) Ex.exFns true 3 Ex.store0 Ex.prog :=
  calls_see_current_values _ _ _ _ _ _ Ex.ideal_defined
example : Ex.sameVars (Ex.sentBy (convertValueC Ex.exFns 3)) [Ex.limitIs 3, Ex.limitIs 4] = true := Ex.real_client_sends_current
example : Ex.sameVars (Ex.sentBy (convertValueIP Ex.exFns 2)) [Ex.limitIs 3, Ex.limitIs 3] = true := Ex.in_place_variant_sends_stale

end Sequences

/-! ## 2. The property on the complement of the triggers -/

theorem C03_partial (src : Source) (cfg : Cfg) (fns : UserFns) (async : Bool) (opName opText : String)
    (defs : List VarDecl) (a : List AV) (hv : Valid_03 cfg fns defs) (hp : Proved_03 cfg)
    (hs : Supported_03 cfg defs) (hsv : Supported_03v src cfg a) :
    (argsValid cfg (idefs defs) a = true →
      ConstructibleArgs src cfg a ∧ Delivered cfg fns async opName opText defs a) ∧
    (defs.length = a.length → objsOK fns a → RequiredEnforced cfg fns async opName opText defs a) := by
  refine ⟨fun ha => ⟨(args_constructible src cfg defs a hp ha).mpr hsv, ?_⟩,
    fun hlen hobj => required_cannot_be_omitted cfg fns async opName opText defs a hv hs hlen hobj⟩
  obtain ⟨req, h1, _, h3, h4⟩ := send_delivers cfg fns hv.hyp defs a opName opText "Client" async hv.inputTypes hv.varNames
    ((supported_iff cfg defs).mp hs) ha
  obtain ⟨k1, k2⟩ := payload_shape cfg fns (idefs defs) a req.variables h3
  exact ⟨⟨req, h1, h4, k1, k2⟩⟩

/-! ## 3. The property as written is false: one witness per finding

  Every witness is replayed on the real code by harness/c03.py (corpus/C03/*.json). -/

/-- executable form of (part of) `Delivered`, to evaluate witnesses -/
def deliveredB (cfg : Cfg) (fns : UserFns) (async : Bool) (opName opText : String) (defs : List VarDecl) (a : List AV) : Bool :=
  match send (envOf cfg) fns async opName opText defs a with
  | .ok req =>
    (match coerceVars cfg.schema (idefs defs) req.variables with
     | .ok out => J.beqKvs out (intendedVars cfg fns (idefs defs) a)
     | .error _ => false) && decide (req.variables.map (·.1) = givenNames (idefs defs) a)
  | .error _ => false

theorem deliveredB_of_Delivered {cfg : Cfg} {fns : UserFns} {async : Bool} {opName opText : String}
    {defs : List VarDecl} {a : List AV} (h : Delivered cfg fns async opName opText defs a) :
    deliveredB cfg fns async opName opText defs a = true := by
  obtain ⟨req, h1, h2, h3, _⟩ := h.sent
  simp [deliveredB, h1, h2, h3, beqKvs_refl]

/-- how a witness refutes the property: its run, evaluated, is not a delivery -/
theorem not_delivered {cfg : Cfg} {fns : UserFns} {async : Bool} {opName opText : String}
    {defs : List VarDecl} {a : List AV} (h : deliveredB cfg fns async opName opText defs a = false) :
    ¬ Delivered cfg fns async opName opText defs a :=
  fun hd => by rw [deliveredB_of_Delivered hd] at h; cases h

/-- instrumented user functions of the witnesses (what harness/argwire.py's `serialize_*` do) -/
def wFns : UserFns :=
  { ser := fun f j => .obj [("$ser", .str f), ("v", j)],
    other := fun f _ => .ok (.leaf (some (.obj [("$ser", .str f), ("other", .str "not-a-scalar")]))) }

def plainCfg (snake : Bool) : Cfg := { schema := ⟨[]⟩, scalars := [], snake := snake }

def scaData : ScalarData :=
  { type_ := ".custom_scalars.TA", serialize := some ".custom_scalars.serialize_a", parse := some ".custom_scalars.parse_a" }

/-- `scalar ScA` configured with type / parse / serialize -/
def scaCfg : Cfg := { schema := ⟨[("ScA", .scalar)]⟩, scalars := [("ScA", scaData)], snake := true }

def intT : Gql.TypeRef := .named "Int"

theorem plain_hyp (snake : Bool) : Hyp (plainCfg snake) wFns :=
  ⟨by intro n fs h; simp [plainCfg, ISchema.get?] at h,
   by intro n d h; simp [plainCfg, lookupScalar] at h,
   by intro f j; rfl⟩

theorem sca_hyp : Hyp scaCfg wFns := by
  refine ⟨?_, ?_, by intro f j; rfl⟩
  · intro n fs h
    have hm := ISchema.get?_mem h
    simp [scaCfg] at hm
  · intro n d h
    have hm := lookupScalar_mem h
    simp only [scaCfg, List.mem_singleton, Prod.mk.injEq] at hm
    rw [hm.1]; decide

theorem plain_valid (snake : Bool) (defs : List VarDecl) (h1 : ∀ d ∈ defs, d.type.base = "Int")
    (h2 : (defs.map (·.name)).Nodup) : Valid_03 (plainCfg snake) wFns defs :=
  ⟨plain_hyp snake, by intro d hd; rw [h1 d hd]; rfl, h2⟩

/-- C03-F1: `$query` with `$_query`, snake-casing off -/
def f1Defs : List VarDecl := [⟨"query", intT, none⟩, ⟨"_query", intT, none⟩]
def f1Args : List AV := [.int 1, .int 2]
/-- C03-F2: `$self` -/
def f2Defs : List VarDecl := [⟨"self", intT, none⟩]
/-- C03-F3: `$kwargs` -/
def f3Defs : List VarDecl := [⟨"kwargs", intT, none⟩]
/-- C03-F4: `$fooBar` with `$foo_bar` (and `$_x` with `$x`), snake-casing on -/
def f4Defs : List VarDecl := [⟨"fooBar", intT, none⟩, ⟨"foo_bar", intT, none⟩]
def f4bDefs : List VarDecl := [⟨"_x", intT, none⟩, ⟨"x", intT, none⟩]
/-- C03-F5: an omitted (or None) nullable custom-scalar argument with `serialize` -/
def f5Defs : List VarDecl := [⟨"a", .named "ScA", none⟩]
/-- C03-F6: `$gql` -/
def f6Defs : List VarDecl := [⟨"gql", intT, none⟩]
/-- C03-F7: a list of custom scalars with `serialize` at top level -/
def f7Defs : List VarDecl := [⟨"xs", .nonNull (.list (.nonNull (.named "ScA"))), none⟩]
def f7Args : List AV := [.list [.custom "ScA" (.str "r1"), .custom "ScA" (.str "r2")]]
/-- C03-F8: `$__x` without snake-casing (private-name mangling inside `class Client`) -/
def f8Defs : List VarDecl := [⟨"__x", .nonNull intT, none⟩]
def exSchema : ISchema :=
  ⟨[("ScA", .scalar), ("Color", .enum ["RED", "from"]),
    ("Filter", .input [⟨"fooBar", .named "Int" false, some (.num 5 0)⟩, ⟨"class", .list (.named "ScA" true) false, none⟩,
                       ⟨"nested", .named "Filter" false, none⟩, ⟨"color", .named "Color" true, none⟩])]⟩

def exCfg : Cfg := { schema := exSchema, scalars := [("ScA", scaData)], snake := true }

def exDefs : List VarDecl :=
  [⟨"class", .named "Filter", none⟩, ⟨"userId", .nonNull (.named "ScA"), none⟩, ⟨"query", .list (.nonNull (.named "Color")), none⟩,
   ⟨"limit", .named "Int", some (.num 10 0)⟩]

def exInner : AV :=
  .model "Filter" [(fieldKeyOf exCfg ⟨"fooBar", .named "Int" false, some (.num 5 0)⟩, .int 3),
                   (fieldKeyOf exCfg ⟨"class", .list (.named "ScA" true) false, none⟩, .none),
                   (fieldKeyOf exCfg ⟨"nested", .named "Filter" false, none⟩, .unset),
                   (fieldKeyOf exCfg ⟨"color", .named "Color" true, none⟩, .enum "from")]

def exArgs : List AV :=
  [.model "Filter" [(fieldKeyOf exCfg ⟨"fooBar", .named "Int" false, some (.num 5 0)⟩, .unset),
                    (fieldKeyOf exCfg ⟨"class", .list (.named "ScA" true) false, none⟩, .list [.custom "ScA" (.str "r")]),
                    (fieldKeyOf exCfg ⟨"nested", .named "Filter" false, none⟩, exInner),
                    (fieldKeyOf exCfg ⟨"color", .named "Color" true, none⟩, .enum "RED")],
   .custom "ScA" (.num 7 0), .none, .unset]

/-- What the kernel evaluates on the concrete inputs of this file, in one declaration: every evaluation that converts a name decodes
    the keyword tables of `Model/Names.lean`, and the kernel shares work only inside one declaration.  The lemmas named after the
    inputs are its components. -/
theorem evaluated :
    (deliveredB (plainCfg false) wFns true "Q" "query Q" f1Defs f1Args = false
      ∧ argsValid (plainCfg false) (idefs f1Defs) f1Args = true ∧ trigQueryClobber false (vdefs f1Defs) = true) ∧
    (deliveredB (plainCfg true) wFns true "Q" "query Q" f2Defs [.int 1] = false
      ∧ argsValid (plainCfg true) (idefs f2Defs) [.int 1] = true ∧ trigSelf true (vdefs f2Defs) = true) ∧
    (deliveredB (plainCfg true) wFns true "Q" "query Q" f3Defs [.int 1] = false
      ∧ argsValid (plainCfg true) (idefs f3Defs) [.int 1] = true ∧ trigKwargs true (vdefs f3Defs) = true) ∧
    (deliveredB (plainCfg true) wFns true "Q" "query Q" f4Defs [.int 1, .int 2] = false
      ∧ argsValid (plainCfg true) (idefs f4Defs) [.int 1, .int 2] = true ∧ trigMerge true (vdefs f4Defs) = true) ∧
    (deliveredB (plainCfg true) wFns true "Q" "query Q" f4bDefs [.int 1, .int 2] = false) ∧
    (deliveredB scaCfg wFns true "Q" "query Q" f5Defs [.unset] = false
      ∧ deliveredB scaCfg wFns true "Q" "query Q" f5Defs [.none] = false
      ∧ argsValid scaCfg (idefs f5Defs) [.unset] = true ∧ trigSerializeNullable (envOf scaCfg) (vdefs f5Defs) = true) ∧
    (deliveredB (plainCfg true) wFns true "Q" "query Q" f6Defs [.int 1] = false
      ∧ argsValid (plainCfg true) (idefs f6Defs) [.int 1] = true ∧ trigShadow (envOf (plainCfg true)) (vdefs f6Defs) = true) ∧
    (deliveredB scaCfg wFns true "Q" "query Q" f7Defs f7Args = false
      ∧ argsValid scaCfg (idefs f7Defs) f7Args = true ∧ trigSerializeList (envOf scaCfg) (vdefs f7Defs) = true) ∧
    (deliveredB (plainCfg false) wFns true "Q" "query Q" f8Defs [.int 1] = false
      ∧ argsValid (plainCfg false) (idefs f8Defs) [.int 1] = true ∧ trigMangled false (vdefs f8Defs) = true) ∧
    ((names (exCfg.fieldsOf "Filter")).Nodup
      ∧ (lookupNamesOf (classFieldsOf .sdl exCfg (exCfg.fieldsOf "Filter"))).Nodup
      ∧ (∀ d ∈ exDefs, isInputType exCfg.schema d.type.base = true) ∧ (exDefs.map (·.name)).Nodup
      ∧ argsValid exCfg (idefs exDefs) exArgs = true ∧ Supported_03 exCfg exDefs
      ∧ Supported_03v .intro exCfg exArgs ∧ Supported_03v .sdl exCfg exArgs
      ∧ (instances (exArgs.headD .none)).length = 2) := by
  decide +kernel

theorem f1_run : deliveredB (plainCfg false) wFns true "Q" "query Q" f1Defs f1Args = false
    ∧ argsValid (plainCfg false) (idefs f1Defs) f1Args = true ∧ trigQueryClobber false (vdefs f1Defs) = true := evaluated.1
theorem F1_witness_fails : ¬ Delivered (plainCfg false) wFns true "Q" "query Q" f1Defs f1Args :=
  not_delivered f1_run.1

theorem f2_run : deliveredB (plainCfg true) wFns true "Q" "query Q" f2Defs [.int 1] = false
    ∧ argsValid (plainCfg true) (idefs f2Defs) [.int 1] = true ∧ trigSelf true (vdefs f2Defs) = true := evaluated.2.1
theorem F2_witness_fails : ¬ Delivered (plainCfg true) wFns true "Q" "query Q" f2Defs [.int 1] :=
  not_delivered f2_run.1

theorem f3_run : deliveredB (plainCfg true) wFns true "Q" "query Q" f3Defs [.int 1] = false
    ∧ argsValid (plainCfg true) (idefs f3Defs) [.int 1] = true ∧ trigKwargs true (vdefs f3Defs) = true := evaluated.2.2.1
theorem F3_witness_fails : ¬ Delivered (plainCfg true) wFns true "Q" "query Q" f3Defs [.int 1] :=
  not_delivered f3_run.1

theorem f4_run : deliveredB (plainCfg true) wFns true "Q" "query Q" f4Defs [.int 1, .int 2] = false
    ∧ argsValid (plainCfg true) (idefs f4Defs) [.int 1, .int 2] = true ∧ trigMerge true (vdefs f4Defs) = true := evaluated.2.2.2.1
theorem F4_witness_fails : ¬ Delivered (plainCfg true) wFns true "Q" "query Q" f4Defs [.int 1, .int 2] :=
  not_delivered f4_run.1
theorem f4b_run : deliveredB (plainCfg true) wFns true "Q" "query Q" f4bDefs [.int 1, .int 2] = false := evaluated.2.2.2.2.1
theorem F4b_witness_fails : ¬ Delivered (plainCfg true) wFns true "Q" "query Q" f4bDefs [.int 1, .int 2] :=
  not_delivered f4b_run

theorem f5_run : deliveredB scaCfg wFns true "Q" "query Q" f5Defs [.unset] = false
    ∧ deliveredB scaCfg wFns true "Q" "query Q" f5Defs [.none] = false
    ∧ argsValid scaCfg (idefs f5Defs) [.unset] = true ∧ trigSerializeNullable (envOf scaCfg) (vdefs f5Defs) = true := evaluated.2.2.2.2.2.1
theorem F5_witness_fails : ¬ Delivered scaCfg wFns true "Q" "query Q" f5Defs [.unset] :=
  not_delivered f5_run.1
theorem F5_none_witness_fails : ¬ Delivered scaCfg wFns true "Q" "query Q" f5Defs [.none] :=
  not_delivered f5_run.2.1

theorem f6_run : deliveredB (plainCfg true) wFns true "Q" "query Q" f6Defs [.int 1] = false
    ∧ argsValid (plainCfg true) (idefs f6Defs) [.int 1] = true ∧ trigShadow (envOf (plainCfg true)) (vdefs f6Defs) = true := evaluated.2.2.2.2.2.2.1
theorem F6_witness_fails : ¬ Delivered (plainCfg true) wFns true "Q" "query Q" f6Defs [.int 1] :=
  not_delivered f6_run.1

theorem f7_run : deliveredB scaCfg wFns true "Q" "query Q" f7Defs f7Args = false
    ∧ argsValid scaCfg (idefs f7Defs) f7Args = true ∧ trigSerializeList (envOf scaCfg) (vdefs f7Defs) = true := evaluated.2.2.2.2.2.2.2.1
theorem F7_witness_fails : ¬ Delivered scaCfg wFns true "Q" "query Q" f7Defs f7Args :=
  not_delivered f7_run.1

theorem f8_run : deliveredB (plainCfg false) wFns true "Q" "query Q" f8Defs [.int 1] = false
    ∧ argsValid (plainCfg false) (idefs f8Defs) [.int 1] = true ∧ trigMangled false (vdefs f8Defs) = true := evaluated.2.2.2.2.2.2.2.2.1
theorem F8_witness_fails : ¬ Delivered (plainCfg false) wFns true "Q" "query Q" f8Defs [.int 1] :=
  not_delivered f8_run.1

/-- every witness is a valid input, and the trigger it is filed under fires on it -/
example : argsValid (plainCfg false) (idefs f8Defs) [.int 1] = true ∧ trigMangled false (vdefs f8Defs) = true := f8_run.2
example : argsValid (plainCfg false) (idefs f1Defs) f1Args = true ∧ trigQueryClobber false (vdefs f1Defs) = true := f1_run.2
example : argsValid (plainCfg true) (idefs f2Defs) [.int 1] = true ∧ trigSelf true (vdefs f2Defs) = true := f2_run.2
example : argsValid (plainCfg true) (idefs f3Defs) [.int 1] = true ∧ trigKwargs true (vdefs f3Defs) = true := f3_run.2
example : argsValid (plainCfg true) (idefs f4Defs) [.int 1, .int 2] = true ∧ trigMerge true (vdefs f4Defs) = true := f4_run.2
example : argsValid scaCfg (idefs f5Defs) [.unset] = true ∧ trigSerializeNullable (envOf scaCfg) (vdefs f5Defs) = true := f5_run.2.2
example : argsValid (plainCfg true) (idefs f6Defs) [.int 1] = true ∧ trigShadow (envOf (plainCfg true)) (vdefs f6Defs) = true := f6_run.2
example : argsValid scaCfg (idefs f7Defs) f7Args = true ∧ trigSerializeList (envOf scaCfg) (vdefs f7Defs) = true := f7_run.2

/-- C03-F9 (witness data and its evaluated facts: Proofs/ArgConstructEx.lean): `input P { limit: Int! = 10,
    name: String }` obtained by introspection; the caller sets `name` and leaves `limit` to the
    server-side default -/
theorem f9_proved : Proved_03 f9Cfg := f9_clean

theorem f9_hyp (fns : UserFns) (hser : ∀ f j, (fns.ser f j).isNull = false) : Hyp f9Cfg fns := by
  refine ⟨?_, by intro n d h; simp [f9Cfg, lookupScalar] at h, hser⟩
  intro n fs h
  rw [f9_get n fs h]; exact f9_facts.1

theorem F9_witness_fails : ¬ ConstructibleArgs .intro f9Cfg [f9Inst .unset] := by
  intro h
  exact (args_constructible .intro f9Cfg f9Defs [f9Inst .unset] f9_proved f9_valid_unset).mp h f9_trig_unset

/-- the witness is a schema-valid value (the server would fill in `limit = 10`), inside the trigger;
    the same value is constructible when the schema is read from SDL, and in the introspection
    source as soon as `limit` is set -/
example : argsValid f9Cfg (idefs f9Defs) [f9Inst .unset] = true ∧ trigDefaultLostIntro .intro f9Cfg [f9Inst .unset] = true :=
  ⟨f9_valid_unset, f9_trig_unset⟩
example : J.beqKvs (intendedVars f9Cfg wFns (idefs f9Defs) [f9Inst .unset]) [("p", .obj [("limit", .num 10 0), ("name", .str "n")])] = true := by decide
example : ConstructibleArgs .sdl f9Cfg [f9Inst .unset] := sdl_args_constructible f9Cfg f9Defs _ f9_proved f9_valid_unset
example : ConstructibleArgs .intro f9Cfg [f9Inst (.int 3)] :=
  (args_constructible .intro f9Cfg f9Defs _ f9_proved f9_valid_set).mpr (by simp [Supported_03v, f9_trig_set])
/-- … built through the class: the introspection class demands `limit`, the SDL class does not -/
example : (match initModel (classFields .intro f9Cfg "P") [("name", .str "n")] with
    | .error e => e.missing == ["limit"] && e.invalid.isEmpty
    | .ok _ => false) = true := by
  have h := f9_facts.2.2.2.2.2.2.1
  -- the two `match`es are different auxiliary definitions: compare them on a variable, not on the run
  generalize initModel (classFields .intro f9Cfg "P") [("name", .str "n")] = r at h ⊢
  exact h
example : (initModel (classFields .sdl f9Cfg "P") [("name", .str "n")]).toOption.isSome = true := f9_facts.2.2.2.2.2.2.2

theorem C03_full_false : ¬ C03_full := by
  intro h
  have hv : Valid_03 (plainCfg true) wFns f2Defs := plain_valid true f2Defs (by decide) (by decide)
  exact F2_witness_fails ((h .sdl (plainCfg true) wFns true "Q" "query Q" f2Defs [.int 1] hv).1 f2_run.2.1).2

/-- … and by the construction side alone (C03-F9) -/
theorem C03_full_false_by_F9 : ¬ C03_full := by
  intro h
  have hv : Valid_03 f9Cfg wFns f9Defs := ⟨f9_hyp wFns (by intro f j; rfl), f9_inputTypes, f9_varNames⟩
  exact F9_witness_fails ((h .intro f9Cfg wFns true "Q" "query Q" f9Defs [f9Inst .unset] hv).1 f9_valid_unset).1

/-! ## 4. Non-vacuity: a non-trivial input inside the theorem region -/

theorem ex_get (n : String) (fs : List IField) (h : exSchema.get? n = some (.input fs)) :
    fs = exCfg.fieldsOf "Filter" := by
  have hm := ISchema.get?_mem h
  simp only [exSchema, List.mem_cons, Prod.mk.injEq, reduceCtorEq, and_false, false_or, List.not_mem_nil, or_false,
    IType.input.injEq] at hm
  rw [hm.2]; rfl

/-- everything that is evaluated on this input, in one run of the kernel: GraphQL's guarantees about
    the schema and the definitions, the class names of `Filter`, validity of the assignment, and that
    no trigger fires -/
theorem ex_facts :
    (names (exCfg.fieldsOf "Filter")).Nodup
    ∧ (lookupNamesOf (classFieldsOf .sdl exCfg (exCfg.fieldsOf "Filter"))).Nodup
    ∧ (∀ d ∈ exDefs, isInputType exCfg.schema d.type.base = true) ∧ (exDefs.map (·.name)).Nodup
    ∧ argsValid exCfg (idefs exDefs) exArgs = true ∧ Supported_03 exCfg exDefs
    ∧ Supported_03v .intro exCfg exArgs ∧ Supported_03v .sdl exCfg exArgs
    ∧ (instances (exArgs.headD .none)).length = 2 := evaluated.2.2.2.2.2.2.2.2.2

theorem ex_valid : Valid_03 exCfg wFns exDefs := by
  have ⟨hf, _, hi, hn, _⟩ := ex_facts
  refine ⟨⟨?_, sca_hyp.scalarsSane, by intro f j; rfl⟩, hi, hn⟩
  intro n fs h
  rw [ex_get n fs h]; exact hf

example : argsValid exCfg (idefs exDefs) exArgs = true ∧ Supported_03 exCfg exDefs :=
  have ⟨_, _, _, _, ha, hs, _⟩ := ex_facts; ⟨ha, hs⟩

/-- the same input satisfies the hypotheses of the constructibility theorems in BOTH sources (fields
    named like a keyword, snake-cased, recursive; `fooBar` has a default but is nullable) -/
theorem ex_clean : Proved_03 exCfg := by
  intro n fs h
  rw [ex_get n fs h]; exact ex_facts.2.1

/-- … so `C03_partial` applies to it, and what it promises can be watched on the evaluated run -/
example : deliveredB exCfg wFns false "Q" "query Q" exDefs exArgs = true :=
  have ⟨_, _, _, _, ha, hs, _, hv, _⟩ := ex_facts
  deliveredB_of_Delivered ((C03_partial .sdl exCfg wFns false "Q" "query Q" exDefs exArgs ex_valid ex_clean hs hv).1 ha).2

example : Supported_03v .intro exCfg exArgs ∧ Supported_03v .sdl exCfg exArgs :=
  have ⟨_, _, _, _, _, _, hi, hs, _⟩ := ex_facts; ⟨hi, hs⟩
example : ConstructibleArgs .intro exCfg exArgs :=
  have ⟨_, _, _, _, ha, _, hi, _⟩ := ex_facts
  (args_constructible .intro exCfg exDefs exArgs ex_clean ha).mpr hi
/-- the first argument holds two instances, the outer `Filter` and the nested one -/
example : (instances (exArgs.headD .none)).length = 2 := ex_facts.2.2.2.2.2.2.2.2

end Ariadne.C03
