/-
  C10 — Generation is deterministic and idempotent.

  "Generating twice from the same schema, operations and configuration (comment mode other than
   timestamp) yields byte-identical files, whatever the interpreter's hash seed, the order in which
   schema/query files were created in their directory, or whether the target directory already
   holds a previous generation of the same inputs.  The same holds for the graphqlschema strategy."

  Models: Model/Order.lean (every place where a Python set / dict-of-sets / directory listing feeds
  emitted order, with an enumeration oracle `e` about which only `EnumOK e : ∀ s, (e s).Perm s` is
  known), Model/OrderEmit.lean (what of it reaches the files through autoflake/isort/black),
  Spec/Isort.lean (isort's ordering of imported names; validated, not verified).

  Hash seed        ↦ the enumeration oracle `e` (two runs = two oracles).
  Creation order   ↦ the directory-listing oracle `dirList` of `loadGraphqlFiles`.
  Existing target  ↦ the `dir` argument of `runWrites` and the flags isort derives from it.

  Result on the pinned tree: the full statement is FALSE (`C10_full_false`): names that reach one
  `from m import …` out of a set keep their set order when they tie on isort's case-insensitive
  natural key (finding C10-F2).  Outside that trigger the package is oracle independent
  (`C10_partial`).  Regeneration is idempotent unless a formatted file is sensitive to isort's view
  of the working directory (finding C10-F3, `regenerate_idempotent`).  The regression witness of the
  repaired finding C10-F1 is `topo_order_depended_on_enum_before_fix`.

  Sections 8 and 9 (Model/OrderResult.lean) bring the set-fed emission points INSIDE a result module and
  the order of plugin hooks into the model: class bases (`sorted(fragments)`), the `Literal[...]` of
  `__typename` (`list(set - set)` then `sorted`), the fragment definitions appended to an operation string
  (`sorted(_get_all_related_fragments())`) are oracle independent at full strength
  (`result_module_oracle_independent`); plugin classes are loaded in the order of the configured LIST and
  their hooks applied in that order (`plugins_in_config_order`, `hooks_in_config_order`), a module's plugin
  classes do not depend on how its namespace is listed (`plugins_listing_independent`); and because hooks
  do not commute (`hook_order_observable`), the order must not pass through a set.

  Sections 10 and 11 compose everything into the two entry points: `graphqlschema_deterministic`
  (`main.graphql_schema`, no trigger besides isort's view of the target for the python format) and
  `client_deterministic` (`main.client`: hash seed, creation order of schema AND operation files, plugin
  module namespaces, existing target, all at once, outside the triggers of C10-F2 / C10-F3).  The front end
  (parse, validate, what each generator collects) and the assembly of files are abstract deterministic
  functions there; the byte level is the oracle's.

  Section 12 sharpens the trigger of C10-F2 for operation modules: only the names imported from the fragments module come out of
  a set, so only a tie among THOSE matters (`operation_imports_site_independent`).

  The theorems here carry the names MANIFEST.json and DESIGN.md cite; many are one-line readings of a lemma of Proofs/Order*.lean,
  where the work is.
-/
import AriadneModel.Proofs.OrderPlugins
import AriadneModel.Proofs.OrderResult
import AriadneModel.Proofs.OrderClient
import AriadneModel.Proofs.OrderSites

set_option linter.unusedVariables false

namespace Ariadne.C10
open Ariadne.Order Ariadne.Isort

/-! ## 1. `_get_sorted_fragments_names` -/

/-- Since 0834f0f the class order of fragments.py does not depend on set iteration. -/
theorem sorted_fragments_oracle_independent (e₁ e₂ : EnumOracle) (he₁ : EnumOK e₁) (he₂ : EnumOK e₂)
    (names : List Name) (d : Deps) :
    sortedFragmentsNames e₁ names d = sortedFragmentsNames e₂ names d := by
  unfold sortedFragmentsNames
  rw [pySorted_enum e₁ e₂ he₁ he₂, pySorted_eq_of_perm ((he₁ names).trans (he₂ names).symm)]

/-- … and not on how the set of names and the dictionary of dependency sets are listed. -/
theorem sorted_fragments_listing_independent (e : EnumOracle) (he : EnumOK e) {names₁ names₂ : List Name} {d₁ d₂ : Deps}
    (hn : names₁.Perm names₂) (hl : d₁.length = d₂.length)
    (hd : ∀ n, (lookup d₁ n).map pySorted = (lookup d₂ n).map pySorted) :
    sortedFragmentsNames id names₁ d₁ = sortedFragmentsNames id names₂ d₂ := by
  unfold sortedFragmentsNames
  simp only [id]
  rw [pySorted_eq_of_perm hn]
  exact dfs_congr _ hd hl _

/-- the 5-fragment graph of finding C10-F1: `fragment Af on A { ...Gq ...Hx ...Kp ...Mm }` -/
def f1Names : List Name := ["Af", "Gq", "Hx", "Kp", "Mm"]
def f1Deps : Deps := [("Af", ["Gq", "Hx", "Kp", "Mm"]), ("Gq", []), ("Hx", []), ("Kp", []), ("Mm", [])]

/-- Regression witness of the repaired finding C10-F1: the code before 0834f0f
    (`for dep in dependencies_dict[name]`) gives different class orders under two enumerations. -/
theorem topo_order_depended_on_enum_before_fix :
    ∃ e₁ e₂ : EnumOracle, EnumOK e₁ ∧ EnumOK e₂ ∧
      sortedFragmentsNamesPreFix e₁ f1Names f1Deps = .ok ["Gq", "Hx", "Kp", "Mm", "Af"] ∧
      sortedFragmentsNamesPreFix e₂ f1Names f1Deps = .ok ["Mm", "Kp", "Hx", "Gq", "Af"] :=
  ⟨id, List.reverse, fun _ => List.Perm.refl _, fun s => List.reverse_perm s, by decide +kernel, by decide +kernel⟩

/-- the repaired code on the same graph, under both enumerations -/
example : sortedFragmentsNames id f1Names f1Deps = .ok ["Gq", "Hx", "Kp", "Mm", "Af"]
    ∧ sortedFragmentsNames List.reverse f1Names f1Deps = .ok ["Gq", "Hx", "Kp", "Mm", "Af"] := by decide +kernel

/-- the dependency dictionary has no cycle (GraphQL validation: NoFragmentCycles) -/
def Acyclic (d : Deps) : Prop := ∃ rk : Name → Nat, ∀ n ds m, lookup d n = some ds → m ∈ ds → rk m < rk n

/-- Every fragment's classes come after the fragment classes they inherit from — for every
    enumeration oracle, every acyclic dictionary, without any size bound. -/
theorem topo_respects_deps (e : EnumOracle) (he : EnumOK e) (names : List Name) (d : Deps) (out : List Name)
    (hac : Acyclic d) (h : sortedFragmentsNames e names d = .ok out) :
    ∀ pre n post, out = pre ++ n :: post → ∀ m, m ∈ depsOf d n → m ∈ pre := by
  obtain ⟨rk, hrk⟩ := hac
  exact dfs_topo (fun ds x => by rw [mem_pySorted]; exact (he ds).mem_iff) rk hrk h

/-- the same for the code before the fix: C10-F1 was a determinism defect, never an ordering defect -/
theorem topo_respects_deps_before_fix (e : EnumOracle) (he : EnumOK e) (names : List Name) (d : Deps) (out : List Name)
    (hac : Acyclic d) (h : sortedFragmentsNamesPreFix e names d = .ok out) :
    ∀ pre n post, out = pre ++ n :: post → ∀ m, m ∈ depsOf d n → m ∈ pre := by
  obtain ⟨rk, hrk⟩ := hac
  exact dfs_topo (fun ds x => (he ds).mem_iff) rk hrk h

/-- a rank for the witness graph: every entry of the dictionary lists only names of smaller rank -/
theorem f1Deps_rank (n : Name) (ds : List Name) (m : Name) (hl : lookup f1Deps n = some ds) (hm : m ∈ ds) :
    (if m = "Af" then 1 else 0) < (if n = "Af" then 1 else 0) :=
  (by decide +kernel : ∀ p ∈ f1Deps, ∀ m ∈ p.2, (if m = "Af" then 1 else 0) < (if p.1 = "Af" then 1 else 0))
    (n, ds) (Lists.lookup_mem (lookup_eq _ _ ▸ hl)) m hm

/-- non-vacuity: the witness graph is acyclic and sorts -/
example : Acyclic f1Deps := ⟨fun n => if n = "Af" then 1 else 0, f1Deps_rank⟩

/-- every fragment that was asked for is emitted -/
theorem topo_complete (e : EnumOracle) (he : EnumOK e) (names : List Name) (d : Deps) (out : List Name)
    (h : sortedFragmentsNames e names d = .ok out) : ∀ n, n ∈ names → n ∈ out := by
  intro n hn
  exact dfs_complete h n ((mem_pySorted _ _).mpr ((he names).mem_iff.mpr hn))

/-- the dependency dictionary is acyclic with a rank bounded by its size (every finite DAG has one: longest path) -/
def AcyclicBounded (d : Deps) : Prop :=
  ∃ rk : Name → Nat, (∀ n ds m, lookup d n = some ds → m ∈ ds → rk m < rk n) ∧ ∀ n, rk n ≤ d.length

/-- the fuel of the model's DFS is a proof device only: on an acyclic dictionary the
    `.fuel` branch is unreachable, whatever the enumeration (the remaining error, KeyError on a mixin that
    was excluded from the module, is the code's own) -/
theorem sorted_no_fuel (e : EnumOracle) (he : EnumOK e) (names : List Name) (d : Deps) (hac : AcyclicBounded d) :
    sortedFragmentsNames e names d ≠ .error .fuel := by
  obtain ⟨rk, hrk, hb⟩ := hac
  intro h
  exact dfs_noFuel _ d rk hrk (fun ds x => by rw [mem_pySorted]; exact (he ds).mem_iff) _ hb _ h rfl

/-- non-vacuity of `sorted_no_fuel`: the witness graph has a bounded rank -/
example : AcyclicBounded f1Deps := by
  refine ⟨fun n => if n = "Af" then 1 else 0, f1Deps_rank, ?_⟩
  intro n
  simp only [f1Deps]
  split <;> decide

/-! ## 2. `_get_model_rebuild_calls` -/

/-- `sorted(top_level, key=class_names.index)`: the order in which the loop met the top-level
    classes is irrelevant (two classes with the same index are the same class). -/
theorem rebuild_oracle_independent (e₁ e₂ : EnumOracle) (he₁ : EnumOK e₁) (he₂ : EnumOK e₂) (top classNames : List Name)
    (hall : ∀ t, t ∈ top → t ∈ classNames) :
    rebuildCalls (e₁ top) classNames = rebuildCalls (e₂ top) classNames :=
  rebuildCalls_eq_of_perm ((he₁ top).trans (he₂ top).symm) (fun t ht => hall t ((he₁ top).mem_iff.mp ht))

example : rebuildCalls ["B", "A"] ["A", "X", "B"] = .ok ["A", "B"] := by decide +kernel

/-! ## 3. isort's order of imported names (reference semantics Spec/Isort.lean) -/

/-- without a key tie the names of one from-import are determined by the SET of names -/
theorem isort_names_oracle_independent (e₁ e₂ : EnumOracle) (he₁ : EnumOK e₁) (he₂ : EnumOK e₂) (fixed s : List Name)
    (nt : nameTie (fixed ++ s) = false) :
    isortNames (fixed ++ e₁ s) = isortNames (fixed ++ e₂ s) := by
  have p₁ : (fixed ++ e₁ s).Perm (fixed ++ s) := List.Perm.append_left _ (he₁ s)
  have p₂ : (fixed ++ e₂ s).Perm (fixed ++ s) := List.Perm.append_left _ (he₂ s)
  apply isortNames_eq_of_perm _ (p₁.trans p₂.symm)
  exact (noTie_of_nameTie_false nt).subset (fun a ha => p₁.mem_iff.mp ha)

/-- Finding C10-F2 in the model: with a tie the set order survives the formatter. -/
theorem isort_tie_depends_on_enum :
    isortNames (id ["FooBar", "Foobar"]) = ["FooBar", "Foobar"] ∧
    isortNames (List.reverse ["FooBar", "Foobar"]) = ["Foobar", "FooBar"] ∧
    isortNames ["F01", "F1"] = ["F01", "F1"] ∧ isortNames ["F1", "F01"] = ["F1", "F01"] := by decide +kernel

/-! ## 4. `FragmentsGenerator.generate` -/

/-- fragments.py (import summary, class order, rebuild calls), the fragment names imported by
    `__init__.py` and the enums kept for `include_all_enums = false` do not depend on set iteration,
    as long as no two names tie on isort's key. Errors (a mixin that was excluded: KeyError) agree too. -/
theorem fragments_module_oracle_independent (e₁ e₂ : EnumOracle) (he₁ : EnumOK e₁) (he₂ : EnumOK e₂)
    (defs : List (Name × DefGen)) (exclude : List Name) (keep : Name → Bool) (schemaEnums : List Name)
    (ht : fragTie defs exclude = false) :
    (generateFragments e₁ defs exclude).map (fmtFrag keep schemaEnums)
      = (generateFragments e₂ defs exclude).map (fmtFrag keep schemaEnums) := by
  simp only [fragTie, Bool.or_eq_false_iff] at ht
  -- each enumeration against the canonical one, where the trigger speaks
  have key : ∀ e, EnumOK e → (generateFragments id defs exclude).map (fmtFrag keep schemaEnums)
      = (generateFragments e defs exclude).map (fmtFrag keep schemaEnums) := fun e he =>
    (generateFragments_rel id e enumOK_id he defs (ex₁ := exclude) (ex₂ := exclude) (fun _ => Iff.rfl)).map_eq fun o₁ o₂ h1 _ rel => by
      obtain ⟨s1, s2⟩ := generateFragments_id_shape h1
      exact fmtFrag_eq_of_equiv keep schemaEnums rel (s1 ▸ blockNoTie_of_summaryTie_false ht.1) (s2 ▸ noTie_of_nameTie_false ht.2)
  exact (key e₁ he₁).symm.trans (key e₂ he₂)

/-! ## 5. operation modules, `__init__.py`, enums.py: the package -/

/-- `from .fragments import …` of an operation module -/
theorem operation_imports_oracle_independent (e₁ e₂ : EnumOracle) (he₁ : EnumOK e₁) (he₂ : EnumOK e₂)
    (pascal : Name → Name) (fm : String) (g : DefGen) (keep : Name → Bool)
    (ht : summaryTie (opImports id pascal fm g) = false) :
    summary keep (opImports e₁ pascal fm g) = summary keep (opImports e₂ pascal fm g) :=
  summary_indep keep (fun e => opImports e pascal fm g) (fun e he => opImports_equiv id e enumOK_id he pascal fm g) ht e₁ e₂ he₁ he₂

/-- ClientForwardRefsPlugin: the `if TYPE_CHECKING:` imports. Every collected type has an import
    source (the plugin only collects names it found in `imported_classes`). -/
theorem forward_refs_oracle_independent (e₁ e₂ : EnumOracle) (he₁ : EnumOK e₁) (he₂ : EnumOK e₂) (types : List Name)
    (imp : List (Name × String)) (keep : Name → Bool) (hall : ∀ c, c ∈ types → ∃ m, lookup imp c = some m)
    (ht : ∀ r, forwardRefImports id types imp = .ok r → summaryTie r = false) :
    (forwardRefImports e₁ types imp).map (summary keep) = (forwardRefImports e₂ types imp).map (summary keep) := by
  -- each enumeration against the canonical one, where the trigger speaks
  have key : ∀ e, EnumOK e → (forwardRefImports id types imp).map (summary keep) = (forwardRefImports e types imp).map (summary keep) := by
    intro e he
    obtain ⟨r₀, r, h0, h1, eq⟩ := forwardRefImports_equiv id e enumOK_id he types imp hall
    rw [h0, h1]
    exact congrArg Except.ok (summary_eq_of_equiv keep eq (blockNoTie_of_summaryTie_false (ht r₀ h0)))
  exact (key e₁ he₁).symm.trans (key e₂ he₂)

/-- ShorterResultsPlugin: names added to the client module's imports from `extended_imports` -/
theorem shorter_results_oracle_independent (e₁ e₂ : EnumOracle) (he₁ : EnumOK e₁) (he₂ : EnumOK e₂)
    (stmts : List ImportFrom) (ext : List (String × List Name)) (keep : Name → Bool)
    (ht : summaryTie (extendImports id stmts ext) = false) :
    summary keep (extendImports e₁ stmts ext) = summary keep (extendImports e₂ stmts ext) :=
  summary_indep keep (fun e => extendImports e stmts ext) (fun e he => extendImports_equiv id e enumOK_id he stmts ext) ht e₁ e₂ he₁ he₂

example : (forwardRefImports id ["GetA", "In1", "GetB"] [("GetA", ".get_a"), ("GetB", ".get_b"), ("In1", ".input_types")]).map (summary (fun _ => true))
    = .ok [(".get_a", ["GetA"]), (".get_b", ["GetB"]), (".input_types", ["In1"])] := by decide +kernel

/-- The property, hash-seed part, at full strength: whatever the enumeration of sets, the package is the same. -/
def C10_full : Prop :=
  ∀ (keep : Name → Bool) (e₁ e₂ : EnumOracle) (x : PkgIn), EnumOK e₁ → EnumOK e₂ → emitPackage keep e₁ x = emitPackage keep e₂ x

/-- theorem region: no import statement fed from a set has two names tying on isort's key (trigger of C10-F2) -/
def Supported_10 (x : PkgIn) : Prop := ¬ (trigIsortTie x = true)

/-- the package model is oracle independent outside the trigger of C10-F2 -/
theorem C10_partial (keep : Name → Bool) (e₁ e₂ : EnumOracle) (he₁ : EnumOK e₁) (he₂ : EnumOK e₂) (x : PkgIn)
    (hs : Supported_10 x) : emitPackage keep e₁ x = emitPackage keep e₂ x :=
  emitPackage_independent keep e₁ e₂ he₁ he₂ x (by simpa [Supported_10] using hs)

/-- the emitted TEXT, for any deterministic formatter back end -/
theorem emit_text_oracle_independent {Text : Type} (render : PkgIR → Text) (keep : Name → Bool) (e₁ e₂ : EnumOracle)
    (he₁ : EnumOK e₁) (he₂ : EnumOK e₂) (x : PkgIn) (hs : Supported_10 x) :
    (emitPackage keep e₁ x).map render = (emitPackage keep e₂ x).map render := by
  rw [C10_partial keep e₁ e₂ he₁ he₂ x hs]

/-- witness of C10-F2: one operation spreading the fragments `fooBar` and `foobar` -/
def f2Gen (n : Name) : DefGen := { classes := [n.capitalize], imports := [], publicNames := [n.capitalize], usedEnums := [], mixins := [] }
def f2Input : PkgIn :=
  { defs := [("fooBar", f2Gen "fooBar"), ("foobar", f2Gen "foobar")],
    ops := [{ module := "q_1", gen := { classes := ["Q1"], imports := [], publicNames := ["Q1"], usedEnums := [], mixins := ["fooBar", "foobar"] }, unpacked := [] }],
    pascal := String.capitalize, fragmentsModule := "fragments", schemaEnums := [], includeAllEnums := true,
    otherUsedEnums := [], initBefore := [⟨1, "q_1", ["Q1"]⟩], initAfter := [] }

/-- The property is false on the pinned tree (finding C10-F2). -/
theorem C10_full_false : ¬ C10_full := by
  intro h
  have := h (fun _ => true) id List.reverse f2Input (fun _ => List.Perm.refl _) (fun s => List.reverse_perm s)
  revert this
  decide +kernel

/-- non-vacuity of `C10_partial`: an input with fragments and mixins outside the trigger -/
def okInput : PkgIn :=
  { defs := [("Af", f2Gen "Af"), ("Gq", f2Gen "Gq")],
    ops := [{ module := "q_2", gen := { classes := ["Q2"], imports := [], publicNames := ["Q2"], usedEnums := [], mixins := ["Af", "Gq"] }, unpacked := [] }],
    pascal := String.capitalize, fragmentsModule := "fragments", schemaEnums := [], includeAllEnums := true,
    otherUsedEnums := [], initBefore := [⟨1, "q_2", ["Q2"]⟩], initAfter := [] }

example : Supported_10 okInput := by unfold Supported_10; decide +kernel

/-- the witness is inside the trigger region (so theorem region ∪ finding region = everything) -/
example : trigIsortTie f2Input = true := by decide +kernel

/-- the trigger on the fragments module alone (`fragments_module_oracle_independent`) fires on the witness and not on `okInput` -/
example : fragTie f2Input.defs [] = true ∧ fragTie okInput.defs [] = false := by decide +kernel

/-- non-vacuity of `shorter_results_oracle_independent`'s hypothesis -/
example : summaryTie (extendImports id [⟨1, "get_a", ["GetA"]⟩] [("get_a", ["GetAA", "Extra"])]) = false := by decide +kernel

/-! ## 6. file creation order -/

/-- `load_graphql_files_from_path`: the loaded text depends on the set of files only, not on
    the order in which the file system lists them (hence not on their creation order). -/
theorem files_order_independent (dirList₁ dirList₂ : List Entry → List Entry) (entries : List Entry)
    (h₁ : (dirList₁ entries).Perm entries) (h₂ : (dirList₂ entries).Perm entries) (hd : PathsDistinct entries) :
    loadGraphqlFiles dirList₁ entries = loadGraphqlFiles dirList₂ entries :=
  loadGraphqlFiles_eq_of_perm entries h₁ h₂ hd

/-- the graphqlschema strategy (and everything the client strategy derives from the schema /
    operation text): any deterministic function of the loaded text is independent of the listing order -/
theorem graphqlschema_files_order_independent {Out : Type} (gen : String → Out) (dirList₁ dirList₂ : List Entry → List Entry)
    (entries : List Entry) (h₁ : (dirList₁ entries).Perm entries) (h₂ : (dirList₂ entries).Perm entries) (hd : PathsDistinct entries) :
    (loadGraphqlFiles dirList₁ entries).map gen = (loadGraphqlFiles dirList₂ entries).map gen := by
  rw [files_order_independent dirList₁ dirList₂ entries h₁ h₂ hd]

example : loadGraphqlFiles id [⟨["b.graphql"], false, "B"⟩, ⟨["a", "c.gql"], false, "C"⟩, ⟨["a"], true, ""⟩, ⟨["n.txt"], false, "N"⟩]
    = .ok "C\nB" := by decide +kernel

/-- non-vacuity of `files_order_independent`'s hypothesis -/
example : PathsDistinct [⟨["b.graphql"], false, "B"⟩, ⟨["a", "c.gql"], false, "C"⟩] := by
  intro a b ha hb h
  simp at ha hb
  rcases ha with rfl | rfl <;> rcases hb with rfl | rfl <;> simp_all

/-! ## 7. regeneration over an existing target -/

/-- The write log of a run is independent of the directory it runs over and of what isort saw
    of it, provided no formatted file is sensitive to that view (`render true = render false` on the
    files at hand; false exactly for finding C10-F3: an absolute import through the target package). -/
theorem regenerate_idempotent {α : Type} (render : Bool → α → String) (irs : List (Name × α))
    (flag₁ flag₂ : Nat → Bool) (dir₁ dir₂ : Dir)
    (insens : ∀ p, p ∈ irs → render true p.2 = render false p.2) :
    runWrites render irs flag₁ dir₁ = runWrites render irs flag₂ dir₂ :=
  runWrites_eq_of_insens render irs flag₁ flag₂ dir₁ dir₂ insens

/-- and running it twice leaves the directory exactly as running it once -/
theorem regenerate_same_directory (log : WriteLog) (dir : Dir) : applyLog (applyLog dir log) log = applyLog dir log := by
  unfold applyLog
  have key : ∀ ws : List (Name × String), ∃ (c : Name → Option String) (S : Name → Bool),
      ∀ d x, (ws.foldl (fun d p => writeFile d p.1 p.2) d) x = if S x then c x else d x := by
    intro ws
    induction ws with
    | nil => exact ⟨fun _ => none, fun _ => false, by simp⟩
    | cons p ws ih =>
      obtain ⟨c, S, h⟩ := ih
      refine ⟨fun x => if S x then c x else some p.2, fun x => S x || decide (x = p.1), ?_⟩
      intro d x
      simp only [List.foldl_cons, h, writeFile]
      by_cases h1 : S x = true <;> by_cases h2 : x = p.1 <;> simp [h1, h2]
  obtain ⟨c, S, h⟩ := key log.written
  funext x
  rw [h, h]
  split <;> rfl

/-- Finding C10-F3 in the model: a formatter that is sensitive to isort's view gives two different logs. -/
theorem regenerate_full_false :
    ∃ (render : Bool → String → String) (irs : List (Name × String)) (dir : Dir),
      runWrites render irs (fun _ => false) dir ≠ runWrites render irs (fun _ => true) (applyLog dir (runWrites render irs (fun _ => false) dir)) :=
  ⟨fun b s => if b then "first-party:" ++ s else "third-party:" ++ s, [("input_types.py", "from gen_pkg.impl import DT")], fun _ => none, by decide +kernel⟩

/-! ## 8. inside a result module: class bases, `__typename` literals, fragments of the operation string -/

/-- `class X(<fragments as bases>)`: `[pascal f for f in sorted(fragments)] + extra_bases` does not
    depend on how the set `fragments` is iterated nor on how it was built up (any two listings of it). -/
theorem class_bases_oracle_independent (e₁ e₂ : EnumOracle) (he₁ : EnumOK e₁) (he₂ : EnumOK e₂) (pascal : Name → Name)
    (baseModel : Name) {f₁ f₂ : List Name} (p : f₁.Perm f₂) (extra : List Name) :
    classBases e₁ pascal baseModel f₁ extra = classBases e₂ pascal baseModel f₂ extra :=
  classBases_eq_of_perm e₁ e₂ he₁ he₂ pascal baseModel p extra

/-- no base is lost or duplicated: a permutation of the fragment classes and the `@mixin` bases -/
theorem class_bases_complete (e : EnumOracle) (he : EnumOK e) (pascal : Name → Name) (baseModel : Name)
    (f extra : List Name) (hne : f ≠ []) :
    (classBases e pascal baseModel f extra).Perm (f.map pascal ++ extra) :=
  classBases_perm e he pascal baseModel f extra hne

example : classBases List.reverse String.capitalize "BaseModel" ["userCore", "auditView", "adminView"] ["Mx"]
    = ["AdminView", "AuditView", "UserCore", "Mx"] ∧ classBases id String.capitalize "BaseModel" [] [] = ["BaseModel"] := by decide +kernel

/-- the elements of every `typename__: Literal[...]`: the types without a class come out of a set
    difference, `generate_typename_annotation` sorts them. -/
theorem typename_literals_oracle_independent (e₁ e₂ : EnumOracle) (he₁ : EnumOK e₁) (he₂ : EnumOK e₂)
    (typesNames : List Name) (abstract : Option Name) (possible : List Name) :
    typenameLiterals e₁ typesNames abstract possible = typenameLiterals e₂ typesNames abstract possible :=
  typenameLiterals_eq e₁ e₂ he₁ he₂ typesNames abstract possible

/-- which types those are: the possible types that have no class of their own, each once -/
theorem types_without_class_spec (e : EnumOracle) (he : EnumOK e) (possible typesNames : List Name) :
    (∀ a, a ∈ typesWithoutClass e possible typesNames ↔ a ∈ possible ∧ a ∉ typesNames)
      ∧ (typesWithoutClass e possible typesNames).Nodup :=
  ⟨mem_typesWithoutClass e he possible typesNames, nodup_typesWithoutClass e he possible typesNames⟩

example : typenameLiterals List.reverse ["Animal", "Dog"] (some "Animal") ["Dog", "Cat", "Bird"]
    = [("Animal", ["Animal", "Bird", "Cat"]), ("Dog", ["Dog"])] := by decide +kernel

/-- every mixin fragment has a definition (`_resolve_selection_set` looked it up before adding it to the set) -/
def MixinsDefined (mixins : List Name) (closure : Name → Option (List Name)) : Prop := ∀ f, f ∈ mixins → (closure f).isSome

/-- the fragment definitions appended to the operation string (`client.py`, and the files of
    ExtractOperationsPlugin): a union of sets built by iterating a set, then `sorted`. -/
theorem operation_fragments_oracle_independent (e₁ e₂ : EnumOracle) (he₁ : EnumOK e₁) (he₂ : EnumOK e₂)
    (mixins unpacked : List Name) (closure : Name → Option (List Name)) (hdef : MixinsDefined mixins closure) :
    operationFragments e₁ mixins unpacked closure = operationFragments e₂ mixins unpacked closure :=
  operationFragments_eq e₁ e₂ he₁ he₂ mixins unpacked closure hdef

/-- and under the same guard the KeyError branch of the model is unreachable -/
theorem operation_fragments_no_key_error (e : EnumOracle) (he : EnumOK e) (mixins unpacked : List Name)
    (closure : Name → Option (List Name)) (hdef : MixinsDefined mixins closure) :
    ∃ out, operationFragments e mixins unpacked closure = .ok out :=
  operationFragments_ok e he mixins unpacked closure hdef

def demoClosure : Name → Option (List Name) := fun f => if f = "FullView" then some ["UserCore", "ContactView", "AuditView"] else some []

example : MixinsDefined ["FullView"] demoClosure := by intro f _; unfold demoClosure; split <;> rfl

example : operationFragments List.reverse ["FullView"] ["Zz"] demoClosure = .ok ["AuditView", "ContactView", "FullView", "UserCore", "Zz"] := by decide +kernel

/-- `TypeCollector.collect` (custom operations): `sorted(self.collected_types)` -/
theorem collected_types_oracle_independent (e₁ e₂ : EnumOracle) (he₁ : EnumOK e₁) (he₂ : EnumOK e₂) (collected : List Name) :
    collectedTypes e₁ collected = collectedTypes e₂ collected :=
  pySorted_eq_of_perm ((he₁ collected).trans (he₂ collected).symm)

/-- one whole result module (bases of every class, every `__typename` literal, the fragments of the
    operation string) is independent of set iteration — at full strength, there is no finding trigger here. -/
theorem result_module_oracle_independent (e₁ e₂ : EnumOracle) (he₁ : EnumOK e₁) (he₂ : EnumOK e₂) (pascal : Name → Name)
    (baseModel : Name) (closure : Name → Option (List Name)) (r : ResultIn) (hdef : MixinsDefined r.mixins closure) :
    emitResult e₁ pascal baseModel closure r = emitResult e₂ pascal baseModel closure r :=
  emitResult_eq e₁ e₂ he₁ he₂ pascal baseModel closure r hdef

def demoResult : ResultIn :=
  { module := "get_user",
    classes := [⟨"GetUserUser", ["UserCore", "AuditView", "AdminView"], []⟩, ⟨"GetUserUserManager", [], ["Mx"]⟩],
    typenames := [⟨["Animal", "Dog"], some "Animal", ["Dog", "Cat", "Bird"]⟩],
    mixins := ["FullView"], unpacked := [] }

example : MixinsDefined demoResult.mixins demoClosure := by intro f _; unfold demoClosure; split <;> rfl

example : (emitResult List.reverse String.capitalize "BaseModel" demoClosure demoResult).map (·.bases)
    = .ok [("GetUserUser", ["AdminView", "AuditView", "UserCore"]), ("GetUserUserManager", ["BaseModel", "Mx"])] := by decide +kernel

/-! ## 9. the order of plugin classes and plugin hooks comes from the configured LIST -/

/-- the plugin classes taken from a module do not depend on the order in which the module's
    namespace is listed (`inspect.getmembers` sorts by attribute name; attribute names are distinct). -/
theorem plugins_listing_independent {ns₁ ns₂ : List (Name × Cls) → List (Name × Cls)} (resolve : String → PluginTarget)
    (h₁ : ∀ ms, (ns₁ ms).Perm ms) (h₂ : ∀ ms, (ns₂ ms).Perm ms)
    (hd : ∀ s ms, resolve s = .module ms → AttrsDistinct ms) (strs : List String) :
    getPluginsTypes ns₁ resolve strs = getPluginsTypes ns₂ resolve strs :=
  getPluginsTypes_eq_of_perm resolve h₁ h₂ hd strs

/-- plugin classes come in the order of the configured list: loading `a ++ b` is loading `a`, then `b`
    (and the first refusal in that order is the one that escapes). -/
theorem plugins_in_config_order (ns : List (Name × Cls) → List (Name × Cls)) (resolve : String → PluginTarget) (a b : List String) :
    getPluginsTypes ns resolve (a ++ b)
      = match getPluginsTypes ns resolve a with
        | .error m => .error m
        | .ok x => (getPluginsTypes ns resolve b).map (x ++ ·) :=
  getPluginsTypes_append ns resolve a b

/-- … and every hook is applied in that order: the plugins listed later see what the earlier ones produced. -/
theorem hooks_in_config_order {α : Type} (hookOf : Cls → α → α) (p q : List Cls) (x : α) :
    applyHooks hookOf (p ++ q) x = applyHooks hookOf q (applyHooks hookOf p x) :=
  applyHooks_append hookOf p q x

/-- Why that order is part of the output: hooks do not commute, so a plugin list that went through a
    set would make the generated files depend on the enumeration (hash seed). -/
theorem hook_order_observable :
    ∃ (hookOf : Cls → List Cls → List Cls) (ps : List Cls) (e₁ e₂ : EnumOracle), EnumOK e₁ ∧ EnumOK e₂ ∧
      applyHooks hookOf (e₁ ps) [] ≠ applyHooks hookOf (e₂ ps) [] :=
  ⟨fun c x => x ++ [c], ["ShorterResultsPlugin", "ClientForwardRefsPlugin"], id, List.reverse,
    fun _ => List.Perm.refl _, fun s => List.reverse_perm s, by decide +kernel⟩

def demoResolve : String → PluginTarget := fun s =>
  if s = "contrib.shorter_results" then .module [("ShorterResultsPlugin", "contrib.shorter_results.ShorterResultsPlugin"), ("Alias", "x.Other")]
  else if s = "nowhere" then .refused "Incorrect plugin path. Use an absolute import path."
  else .cls s

example : getPluginsTypes List.reverse demoResolve ["b.P", "contrib.shorter_results", "a.Q"]
    = .ok ["b.P", "x.Other", "contrib.shorter_results.ShorterResultsPlugin", "a.Q"] := by decide +kernel

example : getPluginsTypes id demoResolve ["b.P", "nowhere", "a.Q"] = .error "Incorrect plugin path. Use an absolute import path." := by decide +kernel

example : ∀ s ms, demoResolve s = .module ms → AttrsDistinct ms := by
  intro s ms h
  unfold demoResolve at h
  split at h
  · cases h
    intro a b ha hb hab
    simp at ha hb
    rcases ha with rfl | rfl <;> rcases hb with rfl | rfl <;> simp_all
  · split at h <;> cases h

example : runHook id demoResolve (fun c (x : List Cls) => x ++ [c]) ["b.P", "a.Q"] [] = .ok ["b.P", "a.Q"] := by decide +kernel

/-! ## 10. the graphqlschema strategy as a whole -/

/-- "The same holds for the graphqlschema strategy": a run of `main.graphql_schema` — load the schema
    files, build, resolve the plugins, `process_schema`, validate, render, write the one target file — gives
    the same write log (hence the same bytes) whatever the order in which the schema directory and the
    plugin modules' namespaces are listed, whatever the target directory already holds and whatever isort saw of it,
    provided the rendering is insensitive to that view (always so for the `.graphql` target; C10-F3 otherwise). -/
theorem graphqlschema_deterministic {S : Type} (dirList₁ dirList₂ : List Entry → List Entry) (entries : List Entry)
    (h₁ : (dirList₁ entries).Perm entries) (h₂ : (dirList₂ entries).Perm entries) (hd : PathsDistinct entries)
    (build : String → S) {ns₁ ns₂ : List (Name × Cls) → List (Name × Cls)} (resolve : String → PluginTarget)
    (hn₁ : ∀ ms, (ns₁ ms).Perm ms) (hn₂ : ∀ ms, (ns₂ ms).Perm ms)
    (hattrs : ∀ s ms, resolve s = .module ms → AttrsDistinct ms)
    (processSchema : Cls → S → S) (pluginsStrs : List String) (valid : S → Bool) (render : Bool → S → String)
    (insens : ∀ s, render true s = render false s) (target : Name) (flag₁ flag₂ : Bool) (dir₁ dir₂ : Dir) :
    graphqlSchemaRun dirList₁ entries build ns₁ resolve processSchema pluginsStrs valid render target flag₁ dir₁
      = graphqlSchemaRun dirList₂ entries build ns₂ resolve processSchema pluginsStrs valid render target flag₂ dir₂ := by
  unfold graphqlSchemaRun runHook
  rw [files_order_independent dirList₁ dirList₂ entries h₁ h₂ hd,
    plugins_listing_independent resolve hn₁ hn₂ hattrs pluginsStrs]
  cases loadGraphqlFiles dirList₂ entries with
  | error e => rfl
  | ok text =>
    cases getPluginsTypes ns₂ resolve pluginsStrs with
    | error m => rfl
    | ok ps =>
      simp only [Except.map]
      split
      · rw [regenerate_idempotent render _ (fun _ => flag₁) (fun _ => flag₂) dir₁ dir₂ (fun p _ => insens p.2)]
      · rfl

/-- and a second run over the first leaves the target exactly as the first run did -/
theorem graphqlschema_regenerate_same {S : Type} (dirList : List Entry → List Entry) (entries : List Entry) (build : String → S)
    (ns : List (Name × Cls) → List (Name × Cls)) (resolve : String → PluginTarget) (processSchema : Cls → S → S)
    (pluginsStrs : List String) (valid : S → Bool) (render : Bool → S → String) (target : Name) (flag : Bool) (dir : Dir) (log : WriteLog)
    (h : graphqlSchemaRun dirList entries build ns resolve processSchema pluginsStrs valid render target flag dir = .ok log) :
    applyLog (applyLog dir log) log = applyLog dir log :=
  regenerate_same_directory log dir

example : graphqlSchemaRun List.reverse [⟨["b.graphql"], false, "type B"⟩, ⟨["a.gql"], false, "type A"⟩] (fun t => [t])
    List.reverse demoResolve (fun c s => s ++ [c]) ["b.P", "a.Q"] (fun _ => true) (fun _ s => ";".intercalate s) "schema_out.py" false (fun _ => none)
    = .ok { written := [("schema_out.py", "type A\ntype B;b.P;a.Q")], printed := ["schema_out.py"] } := by decide +kernel

/-! ## 11. the client strategy as a whole -/

/-- The property for the client strategy, in the model, all factors at once: a run of `main.client` —
    load schema files, resolve plugins, load operation files, front end, every set-fed emission point of the
    package and of every result module, assemble (hooks in plugin order), render, write — produces the same
    write log (file names, bytes, printed list) whatever the set enumeration (hash seed), the listing order of
    the schema and operations directories (creation order), the namespace listing of plugin modules, the
    existing target directory and isort's view of it — outside the triggers of C10-F2 (`FrontSupported`, first
    conjunct) and C10-F3 (`insens`). -/
theorem client_deterministic {IR : Type} (e₁ e₂ : EnumOracle) (he₁ : EnumOK e₁) (he₂ : EnumOK e₂)
    (dirS₁ dirS₂ dirQ₁ dirQ₂ : List Entry → List Entry) (schemaEntries queryEntries : List Entry)
    (hs₁ : (dirS₁ schemaEntries).Perm schemaEntries) (hs₂ : (dirS₂ schemaEntries).Perm schemaEntries) (hsd : PathsDistinct schemaEntries)
    (hq₁ : (dirQ₁ queryEntries).Perm queryEntries) (hq₂ : (dirQ₂ queryEntries).Perm queryEntries) (hqd : PathsDistinct queryEntries)
    {ns₁ ns₂ : List (Name × Cls) → List (Name × Cls)} (resolve : String → PluginTarget)
    (hn₁ : ∀ ms, (ns₁ ms).Perm ms) (hn₂ : ∀ ms, (ns₂ ms).Perm ms) (hattrs : ∀ s ms, resolve s = .module ms → AttrsDistinct ms)
    (pluginsStrs : List String) (front : List Cls → String → String → Except String FrontOut)
    (hfront : ∀ ps s q f, front ps s q = .ok f → FrontSupported f)
    (keep : Name → Bool) (assemble : List Cls → PkgIR → List ResultIR → List (Name × IR))
    (render : Bool → IR → String) (insens : ∀ ir, render true ir = render false ir)
    (flag₁ flag₂ : Nat → Bool) (dir₁ dir₂ : Dir) :
    clientRun e₁ dirS₁ dirQ₁ schemaEntries queryEntries ns₁ resolve pluginsStrs front keep assemble render flag₁ dir₁
      = clientRun e₂ dirS₂ dirQ₂ schemaEntries queryEntries ns₂ resolve pluginsStrs front keep assemble render flag₂ dir₂ :=
  clientRun_eq e₁ e₂ he₁ he₂ dirS₁ dirS₂ dirQ₁ dirQ₂ schemaEntries queryEntries hs₁ hs₂ hsd hq₁ hq₂ hqd resolve hn₁ hn₂ hattrs
    pluginsStrs front hfront keep assemble render insens flag₁ flag₂ dir₁ dir₂

/-- `FrontSupported` is `Supported_10` of the package input plus `MixinsDefined` of every result module -/
theorem frontSupported_iff (f : FrontOut) :
    FrontSupported f ↔ Supported_10 f.pkg ∧ ∀ r, r ∈ f.results → MixinsDefined r.mixins f.closure := by
  unfold FrontSupported Supported_10 MixinsDefined MixinsDefinedIn
  simp

def demoFront : List Cls → String → String → Except String FrontOut := fun _ _ _ =>
  .ok { pkg := okInput, results := [demoResult], closure := demoClosure, baseModel := "BaseModel" }

example : ∀ ps s q f, demoFront ps s q = .ok f → FrontSupported f := by
  intro ps s q f h
  cases h
  refine ⟨by decide +kernel, ?_⟩
  intro r hr
  simp at hr
  subst hr
  intro g _
  show (demoClosure g).isSome = true
  unfold demoClosure
  split <;> rfl

example : (clientRun List.reverse List.reverse id [⟨["b.graphql"], false, "type B"⟩, ⟨["a.gql"], false, "type A"⟩] [⟨["q.graphql"], false, "query Q"⟩]
    id demoResolve ["b.P", "a.Q"] demoFront (fun _ => true)
    (fun ps pk rs => [("client.py", ps ++ rs.flatMap (·.operationFragments)), ("fragments.py", (pk.fragments.map (·.2.1)).getD [])])
    (fun _ ir => ",".intercalate ir) (fun _ => false) (fun _ => none)).toOption.map (·.written)
    = some [("client.py", "b.P,a.Q,AuditView,ContactView,FullView,UserCore"), ("fragments.py", "Af,Gq")] := by decide +kernel

/-! ## 12. the trigger of C10-F2 per call site -/

/-- In an operation module only `from .fragments import …` is fed from a set: the module's import
    summary is oracle independent as soon as no two names imported FROM THE FRAGMENTS MODULE tie on isort's
    key — a tie inside any other import list of the module (`from .enums import OSType, OsType`: a list, in
    selection order) is harmless on the unchanged tree and is NOT part of finding C10-F2.  (Sharper than
    `operation_imports_oracle_independent`, whose hypothesis looks at the whole block.) -/
theorem operation_imports_site_independent (e₁ e₂ : EnumOracle) (he₁ : EnumOK e₁) (he₂ : EnumOK e₂)
    (pascal : Name → Name) (fm : String) (g : DefGen) (keep : Name → Bool) (ht : opSetFedTie pascal fm g = false) :
    summary keep (opImports e₁ pascal fm g) = summary keep (opImports e₂ pascal fm g) :=
  opImports_summary_eq e₁ e₂ he₁ he₂ pascal fm g keep ht

/-- an operation module importing two tied ENUM names and two untied fragments: outside the site trigger,
    inside the whole-block one -/
def tiedEnumsGen : DefGen :=
  { classes := ["Q"], imports := [⟨1, "enums", ["OSType", "OsType"]⟩], publicNames := ["Q"], usedEnums := ["OSType", "OsType"], mixins := ["Af", "Gq"] }

example : opSetFedTie String.capitalize "fragments" tiedEnumsGen = false
    ∧ summaryTie (opImports id String.capitalize "fragments" tiedEnumsGen) = true := by decide +kernel

/-- … and the site trigger fires on the witness of C10-F2 -/
example : opSetFedTie String.capitalize "fragments" { classes := ["Q1"], imports := [], publicNames := ["Q1"], usedEnums := [], mixins := ["fooBar", "foobar"] } = true := by decide +kernel

end Ariadne.C10
