/-
  C08 — Fragments and mixins are honoured as reusable base types.

  "Whenever a selection set directly spreads a named fragment that has no inline fragments and is defined on
   exactly the type that selection set is evaluated for, the object returned for it is an instance of the class
   generated for the fragment, that class alone validates the same payload, and it exists in the fragments module
   no matter how other operations use the same fragment.  Fragment classes are defined before their dependants
   whatever the definition order in the queries file, so the module always loads.  Every class named by a
   @mixin(from:, import:) directive on a field or fragment definition is imported and appears as an additional
   base of exactly the class generated for that field or fragment."

  Models: Model/ResultTypes.lean (`resolve` = `_resolve_selection_set`, `unpackFragment`, `parseTypeDefinition`,
  `parseFieldSelectionSetTypes`, `mixinBases`, `generate`), Model/Fragments.lean (`addOperations`,
  `generateFragments`, `fragmentsModule`, the three finding triggers), Model/Order.lean (the topological sort, with
  the enumeration oracle `e` for CPython's set iteration), Spec/Py.lean (subclass closure, load order, C3
  linearisation; validated against CPython, not verified).

  Result on the pinned tree: the full statement is FALSE (`C08_full_false`):
    * C08-F1 a fragment that some operation unpacks is excluded from the fragments module for everybody, also
      for the classes that inherit from it (`fragment_always_emitted_false`);
    * C08-F3 the fragment bases are written in alphabetical order, which CPython cannot linearise when one of
      them derives from another that sorts earlier (`modules_always_load_false`).
    * C08-F4 at an interface position that also gets sub-type classes only the interface class inherits from a
      fragment the selection set spreads; the sub-type classes unpack it (`siblings_inherit_alike_false`).
  Outside those three decidable triggers the package-level clauses hold (`C08_partial`).  The clauses about a single
  class — the mixin criterion, the exact extra bases from @mixin, the order of the fragments module — hold
  unconditionally, for every fuel, state, history and enumeration oracle.

  Section 1c states WHICH fragments a class inherits from, exactly, for every selection set and type: the relation
  `Inherits` (Proofs/C08Inherits.lean: a kept direct spread; through a fragment that is unpacked and applies to the type;
  through an inline fragment that `_get_inline_fragment_root_type` accepts — the type itself, or an interface the OBJECT
  type implements, and then the selections are evaluated for the INTERFACE) is what `_resolve_selection_set` returns
  (`resolve_fragments_exact`, sound and complete, each name once), and the bases of every class are exactly those
  fragments' classes in strictly increasing order of the fragment names, or `BaseModel`, followed by exactly the
  `@mixin` bases (`class_bases_exact`).  `mixin_criterion_inline` / `interface_fragment_inside_inline_is_a_base` are the
  mixin criterion for spreads written inside inline fragments; `inline_fragment_root_type_cases` is
  `_get_inline_fragment_root_type` case by case.

  Not covered here (evidence: oracle-only): "that class alone validates the same payload" needs the pydantic
  reference semantics of C01; it is judged on the real packages.
  Core Lean only.
-/
import AriadneModel.Proofs.C08Package
import AriadneModel.Proofs.C08NoKeyError
import AriadneModel.Proofs.C08Acyclic
import AriadneModel.Proofs.C08Inherits
import AriadneModel.Proofs.Util

set_option linter.unusedVariables false

namespace Ariadne.C08
open Ariadne Ariadne.Gql Ariadne.Util Ariadne.ResultTypes Ariadne.Fragments Ariadne.Spec.Py

/-! ## 1. The mixin criterion -/

/-- the spread the property speaks about: the fragment is defined, has no inline fragment among its top-level
    selections, and is defined on exactly the type `T` the selection set is evaluated for, which is no union -/
structure Qualifies (env : Env) (f : Fragment) (T : String) : Prop where
  defined : findFragment? env.frags f.name = some f
  onT : f.on = T
  notUnion : (env.schema.kindOf? f.on == some .union) = false
  noInline : (f.sel.any fun s => match s with | .inline .. => true | _ => false) = false

theorem Qualifies.not_unpacked {env : Env} {f : Fragment} {T : String} (q : Qualifies env f T) :
    unpackFragment env f (some T) = false := by
  unfold unpackFragment
  rw [q.notUnion]
  simp only [Bool.false_or, Bool.or_eq_false_iff]
  constructor
  · simp [q.onT]
  · rw [List.any_eq_false]
    intro s hs
    have := List.any_eq_false.mp q.noInline s hs
    cases s <;> simp_all

theorem Qualifies.inherits {env : Env} {f : Fragment} {T : String} (q : Qualifies env f T) {sel : List Selection}
    {dirs : List Directive} (hmem : Selection.spread f.name dirs ∈ sel) : Inherits env f.name sel T :=
  Inherits.direct hmem q.defined q.not_unpacked

/-- the criterion in its general form: **every fragment the selection set inherits from (`Inherits`, Proofs/C08Inherits.lean:
    a kept direct spread, or one reached through unpacked fragments and accepted inline fragments) is a base** of the class
    `_parse_type_definition` generates for it.  The theorems of this section are its instances. -/
theorem inherited_is_base (env : Env) (fuel : Nat) (cn T : String) (sid : Nat) (sel : List Selection) (a : Bool)
    (eb tv : List String) (st : St) (cs : List ClassDecl) (st' : St) (n : String) (hi : Inherits env n sel T)
    (hfresh : st.publicNames.contains cn = false)
    (h : parseTypeDefinition env fuel cn T sid sel a eb tv st = .ok (cs, st')) :
    ∃ c rest, cs = c :: rest ∧ c.name = cn ∧ pascal n ∈ c.bases ∧
      ∀ t : ClassTable, basesOf t cn = some c.bases → IsSubclass t cn (pascal n) := by
  obtain ⟨x, st1, acc, fuel', _, hres, _, hcs⟩ := parseTypeDefinition_nodes _ _ _ _ _ _ _ _ _ _ _ _ h hfresh
  have hm : n ∈ x.2 := (resolve_inherits_iff env fuel sel T _ x st1 hres n).mpr hi
  exact ⟨_, _, hcs, rfl, pascal_mem_classBases hm, fun t ht => IsSubclass.of_base ht (pascal_mem_classBases hm)⟩

/-- … and of the root class of a generator, where it is also recorded in `_fragments_used_as_mixins` -/
theorem root_inherited_is_base (env : Env) (fuel : Nat) (cn tn : String) (sid : Nat) (sel : List Selection)
    (ps : List (String × String)) (marks : List Nat) (cs : List ClassDecl) (st : St) (n : String) (hi : Inherits env n sel tn)
    (hp : parseTypeDefinition env fuel cn tn sid sel false (ps.map (·.2)) [] (addImports { marks := marks } ps) = .ok (cs, st)) :
    ∃ c rest, cs = c :: rest ∧ c.name = cn ∧ pascal n ∈ c.bases ∧ n ∈ st.mixins := by
  obtain ⟨x, st1, fields, rest, hres, hcs, hmix, _⟩ := root_class env fuel _ _ _ _ _ marks cs st hp
  have hm : n ∈ x.2 := (resolve_inherits_iff env fuel sel tn _ x st1 hres n).mpr hi
  exact ⟨_, rest, hcs, rfl, pascal_mem_classBases hm, hmix n hm⟩

/-- **mixin criterion on `_resolve_selection_set`**: a qualifying direct spread is returned among the
    fragments to inherit from and recorded in `_fragments_used_as_mixins` — any fuel, any state. -/
theorem mixin_criterion_resolve (env : Env) (fuel : Nat) (sel : List Selection) (T : String) (st : St) (r : Acc) (st' : St)
    (f : Fragment) (dirs : List Directive) (q : Qualifies env f T) (hmem : Selection.spread f.name dirs ∈ sel)
    (h : resolve env fuel sel T st = .ok (r, st')) : f.name ∈ r.2 ∧ f.name ∈ st'.mixins :=
  resolve_spread_mem env fuel sel T st r st' f.name dirs f hmem q.defined q.not_unpacked h

/-- **mixin criterion**: whenever a class is generated for a selection set `sel` evaluated for type `T`
    (`_parse_type_definition(class_name, T, sel, …)`, the only producer of classes) and `sel` directly spreads a
    qualifying fragment `F`, the class has `pascal F` among its bases, hence is a subclass of it
    (`Spec.Py.IsSubclass`) in every module that holds this class statement. -/
theorem mixin_criterion (env : Env) (fuel : Nat) (cn T : String) (sid : Nat) (sel : List Selection) (a : Bool)
    (eb tv : List String) (st : St) (cs : List ClassDecl) (st' : St)
    (f : Fragment) (dirs : List Directive) (q : Qualifies env f T) (hmem : Selection.spread f.name dirs ∈ sel)
    (hfresh : st.publicNames.contains cn = false)
    (h : parseTypeDefinition env fuel cn T sid sel a eb tv st = .ok (cs, st')) :
    ∃ c rest, cs = c :: rest ∧ c.name = cn ∧ pascal f.name ∈ c.bases ∧
      ∀ t : ClassTable, basesOf t cn = some c.bases → IsSubclass t cn (pascal f.name) :=
  inherited_is_base env fuel cn T sid sel a eb tv st cs st' f.name (q.inherits hmem) hfresh h

/-- the criterion for the root class of an operation / of a fragment definition -/
theorem mixin_criterion_operation (env : Env) (fuel : Nat) (o : Operation) (marks : List Nat) (out : ModuleOut)
    (T : String) (hT : operationTypeName env (.op o) = .ok T)
    (f : Fragment) (dirs : List Directive) (q : Qualifies env f T) (hmem : Selection.spread f.name dirs ∈ o.sel)
    (h : generate env fuel (.op o) marks = .ok out) :
    ∃ c rest, out.classes = c :: rest ∧ pascal f.name ∈ c.bases ∧ f.name ∈ out.st.mixins := by
  rcases generate_cases h with ⟨_, hf, _⟩ | ⟨_, tn, htn, _, _, hp⟩
  · cases hf
  rw [hT] at htn
  injection htn with htn
  subst htn
  obtain ⟨c, rest, hcs, _, hb, hm⟩ := root_inherited_is_base env fuel _ _ _ _ _ marks _ _ f.name (q.inherits hmem) hp
  exact ⟨c, rest, hcs, hb, hm⟩

theorem mixin_criterion_fragment (env : Env) (fuel : Nat) (g : Fragment) (marks : List Nat) (out : ModuleOut)
    (hg : unpackFragment env g none = false)
    (f : Fragment) (dirs : List Directive) (q : Qualifies env f g.on) (hmem : Selection.spread f.name dirs ∈ g.sel)
    (h : generate env fuel (.frag g) marks = .ok out) :
    ∃ c rest, out.classes = c :: rest ∧ c.name = pascal g.name ∧ pascal f.name ∈ c.bases ∧ f.name ∈ out.st.mixins := by
  rcases generate_cases h with ⟨_, hf, hu, _⟩ | ⟨_, _, htn, hfr, _, hp⟩
  · cases hf
    cases hu.symm.trans hg
  cases htn
  obtain ⟨_, rfl⟩ := hfr g rfl
  exact root_inherited_is_base env fuel _ _ _ _ _ marks _ _ f.name (q.inherits hmem) hp

/-- only fragments that get a class of their own in the fragments module are ever inherited, and every base of every
    class a generator emits is `BaseModel`, the class of such a fragment, or an imported `@mixin` class -/
theorem inherited_fragments_have_a_class (env : Env) (fuel : Nat) (d : Definition) (marks : List Nat) (out : ModuleOut)
    (h : generate env fuel d marks = .ok out) :
    (∀ n ∈ out.st.mixins, ∃ f, findFragment? env.frags n = some f ∧ unpackFragment env f none = false) ∧
    (∀ c ∈ out.classes, ∀ b ∈ c.bases,
      b = "BaseModel" ∨ (∃ n ∈ out.st.mixins, b = pascal n) ∨ (∃ p ∈ out.st.mixinImports, b = p.2)) :=
  generate_spec env fuel d marks out h

/-! ## 1b. The decision looks at the fragment's own top-level selections only

  "a named fragment that has no inline fragments": `_unpack_fragment` inspects the selections written directly in the
  fragment definition.  What the fragment SPREADS (other named fragments, which may contain inline fragments at any
  depth — "carriers") plays no part: a fragment that merely re-uses a carrier stays a base class, the carrier is
  unpacked into it.  (A change that lets the decision follow spreads, e.g. by re-using
  `get_inline_fragments_from_selection_set`, contradicts every theorem of this section.) -/

def isInlineSel : Selection → Bool
  | .inline .. => true
  | _ => false

theorem unpackFragment_eq (env : Env) (f : Fragment) (root : Option String) :
    unpackFragment env f root =
      ((env.schema.kindOf? f.on == some .union) || (match root with | some r => f.on != r | none => false)
        || f.sel.any isInlineSel) := by
  unfold unpackFragment
  congr 1

/-- **the unpack decision is a function of the fragment's type condition, the kind of that type, the root type
    and the KINDS of the fragment's top-level selections** — for every two fragment tables (whatever the spread
    fragments contain, wherever they are defined) and every two fragments that agree on those. -/
theorem unpack_decision_top_level_only (env env' : Env) (f f' : Fragment) (root : Option String)
    (hs : env.schema = env'.schema) (hon : f.on = f'.on)
    (hk : f.sel.map isInlineSel = f'.sel.map isInlineSel) :
    unpackFragment env f root = unpackFragment env' f' root := by
  rw [unpackFragment_eq, unpackFragment_eq, hs, hon]
  have h : ∀ l : List Selection, l.any isInlineSel = (l.map isInlineSel).any id := fun _ => (List.any_map (f := isInlineSel) (p := id)).symm
  rw [h f.sel, h f'.sel, hk]

/-- in particular the fragment table is irrelevant: replacing the definitions of the fragments a fragment spreads
    (by ones with inline fragments, say) never changes whether it is unpacked -/
theorem unpack_ignores_fragment_table (schema : Schema) (frags frags' : List Fragment) (f : Fragment) (root : Option String) :
    unpackFragment { schema := schema, frags := frags } f root = unpackFragment { schema := schema, frags := frags' } f root :=
  unpack_decision_top_level_only _ _ f f root rfl rfl rfl

/-- a defined fragment on a non-union type whose top-level selections are fields and spreads — of ANY
    fragments — qualifies as a base class for its own type -/
theorem qualifies_whatever_it_spreads (env : Env) (f : Fragment)
    (hdef : findFragment? env.frags f.name = some f)
    (hnu : (env.schema.kindOf? f.on == some .union) = false)
    (htop : ∀ s ∈ f.sel, (∃ a n d i sub, s = .field a n d i sub) ∨ (∃ n d, s = .spread n d)) :
    Qualifies env f f.on := by
  refine ⟨hdef, rfl, hnu, ?_⟩
  rw [List.any_eq_false]
  intro s hs
  rcases htop s hs with ⟨a, n, d, i, sub, rfl⟩ | ⟨n, d, rfl⟩ <;> simp

/-- **a base that spreads a carrier stays a base**: `f` (fields and spreads at its top level, defined on the
    non-union type `T`) spreads `g`, and `g` contains inline fragments; a class generated for a selection set that is
    evaluated for `T` and directly spreads `f` still has `pascal f` among its bases, hence is a subclass of it. -/
theorem base_spreading_a_carrier_stays_a_base (env : Env) (fuel : Nat) (cn T : String) (sid : Nat) (sel : List Selection)
    (a : Bool) (eb tv : List String) (st : St) (cs : List ClassDecl) (st' : St)
    (f g : Fragment) (dirs gdirs : List Directive)
    (hdef : findFragment? env.frags f.name = some f) (hon : f.on = T)
    (hnu : (env.schema.kindOf? f.on == some .union) = false)
    (htop : ∀ s ∈ f.sel, (∃ a n d i sub, s = .field a n d i sub) ∨ (∃ n d, s = .spread n d))
    (hspreads : Selection.spread g.name gdirs ∈ f.sel) (hcarrier : g.sel.any isInlineSel = true)
    (hmem : Selection.spread f.name dirs ∈ sel)
    (hfresh : st.publicNames.contains cn = false)
    (h : parseTypeDefinition env fuel cn T sid sel a eb tv st = .ok (cs, st')) :
    ∃ c rest, cs = c :: rest ∧ c.name = cn ∧ pascal f.name ∈ c.bases ∧
      ∀ t : ClassTable, basesOf t cn = some c.bases → IsSubclass t cn (pascal f.name) :=
  mixin_criterion env fuel cn T sid sel a eb tv st cs st' f dirs
    (hon ▸ qualifies_whatever_it_spreads env f hdef hnu htop) hmem hfresh h

/-- **a carrier is unpacked whatever the root type** (also when it is defined on exactly that type) … -/
theorem carrier_always_unpacked (env : Env) (g : Fragment) (root : Option String) (hc : g.sel.any isInlineSel = true) :
    unpackFragment env g root = true := by
  rw [unpackFragment_eq, hc, Bool.or_true]

/-- … so no generator ever inherits from it: a defined fragment with an inline fragment among its top-level
    selections is never recorded in `_fragments_used_as_mixins` -/
theorem carrier_never_inherited (env : Env) (fuel : Nat) (d : Definition) (marks : List Nat) (out : ModuleOut)
    (g : Fragment) (hdef : findFragment? env.frags g.name = some g) (hc : g.sel.any isInlineSel = true)
    (h : generate env fuel d marks = .ok out) : g.name ∉ out.st.mixins := by
  intro hm
  obtain ⟨f, hf, hu⟩ := (inherited_fragments_have_a_class env fuel d marks out h).1 g.name hm
  rw [hdef] at hf
  injection hf with hf
  subst hf
  rw [carrier_always_unpacked env g none hc] at hu
  cases hu

/-! ## 1c. Which fragments a class inherits from, EXACTLY — inline fragments and unpacked fragments included

  "the type that selection set is evaluated for": `_resolve_selection_set(selection_set, root_type)` carries the type
  along.  A directly spread fragment that `_unpack_fragment` keeps is inherited; one that is unpacked and applies to the
  type has its selections evaluated for the SAME type in its place; an inline fragment has its selections evaluated for
  what `_get_inline_fragment_root_type` answers — the type itself for `... on <the type>`, the INTERFACE for
  `... on <an interface the object type implements>` (so `account { ... on Node { ...NodeId } }` makes `NodeId`, defined on
  `Node`, a base of the class generated for `account`), nothing otherwise (the inline fragment is ignored).
  `Inherits env n sel T` (Proofs/C08Inherits.lean) is that description as an inductive relation, without fuel, state or
  accumulators; the theorems below say the code computes exactly it, and that the fragment bases of every class are
  exactly those names, without repetition, in increasing order of the fragment names, before the `@mixin` bases.
  (A change to any of the three routes, to the order, or to what is appended contradicts a theorem of this section.) -/

/-- **`_resolve_selection_set` returns exactly the inherited fragments, each once** — every fuel, every state -/
theorem resolve_fragments_exact (env : Env) (fuel : Nat) (sel : List Selection) (T : String) (st : St) (r : Acc) (st' : St)
    (h : resolve env fuel sel T st = .ok (r, st')) :
    (∀ n, n ∈ r.2 ↔ Inherits env n sel T) ∧ r.2.Nodup :=
  ⟨resolve_inherits_iff env fuel sel T st r st' h, resolve_nodup env fuel sel T st r st' h⟩

/-- **the bases of every generated class, exactly**: `BaseModel` when nothing is inherited, otherwise the classes of
    exactly the inherited fragments (`Inherits`), each once, in strictly increasing order of the fragment names — followed
    by exactly the extra (`@mixin`) bases the call was given, in the order given. -/
theorem class_bases_exact (env : Env) (fuel : Nat) (cn T : String) (sid : Nat) (sel : List Selection) (a : Bool)
    (eb tv : List String) (st : St) (cs : List ClassDecl) (st' : St)
    (hfresh : st.publicNames.contains cn = false)
    (h : parseTypeDefinition env fuel cn T sid sel a eb tv st = .ok (cs, st')) :
    ∃ (c : ClassDecl) (rest : List ClassDecl) (frs : List String), cs = c :: rest ∧ c.name = cn ∧
      c.bases = (if frs.isEmpty then ["BaseModel"] else frs.map pascal) ++ eb ∧
      frs.Pairwise (· < ·) ∧ ∀ n, n ∈ frs ↔ Inherits env n sel T := by
  obtain ⟨x, st1, acc, fuel', _, hres, _, hcs⟩ := parseTypeDefinition_nodes _ _ _ _ _ _ _ _ _ _ _ _ h hfresh
  have hx := resolve_fragments_exact env fuel sel T _ x st1 hres
  refine ⟨_, _, sortStr x.2, hcs, rfl, ?_, Util.pairwise_sortStr x.2 hx.2, ?_⟩
  · show classBases x.2 eb = _
    unfold classBases
    rw [sortStr_isEmpty]
  · intro n
    rw [Util.mem_sortStr]
    exact hx.1 n

/-- **a spread inside an inline fragment**: the selection set of `... on C { ...F }`, met while a class is generated
    for type `T`, is evaluated for the type `_get_inline_fragment_root_type(C, T)` accepts; when `F` qualifies for that type
    the class generated for `T` has `pascal F` among its bases, hence is a subclass of it. -/
theorem mixin_criterion_inline (env : Env) (fuel : Nat) (cn T : String) (sid : Nat) (sel : List Selection) (a : Bool)
    (eb tv : List String) (st : St) (cs : List ClassDecl) (st' : St)
    (cond rt : String) (idirs : List Directive) (isid : Nat) (sub : List Selection)
    (hin : Selection.inline (some cond) idirs isid sub ∈ sel) (hrt : inlineFragmentRootType env cond T = some rt)
    (f : Fragment) (dirs : List Directive) (q : Qualifies env f rt) (hmem : Selection.spread f.name dirs ∈ sub)
    (hfresh : st.publicNames.contains cn = false)
    (h : parseTypeDefinition env fuel cn T sid sel a eb tv st = .ok (cs, st')) :
    ∃ c rest, cs = c :: rest ∧ c.name = cn ∧ pascal f.name ∈ c.bases ∧
      ∀ t : ClassTable, basesOf t cn = some c.bases → IsSubclass t cn (pascal f.name) :=
  inherited_is_base env fuel cn T sid sel a eb tv st cs st' f.name (Inherits.throughInline hin hrt (q.inherits hmem)) hfresh h

/-- in particular **an inline fragment on an interface the object type implements is evaluated for the interface**:
    a fragment defined on exactly that interface (no inline fragments of its own) and spread inside it is a base of the class
    generated for the object type -/
theorem interface_fragment_inside_inline_is_a_base (env : Env) (fuel : Nat) (cn T I : String) (t : TypeDef) (sid : Nat)
    (sel : List Selection) (a : Bool) (eb tv : List String) (st : St) (cs : List ClassDecl) (st' : St)
    (ht : env.schema.get? T = some t) (hobj : t.kind = .object) (himpl : I ∈ t.interfaces)
    (idirs : List Directive) (isid : Nat) (sub : List Selection) (hin : Selection.inline (some I) idirs isid sub ∈ sel)
    (f : Fragment) (dirs : List Directive) (q : Qualifies env f I) (hmem : Selection.spread f.name dirs ∈ sub)
    (hfresh : st.publicNames.contains cn = false)
    (h : parseTypeDefinition env fuel cn T sid sel a eb tv st = .ok (cs, st')) :
    ∃ c rest, cs = c :: rest ∧ c.name = cn ∧ pascal f.name ∈ c.bases ∧
      ∀ tb : ClassTable, basesOf tb cn = some c.bases → IsSubclass tb cn (pascal f.name) :=
  mixin_criterion_inline env fuel cn T sid sel a eb tv st cs st' I I idirs isid sub hin
    (inlineRoot_interface env I T t ht hobj himpl) f dirs q hmem hfresh h

/-- **`_get_inline_fragment_root_type`, case by case, for every schema**: `... on <the type itself>` is evaluated for the
    type; `... on <an interface the OBJECT type implements>` for the interface; every other inline fragment is ignored; and an
    accepted inline fragment is never evaluated for anything but its own type condition. -/
theorem inline_fragment_root_type_cases (env : Env) (cond T : String) :
    (∀ t, env.schema.get? T = some t → cond = T → inlineFragmentRootType env cond T = some T) ∧
    (∀ t, env.schema.get? T = some t → t.kind = .object → cond ∈ t.interfaces → inlineFragmentRootType env cond T = some cond) ∧
    ((∀ t, env.schema.get? T = some t → ¬ (t.kind = .object ∧ cond ∈ t.interfaces) ∧ cond ≠ T) →
      inlineFragmentRootType env cond T = none) ∧
    (∀ rt, inlineFragmentRootType env cond T = some rt → rt = cond) :=
  ⟨fun t ht he => he ▸ inlineRoot_own env cond t (he ▸ ht), fun t ht ho hi => inlineRoot_interface env cond T t ht ho hi,
   inlineRoot_none env cond T, fun rt h => inlineRoot_eq_cond env cond T rt h⟩

/-- **inheriting is not unpacking**: the iteration of `_resolve_selection_set` that meets a spread of a fragment it keeps
    as a base leaves the whole generator state alone — in particular it does not record the fragment in `_unpacked_fragments`,
    which is what would remove its class from the fragments module. -/
theorem inherit_routes_do_not_unpack (env : Env) (fuel : Nat) (root : String) (n : String) (dirs : List Directive) (f : Fragment)
    (hf : findFragment? env.frags n = some f) (hun : unpackFragment env f (some root) = false)
    (b : Acc) (s : St) (r : ForInStep Acc) (s' : St)
    (h : resolveBody env fuel root (.spread n dirs) b s = .ok (r, s')) : s' = s := by
  obtain ⟨b1, _, step⟩ := resolveBody_step h
  exact (step.of_kept hf hun).2

/-! ## 2. Fragment classes are defined before their dependants -/

/-- the dependency dict has no cycle.  GraphQL validation (NoFragmentCycles, run by `get_graphql_queries`) rejects
    spread cycles and a fragment inherits only from fragments it spreads (`deps_acyclic_of_valid` below derives it from
    that rule); the harness checks it on every observed dependency dict. -/
def Acyclic (d : Order.Deps) : Prop := ∃ rk : String → Nat, ∀ n ds m, Order.lookup d n = some ds → m ∈ ds → rk m < rk n

/-- **topological order**: in the emitted fragments module every fragment comes after all fragments its
    classes inherit from, every class statement finds all its bases bound (`BaseModel`, an imported `@mixin`
    class, or a class defined earlier in the module), and every fragment handed to the generator that gets a class
    of its own is there — for EVERY enumeration oracle (whatever order CPython iterates the sets in, hence
    whatever the definition order in the queries file). -/
theorem topo_respects_deps (e : Order.EnumOracle) (he : Order.EnumOK e) (env : Env) (fuel : Nat) (names : List String)
    (marks : List Nat) (fo : FragmentsOut) (hac : Acyclic fo.deps)
    (h : generateFragments e env fuel names marks = .ok fo) :
    (∀ pre n post, fo.order = pre ++ n :: post → ∀ m, m ∈ Order.depsOf fo.deps n → m ∈ pre) ∧
    Loads (external fo) (classTable fo.classes) ∧
    (∀ n ∈ names, (∃ f, findFragment? env.frags n = some f ∧ unpackFragment env f none = false) →
      pascal n ∈ fo.classes.map (·.name)) := by
  obtain ⟨rk, hrk⟩ := hac
  obtain ⟨gens, _, D⟩ := generateFragments_described h
  exact ⟨Order.dfs_topo (fun ds x => by rw [Order.mem_pySorted]; exact (he ds).mem_iff) rk hrk D.order,
    fragments_load e he env fuel names marks fo h rk hrk,
    fun n hn hgood => fragments_emitted e he env fuel names marks fo h n hn hgood⟩

/-- the input-level hypothesis behind `Acyclic`: the document's fragment spreads admit a rank that strictly
    decreases from a fragment to every fragment spread inside its selection set.  This is graphql-core's validation
    rule NoFragmentCycles, which `get_graphql_queries` runs before any generator sees the document. -/
def NoFragmentCycles (env : Env) : Prop := ∃ rk : String → Nat, SpreadRank env rk

/-- a fragment's generator records only fragments that are spread — directly or through other fragments —
    from its own selection set: the dependency dict of the fragments module inherits acyclicity from the document. -/
theorem deps_acyclic_of_valid (e : Order.EnumOracle) (env : Env) (hv : NoFragmentCycles env) (fuel : Nat) (names : List String)
    (marks : List Nat) (fo : FragmentsOut) (h : generateFragments e env fuel names marks = .ok fo) : Acyclic fo.deps := by
  obtain ⟨rk, hrk⟩ := hv
  exact ⟨rk, deps_acyclic e env rk hrk fuel names marks fo h⟩

/-- `topo_respects_deps` from the input-level hypothesis alone -/
theorem topo_respects_deps_valid (e : Order.EnumOracle) (he : Order.EnumOK e) (env : Env) (hv : NoFragmentCycles env)
    (fuel : Nat) (names : List String) (marks : List Nat) (fo : FragmentsOut)
    (h : generateFragments e env fuel names marks = .ok fo) :
    (∀ pre n post, fo.order = pre ++ n :: post → ∀ m, m ∈ Order.depsOf fo.deps n → m ∈ pre) ∧
    Loads (external fo) (classTable fo.classes) :=
  let t := topo_respects_deps e he env fuel names marks fo (deps_acyclic_of_valid e env hv fuel names marks fo h) h
  ⟨t.1, t.2.1⟩

/-! ## 3. `@mixin(from:, import:)` -/

/-- **`_get_extra_bases_from_mixin_directives`, exactly**: the extra bases of a node are the `import`
    arguments of its `@mixin` directives, in order, and exactly their `(from, import)` pairs are appended to the
    generator's imports (nothing else of the state changes). -/
theorem mixin_directive_bases (dirs : List Directive) (st : St) (bs : List String) (st' : St)
    (h : mixinBases dirs st = .ok (bs, st')) :
    bs = (mixinPairs dirs).map (·.2) ∧ st' = { st with mixinImports := st.mixinImports ++ mixinPairs dirs } :=
  mixinBases_spec dirs st bs st' h

/-- the class a `_parse_type_definition` call creates has bases = fragment bases ++ exactly the extra bases
    the call was given (in that order): nothing is dropped, nothing else is added.  (The fragment part is `BaseModel` or the
    classes of SOME sorted list of names `frs`; which fragments these are is `class_bases_exact`.) -/
theorem extra_bases_appended (env : Env) (fuel : Nat) (cn T : String) (sid : Nat) (sel : List Selection) (a : Bool)
    (eb tv : List String) (st : St) (cs : List ClassDecl) (st' : St)
    (hfresh : st.publicNames.contains cn = false)
    (h : parseTypeDefinition env fuel cn T sid sel a eb tv st = .ok (cs, st')) :
    ∃ c rest fragPart frs, cs = c :: rest ∧ c.name = cn ∧ c.bases = fragPart ++ eb ∧
      (fragPart = ["BaseModel"] ∨ fragPart = (sortStr frs).map pascal) := by
  obtain ⟨x, st1, acc, fuel', _, hres, _, hcs⟩ := parseTypeDefinition_nodes _ _ _ _ _ _ _ _ _ _ _ _ h hfresh
  obtain ⟨fp, hfp, hor⟩ := classBases_suffix x.2 eb
  exact ⟨_, _, fp, x.2, hcs, rfl, hfp, hor⟩

/-- **@mixin on a fragment definition / on an operation**: the root class of the definition's generator has
    the classes named by the definition's `@mixin` directives as its additional bases, exactly and in order, and
    each `(from, import)` pair is among the generator's imports.  (In front of them: `BaseModel` or the classes of some sorted
    list `frs` — which fragments, is `root_inherited_is_base` / `class_bases_exact`.) -/
theorem mixin_on_definition (env : Env) (fuel : Nat) (d : Definition) (marks : List Nat) (out : ModuleOut)
    (hd : match d with | .op _ => True | .frag f => unpackFragment env f none = false)
    (h : generate env fuel d marks = .ok out) :
    ∃ c rest fragPart frs, out.classes = c :: rest ∧
      c.bases = fragPart ++ (mixinPairs (match d with | .op o => o.dirs | .frag f => f.dirs)).map (·.2) ∧
      (fragPart = ["BaseModel"] ∨ fragPart = (sortStr frs).map pascal) ∧
      ∀ p ∈ mixinPairs (match d with | .op o => o.dirs | .frag f => f.dirs), p ∈ out.st.mixinImports := by
  rcases generate_cases h with ⟨f, rfl, hu, _⟩ | ⟨_, _, _, _, _, hp⟩
  · cases hu.symm.trans hd
  obtain ⟨x, st1, fields, rest, _, hcs, _, himp⟩ := root_class env fuel _ _ _ _ _ marks _ _ hp
  obtain ⟨fp, hfp, hor⟩ := classBases_suffix x.2 ((mixinPairs d.dirs).map (·.2))
  cases d <;> exact ⟨_, rest, fp, x.2, hcs, hfp, hor, himp⟩

/-- **@mixin on a field**: while a class is generated, the classes for a field's selection set are generated by
    `_parse_field_selection_set_types` with exactly the classes named by THAT field's `@mixin` directives as extra
    bases (so a directive never reaches the classes of other fields, nor nested ones), after importing them. -/
theorem mixin_on_field (env : Env) (fuel : Nat) (cn tn : String) (tv : List String) (f : RField) (acc : FAcc) (s : St)
    (r : ForInStep FAcc) (s' : St) (h : fieldBody env fuel cn tn tv f acc s = .ok (r, s')) :
    ∃ ctx more s1 fd, parseFieldSelectionSetTypes env fuel f.sid f.sub ctx ((mixinPairs f.dirs).map (·.2))
        { s with mixinImports := s.mixinImports ++ mixinPairs f.dirs } = .ok (more, s1) ∧
      r = .yield (acc.1 ++ [fd], acc.2 ++ more) := by
  obtain ⟨_, _, _, ctx, more, s1, _, _, h4, _, hr⟩ := fieldBody_step h
  exact ⟨ctx, more, s1, _, h4, hr⟩

/-- … and `_parse_field_selection_set_types`, unfolded (the statement is the model's own equation): the loop over the related
    classes passes the SAME `eb` to the `_parse_type_definition` call of every one of them (at an abstract position: the
    interface class and every sub-type class).  "The class generated for that field" is, on the real code, that whole family;
    that the extra bases arrive in every class of it is `mixin_on_field_every_related_class` below. -/
theorem field_extra_bases_reach_every_related_class (env : Env) (fuel : Nat) (sid : Nat) (sel : List Selection) (ctx : Ctx)
    (eb : List String) :
    parseFieldSelectionSetTypes env (fuel + 1) sid sel ctx eb =
      (if sel.isEmpty then pure []
       else forIn ctx.related [] (fun (rc : String × String) (acc : List ClassDecl) => do
          let cs ← parseTypeDefinition env fuel rc.1 rc.2 sid sel ctx.abstract eb
            (((typenameValues env ctx.related).find? (·.1 == rc.2)).map (·.2) |>.getD [])
          pure (ForInStep.yield (acc ++ cs))) >>= fun s => pure s) := rfl

/-- position by position (core Lean has no `List.Forall₂`, and this file is core-only) -/
inductive ForAll2 {α β : Type} (R : α → β → Prop) : List α → List β → Prop
  | nil : ForAll2 R [] []
  | cons {a : α} {b : β} {l₁ : List α} {l₂ : List β} : R a b → ForAll2 R l₁ l₂ → ForAll2 R (a :: l₁) (b :: l₂)

/-- what one related class of a field contributes: nothing (a class of that name exists already) or a class list
    headed by the class of that name whose bases are its fragment bases (`BaseModel`, or the classes of some sorted list `frs`:
    `class_bases_exact` says which) followed by exactly `eb` -/
def RelatedSegment (eb : List String) (rc : String × String) (seg : List ClassDecl) : Prop :=
  seg = [] ∨ ∃ c rest fragPart frs, seg = c :: rest ∧ c.name = rc.1 ∧ c.bases = fragPart ++ eb ∧
    (fragPart = ["BaseModel"] ∨ fragPart = (sortStr frs).map pascal)

theorem RelatedSegment.of_class (eb frs : List String) (rc : String × String) (fds : List FieldDecl) (more : List ClassDecl) :
    RelatedSegment eb rc ({ name := rc.1, bases := classBases frs eb, fields := fds } :: more) := by
  obtain ⟨fp, hfp, hor⟩ := classBases_suffix frs eb
  exact Or.inr ⟨_, _, fp, frs, rfl, rfl, hfp, hor⟩

theorem related_segments {env : Env} {c : Call} {st : St} {cs : List ClassDecl} {st' : St} (h : Runs env c st cs st') :
    ∀ sid sel ctx eb rcs, c = .related sid sel ctx eb rcs →
      ∃ segs : List (List ClassDecl), cs = segs.flatten ∧ ForAll2 (RelatedSegment eb) rcs segs := by
  induction h with
  | relNil => exact fun _ _ _ _ _ e => by cases e; exact ⟨[], rfl, .nil⟩
  | relCons hT _ _ ih =>
    intro _ _ _ _ _ e
    cases e
    obtain ⟨segs, rfl, hall⟩ := ih _ _ _ _ _ rfl
    refine ⟨_ :: segs, by rw [List.flatten_cons], .cons ?_ hall⟩
    cases hT with
    | seen => exact Or.inl rfl
    | fresh => exact .of_class ..
  | _ => exact fun _ _ _ _ _ e => nomatch e

/-- **the extra bases of a field reach EVERY related class, exactly**: the classes generated for a field's
    selection set split into one segment per related class (in order); each segment is empty (the class name was
    generated before) or starts with the class of that name, whose bases are its fragment bases followed by
    exactly the field's extra bases. -/
theorem mixin_on_field_every_related_class (env : Env) (fuel : Nat) (sid : Nat) (sel : List Selection) (ctx : Ctx)
    (eb : List String) (st : St) (cs : List ClassDecl) (st' : St) (hsel : sel.isEmpty = false)
    (h : parseFieldSelectionSetTypes env fuel sid sel ctx eb st = .ok (cs, st')) :
    ∃ segs : List (List ClassDecl), cs = segs.flatten ∧ ForAll2 (RelatedSegment eb) ctx.related segs := by
  cases Runs.of_set h with
  | setEmpty he => cases he.symm.trans hsel
  | setRun _ hr => exact related_segments hr _ _ _ _ _ rfl

/-! ## 4. The package-level clauses: full statement, findings, partial theorem -/

/-- "it exists in the fragments module no matter how other operations use the same fragment": every fragment some
    operation class inherits from has its class in the emitted fragments module, and generation does not die in
    `FragmentsGenerator` -/
def FragmentAlwaysEmitted : Prop :=
  ∀ (e : Order.EnumOracle), Order.EnumOK e → ∀ (env : Env) (fuel : Nat) (ops : List Operation),
    match fragmentsModule e env fuel ops with
    | .ok out => ∀ g ∈ out.ops, ∀ n ∈ g.out.st.mixins, ∃ fo, out.fragments = some fo ∧ pascal n ∈ fo.classes.map (·.name)
    | .error (.order _) => False
    | .error (.gen _) => True

/-- "so the module always loads": CPython can execute every class statement of every emitted module -/
def ModulesAlwaysLoad : Prop :=
  ∀ (e : Order.EnumOracle), Order.EnumOK e → ∀ (env : Env) (fuel : Nat) (ops : List Operation) (out : PackageOut),
    fragmentsModule e env fuel ops = .ok out → ∀ t ∈ moduleTables out, mroOK t = true

/-- "the object returned for it is an instance of the class generated for the fragment", whatever the runtime type
    of the object: all classes generated for one selection set (the members of the `Union[…]` of an interface
    position) inherit the fragments the interface class inherits -/
def InstanceAtEveryRuntimeType : Prop :=
  ∀ (e : Order.EnumOracle), Order.EnumOK e → ∀ (env : Env) (fuel : Nat) (ops : List Operation) (out : PackageOut),
    fragmentsModule e env fuel ops = .ok out →
      (∀ g ∈ out.ops, siblingsInheritAlike env g.out.classes g.out.st.mixins = true) ∧
      (∀ fo, out.fragments = some fo → siblingsInheritAlike env fo.classes (fo.deps.flatMap (·.2)) = true)

/-- the package-level part of the property at full strength -/
def C08_full : Prop := FragmentAlwaysEmitted ∧ ModulesAlwaysLoad ∧ InstanceAtEveryRuntimeType

/-! ### every finding trigger refutes its clause, whatever the package -/

theorem not_emitted_refutes (e : Order.EnumOracle) (he : Order.EnumOK e) (env : Env) (fuel : Nat) (ops : List Operation) (n : String)
    (hw : (match fragmentsModule e env fuel ops with
      | .ok out => out.fragments.isNone && (out.ops.any fun g => g.out.st.mixins.contains n)
      | .error _ => false) = true) : ¬ FragmentAlwaysEmitted := by
  intro h
  have h1 := h e he env fuel ops
  cases hm : fragmentsModule e env fuel ops with
  | error err => rw [hm] at hw; cases hw
  | ok out =>
    rw [hm] at hw h1
    simp only [Bool.and_eq_true, List.any_eq_true] at hw
    obtain ⟨hnone, g, hg, hc⟩ := hw
    obtain ⟨fo, hfo, _⟩ := h1 g hg n (by simpa using hc)
    rw [hfo] at hnone
    cases hnone

theorem mroConflict_refutes (e : Order.EnumOracle) (he : Order.EnumOK e) (env : Env) (fuel : Nat) (ops : List Operation)
    (hw : trigMroConflict e env fuel ops = true) : ¬ ModulesAlwaysLoad := by
  intro h
  cases hm : fragmentsModule e env fuel ops with
  | error err => simp [trigMroConflict, hm] at hw
  | ok out =>
    rw [(trigMroConflict_eq_false_iff hm).mpr (h e he env fuel ops out hm)] at hw
    cases hw

theorem siblingUnpacks_refutes (e : Order.EnumOracle) (he : Order.EnumOK e) (env : Env) (fuel : Nat) (ops : List Operation)
    (hw : trigSiblingUnpacks e env fuel ops = true) : ¬ InstanceAtEveryRuntimeType := by
  intro h
  cases hm : fragmentsModule e env fuel ops with
  | error err => simp [trigSiblingUnpacks, hm] at hw
  | ok out =>
    rw [(trigSiblingUnpacks_eq_false_iff hm).mpr (h e he env fuel ops out hm)] at hw
    cases hw

def tAnimal : TypeDef := { name := "Animal", kind := .interface, fields := [FieldDef.mk "id" (.named "ID") []] }
def tDog : TypeDef := { name := "Dog", kind := .object, interfaces := ["Animal"], fields := [FieldDef.mk "id" (.named "ID") []] }
def tQuery : TypeDef := { name := "Query", kind := .object, fields := [FieldDef.mk "dog" (.named "Dog") [], FieldDef.mk "animal" (.named "Animal") []] }
def wSchema : Schema := { types := [tAnimal, tDog, tQuery], query := some "Query" }

/-- `fragment AF on Animal { id }` -/
def wAF : Fragment := { name := "AF", on := "Animal", sid := 5, sel := [.field none "id" [] 0 []] }
def wEnv : Env := { schema := wSchema, frags := [wAF] }
/-- `query A { dog { ...AF } }` unpacks AF (Dog ≠ Animal) -/
def wA : Operation := { kind := .query, name := some "A", sid := 1, sel := [.field none "dog" [] 2 [.spread "AF" []]] }
/-- `query B { animal { ...AF } }` inherits from AF -/
def wB : Operation := { kind := .query, name := some "B", sid := 3, sel := [.field none "animal" [] 4 [.spread "AF" []]] }

def tUser : TypeDef := { name := "User", kind := .object, fields := [FieldDef.mk "id" (.named "ID") [], FieldDef.mk "name" (.named "String") [], FieldDef.mk "email" (.named "String") []] }
def tQueryU : TypeDef := { name := "Query", kind := .object, fields := [FieldDef.mk "user" (.named "User") []] }
def uSchema : Schema := { types := [tUser, tQueryU], query := some "Query" }
/-- `fragment UserBasic on User { id name }`, `fragment UserFull on User { ...UserBasic email }` -/
def uBasic : Fragment := { name := "UserBasic", on := "User", sid := 3, sel := [.field none "id" [] 0 [], .field none "name" [] 0 []] }
def uFull : Fragment := { name := "UserFull", on := "User", sid := 4, sel := [.spread "UserBasic" [], .field none "email" [] 0 []] }
def uEnv : Env := { schema := uSchema, frags := [uBasic, uFull] }
/-- `query A { user { ...UserBasic ...UserFull } }` ⇒ `class AUser(UserBasic, UserFull)` with `class UserFull(UserBasic)` -/
def uA : Operation := { kind := .query, name := some "A", sid := 1, sel := [.field none "user" [] 2 [.spread "UserBasic" [], .spread "UserFull" []]] }

def tDogB : TypeDef := { name := "Dog", kind := .object, interfaces := ["Animal"], fields := [FieldDef.mk "id" (.named "ID") [], FieldDef.mk "barks" (.named "Boolean") []] }
def tQueryA : TypeDef := { name := "Query", kind := .object, fields := [FieldDef.mk "animal" (.named "Animal") []] }
/-- `fragment QF on Query { animal { __typename ...AF ... on Dog { barks } } }` -/
def sQF : Fragment := { name := "QF", on := "Query", sid := 2, sel := [.field none "animal" [] 3 [.field none "__typename" [] 0 [], .spread "AF" [], .inline (some "Dog") [] 4 [.field none "barks" [] 0 []]]] }
def sEnv : Env := { schema := { types := [tAnimal, tDogB, tQueryA], query := some "Query" }, frags := [sQF, wAF] }
/-- `query A { ...QF }` -/
def sA : Operation := { kind := .query, name := some "A", sid := 1, sel := [.spread "QF" []] }

/-- the KeyError of finding C08-F1 on its witness (`dog{...AF} animal{...G}`, `G on Animal {name ...AF}`) -/
def wG : Fragment := { name := "G", on := "Animal", sid := 7, sel := [.field none "name" [] 0 [], .spread "AF" []] }
def tAnimalN : TypeDef := { name := "Animal", kind := .interface, fields := [FieldDef.mk "id" (.named "ID") [], FieldDef.mk "name" (.named "String") []] }
def kEnv : Env := { schema := { types := [tAnimalN, tDog, tQuery], query := some "Query" }, frags := [wG, wAF] }
def kA : Operation := { kind := .query, name := some "A", sid := 1, sel := [.field none "dog" [] 2 [.spread "AF" []], .field none "animal" [] 3 [.spread "G" []]] }

/-- `fragment DF on Dog { id }` -/
def wDF : Fragment := { name := "DF", on := "Dog", sid := 6, sel := [.field none "id" [] 0 []] }
def okEnv : Env := { schema := wSchema, frags := [wAF, wDF] }
/-- `query C { animal { ...AF } dog { ...DF } }` -/
def okC : Operation := { kind := .query, name := some "C", sid := 1, sel := [.field none "animal" [] 2 [.spread "AF" []], .field none "dog" [] 3 [.spread "DF" []]] }

def tNode : TypeDef := { name := "Node", kind := .interface, fields := [FieldDef.mk "id" (.named "ID") []] }
def tUserN : TypeDef := { name := "User", kind := .object, interfaces := ["Node"], fields := [FieldDef.mk "id" (.named "ID") [], FieldDef.mk "name" (.named "String") [], FieldDef.mk "email" (.named "String") []] }
def tTeam : TypeDef := { name := "Team", kind := .object, interfaces := ["Node"], fields := [FieldDef.mk "id" (.named "ID") [], FieldDef.mk "title" (.named "String") []] }
def tQueryN : TypeDef := { name := "Query", kind := .object, fields := [FieldDef.mk "user" (.named "User") [], FieldDef.mk "node" (.named "Node") []] }
/-- `fragment NodeInfo on Node { id ... on User { name } ... on Team { title } }` — a carrier -/
def rNodeInfo : Fragment := { name := "NodeInfo", on := "Node", sid := 5, sel := [.field none "id" [] 0 [], .inline (some "User") [] 6 [.field none "name" [] 0 []], .inline (some "Team") [] 7 [.field none "title" [] 0 []]] }
/-- `fragment UserCard on User { ...NodeInfo email }` — no inline fragment of its own -/
def rUserCard : Fragment := { name := "UserCard", on := "User", sid := 8, sel := [.spread "NodeInfo" [], .field none "email" [] 0 []] }
def rEnv : Env := { schema := { types := [tNode, tUserN, tTeam, tQueryN], query := some "Query" }, frags := [rUserCard, rNodeInfo] }
/-- `query GetUser { user { ...UserCard } }` -/
def rGetUser : Operation := { kind := .query, name := some "GetUser", sid := 1, sel := [.field none "user" [] 2 [.spread "UserCard" []]] }
/-- `query GetNode { node { ...NodeInfo } }` -/
def rGetNode : Operation := { kind := .query, name := some "GetNode", sid := 3, sel := [.field none "node" [] 4 [.spread "NodeInfo" []]] }

def tAccount : TypeDef := { name := "Account", kind := .object, interfaces := ["Node"], fields := [FieldDef.mk "id" (.named "ID") [], FieldDef.mk "name" (.named "String") []] }
def tQueryAcc : TypeDef := { name := "Query", kind := .object, fields := [FieldDef.mk "account" (.named "Account") [], FieldDef.mk "node" (.named "Node") []] }
/-- `fragment NodeId on Node { id }` -/
def iNodeId : Fragment := { name := "NodeId", on := "Node", sid := 5, sel := [.field none "id" [] 0 []] }
def iEnv : Env := { schema := { types := [tNode, tAccount, tQueryAcc], query := some "Query" }, frags := [iNodeId] }
/-- `query GetAccount { account { name ... on Node { ...NodeId } } }` -/
def iGetAccount : Operation := { kind := .query, name := some "GetAccount", sid := 1, sel := [.field none "account" [] 2 [.field none "name" [] 0 [], .inline (some "Node") [] 3 [.spread "NodeId" []]]] }
/-- `query GetNode { node { ...NodeId } }` -/
def iGetNode : Operation := { kind := .query, name := some "GetNode", sid := 4, sel := [.field none "node" [] 6 [.spread "NodeId" []]] }

/-- What the kernel evaluates on the concrete inputs of this file, in one declaration: every evaluation that converts a name decodes
    the keyword tables of `Model/Names.lean`, and the kernel shares work only inside one declaration.  The lemmas named after the
    inputs are its components. -/
theorem evaluated :
    ((match fragmentsModule id wEnv 10 [wA, wB] with
      | .ok out => out.fragments.isNone && (out.ops.any fun g => g.out.st.mixins.contains "AF")
      | .error _ => false) = true ∧ trigUnpackedAndInherited id wEnv 10 [wA, wB] = true) ∧
    (trigMroConflict id uEnv 10 [uA] = true ∧ trigUnpackedAndInherited id uEnv 10 [uA] = false) ∧
    (trigSiblingUnpacks id sEnv 10 [sA] = true ∧
      (trigUnpackedAndInherited id sEnv 10 [sA] = false ∧ trigMroConflict id sEnv 10 [sA] = false)) ∧
    ((match fragmentsModule id kEnv 10 [kA] with
      | .error (.order (.keyError k)) => k == "AF"
      | _ => false) = true ∧ trigUnpackedAndInherited id kEnv 10 [kA] = true) ∧
    ((match fragmentsModule id okEnv 10 [okC, wB] with
      | .ok out => (out.fragments.map fun fo => fo.order) == some ["AF", "DF"] && out.excluded.isEmpty
          && out.ops.all (fun g => !g.out.st.mixins.isEmpty)
      | .error _ => false) = true ∧
      (trigUnpackedAndInherited id okEnv 10 [okC, wB] = false ∧ trigMroConflict id okEnv 10 [okC, wB] = false
      ∧ trigSiblingUnpacks id okEnv 10 [okC, wB] = false)) ∧
    ((match fragmentsModule id rEnv 10 [rGetUser, rGetNode] with
      | .ok out => (match out.fragments with
            | some fo => (fo.classes.map (·.name)).contains "UserCard"
            | none => false)
          && out.excluded.contains "NodeInfo" && !out.excluded.contains "UserCard"
          && out.ops.any (fun g => g.out.classes.any fun c => c.name == "GetUserUser" && c.bases == ["UserCard"])
      | .error _ => false) = true ∧
      (trigUnpackedAndInherited id rEnv 10 [rGetUser, rGetNode] = false ∧ trigMroConflict id rEnv 10 [rGetUser, rGetNode] = false
      ∧ trigSiblingUnpacks id rEnv 10 [rGetUser, rGetNode] = false)) ∧
    ((match fragmentsModule id iEnv 10 [iGetAccount, iGetNode] with
      | .ok out => (match out.fragments with
            | some fo => (fo.classes.map (·.name)).contains "NodeId"
            | none => false)
          && out.excluded.isEmpty
          && out.ops.any (fun g => g.out.classes.any fun c => c.name == "GetAccountAccount" && c.bases == ["NodeId"])
          && out.ops.any (fun g => g.out.classes.any fun c => c.name == "GetNodeNode" && c.bases == ["NodeId"])
      | .error _ => false) = true ∧
      (trigUnpackedAndInherited id iEnv 10 [iGetAccount, iGetNode] = false ∧ trigMroConflict id iEnv 10 [iGetAccount, iGetNode] = false
      ∧ trigSiblingUnpacks id iEnv 10 [iGetAccount, iGetNode] = false)) := by
  decide +kernel

theorem wRun : (match fragmentsModule id wEnv 10 [wA, wB] with
      | .ok out => out.fragments.isNone && (out.ops.any fun g => g.out.st.mixins.contains "AF")
      | .error _ => false) = true ∧ trigUnpackedAndInherited id wEnv 10 [wA, wB] = true := evaluated.1

/-- finding C08-F1: B's class inherits from `AF`, no fragments module is written at all -/
theorem fragment_always_emitted_false : ¬ FragmentAlwaysEmitted :=
  not_emitted_refutes id Order.enumOK_id wEnv 10 [wA, wB] "AF" wRun.1

example : trigUnpackedAndInherited id wEnv 10 [wA, wB] = true := wRun.2

theorem uRun : trigMroConflict id uEnv 10 [uA] = true ∧ trigUnpackedAndInherited id uEnv 10 [uA] = false := evaluated.2.1

/-- finding C08-F3: CPython cannot linearise `AUser(UserBasic, UserFull)` -/
theorem modules_always_load_false : ¬ ModulesAlwaysLoad := mroConflict_refutes id Order.enumOK_id uEnv 10 [uA] uRun.1

example : trigMroConflict id uEnv 10 [uA] = true := uRun.1
example : trigUnpackedAndInherited id uEnv 10 [uA] = false := uRun.2

theorem sRun : trigSiblingUnpacks id sEnv 10 [sA] = true ∧
    (trigUnpackedAndInherited id sEnv 10 [sA] = false ∧ trigMroConflict id sEnv 10 [sA] = false) := evaluated.2.2.1

/-- finding C08-F4: `QFAnimalAnimal(AF)` but `QFAnimalDog(BaseModel)` for the same selection set -/
theorem siblings_inherit_alike_false : ¬ InstanceAtEveryRuntimeType :=
  siblingUnpacks_refutes id Order.enumOK_id sEnv 10 [sA] sRun.1

example : trigSiblingUnpacks id sEnv 10 [sA] = true := sRun.1
example : trigUnpackedAndInherited id sEnv 10 [sA] = false ∧ trigMroConflict id sEnv 10 [sA] = false := sRun.2

/-- **the full-strength statement is false on the pinned tree** -/
theorem C08_full_false : ¬ C08_full := fun h => fragment_always_emitted_false h.1

/-- the complement of the finding triggers (all three decidable, computed by the model) -/
def Supported_08 (e : Order.EnumOracle) (env : Env) (fuel : Nat) (ops : List Operation) : Prop :=
  ¬ (trigUnpackedAndInherited e env fuel ops = true ∨ trigMroConflict e env fuel ops = true ∨
     trigSiblingUnpacks e env fuel ops = true)

theorem Supported_08.triggers {e : Order.EnumOracle} {env : Env} {fuel : Nat} {ops : List Operation}
    (hs : Supported_08 e env fuel ops) : trigUnpackedAndInherited e env fuel ops = false ∧
      trigMroConflict e env fuel ops = false ∧ trigSiblingUnpacks e env fuel ops = false := by
  simpa only [Supported_08, not_or, Bool.not_eq_true] using hs

/-- **C08 outside the finding triggers**: for every enumeration oracle, schema, validated document (no fragment cycles;
    any number of fragments and operations, in any order) for which generation succeeds: every fragment an operation class inherits from has its class in the
    emitted fragments module; that module's class statements all find their bases bound, in the emitted order;
    every base of every operation class is `BaseModel`, an imported `@mixin` class or such a fragment class;
    CPython can linearise every class of every module; and the classes generated for one selection set inherit alike
    (`siblingsInheritAlike`, in every operation module and in the fragments module). -/
theorem C08_partial (e : Order.EnumOracle) (he : Order.EnumOK e) (env : Env) (fuel : Nat) (ops : List Operation)
    (out : PackageOut) (h : fragmentsModule e env fuel ops = .ok out)
    (hv : NoFragmentCycles env) (hs : Supported_08 e env fuel ops) :
    (∀ g ∈ out.ops, ∀ n ∈ g.out.st.mixins, ∃ fo, out.fragments = some fo ∧ pascal n ∈ fo.classes.map (·.name)) ∧
    (∀ fo, out.fragments = some fo → Loads (external fo) (classTable fo.classes)) ∧
    (∀ g ∈ out.ops, ∀ c ∈ g.out.classes, ∀ b ∈ c.bases,
      b = "BaseModel" ∨ (∃ n ∈ g.out.st.mixins, b = pascal n) ∨ (∃ p ∈ g.out.st.mixinImports, b = p.2)) ∧
    (∀ t ∈ moduleTables out, mroOK t = true) ∧
    ((∀ g ∈ out.ops, siblingsInheritAlike env g.out.classes g.out.st.mixins = true) ∧
     (∀ fo, out.fragments = some fo → siblingsInheritAlike env fo.classes (fo.deps.flatMap (·.2)) = true)) := by
  obtain ⟨hF1, hF3, hF4⟩ := hs.triggers
  obtain ⟨acc, hacc, hops, _, hcase⟩ := fragmentsModule_ok e env fuel ops out h
  have hfromOps := addOperations_from env fuel ops acc hacc
  have hgoodOps : ∀ g ∈ acc.ops, (∀ n ∈ g.out.st.mixins, GoodMixin env n) ∧ BasesOK g.out.st g.out.classes := by
    intro g hg
    obtain ⟨o, marks, hgen⟩ := hfromOps g hg
    exact generate_spec env fuel _ marks _ hgen
  refine ⟨?_, ?_, ?_, ?_, ?_⟩
  · intro g hg n hn
    rw [hops] at hg
    have hgood := (hgoodOps g hg).1 n hn
    have hrem : n ∈ remaining env acc.unpacked :=
      mem_remaining.mpr ⟨goodMixin_mem_frags hgood, not_unpacked_of_inherited hacc hF1 (Or.inl (List.mem_flatMap.mpr ⟨g, hg, hn⟩))⟩
    rcases hcase with ⟨hemp, _⟩ | ⟨_, fo, hgf, hfo⟩
    · cases hr : remaining env acc.unpacked with
      | nil => rw [hr] at hrem; cases hrem
      | cons _ _ => rw [hr] at hemp; cases hemp
    · exact ⟨fo, hfo, fragments_emitted e he env fuel _ acc.marks fo hgf n ((he _).mem_iff.mpr hrem) hgood⟩
  · intro fo hfo
    rcases hcase with ⟨_, hnone⟩ | ⟨_, fo', hgf, hfo'⟩
    · rw [hnone] at hfo; cases hfo
    · rw [hfo'] at hfo
      injection hfo with hfo
      subst hfo
      obtain ⟨rk, hrk⟩ := deps_acyclic_of_valid e env hv fuel _ acc.marks fo' hgf
      exact fragments_load e he env fuel _ acc.marks fo' hgf rk hrk
  · intro g hg
    rw [hops] at hg
    exact (hgoodOps g hg).2
  · exact (trigMroConflict_eq_false_iff h).mp hF3
  · exact (trigSiblingUnpacks_eq_false_iff h).mp hF4

/-- … and outside the trigger of C08-F1 generation never dies with `KeyError` inside `FragmentsGenerator`
    (`dependencies_dict[dep]`, `fragments_definitions[name]`, `class_defs_dict[name]` all find their key): the
    second way finding C08-F1 shows cannot happen there either. -/
theorem C08_partial_no_keyerror (e : Order.EnumOracle) (he : Order.EnumOK e) (env : Env) (fuel : Nat) (ops : List Operation)
    (hs : Supported_08 e env fuel ops) (k : String) :
    fragmentsModule e env fuel ops ≠ .error (.order (.keyError k)) := by
  exact no_keyError_outside_trigger e he env fuel ops hs.triggers.1 k

theorem kRun : (match fragmentsModule id kEnv 10 [kA] with
    | .error (.order (.keyError k)) => k == "AF"
    | _ => false) = true ∧ trigUnpackedAndInherited id kEnv 10 [kA] = true := evaluated.2.2.2.1

example : (match fragmentsModule id kEnv 10 [kA] with
    | .error (.order (.keyError k)) => k == "AF"
    | _ => false) = true := kRun.1

example : trigUnpackedAndInherited id kEnv 10 [kA] = true := kRun.2

/-! ### non-vacuity -/

example : Qualifies wEnv wAF "Animal" := ⟨by rfl, rfl, by decide, by decide⟩
example : Qualifies okEnv wDF "Dog" := ⟨by rfl, rfl, by decide, by decide⟩

theorem okRun : (match fragmentsModule id okEnv 10 [okC, wB] with
    | .ok out => (out.fragments.map fun fo => fo.order) == some ["AF", "DF"] && out.excluded.isEmpty
        && out.ops.all (fun g => !g.out.st.mixins.isEmpty)
    | .error _ => false) = true ∧
    (trigUnpackedAndInherited id okEnv 10 [okC, wB] = false ∧ trigMroConflict id okEnv 10 [okC, wB] = false
    ∧ trigSiblingUnpacks id okEnv 10 [okC, wB] = false) := evaluated.2.2.2.2.1

/-- a supported package that really has a fragments module with inherited classes -/
example : (match fragmentsModule id okEnv 10 [okC, wB] with
    | .ok out => (out.fragments.map fun fo => fo.order) == some ["AF", "DF"] && out.excluded.isEmpty
        && out.ops.all (fun g => !g.out.st.mixins.isEmpty)
    | .error _ => false) = true := okRun.1

example : trigUnpackedAndInherited id okEnv 10 [okC, wB] = false ∧ trigMroConflict id okEnv 10 [okC, wB] = false
    ∧ trigSiblingUnpacks id okEnv 10 [okC, wB] = false := okRun.2

example : NoFragmentCycles okEnv := ⟨fun _ => 0, by
  intro n f hf m hm
  unfold findFragment? at hf
  have hmem := List.mem_of_find?_eq_some hf
  simp only [okEnv, List.mem_cons, List.not_mem_nil, or_false] at hmem
  rcases hmem with rfl | rfl <;> simp [wAF, wDF, selsSpreads, selSpreads] at hm⟩

example : Acyclic [("AF", []), ("DF", [])] := ⟨fun _ => 0, by
  intro n ds m hl hm
  simp only [Order.lookup] at hl
  split at hl
  · cases hl; cases hm
  · split at hl
    · cases hl; cases hm
    · cases hl⟩

/-! ### a base that spreads a carrier (regression witness corpus/C08/C08-R1-base-spreads-inline-carrier.json) -/

example : Qualifies rEnv rUserCard "User" :=
  qualifies_whatever_it_spreads rEnv rUserCard (by rfl) (by decide) (by
    intro s hs
    simp only [rUserCard, List.mem_cons, List.not_mem_nil, or_false] at hs
    rcases hs with rfl | rfl
    · exact Or.inr ⟨_, _, rfl⟩
    · exact Or.inl ⟨_, _, _, _, _, rfl⟩)
example : rNodeInfo.sel.any isInlineSel = true := by decide
example : unpackFragment rEnv rUserCard (some "User") = false ∧ unpackFragment rEnv rNodeInfo (some "Node") = true := by decide

theorem rRun : (match fragmentsModule id rEnv 10 [rGetUser, rGetNode] with
    | .ok out => (match out.fragments with
          | some fo => (fo.classes.map (·.name)).contains "UserCard"
          | none => false)
        && out.excluded.contains "NodeInfo" && !out.excluded.contains "UserCard"
        && out.ops.any (fun g => g.out.classes.any fun c => c.name == "GetUserUser" && c.bases == ["UserCard"])
    | .error _ => false) = true ∧
    (trigUnpackedAndInherited id rEnv 10 [rGetUser, rGetNode] = false ∧ trigMroConflict id rEnv 10 [rGetUser, rGetNode] = false
    ∧ trigSiblingUnpacks id rEnv 10 [rGetUser, rGetNode] = false) := evaluated.2.2.2.2.2.1

/-- on the witness: `UserCard` has its class in the fragments module, `GetUserUser(UserCard)` inherits from it, only the
    carrier `NodeInfo` is unpacked, and the package lies outside every finding trigger -/
example : (match fragmentsModule id rEnv 10 [rGetUser, rGetNode] with
    | .ok out => (match out.fragments with
          | some fo => (fo.classes.map (·.name)).contains "UserCard"
          | none => false)
        && out.excluded.contains "NodeInfo" && !out.excluded.contains "UserCard"
        && out.ops.any (fun g => g.out.classes.any fun c => c.name == "GetUserUser" && c.bases == ["UserCard"])
    | .error _ => false) = true := rRun.1

example : trigUnpackedAndInherited id rEnv 10 [rGetUser, rGetNode] = false ∧ trigMroConflict id rEnv 10 [rGetUser, rGetNode] = false
    ∧ trigSiblingUnpacks id rEnv 10 [rGetUser, rGetNode] = false := rRun.2

/-! ### a fragment on an interface spread inside `... on <that interface>` at an object position -/

example : Qualifies iEnv iNodeId "Node" := ⟨by rfl, rfl, by decide, by decide⟩
example : inlineFragmentRootType iEnv "Node" "Account" = some "Node" := by decide
example : inlineFragmentRootType iEnv "Account" "Node" = none := by decide
example : Inherits iEnv "NodeId" [.field none "name" [] 0 [], .inline (some "Node") [] 3 [.spread "NodeId" []]] "Account" :=
  Inherits.throughInline (cond := "Node") (rt := "Node") (dirs := []) (sid := 3) (sub := [.spread "NodeId" []])
    (List.mem_cons_of_mem _ List.mem_cons_self) (by decide)
    (Inherits.direct (dirs := []) (f := iNodeId) List.mem_cons_self (by rfl) (by decide))

theorem iRun : (match fragmentsModule id iEnv 10 [iGetAccount, iGetNode] with
    | .ok out => (match out.fragments with
          | some fo => (fo.classes.map (·.name)).contains "NodeId"
          | none => false)
        && out.excluded.isEmpty
        && out.ops.any (fun g => g.out.classes.any fun c => c.name == "GetAccountAccount" && c.bases == ["NodeId"])
        && out.ops.any (fun g => g.out.classes.any fun c => c.name == "GetNodeNode" && c.bases == ["NodeId"])
    | .error _ => false) = true ∧
    (trigUnpackedAndInherited id iEnv 10 [iGetAccount, iGetNode] = false ∧ trigMroConflict id iEnv 10 [iGetAccount, iGetNode] = false
    ∧ trigSiblingUnpacks id iEnv 10 [iGetAccount, iGetNode] = false) := evaluated.2.2.2.2.2.2

/-- on the witness: `GetAccountAccount(NodeId)` and `GetNodeNode(NodeId)`, nothing is unpacked, `NodeId` has its class in
    the fragments module, and the package lies outside every finding trigger -/
example : (match fragmentsModule id iEnv 10 [iGetAccount, iGetNode] with
    | .ok out => (match out.fragments with
          | some fo => (fo.classes.map (·.name)).contains "NodeId"
          | none => false)
        && out.excluded.isEmpty
        && out.ops.any (fun g => g.out.classes.any fun c => c.name == "GetAccountAccount" && c.bases == ["NodeId"])
        && out.ops.any (fun g => g.out.classes.any fun c => c.name == "GetNodeNode" && c.bases == ["NodeId"])
    | .error _ => false) = true := iRun.1

example : trigUnpackedAndInherited id iEnv 10 [iGetAccount, iGetNode] = false ∧ trigMroConflict id iEnv 10 [iGetAccount, iGetNode] = false
    ∧ trigSiblingUnpacks id iEnv 10 [iGetAccount, iGetNode] = false := iRun.2

end Ariadne.C08
