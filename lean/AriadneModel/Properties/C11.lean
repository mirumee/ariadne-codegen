/-
  C11 — Requests are well-formed, uploads follow the multipart spec, clients agree.

  Statements + final proofs; the model is Model/BaseClient.lean (one function for the four bundled
  clients — the tie to the four real files is the correspondence run plus the 4-way normalised-AST
  comparison of harness/c11.py), the vocabulary is Model/BaseClientTree.lean, lemmas are in
  Proofs/BaseClient.lean, Proofs/BaseClientHeap.lean, Proofs/BaseClientObjects.lean.

  Quantification: every query string, operation name, variables tree (`PV`: no bound on size, depth,
  number or sharing of Upload objects), caller headers, other keyword arguments, client
  configuration (four kinds × tracer present/absent), and every schedule of concurrent calls.

  Reading decisions (recorded in manifest.d/C11.json):
    * `validCall`: the `PV` value encodes a Python value of the quantifier — dict keys unique,
      pydantic dumps contain no model instance, every leaf that is not an Upload is serialisable
      by `json.dumps(default=to_jsonable_python)`, UNSET only as a top-level variable value,
      the caller's header dict does not name one HTTP field twice.
    * "the variables" of the multipart laws is the *ideal tree* `idealVars`: every pydantic
      model, wherever it sits, stands for its `model_dump(by_alias=True, exclude_unset=True)`.

  Besides the client object, the objects `execute` is GIVEN are state that later calls see (one
  headers dict / variables dict / Upload handed to several calls, on one client or on several of the
  four): section 3b states the frame for them on the reference-level model `executeH`
  (Model/BaseClientHeap.lean) — every call leaves every caller-owned dict as it was, so sequences and
  interleavings of calls that SHARE argument objects send, per call, the request of the call run alone.

  The `variables` argument is a GRAPH of list/dict objects (one nested dict referenced from two places; the
  same objects handed to a second call) and Upload objects have an identity apart from their attributes:
  section 3c states the property's "calls do not affect each other" and "each distinct Upload is sent
  once" on the object-level model `executeO` (Model/BaseClientObjects.lean: `_convert_value`,
  `separate_files` statement by statement on a store of container objects, any aliasing, any depth) —
  every object that existed before a call holds afterwards what it held, so retries / sequences /
  interleavings on shared objects send the stand-alone requests — and section 3d ties the de-duplication
  `obj in files_list` to what `==` means for `class Upload` of the working tree
  (Generated/UploadTables.lean): identity, whatever the attributes; under ANY `==` that equates two
  different Upload objects one of them is not sent.

  Two findings make the property false as written (`C11_full_false`); outside their triggers it is
  proved (`C11_partial`):
    C11-F1 `trigContentTypeCase`        a caller Content-Type header in another spelling does not win
    C11-F2 `trigUploadInModelBelowDict` an Upload inside a model below a raw dict is not extracted
-/
import AriadneModel.Proofs.BaseClientHeap
import AriadneModel.Proofs.BaseClientObjects
import AriadneModel.Generated.UploadTables
import AriadneModel.Proofs.Schedule

namespace Ariadne.C11
open Ariadne Ariadne.BaseClient

/-- what a call puts on the wire -/
def req (cl : Client) (c : Call) : Request := (execute cl c).2

/-- the payload with exactly the keys `query`, `operationName`, `variables` -/
def payload (c : Call) (vs : List (String × J)) : J :=
  .obj [("query", .str c.query), ("operationName", opJ c), ("variables", .obj vs)]

def isJson : Request → Bool | .json .. => true | _ => false
def isMultipart : Request → Bool | .multipart .. => true | _ => false
def isError : Request → Bool | .serializationError => true | _ => false

/-- the entries `(files_list, files_map)` of a call -/
def entries (c : Call) : List Entry := (processVariables c.variables).2

/-! ## 1. `separate_files`, for every tree (induction over `PV`) -/

/-- The returned tree is the input with every Upload replaced by `None` and *nothing else changed*,
    whatever the path prefix and the files found so far. -/
theorem sep_returns_nulled (base : String) (v : PV) (st : List Entry) :
    (sep base v st).1 = nullUploads v := sep_fst base v st

/-- After `separate_files` no Upload is left in `operations`. -/
theorem sep_no_upload_left (base : String) (v : PV) (st : List Entry) :
    noUpload (sep base v st).1 = true ∧ upos (sep base v st).1 = [] := by
  rw [sep_fst]
  exact ⟨noUpload_nullUploads v, upos_of_noUpload _ (noUpload_nullUploads v)⟩

/-- Unrelated positions are unchanged: whatever sat at a path still sits there (with the Uploads
    inside it nulled); in particular every Upload position holds `None`. -/
theorem unrelated_positions_unchanged (base : String) (v w : PV) (st : List Entry) (q : Path)
    (h : pvAt? q v = some w) : pvAt? q (sep base v st).1 = some (nullUploads w) := by
  rw [sep_fst]; exact pvAt_nullUploads q v w h

theorem upload_position_nulled (base : String) (v : PV) (st : List Entry) (q : Path) (u : Nat)
    (hu : uniq v = true) (h : (q, u) ∈ upos v) : pvAt? q (sep base v st).1 = some .none := by
  have := unrelated_positions_unchanged base v (.upload u) st q ((upos_at v hu q u).mp h)
  simpa [nullUploads] using this

/-- Upload positions are exactly the paths at which the original value is that Upload. -/
theorem upload_positions_iff (v : PV) (hu : uniq v = true) (q : Path) (u : Nat) :
    (q, u) ∈ upos v ↔ pvAt? q v = some (.upload u) := upos_at v hu q u

/-- `map` (DESIGN.md: `multipart_null_and_map`; the null half is `upload_position_nulled`): starting from no files, the entry
    of Upload `u` lists exactly the rendered paths at which the original value is `u`, in traversal order. -/
theorem multipart_null_and_map (base : String) (v : PV) (u : Nat) :
    pathsOf u (sep base v []).2 = ((upos v).filter (fun pu => pu.2 = u)).map (fun pu => render base pu.1) := by
  rw [sep_snd]; exact pathsOf_collect base u (upos v)

theorem map_lists_exactly_upload_paths (base : String) (v : PV) (hu : uniq v = true) (u : Nat) (p : String) :
    p ∈ pathsOf u (sep base v []).2 ↔ ∃ q, pvAt? q v = some (.upload u) ∧ render base q = p := by
  rw [multipart_null_and_map]
  simp only [List.mem_map, List.mem_filter, decide_eq_true_eq, Prod.exists]
  constructor
  · rintro ⟨q, u', ⟨hm, rfl⟩, rfl⟩
    exact ⟨q, (upos_at v hu q u').mp hm, rfl⟩
  · rintro ⟨q, hq, rfl⟩
    exact ⟨q, u, ⟨(upos_at v hu q u).mpr hq, rfl⟩, rfl⟩

/-- Each distinct Upload is sent once: `files_list` is the distinct Uploads in first-occurrence order. -/
theorem each_upload_once (base : String) (v : PV) :
    ids (sep base v []).2 = firstOcc ((upos v).map (·.2)) ∧ (ids (sep base v []).2).Nodup := by
  rw [sep_snd, ids_collect]
  exact ⟨rfl, firstOcc_nodup _⟩

/-- …and an Upload is in `files_list` iff it occurs in the tree. -/
theorem upload_sent_iff_occurs (base : String) (v : PV) (u : Nat) :
    u ∈ ids (sep base v []).2 ↔ ∃ q, (q, u) ∈ upos v := by
  rw [(each_upload_once base v).1, firstOcc_mem]
  simp

/-- Every entry of `files_map` belongs to exactly one file and carries all of that file's paths. -/
theorem entry_paths (base : String) (v : PV) (e : Entry) (h : e ∈ (sep base v []).2) :
    e.paths = ((upos v).filter (fun pu => pu.2 = e.id)).map (fun pu => render base pu.1) := by
  rw [← multipart_null_and_map]
  exact (pathsOf_of_mem (each_upload_once base v).2 h).symm

/-- Upload positions are pairwise distinct (no path is listed twice, within or across entries). -/
theorem upload_positions_distinct (v : PV) (hu : uniq v = true) : ((upos v).map (·.1)).Nodup := upos_nodup v hu

/-- Rendering is injective on paths whose keys are GraphQL names (no '.', not a numeral) … -/
theorem render_injective (base : String) (q q' : Path) (h : pathOk q = true) (h' : pathOk q' = true)
    (e : render base q = render base q') : q = q' := render_inj base q q' h h' e

/-- … so the dotted strings listed in `map` are pairwise distinct as well. -/
theorem map_paths_pairwise_distinct (base : String) (v : PV) (hu : uniq v = true) (hk : keysOk v = true) :
    ((upos v).map (fun pu => render base pu.1)).Nodup := rendered_nodup base v hu hk

theorem entry_paths_nodup (base : String) (v : PV) (hu : uniq v = true) (hk : keysOk v = true) (e : Entry)
    (h : e ∈ (sep base v []).2) : e.paths.Nodup := by
  rw [entry_paths base v e h]
  have := rendered_nodup base v hu hk
  exact (List.Pairwise.sublist (List.Sublist.map _ List.filter_sublist) this)

/-- `files` and `map` handed to httpx are these entries position by position: the i-th file part is
    named `str(i)` and carries Upload `entries[i].id`; the i-th `map` member has key `str(i)` and
    lists `entries[i].paths`. -/
theorem files_and_map_aligned (st : List Entry) (i : Nat) :
    (filesOf 0 st)[i]? = st[i]?.map (fun e => (toString i, e.id)) ∧
    (mapOf 0 st)[i]? = st[i]?.map (fun e => (toString i, J.arr (e.paths.map J.str))) ∧
    (filesOf 0 st).length = st.length ∧ (mapOf 0 st).length = st.length := by
  refine ⟨?_, ?_, filesOf_length 0 st, mapOf_length 0 st⟩
  · simpa using filesOf_get 0 i st
  · simpa using mapOf_get 0 i st

/-! ## 2. `execute` -/

/-- What `execute` computes, in closed form (tracer on or off, any of the four kinds). -/
theorem execute_closed (cl : Client) (c : Call) :
    req cl c =
      match toJsonKvs (nullUploadsKvs (treeOf c.variables)) with
      | none => .serializationError
      | some vs =>
        if (uposKvs (treeOf c.variables)).isEmpty then
          .json cl.url (payload c vs) (dictUpdate [("Content-Type", "application/json")] (c.headers.getD [])) c.kwargs
        else
          .multipart cl.url (payload c vs) (.obj (mapOf 0 (entries c))) (filesOf 0 (entries c)) c.headers c.kwargs := by
  unfold req entries
  rw [execute_snd]
  unfold executePlain
  simp only [processVariables_eq, collect_isEmpty]
  cases h : toJsonKvs (nullUploadsKvs (treeOf c.variables)) with
  | none => simp [executeJson, executeMultipart, body, h]
  | some vs => split <;> simp [executeJson, executeMultipart, body, h, payload]

theorem req_error (cl : Client) (c : Call) (h : toJsonKvs (nullUploadsKvs (treeOf c.variables)) = none) :
    req cl c = .serializationError := by
  rw [execute_closed, h]

theorem req_json (cl : Client) (c : Call) (vs : List (String × J))
    (h : toJsonKvs (nullUploadsKvs (treeOf c.variables)) = some vs) (hu : uposKvs (treeOf c.variables) = []) :
    req cl c = .json cl.url (payload c vs)
      (dictUpdate [("Content-Type", "application/json")] (c.headers.getD [])) c.kwargs := by
  rw [execute_closed, h]; simp [hu]

theorem req_multipart (cl : Client) (c : Call) (vs : List (String × J))
    (h : toJsonKvs (nullUploadsKvs (treeOf c.variables)) = some vs) (hu : uposKvs (treeOf c.variables) ≠ []) :
    req cl c = .multipart cl.url (payload c vs) (.obj (mapOf 0 (entries c))) (filesOf 0 (entries c)) c.headers c.kwargs := by
  rw [execute_closed, h]
  have : ¬ (uposKvs (treeOf c.variables)).isEmpty = true := by
    cases h' : uposKvs (treeOf c.variables) with
    | nil => exact absurd h' hu
    | cons _ _ => simp
  simp [this]

theorem req_cases (cl : Client) (c : Call) :
    (toJsonKvs (nullUploadsKvs (treeOf c.variables)) = none ∧ req cl c = .serializationError) ∨
    (∃ vs, toJsonKvs (nullUploadsKvs (treeOf c.variables)) = some vs ∧ uposKvs (treeOf c.variables) = [] ∧
      req cl c = .json cl.url (payload c vs) (dictUpdate [("Content-Type", "application/json")] (c.headers.getD [])) c.kwargs) ∨
    (∃ vs, toJsonKvs (nullUploadsKvs (treeOf c.variables)) = some vs ∧ uposKvs (treeOf c.variables) ≠ [] ∧
      req cl c = .multipart cl.url (payload c vs) (.obj (mapOf 0 (entries c))) (filesOf 0 (entries c)) c.headers c.kwargs) := by
  cases h : toJsonKvs (nullUploadsKvs (treeOf c.variables)) with
  | none => exact Or.inl ⟨rfl, req_error cl c h⟩
  | some vs =>
    by_cases hu : uposKvs (treeOf c.variables) = []
    · exact Or.inr (Or.inl ⟨vs, rfl, hu, req_json cl c vs h hu⟩)
    · exact Or.inr (Or.inr ⟨vs, rfl, hu, req_multipart cl c vs h hu⟩)

/-- `operations_keys`: whatever is sent carries exactly `query`, `operationName`, `variables`
    (with the call's query and operation name, `variables` an object). -/
theorem operations_keys (cl : Client) (c : Call) :
    match req cl c with
    | .json _ b _ _ => ∃ vs, b = payload c vs
    | .multipart _ ops _ _ _ _ => ∃ vs, ops = payload c vs
    | .serializationError => True := by
  rcases req_cases cl c with ⟨_, h⟩ | ⟨vs, _, _, h⟩ | ⟨vs, _, _, h⟩ <;> rw [h]
  · trivial
  · exact ⟨vs, rfl⟩
  · exact ⟨vs, rfl⟩

/-- `json_when_no_upload`: what is sent is JSON exactly when the tree `separate_files` walks holds no Upload. -/
theorem json_when_no_upload (cl : Client) (c : Call) :
    (isMultipart (req cl c) = true → uposKvs (treeOf c.variables) ≠ []) ∧
    (isJson (req cl c) = true → uposKvs (treeOf c.variables) = []) := by
  rcases req_cases cl c with ⟨_, h⟩ | ⟨vs, _, hu, h⟩ | ⟨vs, _, hu, h⟩
  · rw [h]; simp [isMultipart, isJson]
  · rw [h]; simp [isMultipart, isJson, hu]
  · rw [h]; simp [isMultipart, isJson, hu]

/-- `variables` None, `{}` and all-UNSET give `"variables": {}` in a JSON request. -/
theorem empty_variables_give_empty_object (cl : Client) (c : Call)
    (h : c.variables = none ∨ c.variables = some [] ∨ ∀ kv ∈ c.variables.getD [], kv.2 = .unset) :
    req cl c = .json cl.url (payload c []) (dictUpdate [("Content-Type", "application/json")] (c.headers.getD [])) c.kwargs := by
  have ht : treeOf c.variables = [] := by
    rcases h with h | h | h
    · simp [h, treeOf, convertDict]
    · simp [h, treeOf, convertDict]
    · unfold treeOf
      generalize c.variables.getD [] = kvs at h
      induction kvs with
      | nil => rfl
      | cons kv rest ih =>
        obtain ⟨k, x⟩ := kv
        have hx : x = .unset := h (k, x) (by simp)
        subst hx
        simpa [convertDict, PV.isUnset] using ih (fun kv hkv => h kv (by simp [hkv]))
  exact req_json cl c [] (by simp [ht, nullUploadsKvs, toJsonKvs]) (by simp [ht, uposKvs])

/-- The request is an exception exactly when something that is not an Upload cannot be serialised. -/
theorem error_iff_unserialisable (cl : Client) (c : Call) :
    isError (req cl c) = true ↔ toJsonKvs (nullUploadsKvs (treeOf c.variables)) = none := by
  rcases req_cases cl c with ⟨h0, h⟩ | ⟨vs, h0, _, h⟩ | ⟨vs, h0, _, h⟩ <;> rw [h, h0] <;> simp [isError]

/-- `header_merge_caller_wins` (Python dict level): the JSON request's headers are
    `Content-Type: application/json` updated with the caller's dict — every caller key carries the
    caller's value, Content-Type is the caller's if given under exactly that key, and no other key appears. -/
theorem header_merge_caller_wins (cl : Client) (c : Call) (url : String) (b : J) (hs : List (String × String))
    (kw : List (String × J)) (h : req cl c = .json url b hs kw)
    (hd : distinct (headerKeys (c.headers.getD [])) = true) :
    url = cl.url ∧ kw = c.kwargs ∧
    (∀ k v, (k, v) ∈ c.headers.getD [] → lookupS k hs = some v) ∧
    lookupS "Content-Type" hs = some ((lookupS "Content-Type" (c.headers.getD [])).getD "application/json") ∧
    headerKeys hs = "Content-Type" :: headerKeys (dropKey "Content-Type" (c.headers.getD [])) := by
  rcases req_cases cl c with ⟨_, h'⟩ | ⟨vs, _, _, h'⟩ | ⟨vs, _, _, h'⟩ <;> rw [h'] at h
  · cases h
  · simp only [Request.json.injEq] at h
    obtain ⟨h1, _, h3, h4⟩ := h
    have hc := dictUpdate_closed "Content-Type" (c.headers.getD []) "application/json" [] hd (by simp [headerKeys])
    rw [hc] at h3
    subst h3
    refine ⟨h1.symm, h4.symm, ?_, by simp [lookupS], by simp [headerKeys]⟩
    intro k v hm
    by_cases hk : k = "Content-Type"
    · subst hk; simp [lookupS, lookupS_of_mem hd hm]
    · have : ¬ "Content-Type" = k := fun e => hk e.symm
      simp [lookupS, this, lookupS_dropKey _ hk, lookupS_of_mem hd hm]
  · cases h

/-- A multipart request passes the caller's keyword arguments (headers included) through untouched. -/
theorem multipart_passes_kwargs (cl : Client) (c : Call) (url : String) (ops mp : J) (files : List (String × Nat))
    (hs : Option (List (String × String))) (kw : List (String × J))
    (h : req cl c = .multipart url ops mp files hs kw) :
    url = cl.url ∧ hs = c.headers ∧ kw = c.kwargs ∧ mp = .obj (mapOf 0 (entries c)) ∧ files = filesOf 0 (entries c) := by
  rcases req_cases cl c with ⟨_, h'⟩ | ⟨vs, _, _, h'⟩ | ⟨vs, _, _, h'⟩ <;> rw [h'] at h
  · cases h
  · cases h
  · simp only [Request.multipart.injEq] at h
    exact ⟨h.1.symm, h.2.2.2.2.1.symm, h.2.2.2.2.2.symm, h.2.2.1.symm, h.2.2.2.1.symm⟩

/-! ## 3. the four clients, telemetry, frame, interleavings -/

/-- `telemetry_same_request`: tracer present or absent, plain or OpenTelemetry twin, sync or async —
    the request (or the exception) is the same. -/
theorem telemetry_same_request (cl cl' : Client) (c : Call) (h : cl'.url = cl.url) : req cl' c = req cl c := by
  unfold req; rw [execute_snd, execute_snd, executePlain_url cl cl' c h]

/-- `execute_frame`: `execute` does not modify the client object. -/
theorem execute_frame (cl : Client) (c : Call) : (execute cl c).1 = cl := execute_fst cl c

/-- A call in flight: not started, request prepared (suspended at `await http_client.post`), done. -/
inductive Phase where
  | todo (c : Call)
  | prepared (r : Request)
  | done (r : Request)

structure World where
  client : Client
  tasks : List Phase
  wire : List Request          -- what the transport has seen, in order

/-- one scheduler step: task `i` advances by one phase (anything else is a no-op) -/
def step (w : World) (i : Nat) : World :=
  match w.tasks[i]? with
  | some (.todo c) => { client := (execute w.client c).1, tasks := w.tasks.set i (.prepared (execute w.client c).2), wire := w.wire }
  | some (.prepared r) => { w with tasks := w.tasks.set i (.done r), wire := w.wire ++ [r] }
  | _ => w

def runSchedule (w : World) (sched : List Nat) : World := sched.foldl step w

def start (cl : Client) (calls : List Call) : World := { client := cl, tasks := calls.map .todo, wire := [] }

/-- phase `ph` of task `i` is consistent with running call `i` alone on the untouched client -/
def PhaseOk (cl : Client) (c : Call) : Phase → Prop
  | .todo c' => c' = c
  | .prepared r => r = req cl c
  | .done r => r = req cl c

theorem step_spec (cl : Client) (calls : List Call) :
    Schedule.StepSpec World.tasks World.wire step (fun w => w.client = cl) (PhaseOk cl) (fun c r => r = req cl c)
      calls := by
  intro w i h1
  unfold step
  cases hp : w.tasks[i]? with
  | none => exact .inl rfl
  | some ph =>
    cases ph with
    | done r => exact .inl rfl
    | todo c =>
      exact .inr ⟨_, _, rfl, rfl, fun c' _ hc' =>
        ⟨by simp [execute_fst, h1], by subst hc'; simp [PhaseOk, req, h1], fun _ hr => .inl hr⟩⟩
    | prepared r =>
      exact .inr ⟨_, _, rfl, rfl, fun c _ hc => ⟨h1, hc, fun r' hr' =>
        (List.mem_append.mp hr').imp id fun hr' => by rw [List.mem_singleton.mp hr']; exact hc⟩⟩

/-- `interleave_commutes`: for EVERY schedule of the steps of any number of concurrent calls on one
    client — any order, any interleaving, unfinished calls allowed — the client object is unchanged,
    each call that got as far as preparing or sending its request prepared/sent exactly the request
    it sends when run alone, and the transport saw nothing but such requests. -/
theorem interleave_commutes (cl : Client) (calls : List Call) (sched : List Nat) :
    let w := runSchedule (start cl calls) sched
    w.client = cl ∧
    (∀ (i : Nat) c r, calls[i]? = some c →
      (w.tasks[i]? = some (Phase.done r) ∨ w.tasks[i]? = some (Phase.prepared r)) → r = req cl c) ∧
    (∀ r ∈ w.wire, ∃ c ∈ calls, r = req cl c) := by
  obtain ⟨h1, h3, h4⟩ :=
    Schedule.schedule (step_spec cl calls) Phase.todo (fun _ => rfl) (start cl calls) rfl rfl rfl sched
  exact ⟨h1, fun i c r hc hp => hp.elim (h3 i c _ hc) (h3 i c _ hc), h4⟩

/-- sequential calls: the i-th request depends on the i-th call only -/
theorem sequential_calls_independent (cl : Client) (calls : List Call) :
    (calls.foldl (fun (acc : Client × List Request) c => ((execute acc.1 c).1, acc.2 ++ [(execute acc.1 c).2])) (cl, [])) =
      (cl, calls.map (req cl)) := by
  generalize hf : (fun (acc : Client × List Request) c => ((execute acc.1 c).1, acc.2 ++ [(execute acc.1 c).2])) = f
  have hstep : ∀ pre c, f (cl, pre) c = (cl, pre ++ [req cl c]) := by
    intro pre c; subst hf; simp [execute_fst, req]
  have : ∀ (pre : List Request), calls.foldl f (cl, pre) = (cl, pre ++ calls.map (req cl)) := by
    induction calls with
    | nil => intro pre; simp
    | cons c rest ih => intro pre; rw [List.foldl_cons, hstep, ih]; simp
  simpa using this []

/-! ## 3b. the caller's argument objects: sequences and interleavings of calls that share them -/

/-- The header merge of `_execute_json` on a store of dict objects, for EVERY store and every caller
    reference: it succeeds iff the reference names an object, every object that existed before the
    call is what it was (the merge writes only into the dict it allocated itself), and the dict
    handed to httpx is `{"Content-Type": "application/json"}` updated with the caller's dict. -/
theorem merge_headers_writes_only_own_object (s : Store) (caller : Option Nat) :
    match mergeHeadersS s caller with
    | some (s', a) =>
        s'.take s.length = s ∧ (∀ i, i < s.length → s'[i]? = s[i]?) ∧ a = s.length ∧
        ∃ d, callerDict s caller = some d ∧
          s'[a]? = some (dictUpdate [("Content-Type", "application/json")] (d.getD []))
    | none => callerDict s caller = none := by
  cases caller with
  | none =>
    rw [mergeHeadersS_none]
    refine ⟨by simp, ?_, rfl, none, rfl, by simp [dictUpdate]⟩
    intro i hi; rw [List.getElem?_append_left hi]
  | some a =>
    cases hd : s[a]? with
    | none => rw [mergeHeadersS_dangling s a hd]; simp [callerDict, hd]
    | some d =>
      rw [mergeHeadersS_some s a d hd]
      refine ⟨by simp, ?_, rfl, some d, by simp [callerDict, hd], by simp⟩
      intro i hi; rw [List.getElem?_append_left hi]

/-- The theorem above is about the code, not about the shape of the model: the rewrite
    `headers = kwargs.get("headers", {}); headers.setdefault("Content-Type", "application/json")`
    (write at the caller's address) does not have the frame property. -/
def mergeHeadersInPlace (s : Store) (caller : Nat) : Option (Store × Nat) :=
  match s[caller]? with
  | some d =>
    some (s.set caller (if (headerKeys d).contains "Content-Type" then d else d ++ [("Content-Type", "application/json")]), caller)
  | none => none

theorem inplace_merge_breaks_frame :
    ∃ (s s' : Store) (a : Nat), mergeHeadersInPlace s 0 = some (s', a) ∧ s'.take s.length ≠ s :=
  ⟨[[("Authorization", "Bearer t")]], _, _, rfl, by decide +kernel⟩

/-- `execute_args_frame`: `execute` on references.  Whatever objects the heap holds and whichever of
    them the call names, the client object and EVERY caller-owned dict are afterwards what they were,
    and what is sent is the request of the value-level call (the contents at call time). -/
theorem execute_args_frame (cl : Client) (h : Heap) (c : HCall) (call : Call) (hc : h.call? c = some call) :
    executeH cl h c = .ok cl h (req cl call) := executeH_eq cl h c call hc

/-- …and a reference that names no object is the only way to get no outcome. -/
theorem executeH_illFormed_iff (cl : Client) (h : Heap) (c : HCall) :
    (∃ cl' h' r, executeH cl h c = .ok cl' h' r) ↔ (h.call? c).isSome = true := by
  cases hc : h.call? c with
  | none => simp [executeH_illFormed cl h c hc]
  | some call => simp [executeH_eq cl h c call hc]

/-- `sequence_shared_args`: any number of calls one after the other, each on its own client (any of
    the four kinds, tracer or not), all drawing their `variables` / `headers=` objects from ONE heap in
    any sharing pattern: the heap at the end is the heap at the start, and the i-th call sent exactly
    the request it sends when it is the only call ever made with these objects. -/
theorem sequence_shared_args (h : Heap) (steps : List (Client × HCall)) :
    (runSeqH h steps).1 = h ∧
    (runSeqH h steps).2.length = steps.length ∧
    ∀ (i : Nat) cl c, steps[i]? = some (cl, c) →
      (runSeqH h steps).2[i]? = some ((h.call? c).map (req cl)) := by
  rw [runSeqH_eq]
  refine ⟨rfl, by simp [derefSteps], ?_⟩
  intro i cl c hi
  simp only [derefSteps, List.getElem?_map, hi, Option.map_some]
  rfl

/-- A call in flight whose arguments are references. -/
inductive PhaseH where
  | todo (c : HCall)
  | prepared (r : Request)
  | done (r : Request)

structure WorldH where
  client : Client
  heap : Heap                  -- the caller's objects, shared by all tasks
  tasks : List PhaseH
  wire : List Request

/-- one scheduler step: task `i` advances by one phase; preparing a request runs `executeH` on the
    CURRENT client and the CURRENT heap (whatever earlier steps of other tasks left there) -/
def stepH (w : WorldH) (i : Nat) : WorldH :=
  match w.tasks[i]? with
  | some (.todo c) =>
    match executeH w.client w.heap c with
    | .ok cl' h' r => { client := cl', heap := h', tasks := w.tasks.set i (.prepared r), wire := w.wire }
    | .illFormed => w
  | some (.prepared r) => { w with tasks := w.tasks.set i (.done r), wire := w.wire ++ [r] }
  | _ => w

def runScheduleH (w : WorldH) (sched : List Nat) : WorldH := sched.foldl stepH w

def startH (cl : Client) (h : Heap) (calls : List HCall) : WorldH :=
  { client := cl, heap := h, tasks := calls.map .todo, wire := [] }

def SentAlone (cl : Client) (h : Heap) (c : HCall) (r : Request) : Prop :=
  ∃ call, h.call? c = some call ∧ r = req cl call

def PhaseOkH (cl : Client) (h : Heap) (c : HCall) : PhaseH → Prop
  | .todo c' => c' = c
  | .prepared r => SentAlone cl h c r
  | .done r => SentAlone cl h c r

theorem stepH_spec (cl : Client) (h : Heap) (calls : List HCall) :
    Schedule.StepSpec WorldH.tasks WorldH.wire stepH (fun w => w.client = cl ∧ w.heap = h) (PhaseOkH cl h)
      (SentAlone cl h) calls := by
  intro w i ⟨h1, hh⟩
  unfold stepH
  cases hp : w.tasks[i]? with
  | none => exact .inl rfl
  | some ph =>
    cases ph with
    | done r => exact .inl rfl
    | todo c =>
      -- on the untouched client and heap `executeH` is the value-level call and returns both as they were
      cases hcall : h.call? c with
      | none => dsimp only; rw [h1, hh, executeH_illFormed cl h _ hcall]; exact .inl rfl
      | some call =>
        dsimp only; rw [h1, hh, executeH_eq cl h _ call hcall]
        exact .inr ⟨_, _, rfl, rfl, fun c' _ hc' =>
          ⟨⟨rfl, rfl⟩, ⟨call, (hc' : c = c') ▸ hcall, rfl⟩, fun _ hr => .inl hr⟩⟩
    | prepared r =>
      exact .inr ⟨_, _, rfl, rfl, fun c _ hc => ⟨⟨h1, hh⟩, hc, fun r' hr' =>
        (List.mem_append.mp hr').imp id fun hr' => by rw [List.mem_singleton.mp hr']; exact hc⟩⟩

/-- `interleave_commutes_shared_args`: for EVERY schedule of the steps of any number of concurrent
    calls on one client whose `variables` / `headers=` arguments are references into one heap (shared
    in any pattern) — the client object and every object of the heap are unchanged, each call that got
    as far as preparing or sending prepared/sent exactly the request it sends when run alone on the
    untouched heap, and the transport saw nothing else. -/
theorem interleave_commutes_shared_args (cl : Client) (h : Heap) (calls : List HCall) (sched : List Nat) :
    let w := runScheduleH (startH cl h calls) sched
    w.client = cl ∧ w.heap = h ∧
    (∀ (i : Nat) c r, calls[i]? = some c →
      (w.tasks[i]? = some (PhaseH.done r) ∨ w.tasks[i]? = some (PhaseH.prepared r)) → SentAlone cl h c r) ∧
    (∀ r ∈ w.wire, ∃ c ∈ calls, SentAlone cl h c r) := by
  obtain ⟨⟨h1, hh⟩, h3, h4⟩ :=
    Schedule.schedule (stepH_spec cl h calls) PhaseH.todo (fun _ => rfl) (startH cl h calls) ⟨rfl, rfl⟩ rfl rfl sched
  exact ⟨h1, hh, fun i c r hc hp => hp.elim (h3 i c _ hc) (h3 i c _ hc), h4⟩

/-- non-vacuity: one headers dict (auth token) and one variables dict, a JSON call and an upload call
    on two different clients and a retry of the first, all sharing them -/
def sampleHeap : Heap :=
  { hdrs := [[("Authorization", "Bearer t")]],
    vars := [[("n", .num 1 0)], [("file", .upload 0), ("again", .list [.upload 0])]] }

def sampleSteps : List (Client × HCall) :=
  [ ({ kind := .sync, url := "http://verif.test/graphql", tracer := false },
     { query := "query P { p }", opName := some "P", variables := some 0, headers := some 0, kwargs := [] }),
    ({ kind := .asyncOT, url := "http://verif.test/graphql", tracer := true },
     { query := "mutation U { u }", opName := some "U", variables := some 1, headers := some 0, kwargs := [] }),
    ({ kind := .sync, url := "http://verif.test/graphql", tracer := false },
     { query := "query P { p }", opName := some "P", variables := some 0, headers := some 0, kwargs := [] }) ]

example : wfSteps sampleHeap sampleSteps = true := by decide +kernel
example : ((runSeqH sampleHeap sampleSteps).2.map fun r => r.map fun r => (isJson r, isMultipart r)) =
    [some (true, false), some (false, true), some (true, false)] := by decide +kernel
example : (runSeqH sampleHeap sampleSteps).1.hdrs = sampleHeap.hdrs := by decide +kernel

/-! ## 3c. the caller's container objects: nested dicts and lists by reference, any aliasing -/

/-- `separate_files` on a store of list/dict objects, for EVERY store, every value (a reference into it
    or an immediate), every `==` of Upload objects and every nesting depth `f` the value can be read at:
    it returns (as new objects) the tree the value-level function returns on the tree the value denotes,
    with the same `(files_list, files_map)`, and every object that existed before the call holds what it
    held — whatever is referenced from wherever. -/
theorem separate_files_writes_only_own_objects (eqv : Nat → Nat → Bool) (f : Nat) (path : String) (v : Val)
    (s : OStore) (es : List Entry) (pv : PV) (h : derefV s f v = some pv) :
    ∃ r s', sepS eqv f path v (s, es) = some (r, (s', (sepG eqv path pv es).2)) ∧
      s'.take s.length = s ∧ (∀ a, a < s.length → s'[a]? = s[a]?) ∧
      derefV s' f r = some (sepG eqv path pv es).1 := by
  obtain ⟨r, s', h1, h2, h3, h4⟩ := sepS_spec eqv f path v s es pv h
  exact ⟨r, s', h1, take_of_keeps h2 h3, h3, h4 s' (fun _ _ _ => rfl)⟩

/-- `_convert_value` on objects: lists are rebuilt, models dumped, a dict object is returned as it is
    (so what `separate_files` walks next are the caller's own dicts) — and nothing that existed is written. -/
theorem convert_value_writes_nothing (f : Nat) (v : Val) (s : OStore) (pv : PV) (h : derefV s f v = some pv) :
    ∃ r s', convertValueS f v s = some (r, s') ∧ s'.take s.length = s ∧ derefV s' f r = some (convertValue pv) := by
  obtain ⟨r, s', h1, h2, h3, h4⟩ := convertValueS_spec f v s pv h
  exact ⟨r, s', h1, take_of_keeps h2 h3, h4⟩

/-- a dict object goes through `_convert_value` as the same object, and nothing is allocated -/
example : (convertValueS 3 (.ref 0) [.dict [("file", .imm (.upload 0))]]).map (fun r => (match r.1 with | .ref a => some a | _ => none, r.2.length)) =
    some (some 0, 1) := by decide +kernel

/-- `_process_variables` on objects = `_process_variables` on the tree the caller's dict denotes, and the
    caller's objects are afterwards what they were. -/
theorem process_variables_frame (eqv : Nat → Nat → Bool) (fuel : Nat) (s : OStore) (a : Nat) (kvs : List (String × PV))
    (h : derefV s (fuel + 1) (.ref a) = some (.dict kvs)) :
    ∃ s', processVariablesS eqv fuel s (some a) =
        some ((processVariablesG eqv (some kvs)).1, s', (processVariablesG eqv (some kvs)).2) ∧
      s'.take s.length = s := by
  obtain ⟨s', h1, h2, h3⟩ := processVariablesS_some eqv fuel s a kvs h
  exact ⟨s', h1, take_of_keeps h2 h3⟩

/-- `execute_objects_frame`: `execute` on objects.  Whatever list/dict/Upload/headers objects the heap
    holds, however they reference each other, and whichever of them the call names: the client object and
    EVERY object of the heap are afterwards what they were, what is sent is the request of the value-level
    call on the trees the objects denote at call time, and the file parts are made of the attributes of
    the Upload objects themselves. -/
theorem execute_objects_frame (fuel : Nat) (cl : Client) (h : OHeap) (c : HCall) (call : Call)
    (hc : h.call? fuel c = some call) :
    executeO fuel cl h c = .ok cl h (req cl call) (filesOfCall h.ups cl call) := executeO_eq fuel cl h c call hc

/-- …and an argument that names no object (or a structure deeper than the fuel: in Python, beyond the
    recursion limit) is the only way to get no outcome. -/
theorem executeO_illFormed_iff (fuel : Nat) (cl : Client) (h : OHeap) (c : HCall) :
    (∃ cl' h' r fs, executeO fuel cl h c = .ok cl' h' r fs) ↔ (h.call? fuel c).isSome = true := by
  cases hc : h.call? fuel c with
  | none => simp [executeO_illFormed fuel cl h c hc]
  | some call => simp [executeO_eq fuel cl h c call hc]

/-- `sequence_shared_objects`: any number of calls one after the other (a retry with the same `variables`,
    the same nested dict under two variables, the same objects through another of the four clients …), all
    drawing their arguments from ONE heap of objects: the heap at the end is the heap at the start, and the
    i-th call sent exactly the request it sends when it is the only call ever made with these objects. -/
theorem sequence_shared_objects (fuel : Nat) (h : OHeap) (steps : List (Client × HCall)) :
    (runSeqO fuel h steps).1 = h ∧
    (runSeqO fuel h steps).2.length = steps.length ∧
    ∀ (i : Nat) cl c, steps[i]? = some (cl, c) →
      (runSeqO fuel h steps).2[i]? = some ((h.call? fuel c).map (req cl)) := by
  rw [runSeqO_eq]
  refine ⟨rfl, by simp [derefStepsO], ?_⟩
  intro i cl c hi
  simp only [derefStepsO, List.getElem?_map, hi, Option.map_some]
  rfl

structure WorldO where
  client : Client
  heap : OHeap                 -- the caller's objects, shared by all tasks
  tasks : List PhaseH
  wire : List Request

/-- one scheduler step on objects: preparing a request runs `executeO` on the CURRENT client and heap -/
def stepO (fuel : Nat) (w : WorldO) (i : Nat) : WorldO :=
  match w.tasks[i]? with
  | some (.todo c) =>
    match executeO fuel w.client w.heap c with
    | .ok cl' h' r _ => { client := cl', heap := h', tasks := w.tasks.set i (.prepared r), wire := w.wire }
    | .illFormed => w
  | some (.prepared r) => { w with tasks := w.tasks.set i (.done r), wire := w.wire ++ [r] }
  | _ => w

def runScheduleO (fuel : Nat) (w : WorldO) (sched : List Nat) : WorldO := sched.foldl (stepO fuel) w

def startO (cl : Client) (h : OHeap) (calls : List HCall) : WorldO :=
  { client := cl, heap := h, tasks := calls.map .todo, wire := [] }

def SentAloneO (fuel : Nat) (cl : Client) (h : OHeap) (c : HCall) (r : Request) : Prop :=
  ∃ call, h.call? fuel c = some call ∧ r = req cl call

def PhaseOkO (fuel : Nat) (cl : Client) (h : OHeap) (c : HCall) : PhaseH → Prop
  | .todo c' => c' = c
  | .prepared r => SentAloneO fuel cl h c r
  | .done r => SentAloneO fuel cl h c r

theorem stepO_spec (fuel : Nat) (cl : Client) (h : OHeap) (calls : List HCall) :
    Schedule.StepSpec WorldO.tasks WorldO.wire (stepO fuel) (fun w => w.client = cl ∧ w.heap = h)
      (PhaseOkO fuel cl h) (SentAloneO fuel cl h) calls := by
  intro w i ⟨h1, hh⟩
  unfold stepO
  cases hp : w.tasks[i]? with
  | none => exact .inl rfl
  | some ph =>
    cases ph with
    | done r => exact .inl rfl
    | todo c =>
      cases hcall : h.call? fuel c with
      | none => dsimp only; rw [h1, hh, executeO_illFormed fuel cl h _ hcall]; exact .inl rfl
      | some call =>
        dsimp only; rw [h1, hh, executeO_eq fuel cl h _ call hcall]
        exact .inr ⟨_, _, rfl, rfl, fun c' _ hc' =>
          ⟨⟨rfl, rfl⟩, ⟨call, (hc' : c = c') ▸ hcall, rfl⟩, fun _ hr => .inl hr⟩⟩
    | prepared r =>
      exact .inr ⟨_, _, rfl, rfl, fun c _ hc => ⟨⟨h1, hh⟩, hc, fun r' hr' =>
        (List.mem_append.mp hr').imp id fun hr' => by rw [List.mem_singleton.mp hr']; exact hc⟩⟩

/-- `interleave_commutes_shared_objects`: for EVERY schedule of the steps of any number of concurrent calls
    on one client whose arguments are objects of one heap (nested containers aliased in any pattern, the
    same `variables` given to several calls in flight) — the client object and every object of the heap are
    unchanged, each call that got as far as preparing or sending prepared/sent exactly the request it sends
    when run alone on the untouched objects, and the transport saw nothing else. -/
theorem interleave_commutes_shared_objects (fuel : Nat) (cl : Client) (h : OHeap) (calls : List HCall) (sched : List Nat) :
    let w := runScheduleO fuel (startO cl h calls) sched
    w.client = cl ∧ w.heap = h ∧
    (∀ (i : Nat) c r, calls[i]? = some c →
      (w.tasks[i]? = some (PhaseH.done r) ∨ w.tasks[i]? = some (PhaseH.prepared r)) → SentAloneO fuel cl h c r) ∧
    (∀ r ∈ w.wire, ∃ c ∈ calls, SentAloneO fuel cl h c r) := by
  obtain ⟨⟨h1, hh⟩, h3, h4⟩ :=
    Schedule.schedule (stepO_spec fuel cl h calls) PhaseH.todo (fun _ => rfl) (startO cl h calls) ⟨rfl, rfl⟩ rfl rfl sched
  exact ⟨h1, hh, fun i c r hc hp => hp.elim (h3 i c _ hc) (h3 i c _ hc), h4⟩

/-- non-vacuity, and the two shapes the frame is about.  `retryHeap`: `variables = {"input": D1}`,
    `D1 = {"title": "hello", "attachment": D2}`, `D2 = {"file": Upload#0, "tags": ["a"]}` — the Upload sits in
    the caller's own nested dict — sent twice.  `aliasHeap`: `shared = {"file": Upload#0, "caption": …}`
    referenced as `variables["input"]["primary"]` and inside the list `variables["input"]["copies"]`. -/
def retryHeap : OHeap :=
  { hdrs := [],
    objs := [ .dict [("input", .ref 1)],
              .dict [("title", .imm (.str "hello")), ("attachment", .ref 2)],
              .dict [("file", .imm (.upload 0)), ("tags", .ref 3)],
              .list [.imm (.str "a")] ],
    ups := [⟨"notes.txt", "text/plain", 0⟩] }

def aliasHeap : OHeap :=
  { hdrs := [],
    objs := [ .dict [("input", .ref 1)],
              .dict [("primary", .ref 2), ("copies", .ref 3)],
              .dict [("file", .imm (.upload 0)), ("caption", .imm (.str "same attachment"))],
              .list [.ref 2] ],
    ups := [⟨"notes.txt", "text/plain", 0⟩] }

def sendStep : Client × HCall :=
  ({ kind := .sync, url := "http://verif.test/graphql", tracer := false },
   { query := "mutation Send { send }", opName := some "Send", variables := some 0, headers := none, kwargs := [] })

/-- the paths `map` lists, per file -/
def mapPaths : Option Request → List (String × List String)
  | some (.multipart _ _ (.obj kvs) _ _ _) =>
    kvs.map fun kv => (kv.1, match kv.2 with | .arr xs => xs.map (fun x => match x with | .str p => p | _ => "?") | _ => [])
  | _ => []

/-- where the objects of a store hold an Upload: (address, key or index, Upload) -/
def uploadSlots (s : OStore) : List (Nat × String × Nat) :=
  (s.zipIdx.map fun (o, a) =>
    match o with
    | .dict kvs => kvs.filterMap fun kv => match kv.2 with | .imm (.upload u) => some (a, kv.1, u) | _ => none
    | .list xs => xs.zipIdx.filterMap fun (x, i) => match x with | .imm (.upload u) => some (a, toString i, u) | _ => none).flatten

theorem retry_sent_twice :
    ((runSeqO 4 retryHeap [sendStep, sendStep]).2.map fun r => r.map isMultipart) = [some true, some true] := by
  decide +kernel

example : ((runSeqO 4 retryHeap [sendStep, sendStep]).2.map fun r => r.map isMultipart) = [some true, some true] := retry_sent_twice
example : uploadSlots (runSeqO 4 retryHeap [sendStep, sendStep]).1.objs = [(2, "file", 0)] := by decide +kernel
example : ((runSeqO 4 aliasHeap [sendStep]).2.map mapPaths) =
    [[("0", ["variables.input.primary.file", "variables.input.copies.0.file"])]] := by decide +kernel

/-- The frame theorems are about the code, not about the shape of the model: `separate_files` rewritten
    to null the files where they are (`obj[index] = …`, `obj[key] = …`, `return obj` — same store, same
    vocabulary) overwrites the caller's nested dict … -/
theorem inplace_separate_files_breaks_frame :
    ∃ (h : OHeap) (st : Client × HCall), (runSeqInPlaceO 4 h [st]).1.objs ≠ h.objs ∧ (runSeqO 4 h [st]).1.objs = h.objs := by
  refine ⟨retryHeap, sendStep, ?_, (sequence_shared_objects 4 retryHeap [sendStep]).1 ▸ rfl⟩
  intro e
  have : uploadSlots (runSeqInPlaceO 4 retryHeap [sendStep]).1.objs = uploadSlots retryHeap.objs := by rw [e]
  revert this
  decide +kernel

/-- … so the retry finds no Upload and goes out as JSON … -/
theorem inplace_separate_files_breaks_retry :
    ∃ (h : OHeap) (st : Client × HCall),
      ((runSeqInPlaceO 4 h [st, st]).2.map fun r => r.map isMultipart) = [some true, some false] ∧
      ((runSeqO 4 h [st, st]).2.map fun r => r.map isMultipart) = [some true, some true] :=
  ⟨retryHeap, sendStep, by decide +kernel, retry_sent_twice⟩

/-- … and a dict referenced from two places is already nulled when it is reached the second time: `map`
    lists only the first path. -/
theorem inplace_separate_files_loses_aliased_path :
    ∃ (h : OHeap) (st : Client × HCall),
      ((runSeqInPlaceO 4 h [st]).2.map mapPaths) = [[("0", ["variables.input.primary.file"])]] ∧
      ((runSeqO 4 h [st]).2.map mapPaths) =
        [[("0", ["variables.input.primary.file", "variables.input.copies.0.file"])]] :=
  ⟨aliasHeap, sendStep, by decide +kernel, by decide +kernel⟩

/-! ## 3d. `obj in files_list`: what `==` means for Upload objects -/

/-- `class Upload` of the working tree: `Upload.__eq__ is object.__eq__` (Generated/UploadTables.lean,
    re-extracted from the imported module on every run — whatever the class inherits from or is decorated
    with; the names its body binds are listed there as well), so `x is obj or x == obj` is identity —
    `uploadEq`, the comparison `executeO` runs with. -/
theorem upload_class_compares_by_identity : UploadTables.uploadEqIsObjectEq = true := by decide +kernel

/-- Under identity the de-duplicating `separate_files` is the value-level `sep` all laws of section 1 are
    about (every tree, every `files_list` so far). -/
theorem dedupe_is_by_identity (base : String) (v : PV) (st : List Entry) : sepG uploadEq base v st = sep base v st :=
  sepG_identity base v st

/-- For ANY `==` of Upload objects: the tree returned does not depend on it, and `files_list` is the
    left-to-right de-duplication of the Uploads of the tree under that `==`. -/
theorem files_list_is_dedup_under_eq (eqv : Nat → Nat → Bool) (base : String) (v : PV) :
    (sepG eqv base v []).1 = nullUploads v ∧
    ids (sepG eqv base v []).2 = dedupG eqv [] ((upos v).map (·.2)) := by
  refine ⟨sepG_fst eqv base v [], ?_⟩
  rw [sepG_snd, ids_collectG]; rfl

/-- For ANY `==` that equates two DIFFERENT Upload objects (in both directions — e.g. equality of
    filename and content type): whatever the tree, they are never both sent. -/
theorem equated_uploads_not_both_sent (eqv : Nat → Nat → Bool) (a b : Nat) (hab : eqv a b = true) (hba : eqv b a = true)
    (hne : a ≠ b) (base : String) (v : PV) :
    ¬ (a ∈ ids (sepG eqv base v []).2 ∧ b ∈ ids (sepG eqv base v []).2) := by
  rw [(files_list_is_dedup_under_eq eqv base v).2]
  exact noEq_not_both eqv a b hab hba hne _ (dedupG_noEq eqv _ [] List.Pairwise.nil)

/-- … so "each distinct Upload is sent once" fails on every tree that holds both. -/
theorem value_equality_breaks_each_upload_once (eqv : Nat → Nat → Bool) (a b : Nat) (hab : eqv a b = true)
    (hba : eqv b a = true) (hne : a ≠ b) (base : String) (v : PV) (q q' : Path)
    (ha : (q, a) ∈ upos v) (hb : (q', b) ∈ upos v) :
    ids (sepG eqv base v []).2 ≠ firstOcc ((upos v).map (·.2)) := by
  intro h
  apply equated_uploads_not_both_sent eqv a b hab hba hne base v
  rw [h, firstOcc_mem, firstOcc_mem]
  exact ⟨List.mem_map.mpr ⟨(q, a), ha, rfl⟩, List.mem_map.mpr ⟨(q', b), hb, rfl⟩⟩

/-- two Upload objects compare equal when filename and content type agree (NOT the code: the counter-model) -/
def sameNameAndType (ups : List UploadObj) (a b : Nat) : Bool :=
  a == b || match ups[a]?, ups[b]? with
    | some x, some y => x.filename == y.filename && x.contentType == y.contentType
    | _, _ => false

def twoPhotos : List UploadObj := [⟨"photo.jpg", "image/jpeg", 0⟩, ⟨"photo.jpg", "image/jpeg", 1⟩]
def albumVars : PV := .dict [("photos", .list [.upload 0, .upload 1]), ("cover", .upload 0)]

example : ids (sepG (sameNameAndType twoPhotos) "variables" albumVars []).2 = [0] ∧
    ids (sepG uploadEq "variables" albumVars []).2 = [0, 1] := by decide +kernel

/-- `distinct_uploads_both_sent`: on objects, for EVERY heap — whatever the attributes of its Upload objects,
    identical ones included — two different Upload objects that occur in the variables are both in
    `files_list`, at different indices, and the file part of each is made of that object's own
    filename / content / content_type. -/
theorem distinct_uploads_both_sent (fuel : Nat) (cl : Client) (h : OHeap) (c : HCall) (call : Call)
    (hc : h.call? fuel c = some call) (u u' : Nat) (hne : u ≠ u') (q q' : Path)
    (hu : (q, u) ∈ uposKvs (treeOf call.variables)) (hu' : (q', u') ∈ uposKvs (treeOf call.variables)) :
    (∃ fs, executeO fuel cl h c = .ok cl h (req cl call) fs) ∧
    ∃ i i' : Nat, i ≠ i' ∧ (ids (entries call))[i]? = some u ∧ (ids (entries call))[i']? = some u' ∧
      (filesDict h.ups 0 (entries call))[i]? =
        some (toString i, (h.ups[u]?).map fun (o : UploadObj) => (o.filename, o.stream, o.contentType)) ∧
      (filesDict h.ups 0 (entries call))[i']? =
        some (toString i', (h.ups[u']?).map fun (o : UploadObj) => (o.filename, o.stream, o.contentType)) := by
  refine ⟨⟨_, execute_objects_frame fuel cl h c call hc⟩, ?_⟩
  have hids : ids (entries call) = firstOcc ((uposKvs (treeOf call.variables)).map (·.2)) := by
    simp only [entries, processVariables_eq, ids_collect]
  have hm : u ∈ ids (entries call) := by
    rw [hids, firstOcc_mem]; exact List.mem_map.mpr ⟨(q, u), hu, rfl⟩
  have hm' : u' ∈ ids (entries call) := by
    rw [hids, firstOcc_mem]; exact List.mem_map.mpr ⟨(q', u'), hu', rfl⟩
  obtain ⟨i, hi⟩ := List.mem_iff_getElem?.mp hm
  obtain ⟨i', hi'⟩ := List.mem_iff_getElem?.mp hm'
  have hget : ∀ (n : Nat) (w : Nat), (ids (entries call))[n]? = some w →
      (filesDict h.ups 0 (entries call))[n]? =
        some (toString n, (h.ups[w]?).map fun (o : UploadObj) => (o.filename, o.stream, o.contentType)) := by
    intro n w hn
    simp only [ids, List.getElem?_map] at hn
    cases he : (entries call)[n]? with
    | none => simp [he] at hn
    | some e =>
      simp only [he, Option.map_some, Option.some.injEq] at hn
      subst hn
      simp [filesDict_get, he]
  refine ⟨i, i', ?_, hi, hi', hget i u hi, hget i' u' hi'⟩
  intro e; subst e
  rw [hi] at hi'; exact hne (Option.some.inj hi')

/-- non-vacuity: two Upload objects with identical attributes and one stream each, in one call -/
def twinHeap : OHeap :=
  { hdrs := [], objs := [.dict [("photos", .ref 1), ("cover", .imm (.upload 0))], .list [.imm (.upload 0), .imm (.upload 1)]],
    ups := twoPhotos }

example : (match executeO 3 sendStep.1 twinHeap sendStep.2 with
    | .ok _ _ _ fs => fs
    | .illFormed => []) =
    [("0", some ("photo.jpg", 0, "image/jpeg")), ("1", some ("photo.jpg", 1, "image/jpeg"))] := by decide +kernel

/-! ## 4. the property as written, its two counterexamples, and the proved region -/

/-- The property for one call.  `T` is the variables tree the property speaks about (models stand
    for their dumps, top-level UNSET dropped). -/
def Holds (cl : Client) (c : Call) : Prop :=
  let T := idealVars c.variables
  let caller := c.headers.getD []
  -- the four clients, tracer on or off: same request/outcome, client object untouched
  (∀ cl' : Client, cl'.url = cl.url → req cl' c = req cl c ∧ (execute cl' c).1 = cl') ∧
  match req cl c with
  | .serializationError => False                                    -- a body is posted
  | .json url b hs kw =>
      uposKvs T = [] ∧ url = cl.url ∧ kw = c.kwargs ∧
      (∃ vs, b = payload c vs) ∧                                    -- exactly query, operationName, variables
      (∀ k v, (k, v) ∈ caller → fieldValues k hs = [v]) ∧           -- caller-supplied headers merged and winning
      ((∀ k ∈ headerKeys caller, lowerName k ≠ lowerName "Content-Type") →
        fieldValues "Content-Type" hs = ["application/json"])       -- Content-Type application/json
  | .multipart url ops mp files hs kw =>
      uposKvs T ≠ [] ∧ url = cl.url ∧ kw = c.kwargs ∧ hs = c.headers ∧
      ∃ (vs : List (String × J)) (st : List Entry),
        ops = payload c vs ∧ mp = .obj (mapOf 0 st) ∧ files = filesOf 0 st ∧
        -- every file position is null in operations
        (∀ q u, (q, u) ∈ uposKvs T → jAt? q (.obj vs) = some .null) ∧
        -- map lists exactly those paths (per Upload, in order)
        (∀ e ∈ st, e.paths = ((uposKvs T).filter (fun pu => pu.2 = e.id)).map (fun pu => render "variables" pu.1)) ∧
        -- each distinct Upload is sent once
        ids st = firstOcc ((uposKvs T).map (·.2)) ∧ (ids st).Nodup

/-- C11 as written. -/
def C11_full : Prop := ∀ (cl : Client) (c : Call), validCall c = true → Holds cl c

def Supported_11 (c : Call) : Prop := ¬ (trigContentTypeCase c = true ∨ trigUploadInModelBelowDict c = true)

instance (c : Call) : Decidable (Supported_11 c) := by unfold Supported_11; infer_instance

/-- witness of C11-F1: `execute(q, headers={"content-type": "text/plain"})` -/
def witnessF1 : Call :=
  { query := "query Q { x }", opName := some "Q", variables := none,
    headers := some [("content-type", "text/plain")], kwargs := [] }

/-- witness of C11-F2: `variables={"where": {"m": Inner(file=Upload#0)}}` -/
def witnessF2 : Call :=
  { query := "mutation U { u }", opName := some "U",
    variables := some [("where", .dict [("m", .model (.dict [("file", .upload 0)]) none)])],
    headers := none, kwargs := [] }

def someClient : Client := { kind := .async, url := "http://verif.test/graphql", tracer := false }

example : validCall witnessF1 = true ∧ trigContentTypeCase witnessF1 = true := by decide +kernel
example : validCall witnessF2 = true ∧ trigUploadInModelBelowDict witnessF2 = true := by decide +kernel

/-- C11-F1: both `Content-Type: application/json` and `content-type: text/plain` are sent. -/
theorem C11_F1_witness_fails : ¬ Holds someClient witnessF1 := by
  intro h
  have hreq : req someClient witnessF1 =
      .json "http://verif.test/graphql" (payload witnessF1 [])
        [("Content-Type", "application/json"), ("content-type", "text/plain")] [] :=
    req_json someClient witnessF1 [] rfl rfl
  unfold Holds at h
  rw [hreq] at h
  have := h.2.2.2.2.2.1 "content-type" "text/plain" (by simp [witnessF1])
  revert this
  decide +kernel

/-- C11-F2: the Upload is not extracted and `json.dumps` raises — no request at all. -/
theorem C11_F2_witness_fails : ¬ Holds someClient witnessF2 := by
  intro h
  have hreq : req someClient witnessF2 = .serializationError := req_error someClient witnessF2 rfl
  unfold Holds at h
  rw [hreq] at h
  exact h.2

theorem C11_full_false : ¬ C11_full :=
  fun h => C11_F1_witness_fails (h someClient witnessF1 (by decide +kernel))

/-- C11 on everything outside the two finding triggers. -/
theorem C11_partial (cl : Client) (c : Call) (hv : validCall c = true) (hs : Supported_11 c) : Holds cl c := by
  have hF1 : trigContentTypeCase c = false := by
    cases h : trigContentTypeCase c <;> simp [Supported_11, h] at hs ⊢
  have hF2 : hiddenTopKvs (c.variables.getD []) = false := by
    cases h : trigUploadInModelBelowDict c
    · simpa [trigUploadInModelBelowDict] using h
    · simp [Supported_11, h] at hs
  simp only [validCall, validVars, validHeaders, Bool.and_eq_true] at hv
  obtain ⟨⟨⟨⟨hdist, huniq⟩, hplain⟩, hser⟩, hci⟩ := hv
  -- the ideal tree and the tree separate_files walks have the same Upload positions
  have hpos : uposKvs (idealVars c.variables) = uposKvs (treeOf c.variables) := by
    simpa [idealVars, treeOf] using uposKvs_ideal (c.variables.getD []) hplain hF2
  have hsome := toJsonKvs_convertDict_isSome (c.variables.getD []) hser hplain hF2
  obtain ⟨vs, hvs⟩ := Option.isSome_iff_exists.mp hsome
  have hvs' : toJsonKvs (nullUploadsKvs (treeOf c.variables)) = some vs := by simpa [treeOf] using hvs
  have huq : uniq (.dict (treeOf c.variables)) = true := uniq_tree _ hdist huniq
  unfold Holds
  refine ⟨fun cl' hu => ⟨telemetry_same_request cl cl' c hu, execute_fst cl' c⟩, ?_⟩
  by_cases hup : uposKvs (treeOf c.variables) = []
  · rw [req_json cl c vs hvs' hup]
    dsimp only
    have hd := distinct_of_ciDistinct hci
    have hc := dictUpdate_closed "Content-Type" (c.headers.getD []) "application/json" [] hd (by simp [headerKeys])
    have hnot : ctOtherSpelling c.headers = false := by
      simpa [trigContentTypeCase, hpos, hup] using hF1
    have hsp := not_otherSpelling hnot
    have hdrop : fieldValues "Content-Type" (dropKey "Content-Type" (c.headers.getD [])) = [] := by
      apply fieldValues_none
      intro k hk e
      have := headerKeys_dropKey hk
      exact this.2 (hsp k this.1 e)
    refine ⟨by rw [hpos, hup], rfl, rfl, ⟨vs, rfl⟩, ?_, ?_⟩
    · intro k v hm
      rw [hc]
      by_cases hk : k = "Content-Type"
      · subst hk
        simp [fieldValues, lookupS_of_mem hd hm, hdrop]
      · have hl : lowerName k ≠ lowerName "Content-Type" := fun e => hk (hsp k (mem_headerKeys_of_mem hm) e)
        have hl' : ¬ lowerName "Content-Type" = lowerName k := fun e => hl e.symm
        simp [fieldValues, hl', fieldValues_dropKey _ hl, fieldValues_of_mem hci hm]
    · intro hno
      rw [hc]
      have : lookupS "Content-Type" (c.headers.getD []) = none :=
        lookupS_none (fun hm => hno _ hm rfl)
      simp [fieldValues, this, hdrop]
  · rw [req_multipart cl c vs hvs' hup]
    dsimp only
    refine ⟨by rw [hpos]; exact hup, rfl, rfl, rfl, vs, entries c, rfl, rfl, rfl, ?_, ?_, ?_, ?_⟩
    · intro q u hm
      rw [hpos] at hm
      have hat : pvAt? q (.dict (treeOf c.variables)) = some (.upload u) :=
        (upos_at _ huq q u).mp (by simpa [upos] using hm)
      have hnull := pvAt_nullUploads q _ _ hat
      have hj : toJson (nullUploads (.dict (treeOf c.variables))) = some (.obj vs) := by
        simp [nullUploads, toJson, hvs']
      obtain ⟨j', h1, h2⟩ := jAt_toJson q _ _ _ hj hnull
      simp only [nullUploads, toJson, Option.some.injEq] at h1
      rw [← h1] at h2; exact h2
    · intro e he
      rw [hpos]
      have hn : (ids (entries c)).Nodup := by
        simp only [entries, processVariables_eq, ids_collect]; exact firstOcc_nodup _
      rw [← pathsOf_of_mem hn he]
      simp only [entries, processVariables_eq]
      exact pathsOf_collect "variables" e.id _
    · simp only [entries, processVariables_eq, ids_collect, hpos]
    · simp only [entries, processVariables_eq, ids_collect]; exact firstOcc_nodup _

/-- C11 for calls on references: outside the two finding triggers every call leaves the client and the
    whole argument heap untouched and sends a request for which the property holds — so the statement
    carries over to every sequence / schedule of calls sharing argument objects
    (`sequence_shared_args`, `interleave_commutes_shared_args`). -/
theorem C11_partial_shared_args (cl : Client) (h : Heap) (c : HCall) (call : Call) (hc : h.call? c = some call)
    (hv : validCall call = true) (hs : Supported_11 call) :
    executeH cl h c = .ok cl h (req cl call) ∧ Holds cl call :=
  ⟨execute_args_frame cl h c call hc, C11_partial cl call hv hs⟩

/-- C11 for calls on OBJECTS: outside the two finding triggers every call leaves the client and every
    list/dict/Upload/headers object of the heap untouched (any aliasing) and sends a request for which the
    property holds — so the statement carries over to every sequence / schedule of calls sharing objects
    (`sequence_shared_objects`, `interleave_commutes_shared_objects`). -/
theorem C11_partial_shared_objects (fuel : Nat) (cl : Client) (h : OHeap) (c : HCall) (call : Call)
    (hc : h.call? fuel c = some call) (hv : validCall call = true) (hs : Supported_11 call) :
    executeO fuel cl h c = .ok cl h (req cl call) (filesOfCall h.ups cl call) ∧ Holds cl call :=
  ⟨execute_objects_frame fuel cl h c call hc, C11_partial cl call hv hs⟩

example : ∃ call, retryHeap.call? 4 sendStep.2 = some call ∧ validCall call = true ∧ Supported_11 call :=
  ⟨_, rfl, by decide +kernel, by decide +kernel⟩

/-- non-vacuity: a shared Upload at three paths plus one inside a dumped model, caller headers, timeout -/
def sampleCall : Call :=
  { query := "mutation U { u }", opName := none,
    variables := some [("a", .upload 7), ("z", .unset),
                       ("b", .list [.upload 7, .dict [("c", .upload 7), ("d", .leaf (some (.str "RED")))]]),
                       ("m", .model (.dict [("file", .upload 9), ("n", .num 1 0)]) none)],
    headers := some [("Content-Type", "text/plain"), ("X-A", "1")], kwargs := [("timeout", .num 3 0)] }

example : validCall sampleCall = true ∧ Supported_11 sampleCall := by decide +kernel
example : keysOkKvs (treeOf sampleCall.variables) = true := by decide +kernel
example : ids (entries sampleCall) = [7, 9] ∧
    pathsOf 7 (entries sampleCall) = ["variables.a", "variables.b.0", "variables.b.1.c"] ∧
    pathsOf 9 (entries sampleCall) = ["variables.m.file"] := by decide +kernel

end Ariadne.C11
