/-
  Lemmas of C03 about sequences of calls over the caller's argument objects (Model/ArgHeap.lean):
  `_convert_value` never writes an object that existed before the call (frame), what it returns is the
  value-level conversion of what the argument denotes, and therefore every call of a program sends
  what its arguments denote at that moment.
-/
import AriadneModel.Model.ArgHeap


namespace Ariadne.ArgHeap
open Ariadne.ArgValues Ariadne.ArgSend Ariadne.Arguments
open Ariadne.BaseClient (PV convertValue convertList)

def Keeps (s s' : CStore) : Prop := s.length ≤ s'.length ∧ ∀ a, a < s.length → s'[a]? = s[a]?

theorem Keeps.refl (s : CStore) : Keeps s s := ⟨Nat.le_refl _, fun _ _ => rfl⟩

theorem Keeps.trans {s s1 s2 : CStore} (h1 : Keeps s s1) (h2 : Keeps s1 s2) : Keeps s s2 :=
  ⟨Nat.le_trans h1.1 h2.1, fun a ha => by rw [h2.2 a (Nat.lt_of_lt_of_le ha h1.1), h1.2 a ha]⟩

theorem Keeps.append (s t : CStore) : Keeps s (s ++ t) :=
  ⟨by simp, fun a ha => List.getElem?_append_left ha⟩

theorem convertItemsC_keeps (rec : CVal → CStore → Option (PVal × CStore))
    (hrec : ∀ v s r s', rec v s = some (r, s') → Keeps s s') :
    ∀ (xs : List CVal) (s : CStore) (ys : List PVal) (s' : CStore), convertItemsC rec xs s = some (ys, s') → Keeps s s' := by
  intro xs
  induction xs with
  | nil => intro s ys s' h; simp only [convertItemsC, Option.some.injEq, Prod.mk.injEq] at h; rw [← h.2]; exact Keeps.refl s
  | cons x xs ih =>
    intro s ys s' h
    simp only [convertItemsC] at h
    cases hx : rec x s with
    | none => simp [hx] at h
    | some p =>
      obtain ⟨y, s1⟩ := p
      rw [hx] at h
      cases hxs : convertItemsC rec xs s1 with
      | none => simp [hxs] at h
      | some q =>
        obtain ⟨ys', s2⟩ := q
        simp only [hxs, Option.some.injEq, Prod.mk.injEq] at h
        rw [← h.2]
        exact (hrec x s y s1 hx).trans (ih s1 ys' s2 hxs)

theorem convertValueC_keeps (fns : UserFns) :
    ∀ (f : Nat) (v : CVal) (s : CStore) (r : PVal) (s' : CStore), convertValueC fns f v s = some (r, s') → Keeps s s' := by
  intro f
  induction f with
  | zero =>
    intro v s r s' h
    cases v with
    | imm x =>
      simp only [convertValueC, Option.map_eq_some_iff] at h
      obtain ⟨p, _, hp⟩ := h
      simp only [Prod.mk.injEq] at hp; rw [← hp.2]; exact Keeps.refl s
    | ref a => simp [convertValueC] at h
  | succ f ih =>
    intro v s r s' h
    cases v with
    | imm x =>
      simp only [convertValueC, Option.map_eq_some_iff] at h
      obtain ⟨p, _, hp⟩ := h
      simp only [Prod.mk.injEq] at hp; rw [← hp.2]; exact Keeps.refl s
    | ref a =>
      simp only [convertValueC] at h
      cases ha : s[a]? with
      | none => simp [ha] at h
      | some o =>
        rw [ha] at h
        cases o with
        | list xs =>
          simp only at h
          cases hc : convertItemsC (convertValueC fns f) xs s with
          | none => simp [hc] at h
          | some q =>
            obtain ⟨ys, s1⟩ := q
            simp only [hc, Option.some.injEq, Prod.mk.injEq] at h
            rw [← h.2]
            exact (convertItemsC_keeps _ (ih) xs s ys s1 hc).trans (Keeps.append s1 _)
        | inst cls fs =>
          simp only at h
          cases hd : derefFlds (derefC s f) fs with
          | none => simp [hd] at h
          | some flds =>
            simp only [hd] at h
            cases hdu : PydLog.dumpFields fns flds with
            | error e => simp [hdu] at h
            | ok q =>
              obtain ⟨kvs, cs⟩ := q
              simp only [hdu, Option.some.injEq, Prod.mk.injEq] at h
              rw [← h.2]; exact Keeps.refl s
        | plist xs => simp at h

theorem convertArgsC_keeps (fns : UserFns) (fuel : Nat) (args : List CVal) (s : CStore) (ys : List PVal) (s' : CStore)
    (h : convertArgsC fns fuel args s = some (ys, s')) : Keeps s s' :=
  convertItemsC_keeps _ (convertValueC_keeps fns fuel) args s ys s' h

theorem derefItems_cons_some {g : CVal → Option AV} {x : CVal} {xs : List CVal} {l : List AV}
    (h : derefItems g (x :: xs) = some l) : ∃ v vs, g x = some v ∧ derefItems g xs = some vs ∧ l = v :: vs := by
  simp only [derefItems] at h
  cases hx : g x with
  | none => simp [hx] at h
  | some v =>
    cases hxs : derefItems g xs with
    | none => simp [hx, hxs] at h
    | some vs =>
      simp only [hx, hxs, Option.some.injEq] at h
      exact ⟨v, vs, rfl, rfl, h.symm⟩

theorem derefItems_mono {g g' : CVal → Option AV} (h : ∀ x av, g x = some av → g' x = some av) :
    ∀ (xs : List CVal) (l : List AV), derefItems g xs = some l → derefItems g' xs = some l := by
  intro xs
  induction xs with
  | nil => intro l hl; simpa [derefItems] using hl
  | cons x xs ih =>
    intro l hl
    obtain ⟨v, vs, hx, hxs, rfl⟩ := derefItems_cons_some hl
    simp [derefItems, h x v hx, ih vs hxs]

theorem derefFlds_mono {g g' : CVal → Option AV} (h : ∀ x av, g x = some av → g' x = some av) :
    ∀ (fs : List (FieldKey × CVal)) (l : List (FieldKey × AV)), derefFlds g fs = some l → derefFlds g' fs = some l := by
  intro fs
  induction fs with
  | nil => intro l hl; simpa [derefFlds] using hl
  | cons p fs ih =>
    obtain ⟨k, x⟩ := p
    intro l hl
    simp only [derefFlds] at hl ⊢
    cases hx : g x with
    | none => simp [hx] at hl
    | some v =>
      cases hxs : derefFlds g fs with
      | none => simp [hx, hxs] at hl
      | some vs =>
        simp only [hx, hxs, Option.some.injEq] at hl
        simp [h x v hx, ih vs hxs, hl]

theorem derefC_keeps (s s' : CStore) (hk : Keeps s s') :
    ∀ (f : Nat) (v : CVal) (av : AV), derefC s f v = some av → derefC s' f v = some av := by
  intro f
  induction f with
  | zero =>
    intro v av h
    cases v with
    | imm x => simpa [derefC] using h
    | ref a => simp [derefC] at h
  | succ f ih =>
    intro v av h
    cases v with
    | imm x => simpa [derefC] using h
    | ref a =>
      simp only [derefC] at h ⊢
      cases ha : s[a]? with
      | none => simp [ha] at h
      | some o =>
        have hlt : a < s.length := (List.getElem?_eq_some_iff.mp ha).1
        rw [hk.2 a hlt, ha]
        rw [ha] at h
        cases o with
        | list xs =>
          simp only [Option.map_eq_some_iff] at h ⊢
          obtain ⟨l, hl, rfl⟩ := h
          exact ⟨l, derefItems_mono ih xs l hl, rfl⟩
        | inst cls fs =>
          simp only [Option.map_eq_some_iff] at h ⊢
          obtain ⟨l, hl, rfl⟩ := h
          exact ⟨l, derefFlds_mono ih fs l hl, rfl⟩
        | plist xs => simp at h

theorem derefPItems_mono {g g' : PVal → Option PV} (h : ∀ x pv, g x = some pv → g' x = some pv) :
    ∀ (xs : List PVal) (l : List PV), derefPItems g xs = some l → derefPItems g' xs = some l := by
  intro xs
  induction xs with
  | nil => intro l hl; simpa [derefPItems] using hl
  | cons x xs ih =>
    intro l hl
    simp only [derefPItems] at hl ⊢
    cases hx : g x with
    | none => simp [hx] at hl
    | some v =>
      cases hxs : derefPItems g xs with
      | none => simp [hx, hxs] at hl
      | some vs =>
        simp only [hx, hxs, Option.some.injEq] at hl
        simp [h x v hx, ih vs hxs, hl]

theorem derefP_keeps (s s' : CStore) (hk : Keeps s s') :
    ∀ (f : Nat) (v : PVal) (pv : PV), derefP s f v = some pv → derefP s' f v = some pv := by
  intro f
  induction f with
  | zero =>
    intro v pv h
    cases v with
    | imm x => simpa [derefP] using h
    | ref a => simp [derefP] at h
  | succ f ih =>
    intro v pv h
    cases v with
    | imm x => simpa [derefP] using h
    | ref a =>
      simp only [derefP] at h ⊢
      cases ha : s[a]? with
      | none => simp [ha] at h
      | some o =>
        have hlt : a < s.length := (List.getElem?_eq_some_iff.mp ha).1
        rw [hk.2 a hlt, ha]
        rw [ha] at h
        cases o with
        | plist xs =>
          simp only [Option.map_eq_some_iff] at h ⊢
          obtain ⟨l, hl, rfl⟩ := h
          exact ⟨l, derefPItems_mono ih xs l hl, rfl⟩
        | list xs => simp at h
        | inst cls fs => simp at h

theorem objsOf_cons_inv {fns : UserFns} {x : AV} {xs : List AV} {os : List PV} {c : List Call}
    (h : objsOf fns (x :: xs) = .ok (os, c)) :
    ∃ o c1 os' c2, objOf fns x = .ok (o, c1) ∧ objsOf fns xs = .ok (os', c2) ∧ os = o :: os' := by
  simp only [objsOf] at h
  cases hx : objOf fns x with
  | error e => simp [hx] at h
  | ok p =>
    obtain ⟨o, c1⟩ := p
    cases hxs : objsOf fns xs with
    | error e => simp [hx, hxs] at h
    | ok q =>
      obtain ⟨os', c2⟩ := q
      simp only [hx, hxs, Except.ok.injEq, Prod.mk.injEq] at h
      exact ⟨o, c1, os', c2, rfl, rfl, h.1.symm⟩

def ConvSpec (fns : UserFns) (f : Nat) : Prop :=
  ∀ (v : CVal) (s : CStore) (av : AV) (o : PV) (c : List Call), derefC s f v = some av → objOf fns av = .ok (o, c) →
    ∃ r s', convertValueC fns f v s = some (r, s') ∧ Keeps s s' ∧ derefP s' f r = some (convertValue o)

theorem convertItemsC_spec (fns : UserFns) (f : Nat) (ih : ConvSpec fns f) :
    ∀ (xs : List CVal) (s : CStore) (avs : List AV) (os : List PV) (c : List Call),
      derefItems (derefC s f) xs = some avs → objsOf fns avs = .ok (os, c) →
      ∃ ys s', convertItemsC (convertValueC fns f) xs s = some (ys, s') ∧ Keeps s s' ∧
        derefPItems (derefP s' f) ys = some (convertList os) := by
  intro xs
  induction xs with
  | nil =>
    intro s avs os c h ho
    simp only [derefItems, Option.some.injEq] at h; subst h
    simp only [objsOf, Except.ok.injEq, Prod.mk.injEq] at ho
    obtain ⟨rfl, _⟩ := ho
    exact ⟨[], s, rfl, Keeps.refl s, by simp [derefPItems, convertList]⟩
  | cons x xs ihx =>
    intro s avs os c h ho
    obtain ⟨av, avs', hx, hxs, rfl⟩ := derefItems_cons_some h
    obtain ⟨o, c1, os', c2, ho1, ho2, rfl⟩ := objsOf_cons_inv ho
    obtain ⟨r, s1, hr, hk1, hd1⟩ := ih x s av o c1 hx ho1
    have hxs1 : derefItems (derefC s1 f) xs = some avs' := derefItems_mono (derefC_keeps s s1 hk1 f) xs avs' hxs
    obtain ⟨ys, s2, hys, hk2, hd2⟩ := ihx s1 avs' os' c2 hxs1 ho2
    refine ⟨r :: ys, s2, by simp [convertItemsC, hr, hys], hk1.trans hk2, ?_⟩
    simp [derefPItems, convertList, derefP_keeps s1 s2 hk2 f r _ hd1, hd2]

theorem convertValueC_spec (fns : UserFns) : ∀ f, ConvSpec fns f := by
  intro f
  induction f with
  | zero =>
    intro v s av o c h ho
    cases v with
    | imm x =>
      simp only [derefC, Option.some.injEq] at h; subst h
      exact ⟨.imm (convertValue o), s, by simp [convertValueC, convertImm, ho], Keeps.refl s, rfl⟩
    | ref a => simp [derefC] at h
  | succ f ih =>
    intro v s av o c h ho
    cases v with
    | imm x =>
      simp only [derefC, Option.some.injEq] at h; subst h
      exact ⟨.imm (convertValue o), s, by simp [convertValueC, convertImm, ho], Keeps.refl s, rfl⟩
    | ref a =>
      simp only [derefC] at h
      cases ha : s[a]? with
      | none => simp [ha] at h
      | some ob =>
        rw [ha] at h
        cases ob with
        | list xs =>
          simp only [Option.map_eq_some_iff] at h
          obtain ⟨l, hl, rfl⟩ := h
          simp only [objOf] at ho
          cases hos : objsOf fns l with
          | error e => simp [hos] at ho
          | ok q =>
            obtain ⟨os, c'⟩ := q
            simp only [hos, Except.ok.injEq, Prod.mk.injEq] at ho
            obtain ⟨rfl, _⟩ := ho
            obtain ⟨ys, s1, hys, hk1, hd1⟩ := convertItemsC_spec fns f ih xs s l os c' hl hos
            refine ⟨.ref s1.length, s1 ++ [.plist ys], by simp [convertValueC, ha, hys], hk1.trans (Keeps.append s1 _), ?_⟩
            simp only [derefP, List.getElem?_concat_length, convertValue, Option.map_eq_some_iff]
            exact ⟨_, derefPItems_mono (derefP_keeps s1 _ (Keeps.append s1 _) f) ys _ hd1, rfl⟩
        | inst cls fs =>
          simp only [Option.map_eq_some_iff] at h
          obtain ⟨flds, hl, rfl⟩ := h
          simp only [objOf] at ho
          cases hdu : PydLog.dumpFields fns flds with
          | error e => simp [hdu] at ho
          | ok q =>
            obtain ⟨kvs, cs⟩ := q
            simp only [hdu, Except.ok.injEq, Prod.mk.injEq] at ho
            obtain ⟨rfl, _⟩ := ho
            exact ⟨.imm (.dict kvs), s, by simp [convertValueC, ha, hl, hdu], Keeps.refl s, by simp [derefP, convertValue]⟩
        | plist xs => simp at h

theorem updAt_keeps (a : Nat) (g : CObj → Option CObj) (ideal real : CStore) (h : Keeps ideal real) :
    Keeps (updAt a g ideal) (updAt a g real) := by
  obtain ⟨hl, hk⟩ := h
  by_cases ha : a < ideal.length
  · have hr : real[a]? = ideal[a]? := hk a ha
    obtain ⟨o, ho⟩ : ∃ o, ideal[a]? = some o := ⟨ideal[a], List.getElem?_eq_getElem ha⟩
    simp only [updAt, hr, ho]
    cases hg : g o with
    | none => exact ⟨hl, hk⟩
    | some o' =>
      refine ⟨by simpa using hl, ?_⟩
      intro b hb
      simp only [List.length_set] at hb
      by_cases hab : a = b
      · subst hab
        rw [List.getElem?_set_self (Nat.lt_of_lt_of_le ha hl), List.getElem?_set_self ha]
      · rw [List.getElem?_set_ne hab, List.getElem?_set_ne hab]; exact hk b hb
  · have hn : ideal[a]? = none := List.getElem?_eq_none (Nat.le_of_not_lt ha)
    have hid : updAt a g ideal = ideal := by simp [updAt, hn]
    rw [hid]
    cases hra : real[a]? with
    | none => simp only [updAt, hra]; exact ⟨hl, hk⟩
    | some o =>
      cases hg : g o with
      | none => simp only [updAt, hra, hg]; exact ⟨hl, hk⟩
      | some o' =>
        simp only [updAt, hra, hg]
        refine ⟨by simpa using hl, ?_⟩
        intro b hb
        have hab : a ≠ b := fun e => ha (e ▸ hb)
        rw [List.getElem?_set_ne hab]; exact hk b hb

theorem applyCaller_keeps (st : Step) (ideal real : CStore) (h : Keeps ideal real) :
    Keeps (applyCaller st ideal) (applyCaller st real) := by
  simp only [applyCaller]
  cases stepUpd st with
  | none => exact h
  | some p => obtain ⟨a, g⟩ := p; exact updAt_keeps a g ideal real h

theorem requestOf_of_keeps (env : Arguments.Env) (fns : UserFns) (async : Bool) (fuel : Nat) (ideal real : CStore) (c : CallStep)
    (h : Keeps ideal real) (hs : (requestOf env fns async fuel ideal c).isSome = true) :
    requestOf env fns async fuel real c = requestOf env fns async fuel ideal c := by
  simp only [requestOf, derefArgs] at hs ⊢
  cases hd : derefItems (derefC ideal fuel) c.args with
  | none => simp [hd] at hs
  | some avs => rw [derefItems_mono (derefC_keeps ideal real h fuel) c.args avs hd]

theorem storeAfter_ideal (c : CallStep) (s : CStore) : storeAfter (fun _ s => some (PVal.imm PV.none, s)) c s = s := by
  have : ∀ (xs : List CVal) (s : CStore), ∃ ys, convertItemsC (fun _ s => some (PVal.imm PV.none, s)) xs s = some (ys, s) := by
    intro xs
    induction xs with
    | nil => intro s; exact ⟨[], rfl⟩
    | cons x xs ih => intro s; obtain ⟨ys, h⟩ := ih s; exact ⟨PVal.imm PV.none :: ys, by simp [convertItemsC, h]⟩
  obtain ⟨ys, h⟩ := this c.args s
  simp [storeAfter, h]

theorem storeAfter_keeps (conv : CVal → CStore → Option (PVal × CStore))
    (hconv : ∀ v s r s', conv v s = some (r, s') → Keeps s s') (c : CallStep) (s : CStore) : Keeps s (storeAfter conv c s) := by
  simp only [storeAfter]
  cases h : convertItemsC conv c.args s with
  | none => exact Keeps.refl s
  | some p => obtain ⟨ys, s'⟩ := p; exact convertItemsC_keeps conv hconv c.args s ys s' h

/-- ANY conversion that has the frame property runs every program like the ideal client -/
theorem runWith_eq_ideal (conv : CVal → CStore → Option (PVal × CStore))
    (hconv : ∀ v s r s', conv v s = some (r, s') → Keeps s s')
    (env : Arguments.Env) (fns : UserFns) (async : Bool) (fuel : Nat) :
    ∀ (steps : List Step) (ideal real : CStore), Keeps ideal real →
      (∀ r ∈ runIdeal env fns async fuel ideal steps, r.isSome = true) →
      runWith conv env fns async fuel real steps = runIdeal env fns async fuel ideal steps := by
  intro steps
  induction steps with
  | nil => intro ideal real _ _; simp [runWith, runIdeal]
  | cons st rest ih =>
    intro ideal real hinv hall
    cases st with
    | call c =>
      simp only [runIdeal, runWith, storeAfter_ideal] at hall ⊢
      have hreq := requestOf_of_keeps env fns async fuel ideal real c hinv (hall _ (by simp))
      rw [hreq]
      congr 1
      exact ih ideal (storeAfter conv c real) (Keeps.trans hinv (storeAfter_keeps conv hconv c real))
        (fun r hr => hall r (List.mem_cons_of_mem _ hr))
    | _ =>
      simp only [runIdeal, runWith] at hall ⊢
      exact ih _ _ (applyCaller_keeps _ ideal real hinv) hall

/-- … and leaves the caller's objects exactly as the caller's own statements made them -/
theorem storeWith_keeps (conv : CVal → CStore → Option (PVal × CStore))
    (hconv : ∀ v s r s', conv v s = some (r, s') → Keeps s s') :
    ∀ (steps : List Step) (ideal real : CStore), Keeps ideal real → Keeps (callerStore ideal steps) (storeWith conv real steps) := by
  intro steps
  induction steps with
  | nil => intro ideal real h; simpa [callerStore, storeWith] using h
  | cons st rest ih =>
    intro ideal real hinv
    cases st with
    | call c =>
      simp only [callerStore, storeWith, storeAfter_ideal]
      exact ih ideal (storeAfter conv c real) (Keeps.trans hinv (storeAfter_keeps conv hconv c real))
    | _ => simp only [callerStore, storeWith]; exact ih _ _ (applyCaller_keeps _ ideal real hinv)

/-- the base client of /repo: every call of every program sends what its arguments denote at that moment -/
theorem runC_eq_ideal (env : Arguments.Env) (fns : UserFns) (async : Bool) (fuel : Nat) (s : CStore) (steps : List Step)
    (hall : ∀ r ∈ runIdeal env fns async fuel s steps, r.isSome = true) :
    runC env fns async fuel s steps = runIdeal env fns async fuel s steps :=
  runWith_eq_ideal (convertValueC fns fuel) (convertValueC_keeps fns fuel) env fns async fuel steps s s (Keeps.refl s) hall

end Ariadne.ArgHeap
