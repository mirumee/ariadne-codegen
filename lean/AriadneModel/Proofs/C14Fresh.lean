/-
  C14: an expression that applies no mutator to a class-level object has a VALUE: it evaluates to the same result in
  every store and leaves the store alone (`PureEval`, `pureEval_both`).  What the later files need of such a value is
  proved of it in one induction (the other fields of `PureEval`).
-/
import AriadneModel.Proofs.C14Owned
import AriadneModel.Proofs.C14Eval

namespace Ariadne.C14
open Ariadne.Builder Ariadne.BuilderDoc

mutual
  def deref (st : Store) : Node → Node
    | .obj r subs frags => .obj r (derefList st subs) (derefFrags st frags)
    | .ref id => (st[id]?).getD (.ref id)
  def derefList (st : Store) : List Node → List Node
    | [] => []
    | n :: ns => deref st n :: derefList st ns
  def derefFrags (st : Store) : List Frag → List Frag
    | [] => []
    | .mk ty ns :: fs => .mk ty (derefList st ns) :: derefFrags st fs
end

theorem derefList_append (st : Store) : ∀ (a b : List Node), derefList st (a ++ b) = derefList st a ++ derefList st b
  | [], b => by simp [derefList]
  | n :: a, b => by simp [derefList, derefList_append st a b]

theorem derefList_isEmpty (st : Store) : ∀ (a : List Node), (derefList st a).isEmpty = a.isEmpty
  | [] => by simp [derefList]
  | n :: a => by simp [derefList]

theorem derefFrags_isEmpty (st : Store) : ∀ (a : List Frag), (derefFrags st a).isEmpty = a.isEmpty
  | [] => by simp [derefFrags]
  | .mk _ _ :: a => by simp [derefFrags]

theorem derefFrags_set (st : Store) (ty : String) (cs : List Node) : ∀ (fs : List Frag),
    derefFrags st (setFragList ty cs fs) = setFragList ty (derefList st cs) (derefFrags st fs)
  | [] => by simp [setFragList, derefFrags]
  | .mk t ns :: fs => by
    simp only [setFragList, derefFrags]
    split
    · simp [derefFrags]
    · simp [derefFrags, derefFrags_set st ty cs fs]

mutual
  theorem intendedExact_deref {st : Store} (hp : Pristine st) : ∀ (n : Node),
      intendedExact st n = intendedExact [] (deref st n)
    | .obj r subs frags => by
      simp only [deref, intendedExact, intendedExactList_deref hp subs, intendedExactFrags_deref hp frags,
        derefList_isEmpty, derefFrags_isEmpty]
    | .ref id => by
      simp only [deref, intendedExact, intendedRefExact]
      cases hn : st[id]? with
      | none => simp [intendedExact, intendedRefExact]
      | some n =>
        obtain ⟨r, rfl, hv, -⟩ := hp id n hn
        simp [intendedExact, intendedExactList, intendedExactFrags, hv]
  theorem intendedExactList_deref {st : Store} (hp : Pristine st) : ∀ (ns : List Node),
      intendedExactList st ns = intendedExactList [] (derefList st ns)
    | [] => by simp [derefList, intendedExactList]
    | n :: ns => by
      simp only [derefList, intendedExactList, intendedExact_deref hp n, intendedExactList_deref hp ns]
  theorem intendedExactFrags_deref {st : Store} (hp : Pristine st) : ∀ (fs : List Frag),
      intendedExactFrags st fs = intendedExactFrags [] (derefFrags st fs)
    | [] => by simp [derefFrags, intendedExactFrags]
    | .mk ty ns :: fs => by
      simp only [derefFrags, intendedExactFrags, intendedExactList_deref hp ns, intendedExactFrags_deref hp fs]
end

mutual
  def RefsOK (st : Store) : Node → Bool
    | .obj _ subs frags => RefsOKList st subs && RefsOKFrags st frags
    | .ref id => (st[id]?).isSome
  def RefsOKList (st : Store) : List Node → Bool
    | [] => true
    | n :: ns => RefsOK st n && RefsOKList st ns
  def RefsOKFrags (st : Store) : List Frag → Bool
    | [] => true
    | .mk _ ns :: fs => RefsOKList st ns && RefsOKFrags st fs
end

namespace Mutator
variable {e' e : Expr} {cs : List Expr} {has : ClassDef → Bool} {f : List Node → Node → Node}

theorem deref (hm : Mutator e' e cs has f) (st : Store) (ns : List Node) (r : Rec) (s : List Node) (fr : List Frag) :
    C14.deref st (f ns (.obj r s fr)) = f (derefList st ns) (.obj r (derefList st s) (derefFrags st fr)) := by
  cases hm
  · rfl
  · simp [extendSubs, C14.deref, derefList_append]
  · simp [setFrag, C14.deref, derefFrags_set]

end Mutator

theorem refsInL_append (F : Nat → Prop) : ∀ (a b : List Node), RefsInL F (a ++ b) ↔ RefsInL F a ∧ RefsInL F b
  | [], b => by simp [RefsInL]
  | n :: a, b => by simp [RefsInL, refsInL_append F a b, and_assoc]

theorem refsInF_setFragList (F : Nat → Prop) (ty : String) (cs : List Node) (hc : RefsInL F cs) :
    ∀ (fs : List Frag), RefsInF F fs → RefsInF F (setFragList ty cs fs)
  | [], _ => by simp [setFragList, RefsInF, hc]
  | .mk t ns :: fs, h => by
    simp only [RefsInF] at h
    simp only [setFragList]
    split
    · simp [RefsInF, hc, h.2]
    · simp [RefsInF, h.1, refsInF_setFragList F ty cs hc fs h.2]

theorem Mutator.refsIn {e' e : Expr} {cs : List Expr} {has : ClassDef → Bool} {f : List Node → Node → Node}
    (hm : Mutator e' e cs has f) {F : Nat → Prop} {ns : List Node} {r : Rec} {s : List Node} {fr : List Frag}
    (h : RefsIn F (.obj r s fr)) (hc : RefsInL F ns) : RefsIn F (f ns (.obj r s fr)) := by
  simp only [RefsIn] at h
  cases hm
  · simpa [setAlias, RefsIn] using h
  · simp only [extendSubs, RefsIn]
    exact ⟨(refsInL_append _ _ _).mpr ⟨h.1, hc⟩, h.2⟩
  · simp only [setFrag, RefsIn]
    exact ⟨h.1, refsInF_setFragList _ _ ns hc fr h.2⟩

structure PureEval (p : Package) (e : Expr) (R : Except Err Node) : Prop where
  eval : ∀ st, evalExpr p e st = (R, st)
  /-- up to copying the class-level objects it refers to, it is what the expression says -/
  fresh : R.map (deref p.initStore) = evalFresh p e
  refs : ∀ n, R = .ok n → RefsIn (OccAt p (sharedOccs e)) n
  owned : exprIsAttr (exprBase e) = false → ∀ n, R = .ok n → IsObj n
  /-- outside the F1 and F3 triggers its objects carry GraphQL names and exact argument types -/
  exact : trigListArg p e = false → trigPyName p e = false → ∀ n, R = .ok n → NodeOK n

structure PureEvalL (p : Package) (es : List Expr) (R : Except Err (List Node)) : Prop where
  eval : ∀ st, evalList p es st = (R, st)
  fresh : R.map (derefList p.initStore) = evalFreshList p es
  refs : ∀ ns, R = .ok ns → RefsInL (OccAt p (sharedOccsList es)) ns
  exact : trigListArgList p es = false → trigPyNameList p es = false → ∀ ns, R = .ok ns → NodesOK ns

theorem PureEval.error {p : Package} {e : Expr} {x : Err} (h1 : ∀ st, evalExpr p e st = (.error x, st))
    (h2 : evalFresh p e = .error x) : PureEval p e (.error x) :=
  ⟨h1, h2.symm, nofun, fun _ => nofun, fun _ _ => nofun⟩

theorem PureEvalL.error {p : Package} {es : List Expr} {x : Err} (h1 : ∀ st, evalList p es st = (.error x, st))
    (h2 : evalFreshList p es = .error x) : PureEvalL p es (.error x) :=
  ⟨h1, h2.symm, nofun, fun _ _ => nofun⟩

theorem attrResult_fresh (p : Package) (c a : String) :
    (attrResult p c a).map (deref p.initStore) = evalFresh p (.attr c a) := by
  simp only [attrResult, evalExpr, evalFresh, freshOfShared]
  cases p.findClass c with
  | none => rfl
  | some cd =>
    dsimp only
    cases cd.findAcc a with
    | none => rfl
    | some acc =>
      dsimp only
      cases acc.kind with
      | method => rfl
      | shared =>
        dsimp only
        cases hid : p.sharedId c a with
        | none => rfl
        | some id =>
          obtain ⟨n0, hn0⟩ := sharedId_get p c a id hid
          simp [Except.map, deref, hn0]

theorem callResult_fresh (p : Package) (c a : String) (kw : List (String × J)) :
    (callResult p c a kw).map (deref p.initStore) = evalFresh p (.call c a kw) := by
  simp only [callResult, evalExpr, evalFresh]
  cases p.findClass c with
  | none => rfl
  | some cd =>
    dsimp only
    cases cd.findAcc a with
    | none => rfl
    | some acc =>
      dsimp only
      cases acc.kind with
      | shared => rfl
      | method =>
        dsimp only
        cases bindArgs acc.args kw with
        | error x => rfl
        | ok vars => simp [Except.map, mkNode, deref, derefList, derefFrags]

theorem pureEval_both (p : Package) :
    (∀ e, mutatesShared e = false → ∃ R, PureEval p e R) ∧
    (∀ es, mutatesSharedList es = false → ∃ R, PureEvalL p es R) := by
  refine exprMutInd ?_ ?_ ?_ ?_ ?_
  · intro c a _
    refine ⟨attrResult p c a, fun st => evalExpr_attr p c a st, attrResult_fresh p c a, ?_,
      fun h => by simp [exprBase, exprIsAttr] at h, ?_⟩
    · intro n hn
      obtain ⟨id, rfl, hid⟩ := attrResult_ok hn
      exact ⟨c, a, false, by simp [sharedOccs], hid⟩
    · intro _ _ n hn
      obtain ⟨id, rfl, -⟩ := attrResult_ok hn
      simp [NodeOK, ExactOK]
  · intro c a kw _
    refine ⟨callResult p c a kw, fun st => evalExpr_call p c a kw st, callResult_fresh p c a kw, ?_, ?_, ?_⟩
    · intro n hn
      obtain ⟨_, acc, vars, -, -, -, rfl⟩ := callResult_ok hn
      simp [mkNode, RefsIn, RefsInL, RefsInF]
    · intro _ n hn
      obtain ⟨_, acc, vars, -, -, -, rfl⟩ := callResult_ok hn
      exact ⟨_, _, _, rfl⟩
    · intro hl hpn n hn
      obtain ⟨cd, acc, vars, hc, ha, hv, rfl⟩ := callResult_ok hn
      simp only [trigListArg, hc, ha] at hl
      simp only [trigPyName, hc, ha, bne_eq_false_iff_eq] at hpn
      simp only [NodeOK, mkNode, ExactOK, ExactOKList, ExactOKFrags, Bool.and_true, Bool.and_eq_true, beq_iff_eq]
      exact ⟨hpn, bindArgs_exact hv hl⟩
  · intro e' e cs has f hm ihe ihcs h
    rw [hm.mutates] at h
    simp only [Bool.or_eq_false_iff] at h
    obtain ⟨⟨hb, he⟩, hcs⟩ := h
    obtain ⟨Re, pe⟩ := ihe he
    obtain ⟨Rcs, pl⟩ := ihcs hcs
    have hocc : sharedOccs e' = sharedOccs e ++ sharedOccsList cs := by rw [hm.occs, hb, markHead_false]
    cases Re with
    | error x =>
      refine ⟨_, .error (x := x) (fun st => by rw [hm.eval, pe.eval]) ?_⟩
      rw [hm.evalFresh, ← pe.fresh]; rfl
    | ok n =>
      obtain ⟨r, s, fr, rfl⟩ := pe.owned hb n rfl
      have hfe : evalFresh p e = .ok (.obj r (derefList p.initStore s) (derefFrags p.initStore fr)) := by
        rw [← pe.fresh]; rfl
      by_cases hc : classHas p has (some r.cls) = true
      · cases Rcs with
        | error x =>
          have hfl : evalFreshList p cs = .error x := by rw [← pl.fresh]; rfl
          exact ⟨_, .error (x := x) (fun st => by simp [hm.eval, pe.eval, nodeCls, hc, pl.eval])
            (by simp [hm.evalFresh, hfe, ownCls, hc, hfl])⟩
        | ok ns =>
          have hfl : evalFreshList p cs = .ok (derefList p.initStore ns) := by rw [← pl.fresh]; rfl
          refine ⟨.ok (f ns (.obj r s fr)), fun st => by simp [hm.eval, pe.eval, nodeCls, hc, pl.eval, mutate_obj], ?_, ?_, ?_, ?_⟩
          · simp [hm.evalFresh, hfe, ownCls, hc, hfl, Except.map, hm.deref]
          · intro n hn
            cases hn
            rw [hocc]
            exact hm.refsIn (refsIn_mono (fun i hi => hi.left) _ (pe.refs _ rfl))
              (refsInL_mono (fun i hi => hi.right) _ (pl.refs _ rfl))
          · intro _ n hn
            cases hn
            exact hm.isObj ns ⟨_, _, _, rfl⟩
          · intro hl hpn n hn
            cases hn
            rw [hm.trigListArg, Bool.or_eq_false_iff] at hl
            rw [hm.trigPyName, Bool.or_eq_false_iff] at hpn
            exact hm.nodeOK (pe.exact hl.1 hpn.1 _ rfl) (pl.exact hl.2 hpn.2 _ rfl)
      · exact ⟨_, .error (x := .attribute) (fun st => by simp [hm.eval, pe.eval, nodeCls, hc])
          (by simp [hm.evalFresh, hfe, ownCls, hc])⟩
  · intro _
    exact ⟨.ok [], fun _ => rfl, rfl, fun ns hn => by cases hn; trivial, fun _ _ ns hn => by cases hn; rfl⟩
  · intro e es ihe ihes h
    simp only [mutatesSharedList, Bool.or_eq_false_iff] at h
    obtain ⟨Re, pe⟩ := ihe h.1
    obtain ⟨Res, pl⟩ := ihes h.2
    cases Re with
    | error x =>
      have hfe : evalFresh p e = .error x := by rw [← pe.fresh]; rfl
      exact ⟨_, .error (x := x) (fun st => by simp [evalList, pe.eval]) (by simp [evalFreshList, hfe])⟩
    | ok n =>
      have hfe : evalFresh p e = .ok (deref p.initStore n) := by rw [← pe.fresh]; rfl
      cases Res with
      | error x =>
        have hfl : evalFreshList p es = .error x := by rw [← pl.fresh]; rfl
        exact ⟨_, .error (x := x) (fun st => by simp [evalList, pe.eval, pl.eval]) (by simp [evalFreshList, hfe, hfl])⟩
      | ok ns =>
        have hfl : evalFreshList p es = .ok (derefList p.initStore ns) := by rw [← pl.fresh]; rfl
        refine ⟨.ok (n :: ns), fun st => by simp [evalList, pe.eval, pl.eval], ?_, ?_, ?_⟩
        · simp [evalFreshList, hfe, hfl, Except.map, derefList]
        · intro ns' hn
          cases hn
          simp only [sharedOccsList, RefsInL]
          exact ⟨refsIn_mono (fun i h => h.left) _ (pe.refs _ rfl), refsInL_mono (fun i h => h.right) _ (pl.refs _ rfl)⟩
        · intro hl hpn ns' hn
          cases hn
          simp only [trigListArgList, Bool.or_eq_false_iff] at hl
          simp only [trigPyNameList, Bool.or_eq_false_iff] at hpn
          have i1 : ExactOK n = true := pe.exact hl.1 hpn.1 _ rfl
          have i2 : ExactOKList ns = true := pl.exact hl.2 hpn.2 _ rfl
          simp [NodesOK, ExactOKList, i1, i2]

mutual
  theorem refsOK_of_refsIn {st : Store} {A : Nat → Prop} (hA : ∀ id, A id → (st[id]?).isSome = true) :
      ∀ n, RefsIn A n → RefsOK st n = true
    | .obj _ subs frags, h => by
      simp only [RefsIn] at h
      simp only [RefsOK, refsOKList_of_refsIn hA subs h.1, refsOKFrags_of_refsIn hA frags h.2, Bool.and_self]
    | .ref id, h => hA id h
  theorem refsOKList_of_refsIn {st : Store} {A : Nat → Prop} (hA : ∀ id, A id → (st[id]?).isSome = true) :
      ∀ ns, RefsInL A ns → RefsOKList st ns = true
    | [], _ => rfl
    | n :: ns, h => by
      simp only [RefsInL] at h
      simp only [RefsOKList, refsOK_of_refsIn hA n h.1, refsOKList_of_refsIn hA ns h.2, Bool.and_self]
  theorem refsOKFrags_of_refsIn {st : Store} {A : Nat → Prop} (hA : ∀ id, A id → (st[id]?).isSome = true) :
      ∀ fs, RefsInF A fs → RefsOKFrags st fs = true
    | [], _ => rfl
    | .mk _ ns :: fs, h => by
      simp only [RefsInF] at h
      simp only [RefsOKFrags, refsOKList_of_refsIn hA ns h.1, refsOKFrags_of_refsIn hA fs h.2, Bool.and_self]
end

theorem occAt_init (p : Package) (occs : List (String × String × Bool)) (id : Nat) (h : OccAt p occs id) :
    (p.initStore[id]?).isSome = true := by
  obtain ⟨c, a, _, _, hs⟩ := h
  obtain ⟨n, hn⟩ := sharedId_get p c a id hs
  simp [hn]

theorem evalList_fresh (p : Package) (es : List Expr) (st' : Store) (ns : List Node)
    (hm : mutatesSharedList es = false) (h : evalList p es p.initStore = (.ok ns, st')) :
    evalFreshList p es = .ok (derefList p.initStore ns) := by
  obtain ⟨R, pl⟩ := (pureEval_both p).2 es hm
  rw [pl.eval] at h
  cases h
  exact pl.fresh.symm

theorem evalList_ok (p : Package) (es : List Expr) (nsF : List Node) (hm : mutatesSharedList es = false)
    (h : evalFreshList p es = .ok nsF) :
    ∃ ns, evalList p es p.initStore = (.ok ns, p.initStore) ∧ RefsOKList p.initStore ns = true := by
  obtain ⟨R, pl⟩ := (pureEval_both p).2 es hm
  cases R with
  | error x => have := pl.fresh; rw [h] at this; cases this
  | ok ns => exact ⟨ns, pl.eval _, refsOKList_of_refsIn (occAt_init p _) ns (pl.refs ns rfl)⟩

theorem evalList_nodesOK (p : Package) (es : List Expr) (st st' : Store) (ns : List Node)
    (hm : mutatesSharedList es = false) (hl : trigListArgList p es = false) (hpn : trigPyNameList p es = false)
    (h : evalList p es st = (.ok ns, st')) : NodesOK ns := by
  obtain ⟨R, pl⟩ := (pureEval_both p).2 es hm
  rw [pl.eval] at h
  cases h
  exact pl.exact hl hpn ns rfl

theorem evalList_indep (p : Package) (es : List Expr) (h : mutatesSharedList es = false) :
    (∀ st, evalList p es st = ((evalList p es []).1, st)) ∧
    (∀ ns, (evalList p es []).1 = .ok ns → RefsInL (OccAt p (sharedOccsList es)) ns) := by
  obtain ⟨R, pl⟩ := (pureEval_both p).2 es h
  simp only [pl.eval]
  exact ⟨fun _ => trivial, pl.refs⟩

end Ariadne.C14
