/-
  Proofs/C04Disk.lean — what `PackageGenerator.generate` (`Package.generateSteps`) does, every outcome, stated once
  (`generateSteps_run`).  Every state it passes through is `stOf ms i u`: the modules `ms` were written in this order (on
  disk is the fold of `putModule`, replace-or-append by file name, over `ms`; the write log is the list of their file
  names), the init imports are `i`, `_used_enums` is `u`.  Per step one lemma says what the step makes of such a state when
  it returns and when it raises (`Post`); `Post.andThen` chains them.  When it returns, `ms` is the list `written`; when it
  raises, the exception is the formatter's, `_generate_input_types`' or `_generate_fragments`' (`RaisedBy`).  What the
  properties need follows: one module per file on disk, `__init__` written last, nothing lost when no file is written
  twice, and `findModule` finds a written module under its name.
-/
import AriadneModel.Model.Package
import AriadneModel.Spec.PyScope
import AriadneModel.Proofs.C04Steps
import AriadneModel.Proofs.C04Init
import AriadneModel.Proofs.ListLemmas


namespace Ariadne.C04Proofs
open Ariadne.Package Ariadne.Spec.PyScope
open Ariadne.ResultTypes (GenErr)

theorem mem_foldl_putModule : ∀ (l ms : List ModuleIR) (x : ModuleIR), x ∈ l.foldl putModule ms → x ∈ ms ∨ x ∈ l
  | [], ms, x, h => Or.inl h
  | m :: rest, ms, x, h => by
    simp only [List.foldl_cons] at h
    rcases mem_foldl_putModule rest _ x h with h | h
    · rcases mem_putModule h with rfl | h
      · exact Or.inr List.mem_cons_self
      · exact Or.inl h
    · exact Or.inr (List.mem_cons_of_mem _ h)

theorem foldl_putModule_of_nodup : ∀ (l ms : List ModuleIR), (ms.map (·.file) ++ l.map (·.file)).Nodup →
    ∀ x, (x ∈ ms ∨ x ∈ l) → x ∈ l.foldl putModule ms
  | [], ms, _, x, h => by
    rcases h with h | h
    · exact h
    · cases h
  | m :: rest, ms, hn, x, h => by
    simp only [List.foldl_cons]
    have hnot : m.file ∉ ms.map (·.file) := by
      intro hm
      have := (List.nodup_append.mp hn).2.2 _ hm m.file (by simp)
      exact this rfl
    rw [putModule_of_not_mem ms m hnot]
    apply foldl_putModule_of_nodup rest (ms ++ [m])
    · simpa [List.map_append, List.append_assoc] using hn
    · rcases h with h | h
      · exact Or.inl (List.mem_append_left _ h)
      · rcases List.mem_cons.mp h with rfl | h
        · exact Or.inl (by simp)
        · exact Or.inr h

theorem last_mem_foldl_putModule (l ms : List ModuleIR) (m : ModuleIR) : m ∈ (l ++ [m]).foldl putModule ms := by
  rw [List.foldl_append]
  exact self_mem_putModule _ m

/-- `PackageGenerator._used_enums` when `_generate_enums` reads it -/
def finalUsedEnums (st : St) (io : InputsOut) (fx : Option (Fragments.FragmentsOut × List Fragments.DefGen)) : List String :=
  st.usedEnums ++ io.usedEnums ++ fragmentEnums (fragOut fx) ++ st.argSt.usedEnums

/-- the modules `generate()` writes, in write order -/
def written (cfg : Config) (inp : Input) (st : St) (io : InputsOut) (fx : Option (Fragments.FragmentsOut × List Fragments.DefGen)) :
    List ModuleIR :=
  [io.module] ++ st.files.map (·.2) ++ fragModules cfg fx ++ (copiedList cfg).map (copiedModule cfg)
    ++ (customList cfg inp).map customModule
    ++ [clientModule cfg inp.schema st.entries st.argSt] ++ [enumsModule cfg inp.schema (finalUsedEnums st io fx)]
    ++ [initModule (finalInit cfg inp st io (fragOut fx))]

/-- what is known once step `s` has run from `g`: `ok` of the state it returns, `bad` of the exception it raises
    (and of the state it leaves behind) -/
def Post (s : Step) (g : GenSt) (ok : GenSt → Prop) (bad : GenSt → GenErr → Prop) : Prop :=
  match s g with
  | .ok g' => ok g'
  | .error (g', err) => bad g' err

theorem Post.ok {s : Step} {g g' : GenSt} {ok bad} (h : Post s g ok bad) (hs : s g = .ok g') : ok g' := by
  unfold Post at h; rw [hs] at h; exact h

theorem Post.bad {s : Step} {g g' : GenSt} {err : GenErr} {ok bad} (h : Post s g ok bad) (hs : s g = .error (g', err)) : bad g' err := by
  unfold Post at h; rw [hs] at h; exact h

theorem Post.andThen {a b : Step} {g : GenSt} {ok bad} (h : Post a g (fun g1 => Post b g1 ok bad) bad) :
    Post (a.andThen b) g ok bad := by
  unfold Post Step.andThen at *
  cases ha : a g with
  | error x => rw [ha] at h; exact h
  | ok g1 => rw [ha] at h; exact h

theorem emit_post {fmt : FmtOracle} {m : ModuleIR} {g : GenSt} {ok bad}
    (hok : fmt m = true → ok (writeRaw m g)) (hbad : fmt m = false → bad g (.internal "InvalidInput")) : Post (emit fmt m) g ok bad := by
  unfold Post emit
  cases hf : fmt m with
  | true => exact hok hf
  | false => exact hbad hf

theorem emitThen_post {fmt : FmtOracle} {m : ModuleIR} {f : GenSt → GenSt} {g : GenSt} {ok bad}
    (hok : fmt m = true → ok (f (writeRaw m g))) (hbad : fmt m = false → bad g (.internal "InvalidInput")) :
    Post (emitThen fmt m f) g ok bad := by
  unfold Post emitThen emit
  cases hf : fmt m with
  | true => exact hok hf
  | false => exact hbad hf

theorem emitAll_post {fmt : FmtOracle} {ok bad} : ∀ (ms : List ModuleIR) (g : GenSt),
    ((∀ m ∈ ms, fmt m = true) → ok (ms.foldl (fun g m => writeRaw m g) g)) →
    (∀ (pre : List ModuleIR) m, fmt m = false → bad (pre.foldl (fun g m => writeRaw m g) g) (.internal "InvalidInput")) →
    Post (emitAll fmt ms) g ok bad
  | [], g, hok, _ => hok (fun _ h => nomatch h)
  | m :: rest, g, hok, hbad => by
    simp only [emitAll]
    refine Post.andThen (emit_post (fun hf => ?_) (fun hf => hbad [] m hf))
    refine emitAll_post rest _ (fun hall => hok ?_) (fun pre m' hf => hbad (m :: pre) m' hf)
    intro x hx
    rcases List.mem_cons.mp hx with rfl | hx
    · exact hf
    · exact hall x hx

def stOf (ms : List ModuleIR) (init : List Import) (ue : List String) : GenSt :=
  { modules := ms.foldl putModule [], log := ms.map (·.file), init := init, usedEnums := ue }

theorem genSt0_eq (cfg : Config) (st : St) : genSt0 cfg st = stOf [] (init0 cfg st) st.usedEnums := rfl

theorem writeRaw_stOf (m : ModuleIR) (ms : List ModuleIR) (i : List Import) (u : List String) :
    writeRaw m (stOf ms i u) = stOf (ms ++ [m]) i u := by
  simp [writeRaw, stOf, List.foldl_append]

theorem foldl_writeRaw_stOf (l ms : List ModuleIR) (i : List Import) (u : List String) :
    l.foldl (fun g m => writeRaw m g) (stOf ms i u) = stOf (ms ++ l) i u := by
  induction l generalizing ms with
  | nil => simp
  | cons m rest ih => rw [List.foldl_cons, writeRaw_stOf, ih]; simp

theorem foldl_mk_stOf (mk : String → ModuleIR) (files : List String) (ms : List ModuleIR) (i : List Import) (u : List String) :
    files.foldl (fun g f => writeRaw (mk f) g) (stOf ms i u) = stOf (ms ++ files.map mk) i u := by
  rw [← foldl_writeRaw_stOf, List.foldl_map]

section
variable {fmt : FmtOracle} {e : Order.EnumOracle} {cfg : Config} {inp : Input} {fl : Nat} {st : St}
  {ms : List ModuleIR} {i : List Import} {u : List String} {ok : GenSt → Prop} {bad : GenSt → GenErr → Prop}

theorem emitThen_stOf {m : ModuleIR} {f : GenSt → GenSt} (hbad : fmt m = false → bad (stOf ms i u) (.internal "InvalidInput"))
    (hok : ok (f (stOf (ms ++ [m]) i u))) : Post (emitThen fmt m f) (stOf ms i u) ok bad :=
  emitThen_post (fun _ => writeRaw_stOf m ms i u ▸ hok) hbad

theorem stepInputs_post
    (hraise : ∀ err, inputsModule cfg inp.defs st.argSt.usedInputs = .error err → bad (stOf ms i u) err)
    (hfmt : ∀ m, fmt m = false → bad (stOf ms i u) (.internal "InvalidInput"))
    (hok : ∀ io, inputsModule cfg inp.defs st.argSt.usedInputs = .ok io →
      ok (stOf (ms ++ [io.module]) (initAdd i io.publicNames cfg.inputsModule) (u ++ io.usedEnums))) :
    Post (stepInputs fmt cfg inp st) (stOf ms i u) ok bad := by
  unfold stepInputs
  cases hio : inputsModule cfg inp.defs st.argSt.usedInputs with
  | error err => exact hraise err hio
  | ok io => exact emitThen_stOf (hfmt _) (hok io hio)

theorem stepResults_post
    (hfmt : ∀ pre m, fmt m = false → bad (stOf (ms ++ pre) i u) (.internal "InvalidInput"))
    (hok : ok (stOf (ms ++ st.files.map (·.2)) i u)) : Post (stepResults fmt st) (stOf ms i u) ok bad := by
  unfold stepResults
  refine emitAll_post _ _ (fun _ => ?_) (fun pre m hf => ?_)
  · rw [foldl_writeRaw_stOf]; exact hok
  · rw [foldl_writeRaw_stOf]; exact hfmt pre m hf

theorem stepFragments_post
    (hraise : ∀ ferr, (Fragments.genFragments (rtEnv cfg inp) fl (e (Fragments.remaining (rtEnv cfg inp) st.unpacked)) st.marks = .error ferr ∨
       Fragments.generateFragments e (rtEnv cfg inp) fl (e (Fragments.remaining (rtEnv cfg inp) st.unpacked)) st.marks = .error ferr) →
       bad (stOf ms i u) (ofFragErr ferr))
    (hfmt : ∀ m, fmt m = false → bad (stOf ms i u) (.internal "InvalidInput"))
    (hok : ∀ fx, FragRan e cfg inp fl st fx →
      ok (stOf (ms ++ fragModules cfg fx) (initAdd i (fragmentNames (fragOut fx)) cfg.fragmentsModule) (u ++ fragmentEnums (fragOut fx)))) :
    Post (stepFragments fmt e cfg inp fl st) (stOf ms i u) ok bad := by
  unfold stepFragments
  simp only
  split
  · rename_i hr
    have := hok none (Or.inl ⟨hr, rfl⟩)
    simpa [Post, fragModules, fragOut, fragmentNames, fragmentEnums, initAdd_nil] using this
  · rename_i hr
    cases hg : Fragments.genFragments (rtEnv cfg inp) fl (e (Fragments.remaining (rtEnv cfg inp) st.unpacked)) st.marks with
    | error ferr => exact hraise ferr (Or.inl hg)
    | ok gens =>
      cases hf : Fragments.generateFragments e (rtEnv cfg inp) fl (e (Fragments.remaining (rtEnv cfg inp) st.unpacked)) st.marks with
      | error ferr => exact hraise ferr (Or.inr hf)
      | ok fo => exact emitThen_stOf (hfmt _) (hok (some (fo, gens)) (Or.inr ⟨by simpa using hr, fo, gens, rfl, hg, hf⟩))

theorem stepCopy_post
    (hok : ok (stOf (ms ++ (copiedList cfg).map (copiedModule cfg))
      (initAdd (initAdd i [cfg.baseClientName] (stem cfg.baseClientFile)) ["BaseModel", Tables.uploadClassName] (stem baseModelFile)) u)) :
    Post (stepCopy cfg) (stOf ms i u) ok bad := by
  unfold stepCopy copyAll Post
  simp only [foldl_mk_stOf]
  exact hok

theorem stepCustom_post (hok : ok (stOf (ms ++ (customList cfg inp).map customModule) i u)) :
    Post (stepCustom cfg inp) (stOf ms i u) ok bad := by
  show ok (if cfg.customOps then (customFiles inp.schema).foldl (fun g f => writeRaw (customModule f) g) (stOf ms i u) else stOf ms i u)
  unfold customList at hok
  cases hc : cfg.customOps with
  | true => simpa [foldl_mk_stOf, hc] using hok
  | false => simpa [hc] using hok

theorem stepClient_post (hfmt : ∀ m, fmt m = false → bad (stOf ms i u) (.internal "InvalidInput"))
    (hok : ok (stOf (ms ++ [clientModule cfg inp.schema st.entries st.argSt]) (initAdd i [cfg.clientName] cfg.clientFile) (u ++ st.argSt.usedEnums))) :
    Post (stepClient fmt cfg inp st) (stOf ms i u) ok bad :=
  emitThen_stOf (hfmt _) hok

theorem stepEnums_post (hfmt : ∀ m, fmt m = false → bad (stOf ms i u) (.internal "InvalidInput"))
    (hok : ok (stOf (ms ++ [enumsModule cfg inp.schema u]) (initAdd i ((enumsModule cfg inp.schema u).classes.map (·.name)) cfg.enumsModule) u)) :
    Post (stepEnums fmt cfg inp) (stOf ms i u) ok bad :=
  emitThen_stOf (hfmt _) hok

theorem stepInit_post (hfmt : ∀ m, fmt m = false → bad (stOf ms i u) (.internal "InvalidInput"))
    (hok : ok (stOf (ms ++ [initModule i]) i u)) : Post (stepInit fmt) (stOf ms i u) ok bad :=
  emit_post (fun _ => writeRaw_stOf _ ms i u ▸ hok) (hfmt _)

/-- the call that raised, with its arguments: the formatter on some module, `_generate_input_types`, or `_generate_fragments`
    on the fragments no operation unpacked.  `StepsErr` (Proofs/C04Errors.lean) is the same three origins as an inductive that
    forgets those arguments: the form `refusal_origin` and `generate_total_partial` state (`RaisedBy.stepsErr`) -/
def RaisedBy (fmt : FmtOracle) (e : Order.EnumOracle) (cfg : Config) (inp : Input) (fl : Nat) (st : St) (err : GenErr) : Prop :=
  (∃ m, fmt m = false ∧ err = .internal "InvalidInput") ∨
  inputsModule cfg inp.defs st.argSt.usedInputs = .error err ∨
  ∃ ferr, err = ofFragErr ferr ∧
    (Fragments.genFragments (rtEnv cfg inp) fl (e (Fragments.remaining (rtEnv cfg inp) st.unpacked)) st.marks = .error ferr ∨
     Fragments.generateFragments e (rtEnv cfg inp) fl (e (Fragments.remaining (rtEnv cfg inp) st.unpacked)) st.marks = .error ferr)

/-- **what `generate()` does**, every outcome: it returns having written `written …` and nothing else, in that order; or it
    raises, and then the exception is the formatter's, the input types generator's or the fragments generator's, and what is
    on disk is still what some list of modules written in order leaves there -/
theorem generateSteps_run (fmt : FmtOracle) (e : Order.EnumOracle) (cfg : Config) (inp : Input) (fl : Nat) (st : St) :
    Post (generateSteps fmt e cfg inp fl st) (genSt0 cfg st)
      (fun g => ∃ io fx, inputsModule cfg inp.defs st.argSt.usedInputs = .ok io ∧ FragRan e cfg inp fl st fx ∧
        g = stOf (written cfg inp st io fx) (finalInit cfg inp st io (fragOut fx)) (finalUsedEnums st io fx))
      (fun g err => RaisedBy fmt e cfg inp fl st err ∧ ∃ ms i u, g = stOf ms i u) := by
  have refused : ∀ {ms i u} (m : ModuleIR), fmt m = false →
      RaisedBy fmt e cfg inp fl st (.internal "InvalidInput") ∧ ∃ ms' i' u', stOf ms i u = stOf ms' i' u' :=
    fun m hm => ⟨Or.inl ⟨m, hm, rfl⟩, _, _, _, rfl⟩
  rw [genSt0_eq]
  unfold generateSteps
  refine Post.andThen (stepInputs_post (fun err h => ⟨Or.inr (Or.inl h), _, _, _, rfl⟩) refused fun io hio => ?_)
  refine Post.andThen (stepResults_post (fun _ => refused) ?_)
  refine Post.andThen (stepFragments_post (fun ferr h => ⟨Or.inr (Or.inr ⟨ferr, rfl, h⟩), _, _, _, rfl⟩) refused fun fx hfx => ?_)
  refine Post.andThen (stepCopy_post ?_)
  refine Post.andThen (stepCustom_post ?_)
  refine Post.andThen (stepClient_post refused ?_)
  refine Post.andThen (stepEnums_post refused ?_)
  refine stepInit_post refused ⟨io, fx, hio, hfx, ?_⟩
  simp only [written, finalInit, finalUsedEnums, List.append_assoc, List.nil_append]


theorem filesInv_stOf (ms : List ModuleIR) (i : List Import) (u : List String) : FilesInv (stOf ms i u) := by
  have key : ∀ (l : List ModuleIR) (g : GenSt), FilesInv g → FilesInv (l.foldl (fun g m => writeRaw m g) g) := by
    intro l
    induction l with
    | nil => exact fun _ h => h
    | cons m rest ih => exact fun g h => ih _ (h.write m)
  have := key ms (stOf [] i u) ⟨List.nodup_nil, by simp [stOf]⟩
  rwa [foldl_writeRaw_stOf] at this

theorem generateSteps_files {g : GenSt} (h : generateSteps fmt e cfg inp fl st (genSt0 cfg st) = .ok g) : FilesInv g := by
  obtain ⟨io, fx, _, _, rfl⟩ := (generateSteps_run fmt e cfg inp fl st).ok h
  exact filesInv_stOf _ _ _

theorem Writes.written {Q : ModuleIR → Prop} (w : Writes Q fmt e cfg inp fl st) {io : InputsOut}
    (hio : inputsModule cfg inp.defs st.argSt.usedInputs = .ok io) (fx : Option (Fragments.FragmentsOut × List Fragments.DefGen)) :
    ∀ m ∈ written cfg inp st io fx, Q m := by
  intro m hm
  simp only [C04Proofs.written, List.mem_append, List.mem_map, List.mem_singleton] at hm
  rcases hm with ((((((rfl | ⟨fm, hfm, rfl⟩) | hm) | ⟨f, _, rfl⟩) | ⟨f, _, rfl⟩) | rfl) | rfl) | rfl
  · exact w.inputs io hio
  · exact w.results fm hfm
  · cases fx with
    | none => cases hm
    | some x => rw [List.mem_singleton.mp hm]; exact w.fragments _ _
  · exact w.copied f
  · exact w.custom f
  · exact w.client
  · exact w.enums _
  · exact w.init _

theorem generateSteps_init {g : GenSt} (h : generateSteps fmt e cfg inp fl st (genSt0 cfg st) = .ok g) :
    ∃ io fo, inputsModule cfg inp.defs st.argSt.usedInputs = .ok io ∧ FragmentsRan e cfg inp fl st fo ∧
      initModule (finalInit cfg inp st io fo) ∈ g.modules := by
  obtain ⟨io, fx, hio, hfx, rfl⟩ := (generateSteps_run fmt e cfg inp fl st).ok h
  refine ⟨io, fragOut fx, hio, ?_, last_mem_foldl_putModule _ _ _⟩
  rcases hfx with ⟨hr, rfl⟩ | ⟨hr, fo, gens, rfl, _, hf⟩
  · exact Or.inl ⟨hr, rfl⟩
  · exact Or.inr ⟨hr, fo, rfl, hf⟩

end

theorem findModule_of_mem {p : PackageIR} {m : ModuleIR} {name : String} (hn : (p.modules.map (·.file)).Nodup)
    (hm : m ∈ p.modules) (hf : m.file = pyFile name) : findModule p name = some m :=
  Lists.find?_of_nodup_map hn hm hf

theorem package_described {fmt : FmtOracle} {e : Order.EnumOracle} {cfg : Config} {inp : Input} {fl : Nat} {st : St} {g : GenSt}
    (h : generateSteps fmt e cfg inp fl st (genSt0 cfg st) = .ok g) :
    ∃ io fx, inputsModule cfg inp.defs st.argSt.usedInputs = .ok io ∧ FragRan e cfg inp fl st fx ∧
      (g.modules.map (·.file)).Nodup ∧ (∀ m ∈ g.modules, m ∈ written cfg inp st io fx) ∧
      (g.log.Nodup → ∀ m ∈ written cfg inp st io fx, m ∈ g.modules) := by
  obtain ⟨io, fx, hio, hfx, rfl⟩ := (generateSteps_run fmt e cfg inp fl st).ok h
  refine ⟨io, fx, hio, hfx, (filesInv_stOf _ _ _).nodup,
    fun m hm => (mem_foldl_putModule _ _ _ hm).resolve_left (fun h => nomatch h), fun hn m hm => ?_⟩
  exact foldl_putModule_of_nodup _ [] (by simpa using (show (List.map (·.file) (written cfg inp st io fx)).Nodup from hn)) m (Or.inr hm)

end Ariadne.C04Proofs
