/-
  Lemmas about Spec/GqlLexer.lean (C19): running the automaton over a concatenation, which separators bring every
  accepting state back to the token boundary with the pending token emitted (`Resets`), and what that means for the
  token stream of `sep.join(texts)`.
-/
import AriadneModel.Spec.GqlLexer


namespace Ariadne.Spec.GqlLexer

theorem run_append : ∀ (a b : List Char) (s : St),
    run s (a ++ b) =
      match run s a with
      | .error e => .error e
      | .ok (s', ts) =>
        match run s' b with
        | .error e => .error e
        | .ok (s'', ts') => .ok (s'', ts ++ ts')
  | [], b, s => by
    simp only [List.nil_append, run]
    rcases run s b with e | ⟨s'', ts'⟩ <;> simp
  | c :: cs, b, s => by
    simp only [List.cons_append, run]
    rcases step s c with e | ⟨s₁, t₁⟩
    · rfl
    · simp only
      rw [run_append cs b s₁]
      rcases run s₁ cs with e | ⟨s₂, t₂⟩
      · rfl
      · simp only
        rcases run s₂ b with e | ⟨s₃, t₃⟩
        · rfl
        · simp [List.append_assoc]

theorem run_start_ignored : ∀ cs : List Char, cs.all isIgnored = true → run .start cs = .ok (.start, [])
  | [], _ => rfl
  | c :: cs, h => by
    simp only [List.all_cons, Bool.and_eq_true] at h
    simp [run, step, stepStart, h.1, run_start_ignored cs h.2]

/-- `sep` brings every state in which a text may end back to the token boundary and emits exactly the token that
    was pending there: after `sep`, the lexer is where it is at the start of a text. -/
def Resets (sep : List Char) : Prop := ∀ s last, final s = .ok last → run s sep = .ok (.start, last)

/-- decidable sufficient condition: the separator starts with a line terminator and consists of ignored characters
    (`"\n"`, `"\r\n"`, `"\n\n"`, `"\n  "` ...) -/
def sepOk (sep : List Char) : Bool :=
  match sep with
  | [] => false
  | c :: cs => isLineEnd c && cs.all isIgnored

theorem lineEnd_resets (c : Char) (hc : isLineEnd c = true) (s : St) (last : List Tok) (h : final s = .ok last) :
    step s c = .ok (.start, last) := by
  have hcases : c = '\n' ∨ c = '\r' := by
    simpa [isLineEnd] using hc
  have facts : isIgnored c = true ∧ c.isDigit = false ∧ isNameStart c = false ∧ isNameCont c = false ∧
      (c == '.') = false ∧ (c == 'e') = false ∧ (c == 'E') = false ∧ (c == '"') = false := by
    rcases hcases with rfl | rfl <;> decide
  obtain ⟨h1, h2, h3, h4, h5, h6, h7, h8⟩ := facts
  cases s <;> simp [final] at h <;> subst h <;>
    simp [step, stepStart, emitThen, numEnd, hc, h1, h2, h3, h4, h5, h6, h7, h8]

theorem resets_of_sepOk (sep : List Char) (h : sepOk sep = true) : Resets sep := by
  intro s last hf
  cases sep with
  | nil => simp [sepOk] at h
  | cons c cs =>
    simp only [sepOk, Bool.and_eq_true] at h
    have h1 := lineEnd_resets c h.1 s last hf
    simp [run, h1, run_start_ignored cs h.2]

theorem newline_resets : Resets ['\n'] := resets_of_sepOk _ (by decide)

/-- the empty separator and a blank do NOT reset: a pending name stays open, a comment goes on -/
theorem empty_does_not_reset : ¬ Resets [] := by
  intro h
  have := h (.name ['A']) [tok .name ['A']] rfl
  simp [run] at this

theorem blank_does_not_reset : ¬ Resets [' '] := by
  intro h
  have := h .comment [] rfl
  simp [run, step, isLineEnd] at this

/-- the tokens of a text that lexes (`[]` otherwise: only used under the hypothesis that it does) -/
def tokensOf (t : List Char) : List Tok :=
  match lexChars t with
  | .ok ks => ks
  | .error _ => []

theorem lexChars_ok_iff (a : List Char) (ta : List Tok) :
    lexChars a = .ok ta ↔ ∃ s t last, run .start a = .ok (s, t) ∧ final s = .ok last ∧ ta = t ++ last := by
  unfold lexChars
  rcases hr : run .start a with e | ⟨s, t⟩
  · simp
  · dsimp only
    rcases hf : final s with e | last
    · dsimp only
      constructor
      · intro h; cases h
      · rintro ⟨s', t', last', h1, h2, h3⟩
        cases h1
        rw [hf] at h2
        cases h2
    · dsimp only
      constructor
      · intro h
        cases h
        exact ⟨s, t, last, rfl, hf, rfl⟩
      · rintro ⟨s', t', last', h1, h2, h3⟩
        cases h1
        rw [hf] at h2
        cases h2
        rw [h3]

theorem lexChars_join (sep : List Char) (hsep : Resets sep) (a b : List Char) (ta tb : List Tok)
    (ha : lexChars a = .ok ta) (hb : lexChars b = .ok tb) : lexChars (a ++ sep ++ b) = .ok (ta ++ tb) := by
  obtain ⟨sa, t1, l1, hra, hfa, rfl⟩ := (lexChars_ok_iff a ta).mp ha
  obtain ⟨sb, t2, l2, hrb, hfb, rfl⟩ := (lexChars_ok_iff b tb).mp hb
  apply (lexChars_ok_iff _ _).mpr
  refine ⟨sb, t1 ++ (l1 ++ t2), l2, ?_, hfb, by simp [List.append_assoc]⟩
  rw [List.append_assoc, run_append a (sep ++ b) .start, hra]
  simp only
  rw [run_append sep b sa, hsep sa l1 hfa]
  simp only
  rw [hrb]

/-- **any number of texts**: if every text lexes on its own, `sep.join(texts)` lexes, to the concatenation of the
    parts' token streams. -/
theorem lexChars_joinWith (sep : List Char) (hsep : Resets sep) : ∀ texts : List (List Char),
    (∀ t ∈ texts, ∃ ks, lexChars t = .ok ks) → lexChars (joinWith sep texts) = .ok (texts.map tokensOf).flatten
  | [], _ => by simp [joinWith, lexChars, run, final]
  | [x], h => by
    obtain ⟨ks, hk⟩ := h x (by simp)
    simp [joinWith, tokensOf, hk]
  | x :: y :: rest, h => by
    obtain ⟨kx, hx⟩ := h x (by simp)
    have ih := lexChars_joinWith sep hsep (y :: rest) (fun t ht => h t (by simp [ht]))
    have := lexChars_join sep hsep x (joinWith sep (y :: rest)) kx _ hx ih
    simp only [joinWith]
    rw [this]
    simp [tokensOf, hx]

end Ariadne.Spec.GqlLexer
