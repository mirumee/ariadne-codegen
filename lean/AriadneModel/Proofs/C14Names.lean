/-
  C14: the used-names discipline of `_format_variable_name` / `to_ast`.
  For every fuel, store, index, used-names list and node (references to shared objects included):
  a successful `toAst` extends `used` by exactly the variables it wrote into the selection, in
  order, and those are pairwise distinct and were not in `used` before.
  First: what a successful run of each traversal (`mapAcc`, `mapFrags`, `toAst`, `buildSelections`, `execOp`,
  `runOp`) consists of (`…_inv`), which is how every later proof about them starts; then the one rule by which a
  property of single visits is carried through `mapAcc` / `mapFrags` / `buildSelections` (`Along`, `VisitLaw`,
  `mapAcc_law`, `mapFrags_law`, `buildSelections_law`): the names taken are its first instance.
-/
import AriadneModel.Spec.BuilderDoc

namespace Ariadne.C14
open Ariadne.Builder Ariadne.BuilderDoc

def Ext (used : List String) (vs : List String) (used' : List String) : Prop :=
  used' = used ++ vs ∧ vs.Nodup ∧ ∀ v ∈ vs, v ∉ used

theorem Ext.nil (used : List String) : Ext used [] used := by
  simp [Ext]

theorem Ext.trans {u0 u1 u2 a b : List String} (h1 : Ext u0 a u1) (h2 : Ext u1 b u2) : Ext u0 (a ++ b) u2 := by
  obtain ⟨e1, n1, d1⟩ := h1
  obtain ⟨e2, n2, d2⟩ := h2
  refine ⟨by simp [e2, e1], ?_, ?_⟩
  · rw [List.nodup_append]
    refine ⟨n1, n2, ?_⟩
    intro x hx y hy hxy
    subst hxy
    exact d2 x hy (by simp [e1, hx])
  · intro v hv
    rcases List.mem_append.mp hv with h | h
    · exact d1 v h
    · intro hu
      exact d2 v h (by simp [e1, hu])

theorem firstFree_not_mem (base : String) (used : List String) :
    ∀ (fuel k : Nat) (u : String), firstFree base used fuel k = some u → u ∉ used := by
  intro fuel
  induction fuel with
  | zero => intro k u h; simp [firstFree] at h
  | succ f ih =>
    intro k u h
    unfold firstFree at h
    split at h
    · exact ih (k + 1) u h
    · rename_i hn
      simp at h
      subst h
      exact hn

theorem formatVarName_spec {idx : Nat} {name : String} {used : List String} {u : String} {used' : List String}
    (h : formatVarName idx name used = .ok (u, used')) : Ext used [u] used' := by
  unfold formatVarName at h
  split at h
  · rename_i w hw
    simp at h
    obtain ⟨rfl, rfl⟩ := h
    refine ⟨rfl, by simp, ?_⟩
    intro v hv
    simp at hv
    subst hv
    exact firstFree_not_mem _ _ _ _ _ hw
  · simp at h

theorem collectVars_spec (idx : Nat) :
    ∀ (vs : List Var) (used : List String) (fv : List FVar) (used' : List String),
      collectVars idx vs used = .ok (fv, used') →
      Ext used (fv.map (·.uname)) used' ∧
      fv.map (fun f => (f.key, f.ty, f.value)) = vs.map (fun v => (v.key, v.ty, v.value)) := by
  intro vs
  induction vs with
  | nil =>
    intro used fv used' h
    simp [collectVars] at h
    obtain ⟨rfl, rfl⟩ := h
    exact ⟨Ext.nil _, rfl⟩
  | cons v vs ih =>
    intro used fv used' h
    unfold collectVars at h
    split at h
    · simp at h
    · rename_i u used1 h1
      split at h
      · simp at h
      · rename_i fs used2 h2
        simp at h
        obtain ⟨rfl, rfl⟩ := h
        obtain ⟨e2, k2⟩ := ih used1 fs used2 h2
        have e1 := formatVarName_spec h1
        refine ⟨?_, ?_⟩
        · have := Ext.trans e1 e2
          simpa using this
        · simp [k2]

theorem selVarsList_append (a b : List Sel) : selVarsList (a ++ b) = selVarsList a ++ selVarsList b := by
  induction a with
  | nil => simp [selVarsList]
  | cons x xs ih => simp [selVarsList, ih]

theorem mapAcc_nil_inv {f : Visit} {st : Store} {used : List String} {r} (h : mapAcc f st used [] = .ok r) :
    r = ([], [], st, used) := (Except.ok.inj h).symm

theorem mapAcc_cons_inv {f : Visit} {st : Store} {used : List String} {n : Node} {ns : List Node} {r}
    (h : mapAcc f st used (n :: ns) = .ok r) :
    ∃ s n' st1 u1 ss ns' st2 u2, f st used n = .ok (s, n', st1, u1) ∧
      mapAcc f st1 u1 ns = .ok (ss, ns', st2, u2) ∧ r = (s :: ss, n' :: ns', st2, u2) := by
  simp only [mapAcc] at h
  split at h
  · cases h
  · rename_i s n' st1 u1 h1
    split at h
    · cases h
    · rename_i ss ns' st2 u2 h2
      exact ⟨_, _, _, _, _, _, _, _, h1, h2, (Except.ok.inj h).symm⟩

theorem mapFrags_nil_inv {f : Visit} {st : Store} {used : List String} {r} (h : mapFrags f st used [] = .ok r) :
    r = ([], [], st, used) := (Except.ok.inj h).symm

theorem mapFrags_cons_inv {f : Visit} {st : Store} {used : List String} {ty : String} {ns : List Node} {fs : List Frag} {r}
    (h : mapFrags f st used (.mk ty ns :: fs) = .ok r) :
    ∃ ss ns' st1 u1 rest fs' st2 u2, mapAcc f st used ns = .ok (ss, ns', st1, u1) ∧
      mapFrags f st1 u1 fs = .ok (rest, fs', st2, u2) ∧ r = (.frag ty ss :: rest, .mk ty ns' :: fs', st2, u2) := by
  simp only [mapFrags] at h
  split at h
  · cases h
  · rename_i ss ns' st1 u1 h1
    split at h
    · cases h
    · rename_i rest fs' st2 u2 h2
      exact ⟨_, _, _, _, _, _, _, _, h1, h2, (Except.ok.inj h).symm⟩

theorem toAst_zero_inv {idx : Nat} {st : Store} {used : List String} {n : Node} {res}
    (h : toAst 0 idx st used n = .ok res) : False := by
  cases n <;> cases h

theorem toAst_obj_inv {fuel idx : Nat} {st : Store} {used : List String} {r : Rec} {subs : List Node} {frags : List Frag} {res}
    (h : toAst (fuel + 1) idx st used (.obj r subs frags) = .ok res) :
    ∃ fv u1 ss subs' st1 u2 fs frags' st2 u3, collectVars idx r.vars used = .ok (fv, u1) ∧
      mapAcc (toAst fuel idx) st u1 subs = .ok (ss, subs', st1, u2) ∧
      mapFrags (toAst fuel idx) st1 u2 frags = .ok (fs, frags', st2, u3) ∧
      res = (.field (aliasOf r.alias) r.fieldName (fv.map fun v => (v.key, v.uname))
               (!(subs.isEmpty && frags.isEmpty)) (ss ++ fs),
             .obj { r with formatted := fv } subs' frags', st2, u3) := by
  simp only [toAst] at h
  split at h
  · cases h
  · rename_i fv u1 h1
    split at h
    · cases h
    · rename_i ss subs' st1 u2 h2
      split at h
      · cases h
      · rename_i fs frags' st2 u3 h3
        exact ⟨_, _, _, _, _, _, _, _, _, _, h1, h2, h3, (Except.ok.inj h).symm⟩

theorem toAst_ref_inv {fuel idx : Nat} {st : Store} {used : List String} {id : Nat} {res}
    (h : toAst (fuel + 1) idx st used (.ref id) = .ok res) :
    ∃ n s n' st1 u1, st[id]? = some n ∧ toAst fuel idx st used n = .ok (s, n', st1, u1) ∧
      res = (s, .ref id, st1.set id n', u1) := by
  simp only [toAst] at h
  split at h
  · cases h
  · rename_i n hn
    split at h
    · cases h
    · rename_i s n' st1 u1 h1
      exact ⟨_, _, _, _, _, hn, h1, (Except.ok.inj h).symm⟩

theorem buildSelections_nil_inv {fuel idx : Nat} {st : Store} {r} (h : buildSelections fuel idx st [] = .ok r) :
    r = ([], [], st) := (Except.ok.inj h).symm

theorem buildSelections_cons_inv {fuel idx : Nat} {st : Store} {n : Node} {ns : List Node} {r}
    (h : buildSelections fuel idx st (n :: ns) = .ok r) :
    ∃ s n' st1 u1 ss ns' st2, toAst fuel idx st [] n = .ok (s, n', st1, u1) ∧
      buildSelections fuel (idx + 1) st1 ns = .ok (ss, ns', st2) ∧ r = (s :: ss, n' :: ns', st2) := by
  simp only [buildSelections] at h
  split at h
  · cases h
  · rename_i s n' st1 u1 h1
    split at h
    · cases h
    · rename_i ss ns' st2 h2
      exact ⟨_, _, _, _, _, _, _, h1, h2, (Except.ok.inj h).symm⟩

theorem execOp_inv {ty nm : String} {st : Store} {nodes : List Node} {d : Doc} {st' : Store}
    (h : execOp ty nm st nodes = .ok (d, st')) :
    ∃ sels nodes' fv, buildSelections (opFuel st nodes) 0 st nodes = .ok (sels, nodes', st') ∧
      combine (opFuel st nodes) st' nodes' = .ok fv ∧
      d = { opType := ty, name := nm, varDefs := fv.map fun v => (v.uname, v.ty), sels := sels,
            values := fv.map fun v => (v.uname, v.value) } := by
  simp only [execOp] at h
  split at h
  · cases h
  · rename_i sels nodes' st1 h1
    split at h
    · cases h
    · rename_i fv h2
      simp only [Except.ok.injEq, Prod.mk.injEq] at h
      obtain ⟨rfl, rfl⟩ := h
      exact ⟨_, _, _, h1, h2, rfl⟩

theorem runOp_cases (p : Package) (op : Op) (st : Store) :
    (∃ x st1, evalList p op.fields st = (.error x, st1) ∧ runOp p op st = (.error x, st1)) ∨
    (∃ nodes st1 x, evalList p op.fields st = (.ok nodes, st1) ∧ execOp op.opType op.name st1 nodes = .error x ∧
      runOp p op st = (.error x, st1)) ∨
    (∃ nodes st1 d st2, evalList p op.fields st = (.ok nodes, st1) ∧ execOp op.opType op.name st1 nodes = .ok (d, st2) ∧
      runOp p op st = (.ok d, st2)) := by
  unfold runOp
  rcases hl : evalList p op.fields st with ⟨rl, st1⟩
  cases rl with
  | error x => exact Or.inl ⟨x, st1, rfl, rfl⟩
  | ok nodes =>
    cases he : execOp op.opType op.name st1 nodes with
    | error x => exact Or.inr (Or.inl ⟨nodes, st1, x, rfl, he, by simp [he]⟩)
    | ok ds => exact Or.inr (Or.inr ⟨nodes, st1, ds.1, ds.2, rfl, he, by simp [he]⟩)

theorem runOp_inv {p : Package} {op : Op} {st : Store} {d : Doc} (h : (runOp p op st).1 = .ok d) :
    ∃ nodes st1 st2, evalList p op.fields st = (.ok nodes, st1) ∧ execOp op.opType op.name st1 nodes = .ok (d, st2) ∧
      runOp p op st = (.ok d, st2) := by
  rcases runOp_cases p op st with ⟨x, st1, -, hr⟩ | ⟨nodes, st1, x, -, -, hr⟩ | ⟨nodes, st1, d', st2, hl, he, hr⟩
  · rw [hr] at h; cases h
  · rw [hr] at h; cases h
  · rw [hr] at h
    cases h
    exact ⟨nodes, st1, st2, hl, he, hr⟩

/-- `Q` of every visit of a traversal: node visited, selection written, annotated node returned, position by position -/
inductive All3 (Q : Node → Sel → Node → Prop) : List Node → List Sel → List Node → Prop
  | nil : All3 Q [] [] []
  | cons {n s n' ns ss ns'} : Q n s n' → All3 Q ns ss ns' → All3 Q (n :: ns) (s :: ss) (n' :: ns')

inductive AllF (Q : Node → Sel → Node → Prop) : List Frag → List Sel → List Frag → Prop
  | nil : AllF Q [] [] []
  | cons {ty ns ss ns' fs rest fs'} : All3 Q ns ss ns' → AllF Q fs rest fs' →
      AllF Q (.mk ty ns :: fs) (.frag ty ss :: rest) (.mk ty ns' :: fs')

theorem All3.imp {Q Q' : Node → Sel → Node → Prop} (h : ∀ n s n', Q n s n' → Q' n s n') :
    ∀ {ns ss ns'}, All3 Q ns ss ns' → All3 Q' ns ss ns' := by
  intro ns ss ns' a
  induction a with
  | nil => exact .nil
  | cons q _ ih => exact .cons (h _ _ _ q) ih

theorem All3.sels {Q : Node → Sel → Node → Prop} {P : Sel → Prop} (h : ∀ n s n', Q n s n' → P s) :
    ∀ {ns ss ns'}, All3 Q ns ss ns' → ∀ s ∈ ss, P s := by
  intro ns ss ns' a
  induction a with
  | nil => simp
  | cons q _ ih =>
    intro t ht
    rcases List.mem_cons.mp ht with rfl | ht
    · exact h _ _ _ q
    · exact ih t ht

abbrev St := Store × List String

/-- `I a vs b`: what a traversal that starts in state `a` (where `Pre` holds), writes the variables `vs` into its
    selections and ends in state `b` guarantees. -/
structure Along (Pre : St → Prop) (I : St → List String → St → Prop) : Prop where
  refl : ∀ a, I a [] a
  trans : ∀ {a b c x y}, I a x b → I b y c → I a (x ++ y) c
  pres : ∀ {a b x}, Pre a → I a x b → Pre b

def VisitLaw (Pre : St → Prop) (I : St → List String → St → Prop) (Q : Node → Sel → Node → Prop) (f : Visit) : Prop :=
  ∀ st used n s n' st' used', Pre (st, used) → f st used n = .ok (s, n', st', used') →
    I (st, used) (selVars s) (st', used') ∧ Q n s n'

section
variable {Pre : St → Prop} {I : St → List String → St → Prop} {Q : Node → Sel → Node → Prop} {f : Visit}

theorem mapAcc_law (hI : Along Pre I) (hf : VisitLaw Pre I Q f) :
    ∀ (ns : List Node) (st : Store) (used : List String) ss ns' st' used', Pre (st, used) →
      mapAcc f st used ns = .ok (ss, ns', st', used') →
      I (st, used) (selVarsList ss) (st', used') ∧ All3 Q ns ss ns' := by
  intro ns
  induction ns with
  | nil =>
    intro st used ss ns' st' used' _ h
    cases mapAcc_nil_inv h
    exact ⟨hI.refl _, .nil⟩
  | cons n ns ih =>
    intro st used ss ns' st' used' hp h
    obtain ⟨s, n1, st1, u1, ss2, ns2, st2, u2, h1, h2, hr⟩ := mapAcc_cons_inv h
    cases hr
    obtain ⟨i1, q1⟩ := hf _ _ _ _ _ _ _ hp h1
    obtain ⟨i2, q2⟩ := ih _ _ _ _ _ _ (hI.pres hp i1) h2
    exact ⟨hI.trans i1 i2, .cons q1 q2⟩

theorem mapFrags_law (hI : Along Pre I) (hf : VisitLaw Pre I Q f) :
    ∀ (fs : List Frag) (st : Store) (used : List String) ss fs' st' used', Pre (st, used) →
      mapFrags f st used fs = .ok (ss, fs', st', used') →
      I (st, used) (selVarsList ss) (st', used') ∧ AllF Q fs ss fs' := by
  intro fs
  induction fs with
  | nil =>
    intro st used ss fs' st' used' _ h
    cases mapFrags_nil_inv h
    exact ⟨hI.refl _, .nil⟩
  | cons fr fs ih =>
    intro st used ss fs' st' used' hp h
    obtain ⟨ty, ns⟩ := fr
    obtain ⟨ss1, ns1, st1, u1, rest, fs2, st2, u2, h1, h2, hr⟩ := mapFrags_cons_inv h
    cases hr
    obtain ⟨i1, q1⟩ := mapAcc_law hI hf _ _ _ _ _ _ _ hp h1
    obtain ⟨i2, q2⟩ := ih _ _ _ _ _ _ (hI.pres hp i1) h2
    exact ⟨hI.trans i1 i2, .cons q1 q2⟩

/-- one client call renders every argument with no name taken: only what `J` says of the stores is threaded -/
theorem buildSelections_law {P : Store → Prop} {J : Store → Store → Prop} (refl : ∀ st, J st st)
    (trans : ∀ {a b c}, J a b → J b c → J a c) (pres : ∀ {a b}, P a → J a b → P b) {fuel : Nat}
    (hf : ∀ idx st n s n' st' used', P st → toAst fuel idx st [] n = .ok (s, n', st', used') → J st st' ∧ Q n s n') :
    ∀ (ns : List Node) (idx : Nat) (st : Store) sels ns' st', P st →
      buildSelections fuel idx st ns = .ok (sels, ns', st') → J st st' ∧ All3 Q ns sels ns' := by
  intro ns
  induction ns with
  | nil =>
    intro idx st sels ns' st' _ h
    cases buildSelections_nil_inv h
    exact ⟨refl _, .nil⟩
  | cons n ns ih =>
    intro idx st sels ns' st' hp h
    obtain ⟨s, n1, st1, u1, ss, ns2, st2, h1, h2, hr⟩ := buildSelections_cons_inv h
    cases hr
    obtain ⟨j1, q1⟩ := hf _ _ _ _ _ _ _ hp h1
    obtain ⟨j2, q2⟩ := ih _ _ _ _ _ (pres hp j1) h2
    exact ⟨trans j1 j2, .cons q1 q2⟩

end

abbrev Always : St → Prop := fun _ => True

theorem Along.free {I : St → List String → St → Prop} (refl : ∀ a, I a [] a)
    (trans : ∀ {a b c x y}, I a x b → I b y c → I a (x ++ y) c) : Along Always I := ⟨refl, trans, fun _ _ => trivial⟩

theorem along_ext : Along Always (fun a vs b => Ext a.2 vs b.2) := .free (fun a => Ext.nil a.2) Ext.trans

theorem toAst_ext (idx : Nat) : ∀ fuel, VisitLaw Always (fun a vs b => Ext a.2 vs b.2) (fun _ _ _ => True) (toAst fuel idx) := by
  intro fuel
  induction fuel with
  | zero => intro st used n s n' st' used' _ h; exact (toAst_zero_inv h).elim
  | succ f ih =>
    intro st used n s n' st' used' _ h
    cases n with
    | obj r subs frags =>
      obtain ⟨fv, u1, ss, subs', st1, u2, fs, frags', st2, u3, h1, h2, h3, hr⟩ := toAst_obj_inv h
      cases hr
      have e1 := (collectVars_spec idx _ _ _ _ h1).1
      have := Ext.trans e1 (Ext.trans (mapAcc_law along_ext ih _ _ _ _ _ _ _ trivial h2).1 (mapFrags_law along_ext ih _ _ _ _ _ _ _ trivial h3).1)
      exact ⟨by simpa [selVars, selVarsList_append, List.map_map, Function.comp_def] using this, trivial⟩
    | ref id =>
      obtain ⟨n0, s1, n1, st1, u1, hn, h1, hr⟩ := toAst_ref_inv h
      cases hr
      exact ⟨(ih _ _ _ _ _ _ _ trivial h1).1, trivial⟩

end Ariadne.C14
