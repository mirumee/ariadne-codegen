/-
  Proofs/C04ModEnums.lean — `enums.py`: its one import is absolute, every class statement finds `str` and `Enum`,
  there are no forward references and no rebuild calls.
-/
import AriadneModel.Proofs.C04Resolve


namespace Ariadne.C04Proofs
open Ariadne.Gql Ariadne.Package Ariadne.Spec.PyScope

theorem enumsModule_residual (p : PackageIR) (cfg : Config) (s : Schema) (ue : List String) :
    residualParts p (enumsModule cfg s ue) = true := by
  have himp : (enumsModule cfg s ue).imports = [⟨0, "enum", ["Enum"]⟩] := rfl
  refine residualParts_of ?_ ?_ ?_ ?_
  · apply importsResolve_of
    intro i hi
    rw [himp] at hi
    have : i = ⟨0, "enum", ["Enum"]⟩ := by simpa using hi
    subst this
    exact Or.inl (by decide)
  · apply classesLoad_of_avail
    · intro c hc u hu
      simp only [enumsModule, List.mem_map] at hc
      obtain ⟨t, _, rfl⟩ := hc
      have : u = "str" ∨ u = "Enum" := by simpa [enumClassIR] using hu
      rcases this with rfl | rfl
      · exact Or.inl (by decide)
      · exact .of_import (i := ⟨0, "enum", ["Enum"]⟩) (by rw [himp]; simp) (by simp)
    · intro f hf
      simp [enumsModule] at hf
  · refine forwardRefsOK_of ?_
    intro c hc
    simp only [enumsModule, List.mem_map] at hc
    obtain ⟨t, _, rfl⟩ := hc
    exact fun x hx => nomatch hx
  · rfl

end Ariadne.C04Proofs
