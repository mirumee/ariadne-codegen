/-
  C15, whole-pipeline statement for plugin lists made of ExtractOperations and plugins that leave the client module
  and the methods alone (identity plugin, NoReimports): the run of the generator with such a list, compared hook call
  by hook call with the unplugged run.

  ExtractOperations records every operation string (`generate_operation_str`), rewrites every client method when it is
  handed over (`generate_client_method`: the inlined string is dropped, `query=` names the constant), puts one import in
  front of the client module (`generate_client_module`) and writes the operations module when `__init__` is generated.
  The generator's own bookkeeping therefore differs from the unplugged run in exactly one respect: the methods it
  collected (and the class assembled from them) are the rewritten ones.
-/
import AriadneModel.Proofs.C15Quiet
import AriadneModel.Proofs.C15ShorterRun
import AriadneModel.Proofs.C15Shape
import AriadneModel.Model.PluginWholeE


namespace Ariadne.C15
open Ariadne.Py Ariadne.Plugins Ariadne.ClientSem

theorem emanager_of_step (c : Call) (hc : c.hook ≠ "generate_init_module") (a b : List PState) (ha : Inert a) (hb : Inert b)
    (est est' : ExtractState) (x y : Payload) (hs : extractStep c est x = .ok (est', y)) :
    manager c (a ++ .extract est :: b) x = .ok (a ++ .extract est' :: b, y) := by
  rw [mid_manager c a a b (.extract est) x x (applyAll_idle (ha.idle hc) x), extract_step_eq, hs]
  simp only [bind_ok, pure_eq_ok]
  rw [applyAll_idle (hb.idle hc) y]
  rfl

inductive PairRel (R : Method → Method → Prop) : List Method → List Method → Prop where
  | nil : PairRel R [] []
  | cons {a b : Method} {l1 l2 : List Method} : R a b → PairRel R l1 l2 → PairRel R (a :: l1) (b :: l2)

theorem PairRel.imp {R R' : Method → Method → Prop} (h : ∀ a b, R a b → R' a b) :
    ∀ {l1 l2 : List Method}, PairRel R l1 l2 → PairRel R' l1 l2 := by
  intro l1 l2 hl
  induction hl with
  | nil => exact .nil
  | cons hab _ ih => exact .cons (h _ _ hab) ih

theorem PairRel.snoc {R : Method → Method → Prop} {l1 l2 : List Method} {a b : Method} (hl : PairRel R l1 l2) (hab : R a b) :
    PairRel R (l1 ++ [a]) (l2 ++ [b]) := by
  induction hl with
  | nil => exact .cons hab .nil
  | cons h _ ih => exact .cons h ih

/-- `mP` is what ExtractOperations made of `mQ`, the method of an operation it has recorded -/
def MethE (est : ExtractState) (mQ mP : Method) : Prop :=
  ∃ op v g s q, alookup op est.vars = some v ∧ alookup op est.gqls = some g ∧
    mQ.body = bodyOf s ∧ s.imports = [] ∧ s.op = .inline q (pyLines g) ∧
    mP = { mQ with body := bodyOf { s with op := .const v } }

theorem MethE.name {est mQ mP} (h : MethE est mQ mP) : mP.name = mQ.name := by
  obtain ⟨_, _, _, _, _, _, _, _, _, _, rfl⟩ := h; rfl

def MethE' (est : ExtractState) (mQ mP : Method) : Prop := mP = mQ ∨ MethE est mQ mP

def ClassE (est : ExtractState) : Option ClassDef → Option ClassDef → Prop
  | none, none => True
  | some cQ, some cP => cP.name = cQ.name ∧ cP.bases = cQ.bases ∧ cP.keywords = cQ.keywords ∧ ItemsRel (MethE' est) cQ.body cP.body
  | _, _ => False

/-- the run with `a ++ [ExtractOperations] ++ b` (`P`, `est` the plugin object at that moment) against the unplugged run (`Q`),
    before `generate_client_module`: the same bookkeeping, except that the methods collected and the class assembled are the rewritten ones -/
structure ERel (a b : List PState) (est : ExtractState) (P Q : PipeState) : Prop where
  plugins : P.plugins = a ++ .extract est :: b
  nil : Q.plugins = []
  imports : P.importsOut = Q.importsOut
  gql : P.gqlOut = Q.gqlOut
  init : P.initImports = Q.initImports
  methods : PairRel (MethE est) Q.methodsOut P.methodsOut
  cls : ClassE est Q.classOut P.classOut

theorem MethE.mono {est est' : ExtractState} (hv : ∀ op v, alookup op est.vars = some v → alookup op est'.vars = some v)
    (hg : ∀ op g, alookup op est.gqls = some g → alookup op est'.gqls = some g) {mQ mP : Method} (h : MethE est mQ mP) :
    MethE est' mQ mP := by
  obtain ⟨op, v, g, s, q, h1, h2, h3, h4, h5, h6⟩ := h
  exact ⟨op, v, g, s, q, hv op v h1, hg op g h2, h3, h4, h5, h6⟩

theorem ClassE.mono {est est' : ExtractState} (hv : ∀ op v, alookup op est.vars = some v → alookup op est'.vars = some v)
    (hg : ∀ op g, alookup op est.gqls = some g → alookup op est'.gqls = some g) {cq cp : Option ClassDef}
    (h : ClassE est cq cp) : ClassE est' cq cp := by
  cases cq <;> cases cp <;> simp only [ClassE] at h ⊢
  obtain ⟨h1, h2, h3, h4⟩ := h
  refine ⟨h1, h2, h3, ItemsRel.mono ?_ h4⟩
  intro m m' hm
  rcases hm with hm | hm
  · exact .inl hm
  · exact .inr (hm.mono hv hg)

theorem PairRel.find {R : Method → Method → Prop} (hname : ∀ a b, R a b → b.name = a.name) (n : String) :
    ∀ {l1 l2 : List Method}, PairRel R l1 l2 →
      (l1.find? (fun o => o.name == n) = none ∧ l2.find? (fun o => o.name == n) = none) ∨
      (∃ a b, l1.find? (fun o => o.name == n) = some a ∧ l2.find? (fun o => o.name == n) = some b ∧ R a b) := by
  intro l1 l2 h
  induction h with
  | nil => exact .inl ⟨rfl, rfl⟩
  | @cons a b l1 l2 hab _ ih =>
    simp only [List.find?_cons, hname a b hab]
    cases hk : (a.name == n) with
    | true => exact .inr ⟨a, b, rfl, rfl, hab⟩
    | false => exact ih

theorem PairRel.eraseP {R : Method → Method → Prop} (hname : ∀ a b, R a b → b.name = a.name) (n : String) :
    ∀ {l1 l2 : List Method}, PairRel R l1 l2 →
      PairRel R (l1.eraseP (fun o => o.name == n)) (l2.eraseP (fun o => o.name == n)) := by
  intro l1 l2 h
  induction h with
  | nil => exact .nil
  | @cons a b l1 l2 hab hrest ih =>
    simp only [List.eraseP_cons, hname a b hab]
    cases hk : (a.name == n) with
    | true => exact hrest
    | false => exact .cons hab ih

theorem replaceMethods_rel {R : Method → Method → Prop} (hname : ∀ a b, R a b → b.name = a.name) :
    ∀ (body : List ClassItem) {l1 l2 : List Method}, PairRel R l1 l2 →
      ItemsRel (fun m m' => m' = m ∨ R m m') (replaceMethods body l1) (replaceMethods body l2) := by
  intro body
  induction body with
  | nil => intro l1 l2 _; exact .nil
  | cons it rest ih =>
    intro l1 l2 h
    cases it with
    | method m =>
      simp only [replaceMethods]
      rcases PairRel.find hname m.name h with ⟨h1, h2⟩ | ⟨x, y, h1, h2, hxy⟩
      · rw [h1, h2]; exact .method (.inl rfl) (ih h)
      · rw [h1, h2]; exact .method (.inr hxy) (ih (PairRel.eraseP hname m.name h))
    | stmt s =>
      simp only [replaceMethods]
      exact .other (ih h)


theorem ebook_other (est : ExtractState) (e : Event) (h : e.call.hook ≠ "generate_operation_str") : ebook est e = est := by
  unfold ebook
  split
  · exfalso; simp_all
  · rfl

theorem extractStep_pass (c : Call) (est : ExtractState) (x : Payload)
    (hc1 : c.hook ≠ "generate_client_module") (hc2 : c.hook ≠ "generate_init_module")
    (h1 : ¬ (c.hook = "generate_operation_str" ∧ ∃ g, x = .str g))
    (h2 : ¬ (c.hook = "generate_client_method" ∧ ∃ m, x = .method m)) : extractStep c est x = .ok (est, x) := by
  unfold extractStep
  split
  · exact absurd ⟨by assumption, _, rfl⟩ h1
  · exact absurd ⟨by assumption, _, rfl⟩ h2
  · exact absurd (by assumption) hc1
  · exact absurd (by assumption) hc2
  · rfl

theorem inputFor_pass (R : PipeState) (e : Event)
    (hc1 : e.call.hook ≠ "generate_client_module") (hc2 : e.call.hook ≠ "generate_init_module")
    (h3 : ¬ (e.call.hook = "generate_client_class" ∧ ∃ k, e.payload = .klass k)) : inputFor R e = e.payload := by
  unfold inputFor
  split
  · exact absurd ⟨by assumption, _, by assumption⟩ h3
  · exact absurd (by assumption) hc1
  · exact absurd (by assumption) hc2
  · rfl

theorem record_erel (a b : List PState) (est : ExtractState) (P Q : PipeState) (c : Call) (y : Payload)
    (h2 : ¬ (c.hook = "generate_client_method" ∧ ∃ m, y = .method m))
    (h3 : ¬ (c.hook = "generate_client_class" ∧ ∃ k, y = .klass k)) (h : ERel a b est P Q) :
    ERel a b est (record P c y) (record Q c y) := by
  obtain ⟨r1, r2, r3, r4, r5, r6, r7⟩ := h
  unfold record
  split
  · exact absurd ⟨by assumption, _, rfl⟩ h2
  · rename_i i _
    by_cases hk : keepClientImport c i = true
    · simp only [hk, ↓reduceIte]; exact ⟨r1, r2, by simp [r3], r4, r5, r6, r7⟩
    · simp only [hk]; exact ⟨r1, r2, r3, r4, r5, r6, r7⟩
  · exact ⟨r1, r2, r3, by simp, r5, r6, r7⟩
  · exact absurd ⟨by assumption, _, rfl⟩ h3
  · exact ⟨r1, r2, r3, r4, by simp [r5], r6, r7⟩
  · exact ⟨r1, r2, r3, r4, r5, r6, r7⟩

theorem step_of_extractStep (a b : List PState) (ha : Inert a) (hb : Inert b) (est est' : ExtractState) (P Q : PipeState)
    (e : Event) (y : Payload) (hc2 : e.call.hook ≠ "generate_init_module") (h : ERel a b est P Q)
    (hstep : extractStep e.call est (inputFor P e) = .ok (est', y)) :
    stepEvent P e = .ok (record { P with plugins := a ++ .extract est' :: b, trace := P.trace ++ [(e.call, inputFor P e, y)] } e.call y) ∧
    stepEvent Q e = .ok (record { Q with plugins := [], trace := Q.trace ++ [(e.call, inputFor Q e, inputFor Q e)] } e.call (inputFor Q e)) :=
  ⟨stepEvent_of_manager P e _ y (by rw [h.plugins]; exact emanager_of_step e.call hc2 a b ha hb est est' _ y hstep),
    stepEvent_nil Q h.nil e⟩

/-- what `evOKE est e` says of a hook call: an operation string under a new name, the method of a recorded operation
    (with the hypotheses of `extract_method`), or a call ExtractOperations hands on -/
inductive EvE (est : ExtractState) (e : Event) : Prop where
  | opStr (g op sn : String) : e.call.hook = "generate_operation_str" → e.payload = .str g → e.call.opName = some op →
      e.call.opSnake = some sn → alookup op est.vars = none → alookup op est.gqls = none → EvE est e
  | method (m : Method) (op v g : String) (s : Shape) (q : String) : e.call.hook = "generate_client_method" →
      e.payload = .method m → e.call.opName = some op → alookup op est.vars = some v → alookup op est.gqls = some g →
      m.body = bodyOf s → s.imports = [] → s.op = .inline q (pyLines g) →
      (match s.tail with
        | .call aw _ _ => e.call.opKind ≠ some "subscription" ∧ est.asyncClient = aw
        | .sub _ _ _ => e.call.opKind = some "subscription") → EvE est e
  | other : ¬ (e.call.hook = "generate_operation_str" ∧ ∃ g, e.payload = .str g) →
      ¬ (e.call.hook = "generate_client_method" ∧ ∃ m, e.payload = .method m) → EvE est e

theorem evOKE_cases {est : ExtractState} {e : Event} (hok : evOKE est e = true) : EvE est e := by
  unfold evOKE at hok
  split at hok
  · rename_i g hs hp
    split at hok
    · rename_i op sn hon hsn
      simp only [Bool.and_eq_true, Bool.not_eq_true', ahas] at hok
      refine .opStr g op sn hs hp hon hsn ?_ ?_
      · cases h : alookup op est.vars <;> simp_all
      · cases h : alookup op est.gqls <;> simp_all
    · cases hok
  · rename_i m hmth hp
    split at hok
    · rename_i op hon
      split at hok
      · rename_i v g s hlv hlg hsh
        simp only [Bool.and_eq_true, List.isEmpty_iff] at hok
        obtain ⟨⟨himps, hop⟩, hkind⟩ := hok
        split at hop
        · rename_i q ls hsop
          simp only [beq_iff_eq] at hop
          subst hop
          refine .method m op v g s q hmth hp hon hlv hlg (shapeOf_sound m s hsh) himps hsop ?_
          unfold kindE at hkind
          cases ht : s.tail with
          | call aw r d => simp only [ht, Bool.and_eq_true, bne_iff_ne, ne_eq, beq_iff_eq] at hkind ⊢; exact hkind
          | sub d l o => simp only [ht, beq_iff_eq] at hkind ⊢; exact hkind
        · cases hop
      · cases hok
    · cases hok
  · rename_i h1 h2
    exact .other (fun ⟨hh, g, hg⟩ => h1 g hh hg) (fun ⟨hh, m, hm⟩ => h2 m hh hm)

theorem stepEvent_extract (a b : List PState) (ha : Inert a) (hb : Inert b) (est : ExtractState) (P Q : PipeState) (e : Event)
    (hc1 : e.call.hook ≠ "generate_client_module") (hc2 : e.call.hook ≠ "generate_init_module")
    (h : ERel a b est P Q) (hok : evOKE est e = true) :
    ∃ P' Q', stepEvent P e = .ok P' ∧ stepEvent Q e = .ok Q' ∧ ERel a b (ebook est e) P' Q' := by
  have hpay : ∀ {hook : String}, e.call.hook = hook → hook ≠ "generate_client_class" → ∀ R : PipeState, inputFor R e = e.payload :=
    fun hh hne R => inputFor_pass R e hc1 hc2 (fun hk => hne (hh.symm.trans hk.1))
  rcases evOKE_cases hok with ⟨g, op, sn, hs, hp, hon, hsn, hfv, hfg⟩ | ⟨m, op, v, g, s, q, hmth, hp, hon, hlv, hlg, hbody, himps, hsop, hk⟩ | ⟨hk1, hk2⟩
  ·
    have hbook : ebook est e = { est with gqls := aset op g est.gqls, vars := aset op (gqlVarName sn) est.vars } := by
      unfold ebook; simp only [hs, hp, hon, hsn]
    have hstep : extractStep e.call est (inputFor P e) = .ok (ebook est e, .str g) := by
      rw [hpay hs (by decide) P, hp, hbook]
      simp [extractStep, hs, extract_opStr est e.call g op sn hon hsn, bind_ok, pure_eq_ok]
    obtain ⟨e1, e2⟩ := step_of_extractStep a b ha hb est _ P Q e _ hc2 h hstep
    refine ⟨_, _, e1, e2, ?_⟩
    rw [hpay hs (by decide) Q, hp]
    -- what was derived from the operations recorded earlier still holds: the new operation has a new name
    have hne : ∀ {β} (d : List (String × β)) op' (w : β), alookup op d = none → alookup op' d = some w → op ≠ op' :=
      fun d op' w h1 h2 hc => by subst hc; rw [h1] at h2; cases h2
    have hv : ∀ op' v, alookup op' est.vars = some v → alookup op' (ebook est e).vars = some v := fun op' v hl => by
      rw [hbook]; exact (alookup_aset_other op op' _ _ (hne _ _ _ hfv hl)).trans hl
    have hg : ∀ op' g', alookup op' est.gqls = some g' → alookup op' (ebook est e).gqls = some g' := fun op' g' hl => by
      rw [hbook]; exact (alookup_aset_other op op' _ _ (hne _ _ _ hfg hl)).trans hl
    exact record_erel a b _ _ _ e.call (.str g) (fun hh => by obtain ⟨_, m, hm⟩ := hh; cases hm)
      (fun hh => by obtain ⟨_, k, hk⟩ := hh; cases hk)
      ⟨rfl, rfl, h.imports, h.gql, h.init, PairRel.imp (fun _ _ hm => hm.mono hv hg) h.methods, ClassE.mono hv hg h.cls⟩
  ·
    rw [ebook_other est e (by rw [hmth]; decide)]
    have hstep : extractStep e.call est (inputFor P e) = .ok (est, .method { m with body := bodyOf { s with op := .const v } }) := by
      rw [hpay hmth (by decide) P, hp]
      simp [extractStep, hmth, extract_method est e.call m s q (pyLines g) op v hbody himps hsop hon hlv hk, bind_ok, pure_eq_ok]
    obtain ⟨e1, e2⟩ := step_of_extractStep a b ha hb est _ P Q e _ hc2 h hstep
    refine ⟨_, _, e1, e2, ?_⟩
    rw [hpay hmth (by decide) Q, hp]
    rw [record_method hmth, record_method hmth]
    exact ⟨rfl, rfl, h.imports, h.gql, h.init, PairRel.snoc h.methods ⟨op, v, g, s, q, hlv, hlg, hbody, himps, hsop, rfl⟩, h.cls⟩
  · have hbook : ebook est e = est := by
      unfold ebook
      split
      · rename_i g _ _ h1 h2 _ _; exact absurd ⟨h1, g, h2⟩ hk1
      · rfl
    rw [hbook]
    by_cases hk3 : e.call.hook = "generate_client_class" ∧ ∃ k, e.payload = .klass k
    · -- the class is assembled from the methods collected so far
      obtain ⟨hk, c, hp⟩ := hk3
      have hin : ∀ R : PipeState, inputFor R e = .klass { c with body := replaceMethods c.body R.methodsOut } := fun R => by
        unfold inputFor; simp [hk, hp]
      have hstep : extractStep e.call est (inputFor P e) = .ok (est, inputFor P e) :=
        extractStep_pass e.call est _ hc1 hc2 (fun hh => by rw [hk] at hh; exact absurd hh.1 (by decide))
          (fun hh => by rw [hk] at hh; exact absurd hh.1 (by decide))
      obtain ⟨e1, e2⟩ := step_of_extractStep a b ha hb est _ P Q e _ hc2 h hstep
      refine ⟨_, _, e1, e2, ?_⟩
      rw [hin P, hin Q]
      rw [record_class hk, record_class hk]
      exact ⟨rfl, rfl, h.imports, h.gql, h.init, h.methods,
        rfl, rfl, rfl, replaceMethods_rel (fun _ _ hm => hm.name) c.body h.methods⟩
    ·
      have hin : ∀ R : PipeState, inputFor R e = e.payload := fun R => inputFor_pass R e hc1 hc2 hk3
      have hstep : extractStep e.call est (inputFor P e) = .ok (est, e.payload) := by
        rw [hin P]; exact extractStep_pass e.call est _ hc1 hc2 hk1 hk2
      obtain ⟨e1, e2⟩ := step_of_extractStep a b ha hb est _ P Q e _ hc2 h hstep
      refine ⟨_, _, e1, e2, ?_⟩
      rw [hin Q, hin P]
      exact record_erel a b est _ _ e.call e.payload hk2 hk3 ⟨rfl, rfl, h.imports, h.gql, h.init, h.methods, h.cls⟩

theorem guarded_of_checkE : ∀ (evs : List Event) (est : ExtractState),
    (∀ e ∈ evs, e.call.hook ≠ "generate_client_module" ∧ e.call.hook ≠ "generate_init_module") → checkE est evs = true →
    Guarded ebook (fun est e => (e.call.hook ≠ "generate_client_module" ∧ e.call.hook ≠ "generate_init_module") ∧
      evOKE est e = true) est evs
  | [], _, _, _ => trivial
  | e :: rest, est, hno, h => by
    simp only [checkE, Bool.and_eq_true] at h
    exact ⟨⟨hno e (by simp), h.1⟩, guarded_of_checkE rest _ (fun e' he' => hno e' (by simp [he'])) h.2⟩

theorem run_extract_pre (a b : List PState) (ha : Inert a) (hb : Inert b) {evs : List Event}
    (hno : ∀ e ∈ evs, e.call.hook ≠ "generate_client_module" ∧ e.call.hook ≠ "generate_init_module")
    {est : ExtractState} {P Q Q' : PipeState} (h : ERel a b est P Q) (hck : checkE est evs = true) (hQ : Run Q evs Q') :
    ∃ P', Run P evs P' ∧ ERel a b (evs.foldl ebook est) P' Q' :=
  run_sim (ERel a b) ebook _
    (fun est P Q e Q' hg h hQ => by
      obtain ⟨P', Q'', e1, e2, hrel⟩ := stepEvent_extract a b ha hb est P Q e hg.1.1 hg.1.2 h hg.2
      rw [e2] at hQ; cases hQ
      exact ⟨P', e1, hrel⟩)
    (guarded_of_checkE evs est hno hck) h hQ

/-- every recorded operation string has its constant (`generate_operation_str` stores both) -/
def EInv (est : ExtractState) : Prop := ∀ op g, (op, g) ∈ est.gqls → ∃ v, alookup op est.vars = some v

theorem ebook_inv (est : ExtractState) (e : Event) (h : EInv est) : EInv (ebook est e) := by
  unfold ebook
  split
  · rename_i g op sn _ _ _ _
    intro op' g' hm
    simp only at hm ⊢
    by_cases ho : op = op'
    · subst ho; exact ⟨_, alookup_aset_self op _ _⟩
    · rcases mem_aset op g est.gqls (op', g') hm with heq | hold
      · cases heq; exact absurd rfl ho
      · obtain ⟨v, hv⟩ := h op' g' hold
        exact ⟨v, by rw [alookup_aset_other op op' _ _ ho]; exact hv⟩
  · exact h

/-- one `NAME = [lines]` assignment of `_get_operations_module` -/
def opsAssign (est : ExtractState) (kv : String × String) : M (String × List String) :=
  match alookup kv.1 est.vars with
  | some v => pure (v, pyLines kv.2)
  | none => throw "KeyError"

theorem extractOpsFile_eq (est : ExtractState) :
    extractOpsFile est = (est.gqls.mapM (opsAssign est) >>= fun assigns =>
      pure { all := sortStrings (est.vars.map (·.2)), assigns := assigns }) := rfl

theorem extractOpsFile_ok (est : ExtractState) (h : EInv est) : ∃ f, extractOpsFile est = .ok f := by
  obtain ⟨r, hr⟩ := (Lists.mapM_isOk_iff (f := opsAssign est)).mpr fun kv hkv =>
    let ⟨v, hv⟩ := h kv.1 kv.2 hkv; ⟨(v, pyLines kv.2), by unfold opsAssign; rw [hv]; rfl⟩
  rw [extractOpsFile_eq, hr]
  exact ⟨_, rfl⟩

/-- the module `InitFileGenerator.generate` assembles: the imports and, if there are any, `__all__ = [...]` last -/
theorem inputFor_init_shaped (R : PipeState) (e : Event) (hc : e.call.hook = "generate_init_module") :
    (∃ mp, e.payload = .module mp) →
    ∀ M, inputFor R e = .module M → M.body = [] ∨ ∃ pre t elts, M.body = pre ++ [.simple (.assignList t elts)] := by
  rintro ⟨mp, hmp⟩ M hM
  unfold inputFor at hM
  simp only [hc, hmp] at hM
  simp only [Payload.module.injEq] at hM
  subst hM
  simp only
  cases hi : R.initImports with
  | nil => left; simp
  | cons i rest =>
    right
    simp only [List.map_cons, List.isEmpty_cons, Bool.false_eq_true, ↓reduceIte, List.cons_append]
    exact ⟨Top.simple (.importFrom i) :: rest.map (fun i => Top.simple (.importFrom i)), _, _, rfl⟩

theorem extractInitModule_ok (est : ExtractState) (M : Module) (hinv : EInv est)
    (hM : M.body = [] ∨ ∃ pre t elts, M.body = pre ++ [.simple (.assignList t elts)]) :
    ∃ f M', extractOpsFile est = .ok f ∧ extractInitModule est M = .ok ({ est with written := some f }, M') := by
  obtain ⟨f, hf⟩ := extractOpsFile_ok est hinv
  unfold extractInitModule
  rcases hM with hM | ⟨pre, t, elts, hM⟩
  · refine ⟨f, M, hf, ?_⟩
    have hemp : M.body.isEmpty = true := by rw [hM]; rfl
    simp only [hemp, ↓reduceIte, hf, bind_ok, pure_eq_ok]
  · have hne : M.body.isEmpty = false := by
      rw [hM]; cases pre <;> rfl
    have hlast : (extractImport est :: M.body).getLast? = some (.simple (.assignList t elts)) := by
      rw [hM, ← List.cons_append, List.getLast?_append]
      rfl
    refine ⟨f, { body := (extractImport est :: M.body).dropLast ++
      [.simple (.assignList t (sortStrings (elts ++ est.vars.map (·.2))))] }, hf, ?_⟩
    simp only [hne, Bool.false_eq_true, ↓reduceIte, hlast, bind_ok, pure_eq_ok, hf]

/-- `ebook`, and `generate_init_module` on a module writes the operations module: what a hook call makes of the plugin
    object when no call raises -/
def ebookW (est : ExtractState) (e : Event) : ExtractState :=
  match e.call.hook, e.payload, extractOpsFile est with
  | "generate_init_module", .module _, .ok f => { est with written := some f }
  | _, _, _ => ebook est e

theorem stepEvent_extract_init (a b : List PState) (ha : Inert a) (hb : Inert b) (est : ExtractState) (P Q : PipeState) (e : Event)
    (hc : e.call.hook = "generate_init_module") (h : ERel a b est P Q) (hinv : EInv est) :
    ∃ P' Q', stepEvent P e = .ok P' ∧ stepEvent Q e = .ok Q' ∧ ERel a b (ebookW est e) P' Q' := by
  have hQ := stepEvent_nil Q h.nil e
  have hinput : inputFor P e = inputFor Q e := by
    unfold inputFor
    rw [hc]
    cases e.payload <;> simp [h.init]
  obtain ⟨xa, hxa, hxa2⟩ := inert_manager e.call a ha (inputFor Q e)
  have hm := mid_manager e.call a a b (.extract est) (inputFor Q e) xa hxa
  by_cases hmod : ∃ mp, e.payload = .module mp
  · have hshape := inputFor_init_shaped Q e hc hmod
    have hxm : ∃ Mx, xa = .module Mx ∧ (Mx.body = [] ∨ ∃ pre t elts, Mx.body = pre ++ [.simple (.assignList t elts)]) := by
      obtain ⟨mp, hmp⟩ := hmod
      have hisM : ∃ M0, inputFor Q e = .module M0 := by
        unfold inputFor; simp only [hc, hmp]; exact ⟨_, rfl⟩
      obtain ⟨M0, hM0⟩ := hisM
      rcases hxa2 with rfl | ⟨_, _, rfl⟩
      · exact ⟨M0, hM0, hshape M0 hM0⟩
      · exact ⟨{ body := [] }, rfl, .inl rfl⟩
    obtain ⟨Mx, rfl, hMx⟩ := hxm
    obtain ⟨f, M', hf, hinit⟩ := extractInitModule_ok est Mx hinv hMx
    have hstep : extractStep e.call est (.module Mx) = .ok ({ est with written := some f }, .module M') := by
      simp [extractStep, hc, hinit, bind_ok, pure_eq_ok]
    rw [extract_step_eq, hstep] at hm
    simp only [bind_ok, pure_eq_ok] at hm
    obtain ⟨y, hy, _⟩ := inert_manager e.call b hb (.module M')
    rw [hy] at hm
    simp only [bind_ok] at hm
    have e1 := stepEvent_of_manager P e (a ++ .extract { est with written := some f } :: b) y (by rw [hinput, h.plugins]; exact hm)
    obtain ⟨mp, hmp⟩ := hmod
    have hw : ebookW est e = { est with written := some f } := by unfold ebookW; simp only [hc, hmp, hf]
    refine ⟨_, _, e1, hQ, ?_⟩
    rw [hw]
    rw [record_silent (by simp [recordedHooks, hc]), record_silent (by simp [recordedHooks, hc])]
    exact ⟨rfl, rfl, h.imports, h.gql, h.init, h.methods, h.cls⟩
  · have hin : inputFor Q e = e.payload := by
      unfold inputFor
      split
      · exfalso; simp_all
      · exfalso; simp_all
      · rename_i m0 _ hpay; exact absurd ⟨m0, hpay⟩ hmod
      · rfl
    have hxa3 : xa = e.payload := by
      -- an inert list hands on an object that is not a module
      rcases hxa2 with h1 | ⟨_, ⟨m, hm'⟩, _⟩
      · rw [h1, hin]
      · exact absurd ⟨m, hin.symm.trans hm'⟩ hmod
    subst hxa3
    have hstep : extractStep e.call est e.payload = .ok (est, e.payload) := by
      unfold extractStep
      split
      · exfalso; simp_all
      · exfalso; simp_all
      · exfalso; simp_all
      · rename_i m0 _ hpay; exact absurd ⟨m0, hpay⟩ hmod
      · rfl
    rw [extract_step_eq, hstep] at hm
    simp only [bind_ok, pure_eq_ok] at hm
    obtain ⟨y, hy, _⟩ := inert_manager e.call b hb e.payload
    rw [hy] at hm
    simp only [bind_ok] at hm
    have e1 := stepEvent_of_manager P e (a ++ .extract est :: b) y (by rw [hinput, h.plugins]; exact hm)
    have hw : ebookW est e = est := by
      unfold ebookW
      split
      · rename_i mp _ _ hp _; exact absurd ⟨mp, hp⟩ hmod
      · exact ebook_other est e (by rw [hc]; decide)
    refine ⟨_, _, e1, hQ, ?_⟩
    rw [hw]
    rw [record_silent (by simp [recordedHooks, hc]), record_silent (by simp [recordedHooks, hc])]
    exact ⟨rfl, rfl, h.imports, h.gql, h.init, h.methods, h.cls⟩


def ModE (est : ExtractState) (MQ MP : Module) : Prop :=
  MP = MQ ∨ ∃ imps g cQ cP, MQ.body = imps ++ [.funcDef g, .classDef cQ] ∧ MP.body = imps ++ [.funcDef g, .classDef cP] ∧
    ClassE est (some cQ) (some cP)

theorem stepEvent_extract_cm (a b : List PState) (ha : Inert a) (hb : Inert b) (est : ExtractState) (P Q : PipeState) (e : Event)
    (hc : e.call.hook = "generate_client_module") (h : ERel a b est P Q) (mp : Module) (hp : e.payload = .module mp) :
    ∃ MQ MP P' Q', ModE est MQ MP ∧ stepEvent P e = .ok P' ∧ stepEvent Q e = .ok Q' ∧
      ERel a b est P' Q' ∧
      P'.finalOf "generate_client_module" = some (.module { body := extractImport est :: MP.body }) ∧
      Q'.finalOf "generate_client_module" = some (.module MQ) := by
  have hni : e.call.hook ≠ "generate_init_module" := by rw [hc]; decide
  have hbeq : (e.call.hook == "generate_client_module") = true := by rw [hc]; decide
  have hmods : ∃ MQ MP, inputFor Q e = .module MQ ∧ inputFor P e = .module MP ∧ ModE est MQ MP := by
    unfold inputFor
    simp only [hc, hp]
    rw [h.gql]
    have hcls := h.cls
    cases hg : Q.gqlOut with
    | none => exact ⟨mp, mp, rfl, rfl, .inl rfl⟩
    | some g =>
      cases hcq : Q.classOut with
      | none =>
        cases hcp : P.classOut with
        | none => exact ⟨mp, mp, rfl, rfl, .inl rfl⟩
        | some cP => rw [hcq, hcp] at hcls; simp [ClassE] at hcls
      | some cQ =>
        cases hcp : P.classOut with
        | none => rw [hcq, hcp] at hcls; simp [ClassE] at hcls
        | some cP =>
          rw [hcq, hcp] at hcls
          refine ⟨_, _, rfl, rfl, .inr ⟨_, g, cQ, cP, rfl, ?_, hcls⟩⟩
          rw [h.imports]
  obtain ⟨MQ, MP, hQin, hPin, hmod⟩ := hmods
  have hstep : extractStep e.call est (.module MP) = .ok (est, .module { body := extractImport est :: MP.body }) := by
    simp [extractStep, hc, pure_eq_ok]
  have hm := emanager_of_step e.call hni a b ha hb est est _ _ hstep
  have e1 := stepEvent_of_manager P e _ _ (by rw [hPin, h.plugins]; exact hm)
  have e2 := stepEvent_nil Q h.nil e
  refine ⟨MQ, MP, _, _, hmod, e1, e2, ?_, ?_, ?_⟩
  · rw [record_silent (by simp [recordedHooks, hc]), record_silent (by simp [recordedHooks, hc])]
    exact ⟨rfl, rfl, h.imports, h.gql, h.init, h.methods, h.cls⟩
  · rw [stepEvent_finalOf P _ e e1, record_silent (by simp [recordedHooks, hc])]
    simp [hbeq]
  · rw [stepEvent_finalOf Q _ e e2, record_silent (by simp [recordedHooks, hc])]
    simp [hbeq, hQin]

theorem extractOpsFile_written (est : ExtractState) (w : Option OpsFile) : extractOpsFile { est with written := w } = extractOpsFile est := rfl

theorem EInv_written (est : ExtractState) (w : Option OpsFile) (h : EInv est) : EInv { est with written := w } := h

theorem evOKE_init_import (est : ExtractState) (e : Event) (h : e.call.hook = "generate_init_import") : evOKE est e = true := by
  unfold evOKE
  split
  · exfalso; simp_all
  · exfalso; simp_all
  · rfl

def initHook (e : Event) : Prop := e.call.hook = "generate_init_import" ∨ e.call.hook = "generate_init_module"

theorem ebookW_init (est : ExtractState) (e : Event) (h : initHook e) :
    ebookW est e = est ∨ ∃ f, extractOpsFile est = .ok f ∧ ebookW est e = { est with written := some f } := by
  have hb : ebook est e = est := ebook_other est e (by rcases h with h | h <;> (rw [h]; decide))
  unfold ebookW
  split
  · exact .inr ⟨_, by assumption, rfl⟩
  · exact .inl hb

theorem stepEvent_extract_post (a b : List PState) (ha : Inert a) (hb : Inert b) (est : ExtractState) (P Q Q' : PipeState) (e : Event)
    (hi : initHook e) (h : ERel a b est P Q ∧ EInv est) (hQ : stepEvent Q e = .ok Q') :
    ∃ P', stepEvent P e = .ok P' ∧ ERel a b (ebookW est e) P' Q' ∧ EInv (ebookW est e) := by
  have hinv' : EInv (ebookW est e) := by
    rcases ebookW_init est e hi with h1 | ⟨f, _, h1⟩ <;> rw [h1] <;> exact h.2
  rcases hi with hi | hi
  · obtain ⟨P', Q'', e1, e2, hrel⟩ := stepEvent_extract a b ha hb est P Q e (by rw [hi]; decide) (by rw [hi]; decide) h.1
      (evOKE_init_import est e hi)
    rw [e2] at hQ; cases hQ
    have : ebookW est e = ebook est e := by unfold ebookW; split <;> simp_all
    exact ⟨P', e1, this ▸ hrel, hinv'⟩
  · obtain ⟨P', Q'', e1, e2, hrel⟩ := stepEvent_extract_init a b ha hb est P Q e hi h.1 h.2
    rw [e2] at hQ; cases hQ
    exact ⟨P', e1, hrel, hinv'⟩

theorem foldl_ebookW_init : ∀ (post : List Event) (est : ExtractState), (∀ e ∈ post, initHook e) →
    (post.foldl ebookW est).opsModuleName = est.opsModuleName ∧
    ∀ f, extractOpsFile est = .ok f →
      (est.written = some f ∨ ∃ e ∈ post, e.call.hook = "generate_init_module" ∧ ∃ mp, e.payload = .module mp) →
      (post.foldl ebookW est).written = some f
  | [], est, _ => ⟨rfl, fun f _ h => h.elim id (fun ⟨_, he, _⟩ => by cases he)⟩
  | e :: rest, est, hall => by
    obtain ⟨i3, i4⟩ := foldl_ebookW_init rest (ebookW est e) (fun e' he' => hall e' (by simp [he']))
    simp only [List.foldl_cons]
    rcases ebookW_init est e (hall e (by simp)) with h1 | ⟨f1, hf1, h1⟩
    · rw [h1] at i3 i4 ⊢
      refine ⟨i3, fun f hf hw => i4 f hf ?_⟩
      rcases hw with hw | ⟨e', he', hh, mp, hp⟩
      · exact .inl hw
      · rcases List.mem_cons.mp he' with rfl | hin
        · -- this call writes: it left the plugin object alone, so the module had been written before
          left
          have h2 := h1
          unfold ebookW at h2
          simp only [hh, hp, hf] at h2
          rw [← h2]
        · exact .inr ⟨e', hin, hh, mp, hp⟩
    · rw [h1] at i3 i4 ⊢
      exact ⟨i3, fun f hf _ => i4 f hf (.inl (by rw [hf] at hf1; cases hf1; rfl))⟩

end Ariadne.C15
