/-
  C16 — graphql-core's type collection (Spec/GqlCollect.lean) keeps the user's types in the order
  of the `types` argument: `typeMapOrder_user`.  The walk only ever APPENDS names that are not yet in
  the set (`collect_ext`), every user type is in the set from the start, so whatever is appended
  besides the type being re-added is not a user type.
-/
import AriadneModel.Spec.GqlCollect


namespace Ariadne.GqlCollectProofs
open Ariadne.Schema Ariadne.GqlCollect

def Extends (f : List Name → Name → List Name) : Prop :=
  ∀ set n, ∃ extra, f set n = set ++ extra ∧ ∀ x ∈ extra, x ∉ set

theorem foldl_ext {f : List Name → Name → List Name} (hf : Extends f) :
    ∀ (ns set : List Name), ∃ extra, ns.foldl f set = set ++ extra ∧ ∀ x ∈ extra, x ∉ set := by
  intro ns
  induction ns with
  | nil => intro set; exact ⟨[], by simp, by simp⟩
  | cons n ns ih =>
    intro set
    obtain ⟨e1, h1, d1⟩ := hf set n
    obtain ⟨e2, h2, d2⟩ := ih (set ++ e1)
    refine ⟨e1 ++ e2, ?_, ?_⟩
    · simp only [List.foldl_cons, h1, h2, List.append_assoc]
    · intro x hx
      rcases List.mem_append.mp hx with hx | hx
      · exact d1 x hx
      · intro hs
        exact d2 x hx (List.mem_append.mpr (Or.inl hs))

theorem collect_ext (refs : Name → List Name) : ∀ fuel, Extends (collect refs fuel) := by
  intro fuel
  induction fuel with
  | zero => intro set n; exact ⟨[], by simp [collect], by simp⟩
  | succ fuel ih =>
    intro set n
    by_cases hc : set.contains n = true
    · have hm : n ∈ set := List.contains_iff_mem.mp hc
      exact ⟨[], by simp [collect, hm], by simp⟩
    · obtain ⟨e, he, hd⟩ := foldl_ext ih (refs n) (set ++ [n])
      refine ⟨n :: e, ?_, ?_⟩
      · simp only [collect, hc, if_false, Bool.false_eq_true]
        rw [he]; simp
      · intro x hx
        rcases List.mem_cons.mp hx with rfl | hx
        · intro hs; exact hc (List.contains_iff_mem.mpr hs)
        · intro hs; exact hd x hx (List.mem_append.mpr (Or.inl hs))

theorem collect_new (refs : Name → List Name) (fuel : Nat) (set : List Name) (n : Name) (hn : n ∉ set) :
    ∃ e, collect refs (fuel + 1) set n = set ++ n :: e ∧ ∀ x ∈ e, x ∉ set ∧ x ≠ n := by
  have hc : ¬ set.contains n = true := fun h => hn (List.contains_iff_mem.mp h)
  obtain ⟨e, he, hd⟩ := foldl_ext (collect_ext refs fuel) (refs n) (set ++ [n])
  refine ⟨e, ?_, ?_⟩
  · simp only [collect, hc, if_false, Bool.false_eq_true]
    rw [he]; simp
  · intro x hx
    have := hd x hx
    constructor
    · intro hs; exact this (List.mem_append.mpr (Or.inl hs))
    · intro e'; subst e'; exact this (by simp)

theorem filter_append_outside (U : List Name) (set extra : List Name) (h : ∀ x ∈ extra, x ∉ U) :
    (set ++ extra).filter (fun n => U.contains n) = set.filter (fun n => U.contains n) := by
  rw [List.filter_append]
  have : extra.filter (fun n => U.contains n) = [] := by
    rw [List.filter_eq_nil_iff]
    intro x hx hc
    exact h x hx (List.contains_iff_mem.mp hc)
  rw [this, List.append_nil]

theorem collect_keeps (refs : Name → List Name) (U : List Name) (fuel : Nat) (set : List Name) (n : Name)
    (hU : ∀ u ∈ U, u ∈ set) :
    (collect refs fuel set n).filter (fun n => U.contains n) = set.filter (fun n => U.contains n) ∧
    ∀ u ∈ U, u ∈ collect refs fuel set n := by
  obtain ⟨e, he, hd⟩ := collect_ext refs fuel set n
  rw [he]
  exact ⟨filter_append_outside U set e (fun x hx hxU => hd x hx (hU x hxU)),
         fun u hu => List.mem_append.mpr (Or.inl (hU u hu))⟩

theorem collectAll_keeps (refs : Name → List Name) (U : List Name) (fuel : Nat) :
    ∀ (ns set : List Name), (∀ u ∈ U, u ∈ set) →
      (collectAll refs fuel set ns).filter (fun n => U.contains n) = set.filter (fun n => U.contains n) ∧
      ∀ u ∈ U, u ∈ collectAll refs fuel set ns := by
  intro ns
  induction ns with
  | nil => intro set hU; exact ⟨rfl, hU⟩
  | cons n ns ih =>
    intro set hU
    have ⟨h1, h2⟩ := collect_keeps refs U (fuel + 1) set n hU
    have ⟨h3, h4⟩ := ih (collect refs (fuel + 1) set n) h2
    refine ⟨?_, h4⟩
    simp only [collectAll, List.foldl_cons] at h3 ⊢
    rw [h3, h1]

/-- the loop over `types`: each type is moved behind everything collected so far, in turn -/
theorem processTypes_user (refs : Name → List Name) (U : List Name) (fuel : Nat) :
    ∀ (todo done : List Name), todo.Nodup → (∀ x ∈ todo, x ∉ done) →
      (∀ u ∈ U, u ∈ todo ∨ u ∈ done) →
      (processTypes refs fuel todo (todo ++ done)).filter (fun n => U.contains n) =
        done.filter (fun n => U.contains n) ++ todo.filter (fun n => U.contains n) := by
  intro todo
  induction todo with
  | nil => intro done _ _ _; simp [processTypes]
  | cons t rest ih =>
    intro done hnd hdis hall
    have htr : t ∉ rest := (List.nodup_cons.mp hnd).1
    have hndr : rest.Nodup := (List.nodup_cons.mp hnd).2
    have htd : t ∉ done := hdis t (by simp)
    have hset : t ∉ rest ++ done := by
      intro h; rcases List.mem_append.mp h with h | h
      · exact htr h
      · exact htd h
    obtain ⟨e, he, hd⟩ := collect_new refs fuel (rest ++ done) t hset
    have hstep : processTypes refs fuel (t :: rest) ((t :: rest) ++ done) =
        processTypes refs fuel rest (rest ++ (done ++ t :: e)) := by
      simp only [processTypes, List.cons_append, List.erase_cons_head]
      rw [he]; simp
    rw [hstep]
    have he_out : ∀ x ∈ e, x ∉ U := by
      intro x hx hxU
      rcases hall x hxU with h | h
      · rcases List.mem_cons.mp h with rfl | h
        · exact (hd x hx).2 rfl
        · exact (hd x hx).1 (List.mem_append.mpr (Or.inl h))
      · exact (hd x hx).1 (List.mem_append.mpr (Or.inr h))
    have := ih (done ++ t :: e) hndr
      (by
        intro x hx hmem
        rcases List.mem_append.mp hmem with h | h
        · exact hdis x (by simp [hx]) h
        · rcases List.mem_cons.mp h with rfl | h
          · exact htr hx
          · exact (hd x h).1 (List.mem_append.mpr (Or.inl hx)))
      (by
        intro u hu
        rcases hall u hu with h | h
        · rcases List.mem_cons.mp h with rfl | h
          · exact Or.inr (by simp)
          · exact Or.inl h
        · exact Or.inr (List.mem_append.mpr (Or.inl h)))
    rw [this]
    have hfe' : List.filter (fun n => decide (n ∈ U)) e = [] := by
      rw [List.filter_eq_nil_iff]
      intro x hx hc
      exact he_out x hx (by simpa using hc)
    by_cases htm : t ∈ U
    · simp [List.filter_append, htm, hfe']
    · simp [List.filter_append, htm, hfe']

/-- **the user's types keep the order they have in the `types` argument** — for every list `ts` of
    distinct names that contains them (built-in types may sit in between) -/
theorem typeMapOrderFrom_user (S : SchemaIR) (ts : List Name) (hnd : ts.Nodup)
    (hU : ∀ u ∈ S.types.map TypeDef.name, u ∈ ts) :
    (typeMapOrderFrom ts S).filter (fun n => (S.types.map TypeDef.name).contains n) =
      ts.filter (fun n => (S.types.map TypeDef.name).contains n) := by
  let U := S.types.map TypeDef.name
  have h1 := processTypes_user (refsIn S) U (S.types.length + 16) ts [] hnd (by simp) (fun u hu => Or.inl (hU u hu))
  simp only [List.append_nil, List.filter_nil, List.nil_append] at h1
  have hU1 : ∀ u ∈ U, u ∈ processTypes (refsIn S) (S.types.length + 16) ts ts := by
    intro u hu
    have : u ∈ (processTypes (refsIn S) (S.types.length + 16) ts ts).filter (fun n => U.contains n) := by
      rw [h1]; exact List.mem_filter.mpr ⟨hU u hu, List.contains_iff_mem.mpr hu⟩
    exact (List.mem_filter.mp this).1
  have ⟨h2, hU2⟩ := collectAll_keeps (refsIn S) U (S.types.length + 16) (rootNames S) _ hU1
  have ⟨h3, hU3⟩ := collectAll_keeps (refsIn S) U (S.types.length + 16)
    (S.directives.flatMap fun d => d.args.map fun a => baseName a.type) _ hU2
  have ⟨h4, _⟩ := collect_keeps (refsIn S) U (S.types.length + 16 + 1) _ "__Schema" hU3
  show (typeMapOrderFrom ts S).filter (fun n => U.contains n) = ts.filter (fun n => U.contains n)
  unfold typeMapOrderFrom
  simp only []
  rw [h4, h3, h2, h1]

/-- … in particular when `types=` are exactly the user's types -/
theorem typeMapOrder_user (S : SchemaIR) (hnd : (S.types.map TypeDef.name).Nodup) :
    (typeMapOrder S).filter (fun n => (S.types.map TypeDef.name).contains n) = S.types.map TypeDef.name := by
  unfold typeMapOrder
  rw [typeMapOrderFrom_user S _ hnd (fun u hu => hu)]
  rw [List.filter_eq_self]
  intro a ha
  exact List.contains_iff_mem.mpr ha

end Ariadne.GqlCollectProofs
