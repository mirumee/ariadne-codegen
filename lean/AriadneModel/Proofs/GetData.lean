/-
  `from_errors_dicts`' list comprehension `[from_dict(e) for e in errors_dicts]` is a `mapM` in `Except`: what is known of
  `List.mapM` (Proofs/ListLemmas.lean: all succeed / first failure / item-wise relation) is known of `fromDicts`.
-/
import AriadneModel.Model.GetData
import AriadneModel.Proofs.ListLemmas

namespace Ariadne.GetData

theorem fromDicts_eq_mapM : ∀ es : List J, fromDicts es = es.mapM fromDict
  | [] => rfl
  | e :: es => by rw [List.mapM_cons, ← fromDicts_eq_mapM es, fromDicts]; cases fromDict e <;> cases fromDicts es <;> rfl

end Ariadne.GetData
