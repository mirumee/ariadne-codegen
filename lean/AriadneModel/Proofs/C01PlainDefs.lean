/-
  Proofs/C01PlainDefs.lean — property C01, "plain selections" tier: definitions.

  * `plainClasses env cn tn sel`: a structural ("clean") description of the classes the result-type
    generator emits for a selection set consisting of FIELDS only, evaluated on type `tn`, root class `cn`.
  * `PlainOK env cn tn sid sel st : Bool`: the decidable hypothesis of the tier.
  * `gfuel`, `vneed`: generator / validation fuel that suffices.
  Core Lean only.
-/
import AriadneModel.Proofs.ResultLeafDefs


namespace Ariadne.C01Plain
open Ariadne Ariadne.Gql Ariadne.ResultTypes Ariadne.Util

/-! ### annotations -/

/-- the annotation of a type whose named base is annotated `base`: `Optional[..]` where nullable,
    `List[..]` where list -/
def wrapAnn (base : Ann) : Bool → TypeRef → Ann
  | _, .nonNull t => wrapAnn base false t
  | nullable, .list t => optionalIf nullable (.list (wrapAnn base true t))
  | nullable, .named _ => optionalIf nullable base

/-- `parse_directives`: `@skip` / `@include` make the annotation Optional -/
def condAnn (a : Ann) (dirs : List Directive) : Ann :=
  if hasConditionalDirective dirs then (if isNullableAnn a then a else .optional a) else a

/-- decidable form of `ResultLeaf.LeafName`: a name the schema does not define, a scalar (not configured as custom scalar) or an enum -/
def isLeafName (env : Env) (n : String) : Bool :=
  (match env.schema.kindOf? n with
   | none => true
   | some .scalar => true
   | some .enum => true
   | _ => false) && (scalarCfg? env n).isNone

/-- declared type of field `name` of type `tn` (dummy if there is no such field) -/
def fieldT (env : Env) (tn name : String) : TypeRef :=
  match env.schema.fieldOf? tn name with
  | some fd => fd.type
  | none => .named ""

def subType (env : Env) (tn name : String) : String := (fieldT env tn name).base

def subClass (env : Env) (cn : String) (alias : Option String) (name : String) : String :=
  cn ++ pascal (pyFieldName env (alias.getD name))

/-- the field declaration emitted for one field node -/
def fieldDecl (env : Env) (cn tn : String) (alias : Option String) (name : String) (dirs : List Directive)
    (sub : List Selection) : FieldDecl :=
  let key := alias.getD name
  let py := pyFieldName env key
  let T := fieldT env tn name
  let base : Ann := if sub.isEmpty then ResultLeaf.leafBase env T.base else .cls (subClass env cn alias name)
  { py := py, ann := condAnn (wrapAnn base true T) dirs, alias := if py != key then some key else none,
    discriminator := false, defaultNone := hasConditionalDirective dirs }

def plainDecl1 (env : Env) (cn tn : String) : Selection → List FieldDecl
  | .field alias name dirs _ sub => [fieldDecl env cn tn alias name dirs sub]
  | _ => []

def plainDecls (env : Env) (cn tn : String) (sel : List Selection) : List FieldDecl :=
  sel.flatMap (plainDecl1 env cn tn)

mutual
  /-- the classes of the sub-selections, in generation order -/
  def plainExtra (env : Env) : String → String → List Selection → List ClassDecl
    | _, _, [] => []
    | cn, tn, s :: rest => plainExtra1 env cn tn s ++ plainExtra env cn tn rest
  def plainExtra1 (env : Env) : String → String → Selection → List ClassDecl
    | cn, tn, .field alias name _ _ sub =>
      if sub.isEmpty then []
      else
        { name := subClass env cn alias name, bases := ["BaseModel"],
          fields := plainDecls env (subClass env cn alias name) (subType env tn name) sub }
          :: plainExtra env (subClass env cn alias name) (subType env tn name) sub
    | _, _, _ => []
end

/-- **the clean generator** for plain selections -/
def plainClasses (env : Env) (cn tn : String) (sel : List Selection) : List ClassDecl :=
  { name := cn, bases := ["BaseModel"], fields := plainDecls env cn tn sel } :: plainExtra env cn tn sel

/-! ### the hypothesis -/

def isField : Selection → Bool
  | .field .. => true
  | _ => false

def keyOf : Selection → String
  | .field alias name _ _ _ => alias.getD name
  | _ => ""

def nodupB : List String → Bool
  | [] => true
  | x :: xs => !xs.contains x && nodupB xs

/-- conditions on ONE selection set: pairwise distinct response keys, pairwise distinct Python names, and
    (pydantic `populate_by_name`: a field that has an alias is also looked up under its Python name when
    the alias is absent) the Python name of an aliased field is not the response key of another field -/
def setOK (env : Env) (sel : List Selection) : Bool :=
  let keys := sel.map keyOf
  nodupB keys && nodupB (keys.map (pyFieldName env)) &&
  keys.all fun k => pyFieldName env k == k || !keys.contains (pyFieldName env k)

mutual
  /-- structural conditions, by recursion on the selection tree (`marks` = `st.marks`) -/
  def plainLocal (env : Env) (marks : List Nat) : String → String → List Selection → Bool
    | _, _, [] => true
    | cn, tn, s :: rest => plainLocal1 env marks cn tn s && plainLocal env marks cn tn rest
  def plainLocal1 (env : Env) (marks : List Nat) : String → String → Selection → Bool
    | cn, tn, .field alias name dirs sid sub =>
      -- `__typename` is treated specially by generator and executor alike: outside this tier
      name != typenameField
      -- no `@mixin` on the field
      && !(dirs.any (·.name == Tables.mixinName))
      -- the field exists on the type
      && (env.schema.fieldOf? tn name).isSome
      && (if sub.isEmpty then
            -- leaf: scalar / enum under any wrappers
            isLeafName env (subType env tn name)
          else
            -- object under any wrappers, plain sub-selection; the sub-selection-set object has not been
            -- given an automatic `__typename` by an earlier generation (`st.marks`, finding C01-F4)
            env.schema.kindOf? (subType env tn name) == some .object
            && !marks.contains sid
            && setOK env sub
            && plainLocal env marks (subClass env cn alias name) (subType env tn name) sub)
    | _, _, _ => false     -- fragment spreads / inline fragments: outside this tier
end

/-- **`PlainOK`**: the decidable hypothesis of the plain-selections tier.  `sid` = identity of the
    top-level selection set, `st` = generator state in which `_parse_type_definition` is called. -/
def PlainOK (env : Env) (cn tn : String) (sid : Nat) (sel : List Selection) (st : St) : Bool :=
  !st.marks.contains sid && setOK env sel && plainLocal env st.marks cn tn sel
  && nodupB ((plainClasses env cn tn sel).map (·.name))
  && ((plainClasses env cn tn sel).map (·.name)).all (fun n => !st.publicNames.contains n)

/-! ### fuel -/

mutual
  /-- generator fuel that suffices -/
  def gfuel : List Selection → Nat
    | [] => 2
    | s :: rest => max (gfuel1 s) (gfuel rest)
  def gfuel1 : Selection → Nat
    | .field _ _ _ _ sub => gfuel sub + 2
    | _ => 0
end

/-- validation fuel spent in the wrappers of a type -/
def wneed : TypeRef → Nat
  | .named _ => 1
  | .list t => wneed t + 2
  | .nonNull t => wneed t

mutual
  /-- validation fuel that suffices for the fields of a selection set on type `tn` -/
  def vneed (env : Env) : String → List Selection → Nat
    | _, [] => 0
    | tn, s :: rest => max (vneed1 env tn s) (vneed env tn rest)
  def vneed1 (env : Env) : String → Selection → Nat
    | tn, .field _ name _ _ sub =>
      wneed (fieldT env tn name) + 2 + (if sub.isEmpty then 0 else vneed env (subType env tn name) sub + 1)
    | _, _ => 0
end

/-! ### JSON objects without duplicate keys (hereditarily) -/

mutual
  def nodupKeys : J → Bool
    | .arr xs => nodupKeysList xs
    | .obj kvs => nodupKvs kvs
    | _ => true
  def nodupKeysList : List J → Bool
    | [] => true
    | x :: xs => nodupKeys x && nodupKeysList xs
  def nodupKvs : List (String × J) → Bool
    | [] => true
    | (k, v) :: rest => !(J.hasKey k rest) && nodupKeys v && nodupKvs rest
end

end Ariadne.C01Plain
