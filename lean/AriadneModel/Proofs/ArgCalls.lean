/-
  The serialize call log of a whole request (C07; the CPython call itself is Proofs/ArgCall.lean): the
  calls made on behalf of a supported method call are, up to order, exactly the calls the caller's
  values are entitled to.
-/
import AriadneModel.Proofs.ArgDeliver


namespace Ariadne.ArgProofs
open Ariadne.Coerce Ariadne.ArgValues Ariadne.ArgSend Ariadne.Arguments
open Ariadne.ArgFindings

attribute [local irreducible] Ariadne.Arguments.pyVar

/-- the `serialize` calls made while the given arguments are dumped, in argument order (`dumpCallsOf` of `gP`) -/
def dumpP (fns : UserFns) : List AV → List Call
  | [] => []
  | v :: vs => (if v.isUnset then [] else argCalls fns v) ++ dumpP fns vs

theorem dumpCallsOf_gP (fns : UserFns) (snake : Bool) (lq : String) (ds : List VarDecl) (vs : List AV)
    (hlen : ds.length = vs.length) (hq : lq ∉ ds.map (fun d => pyVar snake d.name)) :
    dumpCallsOf lq (gP fns snake ds vs) = dumpP fns vs := by
  induction ds generalizing vs with
  | nil => cases vs <;> simp [gP, dumpCallsOf, dumpP] at hlen ⊢
  | cons d ds ih =>
    cases vs with
    | nil => simp at hlen
    | cons v vs =>
      simp only [List.map_cons, List.mem_cons, not_or] at hq
      have ih' := ih vs (by simpa using hlen) hq.2
      by_cases hu : v.isUnset = true
      · simp [gP, dumpP, hu, ih']
      · have hne : (pyVar snake d.name == lq) = false := by simpa using fun e => hq.1 e.symm
        simp [gP, dumpP, hu, dumpCallsOf, hne, ih']

theorem arg_calls (cfg : Cfg) (fns : UserFns) (hy : Hyp cfg fns) (d : IField) (v : AV)
    (hv : (v.isUnset = true ∧ d.type.nonNull = false) ∨ hasType cfg d.type v = true)
    (hs : ∀ f, cfg.serOfType d.type = some f → ∃ sc j, v = .custom sc j) :
    dictPart cfg d v ++ (if v.isUnset then [] else argCalls fns v) = serCalls cfg v := by
  rcases hv with ⟨hu, _⟩ | ht
  · cases v <;> simp [AV.isUnset] at hu
    simp [serCalls, AV.isUnset, dictPart]
  · have hu : v.isUnset = false := by
      cases v <;> simp [AV.isUnset]
      rw [hasType_unset] at ht; cases ht
    cases hser : cfg.serOfType d.type with
    | none =>
      have hns : NoSer cfg d.type := by
        intro hsc; simpa [Cfg.serOfType, Cfg.isScalar, hsc] using hser
      obtain ⟨o, calls, ho, hc, _⟩ := obj_good cfg fns hy d.type v ht hns
      have : argCalls fns v = serCalls cfg v := by simp [argCalls, ho, hc]
      cases v <;> simp_all [dictPart]
    | some f =>
      obtain ⟨sc, j, rfl⟩ := hs f hser
      -- the scalar is the base of the type, so its serialize function is `f`
      obtain ⟨n, nn, hty, hl⟩ := hasType_leaf rfl ht
      obtain ⟨rfl, _⟩ := leafOK_custom hl
      have hsc : cfg.serializeOf sc = some f := by
        have hsc' := isScalar_of_serOfType cfg _ f hser
        rw [hty] at hsc' hser
        simp only [GT.base] at hsc'
        simpa [Cfg.serOfType, GT.base, hsc'] using hser
      simp [serCalls, hsc, argCalls, objOf, AV.isUnset, dictPart, hser]

/-- the head argument's calls (`x` building the dict, `y` in the dump) brought together before those of the rest -/
theorem perm_interleave (x X y Y : List Call) : ((x ++ X) ++ (y ++ Y)).Perm ((x ++ y) ++ (X ++ Y)) := by
  have h1 : ((x ++ X) ++ (y ++ Y)) = x ++ ((X ++ y) ++ Y) := by simp [List.append_assoc]
  have h2 : ((x ++ y) ++ (X ++ Y)) = x ++ ((y ++ X) ++ Y) := by simp [List.append_assoc]
  rw [h1, h2]
  exact List.Perm.append_left x (List.Perm.append_right Y List.perm_append_comm)

theorem request_calls_perm (cfg : Cfg) (fns : UserFns) (hy : Hyp cfg fns) (ds : List IField) (vs : List AV)
    (hv : argsValid cfg ds vs = true) (hs : SerArgsOK cfg ds vs) :
    (dictCalls cfg ds vs ++ dumpP fns vs).Perm (serCallsList cfg vs) := by
  induction ds, vs using argsValid.induct with
  | case1 => simp [dictCalls, dumpP, serCallsList]
  | case2 d ds v vs ih =>
    have hz := (argsValid_zip cfg (d :: ds) (v :: vs) hv).2 (d, v) (by simp)
    simp only [argsValid, Bool.and_eq_true] at hv
    simp only [dictCalls, dumpP, serCallsList]
    refine (perm_interleave _ _ _ _).trans ?_
    rw [arg_calls cfg fns hy d v hz hs.head]
    exact List.Perm.append_left _ (ih hv.2 hs.tail)
  | case3 ds vs _ _ => simp [argsValid] at hv

/-- C07 for top-level arguments, composed: the serialize calls made on behalf of a supported,
    schema-valid call are a permutation of the calls its values are entitled to. -/
theorem send_calls (cfg : Cfg) (fns : UserFns) (hy : Hyp cfg fns) (defs : List VarDecl) (a : List AV)
    (opName opText cls : String) (async : Bool)
    (hk : ∀ d ∈ defs, isInputType cfg.schema d.type.base = true)
    (hvn : (defs.map (·.name)).Nodup)
    (ht : anyTrigger (envOf cfg) (defs.map (·.toVarDef)) = false)
    (ha : argsValid cfg (defs.map (·.toIField)) a = true) :
    ∃ req, send (envOf cfg) fns async opName opText defs a cls = .ok req ∧
      req.calls.Perm (serCallsList cfg a) := by
  have hs := serArgsOK_of_triggers cfg fns hy defs a ht ha
  obtain ⟨req, hsend, _, _, _, hLqn, hcalls⟩ :=
    send_ok cfg fns hy defs a opName opText cls async hk hvn (names_ok_of_triggers cfg fns hy defs ht) hs ha
  have hlen : defs.length = a.length := by simpa using (argsValid_zip cfg _ _ ha).1
  rw [dumpCallsOf_gP fns cfg.snake _ defs a hlen hLqn] at hcalls
  exact ⟨req, hsend, hcalls ▸ request_calls_perm cfg fns hy _ a ha hs⟩

end Ariadne.ArgProofs
