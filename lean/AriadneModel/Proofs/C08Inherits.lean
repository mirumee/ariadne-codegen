/-
  Proofs/C08Inherits.lean — WHICH fragments the class generated for a selection set inherits from, exactly.

  `_resolve_selection_set(selection_set, root_type)` returns a set of fragment names; `_parse_type_definition`
  turns it into the base classes.  The set is described here without fuel, state or accumulator as the inductive
  relation `Inherits env n sels root` ("the class generated for `sels` evaluated for `root` inherits from fragment `n`"):

    * `direct`           `sels` directly spreads `n` and `_unpack_fragment(n, root)` is false;
    * `throughFragment`  `sels` directly spreads a fragment that IS unpacked for `root` and applies to `root` (same type, or
                         an abstract type `root` belongs to): its selections are evaluated for `root` in its place;
    * `throughInline`    `sels` contains an inline fragment whose type condition `_get_inline_fragment_root_type` accepts
                         for `root` (the type itself -> `root`; an interface the OBJECT type `root` implements -> that
                         interface): its selections are evaluated for the accepted type.

  `resolve_inherits_iff`: for every fuel, state and input on which `resolve` succeeds, the returned set is exactly that
  relation.  Core Lean only.
-/
import AriadneModel.Proofs.C08Resolve


namespace Ariadne.ResultTypes
open Ariadne.Gql Ariadne.Util

/-- does an unpacked fragment on `on` contribute to a selection set evaluated for `root`?  (`_resolve_selection_set`:
    `fragment_def.type_condition.name.value == root_type or (is_abstract_type(…) and schema.is_sub_type(…, root_type_def))`;
    otherwise the spread is silently dropped).  The Boolean written out in `ResolveStep.unpack` / `.dropSpread`
    (Proofs/C08Resolve.lean), under a name -/
def appliesTo (env : Env) (on root : String) : Bool :=
  on == root || (env.schema.isAbstract on && env.schema.isSubType on root)

inductive Inherits (env : Env) (n : String) : List Selection → String → Prop
  | direct {sels : List Selection} {root : String} {dirs : List Directive} {f : Fragment} :
      Selection.spread n dirs ∈ sels → findFragment? env.frags n = some f →
      unpackFragment env f (some root) = false → Inherits env n sels root
  | throughFragment {sels : List Selection} {root g : String} {dirs : List Directive} {gf : Fragment} :
      Selection.spread g dirs ∈ sels → findFragment? env.frags g = some gf →
      unpackFragment env gf (some root) = true → appliesTo env gf.on root = true →
      Inherits env n gf.sel root → Inherits env n sels root
  | throughInline {sels : List Selection} {root cond rt : String} {dirs : List Directive} {sid : Nat} {sub : List Selection} :
      Selection.inline (some cond) dirs sid sub ∈ sels → inlineFragmentRootType env cond root = some rt →
      Inherits env n sub rt → Inherits env n sels root

theorem resolve_sound (env : Env) : ∀ (fuel : Nat) (sels : List Selection) (root : String) (st : St) (r : Acc) (st' : St),
    resolve env fuel sels root st = .ok (r, st') → ∀ n ∈ r.2, Inherits env n sels root
  | 0, sels, root, st, r, st', h => by
    obtain ⟨_, _, h0, _⟩ := resolve_ok_iff.mp h
    cases h0
  | fuel + 1, sels, root, st, r, st', h => by
    obtain ⟨_, s1, hfu, h1, _⟩ := resolve_ok_iff.mp h
    cases hfu
    refine forIn_ok_inv (fun (b : Acc) (_ : St) => ∀ n ∈ b.2, Inherits env n sels root)
      (resolveBody env fuel root) sels ([], []) st r s1 ?_ (fun n hn => absurd hn List.not_mem_nil) h1
    intro a ha b s r s' hb hr n hn
    obtain ⟨b1, rfl, step⟩ := resolveBody_step hr
    cases step with
    | field => exact hb n hn
    | keep hf hun => exact (mem_setAdd.mp hn).elim (hb n) fun e => e ▸ Inherits.direct ha hf hun
    | unpack hf hun happ hx =>
      exact (mem_setUnion.mp hn).elim (hb n) fun hn =>
        Inherits.throughFragment ha hf hun happ (resolve_sound env fuel _ _ _ _ _ hx n hn)
    | dropSpread => exact hb n hn
    | inline hrt hx =>
      exact (mem_setUnion.mp hn).elim (hb n) fun hn => Inherits.throughInline ha hrt (resolve_sound env fuel _ _ _ _ _ hx n hn)
    | dropInline => exact hb n hn

theorem resolve_complete (env : Env) (n : String) (sels : List Selection) (root : String) (hi : Inherits env n sels root) :
    ∀ (fuel : Nat) (st : St) (r : Acc) (st' : St), resolve env fuel sels root st = .ok (r, st') → n ∈ r.2 := by
  induction hi with
  | @direct sels root dirs f hmem hf hun =>
    intro fuel st r st' h
    exact (resolve_spread_mem env fuel sels root st r st' n dirs f hmem hf hun h).1
  | @throughFragment sels root g dirs gf hmem hf hun happ _ ih =>
    intro fuel st r st' h
    obtain ⟨fuel, _, rfl, _⟩ := resolve_ok_iff.mp h
    refine resolve_established hmem (fun b s b1 s' step => ?_) h
    obtain ⟨x, hx, rfl⟩ := step.of_unpacked hf hun happ
    exact mem_setUnion.mpr (Or.inr (ih fuel _ _ _ hx))
  | @throughInline sels root cond rt dirs sid sub hmem hrt _ ih =>
    intro fuel st r st' h
    obtain ⟨fuel, _, rfl, _⟩ := resolve_ok_iff.mp h
    refine resolve_established hmem (fun b s b1 s' step => ?_) h
    cases step with
    | inline hrt' hx => rw [hrt] at hrt'; cases hrt'; exact mem_setUnion.mpr (Or.inr (ih fuel _ _ _ hx))
    | dropInline hrt' => rw [hrt] at hrt'; cases hrt'

theorem resolve_inherits_iff (env : Env) (fuel : Nat) (sels : List Selection) (root : String) (st : St) (r : Acc) (st' : St)
    (h : resolve env fuel sels root st = .ok (r, st')) (n : String) : n ∈ r.2 ↔ Inherits env n sels root :=
  ⟨resolve_sound env fuel sels root st r st' h n, fun hi => resolve_complete env n sels root hi fuel st r st' h⟩

/-! ### the returned set has no duplicates (a duplicate base class would be a `TypeError` in CPython) -/

theorem resolve_nodup (env : Env) (fuel : Nat) (sels : List Selection) (root : String) (st : St) (r : Acc) (st' : St)
    (h : resolve env fuel sels root st = .ok (r, st')) : r.2.Nodup := by
  obtain ⟨fuel, s1, rfl, h1, _⟩ := resolve_ok_iff.mp h
  refine forIn_ok_inv (fun (b : Acc) (_ : St) => b.2.Nodup) (resolveBody env fuel root) sels ([], []) st r s1 ?_
    List.nodup_nil h1
  intro a _ b s r s' hb hr
  obtain ⟨b1, rfl, step⟩ := resolveBody_step hr
  cases step with
  | field => exact hb
  | keep => exact nodup_setAdd _ hb
  | unpack => exact nodup_setUnion _ hb
  | dropSpread => exact hb
  | inline => exact nodup_setUnion _ hb
  | dropInline => exact hb

theorem inlineRoot_own (env : Env) (root : String) (t : TypeDef) (ht : env.schema.get? root = some t) :
    inlineFragmentRootType env root root = some root := by
  unfold inlineFragmentRootType
  rw [ht]
  simp only
  split
  · rfl
  · simp

/-- an inline fragment on an interface the OBJECT type implements: evaluated for the INTERFACE (so a fragment defined on
    that interface and spread inside is defined on exactly the type its selection set is evaluated for) -/
theorem inlineRoot_interface (env : Env) (cond root : String) (t : TypeDef) (ht : env.schema.get? root = some t)
    (hobj : t.kind = .object) (himpl : cond ∈ t.interfaces) : inlineFragmentRootType env cond root = some cond := by
  unfold inlineFragmentRootType
  rw [ht]
  simp [hobj, himpl]

theorem inlineRoot_none (env : Env) (cond root : String)
    (h : ∀ t, env.schema.get? root = some t → ¬ (t.kind = .object ∧ cond ∈ t.interfaces) ∧ cond ≠ root) :
    inlineFragmentRootType env cond root = none := by
  unfold inlineFragmentRootType
  cases ht : env.schema.get? root with
  | none => rfl
  | some t =>
    obtain ⟨h1, h2⟩ := h t ht
    simp only
    split
    · rename_i hc
      simp only [Bool.and_eq_true, beq_iff_eq] at hc
      exact absurd ⟨hc.1, by simpa using hc.2⟩ h1
    · split
      · rename_i hc
        exact absurd (by simpa using hc) h2
      · rfl

theorem inlineRoot_eq_cond (env : Env) (cond root rt : String) (h : inlineFragmentRootType env cond root = some rt) : rt = cond := by
  unfold inlineFragmentRootType at h
  cases ht : env.schema.get? root with
  | none => rw [ht] at h; cases h
  | some t =>
    rw [ht] at h
    simp only at h
    split at h
    · injection h with h; exact h.symm
    · split at h
      · rename_i hc
        injection h with h
        rw [← h]
        exact (by simpa using hc : cond = root).symm
      · cases h

end Ariadne.ResultTypes
