/-
  Helper lemmas for the generated-subscription-method part of C13 (Model/SubscriptionMethod.lean):
  name lookup / rebinding, and what the emitted body hands to `execute_ws`.
  `rename_cases` and `locals_distinct` are about the copy of `get_variable_names` in Model/ClientMethod.lean; the same
  two facts about the copy in Model/NameScopes.lean (C18) are in Proofs/NameScopes.lean.
-/
import AriadneModel.Model.SubscriptionMethod
import AriadneModel.Proofs.ListLemmas

namespace Ariadne.SubMethodProofs
open Ariadne.WsClient Ariadne.SubMethod

theorem lookup_eq (n : String) (env : Env) : lookup n env = List.lookup n env :=
  Lists.eq_lookup_of_eqns lookup (fun _ => rfl) (fun _ _ _ _ => rfl) n env

theorem lookup_assign (n m : String) (v : Val) (env : Env) :
    lookup m (assign n v env) = if n = m then some v else lookup m env := by
  rw [lookup_eq, lookup_eq]
  exact Lists.lookup_set_of_eqns assign (fun _ _ => rfl) (fun _ _ _ _ _ => rfl) n v m env

theorem lookup_assign_same (n : String) (v : Val) (env : Env) : lookup n (assign n v env) = some v := by
  rw [lookup_assign, if_pos rfl]

theorem lookup_assign_ne (n m : String) (v : Val) (env : Env) (h : n ≠ m) :
    lookup m (assign n v env) = lookup m env := by
  rw [lookup_assign, if_neg h]

theorem lookup_append_left (n : String) (a b : Env) (v : Val) (h : lookup n a = some v) :
    lookup n (a ++ b) = some v := by
  rw [lookup_eq] at h ⊢
  rw [List.lookup_append, h]
  rfl

theorem lookup_append_right (n : String) (a b : Env) (h : lookup n a = none) :
    lookup n (a ++ b) = lookup n b := by
  rw [lookup_eq] at h ⊢
  rw [List.lookup_append, h, lookup_eq]
  rfl

theorem lookup_params (args : List (String × PV)) (params : List String) (p : String) :
    lookup p (params.map fun q => (q, Val.arg (argValue args q))) = if p ∈ params then some (.arg (argValue args p)) else none := by
  induction params with
  | nil => rfl
  | cons q params ih =>
    by_cases hq : q = p
    · subst hq; simp [lookup]
    · simp [lookup, hq, Ne.symm hq, ih]

theorem lookup_initEnv_param (params : List String) (args : List (String × PV)) (p : String)
    (h : p ∈ params) (hs : p ≠ "self") :
    lookup p (initEnv params args) = some (.arg (argValue args p)) := by
  simp only [initEnv, ClientMethod.selfName, List.cons_append, lookup, Ne.symm hs, if_false]
  exact lookup_append_left _ _ _ _ (by rw [lookup_params, if_pos h])

theorem lookup_initEnv_kwargs (params : List String) (args : List (String × PV)) (h : "kwargs" ∉ params) :
    lookup "kwargs" (initEnv params args) = some .kwargs := by
  have hne : ¬ ("self" = "kwargs") := by decide
  simp only [initEnv, ClientMethod.selfName, List.cons_append, lookup, hne, if_false]
  rw [lookup_append_right _ _ _ (by rw [lookup_params, if_neg h])]
  simp [lookup]

theorem rename_cases (argNames : List String) (v : String) :
    ClientMethod.rename argNames v = v ∨ ClientMethod.rename argNames v = "_" ++ v := by
  unfold ClientMethod.rename
  split
  · exact Or.inr rfl
  · exact Or.inl rfl

theorem locals_distinct (argNames : List String) :
    (ClientMethod.getVariableNames argNames).query ≠ (ClientMethod.getVariableNames argNames).variables ∧
    (ClientMethod.getVariableNames argNames).query ≠ "kwargs" ∧
    (ClientMethod.getVariableNames argNames).variables ≠ "kwargs" := by
  simp only [ClientMethod.getVariableNames]
  rcases rename_cases argNames "query" with h | h <;> rcases rename_cases argNames "variables" with h' | h' <;>
    rw [h, h'] <;> decide

theorem evalDict_params (opText : String) (env : Env) (f : String → PV) (dict : List (String × String))
    (h : ∀ kv ∈ dict, lookup kv.2 env = some (.arg (f kv.2))) :
    evalDict opText env dict = .ok (dict.map fun kv => (kv.1, f kv.2)) := by
  induction dict with
  | nil => rfl
  | cons kv dict ih =>
    obtain ⟨org, py⟩ := kv
    have h1 := h (org, py) (by simp)
    have h2 := ih (fun kv hkv => h kv (by simp [hkv]))
    simp only [evalDict, h1, h2, List.map_cons]

/-- What the emitted body hands to `execute_ws`, for every parameter list: the operation document,
    the dict of the caller's values under the GraphQL names, and the caller's `**kwargs` -
    whatever the parameters are called (the shadowing renames included), provided the renamed
    locals are not themselves parameters. -/
theorem emitted_call (params : List String) (dict : List (String × String)) (opName opText : String)
    (args : List (String × PV)) (hself : "self" ∉ params) (hkw : "kwargs" ∉ params)
    (hdict : ∀ kv ∈ dict, kv.2 ∈ params)
    (hq : (emit params dict opName).queryTarget ∉ params) :
    call (emit params dict opName) opText (initEnv params args) =
      .ok (.doc, .vars (dict.map fun kv => (kv.1, argValue args kv.2)), .kwargs) := by
  obtain ⟨d1, d2, d3⟩ := locals_distinct (ClientMethod.selfName :: params)
  simp only [emit] at hq
  simp only [call, emit]
  have hd : evalDict opText
      (assign (ClientMethod.getVariableNames (ClientMethod.selfName :: params)).query .doc (initEnv params args)) dict
      = .ok (dict.map fun kv => (kv.1, argValue args kv.2)) := by
    apply evalDict_params
    intro kv hkv
    have hp := hdict kv hkv
    have hne : (ClientMethod.getVariableNames (ClientMethod.selfName :: params)).query ≠ kv.2 := by
      intro e; exact hq (e ▸ hp)
    rw [lookup_assign_ne _ _ _ _ hne]
    exact lookup_initEnv_param params args kv.2 hp (fun e => hself (e ▸ hp))
  rw [hd]
  simp only
  rw [lookup_assign_ne _ _ _ _ (Ne.symm d1), lookup_assign_same, lookup_assign_same,
    lookup_assign_ne _ _ _ _ d3, lookup_assign_ne _ _ _ _ d2, lookup_initEnv_kwargs params args hkw]

end Ariadne.SubMethodProofs
