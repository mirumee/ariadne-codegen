/-
  Proofs/C04Steps.lean — the two loops of a run of `main.client`, each with the lemmas every later proof goes through:
  `add_operation` / `add_method` / `_generate_input_types` taken apart once, and induction over `for query in queries`
  (`addOperations_ind`); for `PackageGenerator.generate` what a property of every module a step can write is (`Writes`; its one
  use is `allOK`, Proofs/C04Scope.lean `writes_allOK` — the per-module theorems go through `Facts.cases`) and the
  file-system invariant (one module per file name on disk; the files on disk are exactly the names of the write log),
  kept by every write.
-/
import AriadneModel.Model.Package


namespace Ariadne.C04Proofs
open Ariadne.Util Ariadne.Package
open Ariadne.ResultTypes (pascal)

theorem mem_putModule {ms : List ModuleIR} {m x : ModuleIR} (h : x ∈ putModule ms m) : x = m ∨ x ∈ ms := by
  unfold putModule at h
  split at h
  · obtain ⟨y, hy, rfl⟩ := List.mem_map.mp h
    by_cases hf : y.file == m.file
    · simp [hf]
    · simp [hf, hy]
  · rcases List.mem_append.mp h with h | h
    · exact Or.inr h
    · exact Or.inl (by simpa using h)

theorem self_mem_putModule (ms : List ModuleIR) (m : ModuleIR) : m ∈ putModule ms m := by
  unfold putModule
  split
  · rename_i hany
    obtain ⟨y, hy, hf⟩ := List.any_eq_true.mp hany
    exact List.mem_map.mpr ⟨y, hy, by simp [hf]⟩
  · simp

theorem putModule_files_of_mem (ms : List ModuleIR) (m : ModuleIR) (h : m.file ∈ ms.map (·.file)) :
    (putModule ms m).map (·.file) = ms.map (·.file) := by
  have hany : ms.any (·.file == m.file) = true := by
    obtain ⟨y, hy, hf⟩ := List.mem_map.mp h
    exact List.any_eq_true.mpr ⟨y, hy, by simp [hf]⟩
  unfold putModule
  simp only [hany, if_true, List.map_map]
  apply List.map_congr_left
  intro y _
  by_cases hf : y.file = m.file
  · simp [hf]
  · simp [hf]

theorem putModule_of_not_mem (ms : List ModuleIR) (m : ModuleIR) (h : m.file ∉ ms.map (·.file)) : putModule ms m = ms ++ [m] := by
  have hany : ms.any (·.file == m.file) = false := by
    cases hc : ms.any (·.file == m.file) with
    | false => rfl
    | true =>
      obtain ⟨y, hy, hf⟩ := List.any_eq_true.mp hc
      have : y.file = m.file := by simpa using hf
      exact absurd (List.mem_map.mpr ⟨y, hy, this⟩) h
  unfold putModule
  simp [hany]

theorem putModule_files_of_not_mem (ms : List ModuleIR) (m : ModuleIR) (h : m.file ∉ ms.map (·.file)) :
    (putModule ms m).map (·.file) = ms.map (·.file) ++ [m.file] := by
  rw [putModule_of_not_mem ms m h, List.map_append, List.map_singleton]

theorem mem_dictSet {d : List (String × ModuleIR)} {k : String} {v : ModuleIR} {x : String × ModuleIR}
    (h : x ∈ dictSet d k v) : x = (k, v) ∨ x ∈ d := by
  induction d with
  | nil => simp [dictSet] at h; exact Or.inl h
  | cons a d ih =>
    obtain ⟨k', v'⟩ := a
    simp only [dictSet] at h
    split at h
    · rcases List.mem_cons.mp h with h | h
      · exact Or.inl h
      · exact Or.inr (List.mem_cons_of_mem _ h)
    · rcases List.mem_cons.mp h with h | h
      · exact Or.inr (by simp [h])
      · rcases ih h with h | h
        · exact Or.inl h
        · exact Or.inr (List.mem_cons_of_mem _ h)

theorem mem_keys_dictSet (k : String) (v : ModuleIR) (x : String) : ∀ d : List (String × ModuleIR),
    x ∈ (dictSet d k v).map (·.1) ↔ x = k ∨ x ∈ d.map (·.1)
  | [] => by simp [dictSet]
  | (k', v') :: d => by
    simp only [dictSet]
    split
    · rename_i hk
      have : k' = k := by simpa using hk
      simp [this]
    · simp only [List.map_cons, List.mem_cons, mem_keys_dictSet k v x d]
      exact or_left_comm

theorem dictSet_keys_nodup (d : List (String × ModuleIR)) (k : String) (v : ModuleIR) (h : (d.map (·.1)).Nodup) :
    ((dictSet d k v).map (·.1)).Nodup ∧ ∀ x, x ∈ (dictSet d k v).map (·.1) ↔ x = k ∨ x ∈ d.map (·.1) := by
  refine ⟨?_, fun x => mem_keys_dictSet k v x d⟩
  induction d with
  | nil => simp [dictSet]
  | cons a d ih =>
    obtain ⟨k', v'⟩ := a
    have hn := List.nodup_cons.mp h
    simp only [dictSet]
    split
    · rename_i hk
      have hk' : k' = k := by simpa using hk
      subst hk'
      simpa using h
    · rename_i hk
      refine List.nodup_cons.mpr ⟨fun hm => ?_, ih hn.2⟩
      rcases (mem_keys_dictSet k v k' d).mp hm with e | e
      · exact hk (by simp [e])
      · exact hn.1 e

theorem addOperation_ok {cfg : Config} {inp : Input} {fl : Nat} {st st' : St} {o : OpIn} (h : addOperation cfg inp fl st o = .ok st') :
    ∃ n out m argSt, o.op.name = some n ∧ ResultTypes.generate (rtEnv cfg inp) fl (.op o.op) st.marks = .ok out ∧
      ClientMethod.addMethod (argEnv cfg inp) (opType o.op.kind) (some n) o.vars (methodName n) (pascal n) o.text cfg.async st.argSt = .ok (m, argSt) ∧
      st' = { marks := out.st.marks, unpacked := setUnion st.unpacked out.st.unpacked, usedEnums := st.usedEnums ++ out.st.usedEnums,
              files := dictSet st.files (pyFile (methodName n)) (resultModule cfg (pyFile (methodName n)) out),
              init := initAdd st.init out.st.publicNames (methodName n), entries := st.entries ++ [⟨m, methodName n⟩],
              argSt := argSt, outs := st.outs ++ [⟨n, out⟩] } := by
  unfold addOperation at h
  cases hn : o.op.name with
  | none => rw [hn] at h; simp at h
  | some n =>
    rw [hn] at h
    simp only at h
    cases hg : ResultTypes.generate (rtEnv cfg inp) fl (.op o.op) st.marks with
    | error e1 => rw [hg] at h; simp at h
    | ok out =>
      rw [hg] at h
      simp only at h
      cases hm : ClientMethod.addMethod (argEnv cfg inp) (opType o.op.kind) (some n) o.vars (methodName n) (pascal n) o.text cfg.async st.argSt with
      | error e2 => rw [hm] at h; simp at h
      | ok r =>
        rw [hm] at h
        obtain ⟨m, a⟩ := r
        simp only [Except.ok.injEq] at h
        exact ⟨n, out, m, a, rfl, rfl, by rw [hm], h.symm⟩

theorem addMethod_ok {env : Arguments.Env} {ot : ClientMethod.OpType} {on : Option String} {defs : List Arguments.VarDef}
    {name rt text : String} {async : Bool} {S S' : Arguments.St} {m : ClientMethod.Method}
    (h : ClientMethod.addMethod env ot on defs name rt text async S = .ok (m, S')) :
    ∃ out k, Arguments.generate env defs S = .ok (out, S') ∧
      m = ⟨name, k, out, ClientMethod.getVariableNames (ClientMethod.selfName :: out.params.map (·.py)), text, on.getD "", rt⟩ ∧
      (ot = .subscription → async = true) := by
  unfold ClientMethod.addMethod at h
  cases hg : Arguments.generate env defs S with
  | error e => rw [hg] at h; cases h
  | ok r =>
    obtain ⟨out, s1⟩ := r
    rw [hg] at h
    cases ot <;> cases async <;> simp only [Bool.false_eq_true, if_false, if_true] at h <;> cases h <;>
      exact ⟨out, _, rfl, rfl, by simp⟩

theorem addOperations_ind_from {cfg : Config} {inp : Input} {fl : Nat} (P : St → Prop)
    (hstep : ∀ st o st', o ∈ inp.ops → P st → addOperation cfg inp fl st o = .ok st' → P st')
    (ops : List OpIn) (hsub : ∀ o ∈ ops, o ∈ inp.ops) (st st' : St) (h0 : P st) (h : addOperations cfg inp fl st ops = .ok st') :
    P st' := by
  fun_induction addOperations cfg inp fl st ops with
  | case1 st => cases h; exact h0
  | case2 st o rest e ha => cases h
  | case3 st o rest st1 ha ih =>
    exact ih (fun x hx => hsub x (List.mem_cons_of_mem _ hx)) (hstep st o st1 (hsub o List.mem_cons_self) h0 ha) h

theorem addOperations_ind {cfg : Config} {inp : Input} {fl : Nat} (P : St → Prop) (h0 : P {})
    (hstep : ∀ st o st', o ∈ inp.ops → P st → addOperation cfg inp fl st o = .ok st' → P st')
    {st : St} (h : addOperations cfg inp fl {} inp.ops = .ok st) : P st :=
  addOperations_ind_from P hstep inp.ops (fun _ ho => ho) {} st h0 h

theorem inputsModule_inv {cfg : Config} {defs : List InputGen.TypeDef} {used : List String} {io : InputsOut}
    (h : inputsModule cfg defs used = .ok io) :
    ∃ kept, Prune.filterInputDefs (pruneTable cfg defs) (if cfg.allInputs then none else some used) = some kept ∧
      io = inputsOut cfg (pruneTable cfg defs) (InputField.classes (inputCfg cfg) defs) kept := by
  unfold inputsModule at h
  split at h
  · simp at h
  · cases hf : Prune.filterInputDefs (pruneTable cfg defs) (if cfg.allInputs then none else some used) with
    | none => rw [hf] at h; simp at h
    | some kept =>
      rw [hf] at h
      simp only [Except.ok.injEq] at h
      exact ⟨kept, rfl, h.symm⟩


/-- `Q` holds of every module a step of `generate()` can write -/
structure Writes (Q : ModuleIR → Prop) (fmt : FmtOracle) (e : Order.EnumOracle) (cfg : Config) (inp : Input) (fl : Nat) (st : St) : Prop where
  inputs : ∀ io, inputsModule cfg inp.defs st.argSt.usedInputs = .ok io → Q io.module
  results : ∀ fm ∈ st.files, Q fm.2
  fragments : ∀ fo gens, Q (fragmentsModuleIR cfg fo gens)
  copied : ∀ f, Q (copiedModule cfg f)
  custom : ∀ f, Q (customModule f)
  client : Q (clientModule cfg inp.schema st.entries st.argSt)
  enums : ∀ ue, Q (enumsModule cfg inp.schema ue)
  init : ∀ is, Q (initModule is)

structure FilesInv (g : GenSt) : Prop where
  nodup : (g.modules.map (·.file)).Nodup
  mem : ∀ f, f ∈ g.modules.map (·.file) ↔ f ∈ g.log

/-- writing a module keeps it: an existing file is replaced in place, a new one is appended to both lists -/
theorem FilesInv.write {g : GenSt} (hg : FilesInv g) (m : ModuleIR) : FilesInv (writeRaw m g) := by
  by_cases hm : m.file ∈ g.modules.map (·.file)
  · refine ⟨?_, ?_⟩
    · simp only [writeRaw, putModule_files_of_mem g.modules m hm]; exact hg.nodup
    · intro f
      simp only [writeRaw, putModule_files_of_mem g.modules m hm, List.mem_append, List.mem_singleton]
      constructor
      · exact fun h => Or.inl ((hg.mem f).mp h)
      · rintro (h | h)
        · exact (hg.mem f).mpr h
        · subst h; exact hm
  · refine ⟨?_, ?_⟩
    · simp only [writeRaw, putModule_files_of_not_mem g.modules m hm]
      exact List.nodup_append.mpr ⟨hg.nodup, by simp, by
        intro a ha b hb
        simp only [List.mem_singleton] at hb
        subst hb
        exact fun e => hm (e ▸ ha)⟩
    · intro f
      simp only [writeRaw, putModule_files_of_not_mem g.modules m hm, List.mem_append, List.mem_singleton, hg.mem f]

end Ariadne.C04Proofs
