/-
  The bottom of the result-model proofs (C01, C05).  First the reference semantics of pydantic read through lemmas:
  what `Pyd.validate` does at the annotation constructors `.name`, `.list`, `.optional`, `.literal` (`validate_…_succ`; those
  at `.cls`, `.disc`, `.union` are in Proofs/C01Accepts.lean, `.before` is outside Spec/Pyd and has none), which value a field
  reads (`readField`), what an accepted model says of its fields (`modelWith_ok`).  Then result annotations of *leaf-based*
  field types (scalars, enums and their list / non-null wrappers): what `parse_operation_field_type` emits and which payloads
  pydantic accepts at the base annotation; the wrappers are in Proofs/ResultWrap.lean.
-/
import AriadneModel.Proofs.Util
import AriadneModel.Proofs.ParseType
import AriadneModel.Proofs.ResultLeafDefs


namespace Ariadne.ResultLeaf
open Ariadne Ariadne.Gql Ariadne.ResultTypes Ariadne.Util
open Ariadne.Pyd Ariadne.Exec

theorem validate_zero (penv : Pyd.Env) (a : Ann) (j : J) : validate penv 0 a j = .error .fuel := by
  simp [validate]

theorem validate_name_succ (penv : Pyd.Env) (fuel : Nat) (x : String) (j : J) :
    validate penv (fuel + 1) (.name x) j = validateName penv x j := by
  simp [validate]

theorem validate_list_succ (penv : Pyd.Env) (fuel : Nat) (a : Ann) (j : J) :
    validate penv (fuel + 1) (.list a) j = (match j with
      | .arr xs => (match mapE (validate penv fuel a) xs with
        | .ok vs => .ok (.list vs)
        | .error e => .error e)
      | _ => .error (.wrongType "list")) := by
  cases j <;> rfl

theorem validate_optional_succ (penv : Pyd.Env) (fuel : Nat) (a : Ann) (j : J) :
    validate penv (fuel + 1) (.optional a) j = (match j with
      | .null => .ok .none
      | _ => validate penv fuel a j) := by
  cases j <;> rfl

theorem validate_literal_succ (penv : Pyd.Env) (g : Nat) (vs : List String) (j : J) :
    validate penv (g + 1) (.literal vs) j = (match j with
      | .str s => if vs.contains s then .ok (.str s) else .error .literal
      | _ => .error .literal) := by
  cases j <;> simp [validate]

theorem validate_literal_err (penv : Pyd.Env) (g : Nat) (vs : List String) (j : J) (h : ∀ s ∈ vs, j ≠ .str s) :
    ∃ e, validate penv g (.literal vs) j = .error e := by
  cases g with
  | zero => exact ⟨_, validate_zero ..⟩
  | succ g =>
    rw [validate_literal_succ]
    cases j with
    | str s => exact ⟨.literal, by simp [show s ∉ vs from fun hs => h s hs rfl]⟩
    | _ => exact ⟨.literal, rfl⟩

theorem mapE_eq_mapM {α β ε} (f : α → Except ε β) : ∀ xs : List α, mapE f xs = xs.mapM f
  | [] => rfl
  | x :: xs => by
    rw [List.mapM_cons, mapE, mapE_eq_mapM f xs]
    cases f x with
    | error e => rfl
    | ok y => cases xs.mapM f <;> rfl

theorem mapE_ok_mem {α β ε} (f : α → Except ε β) (xs : List α) (ys : List β) (h : mapE f xs = .ok ys) :
    ∀ x ∈ xs, ∃ y, f x = .ok y := fun _ hx =>
  let ⟨y, _, hy⟩ := Lists.mapM_ok_mem (mapE_eq_mapM f xs ▸ h) hx
  ⟨y, hy⟩

theorem mapE_dump {α ε} (f : α → Except ε PV) (g : PV → α) (xs : List α)
    (h : ∀ x ∈ xs, ∃ v, f x = .ok v ∧ g v = x) : ∃ vs, mapE f xs = .ok vs ∧ vs.map g = xs := by
  induction xs with
  | nil => exact ⟨[], rfl, rfl⟩
  | cons x xs ih =>
    obtain ⟨v, hv, hg⟩ := h x (by simp)
    obtain ⟨vs, hvs, hgs⟩ := ih (fun y hy => h y (by simp [hy]))
    exact ⟨v :: vs, by simp [mapE, hv, hvs], by simp [hg, hgs]⟩

theorem dumpList_eq_map (xs : List PV) : dumpList xs = xs.map dump := by
  induction xs with
  | nil => simp [dumpList]
  | cons x xs ih => simp [dumpList, ih]

/-- the value pydantic reads for a declaration: under the alias, else (`populate_by_name`) under the python name -/
def readField (f : FieldDecl) (kvs : List (String × J)) : Option J :=
  match f.alias with
  | some a => (match J.lookup a kvs with
    | some v => some v
    | none => J.lookup f.py kvs)
  | none => J.lookup f.py kvs

theorem fieldWith_read (penv : Pyd.Env) (cf : Nat) (rec : Ann → J → Except VErr PV) (kvs : List (String × J)) (f : FieldDecl) :
    fieldWith penv cf rec kvs f =
      (match readField f kvs with
       | some v => (match (if f.discriminator then
              (match f.ann with
               | .union as => taggedWith penv cf rec as v
               | a => rec a v)
            else rec f.ann v) with
          | .ok pv => .ok (some (f.py, f.alias, pv))
          | .error e => .error e)
       | none => if f.defaultNone then .ok none else .error (.missing (f.alias.getD f.py))) := by
  unfold fieldWith readField
  cases f.alias with
  | none => rfl
  | some a => cases J.lookup a kvs <;> rfl

theorem fieldWith_none {penv : Pyd.Env} {cf : Nat} {rec : Ann → J → Except VErr PV} {kvs : List (String × J)} {f : FieldDecl}
    (h : readField f kvs = none) :
    fieldWith penv cf rec kvs f = if f.defaultNone then .ok none else .error (.missing (f.alias.getD f.py)) := by
  rw [fieldWith_read, h]

theorem fieldWith_some {penv : Pyd.Env} {cf : Nat} {rec : Ann → J → Except VErr PV} {kvs : List (String × J)} {f : FieldDecl}
    {v : J} (h : readField f kvs = some v) (hdisc : f.discriminator = false) :
    fieldWith penv cf rec kvs f = (match rec f.ann v with
      | .ok pv => .ok (some (f.py, f.alias, pv))
      | .error e => .error e) := by
  rw [fieldWith_read, h]
  simp only [hdisc, Bool.false_eq_true, if_false]

theorem readField_key {d : FieldDecl} {kvs : List (String × J)} {key : String} {x : J} (hk : d.alias.getD d.py = key)
    (hkey : J.lookup key kvs = some x) : readField d kvs = some x := by
  unfold readField
  cases hal : d.alias with
  | none => rw [show d.py = key by simpa [hal] using hk, hkey]
  | some al => simp only [show al = key by simpa [hal] using hk, hkey]

theorem readField_none {f : FieldDecl} {kvs : List (String × J)} (hpy : J.lookup f.py kvs = none)
    (halias : ∀ a, f.alias = some a → J.lookup a kvs = none) : readField f kvs = none := by
  unfold readField
  cases ha : f.alias with
  | none => exact hpy
  | some a => simp [halias a ha, hpy]

/-- `halias`: the alias as `parseTypeDefinition` writes it -/
theorem readField_of_alias {d : FieldDecl} {key : String} (halias : d.alias = if d.py != key then some key else none)
    (kvs : List (String × J)) :
    readField d kvs = (match J.lookup key kvs with | some v => some v | none => J.lookup d.py kvs) := by
  unfold readField
  by_cases hk : d.py = key
  · rw [show d.alias = none by rw [halias]; simp [hk], ← hk]
    cases J.lookup d.py kvs <;> rfl
  · rw [show d.alias = some key by rw [halias]; simp [hk]]

theorem modelWith_ok {penv : Pyd.Env} {cf : Nat} {rec : Ann → J → Except VErr PV} {cn : String} {j : J} {v : PV}
    (h : modelWith penv cf rec cn j = .ok v) :
    ∃ kvs, j = .obj kvs ∧ ∀ f ∈ allFields penv cf cn, ∃ r, fieldWith penv cf rec kvs f = .ok r := by
  unfold modelWith at h
  cases hc : penv.class? cn with
  | none => simp [hc] at h
  | some c =>
    simp only [hc] at h
    cases j with
    | obj kvs =>
      simp only [] at h
      cases hm : mapE (fieldWith penv cf rec kvs) (allFields penv cf cn) with
      | error e => simp [hm] at h
      | ok fs => exact ⟨kvs, rfl, mapE_ok_mem _ _ fs hm⟩
    | _ => cases h

theorem leafAnn_eq_wrapT (genv : ResultTypes.Env) : ∀ (T : TypeRef) (nl : Bool), leafAnn genv nl T = wrapT nl T (leafBase genv T.base)
  | .named _, _ => rfl
  | .list t, nl => by simp only [leafAnn, wrapT, TypeRef.base, leafAnn_eq_wrapT genv t true]
  | .nonNull t, _ => by simp only [leafAnn, wrapT, TypeRef.base, leafAnn_eq_wrapT genv t false]

theorem namedT_leaf (genv : ResultTypes.Env) (fuel : Nat) (sel : List Selection) (n cn : String) (add : Bool) (ctx : Ctx)
    (hl : LeafName genv n) : ∃ ctx', namedT genv fuel sel n cn add ctx = .ok (leafBase genv n, ctx') := by
  obtain ⟨hk, hs⟩ := hl
  unfold namedT parseType leafBase
  rcases hk with hk | hk | hk
  · simp only [hk, hs]
    cases lookupStr n Tables.simpleTypeMap <;> exact ⟨_, rfl⟩
  · simp only [hk, hs]
    cases lookupStr n Tables.simpleTypeMap <;> exact ⟨_, rfl⟩
  · simp only [hk]
    exact ⟨_, rfl⟩

theorem parseType_leaf (genv : ResultTypes.Env) (fuel : Nat) (sel : List Selection) (T : TypeRef)
    (hl : LeafName genv T.base) :
    ∀ (nullable : Bool) (cn : String) (add : Bool) (ctx : Ctx),
      ∃ ctx', parseType genv fuel sel T nullable cn add ctx = .ok (leafAnn genv nullable T, ctx') := by
  intro nullable cn add ctx
  obtain ⟨ctx', h⟩ := namedT_leaf genv fuel sel T.base cn (add && topNamed T) ctx hl
  exact ⟨ctx', by rw [parseType_eq, h, leafAnn_eq_wrapT]; rfl⟩

inductive Skel where
  | base
  | opt (s : Skel)
  | list (s : Skel)
  deriving DecidableEq, Repr

def skelAnn : Ann → Skel
  | .optional a => .opt (skelAnn a)
  | .list a => .list (skelAnn a)
  | _ => .base

def optSkelIf (b : Bool) (s : Skel) : Skel := if b then .opt s else s

def skelType : Bool → TypeRef → Skel
  | _, .nonNull t => skelType false t
  | nullable, .list t => optSkelIf nullable (.list (skelType true t))
  | nullable, .named _ => optSkelIf nullable .base

theorem skelAnn_optionalIf (b : Bool) (a : Ann) : skelAnn (optionalIf b a) = optSkelIf b (skelAnn a) := by
  cases b <;> simp [optionalIf, optSkelIf, skelAnn]

theorem skelAnn_wrapT (L : Ann) (hL : skelAnn L = .base) : ∀ (T : TypeRef) (nl : Bool), skelAnn (wrapT nl T L) = skelType nl T
  | .named _, nl => by simp [wrapT, skelType, skelAnn_optionalIf, hL]
  | .list t, nl => by simp [wrapT, skelType, skelAnn_optionalIf, skelAnn, skelAnn_wrapT L hL t true]
  | .nonNull t, nl => by simp [wrapT, skelType, skelAnn_wrapT L hL t false]

theorem namedT_skel {env : ResultTypes.Env} {fuel : Nat} {sel : List Selection} {n cn : String} {add : Bool} {ctx ctx' : Ctx} {L : Ann}
    (h : namedT env fuel sel n cn add ctx = .ok (L, ctx')) : skelAnn L = .base := by
  unfold namedT parseType at h
  simp only [bind, Except.bind, pure, Except.pure] at h
  repeat' split at h
  -- a branch that raises returns nothing; every other one returns a `Union`, a class, a name or a `BeforeValidator` annotation
  all_goals first
    | (simp only [Except.ok.injEq, Prod.mk.injEq] at h; rw [← h.1]; rfl)
    | cases h

theorem parseType_skeleton (genv : ResultTypes.Env) (fuel : Nat) (sel : List Selection) (T : TypeRef) :
    ∀ (nullable : Bool) (cn : String) (add : Bool) (ctx : Ctx) (a : Ann) (ctx' : Ctx),
      parseType genv fuel sel T nullable cn add ctx = .ok (a, ctx') → skelAnn a = skelType nullable T := by
  intro nullable cn add ctx a ctx' h
  obtain ⟨L, hL, rfl⟩ := parseType_ok h
  exact skelAnn_wrapT L (namedT_skel hL) T nullable

/-- fuel that suffices for the annotation of `T` -/
def need : TypeRef → Nat
  | .named _ => 2
  | .list t => need t + 2
  | .nonNull t => need t

/-- The pydantic environment knows the schema's enums (generated enum classes: value = name), and no
    enum is called like a builtin annotation name. -/
structure EnvAgrees (genv : ResultTypes.Env) (penv : Pyd.Env) : Prop where
  enums : ∀ n t, genv.schema.get? n = some t → t.kind = .enum → penv.enum? n = some t.values
  notBuiltin : ∀ n, genv.schema.kindOf? n = some .enum →
    n ≠ "str" ∧ n ≠ "int" ∧ n ≠ "float" ∧ n ≠ "bool" ∧ n ≠ "Any"
  /-- the five built-in scalar names denote scalars -/
  builtins : ∀ n, (n = "Int" ∨ n = "Float" ∨ n = "String" ∨ n = "ID" ∨ n = "Boolean") →
    genv.schema.kindOf? n = none ∨ genv.schema.kindOf? n = some .scalar
  /-- a name that is not a schema enum is not a pydantic-side enum either -/
  noExtraEnums : ∀ n, genv.schema.kindOf? n ≠ some .enum → (n = "Any" ∨ penv.enum? n = none)

theorem integral_zero (m : Int) : integral? m 0 = some m := by
  simp [integral?]

theorem not_chain (a b c d : Bool) :
    (if a = true then false else if b = true then false else if c = true then false else if d = true then false else true)
      = !(a || b || c || d) := by
  cases a <;> cases b <;> cases c <;> cases d <;> rfl

theorem leafOkLax_composite (S : Schema) (lax : Lax) (n : String) (j : J) (hj : j.isArr = true ∨ j.isObj = true) :
    leafOkLax S lax n j = isAnyLeaf S n := by
  have hj' : (∃ xs, j = .arr xs) ∨ ∃ kvs, j = .obj kvs := by
    cases j <;> simp [J.isArr, J.isObj] at hj
    · exact Or.inl ⟨_, rfl⟩
    · exact Or.inr ⟨_, rfl⟩
  have hrest : isAnyLeaf S n = (S.kindOf? n != some .enum && !(n == "Int" || n == "Float" || (n == "String" || n == "ID") || n == "Boolean")) := by
    simp only [isAnyLeaf, Bool.or_assoc]
  rw [hrest, ← not_chain]
  unfold leafOkLax
  by_cases hk : S.kindOf? n = some .enum
  · rw [hk]
    rcases hj' with ⟨xs, rfl⟩ | ⟨kvs, rfl⟩ <;> cases S.get? n <;> rfl
  · have hne : (S.kindOf? n != some .enum) = true := by simpa using hk
    rw [hne, Bool.true_and]
    rcases hj' with ⟨xs, rfl⟩ | ⟨kvs, rfl⟩ <;> split <;> first | exact absurd ‹_› hk | rfl

theorem ite_mono {c p q p' q' : Bool} (h1 : p = true → p' = true) (h2 : q = true → q' = true) :
    (if c = true then p else q) = true → (if c = true then p' else q') = true := by
  cases c
  · exact h2
  · exact h1

/-- `last`, `last'` = what happens to any name other than the built-in scalars -/
theorem builtin_imp_lax (lax : Lax) (n : String) (j : J) (last last' : Bool) (hl : last = true → last' = true) :
    (if n == "Int" then (match j with | .num _ 0 => true | _ => false)
      else if n == "Float" then (match j with | .num _ _ => true | _ => false)
      else if n == "String" || n == "ID" then (match j with | .str _ => true | _ => false)
      else if n == "Boolean" then (match j with | .bool _ => true | _ => false)
      else last) = true →
    (if n == "Int" then (match j with
        | .num m e => (integral? m e).isSome
        | .bool _ => true
        | .str s => (lax.strInt s).isSome
        | _ => false)
      else if n == "Float" then (match j with
        | .num _ _ => true
        | .bool _ => true
        | .str s => (lax.strFloat s).isSome
        | _ => false)
      else if n == "String" || n == "ID" then (match j with | .str _ => true | _ => false)
      else if n == "Boolean" then (match j with
        | .bool _ => true
        | .num m e => (integral? m e == some 0 || integral? m e == some 1)
        | .str s => (lax.strBool s).isSome
        | _ => false)
      else last') = true := by
  refine ite_mono ?_ (ite_mono ?_ (ite_mono id (ite_mono ?_ hl)))
  · intro h
    cases j with
    | num m e => cases e with
      | zero => simp [integral_zero]
      | succ k => cases h
    | _ => cases h
  · intro h
    cases j <;> first | rfl | cases h
  · intro h
    cases j <;> first | rfl | cases h

theorem leafOk_imp_lax (S : Schema) (lax : Lax) (n : String) (j : J) (h : Exec.leafOk S n j = true) :
    leafOkLax S lax n j = true := by
  unfold Exec.leafOk at h
  unfold leafOkLax Schema.kindOf?
  cases hg : S.get? n with
  | none =>
    rw [hg] at h
    exact builtin_imp_lax lax n j false true (fun _ => rfl) h
  | some t =>
    simp only [hg] at h
    simp only [Option.map_some]
    cases hk : t.kind with
    | enum => simp only [hk] at h; exact h
    | scalar => simp only [hk] at h; exact builtin_imp_lax lax n j _ true (fun _ => rfl) h
    | object => simp only [hk] at h; cases h
    | interface => simp only [hk] at h; cases h
    | union => simp only [hk] at h; cases h
    | input => simp only [hk] at h; cases h

theorem lookup_simple (n py : String) (h : lookupStr n Tables.simpleTypeMap = some py) :
    (n = "String" ∧ py = "str") ∨ (n = "ID" ∧ py = "str") ∨ (n = "Int" ∧ py = "int")
    ∨ (n = "Boolean" ∧ py = "bool") ∨ (n = "Float" ∧ py = "float") := by
  have := lookupStr_mem h
  simpa [Tables.simpleTypeMap] using this

theorem lookup_simple_none (n : String) (h : lookupStr n Tables.simpleTypeMap = none) :
    n ≠ "String" ∧ n ≠ "ID" ∧ n ≠ "Int" ∧ n ≠ "Boolean" ∧ n ≠ "Float" := by
  have := lookupStr_none h
  simp only [Tables.simpleTypeMap, List.mem_cons, List.not_mem_nil, or_false] at this
  exact ⟨fun e => this _ (Or.inl rfl) e.symm, fun e => this _ (Or.inr (Or.inl rfl)) e.symm,
    fun e => this _ (Or.inr (Or.inr (Or.inl rfl))) e.symm, fun e => this _ (Or.inr (Or.inr (Or.inr (Or.inl rfl)))) e.symm,
    fun e => this _ (Or.inr (Or.inr (Or.inr (Or.inr rfl)))) e.symm⟩

theorem validateName_str (penv : Pyd.Env) (j : J) : validateName penv "str" j = validateStr j := by
  simp [validateName]

theorem validateName_int (penv : Pyd.Env) (j : J) : validateName penv "int" j = validateInt penv.lax j := by
  simp [validateName]

theorem validateName_float (penv : Pyd.Env) (j : J) : validateName penv "float" j = validateFloat penv.lax j := by
  simp [validateName]

theorem validateName_bool (penv : Pyd.Env) (j : J) : validateName penv "bool" j = validateBool penv.lax j := by
  simp [validateName]

theorem validateName_any (penv : Pyd.Env) (j : J) : validateName penv "Any" j = .ok (.any j) := by
  simp [validateName]

theorem validateName_enum (penv : Pyd.Env) (n : String) (vals : List String) (j : J)
    (hb : n ≠ "str" ∧ n ≠ "int" ∧ n ≠ "float" ∧ n ≠ "bool" ∧ n ≠ "Any") (he : penv.enum? n = some vals) :
    validateName penv n j = (match j with
      | .str s => if vals.contains s then .ok (.enum n s) else .error (.wrongType n)
      | _ => .error (.wrongType n)) := by
  obtain ⟨h1, h2, h3, h4, h5⟩ := hb
  simp [validateName, h1, h2, h3, h4, h5, he]
  cases j <;> rfl

def leafBaseName (genv : ResultTypes.Env) (n : String) : String :=
  match genv.schema.kindOf? n with
  | some .enum => n
  | _ =>
    match lookupStr n Tables.simpleTypeMap with
    | some py => py
    | none => "Any"

theorem leafBase_eq (genv : ResultTypes.Env) (n : String) : leafBase genv n = .name (leafBaseName genv n) := by
  unfold leafBase leafBaseName
  cases genv.schema.kindOf? n with
  | none => cases lookupStr n Tables.simpleTypeMap <;> rfl
  | some k => cases k <;> cases lookupStr n Tables.simpleTypeMap <;> rfl

theorem kindOf_get (S : Schema) (n : String) (k : Kind) (h : S.kindOf? n = some k) :
    ∃ t, S.get? n = some t ∧ t.kind = k := by
  unfold Schema.kindOf? at h
  cases hg : S.get? n with
  | none => simp [hg] at h
  | some t => simp [hg] at h; exact ⟨t, rfl, h⟩

theorem validate_leafBase (genv : ResultTypes.Env) (penv : Pyd.Env) (ha : EnvAgrees genv penv) (n : String)
    (hl : LeafName genv n) (j : J) :
    (validateName penv (leafBaseName genv n) j).toBool =
      (match j with
       | .null => isAnyLeaf genv.schema n
       | _ => leafOkLax genv.schema penv.lax n j) := by
  unfold leafBaseName
  rcases hl.1 with hk | hk | hk
  rotate_left 2
  · obtain ⟨t, hg, hkind⟩ := kindOf_get _ _ _ hk
    simp only [hk]
    rw [validateName_enum penv n t.values j (ha.notBuiltin n hk) (ha.enums n t hg hkind)]
    cases j <;> simp [Except.toBool, isAnyLeaf, leafOkLax, hk, hg]
    rename_i s
    by_cases hs : s ∈ t.values <;> simp [hs]
  -- not an enum, whether the schema lists `n` as a scalar or does not know it: the five built-in names, else `Any`
  all_goals
    simp only [hk]
    cases hlk : lookupStr n Tables.simpleTypeMap with
    | none =>
      obtain ⟨h1, h2, h3, h4, h5⟩ := lookup_simple_none n hlk
      simp only [validateName_any, Except.toBool]
      cases j <;> simp [isAnyLeaf, leafOkLax, hk, h1, h2, h3, h4, h5]
    | some py =>
      rcases lookup_simple n py hlk with ⟨rfl, rfl⟩ | ⟨rfl, rfl⟩ | ⟨rfl, rfl⟩ | ⟨rfl, rfl⟩ | ⟨rfl, rfl⟩
      · simp only [validateName_str]; cases j <;> simp [validateStr, Except.toBool, isAnyLeaf, leafOkLax, hk]
      · simp only [validateName_str]; cases j <;> simp [validateStr, Except.toBool, isAnyLeaf, leafOkLax, hk]
      · simp only [validateName_int]
        cases j <;> simp [validateInt, Except.toBool, isAnyLeaf, leafOkLax, hk]
        · rename_i m e; cases integral? m e <;> simp
        · rename_i s; cases penv.lax.strInt s <;> simp
      · simp only [validateName_bool]
        cases j <;> simp [validateBool, Except.toBool, isAnyLeaf, leafOkLax, hk]
        · rename_i m e
          cases hi : integral? m e with
          | none => simp
          | some i =>
            by_cases h0 : i = 0
            · subst h0; simp
            · by_cases h1 : i = 1
              · subst h1; simp
              · simp [h0, h1]
        · rename_i s; cases penv.lax.strBool s <;> simp
      · simp only [validateName_float]
        cases j <;> simp [validateFloat, Except.toBool, isAnyLeaf, leafOkLax, hk]
        rename_i s; cases h : penv.lax.strFloat s <;> simp

/-- `last` = what the executor does with any name other than the built-in scalars -/
theorem builtin_dump (penv : Pyd.Env) (n : String) (j : J) (last : Bool)
    (hok : (if n == "Int" then (match j with | .num _ 0 => true | _ => false)
      else if n == "Float" then (match j with | .num _ _ => true | _ => false)
      else if n == "String" || n == "ID" then (match j with | .str _ => true | _ => false)
      else if n == "Boolean" then (match j with | .bool _ => true | _ => false)
      else last) = true) :
    ∃ v, validateName penv (match lookupStr n Tables.simpleTypeMap with | some py => py | none => "Any") j = .ok v ∧ dump v = j := by
  cases hlk : lookupStr n Tables.simpleTypeMap with
  | none => exact ⟨.any j, by simp [validateName_any], by simp [dump]⟩
  | some py =>
    rcases lookup_simple n py hlk with ⟨rfl, rfl⟩ | ⟨rfl, rfl⟩ | ⟨rfl, rfl⟩ | ⟨rfl, rfl⟩ | ⟨rfl, rfl⟩
    · cases j <;> simp at hok
      rename_i s; exact ⟨.str s, by simp [validateName_str, validateStr], by simp [dump]⟩
    · cases j <;> simp at hok
      rename_i s; exact ⟨.str s, by simp [validateName_str, validateStr], by simp [dump]⟩
    · cases j <;> simp at hok
      rename_i m e
      cases e with
      | zero => exact ⟨.int m, by simp [validateName_int, validateInt, integral_zero], by simp [dump]⟩
      | succ e => simp at hok
    · cases j <;> simp at hok
      rename_i b; exact ⟨.bool b, by simp [validateName_bool, validateBool], by simp [dump]⟩
    · cases j <;> simp at hok
      rename_i m e; exact ⟨.float m e, by simp [validateName_float, validateFloat], by simp [dump]⟩

theorem validateName_dump (genv : ResultTypes.Env) (penv : Pyd.Env) (ha : EnvAgrees genv penv) (n : String)
    (hl : LeafName genv n) (j : J) (hok : leafOk genv.schema n j = true) :
    ∃ v, validateName penv (leafBaseName genv n) j = .ok v ∧ dump v = j := by
  unfold leafBaseName
  unfold leafOk at hok
  rcases hl.1 with hk | hk | hk
  · have hg : genv.schema.get? n = none := by
      unfold Schema.kindOf? at hk
      cases h : genv.schema.get? n <;> simp [h] at hk ⊢
    simp only [hg] at hok
    simp only [hk]
    exact builtin_dump penv n j false hok
  · obtain ⟨t, hg, hkind⟩ := kindOf_get _ _ _ hk
    simp only [hg, hkind] at hok
    simp only [hk]
    exact builtin_dump penv n j _ hok
  · obtain ⟨t, hg, hkind⟩ := kindOf_get _ _ _ hk
    simp only [hg, hkind] at hok
    simp only [hk]
    rw [validateName_enum penv n t.values j (ha.notBuiltin n hk) (ha.enums n t hg hkind)]
    cases j <;> simp at hok
    rename_i s
    exact ⟨.enum n s, by simp [hok], by simp [dump]⟩

end Ariadne.ResultLeaf
