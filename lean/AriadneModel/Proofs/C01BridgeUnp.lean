/-
  Property C01: the unpacked-fragments tier (Proofs/C01Unp.lean) carried to the pipeline statement
  `claimB`:   ValidInput inp → UnpInput inp → nodupKeys j → claimB inp k j = true.

  `UnpInput inp` (decidable, Proofs/C01RegionsUnp.lean).  In this region no operation inserts an automatic `__typename` (the marks
  stay empty: the document is sent as written, spreads and fragment definitions included), every fragment definition is
  unpacked by some operation, hence `package.py` leaves its classes out of the fragments module: the pydantic environment of an
  operation consists of the operation's own classes.
-/
import AriadneModel.Proofs.C01Unp
import AriadneModel.Proofs.C01RegionsUnp
import AriadneModel.Proofs.C01BridgeMix


namespace Ariadne.C01
open Ariadne Ariadne.Gql Ariadne.ResultTypes Ariadne.Util Ariadne.Triggers01 Ariadne.C01Plain Ariadne.C01Unp

theorem generate_unp (env : ResultTypes.Env) (K : Nat) (o : Operation) (n tn : String)
    (hn : o.name = some n) (hroot : Validate.rootOf env.schema o = some tn)
    (hmix : (o.dirs.any (·.name == Tables.mixinName)) = false)
    (hok : UnpOK env K (pascal n) tn o.sid o.sel {} = true) (fuel : Nat) (hf : 2 * K + 2 ≤ fuel) :
    ∃ out, generate env fuel (.op o) [] = .ok out ∧ out.st.marks = [] ∧
      out.classes = plainClasses env (pascal n) tn (inl env K o.sel) ∧ (∀ g ∈ reach env K o.sel, g ∈ out.st.unpacked) := by
  obtain ⟨st', hgen, _, hmk, _, hre⟩ := unp_generation env K (pascal n) tn o.sid o.sel {} hok [] fuel hf
  exact ⟨_, generate_of_parse env fuel o n tn [] hn hroot hmix hgen, hmk, rfl, hre⟩

theorem unpOpOK_spec {env : ResultTypes.Env} {o : Operation} (h : unpOpOK env o = true) :
    ∃ n tn, o.name = some n ∧ Validate.rootOf env.schema o = some tn ∧
      (o.dirs.any (·.name == Tables.mixinName)) = false ∧
      UnpOK env (unpK env) (pascal n) tn o.sid o.sel {} = true ∧
      "BaseModel" ∉ (plainClasses env (pascal n) tn (inl env (unpK env) o.sel)).map (·.name) ∧
      vneed env tn (inl env (unpK env) o.sel) + 1 ≤ execFuel := by
  unfold unpOpOK at h
  cases hn : o.name with
  | none => simp [hn] at h
  | some n =>
    cases hr : Validate.rootOf env.schema o with
    | none => simp [hn, hr] at h
    | some tn =>
      simp only [hn, hr, Bool.and_eq_true, Bool.not_eq_true', decide_eq_true_eq] at h
      obtain ⟨⟨⟨h1, h2⟩, h3⟩, h4⟩ := h
      exact ⟨n, tn, rfl, rfl, h1, h2, NoShadowedImport_baseModel h3, h4⟩

theorem fragFold_unpacked (unpacked : List String) : ∀ (entries : List (String × Except GenErr ModuleOut)) (acc : List ClassDecl),
    (∀ p ∈ entries, unpacked.contains p.1 = true) → entries.foldl (fragStep unpacked) acc = acc
  | [], _, _ => rfl
  | p :: rest, acc, h => by
    have hp := h p List.mem_cons_self
    obtain ⟨n, x⟩ := p
    have hstep : fragStep unpacked acc (n, x) = acc := by
      unfold fragStep
      cases x with
      | error e => rfl
      | ok o => simp only at hp ⊢; simp only [hp, if_true]
    rw [List.foldl_cons, hstep]
    exact fragFold_unpacked unpacked rest acc (fun q hq => h q (List.mem_cons_of_mem _ hq))

/-- **the fragments module when every fragment definition is unpacked by some operation**: `package.py` leaves the classes
    of an unpacked fragment out, so the environment of an operation consists of the operation's own classes (whether the
    fragment definitions generate or not) -/
theorem pydEnvOf_unpacked (inp : Input)
    (hunp : ∀ f ∈ inp.env.frags, ∃ out, Except.ok out ∈ (run inp).ops ∧ f.name ∈ out.st.unpacked) (out : ModuleOut) :
    (pydEnvOf inp (run inp) out).classes = out.classes := by
  rw [pydEnvOf_classes, fragFold_unpacked _ _ _ (fun p hp' => ?_), List.append_nil]
  have hpn : p.1 ∈ inp.env.frags.map (·.name) := by
    have : p ∈ (sortStr (inp.env.frags.map (·.name))).filterMap fun n =>
        (findFragment? inp.env.frags n).map fun f => (n, generate inp.env Triggers01.fuel (.frag f) (marksAfter (run inp).ops)) := hp'
    obtain ⟨n, hn, he⟩ := List.mem_filterMap.mp this
    cases hf : findFragment? inp.env.frags n with
    | none => simp [hf] at he
    | some f =>
      simp only [hf, Option.map_some, Option.some.injEq] at he
      rw [← he]
      exact mem_sortStr.mp hn
  obtain ⟨f, hf, hfn⟩ := List.mem_map.mp hpn
  obtain ⟨out', ho', hu⟩ := hunp f hf
  rw [List.contains_iff_mem]
  exact (Lists.mem_foldl_of_step (fun acc (o : ModuleOut) => setUnion acc o.st.unpacked) (·.st.unpacked) (fun _ _ _ => mem_setUnion) _ _ _).mpr
    (Or.inr ⟨out', List.mem_filterMap.mpr ⟨_, ho', rfl⟩, hfn ▸ hu⟩)

theorem claimB_unp (inp : Input) (k : Nat) (j : J) (hp : UnpInput inp) (hj : nodupKeys j = true) :
    claimB inp k j = true := by
  simp only [UnpInput, Bool.and_eq_true, List.all_eq_true] at hp
  obtain ⟨⟨hschema, hops⟩, hfrs⟩ := hp
  have hKf : 2 * unpK inp.env + 2 ≤ Triggers01.fuel := by simp [unpK, Triggers01.fuel]
  have hKe : unpK inp.env ≤ execFuel := by simp [unpK, execFuel]
  refine claimB_marksFree inp k j hj (unpOpOK inp.env · = true)
    (fun o out => (∀ g ∈ reach inp.env (unpK inp.env) o.sel, g ∈ out.st.unpacked) ∧
      ∀ n tn, o.name = some n → Validate.rootOf inp.env.schema o = some tn →
        out.classes = plainClasses inp.env (pascal n) tn (inl inp.env (unpK inp.env) o.sel))
    (fun o ho => ?gen) hops (fun R _ o out hk hpost => ?acc)
  case gen =>
    obtain ⟨n, tn, hn, hr, hmix, hok, _, _⟩ := unpOpOK_spec ho
    obtain ⟨out, h1, h2, h3, h4⟩ := generate_unp inp.env _ o n tn hn hr hmix hok _ hKf
    exact ⟨out, h1, h2, h4, fun n' tn' hn' hr' => by cases hn.symm.trans hn'; cases hr.symm.trans hr'; exact h3⟩
  case acc =>
    obtain ⟨n, tn, hn, hr, _, hok, hbm, hvf⟩ := unpOpOK_spec (hops o (List.mem_of_getElem? hk))
    have hcls := hpost.2 n tn hn hr
    refine ⟨_, tn, by rw [hcls]; rfl, hr, fun j hresp hj m hm => ?_⟩
    have hpenvcls : (pydEnvOf inp (run inp) out).classes = plainClasses inp.env (pascal n) tn (inl inp.env (unpK inp.env) o.sel) := by
      rw [pydEnvOf_unpacked inp (fun f hf => ?_) out, hcls]
      have := hfrs f hf
      simp only [List.contains_eq_mem, List.mem_flatMap, decide_eq_true_eq] at this
      obtain ⟨o', ho', hg⟩ := this
      obtain ⟨out', h1, h2⟩ := R.covered o' ho'
      exact ⟨out', h1, h2.1 _ hg⟩
    have hpenv : PenvOK inp.env (pydEnvOf inp (run inp) out) (plainClasses inp.env (pascal n) tn (inl inp.env (unpK inp.env) o.sel)) :=
      PenvOK.of_nodup _ _ _ (envAgrees_of_schemaOK inp.env _ hschema rfl)
        (class?_none_of_not_mem _ _ (by rw [hpenvcls]; exact hbm)) (fun c hc => by rw [hpenvcls]; exact hc)
        (by rw [hpenvcls]; exact (PlainOK_spec (UnpOK_spec hok).2).2.2.2.1)
    exact unp_roundtrip inp.env _ (pascal n) tn o.sid o.sel {} hok _ hpenv execFuel hKe j hresp hj m (Nat.le_trans hvf hm)

/-! ### a concrete input in the region

    query Q { me { ...NF name bestFriend { ...NM ...NG } } }      query R { again: me { ...NM } }
    fragment NF on Node { id ...NG }      fragment NG on Node { rev }      fragment NM on Named { nick }
-/

def uxInp : Input :=
  { env := C01Unp.uxEnv,
    ops := [{ kind := .query, name := some "Q", sid := 1, sel := C01Unp.uxSel },
            { kind := .query, name := some "R", sid := 20, sel := [.field (some "again") "me" [] 21 [.spread "NM" []]] }] }

def uxResp : J :=
  .obj [("me", .obj [("id", .str "1"), ("rev", .num 3 0), ("name", .str "n"),
                     ("bestFriend", .obj [("nick", .str "b"), ("rev", .null)])])]

/-- non-vacuity: an interface fragment spreading another interface fragment, unpacked at two object positions of two operations;
    no fragment class reaches the pydantic environment; the answer carries the unpacked fields -/
theorem uxInp_nonvacuous : ValidInput uxInp ∧ UnpInput uxInp ∧ Supported_01 uxInp ∧ nodupKeys uxResp = true
    ∧ ((run uxInp).ops.map fun r => match r with
        | .ok out => (out.classes.map (fun c => (c.name, c.bases)), out.st.unpacked)
        | .error _ => ([], [])) =
      [([("Q", ["BaseModel"]), ("QMe", ["BaseModel"]), ("QMeBestFriend", ["BaseModel"])], ["NF", "NG", "NM"]),
       ([("R", ["BaseModel"]), ("RAgain", ["BaseModel"])], ["NM"])]
    ∧ Exec.respOK uxInp.env.schema uxInp.env.frags execFuel "Query" C01Unp.uxSel uxResp = true
    ∧ claimB uxInp 0 uxResp = true := by decide +kernel

end Ariadne.C01
