/-
  Proofs/C04Mixins.lean — where the `(from, import)` pairs a `ResultTypesGenerator` records come from: every pair is
  the pair of a `@mixin` directive written in the document — on the definition itself, or on a field somewhere inside
  its selection set or inside the selection set of a fragment of the document.  So a property that holds of every
  `@mixin` of the document (`PackageValid.mixinsOK`) holds of every recorded pair.
  The argument is an instance of a general one, stated first: a predicate that holds of every field node of a selection
  set and of the fragments of the document (`SelsAll P`) holds of every field `_resolve_selection_set` returns
  (`resolve_all`); through the class-producing recursion the same predicate is carried by `Call.all`, an induction on the
  derivation `Runs` of Proofs/C08Runs.lean (`runs_good`).
-/
import AriadneModel.Proofs.C08Package
import AriadneModel.Model.PackageValid


namespace Ariadne.ResultTypes
open Ariadne.Gql

section
variable (P : RField → Prop)

mutual
  def SelAll : Selection → Prop
    | .field a n d sid sub => P ⟨a, n, d, sid, sub⟩ ∧ SelsAll sub
    | .spread _ _ => True
    | .inline _ _ _ sub => SelsAll sub
  def SelsAll : List Selection → Prop
    | [] => True
    | s :: rest => SelAll s ∧ SelsAll rest
end

theorem selAll_of_mem : ∀ {sels : List Selection} {s : Selection}, SelsAll P sels → s ∈ sels → SelAll P s
  | [], _, _, h => by cases h
  | a :: rest, s, hg, h => by
    simp only [SelsAll] at hg
    rcases List.mem_cons.mp h with rfl | h
    · exact hg.1
    · exact selAll_of_mem hg.2 h

variable {P}
variable {env : Env} (hfr : ∀ n f, findFragment? env.frags n = some f → SelsAll P f.sel)

include hfr in
theorem resolve_all : ∀ (fuel : Nat) (sels : List Selection) (root : String) (st : St) (r : Acc) (st' : St),
    SelsAll P sels → resolve env fuel sels root st = .ok (r, st') → ∀ fld ∈ r.1, P fld ∧ SelsAll P fld.sub
  | 0, sels, root, st, r, st', _, h => by
    rw [resolve_zero] at h
    exact ((ok_err _ _ _).mp h).elim
  | fuel + 1, sels, root, st, r, st', hgood, h => by
    rw [resolve_succ] at h
    obtain ⟨acc, s1, h1, h2⟩ := (ok_bind _ _ _ _ _).mp h
    obtain ⟨u, s2, h3, h4⟩ := (ok_bind _ _ _ _ _).mp h2
    obtain ⟨e1, _⟩ := (ok_pure _ _ _ _).mp h4
    subst e1
    refine forIn_ok_inv (fun (b : Acc) (_ : St) => ∀ fld ∈ b.1, P fld ∧ SelsAll P fld.sub)
      (resolveBody env fuel root) sels ([], []) st acc s1 ?_ (fun f hf => absurd hf List.not_mem_nil) h1
    intro a ha b s r s' hb hr
    have hga := selAll_of_mem P hgood ha
    obtain ⟨b1, rfl, step⟩ := resolveBody_step hr
    -- a nested `resolve` appends its fields
    have nested : ∀ {x : Acc}, (∀ fld ∈ x.1, P fld ∧ SelsAll P fld.sub) → ∀ fld ∈ b.1 ++ x.1, P fld ∧ SelsAll P fld.sub :=
      fun hx fld hfld => (List.mem_append.mp hfld).elim (hb fld) (hx fld)
    cases step with
    | field alias name dirs sid sub =>
      refine nested (x := ([⟨alias, name, dirs, sid, sub⟩], [])) fun fld hfld => ?_
      rw [List.mem_singleton.mp hfld]
      exact hga
    | keep => exact hb
    | unpack hf _ _ hx => exact nested (resolve_all fuel _ root _ _ _ (hfr _ _ hf) hx)
    | dropSpread => exact hb
    | inline _ hx => exact nested (resolve_all fuel _ _ _ _ _ hga hx)
    | dropInline => exact hb

end

/-- `P` of every field node a call can reach: of its selection set, or of the field nodes its loop runs over -/
def Call.all (P : RField → Prop) : Call → Prop
  | .type _ _ _ sel _ _ _ => SelsAll P sel
  | .fields _ _ _ fs _ => ∀ f ∈ fs, P f ∧ SelsAll P f.sub
  | .set _ sel _ _ => SelsAll P sel
  | .related _ sel _ _ _ => SelsAll P sel

/-- the fields the loop of `_parse_type_definition` runs over — the automatic `__typename` and what `_resolve_selection_set`
    returned — are field nodes of the selection set and of the document's fragments -/
theorem all_resolved {P : RField → Prop} {env : Env} (hfr : ∀ n f, findFragment? env.frags n = some f → SelsAll P f.sel)
    (htn : P typenameRField) {fuel : Nat} {sels : List Selection} {root : String} {st : St} {x : Acc} {st1 : St} (hsel : SelsAll P sels)
    (hres : resolve env fuel sels root st = .ok (x, st1)) (a marked : Bool) : ∀ f ∈ withTypename a marked x.1, P f ∧ SelsAll P f.sub := by
  intro f hf
  rcases withTypename_mem hf with rfl | hf
  · exact ⟨htn, trivial⟩
  · exact resolve_all hfr _ _ _ _ _ _ hsel hres f hf

section
variable (G : String × String → Prop)

def DirsGood (dirs : List Directive) : Prop := ∀ p ∈ mixinPairs dirs, G p

mutual
  /-- every `@mixin` pair on a field inside the selection satisfies `G` -/
  def SelGood : Selection → Prop
    | .field _ _ dirs _ sub => DirsGood G dirs ∧ SelsGood sub
    | .spread _ _ => True
    | .inline _ _ _ sub => SelsGood sub
  def SelsGood : List Selection → Prop
    | [] => True
    | s :: rest => SelGood s ∧ SelsGood rest
end

mutual
  theorem selAll_of_good : ∀ s : Selection, SelGood G s → SelAll (fun f => DirsGood G f.dirs) s
    | .field _ _ _ _ sub, h => ⟨h.1, selsAll_of_good sub h.2⟩
    | .spread _ _, _ => trivial
    | .inline _ _ _ sub, h => selsAll_of_good sub h
  theorem selsAll_of_good : ∀ sels : List Selection, SelsGood G sels → SelsAll (fun f => DirsGood G f.dirs) sels
    | [], _ => trivial
    | s :: rest, h => ⟨selAll_of_good s h.1, selsAll_of_good rest h.2⟩
end

def MixOK (st : St) : Prop := ∀ p ∈ st.mixinImports, G p

variable {G}
variable {env : Env} (hfr : ∀ n f, findFragment? env.frags n = some f → SelsGood G f.sel)

theorem mixOK_addImports {st : St} {ps : List (String × String)} (h : MixOK G st) (hp : ∀ p ∈ ps, G p) : MixOK G (addImports st ps) := by
  intro p hpm
  simp only [addImports, List.mem_append] at hpm
  rcases hpm with h' | h'
  · exact h p h'
  · exact hp p h'

include hfr in
theorem runs_good {c : Call} {st : St} {cs : List ClassDecl} {st' : St} (h : Runs env c st cs st') :
    c.all (fun f => DirsGood G f.dirs) → MixOK G st → MixOK G st' := by
  have hfr' : ∀ n f, findFragment? env.frags n = some f → SelsAll (fun f => DirsGood G f.dirs) f.sel :=
    fun n f hf => selsAll_of_good G _ (hfr n f hf)
  induction h with
  | seen => exact fun _ h => h
  | @fresh cn tn sid sel a eb tv st x st1 fds more st' fuel hseen hres _ ih =>
    intro hsel hst
    refine ih (all_resolved hfr' (fun p hp => nomatch hp) hsel hres _ _) fun p hp => ?_
    rw [(afterTypename_keeps ..).2.1, (resolve_spec env _ _ _ _ _ _ hres).frame.mixinImports] at hp
    exact hst p hp
  | fieldsNil => exact fun _ h => h
  | fieldsCons _ _ _ _ ih₁ ih₂ =>
    intro hall hst
    obtain ⟨hd, hs⟩ := hall _ List.mem_cons_self
    exact ih₂ (fun f hf => hall f (List.mem_cons_of_mem _ hf)) (ih₁ hs (mixOK_addImports hst hd))
  | setEmpty => exact fun _ h => h
  | setRun _ _ ih => exact ih
  | relNil => exact fun _ h => h
  | relCons _ _ ih₁ ih₂ => exact fun hsel hst => ih₂ hsel (ih₁ hsel hst)

include hfr in
theorem generate_good (fuel : Nat) (d : Definition) (marks : List Nat) (o : ModuleOut)
    (hd : DirsGood G d.dirs ∧ SelsGood G d.sel) (h : generate env fuel d marks = .ok o) : MixOK G o.st := by
  rcases generate_cases h with ⟨_, _, _, _, hs⟩ | ⟨cn, tn, _, _, _, hp⟩
  · rw [hs]; exact fun p hp => nomatch hp
  · exact runs_good hfr (Runs.of_type hp) (selsAll_of_good G _ hd.2) (mixOK_addImports (fun p hp => nomatch hp) hd.1)

end

open Ariadne.Package Ariadne.PackageValid

def GoodPair (cfg : Config) (p : String × String) : Prop := userImportOK cfg ⟨0, p.1, [p.2]⟩ = true

theorem mixinPairOf_eq (d : Directive) : mixinPairOf d = mixinPair d := rfl

theorem dirsGood_of_ok {cfg : Config} {dirs : List Directive} (h : dirsOK cfg dirs = true) : DirsGood (GoodPair cfg) dirs := by
  intro p hp
  unfold mixinPairs at hp
  obtain ⟨d, hd, hdp⟩ := List.mem_filterMap.mp hp
  have := List.all_eq_true.mp h d hd
  rw [mixinPairOf_eq, hdp] at this
  exact this

mutual
  theorem selGood_of_ok {cfg : Config} : ∀ (s : Selection), selDirsOK cfg s = true → SelGood (GoodPair cfg) s
    | .field _ _ dirs _ sub, h => by
      simp only [selDirsOK, Bool.and_eq_true] at h
      exact ⟨dirsGood_of_ok h.1, selsGood_of_ok sub h.2⟩
    | .spread _ _, _ => trivial
    | .inline _ _ _ sub, h => by
      simp only [selDirsOK] at h
      exact selsGood_of_ok sub h
  theorem selsGood_of_ok {cfg : Config} : ∀ (sels : List Selection), selsDirsOK cfg sels = true → SelsGood (GoodPair cfg) sels
    | [], _ => trivial
    | s :: rest, h => by
      simp only [selsDirsOK, Bool.and_eq_true] at h
      exact ⟨selGood_of_ok s h.1, selsGood_of_ok rest h.2⟩
end

end Ariadne.ResultTypes
