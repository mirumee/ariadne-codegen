/-
  Proofs/C01MixDefs.lean — property C01, "mixin" tier: definitions (core Lean only).

  The tier extends the PLAIN tier (Proofs/C01PlainDefs.lean: fields of leaf or object type, aliases, `@skip/@include`) by
  NAMED FRAGMENTS USED AS MIXINS: a spread `...F` in a selection set evaluated on the object type `T`, where `F` is
  defined on exactly `T` and contains no inline fragment, is not unpacked — the class of the selection set INHERITS from the
  class generated for `F` in the fragments module.  Fragments may spread further fragments (on the same type) and contain
  composite fields whose sub-selections spread fragments again.

  * `mClass env cn tn sel`: the classes `_parse_type_definition` emits (bases = the fragments spread, sorted; own fields only).
  * `mflat env k cn sel`: all field nodes of the class, own and inherited, each with the class that declares it
    (`k` = fuel for the fragment nesting).
  * `mfull`, `mneed`: "fuel `k` suffices", and a bound for the executor / validation fuel.
  * `MixOK`: the decidable hypothesis for one class tree; `fragOK`: for one fragment definition (`FragsOK`, Proofs/C01MixGen.lean: for all).
-/
import AriadneModel.Proofs.C01PlainDefs

set_option linter.unusedSimpArgs false
set_option linter.unusedVariables false

namespace Ariadne.C01Mix
open Ariadne Ariadne.Gql Ariadne.ResultTypes Ariadne.Util Ariadne.C01Plain

/-! ### bases -/

def spreadName? : Selection → Option String
  | .spread n _ => some n
  | _ => none

/-- `fragments` of `_resolve_selection_set`: the names spread at the top level, first-seen order, no repetition -/
def spreadNames (sel : List Selection) : List String := (sel.filterMap spreadName?).foldl setAdd []

def basesOf (sel : List Selection) : List String :=
  if (spreadNames sel).isEmpty then ["BaseModel"] else (sortStr (spreadNames sel)).map pascal

/-! ### the clean generator -/

mutual
  def mExtra (env : Env) : String → String → List Selection → List ClassDecl
    | _, _, [] => []
    | cn, tn, s :: rest => mExtra1 env cn tn s ++ mExtra env cn tn rest
  def mExtra1 (env : Env) : String → String → Selection → List ClassDecl
    | cn, tn, .field alias name _ _ sub =>
      if sub.isEmpty then []
      else
        { name := subClass env cn alias name, bases := basesOf sub,
          fields := plainDecls env (subClass env cn alias name) (subType env tn name) sub }
          :: mExtra env (subClass env cn alias name) (subType env tn name) sub
    | _, _, _ => []
end

/-- **the clean generator**: own fields only; the fragments spread become base classes -/
def mClass (env : Env) (cn tn : String) (sel : List Selection) : List ClassDecl :=
  { name := cn, bases := basesOf sel, fields := plainDecls env cn tn sel } :: mExtra env cn tn sel

/-- the classes of the fragments module contributed by one fragment definition -/
def fragClassesOf (env : Env) (f : Fragment) : List ClassDecl := mClass env (pascal f.name) f.on f.sel

/-! ### all field nodes of a class, own and inherited -/

/-- (declaring class, field node) of every field the class `cn` (selection `sel`) has, in document order; `k` bounds the
    nesting of fragment spreads -/
def mflat (env : Env) : Nat → String → List Selection → List (String × Selection)
  | 0, _, _ => []
  | k + 1, cn, sel =>
    sel.flatMap fun s =>
      match s with
      | .field a n d sid sub => [(cn, .field a n d sid sub)]
      | .spread n _ =>
        match findFragment? env.frags n with
        | some f => mflat env k (pascal f.name) f.sel
        | none => []
      | _ => []

/-- fuel `k` suffices for everything reachable from `sel` (evaluated on `tn`): through sub-selections and spreads -/
def mfull (env : Env) : Nat → String → List Selection → Bool
  | 0, _, _ => false
  | k + 1, tn, sel =>
    sel.all fun s =>
      match s with
      | .field _ name _ _ sub => sub.isEmpty || mfull env k (subType env tn name) sub
      | .spread n _ =>
        match findFragment? env.frags n with
        | some f => mfull env k f.on f.sel
        | none => false
      | _ => false

/-- fuel `k` suffices for the nesting of fragment spreads alone (what `mflat` and pydantic's inheritance follow) -/
def mfullS (env : Env) : Nat → List Selection → Bool
  | 0, _ => false
  | k + 1, sel =>
    sel.all fun s =>
      match s with
      | .spread n _ =>
        match findFragment? env.frags n with
        | some f => mfullS env k f.sel
        | none => false
      | _ => true

/-- more fragment definitions than this cannot be nested without a cycle -/
def fragDepth (env : Env) : Nat := env.frags.length + 1

/-- a bound on the executor fuel and the validation fuel needed at the class of `sel`; strictly larger than the bound of
    every fragment spread and of every sub-selection -/
def mneed (env : Env) : Nat → String → List Selection → Nat
  | 0, _, _ => 0
  | k + 1, tn, sel =>
    sel.foldl (fun acc s => max acc
      (match s with
       | .field _ name _ _ sub =>
         wneed (fieldT env tn name) + 2 + (if sub.isEmpty then 0 else mneed env k (subType env tn name) sub + 1)
       | .spread n _ =>
         match findFragment? env.frags n with
         | some f => mneed env k f.on f.sel + 1
         | none => 0
       | _ => 0)) 2


/-! ### selection-set ids untouched by the automatic `__typename` -/

mutual
  /-- no selection set of a composite field anywhere below has its id in `M` (the marks): the generator finds no automatic
      `__typename` there, and `Marks.applySels M` leaves the selections as they are -/
  def sidFree (M : List Nat) : List Selection → Bool
    | [] => true
    | s :: rest => sidFree1 M s && sidFree M rest
  def sidFree1 (M : List Nat) : Selection → Bool
    | .field _ _ _ sid sub => (sub.isEmpty || !M.contains sid) && sidFree M sub
    | .spread _ _ => true
    | .inline _ _ _ sub => sidFree M sub
end

/-! ### the hypothesis -/

def isInlineSel : Selection → Bool
  | .inline .. => true
  | _ => false

/-- the conditions of the plain tier on response keys / Python names, for ALL field nodes of one class (own and inherited) -/
def msetOK (env : Env) (k : Nat) (cn : String) (sel : List Selection) : Bool :=
  setOK env ((mflat env k cn sel).map (·.2))

mutual
  /-- structural conditions on one selection set evaluated on the OBJECT type `tn`, class `cn`; `k` = fuel for the
      fragment nesting (`mflat`) -/
  def mLocal (env : Env) (k : Nat) : String → String → List Selection → Bool
    | _, _, [] => true
    | cn, tn, s :: rest => mLocal1 env k cn tn s && mLocal env k cn tn rest
  def mLocal1 (env : Env) (k : Nat) : String → String → Selection → Bool
    | cn, tn, .field alias name dirs _ sub =>
      name != typenameField
      && !(dirs.any (·.name == Tables.mixinName))
      && (env.schema.fieldOf? tn name).isSome
      && (if sub.isEmpty then isLeafName env (subType env tn name)
          else
            env.schema.kindOf? (subType env tn name) == some .object
            && msetOK env k (subClass env cn alias name) sub
            && mfullS env (fragDepth env) sub
            && mLocal env k (subClass env cn alias name) (subType env tn name) sub)
    | _, tn, .spread n dirs =>
      -- no `@skip/@include` on the spread (finding C01-F3); the fragment is defined on exactly this type
      !hasConditionalDirective dirs
      && (match findFragment? env.frags n with
          | some f => f.on == tn
          | none => false)
    | _, _, _ => false     -- inline fragments: outside this tier
end

/-- one fragment definition can serve as a mixin: defined on an object type, no `@mixin`, its selection set satisfies the
    tier's conditions for the class `pascal name` -/
def fragOK (env : Env) (k : Nat) (f : Fragment) : Bool :=
  env.schema.kindOf? f.on == some .object
  && !(f.dirs.any (·.name == Tables.mixinName))
  && msetOK env k (pascal f.name) f.sel
  && mLocal env k (pascal f.name) f.on f.sel
  && mfull env k f.on f.sel
  && mfullS env (fragDepth env) f.sel

/-- `MixOK`: the decidable hypothesis for the class tree of one selection set on the object type `tn` -/
def MixOK (env : Env) (k : Nat) (cn tn : String) (sel : List Selection) : Bool :=
  env.schema.kindOf? tn == some .object
  && msetOK env k cn sel && mLocal env k cn tn sel && mfull env k tn sel && mfullS env (fragDepth env) sel

end Ariadne.C01Mix
