/-
  Lemmas for C02 about the related-fragments closure of `get_operation_as_str`
  (Model/OpText.lean): `_get_fragments_names` computes exactly the set of fragment names reachable
  through the spread graph; `sorted(set(...))` lists each name once in increasing order; `lookupAll`; the two rewrites
  can be undone; once `_get_fragments_names` answers, more fuel gives the same answer (`fragNames_mono`; `.error .fuel` is the
  one outcome more fuel can change); one generator registers only reachable fragments (last section).
-/
import AriadneModel.Model.OpText
import AriadneModel.Proofs.C08Acyclic
import Mathlib.Logic.Relation
import Batteries.Data.List.Basic


namespace Ariadne.OpTextProofs
open Ariadne.Gql Ariadne.Util Ariadne.ResultTypes Ariadne.OpText

theorem subset_iff (xs ys : List String) : subset xs ys = true ↔ ∀ x ∈ xs, x ∈ ys := by
  unfold subset
  rw [List.all_eq_true]
  constructor
  · intro h x hx
    exact List.contains_iff_mem.mp (h x hx)
  · intro h x hx
    exact List.contains_iff_mem.mpr (h x hx)

theorem subset_eq_false_iff (xs ys : List String) : subset xs ys = false ↔ ∃ x ∈ xs, x ∉ ys := by
  rw [← Bool.not_eq_true, subset_iff]
  simp

/-- the trigger of finding C02-F7, read off: a spread written in the operation or in an unpacked fragment names a
    fragment that is not related -/
theorem droppedSpread_eq_true_iff (frags : List Fragment) (o : Operation) (unpacked related : List String) :
    droppedSpread frags o unpacked related = true ↔
      (∃ x ∈ directSels o.sel, x ∉ related) ∨
      ∃ u ∈ unpacked, ∃ fu, findFragment? frags u = some fu ∧ ∃ x ∈ directSels fu.sel, x ∉ related := by
  simp only [droppedSpread, Bool.not_eq_true', Bool.and_eq_false_iff, subset_eq_false_iff, List.all_eq_false]
  refine or_congr Iff.rfl ⟨?_, ?_⟩
  · rintro ⟨u, hu, hbad⟩
    cases hf : findFragment? frags u with
    | none => rw [hf] at hbad; exact absurd rfl hbad
    | some fu =>
      rw [hf] at hbad
      exact ⟨u, hu, fu, hf, (subset_eq_false_iff _ _).mp (by simpa using hbad)⟩
  · rintro ⟨u, hu, fu, hf, hx⟩
    refine ⟨u, hu, ?_⟩
    rw [hf]
    simpa using (subset_eq_false_iff _ _).mpr hx

/-- `a → b`: the definition of fragment `a` spreads `b` (at any depth, not through other spreads) -/
def Edge (frags : List Fragment) (a b : String) : Prop :=
  ∃ f, findFragment? frags a = some f ∧ b ∈ directSels f.sel

def Reach (frags : List Fragment) (sels : List Selection) (n : String) : Prop :=
  ∃ r ∈ directSels sels, Relation.ReflTransGen (Edge frags) r n

def Closed (frags : List Fragment) (X : List String) : Prop := ∀ a ∈ X, ∀ b, Edge frags a b → b ∈ X

theorem directSels_mem {s : Selection} {sels : List Selection} (hs : s ∈ sels) {x : String} (hx : x ∈ directSel s) :
    x ∈ directSels sels := by
  induction sels with
  | nil => cases hs
  | cons t ts ih =>
    simp only [directSels, List.mem_append]
    rcases List.mem_cons.mp hs with rfl | h
    · exact Or.inl hx
    · exact Or.inr (ih h)

theorem directSels_cons (s : Selection) (ss : List Selection) (x : String) :
    x ∈ directSels (s :: ss) ↔ x ∈ directSel s ∨ x ∈ directSels ss := by
  simp [directSels]

theorem reach_of_closed {frags : List Fragment} {sels : List Selection} {X : List String}
    (h0 : ∀ x ∈ directSels sels, x ∈ X) (hc : Closed frags X) {n : String} (h : Reach frags sels n) : n ∈ X := by
  obtain ⟨r, hr, hp⟩ := h
  induction hp with
  | refl => exact h0 r hr
  | tail _ hbc ih => exact hc _ ih _ hbc

theorem reach_step {frags : List Fragment} {sels : List Selection} {m n : String} {f : Fragment}
    (hm : Reach frags sels m) (hf : findFragment? frags m = some f) (hn : Reach frags f.sel n) : Reach frags sels n := by
  obtain ⟨r, hr, hp⟩ := hm
  obtain ⟨r', hr', hp'⟩ := hn
  exact ⟨r, hr, (hp.tail ⟨f, hf, hr'⟩).trans hp'⟩

theorem foldE_eq_foldlM {α β ε : Type} (f : β → α → Except ε β) : ∀ (l : List α) (s : β), foldE f s l = l.foldlM f s
  | [], _ => rfl
  | x :: xs, s => by
    rw [foldE, List.foldlM_cons]
    cases f s x with
    | ok s' => exact foldE_eq_foldlM f xs s'
    | error e => rfl

inductive NamesStep (frags : List Fragment) (rec : List Selection → Except GenErr (List String)) (acc : List String) :
    Selection → List String → Prop
  | spread {n : String} {d : List Directive} {f : Fragment} {sub : List String} :
      findFragment? frags n = some f → rec f.sel = .ok sub → NamesStep frags rec acc (.spread n d) (setUnion (setAdd acc n) sub)
  | leaf (a : Option String) (n : String) (d : List Directive) (sid : Nat) : NamesStep frags rec acc (.field a n d sid []) acc
  | field {a : Option String} {n : String} {d : List Directive} {sid : Nat} {sub : List Selection} {r : List String} :
      sub.isEmpty = false → rec sub = .ok r → NamesStep frags rec acc (.field a n d sid sub) (setUnion acc r)
  | inline {on : Option String} {d : List Directive} {sid : Nat} {sub : List Selection} {r : List String} :
      rec sub = .ok r → NamesStep frags rec acc (.inline on d sid sub) (setUnion acc r)

theorem namesStep_ok_iff (frags : List Fragment) (rec : List Selection → Except GenErr (List String)) (acc acc' : List String)
    (s : Selection) : namesStep frags rec acc s = .ok acc' ↔ NamesStep frags rec acc s acc' := by
  constructor
  · intro h
    cases s with
    | spread name d =>
      simp only [namesStep] at h
      cases hf : findFragment? frags name with
      | none => rw [hf] at h; cases h
      | some f =>
        rw [hf] at h
        simp only at h
        cases hr : rec f.sel with
        | error e => rw [hr] at h; cases h
        | ok sub =>
          rw [hr] at h
          cases h
          exact .spread hf hr
    | field a nm d sid sub =>
      simp only [namesStep] at h
      cases he : sub.isEmpty with
      | true =>
        rw [he] at h
        cases h
        rw [List.isEmpty_iff.mp he]
        exact .leaf ..
      | false =>
        rw [he] at h
        simp only [Bool.false_eq_true, if_false] at h
        cases hr : rec sub with
        | error e => rw [hr] at h; cases h
        | ok r => rw [hr] at h; cases h; exact .field he hr
    | inline on d sid sub =>
      simp only [namesStep] at h
      cases hr : rec sub with
      | error e => rw [hr] at h; cases h
      | ok r => rw [hr] at h; cases h; exact .inline hr
  · intro h
    cases h with
    | spread hf hr => simp only [namesStep, hf, hr]
    | leaf => simp [namesStep]
    | field he hr => simp [namesStep, he, hr]
    | inline hr => simp only [namesStep, hr]

theorem fragNames_sound (frags : List Fragment) :
    ∀ (fuel : Nat) (sels : List Selection) (L : List String), fragNames frags fuel sels = .ok L → ∀ n ∈ L, Reach frags sels n := by
  intro fuel
  induction fuel with
  | zero => intro sels L h; simp [fragNames] at h
  | succ fuel ih =>
    intro sels L h
    simp only [fragNames] at h
    rw [foldE_eq_foldlM] at h
    refine Lists.foldlM_inv (fun acc => ∀ n ∈ acc, Reach frags sels n) ?_ (by simp) h
    intro s hs acc acc' hacc hstep n hn
    -- what a nested selection set reaches, the selection set reaches
    have nested : ∀ {sub : List Selection} {r : List String}, (∀ x ∈ directSels sub, x ∈ directSel s) →
        fragNames frags fuel sub = .ok r → n ∈ setUnion acc r → Reach frags sels n := by
      intro sub r hsub hr hn
      rcases mem_setUnion.mp hn with hn | hn
      · exact hacc n hn
      · obtain ⟨r0, hr0, hp⟩ := ih sub r hr n hn
        exact ⟨r0, directSels_mem hs (hsub r0 hr0), hp⟩
    cases (namesStep_ok_iff _ _ _ _ _).mp hstep with
    | @spread name d f sub hf hr =>
      have hname : Reach frags sels name := ⟨name, directSels_mem hs (by simp [directSel]), .refl⟩
      rw [mem_setUnion, mem_setAdd] at hn
      rcases hn with (hn | rfl) | hn
      · exact hacc n hn
      · exact hname
      · exact reach_step hname hf (ih f.sel sub hr n hn)
    | leaf => exact hacc n hn
    | field _ hr => exact nested (fun x hx => by simpa [directSel] using hx) hr hn
    | inline hr => exact nested (fun x hx => by simpa [directSel] using hx) hr hn

theorem closed_union {frags : List Fragment} {X Y : List String} (hX : Closed frags X) (hY : Closed frags Y) :
    Closed frags (setUnion X Y) := by
  intro a ha b hab
  rw [mem_setUnion] at ha ⊢
  rcases ha with ha | ha
  · exact Or.inl (hX a ha b hab)
  · exact Or.inr (hY a ha b hab)

theorem namesStep_closed (frags : List Fragment) (rec : List Selection → Except GenErr (List String))
    (hrec : ∀ sels L, rec sels = .ok L → (∀ x ∈ directSels sels, x ∈ L) ∧ Closed frags L)
    (acc acc' : List String) (s : Selection) (hacc : Closed frags acc) (h : namesStep frags rec acc s = .ok acc') :
    (∀ x ∈ acc, x ∈ acc') ∧ (∀ x ∈ directSel s, x ∈ acc') ∧ Closed frags acc' := by
  have nested : ∀ {sub : List Selection} {r : List String}, rec sub = .ok r →
      (∀ x ∈ acc, x ∈ setUnion acc r) ∧ (∀ x ∈ directSels sub, x ∈ setUnion acc r) ∧ Closed frags (setUnion acc r) := by
    intro sub r hr
    obtain ⟨h0, hc⟩ := hrec sub r hr
    exact ⟨fun x hx => mem_setUnion.mpr (Or.inl hx), fun x hx => mem_setUnion.mpr (Or.inr (h0 x hx)),
      closed_union hacc hc⟩
  cases (namesStep_ok_iff _ _ _ _ _).mp h with
  | @spread name d f sub hf hr =>
    obtain ⟨hsub0, hsubc⟩ := hrec f.sel sub hr
    refine ⟨?_, ?_, ?_⟩
    · intro x hx
      rw [mem_setUnion, mem_setAdd]
      exact Or.inl (Or.inl hx)
    · intro x hx
      simp only [directSel, List.mem_singleton] at hx
      subst hx
      rw [mem_setUnion, mem_setAdd]
      exact Or.inl (Or.inr rfl)
    · intro a ha b hab
      rw [mem_setUnion, mem_setAdd] at ha
      rw [mem_setUnion, mem_setAdd]
      rcases ha with (ha | rfl) | ha
      · exact Or.inl (Or.inl (hacc a ha b hab))
      · obtain ⟨f', hf', hb⟩ := hab
        rw [hf] at hf'
        cases hf'
        exact Or.inr (hsub0 b hb)
      · exact Or.inr (hsubc a ha b hab)
  | leaf => exact ⟨fun x hx => hx, by simp [directSel, directSels], hacc⟩
  | field _ hr => simpa [directSel] using nested hr
  | inline hr => simpa [directSel] using nested hr

-- the conclusion speaks of the list the loop runs over (`directSels sels`), so this and `foldE_related` are inductions on that
-- list, not instances of `Lists.foldlM_inv` through `foldE_eq_foldlM`
theorem foldE_names_closed (frags : List Fragment) (rec : List Selection → Except GenErr (List String))
    (hrec : ∀ sels L, rec sels = .ok L → (∀ x ∈ directSels sels, x ∈ L) ∧ Closed frags L) :
    ∀ (sels : List Selection) (acc L : List String), Closed frags acc → foldE (namesStep frags rec) acc sels = .ok L →
      (∀ x ∈ acc, x ∈ L) ∧ (∀ x ∈ directSels sels, x ∈ L) ∧ Closed frags L := by
  intro sels
  induction sels with
  | nil =>
    intro acc L hacc h
    simp only [foldE, Except.ok.injEq] at h
    subst h
    exact ⟨fun x hx => hx, by simp [directSels], hacc⟩
  | cons s ss ih =>
    intro acc L hacc h
    simp only [foldE] at h
    cases hs : namesStep frags rec acc s with
    | error e => rw [hs] at h; cases h
    | ok acc' =>
      rw [hs] at h
      obtain ⟨h1, h2, h3⟩ := namesStep_closed frags rec hrec acc acc' s hacc hs
      obtain ⟨k1, k2, k3⟩ := ih acc' L h3 h
      refine ⟨fun x hx => k1 x (h1 x hx), ?_, k3⟩
      intro x hx
      rcases (directSels_cons s ss x).mp hx with hx | hx
      · exact k1 x (h2 x hx)
      · exact k2 x hx

theorem fragNames_closed (frags : List Fragment) :
    ∀ (fuel : Nat) (sels : List Selection) (L : List String), fragNames frags fuel sels = .ok L →
      (∀ x ∈ directSels sels, x ∈ L) ∧ Closed frags L := by
  intro fuel
  induction fuel with
  | zero => intro sels L h; simp [fragNames] at h
  | succ fuel ih =>
    intro sels L h
    simp only [fragNames] at h
    have := foldE_names_closed frags (fragNames frags fuel) ih sels [] L (by intro a ha; cases ha) h
    exact ⟨this.2.1, this.2.2⟩

theorem fragNames_iff (frags : List Fragment) (fuel : Nat) (sels : List Selection) (L : List String)
    (h : fragNames frags fuel sels = .ok L) (n : String) : n ∈ L ↔ Reach frags sels n := by
  constructor
  · exact fragNames_sound frags fuel sels L h n
  · obtain ⟨h0, hc⟩ := fragNames_closed frags fuel sels L h
    exact reach_of_closed h0 hc

theorem foldE_related (frags : List Fragment) (fuel : Nat) :
    ∀ (ms : List String) (acc L : List String), foldE (relatedStep frags fuel) acc ms = .ok L →
      (∀ x ∈ acc, x ∈ L)
      ∧ (∀ m ∈ ms, ∀ f, findFragment? frags m = some f → ∀ n, Reach frags f.sel n → n ∈ L)
      ∧ (∀ n ∈ L, n ∈ acc ∨ ∃ m ∈ ms, ∃ f, findFragment? frags m = some f ∧ Reach frags f.sel n) := by
  intro ms
  induction ms with
  | nil =>
    intro acc L h
    simp only [foldE, Except.ok.injEq] at h
    subst h
    exact ⟨fun x hx => hx, by simp, fun n hn => Or.inl hn⟩
  | cons m ms ih =>
    intro acc L h
    simp only [foldE] at h
    cases hs : relatedStep frags fuel acc m with
    | error e => rw [hs] at h; cases h
    | ok acc' =>
      rw [hs] at h
      obtain ⟨k1, k2, k3⟩ := ih acc' L h
      simp only [relatedStep] at hs
      cases hf : findFragment? frags m with
      | none => rw [hf] at hs; cases hs
      | some f =>
        rw [hf] at hs
        simp only at hs
        cases hr : fragNames frags fuel f.sel with
        | error e => rw [hr] at hs; cases hs
        | ok sub =>
          rw [hr] at hs
          simp only [Except.ok.injEq] at hs
          subst hs
          refine ⟨fun x hx => k1 x (mem_setUnion.mpr (Or.inl hx)), ?_, ?_⟩
          · intro m' hm' f' hf' n hn
            rcases List.mem_cons.mp hm' with rfl | hm'
            · rw [hf] at hf'
              cases hf'
              exact k1 n (mem_setUnion.mpr (Or.inr ((fragNames_iff frags fuel f.sel sub hr n).mpr hn)))
            · exact k2 m' hm' f' hf' n hn
          · intro n hn
            rcases k3 n hn with hn | ⟨m', hm', f', hf', hr'⟩
            · rcases mem_setUnion.mp hn with hn | hn
              · exact Or.inl hn
              · exact Or.inr ⟨m, by simp, f, hf, (fragNames_iff frags fuel f.sel sub hr n).mp hn⟩
            · exact Or.inr ⟨m', by simp [hm'], f', hf', hr'⟩

theorem related_iff (frags : List Fragment) (fuel : Nat) (mixins unpacked R : List String)
    (h : relatedFragments frags fuel mixins unpacked = .ok R) (n : String) :
    n ∈ R ↔ n ∈ mixins ∨ n ∈ unpacked ∨ ∃ m ∈ mixins, ∃ f, findFragment? frags m = some f ∧ Reach frags f.sel n := by
  simp only [relatedFragments] at h
  cases hf : foldE (relatedStep frags fuel) mixins mixins with
  | error e => rw [hf] at h; cases h
  | ok names =>
    rw [hf] at h
    simp only [Except.ok.injEq] at h
    subst h
    obtain ⟨k1, k2, k3⟩ := foldE_related frags fuel mixins mixins names hf
    rw [mem_setUnion]
    constructor
    · rintro (hn | hn)
      · rcases k3 n hn with hn | hn
        · exact Or.inl hn
        · exact Or.inr (Or.inr hn)
      · exact Or.inr (Or.inl hn)
    · rintro (hn | hn | ⟨m, hm, f, hf', hr⟩)
      · exact Or.inl (k1 n hn)
      · exact Or.inr hn
      · exact Or.inl (k2 m hm f hf' n hr)


theorem sentNames_spec (related : List String) :
    (sentNames related).Pairwise (· < ·) ∧ ∀ n, n ∈ sentNames related ↔ n ∈ related := by
  refine ⟨pairwise_sortStr _ (nodup_dedup related), ?_⟩
  intro n
  unfold sentNames
  rw [Util.mem_sortStr, Util.mem_dedup]

theorem lookupAll_spec (frags : List Fragment) (marks : List Nat) :
    ∀ (ns : List String) (fs : List Fragment), lookupAll frags marks ns = .ok fs →
      List.Forall₂ (fun n f' => ∃ f, findFragment? frags n = some f ∧ f' = sentFrag marks f) ns fs := by
  intro ns
  induction ns with
  | nil =>
    intro fs h
    simp only [lookupAll, Except.ok.injEq] at h
    subst h
    exact .nil
  | cons n ns ih =>
    intro fs h
    simp only [lookupAll] at h
    cases hf : findFragment? frags n with
    | none => rw [hf] at h; cases h
    | some f =>
      rw [hf] at h
      simp only at h
      cases hr : lookupAll frags marks ns with
      | error e => rw [hr] at h; cases h
      | ok fs' =>
        rw [hr] at h
        simp only [Except.ok.injEq] at h
        subst h
        exact .cons ⟨f, hf, rfl⟩ (ih fs' hr)

theorem forall2_names {frags : List Fragment} {marks : List Nat} {ns : List String} {fs : List Fragment}
    (h : List.Forall₂ (fun n f' => ∃ f, findFragment? frags n = some f ∧ f' = sentFrag marks f) ns fs) :
    fs.map (·.name) = ns := by
  induction h with
  | nil => rfl
  | cons hx _ ih =>
    obtain ⟨f, hf, rfl⟩ := hx
    simp only [List.map_cons, ih, sentFrag]
    rw [findFragment_name hf]

theorem sentDoc_ok_iff {frags : List Fragment} {fuel : Nat} {o : Operation} {st : St} {d : Doc} :
    sentDoc frags fuel o st = .ok d ↔
      ∃ related fs, relatedFragments frags fuel st.mixins st.unpacked = .ok related ∧
        lookupAll frags st.marks (sentNames related) = .ok fs ∧ d = { op := sentOp st.marks o, frags := fs } := by
  unfold sentDoc
  cases relatedFragments frags fuel st.mixins st.unpacked with
  | error e => exact ⟨nofun, fun ⟨_, _, h, _⟩ => nomatch h⟩
  | ok related =>
    dsimp only
    cases hl : lookupAll frags st.marks (sentNames related) with
    | error e => exact ⟨nofun, fun ⟨_, _, h, h', _⟩ => by cases h; rw [hl] at h'; cases h'⟩
    | ok fs =>
      exact ⟨fun h => ⟨related, fs, rfl, hl, (Except.ok.inj h).symm⟩,
        fun ⟨_, _, h, h', e⟩ => by cases h; rw [hl] at h'; cases h'; rw [e]⟩

theorem addOperation_ok_iff {env : Env} {fuel : Nat} {o : Operation} {marksIn : List Nat} {d : Doc} {st : St} :
    addOperation env fuel o marksIn = .ok (d, st) ↔
      ∃ out, generate env fuel (.op o) marksIn = .ok out ∧ out.st = st ∧ sentDoc env.frags fuel o st = .ok d := by
  unfold addOperation
  cases generate env fuel (.op o) marksIn with
  | error e => exact ⟨nofun, fun ⟨_, h, _⟩ => nomatch h⟩
  | ok out =>
    dsimp only
    cases hs : sentDoc env.frags fuel o out.st with
    | error e => exact ⟨nofun, fun ⟨_, h, e1, h'⟩ => by cases h; rw [← e1, hs] at h'; cases h'⟩
    | ok d' =>
      exact ⟨fun h => by cases h; exact ⟨out, rfl, rfl, hs⟩,
        fun ⟨_, h, e1, h'⟩ => by cases h; subst e1; rw [hs] at h'; cases h'; rfl⟩

theorem isTn_tnField : isTn tnField = true := by
  simp [isTn, tnField]

theorem undoSet_pre (marks : List Nat) (sid : Nat) (x : List Selection) :
    undoSet marks sid (pre marks sid ++ x) = undoSels marks x := by
  unfold pre
  by_cases h : marks.contains sid = true
  · simp only [h, if_true, List.singleton_append, undoSet, isTn_tnField, Bool.and_self]
  · have h' : marks.contains sid = false := by simpa using h
    simp only [h', Bool.false_eq_true, if_false, List.nil_append]
    cases x with
    | nil => simp [undoSet, undoSels]
    | cons t rest =>
      rw [undoSet, undoSels, h']
      simp

mutual
  theorem undo_add_sel (marks : List Nat) : ∀ s : Selection, undoSel marks (addTnSel marks s) = s
    | .field a n d sid sub => by
      rw [addTnSel, undoSel, undoSet_pre, undo_add_sels marks sub]
    | .spread n d => by rw [addTnSel, undoSel]
    | .inline on d sid sub => by
      rw [addTnSel, undoSel, undoSet_pre, undo_add_sels marks sub]
  theorem undo_add_sels (marks : List Nat) : ∀ ss : List Selection, undoSels marks (addTnSels marks ss) = ss
    | [] => by rw [addTnSels, undoSels]
    | s :: ss => by
      rw [addTnSels, undoSels, undo_add_sel marks s, undo_add_sels marks ss]
end

theorem filter_noMixin (dirs : List Directive) (h : dirs.any isMixin = false) : dirs.filter (!isMixin ·) = dirs := by
  rw [List.filter_eq_self]
  intro x hx
  rw [List.any_eq_false] at h
  simpa using h x hx

mutual
  theorem strip_eq_sel : ∀ s : Selection, mixinPlacedSel s = true → stripSel s = stripAllSel s
    | .field a n d sid sub => by
      intro h
      rw [mixinPlacedSel] at h
      rw [stripSel, stripAllSel, strip_eq_sels sub h]
    | .spread n d => by
      intro h
      rw [mixinPlacedSel] at h
      rw [stripSel, stripAllSel, filter_noMixin d (by simpa using h)]
    | .inline on d sid sub => by
      intro h
      rw [mixinPlacedSel, Bool.and_eq_true] at h
      rw [stripSel, stripAllSel, strip_eq_sels sub h.2, filter_noMixin d (by simpa using h.1)]
  theorem strip_eq_sels : ∀ ss : List Selection, mixinPlacedSels ss = true → stripSels ss = stripAllSels ss
    | [] => by intro _; rw [stripSels, stripAllSels]
    | s :: ss => by
      intro h
      rw [mixinPlacedSels, Bool.and_eq_true] at h
      rw [stripSels, stripAllSels, strip_eq_sel s h.1, strip_eq_sels ss h.2]
end

/-- undoing the automatic `__typename` on what is sent gives the authored selection set without `@mixin` -/
theorem undo_sentSet (marks : List Nat) (sid : Nat) (sel : List Selection) (h : mixinPlacedSels sel = true) :
    undoSet marks sid (sentSet marks sid sel) = stripAllSels sel := by
  unfold sentSet
  rw [undoSet_pre, undo_add_sels, strip_eq_sels sel h]


theorem foldE_congr_ok {α β ε : Type} (f g : β → α → Except ε β) (l : List α)
    (h : ∀ acc x r, x ∈ l → f acc x = .ok r → g acc x = .ok r) :
    ∀ (a r : β), foldE f a l = .ok r → foldE g a l = .ok r := by
  induction l with
  | nil => intro a r hr; simpa [foldE] using hr
  | cons x xs ih =>
    intro a r hr
    simp only [foldE] at hr ⊢
    cases hf : f a x with
    | error e => rw [hf] at hr; cases hr
    | ok a' =>
      rw [hf] at hr
      rw [h a x a' (by simp) hf]
      exact ih (fun acc y r' hy => h acc y r' (by simp [hy])) a' r hr

theorem namesStep_mono (frags : List Fragment) (rec1 rec2 : List Selection → Except GenErr (List String))
    (h : ∀ sels L, rec1 sels = .ok L → rec2 sels = .ok L) (acc : List String) (s : Selection) (r : List String)
    (hs : namesStep frags rec1 acc s = .ok r) : namesStep frags rec2 acc s = .ok r := by
  refine (namesStep_ok_iff _ _ _ _ _).mpr ?_
  cases (namesStep_ok_iff _ _ _ _ _).mp hs with
  | spread hf hr => exact .spread hf (h _ _ hr)
  | leaf => exact .leaf ..
  | field he hr => exact .field he (h _ _ hr)
  | inline hr => exact .inline (h _ _ hr)

theorem fragNames_mono (frags : List Fragment) :
    ∀ (fuel : Nat) (sels : List Selection) (L : List String), fragNames frags fuel sels = .ok L → fragNames frags (fuel + 1) sels = .ok L := by
  intro fuel
  induction fuel with
  | zero => intro sels L h; simp [fragNames] at h
  | succ fuel ih =>
    intro sels L h
    simp only [fragNames] at h ⊢
    exact foldE_congr_ok _ _ sels (fun acc x r _ hx => namesStep_mono frags _ _ ih acc x r hx) [] L h

theorem fragNames_mono_le (frags : List Fragment) (fuel fuel' : Nat) (hle : fuel ≤ fuel') (sels : List Selection) (L : List String)
    (h : fragNames frags fuel sels = .ok L) : fragNames frags fuel' sels = .ok L := by
  induction hle with
  | refl => exact h
  | step _ ih => exact fragNames_mono frags _ sels L ih

end Ariadne.OpTextProofs

/-! ## one generator registers only reachable fragments

  The invariant behind C02's document clause: one `ResultTypesGenerator` registers (in `_fragments_used_as_mixins` /
  `_unpacked_fragments`) only fragments that are reachable, through the spread graph above, from the selection set of the
  definition it was constructed for.  The two sets are attributes of ONE generator object (result_types.py `__init__`: both
  start as `set()`; package.py `add_operation` constructs a fresh `ResultTypesGenerator` per operation, fragments.py one per
  fragment definition), so the statement is about one run of `ResultTypes.generate` from the initial state — for every
  environment, fuel, definition and `marksIn`.  `_resolve_selection_set` meets spreads of the selection set it was called
  with, of inline fragments inside it, and of the fragments it unpacks (`resolve_low` / `runs_low` of Proofs/C08Acyclic.lean,
  for an arbitrary predicate closed under the spread graph; here: "reachable from the definition's selection set"). -/

open Ariadne.Gql

namespace Ariadne.ResultTypes

open Ariadne.OpText Ariadne.OpTextProofs

mutual
  /-- `selSpreads` (Proofs/C08Acyclic.lean) and `directSel` (Model/OpText.lean) are the same function -/
  theorem selSpreads_eq_directSel : ∀ s : Selection, selSpreads s = directSel s
    | .field _ _ _ _ sub => by rw [selSpreads, directSel, selsSpreads_eq_directSels sub]
    | .spread n _ => by rw [selSpreads, directSel]
    | .inline _ _ _ sub => by rw [selSpreads, directSel, selsSpreads_eq_directSels sub]
  theorem selsSpreads_eq_directSels : ∀ ss : List Selection, selsSpreads ss = directSels ss
    | [] => by rw [selsSpreads, directSels]
    | s :: ss => by rw [selsSpreads, directSels, selSpreads_eq_directSel s, selsSpreads_eq_directSels ss]
end

theorem low_reach_self (frags : List Fragment) (sels : List Selection) : Low (Reach frags sels) sels := by
  intro n hn
  rw [selsSpreads_eq_directSels] at hn
  exact ⟨n, hn, .refl⟩

theorem reach_closed (frags : List Fragment) (sels : List Selection) :
    ∀ n f, Reach frags sels n → findFragment? frags n = some f → Low (Reach frags sels) f.sel := by
  intro n f hn hf x hx
  rw [selsSpreads_eq_directSels] at hx
  exact reach_step hn hf ⟨x, hx, .refl⟩

/-- **one generator registers only reachable fragments** (every environment, fuel, definition, `marksIn`): after
    `ResultTypesGenerator(definition)` every name in `_fragments_used_as_mixins` and in `_unpacked_fragments` is
    reachable from the definition's selection set through the spread graph. -/
theorem generate_registers_reachable (env : Env) (fuel : Nat) (d : Definition) (marksIn : List Nat) (out : ModuleOut)
    (h : generate env fuel d marksIn = .ok out) :
    ∀ m, m ∈ out.st.mixins ∨ m ∈ out.st.unpacked → Reach env.frags d.sel m := by
  rcases generate_cases h with ⟨_, _, _, _, hs⟩ | ⟨_, _, _, _, _, hp⟩
  · rw [hs]
    intro m hm
    rcases hm with hm | hm <;> cases hm
  · have hreg := runs_low env _ (reach_closed env.frags d.sel) (Runs.of_type hp) (low_reach_self env.frags d.sel)
      (Registered.initial _ marksIn _)
    exact fun m hm => hm.elim (hreg.1 m) (hreg.2 m)

end Ariadne.ResultTypes
