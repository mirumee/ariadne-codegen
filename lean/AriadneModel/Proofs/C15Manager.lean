/-
  C15: the bundled plugins in the manager and in a run — an identity plugin inserted anywhere (`PipeRel`), a plugin by its
  hook table (`hooksOf`, `step_idle`, `step_returns_arg`), the generator's bookkeeping (`SameBooks`, `record`), NoReimports,
  a module stays a module, lists of the identity plugin and NoReimports against the unplugged run (`InertRel`).
-/
import AriadneModel.Proofs.C15


namespace Ariadne.C15
open Ariadne.Py Ariadne.Plugins Ariadne.ClientSem
open Ariadne.Lists (bind_eq_ok)

theorem applyAll_insert {σ : Type} (step : Call → σ → Payload → M (σ × Payload)) (idp : σ)
    (hid : ∀ c x, step c idp x = .ok (idp, x)) (c : Call) (a b : List σ) (x : Payload) :
    applyAll step c (a ++ idp :: b) x =
      (applyAll step c a x >>= fun ra => applyAll step c b ra.2 >>= fun rb => pure (ra.1 ++ idp :: rb.1, rb.2)) := by
  rw [applyAll_append]
  cases applyAll step c a x with
  | error e => rfl
  | ok ra =>
    simp only [bind_ok]
    rw [applyAll_cons, hid]
    simp only [bind_ok]
    cases applyAll step c b ra.2 with
    | error e => rfl
    | ok rb => rfl

/-- `l1` is `l2` with `idp` inserted somewhere: the two plugin lists of "a plugin that overrides no hook changes nothing" -/
def InsertedAt {σ : Type} (idp : σ) (l1 l2 : List σ) : Prop := ∃ a b, l1 = a ++ idp :: b ∧ l2 = a ++ b

theorem applyAll_inserted {σ : Type} (step : Call → σ → Payload → M (σ × Payload)) (idp : σ)
    (hid : ∀ c x, step c idp x = .ok (idp, x)) (c : Call) (l1 l2 : List σ) (x : Payload)
    (h : InsertedAt idp l1 l2) :
    (∃ e, applyAll step c l1 x = .error e ∧ applyAll step c l2 x = .error e) ∨
    (∃ l1' l2' y, applyAll step c l1 x = .ok (l1', y) ∧ applyAll step c l2 x = .ok (l2', y) ∧ InsertedAt idp l1' l2') := by
  obtain ⟨a, b, rfl, rfl⟩ := h
  rw [applyAll_insert step idp hid, applyAll_append]
  cases applyAll step c a x with
  | error e => exact .inl ⟨e, rfl, rfl⟩
  | ok ra =>
    simp only [bind_ok]
    cases applyAll step c b ra.2 with
    | error e => exact .inl ⟨e, rfl, rfl⟩
    | ok rb => exact .inr ⟨_, _, _, rfl, rfl, ra.1, rb.1, rfl, rfl⟩

theorem identity_step (c : Call) (x : Payload) : PState.step c .identity x = .ok (.identity, x) := rfl

theorem shorter_step_eq (c : Call) (st : ShorterState) (x : Payload) :
    PState.step c (.shorter st) x = (shorterStep c st x >>= fun r => pure (PState.shorter r.1, r.2)) := by
  simp only [PState.step]

theorem extract_step_eq (c : Call) (est : ExtractState) (x : Payload) :
    PState.step c (.extract est) x = (extractStep c est x >>= fun r => pure (PState.extract r.1, r.2)) := by
  simp only [PState.step]

theorem fwd_step_eq (c : Call) (f : FwdState) (x : Payload) :
    PState.step c (.fwd f) x = (fwdStep c f x >>= fun r => pure (PState.fwd r.1, r.2)) := by
  simp only [PState.step]

/-- the hooks of `plugins.base.Plugin` the class of a bundled plugin overrides (`Tables.pluginOverrides`; the agreement
    with the regenerated table is `hooksOf_table` of Properties/C15.lean) -/
def hooksOf : PState → List String
  | .shorter _ => ["generate_client_module", "generate_fragments_module", "generate_result_class", "generate_result_types_module"]
  | .extract _ => ["generate_client_method", "generate_client_module", "generate_init_module", "generate_operation_str"]
  | .fwd _ => ["generate_client_module"]
  | .noReimports => ["generate_init_module"]
  | .identity => []

theorem hook_idle {c : Call} {p : PState} (h : c.hook ∉ hooksOf p) (x : Payload) :
    match p with
    | .shorter st => shorterStep c st x = .ok (st, x)
    | .extract est => extractStep c est x = .ok (est, x)
    | .fwd f => fwdStep c f x = .ok (f, x)
    | .noReimports => noReimportsStep c x = x
    | .identity => True := by
  cases p <;> simp only [hooksOf, List.mem_cons, List.not_mem_nil, or_false, not_or] at h <;>
    simp only [shorterStep, extractStep, fwdStep, noReimportsStep]
  all_goals first | trivial | (split <;> first | rfl | (exfalso; simp_all))

theorem step_idle {c : Call} {p : PState} (h : c.hook ∉ hooksOf p) (x : Payload) : PState.step c p x = .ok (p, x) := by
  have := hook_idle h x
  cases p <;> simp only [PState.step] <;> first | rfl | (simp only at this; rw [this]; rfl)

theorem applyAll_idle {c : Call} {ps : List PState} (h : ∀ p ∈ ps, c.hook ∉ hooksOf p) (x : Payload) :
    applyAll PState.step c ps x = .ok (ps, x) :=
  applyAll_id ps (fun p hp => step_idle (h p hp) x)

/-- the hooks on which some bundled plugin returns another object than it is handed -/
def rewritingHooks : List String := ["generate_client_method", "generate_client_module", "generate_init_module"]

theorem shorterStep_noncm (c : Call) (hc : c.hook ≠ "generate_client_module") (st : ShorterState) (x : Payload) :
    ∃ st', shorterStep c st x = .ok (st', x) := by
  unfold shorterStep
  split
  all_goals first | exact ⟨_, rfl⟩ | (exfalso; simp_all)

theorem step_returns_arg {c : Call} (hc : c.hook ∉ rewritingHooks) {p p' : PState} {x y : Payload}
    (h : PState.step c p x = .ok (p', y)) : y = x := by
  simp only [rewritingHooks, List.mem_cons, List.not_mem_nil, or_false, not_or] at hc
  cases p with
  | shorter st =>
    obtain ⟨st', hs⟩ := shorterStep_noncm c hc.2.1 st x
    rw [shorter_step_eq, hs] at h; cases h; rfl
  | extract est =>
    rw [extract_step_eq] at h
    obtain ⟨r, hr, h⟩ := bind_eq_ok.mp h
    cases h
    unfold extractStep at hr
    split at hr
    · obtain ⟨_, _, hr⟩ := bind_eq_ok.mp hr; cases hr; rfl
    · exact absurd (by assumption) hc.1
    · exact absurd (by assumption) hc.2.1
    · exact absurd (by assumption) hc.2.2
    · cases hr; rfl
  | fwd f => rw [step_idle (by simpa [hooksOf] using hc.2.1)] at h; cases h; rfl
  | noReimports => rw [step_idle (by simpa [hooksOf] using hc.2.2)] at h; cases h; rfl
  | identity => cases h; rfl

theorem applyAll_returns_arg {c : Call} (hc : c.hook ∉ rewritingHooks) {ps ps' : List PState} {x y : Payload}
    (h : applyAll PState.step c ps x = .ok (ps', y)) : y = x :=
  applyAll_invariant (· = x) (fun _ _ _ _ hx hs => (step_returns_arg hc hs).trans hx) ps ps' x y rfl h

/-- the generator's own bookkeeping (what `record` keeps, what `inputFor` reads) is the same in two runs -/
structure SameBooks (P Q : PipeState) : Prop where
  methods : P.methodsOut = Q.methodsOut
  imports : P.importsOut = Q.importsOut
  gql : P.gqlOut = Q.gqlOut
  cls : P.classOut = Q.classOut
  init : P.initImports = Q.initImports

theorem SameBooks.inputFor {P Q : PipeState} (h : SameBooks P Q) (e : Event) : inputFor P e = inputFor Q e := by
  unfold Plugins.inputFor
  rw [h.methods, h.imports, h.gql, h.cls, h.init]

theorem record_trace (ps : PipeState) (c : Call) (y : Payload) : (record ps c y).trace = ps.trace := by
  unfold record; split <;> (try split) <;> rfl

theorem record_plugins (ps : PipeState) (c : Call) (y : Payload) : (record ps c y).plugins = ps.plugins := by
  unfold record; split <;> (try split) <;> rfl

/-- the hooks whose result the generator keeps for later calls -/
def recordedHooks : List String :=
  ["generate_client_method", "generate_client_import", "generate_gql_function", "generate_client_class", "generate_init_import"]

theorem record_silent {c : Call} (h : c.hook ∉ recordedHooks) (ps : PipeState) (y : Payload) : record ps c y = ps := by
  simp only [recordedHooks, List.mem_cons, List.not_mem_nil, or_false, not_or] at h
  unfold record
  split <;> simp_all

theorem record_method {c : Call} (hc : c.hook = "generate_client_method") (ps : PipeState) (m : Method) :
    record ps c (.method m) = { ps with methodsOut := ps.methodsOut ++ [m] } := by
  unfold record; simp [hc]

theorem record_class {c : Call} (hc : c.hook = "generate_client_class") (ps : PipeState) (k : ClassDef) :
    record ps c (.klass k) = { ps with classOut := some k } := by
  unfold record; simp [hc]

theorem SameBooks.record {P Q : PipeState} (h : SameBooks P Q) (c : Call) (y : Payload) :
    SameBooks (record P c y) (record Q c y) := by
  obtain ⟨h1, h2, h3, h4, h5⟩ := h
  unfold Plugins.record
  split
  · exact ⟨by simp [h1], h2, h3, h4, h5⟩
  · rename_i i _
    by_cases hk : keepClientImport c i = true
    · simp only [hk, ↓reduceIte]; exact ⟨h1, by simp [h2], h3, h4, h5⟩
    · simp only [hk]; exact ⟨h1, h2, h3, h4, h5⟩
  · exact ⟨h1, h2, rfl, h4, h5⟩
  · exact ⟨h1, h2, h3, rfl, h5⟩
  · exact ⟨h1, h2, h3, h4, by simp [h5]⟩
  · exact ⟨h1, h2, h3, h4, h5⟩

def PipeRel (p1 p2 : PipeState) : Prop :=
  InsertedAt PState.identity p1.plugins p2.plugins ∧ SameBooks p1 p2 ∧ p1.trace = p2.trace

theorem record_rel (p1 p2 : PipeState) (c : Call) (y : Payload) (h : PipeRel p1 p2) :
    PipeRel (record p1 c y) (record p2 c y) := by
  obtain ⟨h0, hb, h6⟩ := h
  exact ⟨by rw [record_plugins, record_plugins]; exact h0, hb.record c y, by rw [record_trace, record_trace, h6]⟩

theorem stepEvent_rel (p1 p2 : PipeState) (e : Event) (h : PipeRel p1 p2) :
    (∃ err, stepEvent p1 e = .error err ∧ stepEvent p2 e = .error err) ∨
    (∃ q1 q2, stepEvent p1 e = .ok q1 ∧ stepEvent p2 e = .ok q2 ∧ PipeRel q1 q2) := by
  unfold stepEvent manager
  rw [h.2.1.inputFor e]
  dsimp only
  obtain ⟨h0, hb, h6⟩ := h
  rcases applyAll_inserted PState.step .identity identity_step e.call p1.plugins p2.plugins (inputFor p2 e) h0 with
    ⟨err, e1, e2⟩ | ⟨l1, l2, y, e1, e2, hins⟩
  · left; exact ⟨err, by rw [e1]; rfl, by rw [e2]; rfl⟩
  · right
    rw [e1, e2]
    simp only [bind_ok, pure_eq_ok]
    refine ⟨_, _, rfl, rfl, ?_⟩
    apply record_rel
    exact ⟨hins, ⟨hb.methods, hb.imports, hb.gql, hb.cls, hb.init⟩, by simp [h6]⟩

theorem runPipeline_rel (evs : List Event) : ∀ (p1 p2 : PipeState), PipeRel p1 p2 →
    (runPipeline p1 evs).2 = (runPipeline p2 evs).2 ∧ PipeRel (runPipeline p1 evs).1 (runPipeline p2 evs).1 := by
  induction evs with
  | nil => intro p1 p2 h; exact ⟨rfl, h⟩
  | cons e rest ih =>
    intro p1 p2 h
    unfold runPipeline
    rcases stepEvent_rel p1 p2 e h with ⟨err, e1, e2⟩ | ⟨q1, q2, e1, e2, hq⟩
    · rw [e1, e2]; exact ⟨rfl, h⟩
    · rw [e1, e2]; exact ih q1 q2 hq

theorem empty_init_stays_empty (c : Call) (hc : c.hook = "generate_init_module") (p p' : PState) (y : Payload)
    (h : PState.step c p (.module { body := [] }) = .ok (p', y)) : y = .module { body := [] } := by
  cases p with
  | extract st =>
    simp only [PState.step, extractStep, hc, extractInitModule] at h
    simp only [List.isEmpty_nil, ↓reduceIte, bind, Except.bind, pure, Except.pure] at h
    cases hf : extractOpsFile st with
    | error e => simp [hf] at h
    | ok f => simp [hf] at h; exact h.2.symm
  | noReimports =>
    simp only [PState.step, noReimportsStep, hc, pure, Except.pure, Except.ok.injEq, Prod.mk.injEq] at h
    exact h.2.symm
  | _ => rw [step_idle (by simp [hooksOf, hc])] at h; cases h; rfl

theorem empty_init_through_list (c : Call) (hc : c.hook = "generate_init_module") (ps ps' : List PState) (y : Payload)
    (h : applyAll PState.step c ps (.module { body := [] }) = .ok (ps', y)) : y = .module { body := [] } :=
  applyAll_invariant (· = .module { body := [] })
    (fun p x p' y hx hs => by subst hx; exact empty_init_stays_empty c hc p p' y hs) ps ps' _ y rfl h

theorem step_keeps_module (c : Call) (p p' : PState) (m : Module) (y : Payload)
    (h : PState.step c p (.module m) = .ok (p', y)) : ∃ m', y = .module m' := by
  by_cases hi : c.hook ∉ hooksOf p
  · rw [step_idle hi] at h; cases h; exact ⟨m, rfl⟩
  cases p with
  | shorter st =>
    rw [shorter_step_eq] at h
    obtain ⟨r, hr, h⟩ := bind_eq_ok.mp h
    cases h
    by_cases hc : c.hook = "generate_client_module"
    · simp only [shorterStep, hc] at hr
      obtain ⟨_, _, hr⟩ := bind_eq_ok.mp hr
      cases hr; exact ⟨_, rfl⟩
    · obtain ⟨st', hs⟩ := shorterStep_noncm c hc st (.module m)
      rw [hs] at hr; cases hr; exact ⟨m, rfl⟩
  | extract st =>
    simp only [PState.step, extractStep] at h
    split at h
    · rename_i hm; cases hm
    · rename_i hm; cases hm
    · simp [bind, Except.bind, pure, Except.pure] at h; exact ⟨_, h.2.symm⟩
    · rename_i hm
      cases hm
      cases hx : extractInitModule st m with
      | error e => simp [hx, bind, Except.bind] at h
      | ok r => simp [hx, bind, Except.bind, pure, Except.pure] at h; exact ⟨_, h.2.symm⟩
    · simp [bind, Except.bind, pure, Except.pure] at h; exact ⟨_, h.2.symm⟩
  | fwd st =>
    have hc : c.hook = "generate_client_module" := by simpa [hooksOf] using hi
    rw [fwd_step_eq] at h
    obtain ⟨r, hr, h⟩ := bind_eq_ok.mp h
    cases h
    simp only [fwdStep, hc] at hr
    obtain ⟨_, _, hr⟩ := bind_eq_ok.mp hr
    cases hr; exact ⟨_, rfl⟩
  | noReimports =>
    cases h
    unfold noReimportsStep
    split <;> exact ⟨_, rfl⟩
  | identity => simp [hooksOf] at hi

theorem applyAll_keeps_module (c : Call) (ps l : List PState) (m : Module) (y : Payload)
    (h : applyAll PState.step c ps (.module m) = .ok (l, y)) : ∃ m', y = .module m' :=
  applyAll_invariant (fun y => ∃ m', y = .module m')
    (fun p x p' y ⟨m0, hx⟩ hs => by subst hx; exact step_keeps_module c p p' m0 y hs) ps l _ y ⟨m, rfl⟩ h

/-- a list of the two plugins that leave everything but `__init__` alone: the identity plugin and NoReimports -/
def Inert (ps : List PState) : Prop := ∀ p ∈ ps, p = PState.identity ∨ p = PState.noReimports

theorem Inert.idle {c : Call} {ps : List PState} (h : Inert ps) (hc : c.hook ≠ "generate_init_module") :
    ∀ p ∈ ps, c.hook ∉ hooksOf p := fun p hp => by
  rcases h p hp with rfl | rfl <;> simp [hooksOf, hc]

theorem inert_manager (c : Call) : ∀ (ps : List PState), Inert ps → ∀ (x : Payload),
    ∃ y, applyAll PState.step c ps x = .ok (ps, y) ∧
      (y = x ∨ (c.hook = "generate_init_module" ∧ (∃ m, x = .module m) ∧ y = .module { body := [] })) := by
  intro ps
  induction ps with
  | nil => intro _ x; exact ⟨x, rfl, .inl rfl⟩
  | cons p rest ih =>
    intro hin x
    have hrest : Inert rest := fun q hq => hin q (by simp [hq])
    rw [applyAll_cons]
    rcases hin p (by simp) with rfl | rfl
    · obtain ⟨y, hy, hy2⟩ := ih hrest x
      refine ⟨y, ?_, hy2⟩
      show (Except.ok (PState.identity, x) >>= _) = _
      simp only [bind_ok, hy, pure_eq_ok]
    · obtain ⟨y, hy, hy2⟩ := ih hrest (noReimportsStep c x)
      refine ⟨y, ?_, ?_⟩
      · show (Except.ok (PState.noReimports, noReimportsStep c x) >>= _) = _
        simp only [bind_ok, hy, pure_eq_ok]
      ·
        have hx : noReimportsStep c x = x ∨
            (c.hook = "generate_init_module" ∧ (∃ m, x = .module m) ∧ noReimportsStep c x = .module { body := [] }) := by
          unfold noReimportsStep
          split
          · rename_i m h1; exact .inr ⟨h1, ⟨m, rfl⟩, rfl⟩
          · exact .inl rfl
        rcases hx with hx | ⟨h1, h2, h3⟩
        · rw [hx] at hy2; exact hy2
        · right
          refine ⟨h1, h2, ?_⟩
          rcases hy2 with h | ⟨_, _, h⟩
          · rw [h, h3]
          · exact h

/-- a run with an inert list against the unplugged run; `generate_init_module` is excepted because NoReimports empties it -/
def InertRel (p1 p2 : PipeState) : Prop :=
  Inert p1.plugins ∧ p2.plugins = [] ∧ SameBooks p1 p2 ∧
    ∀ hook, hook ≠ "generate_init_module" → p1.finalOf hook = p2.finalOf hook

def finalOfTrace (t : List (Call × Payload × Payload)) (hook : String) : Option Payload :=
  (t.reverse.find? (fun e => e.1.hook == hook)).map (·.2.2)

theorem finalOf_eq (ps : PipeState) (hook : String) : ps.finalOf hook = finalOfTrace ps.trace hook := rfl

theorem finalOfTrace_snoc (t : List (Call × Payload × Payload)) (c : Call) (x y : Payload) (hook : String) :
    finalOfTrace (t ++ [(c, x, y)]) hook = if c.hook == hook then some y else finalOfTrace t hook := by
  unfold finalOfTrace
  simp only [List.reverse_append, List.reverse_cons, List.reverse_nil, List.nil_append, List.cons_append, List.find?_cons]
  split <;> simp_all

theorem record_finalOf (ps : PipeState) (c : Call) (y : Payload) (hook : String) :
    (record ps c y).finalOf hook = ps.finalOf hook := by
  unfold PipeState.finalOf
  rw [record_trace]

theorem stepEvent_inert (p1 p2 : PipeState) (e : Event) (h : InertRel p1 p2) :
    ∃ q1 q2, stepEvent p1 e = .ok q1 ∧ stepEvent p2 e = .ok q2 ∧ InertRel q1 q2 := by
  obtain ⟨hin, hnil, hb, hf⟩ := h
  obtain ⟨y, hy, hy2⟩ := inert_manager e.call p1.plugins hin (inputFor p2 e)
  replace hy2 : e.call.hook ≠ "generate_init_module" → y = inputFor p2 e := fun hc => hy2.resolve_right (fun h => hc h.1)
  unfold stepEvent manager
  rw [hb.inputFor e, hnil]
  dsimp only
  rw [hy]
  simp only [bind_ok, pure_eq_ok]
  have hnilrun : applyAll PState.step e.call [] (inputFor p2 e) = .ok ([], inputFor p2 e) := rfl
  rw [hnilrun]
  simp only [bind_ok]
  refine ⟨_, _, rfl, rfl, ?_⟩
  by_cases hc : e.call.hook = "generate_init_module"
  · rw [record_silent (by simp [recordedHooks, hc]), record_silent (by simp [recordedHooks, hc])]
    refine ⟨hin, rfl, ⟨hb.methods, hb.imports, hb.gql, hb.cls, hb.init⟩, ?_⟩
    intro hook hh
    rw [finalOf_eq, finalOf_eq]
    simp only [finalOfTrace_snoc]
    have : (e.call.hook == hook) = false := by rw [hc]; simp; exact fun h => hh h.symm
    simp only [this, Bool.false_eq_true, ↓reduceIte]
    have := hf hook hh
    rw [finalOf_eq, finalOf_eq] at this
    exact this
  · have hyx := hy2 hc
    subst hyx
    refine ⟨by rw [record_plugins]; exact hin, by rw [record_plugins], ?_, ?_⟩
    · apply SameBooks.record
      exact ⟨hb.methods, hb.imports, hb.gql, hb.cls, hb.init⟩
    intro hook hh
    rw [record_finalOf, record_finalOf, finalOf_eq, finalOf_eq]
    simp only [finalOfTrace_snoc]
    have := hf hook hh
    rw [finalOf_eq, finalOf_eq] at this
    rw [this]

theorem inert_opsFile (ps : PipeState) (h : Inert ps.plugins) : ps.opsFile? = none := by
  unfold PipeState.opsFile?
  rw [List.findSome?_eq_none_iff]
  intro p hp
  rcases h p (by simpa using hp) with rfl | rfl <;> rfl

theorem inert_no_shorter (ps : List PState) (h : Inert ps) : ps.any PState.isShorter = false := by
  rw [List.any_eq_false]
  intro p hp
  rcases h p hp with rfl | rfl <;> simp [PState.isShorter]

theorem outcome_map_id {α} (o : Outcome α) : o.map (fun a => a) = o := by cases o <;> rfl

end Ariadne.C15
