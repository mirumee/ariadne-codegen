/-
  Proofs/C04Lists.lean — `hasDup` decides `¬ Nodup`.
-/
import AriadneModel.Model.Package
import AriadneModel.Proofs.Util


namespace Ariadne.C04Proofs
open Ariadne.Package

theorem hasDup_eq_false_iff (l : List String) : hasDup l = false ↔ l.Nodup :=
  Lists.hasDup_iff_of_eqns hasDup rfl (fun _ _ => rfl) l

end Ariadne.C04Proofs
