/-
  Proofs/C04Ops.lean — invariants of `main.client`'s loop `for query in queries: add_operation(query)`
  (`Package.addOperations`): what is in `_result_types_files`, in the init imports, in the client generator, and in the
  lists the later steps read, after any number of operations (`OpsInv`); the module name of an operation is not written
  with a leading dot (`methodName_head`); the same loop as C08's model of it sees it (`addOperations_bridge`).
-/
import AriadneModel.Model.Package
import AriadneModel.Proofs.C04Steps
import AriadneModel.Proofs.Names


namespace Ariadne.C04Proofs
open Ariadne.Package
open Ariadne.ResultTypes (pascal)

theorem word_fallback : Names.Word Names.fallbackName := by decide +kernel

theorem word_methodName (n : Names.Name) : Names.Word (Names.processName Names.operationCfg n) := by
  cases hu : Names.allUnderscore n with
  | true => rw [Names.processName_snake_allU _ n rfl hu]; exact word_fallback
  | false =>
    rw [Names.processName_snake _ n rfl hu]
    rcases Names.suffix_cases Names.operationCfg (Names.snake n) with ⟨_, h⟩ | ⟨_, h⟩
    · rw [h]; exact Names.word_snake n
    · rw [h]; exact (Names.word_append_underscore _).mpr (Names.word_snake n)

theorem methodName_head (n : String) : ((methodName n).toList.head? == some '.') = false := by
  unfold methodName
  have hw : Names.Word (Names.pyName true .operation n.toList) := word_methodName n.toList
  generalize Names.pyName true .operation n.toList = w at hw
  cases w with
  | nil => simp
  | cons c cs =>
    have hc := hw c List.mem_cons_self
    have : c ≠ '.' := by
      intro e
      rw [e, Names.dot_not_word] at hc
      cases hc
    simp [this]

/-- the package generator's state, described through the generators that ran (`outs`) -/
structure OpsInv (cfg : Config) (inp : Input) (fl : Nat) (st : St) : Prop where
  files : ∀ fm ∈ st.files, ∃ g ∈ st.outs, fm.1 = pyFile (methodName g.name) ∧ fm.2 = resultModule cfg fm.1 g.out
  keys : ∀ g ∈ st.outs, ∃ fm ∈ st.files, fm.1 = pyFile (methodName g.name)
  init : ∀ i ∈ st.init, ∃ g ∈ st.outs, i = ⟨1, methodName g.name, g.out.st.publicNames⟩
  initHas : ∀ g ∈ st.outs, g.out.st.publicNames ≠ [] → (⟨1, methodName g.name, g.out.st.publicNames⟩ : Import) ∈ st.init
  gens : ∀ g ∈ st.outs, ∃ o ∈ inp.ops, ∃ marks, o.op.name = some g.name ∧
    ResultTypes.generate (rtEnv cfg inp) fl (.op o.op) marks = .ok g.out
  usedEnums : st.usedEnums = st.outs.flatMap (·.out.st.usedEnums)
  entries : ∀ e ∈ st.entries, ∃ g ∈ st.outs, e.module = methodName g.name ∧ e.method.returnType = pascal g.name

theorem opsInv_nil (cfg : Config) (inp : Input) (fl : Nat) : OpsInv cfg inp fl {} :=
  ⟨fun _ h => (by cases h), fun _ h => (by cases h), fun _ h => (by cases h), fun _ h => (by cases h), fun _ h => (by cases h), rfl,
   fun _ h => (by cases h)⟩

theorem addMethod_returnType {env : Arguments.Env} {ot : ClientMethod.OpType} {on : Option String} {defs : List Arguments.VarDef}
    {name rt text : String} {async : Bool} {st st' : Arguments.St} {m : ClientMethod.Method}
    (h : ClientMethod.addMethod env ot on defs name rt text async st = .ok (m, st')) : m.returnType = rt ∧ m.name = name := by
  obtain ⟨out, k, _, rfl, _⟩ := addMethod_ok h
  exact ⟨rfl, rfl⟩

theorem opsInv_step {cfg : Config} {inp : Input} {fl : Nat} {st st' : St} {o : OpIn} (ho : o ∈ inp.ops)
    (hI : OpsInv cfg inp fl st) (h : addOperation cfg inp fl st o = .ok st') : OpsInv cfg inp fl st' := by
  obtain ⟨n, out, m, argSt, hn, hg, hm, rfl⟩ := addOperation_ok h
  have hnew : (⟨n, out⟩ : Fragments.DefGen) ∈ st.outs ++ [⟨n, out⟩] := by simp
  refine ⟨?_, ?_, ?_, ?_, ?_, ?_, ?_⟩
  · intro fm hfm
    rcases mem_dictSet hfm with rfl | hfm
    · exact ⟨⟨n, out⟩, hnew, rfl, rfl⟩
    · obtain ⟨g, hg', h1, h2⟩ := hI.files fm hfm
      exact ⟨g, List.mem_append_left _ hg', h1, h2⟩
  · intro g hgm
    -- the key of the new operation is set; the keys of the earlier ones stay
    have : pyFile (methodName g.name) ∈ (dictSet st.files (pyFile (methodName n)) (resultModule cfg (pyFile (methodName n)) out)).map (·.1) := by
      refine (mem_keys_dictSet _ _ _ _).mpr ?_
      rcases List.mem_append.mp hgm with hgm | hgm
      · obtain ⟨fm, hfm, e⟩ := hI.keys g hgm
        exact Or.inr (List.mem_map.mpr ⟨fm, hfm, e⟩)
      · exact Or.inl (by rw [List.mem_singleton.mp hgm])
    obtain ⟨fm, hfm, e⟩ := List.mem_map.mp this
    exact ⟨fm, hfm, e⟩
  · intro i hi
    unfold initAdd at hi
    split at hi
    · obtain ⟨g, hg', e⟩ := hI.init i hi
      exact ⟨g, List.mem_append_left _ hg', e⟩
    · rcases List.mem_append.mp hi with hi | hi
      · obtain ⟨g, hg', e⟩ := hI.init i hi
        exact ⟨g, List.mem_append_left _ hg', e⟩
      · have : i = ⟨1, methodName n, out.st.publicNames⟩ := by simpa using hi
        exact ⟨⟨n, out⟩, hnew, this⟩
  · intro g hgm hne
    unfold initAdd
    rcases List.mem_append.mp hgm with hgm | hgm
    · have := hI.initHas g hgm hne
      split
      · exact this
      · exact List.mem_append_left _ this
    · have : g = ⟨n, out⟩ := by simpa using hgm
      subst this
      have : out.st.publicNames.isEmpty = false := by
        cases hp : out.st.publicNames with
        | nil => exact absurd hp hne
        | cons _ _ => rfl
      simp [this]
  · intro g hgm
    rcases List.mem_append.mp hgm with hgm | hgm
    · exact hI.gens g hgm
    · have : g = ⟨n, out⟩ := by simpa using hgm
      subst this
      exact ⟨o, ho, st.marks, hn, hg⟩
  · simp [hI.usedEnums]
  · intro e he
    rcases List.mem_append.mp he with he | he
    · obtain ⟨g, hg', h1, h2⟩ := hI.entries e he
      exact ⟨g, List.mem_append_left _ hg', h1, h2⟩
    · have : e = ⟨m, methodName n⟩ := by simpa using he
      subst this
      exact ⟨⟨n, out⟩, hnew, rfl, (addMethod_returnType hm).1⟩

theorem opsInv_of {cfg : Config} {inp : Input} {fl : Nat} {st : St} (h : addOperations cfg inp fl {} inp.ops = .ok st) :
    OpsInv cfg inp fl st :=
  addOperations_ind (OpsInv cfg inp fl) (opsInv_nil cfg inp fl) (fun _ _ _ ho hI hs => opsInv_step ho hI hs) h

/-- the part of the package generator's state C08's model of the loop keeps -/
def opsOut (st : St) : Fragments.OpsOut := { ops := st.outs, unpacked := st.unpacked, marks := st.marks }

/-- one `add_operation`, seen by C08's model of the loop: the same generator call, the same three updates -/
theorem addOperation_bridge {cfg : Config} {inp : Input} {fl : Nat} {st st' : St} {o : OpIn}
    (h : addOperation cfg inp fl st o = .ok st') : Fragments.addOperation (rtEnv cfg inp) fl (opsOut st) o.op = .ok (opsOut st') := by
  obtain ⟨n, out, m, argSt, hn, hg, _, rfl⟩ := addOperation_ok h
  simp only [Fragments.addOperation, opsOut, hn, hg]

theorem addOperations_bridge {cfg : Config} {inp : Input} {fl : Nat} (ops : List OpIn) (st st' : St)
    (h : addOperations cfg inp fl st ops = .ok st') :
    Fragments.addOperationsFrom (rtEnv cfg inp) fl (opsOut st) (ops.map (·.op)) = .ok (opsOut st') := by
  fun_induction addOperations cfg inp fl st ops with
  | case1 st => cases h; rfl
  | case2 st o rest e ha => cases h
  | case3 st o rest st1 ha ih => simp only [List.map_cons, Fragments.addOperationsFrom, addOperation_bridge ha, ih h]

end Ariadne.C04Proofs
