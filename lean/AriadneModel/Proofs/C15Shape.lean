/-
  C15: the recogniser `shapeOf` of Model/ClientSem.lean is exact —
      shapeOf m = some s  ↔  m.body = bodyOf s.
  So "the method has the generated shape" is the decidable `(shapeOf m).isSome`; the harness checks the round trip
  `bodyOf (shapeOf m) = m.body` on every real method as well.
-/
import AriadneModel.Proofs.C15Method


namespace Ariadne.C15
open Ariadne.Py Ariadne.ClientSem

theorem projOf_foldl (c d : String) : ∀ (fs : List String) (e : Ex) (p : List String),
    projOf e = some (c, d, p) → projOf (fs.foldl (fun e f => Ex.attr e f) e) = some (c, d, p ++ fs) := by
  intro fs
  induction fs with
  | nil => intro e p h; simpa using h
  | cons f rest ih =>
    intro e p h
    simp only [List.foldl_cons]
    have : projOf (.attr e f) = some (c, d, p ++ [f]) := by simp [projOf, h]
    rw [ih (.attr e f) (p ++ [f]) this]
    simp

theorem projOf_projExpr (c d : String) (fs : List String) : projOf (projExpr c d fs) = some (c, d, fs) := by
  unfold projExpr
  have := projOf_foldl c d fs (.call (.attr (.name c) "model_validate") [.name d] [] []) [] (by simp [projOf])
  simpa using this

theorem projOf_sound (e : Ex) : ∀ (c d : String) (fs : List String), projOf e = some (c, d, fs) → e = projExpr c d fs := by
  fun_induction projOf e with
  | case1 e f ih =>
    intro c d fs h
    cases hp : projOf e with
    | none => simp [hp] at h
    | some r =>
      obtain ⟨c', d', fs'⟩ := r
      simp [hp] at h
      obtain ⟨rfl, rfl, rfl⟩ := h
      rw [projExpr_snoc, ← ih c' d' fs' hp]
  | case2 c0 d0 =>
    intro c d fs h
    simp at h
    obtain ⟨rfl, rfl, rfl⟩ := h
    rfl
  | case3 e h1 h2 =>
    intro c d fs h
    cases h

theorem execArgs_execCall (callee : String) (s : Shape) :
    execArgs callee (execCall callee s) = some (s.queryName, s.opName, s.varsVar, s.kwargs) := by
  simp [execArgs, execCall]

theorem execArgs_sound (callee : String) (e : Ex) (q o v : String) (kw : Ex)
    (h : execArgs callee e = some (q, o, v, kw)) :
    e = .call (.attr (.name "self") callee) [] [some "query", some "operation_name", some "variables", none]
          [.name q, .const o, .name v, kw] := by
  unfold execArgs at h
  split at h
  · split at h
    · rename_i hf
      simp at h
      obtain ⟨rfl, rfl, rfl, rfl⟩ := h
      rw [hf]
    · cases h
  · cases h

theorem splitImports_spec : ∀ (body : List Stmt),
    body = (splitImports body).1.map (fun i => Stmt.simple (.importFrom i)) ++ (splitImports body).2 := by
  intro body
  fun_induction splitImports body with
  | case1 i rest r ih => simp only [List.map_cons, List.cons_append]; rw [← ih]
  | case2 rest h => simp

theorem splitImports_prefix (rest : List Stmt) (hrest : splitImports rest = ([], rest)) : ∀ (is : List ImportFrom),
    splitImports (is.map (fun i => Stmt.simple (.importFrom i)) ++ rest) = (is, rest) := by
  intro is
  induction is with
  | nil => simpa using hrest
  | cons i tl ih => simp [splitImports, ih]

theorem tailOf_tailStmts (s : Shape) :
    tailOf (tailStmts s) = some (s.tail, (s.queryName, s.opName, s.varsVar, s.kwargs), (s.retClass, s.dataVar, s.proj)) := by
  unfold tailStmts Shape.dataVar
  cases s.tail with
  | call aw r d =>
    cases aw with
    | true => simp [tailOf, execArgs_execCall, projOf_projExpr]
    | false =>
      simp [tailOf, projOf_projExpr]
      simp [execCall, execArgs]
  | sub d l o => simp [tailOf, execArgs_execCall, projOf_projExpr]

theorem shapeOf_bodyOf (m : Method) (s : Shape) (hb : m.body = bodyOf s) : shapeOf m = some s := by
  unfold shapeOf
  rw [hb]
  unfold bodyOf
  simp only [List.append_assoc]
  cases hop : s.op with
  | inline q ls =>
    rw [splitImports_prefix _ (by simp [opStmts, hop, splitImports])]
    simp only [opStmts, hop, tailOf_tailStmts, Shape.queryName, List.cons_append, List.nil_append, and_self, ↓reduceIte,
      Option.some.injEq]
    rw [← hop]
  | const cn =>
    rw [splitImports_prefix _ (by simp [opStmts, hop, splitImports])]
    simp only [opStmts, hop, tailOf_tailStmts, Shape.queryName, List.cons_append, List.nil_append, ↓reduceIte,
      Option.some.injEq]
    rw [← hop]


theorem tailOf_sound (tl : List Stmt) (t : Tail) (q o v : String) (kw : Ex) (c dd : String) (fs : List String)
    (h : tailOf tl = some (t, (q, o, v, kw), (c, dd, fs))) (s : Shape)
    (h1 : s.tail = t) (h2 : s.queryName = q) (h3 : s.opName = o) (h4 : s.varsVar = v) (h5 : s.kwargs = kw)
    (h6 : s.retClass = c) (h7 : s.proj = fs) : tl = tailStmts s := by
  unfold tailOf at h
  split at h
  · -- query / mutation
    rename_i r e d r' rv
    split at h
    · rename_i hr
      subst hr
      split at h
      · -- awaited
        rename_i c0
        split at h
        · rename_i a p ha hp
          split at h
          · rename_i hd
            simp only [Option.some.injEq, Prod.mk.injEq] at h
            obtain ⟨rfl, rfl, rfl⟩ := h
            have hc0 := execArgs_sound "execute" c0 q o v kw ha
            have hrv := projOf_sound rv c dd fs hp
            simp only at hd
            subst hd
            unfold tailStmts
            rw [h1]
            simp only [execCall, h2, h3, h4, h5, h6, h7, ↓reduceIte]
            rw [hc0, hrv]
          · cases h
        · cases h
      · -- not awaited
        rename_i c0 hnot
        split at h
        · rename_i a p ha hp
          split at h
          · rename_i hd
            simp only [Option.some.injEq, Prod.mk.injEq] at h
            obtain ⟨rfl, rfl, rfl⟩ := h
            have hc0 := execArgs_sound "execute" e q o v kw ha
            have hrv := projOf_sound rv c dd fs hp
            simp only at hd
            subst hd
            unfold tailStmts
            rw [h1]
            simp only [execCall, h2, h3, h4, h5, h6, h7, Bool.false_eq_true, ↓reduceIte]
            rw [hc0, hrv]
          · cases h
        · cases h
    · cases h
  · -- subscription
    rename_i d it rv l o'
    split at h
    · rename_i a p ha hp
      split at h
      · rename_i hd
        simp only [Option.some.injEq, Prod.mk.injEq] at h
        obtain ⟨rfl, rfl, rfl⟩ := h
        have hc0 := execArgs_sound "execute_ws" it q o v kw ha
        have hrv := projOf_sound rv c dd fs hp
        simp only at hd
        subst hd
        unfold tailStmts
        rw [h1]
        simp only [execCall, h2, h3, h4, h5, h6, h7]
        rw [hc0, hrv]
      · cases h
    · cases h
  · cases h

theorem shapeOf_sound (m : Method) (s : Shape) (h : shapeOf m = some s) : m.body = bodyOf s := by
  unfold shapeOf at h
  have hsplit := splitImports_spec m.body
  generalize splitImports m.body = sp at h hsplit
  obtain ⟨imps, rest⟩ := sp
  simp only at h hsplit
  split at h
  · -- inlined operation
    rename_i q lines v ann dict tail
    split at h
    · rename_i t q' o v' kw c dd fs htail
      split at h
      · rename_i hq
        simp only [Option.some.injEq] at h
        subst h
        obtain ⟨rfl, rfl⟩ := hq
        have ht := tailOf_sound tail t q' o v' kw c dd fs htail
          { imports := imps, op := .inline q' lines, opName := o, varsVar := v', varsAnn := ann, variables := dict,
            kwargs := kw, tail := t, retClass := c, proj := fs } rfl rfl rfl rfl rfl rfl rfl
        rw [hsplit, ht]
        simp [bodyOf, opStmts]
      · cases h
    · cases h
  · -- operation constant
    rename_i v ann dict tail
    split at h
    · rename_i t q' o v' kw c dd fs htail
      split at h
      · rename_i hq
        simp only [Option.some.injEq] at h
        subst h
        subst hq
        have ht := tailOf_sound tail t q' o v' kw c dd fs htail
          { imports := imps, op := .const q', opName := o, varsVar := v', varsAnn := ann, variables := dict,
            kwargs := kw, tail := t, retClass := c, proj := fs } rfl rfl rfl rfl rfl rfl rfl
        rw [hsplit, ht]
        simp [bodyOf, opStmts]
      · cases h
    · cases h
  · cases h

theorem shapeOf_iff (m : Method) (s : Shape) : shapeOf m = some s ↔ m.body = bodyOf s :=
  ⟨shapeOf_sound m s, shapeOf_bodyOf m s⟩

end Ariadne.C15
