/-
  Proofs/C04WitnessB.lean — what is observed, by `decide +kernel` through the whole package model, on four finding witnesses of
  Properties/C04.lean.  For a witness whose run ends in a package, the observation is the one part of `moduleOK` that fails on
  a generated module and the one trigger that holds (evaluating `Holds` itself would check every part of every module
  written before the bad one).
-/
import AriadneModel.Proofs.C04Scope

namespace Ariadne.C04.Witness
open Ariadne.Package Ariadne.PackageTriggers Ariadne.Spec.PyScope
open Ariadne.C04Proofs (partFails not_supported_of_mem)

/-- What the kernel evaluates on the concrete inputs of this file, in one declaration: every evaluation that converts a name decodes
    the keyword tables of `Model/Names.lean`, and the kernel shares work only inside one declaration.  The lemmas named after the
    inputs are its components. -/
theorem evaluatedB :
    (Valid {} W.missingRebuild ∧ onIR {} W.missingRebuild (partFails fun _ m => rebuildsComplete m) = true ∧
      onIR {} W.missingRebuild trigMissingRebuild = true) ∧
    (Valid {} W.fieldLookup ∧ ¬ Holds (modelRun {} W.fieldLookup) ∧
      trigFieldLookupWrongType (Triggers01.run (t01Input {} W.fieldLookup)) = true) ∧
    (Valid {} W.enumList ∧ onIR {} W.enumList (partFails fun _ m => bindingsUnique m) = true ∧
      onIR {} W.enumList trigNameBoundTwice = true) ∧
    (Valid {} W.unpackedInherited ∧ onIR {} W.unpackedInherited (partFails importsResolve) = true ∧
      (Triggers01.trigMixinAndUnpacked (Triggers01.run (t01Input {} W.unpackedInherited)) ||
        Fragments.trigUnpackedAndInherited id (rtEnv {} W.unpackedInherited) fuel (W.unpackedInherited.ops.map (·.op))) = true) := by
  decide +kernel

theorem missingRebuild_observed : Valid {} W.missingRebuild ∧ onIR {} W.missingRebuild (partFails fun _ m => rebuildsComplete m) = true ∧
    onIR {} W.missingRebuild trigMissingRebuild = true := evaluatedB.1

/-- the run on `fieldLookup` ends in an undocumented exception -/
theorem fieldLookup_observed : Valid {} W.fieldLookup ∧ ¬ Holds (modelRun {} W.fieldLookup) ∧
    trigFieldLookupWrongType (Triggers01.run (t01Input {} W.fieldLookup)) = true := evaluatedB.2.1

theorem F12_fails_in_model : Valid {} W.fieldLookup ∧ ¬ Holds (modelRun {} W.fieldLookup) ∧ ¬ Supported_04 {} W.fieldLookup :=
  ⟨fieldLookup_observed.1, fieldLookup_observed.2.1,
   not_supported_of_mem (n := "fieldLookupWrongType") (by trigger_mem) fieldLookup_observed.2.2⟩

theorem enumList_observed : Valid {} W.enumList ∧ onIR {} W.enumList (partFails fun _ m => bindingsUnique m) = true ∧
    onIR {} W.enumList trigNameBoundTwice = true := evaluatedB.2.2.1

theorem unpackedInherited_observed : Valid {} W.unpackedInherited ∧ onIR {} W.unpackedInherited (partFails importsResolve) = true ∧
    (Triggers01.trigMixinAndUnpacked (Triggers01.run (t01Input {} W.unpackedInherited)) ||
      Fragments.trigUnpackedAndInherited id (rtEnv {} W.unpackedInherited) fuel (W.unpackedInherited.ops.map (·.op))) = true := evaluatedB.2.2.2

end Ariadne.C04.Witness
