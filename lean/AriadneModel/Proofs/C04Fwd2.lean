/-
  Proofs/C04Fwd2.lean — `forwardRefsOK` of the operation modules and of `fragments.py` inside the region
  `PackageValid.leafNamesOK`.
-/
import AriadneModel.Proofs.C04Fwd
import AriadneModel.Proofs.C04ModResult


namespace Ariadne.ResultTypes
open Ariadne.Gql Ariadne.Package Ariadne.PackageValid

theorem generate_fwd {env : Env} (hstr : Validate.isComposite env.schema "String" = false)
    (htn : ∀ tn fd, env.schema.fieldOf? tn typenameField = some fd → Validate.isComposite env.schema fd.type.base = false)
    (hfr : ∀ n f, findFragment? env.frags n = some f → SelsAll (LeafP env) f.sel)
    (fuel : Nat) (d : Definition) (marks : List Nat) (o : ModuleOut) (hd : SelsAll (LeafP env) d.sel)
    (h : generate env fuel d marks = .ok o) :
    ∀ c ∈ o.classes, ∀ f ∈ c.fields, ∀ x ∈ annFwd f.ann, x ∈ o.classes.map (·.name) := by
  rcases generate_cases h with ⟨_, _, _, hc, _⟩ | ⟨cn, tn, _, _, _, hp⟩
  · rw [hc]; exact fun c hc' => nomatch hc'
  · exact fun c hc f hf x hx =>
      ((generate_out env fuel d marks o h).pubClasses x).mp ((runs_fwd hstr htn hfr (Runs.of_type hp) hd).1 c hc f hf x hx)

theorem fieldOf_name {S : Schema} {tn n : String} {fd : FieldDef} (h : S.fieldOf? tn n = some fd) : fd.name = n := by
  unfold Schema.fieldOf? at h
  cases hg : S.get? tn with
  | none => rw [hg] at h; cases h
  | some t =>
    rw [hg] at h
    simp only at h
    simpa using List.find?_some h

theorem mem_compositeFieldNames {S : Schema} {tn n : String} {fd : FieldDef} (h : S.fieldOf? tn n = some fd)
    (hc : Validate.isComposite S fd.type.base = true) : n ∈ compositeFieldNames S := by
  cases fieldOf_name h
  unfold Schema.fieldOf? at h
  cases hg : S.get? tn with
  | none => rw [hg] at h; cases h
  | some t =>
    rw [hg] at h
    simp only at h
    unfold compositeFieldNames
    refine List.mem_flatMap.mpr ⟨t, ?_, ?_⟩
    · unfold Schema.get? at hg
      exact List.mem_of_find?_eq_some hg
    · exact List.mem_map.mpr ⟨fd, List.mem_filter.mpr ⟨List.mem_of_find?_eq_some h, hc⟩, rfl⟩

mutual
  theorem selAll_of_leafNames {env : Env} : ∀ (s : Selection),
      (∀ n ∈ selLeafNames s, n ∉ compositeFieldNames env.schema) → SelAll (LeafP env) s
    | .field a n d sid sub, h => by
      refine ⟨?_, selsAll_of_leafNames sub (fun m hm => h m (by simp [selLeafNames, hm]))⟩
      intro hsub tn fd hfd
      simp only at hsub
      cases hcmp : Validate.isComposite env.schema fd.type.base with
      | false => rfl
      | true =>
        exfalso
        exact h n (by simp [selLeafNames, hsub]) (mem_compositeFieldNames hfd hcmp)
    | .spread _ _, _ => trivial
    | .inline _ _ _ sub, h => by
      show SelsAll (LeafP env) sub
      exact selsAll_of_leafNames sub (fun m hm => h m (by simp [selLeafNames, hm]))
  theorem selsAll_of_leafNames {env : Env} : ∀ (sels : List Selection),
      (∀ n ∈ selsLeafNames sels, n ∉ compositeFieldNames env.schema) → SelsAll (LeafP env) sels
    | [], _ => trivial
    | s :: rest, h =>
      ⟨selAll_of_leafNames s (fun m hm => h m (by simp [selsLeafNames, hm])),
       selsAll_of_leafNames rest (fun m hm => h m (by simp [selsLeafNames, hm]))⟩
end

end Ariadne.ResultTypes

namespace Ariadne.C04Proofs
open Ariadne.Gql Ariadne.Package Ariadne.PackageValid Ariadne.Spec.PyScope
open Ariadne.ResultTypes (SelsAll LeafP)
open Ariadne.Fragments (DefGen FragmentsOut)

/-- what `leafNamesOK` says, unfolded -/
structure LeafFacts (cfg : Config) (inp : Input) : Prop where
  str : Validate.isComposite (rtEnv cfg inp).schema "String" = false
  typename : ∀ tn fd, (rtEnv cfg inp).schema.fieldOf? tn ResultTypes.typenameField = some fd →
    Validate.isComposite (rtEnv cfg inp).schema fd.type.base = false
  ops : ∀ o ∈ inp.ops, SelsAll (LeafP (rtEnv cfg inp)) o.op.sel
  frags : ∀ f ∈ inp.frags, SelsAll (LeafP (rtEnv cfg inp)) f.sel

theorem leafFacts {cfg : Config} {inp : Input} (h : leafNamesOK inp = true) : LeafFacts cfg inp := by
  unfold leafNamesOK at h
  simp only [Bool.and_eq_true, Bool.not_eq_true'] at h
  obtain ⟨⟨h1, h2⟩, h3⟩ := h
  have hall : ∀ n ∈ inp.ops.flatMap (fun o => selsLeafNames o.op.sel) ++ inp.frags.flatMap (fun f => selsLeafNames f.sel),
      n ∉ compositeFieldNames inp.schema := by
    intro n hn hm
    have := List.all_eq_true.mp h3 n hn
    simp [hm] at this
  refine ⟨h1, ?_, ?_, ?_⟩
  · intro tn fd hfd
    cases hcmp : Validate.isComposite (rtEnv cfg inp).schema fd.type.base with
    | false => rfl
    | true =>
      exfalso
      have hmem : ResultTypes.typenameField ∈ compositeFieldNames inp.schema :=
        ResultTypes.mem_compositeFieldNames (S := inp.schema) hfd hcmp
      have : (compositeFieldNames inp.schema).contains Tables.typenameFieldName = true := by simpa [ResultTypes.typenameField] using hmem
      rw [this] at h2
      cases h2
  · intro o ho
    refine ResultTypes.selsAll_of_leafNames (env := rtEnv cfg inp) _ ?_
    intro n hn
    exact hall n (List.mem_append_left _ (List.mem_flatMap.mpr ⟨o, ho, hn⟩))
  · intro f hf
    refine ResultTypes.selsAll_of_leafNames (env := rtEnv cfg inp) _ ?_
    intro n hn
    exact hall n (List.mem_append_right _ (List.mem_flatMap.mpr ⟨f, hf, hn⟩))

section
variable {cfg : Config} {inp : Input} {p : PackageIR} {st : St} {io : InputsOut}
  {fx : Option (Fragments.FragmentsOut × List Fragments.DefGen)}

/-- **the forward references of a module made of generators' classes resolve** inside `leafNamesOK`: every quoted name is a
    class of the same generator -/
theorem MadeOf.forwardRefs {m : ModuleIR} {gens : List DefGen} (M : MadeOf cfg inp m gens) (hl : leafNamesOK inp = true) :
    forwardRefsOK m = true := by
  have L := leafFacts (cfg := cfg) hl
  have hfr : ∀ n f, findFragment? (rtEnv cfg inp).frags n = some f → SelsAll (LeafP (rtEnv cfg inp)) f.sel :=
    fun n f hf => L.frags f (List.mem_of_find?_eq_some hf)
  refine forwardRefsOK_of fun c hc x hx => ?_
  obtain ⟨g, hg, cd, hcd, rfl⟩ := M.classes c hc
  obtain ⟨f, hf, hx⟩ := List.mem_flatMap.mp (show x ∈ cd.fields.flatMap fun f => annFwd f.ann from hx)
  obtain ⟨d, marks, hd, hgen⟩ := M.from_ g hg
  have hsel : SelsAll (LeafP (rtEnv cfg inp)) d.sel := by
    rcases hd with ⟨o, ho, rfl⟩ | ⟨fr, hfr', rfl⟩
    · exact L.ops o ho
    · exact L.frags fr hfr'
  obtain ⟨c', hc', rfl⟩ := List.mem_map.mp (ResultTypes.generate_fwd L.str L.typename hfr _ d marks _ hsel hgen cd hcd f hf x hx)
  exact class_mem_defines (M.has g hg c' hc')

theorem result_forwardRefs (F : Facts cfg inp p st io fx) (hl : leafNamesOK inp = true) {fm : String × ModuleIR} (hfm : fm ∈ st.files) :
    forwardRefsOK fm.2 = true := by
  obtain ⟨_, _, _, M⟩ := madeOf_result F hfm
  exact M.forwardRefs hl

theorem fragments_forwardRefs (F : Facts cfg inp p st io fx) (hl : leafNamesOK inp = true) {fo : FragmentsOut} {gens : List DefGen}
    (hfx : fx = some (fo, gens)) : forwardRefsOK (fragmentsModuleIR cfg fo gens) = true :=
  (madeOf_fragments F hfx).forwardRefs hl

end

end Ariadne.C04Proofs
