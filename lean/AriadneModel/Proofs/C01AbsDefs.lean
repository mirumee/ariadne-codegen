/-
  Proofs/C01AbsDefs.lean — property C01, "abstract positions" tier: definitions (core Lean only).

  The tier extends the plain tier (Proofs/C01PlainDefs.lean) by
    * fields of INTERFACE / UNION type (any list / non-null wrappers) next to object- and leaf-typed ones;
    * typed inline fragments `... on C { fields }` (no directive `@skip/@include` on the fragment; content = fields, and
      spreads as in the last item) in every selection set;
    * `__typename` (un-aliased, unconditional) in every selection set below the operation root;
    * NAMED FRAGMENTS USED AS MIXINS (the fragment definitions are those of the mixin tier, Proofs/C01MixDefs.lean): a spread
      `...G` where the class it lands in is on exactly the OBJECT type `G` is defined on — directly in the selection set, or
      inside a merged inline fragment on that very type; the class then inherits from `G`'s class (`aBases`), its field nodes
      are its own (`rflat`) and the inherited ones (`c0`/`c1`/`cnodes`, the executor's view).

  * `aClass env cn tn tv a sel`: structural description of the classes `_parse_type_definition` emits for the selection
    set `sel` on type `tn`, root class `cn`, typename values `tv`, `add_typename = a`
    — one class per element of `relatedOf` (the "variants") at every composite position, recursively.
  * `AbsOK env cn tn sid sel st : Bool`: the decidable hypothesis of the tier.
  * `needSids`: the selection-set ids that receive an automatic `__typename`.
-/
import AriadneModel.Proofs.C01MixDefs
import AriadneModel.Model.Marks

set_option linter.unusedSimpArgs false
set_option linter.unusedVariables false

namespace Ariadne.C01Abs
open Ariadne Ariadne.Gql Ariadne.ResultTypes Ariadne.Util Ariadne.C01Plain

/-! ### one composite position: its variants -/

def inlCond? : Selection → Option String
  | .inline (some c) _ _ _ => some c
  | _ => none

/-- type conditions of the inline fragments at the top level of a selection set -/
def inlConds (sub : List Selection) : List String := sub.filterMap inlCond?

/-- `FieldContext.related_classes` after `parse_operation_field_type` on a composite field whose classes are
    prefixed `C`, of named type `n`, with sub-selection `sub`: (class name, type name) of every variant -/
def relatedOf (env : Env) (C n : String) (sub : List Selection) : List (String × String) :=
  match env.schema.kindOf? n with
  | some .interface =>
    if (inlConds sub).isEmpty then [(C, n)]
    else (C ++ n, n) :: (sortedSet (inlConds sub)).map fun c => (C ++ c, c)
  | some .union => ((env.schema.get? n).map (·.members) |>.getD []).map fun m => (C ++ m, m)
  | _ => [(C, n)]

/-- is the annotation a `Union[...]` of the variants (rather than a single class)? -/
def isMulti (env : Env) (n : String) (sub : List Selection) : Bool :=
  match env.schema.kindOf? n with
  | some .interface => !(inlConds sub).isEmpty
  | some .union => true
  | _ => false

def baseAnnOf (env : Env) (C n : String) (sub : List Selection) : Ann :=
  if isMulti env n sub then .union ((relatedOf env C n sub).map fun p => .cls p.1) else .cls C

def isCompositeKind (env : Env) (n : String) : Bool :=
  match env.schema.kindOf? n with
  | some .object => true
  | some .interface => true
  | some .union => true
  | _ => false

/-- the `typename values` argument of the variant on type `t` -/
def tvOf (env : Env) (rel : List (String × String)) (t : String) : List String :=
  ((typenameValues env rel).find? (·.1 == t)).map (·.2) |>.getD []

/-! ### one class: the field nodes `_resolve_selection_set` yields -/

def isTnSel : Selection → Bool
  | .field _ n _ _ _ => n == typenameField
  | _ => false

/-- `__typename` selected directly (not inside an inline fragment) -/
def explicitTn (sel : List Selection) : Bool := sel.any isTnSel

/-- does `_parse_type_definition(add_typename = a)` prepend the automatic `__typename`? -/
def autoTn (a : Bool) (sel : List Selection) : Bool := a && !explicitTn sel

/-- is the inline fragment on `c` merged into the class on type `tn`? -/
def incl (env : Env) (c tn : String) : Bool := (inlineFragmentRootType env c tn).isSome

def flat1 (env : Env) (tn : String) : Selection → List Selection
  | .field a n d s sub => [.field a n d s sub]
  | .inline (some c) _ _ ss => if incl env c tn then ss.filter isField else []
  | _ => []

/-- the field nodes of the class on `tn`: direct fields and the content of the merged inline fragments -/
def flatG (env : Env) (tn : String) (sel : List Selection) : List Selection := sel.flatMap (flat1 env tn)

/-- … with the automatic `__typename` in front -/
def rflat (a : Bool) (env : Env) (tn : String) (sel : List Selection) : List Selection :=
  (if autoTn a sel then [Marks.typenameSel] else []) ++ flatG env tn sel

/-! ### named fragments used as mixins (spread at a class on exactly their OBJECT type) -/

def isSpreadSel : Selection → Bool
  | .spread .. => true
  | _ => false

def gSpreadStep (env : Env) (tn : String) (acc : List String) : Selection → List String
  | .spread n _ => setAdd acc n
  | .inline (some c) _ _ ss => if incl env c tn then setUnion acc (C01Mix.spreadNames ss) else acc
  | _ => acc

/-- the `fragments` set `_resolve_selection_set` returns for the class on `tn`: the fragments spread directly or inside a
    merged inline fragment, in first-seen order -/
def gSpreads (env : Env) (tn : String) (sel : List Selection) : List String := sel.foldl (gSpreadStep env tn) []

/-- the base classes of the class on `tn` -/
def aBases (env : Env) (tn : String) (sel : List Selection) : List String :=
  if (gSpreads env tn sel).isEmpty then ["BaseModel"] else (sortStr (gSpreads env tn sel)).map pascal

/-- the field nodes of fragment `g` (own and inherited), each with its declaring class; `e` bounds the spread nesting -/
def inhOf (env : Env) (e : Nat) (g : String) : List (String × Selection) :=
  match findFragment? env.frags g with
  | some f => C01Mix.mflat env e (pascal f.name) f.sel
  | none => []

/-- the field nodes of the class on `tn` as the EXECUTOR collects them, own and inherited, in document order
    (a fragment spread twice contributes twice) -/
def c0 (env : Env) : Selection → List Selection
  | .field a n d s sub => [.field a n d s sub]
  | .spread g _ => (inhOf env (C01Mix.fragDepth env) g).map (·.2)
  | _ => []

def c1 (env : Env) (tn : String) : Selection → List Selection
  | .inline (some c) _ _ ss => if incl env c tn then ss.flatMap (c0 env) else []
  | s => c0 env s

/-- all field nodes of the class, own and inherited (see `c0`), with the automatic `__typename` in front -/
def cnodes (a : Bool) (env : Env) (tn : String) (sel : List Selection) : List Selection :=
  (if autoTn a sel then [Marks.typenameSel] else []) ++ sel.flatMap (c1 env tn)

/-! ### annotations -/

/-- no `Optional` / `List` wrapper at all: `T = Named!` (possibly with redundant `!`) -/
def bareT : Bool → TypeRef → Bool
  | nullable, .named _ => !nullable
  | _, .nonNull t => bareT false t
  | _, .list _ => false

/-- the type `_get_field_from_schema` invents for `__typename` -/
def tnT : TypeRef := .nonNull (.named "String")

/-- `__typename` in the root class (no typename values): the type has no field called `__typename`, and `String` is the
    built-in scalar, not configured as a custom scalar -/
def rootTnOK (env : Env) (tn : String) : Bool :=
  (env.schema.fieldOf? tn typenameField).isNone
  && (match env.schema.kindOf? "String" with
      | none => true
      | some .scalar => true
      | _ => false)
  && (scalarCfg? env "String").isNone

/-- the field declaration emitted for one field node of the class `cn` on type `tn` with typename values `tv` -/
def aDecl (env : Env) (cn tn : String) (tv : List String) (alias : Option String) (name : String) (dirs : List Directive)
    (sub : List Selection) : FieldDecl :=
  let key := alias.getD name
  let py := pyFieldName env key
  if name == typenameField && !tv.isEmpty then
    { py := py, ann := .literal (sortStr tv), alias := if py != key then some key else none,
      discriminator := false, defaultNone := false }
  else
    -- `__typename` in a class without typename values (the operation's root class): an ordinary `String!` leaf
    let T := if name == typenameField then tnT else fieldT env tn name
    let base : Ann := if sub.isEmpty then ResultLeaf.leafBase env T.base else baseAnnOf env (subClass env cn alias name) T.base sub
    let ann := condAnn (annotateTop (wrapAnn base true T)) dirs
    { py := py, ann := ann, alias := if py != key then some key else none,
      discriminator := isUnionAnn ann, defaultNone := hasConditionalDirective dirs }

def aDecl1 (env : Env) (cn tn : String) (tv : List String) : Selection → List FieldDecl
  | .field alias name dirs _ sub => [aDecl env cn tn tv alias name dirs sub]
  | _ => []

/-! ### the clean generator -/

mutual
  /-- the classes of the sub-selections, in generation order -/
  def aExtra (env : Env) : String → String → List Selection → List ClassDecl
    | _, _, [] => []
    | cn, tn, s :: rest => aExtra1 env cn tn s ++ aExtra env cn tn rest
  def aExtra1 (env : Env) : String → String → Selection → List ClassDecl
    | cn, tn, .field alias name _ _ sub =>
      if sub.isEmpty || name == typenameField then []
      else
        (relatedOf env (subClass env cn alias name) (subType env tn name) sub).flatMap fun p =>
          { name := p.1, bases := aBases env p.2 sub,
            fields := (rflat (env.schema.isAbstract (subType env tn name)) env p.2 sub).flatMap
              (aDecl1 env p.1 p.2 (tvOf env (relatedOf env (subClass env cn alias name) (subType env tn name) sub) p.2)) }
            :: aExtra env p.1 p.2 sub
    | cn, tn, .inline (some c) _ _ ss => if incl env c tn then aExtra env cn tn ss else []
    | _, _, _ => []
end

/-- **the clean generator**: `_parse_type_definition(cn, tn, sel, add_typename = a, typename_values = tv)` -/
def aClass (env : Env) (cn tn : String) (tv : List String) (a : Bool) (sel : List Selection) : List ClassDecl :=
  { name := cn, bases := aBases env tn sel, fields := (rflat a env tn sel).flatMap (aDecl1 env cn tn tv) } :: aExtra env cn tn sel

/-! ### automatic `__typename` -/

mutual
  /-- ids of the selection sets that get an automatic `__typename` while the classes of `sel` (on `tn`) are generated -/
  def needSids (env : Env) : String → String → List Selection → List Nat
    | _, _, [] => []
    | cn, tn, s :: rest => needSids1 env cn tn s ++ needSids env cn tn rest
  def needSids1 (env : Env) : String → String → Selection → List Nat
    | cn, tn, .field alias name _ sid sub =>
      if sub.isEmpty || name == typenameField then []
      else
        (if autoTn (env.schema.isAbstract (subType env tn name)) sub then [sid] else [])
        ++ (relatedOf env (subClass env cn alias name) (subType env tn name) sub).flatMap fun p => needSids env p.1 p.2 sub
    | cn, tn, .inline (some c) _ _ ss => if incl env c tn then needSids env cn tn ss else []
    | _, _, _ => []
end

/-! ### the hypothesis -/

def nameOf : Selection → String
  | .field _ n _ _ _ => n
  | _ => ""

def subOf : Selection → List Selection
  | .field _ _ _ _ sub => sub
  | _ => []

def dirsOf : Selection → List Directive
  | .field _ _ d _ _ => d
  | _ => []

/-- a field node that may share its response key with other nodes of the class: a leaf that is not `__typename` -/
def plainLeaf (x : Selection) : Bool := (subOf x).isEmpty && nameOf x != typenameField

/-- conditions on ALL field nodes of one class (own and inherited, `cnodes`): a response key reached more than once is reached
    by LEAF selections of the SAME field only (`node { id ... on User { id } }`, `{ ...F id }` with `id` in `F`: the generator
    emits / inherits the field twice, Python and pydantic keep one declaration; the executor merges the selections) — a
    composite field or `__typename` owns its key (finding C01-F2 otherwise); distinct keys have distinct Python names; and the
    populate_by_name condition of the plain tier -/
def dupOK (env : Env) (l : List Selection) : Bool :=
  let keys := dedup (l.map keyOf)
  (l.all fun x =>
    decide ((l.filter fun y => keyOf y == keyOf x).length ≤ 1)
    || (l.filter fun y => keyOf y == keyOf x).all fun y => plainLeaf y && nameOf y == nameOf x)
  && nodupB (keys.map (pyFieldName env))
  && keys.all fun k => pyFieldName env k == k || !keys.contains (pyFieldName env k)

/-- conditions on the field nodes of ONE class standing for the runtime types `rts`: the conditions on response keys / Python
    names (`dupOK`), and — when the class has a `__typename` field — its literal contains every
    runtime type the class stands for (or, in the root class, which has no typename values: `rootTnOK`) -/
def classHead (env : Env) (tn : String) (rts tv : List String) (a : Bool) (sel : List Selection) : Bool :=
  dupOK env (cnodes a env tn sel)
  && (!((rflat a env tn sel).any isTnSel) || (if tv.isEmpty then rootTnOK env tn else rts.all tv.contains))

def notTnField : Selection → Bool
  | .field _ n _ _ _ => n != typenameField
  | _ => false

mutual
  /-- structural conditions, by recursion on the selection tree; `mk sid` = "the selection set `sid` carries an automatic
      `__typename` in the document as sent" -/
  def aSels (env : Env) (mk : Nat → Bool) : String → String → List String → List Selection → Bool
    | _, _, _, [] => true
    | cn, tn, rts, s :: rest => aSel1 env mk cn tn rts s && aSels env mk cn tn rts rest
  def aSel1 (env : Env) (mk : Nat → Bool) : String → String → List String → Selection → Bool
    | cn, tn, rts, .field alias name dirs sid sub =>
      -- no `@mixin` on the field
      !(dirs.any (·.name == Tables.mixinName))
      && (if name == typenameField then
            -- `__typename`: not aliased (finding C01-F8), not conditional (the class requires it), a leaf
            alias.isNone && !hasConditionalDirective dirs && sub.isEmpty
          else
            -- the field exists on the class's type, and on every runtime type with the SAME type
            (env.schema.fieldOf? tn name).isSome
            && rts.all (fun rt => (env.schema.fieldOf? rt name).map (·.type) == (env.schema.fieldOf? tn name).map (·.type))
            && (if sub.isEmpty then isLeafName env (subType env tn name)
                else
                  isCompositeKind env (subType env tn name)
                  -- the automatic `__typename` is in the sent document exactly where the generator adds the field
                  && (mk sid == autoTn (env.schema.isAbstract (subType env tn name)) sub)
                  -- at least one variant (a union has members)
                  && !(relatedOf env (subClass env cn alias name) (subType env tn name) sub).isEmpty
                  -- every runtime type is in the literal of some variant
                  && (Exec.runtimeTypes env.schema (subType env tn name)).all (fun rt' =>
                        (relatedOf env (subClass env cn alias name) (subType env tn name) sub).any fun p =>
                          (tvOf env (relatedOf env (subClass env cn alias name) (subType env tn name) sub) p.2).contains rt')
                  -- every variant, for the runtime types in its literal
                  && (relatedOf env (subClass env cn alias name) (subType env tn name) sub).all (fun p =>
                        !(tvOf env (relatedOf env (subClass env cn alias name) (subType env tn name) sub) p.2).isEmpty
                        && classHead env p.2
                          ((Exec.runtimeTypes env.schema (subType env tn name)).filter
                            (tvOf env (relatedOf env (subClass env cn alias name) (subType env tn name) sub) p.2).contains)
                          (tvOf env (relatedOf env (subClass env cn alias name) (subType env tn name) sub) p.2)
                          (env.schema.isAbstract (subType env tn name)) sub
                        && aSels env mk p.1 p.2
                          ((Exec.runtimeTypes env.schema (subType env tn name)).filter
                            (tvOf env (relatedOf env (subClass env cn alias name) (subType env tn name) sub) p.2).contains)
                          sub)))
    | cn, tn, rts, .inline (some c) dirs _ ss =>
      -- no `@skip/@include` on the fragment (finding C01-F3)
      !hasConditionalDirective dirs
      -- the generator merges the fragment into this class iff the executor applies it to the class's runtime types (C01-F5)
      && rts.all (fun rt => incl env c tn == Exec.applies env.schema (some c) rt)
      -- content: fields, and (only when the fragment is on the class's own type) spreads of mixin fragments
      && (!incl env c tn || (ss.all (fun y => notTnField y || (isSpreadSel y && c == tn)) && aSels env mk cn tn rts ss))
    | _, tn, rts, .spread n dirs =>
      -- a named fragment used as a MIXIN: no `@skip/@include` (finding C01-F3); the class is on an OBJECT type and stands for
      -- that type only; the fragment is defined on exactly this type (else it is unpacked or dropped: other tiers / findings)
      !hasConditionalDirective dirs
      && env.schema.kindOf? tn == some .object
      && rts.all (· == tn)
      && (match findFragment? env.frags n with
          | some f => f.on == tn
          | none => false)
    | _, _, _, _ => false     -- inline fragments without type condition: outside this tier
end

/-- **`AbsOK`**: the decidable hypothesis of the abstract-positions tier.  `sid` = identity of the top-level selection
    set, `st` = generator state in which `_parse_type_definition(add_typename = false, typename values = [])` is called;
    `tn` is the (object) type the selection set is executed on. -/
def AbsOK (env : Env) (cn tn : String) (sid : Nat) (sel : List Selection) (st : St) : Bool :=
  !(st.marks ++ needSids env cn tn sel).contains sid
  && classHead env tn [tn] [] false sel
  && aSels env (st.marks ++ needSids env cn tn sel).contains cn tn [tn] sel
  && nodupB ((aClass env cn tn [] false sel).map (·.name))
  && ((aClass env cn tn [] false sel).map (·.name)).all (fun n => !st.publicNames.contains n)

/-! ### fuel -/

mutual
  /-- generator fuel (and executor fuel) that suffices -/
  def agfuel : List Selection → Nat
    | [] => 2
    | s :: rest => max (agfuel1 s) (agfuel rest)
  def agfuel1 : Selection → Nat
    | .field _ _ _ _ sub => if sub.isEmpty then 0 else agfuel sub + 2
    | .inline _ _ _ ss => agfuel ss
    | _ => 0
end

mutual
  /-- validation fuel that suffices for the fields of the class on `tn` -/
  def avneed (env : Env) : String → String → List Selection → Nat
    | _, _, [] => 0
    | cn, tn, s :: rest => max (avneed1 env cn tn s) (avneed env cn tn rest)
  def avneed1 (env : Env) : String → String → Selection → Nat
    | cn, tn, .field alias name _ _ sub =>
      wneed (fieldT env tn name) + 3 +
        (if sub.isEmpty || name == typenameField then 0
         else ((relatedOf env (subClass env cn alias name) (subType env tn name) sub).map fun p => avneed env p.1 p.2 sub).foldl max 0 + 4)
    | cn, tn, .inline (some c) _ _ ss => if incl env c tn then avneed env cn tn ss else 0
    | _, _, _ => 0
end

end Ariadne.C01Abs
