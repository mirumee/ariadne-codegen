/-
  Interleaved calls, once.  A world holds a list of tasks, each in some phase of one call of a fixed list `calls`,
  and a wire of outputs; a scheduler step advances task `i`.  If every step either does nothing or keeps the frame
  `P`, leaves task `i` in a phase that is still right for the same call (`R`) and puts on the wire only outputs that
  are good for that call (`G`), then after ANY schedule the frame holds, every task is in a phase right for its call,
  and the wire holds nothing but good outputs.  The world is read through projections, so worlds of different types
  (one client; client and argument heap; client and object heap; a websocket store that grows) are instances.
  Core Lean only.
-/
import AriadneModel.Proofs.ListLemmas

namespace Ariadne.Schedule

section
variable {W Ph κ ρ : Type} (tasks : W → List Ph) (wire : W → List ρ) (stp : W → Nat → W) (P : W → Prop)
  (R : κ → Ph → Prop) (G : κ → ρ → Prop) (calls : List κ)

/-- What one step may do.  `P` is a predicate, not an equation on a shared state, so that a store that only grows
    (`∃ g, w.store = s ++ g`) is a frame as well; it has to be kept only by steps of a task that is in a phase of a
    call of the list (`R c ph`), so what is known of those calls may be used.  A world without a wire takes
    `wire := fun _ => []`. -/
def StepSpec : Prop :=
  ∀ w i, P w → stp w i = w ∨
    ∃ ph ph', (tasks w)[i]? = some ph ∧ tasks (stp w i) = (tasks w).set i ph' ∧
      ∀ c ∈ calls, R c ph → P (stp w i) ∧ R c ph' ∧ ∀ r ∈ wire (stp w i), r ∈ wire w ∨ G c r

def Inv (w : W) : Prop :=
  P w ∧ (tasks w).length = calls.length ∧
  (∀ (i : Nat) c ph, calls[i]? = some c → (tasks w)[i]? = some ph → R c ph) ∧
  (∀ r ∈ wire w, ∃ c ∈ calls, G c r)

variable {tasks wire stp P R G calls}

theorem inv_step (hs : StepSpec tasks wire stp P R G calls) (w : W) (i : Nat) (h : Inv tasks wire P R G calls w) :
    Inv tasks wire P R G calls (stp w i) := by
  obtain ⟨h1, h2, h3, h4⟩ := h
  rcases hs w i h1 with he | ⟨ph, ph', hp, ht, hR⟩
  · rw [he]; exact ⟨h1, h2, h3, h4⟩
  · have hi : i < calls.length := by
      have := (List.getElem?_eq_some_iff.mp hp).1; omega
    have hc : calls[i]? = some calls[i] := List.getElem?_eq_getElem hi
    obtain ⟨hP, hok, hw⟩ := hR _ (List.getElem_mem hi) (h3 i calls[i] ph hc hp)
    refine ⟨hP, by simp [ht, h2], ht ▸ Lists.forall_set h3 hc (by omega) hok, fun r hr => ?_⟩
    rcases hw r hr with hr | hr
    · exact h4 r hr
    · exact ⟨calls[i], List.getElem_mem hi, hr⟩

theorem schedule (hs : StepSpec tasks wire stp P R G calls) (todo : κ → Ph) (hR : ∀ c, R c (todo c))
    (w₀ : W) (hP : P w₀) (ht : tasks w₀ = calls.map todo) (hw : wire w₀ = []) (sched : List Nat) :
    P (sched.foldl stp w₀) ∧
    (∀ (i : Nat) c ph, calls[i]? = some c → (tasks (sched.foldl stp w₀))[i]? = some ph → R c ph) ∧
    (∀ r ∈ wire (sched.foldl stp w₀), ∃ c ∈ calls, G c r) := by
  have h₀ : Inv tasks wire P R G calls w₀ := by
    refine ⟨hP, by simp [ht], ?_, by simp [hw]⟩
    intro i c ph hc hp
    simp only [ht, List.getElem?_map, hc, Option.map_some, Option.some.injEq] at hp
    exact hp ▸ hR c
  have : ∀ (sched : List Nat) (w : W), Inv tasks wire P R G calls w → Inv tasks wire P R G calls (sched.foldl stp w) := by
    intro sched
    induction sched with
    | nil => exact fun _ h => h
    | cons i rest ih => exact fun w h => ih _ (inv_step hs w i h)
  obtain ⟨h1, _, h3, h4⟩ := this sched w₀ h₀
  exact ⟨h1, h3, h4⟩

end

end Ariadne.Schedule
