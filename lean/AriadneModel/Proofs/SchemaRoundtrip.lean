/-
  C16 — lemmas for `schema_roundtrip`: evaluating (Spec/PySchemaEval) what the generator model
  (Model/SchemaGen) emits gives the schema back, by induction over TypeRef wrappers, argument lists,
  field lists, name lists, the type list and the directive list.
-/
import AriadneModel.Model.SchemaWF
import AriadneModel.Proofs.ListLemmas

namespace Ariadne.SchemaRoundtrip
open Ariadne.Schema Ariadne.SchemaGen Ariadne.PySchemaEval Ariadne.SchemaWF

theorem alookup_eq {β : Type} (k : String) (l : List (String × β)) : alookup k l = l.lookup k :=
  Lists.eq_lookup_of_eqns alookup (fun _ => rfl) (fun _ _ _ _ => rfl) k l

theorem alookup_mem {β : Type} (k : String) (v : β) (l : List (String × β)) (h : alookup k l = some v) : (k, v) ∈ l :=
  Lists.lookup_mem (alookup_eq k l ▸ h)

@[simp] theorem pure_ok {ε α : Type} (a : α) : (pure a : Except ε α) = Except.ok a := rfl

/-- name space while the thunks run and statement 2 is evaluated -/
structure EnvGood (ρ : Env) (tm : Name) : Prop where
  field : ρ "GraphQLField" = .builtin .field
  argument : ρ "GraphQLArgument" = .builtin .argument
  inputField : ρ "GraphQLInputField" = .builtin .inputField
  list : ρ "GraphQLList" = .builtin .list
  nonNull : ρ "GraphQLNonNull" = .builtin .nonNull
  cast : ρ "cast" = .builtin .cast
  tlist : ρ "List" = .builtin .typingList
  undefined : ρ "Undefined" = .builtin .undefined
  directive : ρ "GraphQLDirective" = .builtin .directive
  schema : ρ "GraphQLSchema" = .builtin .schema
  dirLoc : ρ "DirectiveLocation" = .builtin .directiveLocation
  std : ∀ n py, stdScalarPy n = some py → ρ py = .builtin (.std n)
  clsBound : ∀ k : Kind, ρ k.className ≠ .unbound
  tmAnn : ρ "TypeMap" ≠ .unbound
  tm : ρ tm = .typeMap

theorem callee_eq {ρ : Env} {fn : Name} {b : Binding} (h : ρ fn = b) (hb : b ≠ .unbound) : callee ρ fn = .ok b := by
  unfold callee
  rw [h]
  cases b with
  | unbound => exact absurd rfl hb
  | builtin x => rfl
  | typeMap => rfl

theorem callee_bound {ρ : Env} {fn : Name} (hb : ρ fn ≠ .unbound) : callee ρ fn = .ok (ρ fn) :=
  callee_eq rfl hb

theorem evalOptStr_gen (ρ : Env) (o : Option String) : evalOptStr ρ (genOptStr o) = .ok o := by
  cases o <;> rfl

theorem evalDefault_gen {ρ : Env} {tm : Name} (hρ : EnvGood ρ tm) (d : Default) : evalDefault ρ (genDefault d) = .ok d := by
  cases d with
  | undefined => simp [genDefault, evalDefault, hρ.undefined]
  | value v => rfl

theorem evalCast_gen {ρ : Env} {tm : Name} (hρ : EnvGood ρ tm) (hs : List (String × Head)) (n : Name) (k : Kind)
    (h : alookup n hs = some (k, n)) : evalCast ρ hs "cast" k.className tm n = .ok (k, n) := by
  unfold evalCast evalLookup
  rw [callee_eq hρ.cast (by simp), callee_bound (hρ.clsBound k), hρ.tm, h]
  rfl

theorem evalTRef_named {ρ : Env} {tm : Name} (hρ : EnvGood ρ tm) (hs : List (String × Head)) (n : Name) (k : Kind)
    (h : alookup n hs = some (k, n)) : evalTRef ρ hs (getNamedType tm n k) = .ok (.named n k) := by
  unfold getNamedType evalTRef
  rw [evalCast_gen hρ hs n k h]
  rfl

theorem evalTRef_gen {ρ : Env} {tm : Name} (hρ : EnvGood ρ tm) (hs : List (String × Head)) :
    ∀ (r : TypeRef), refOK hs r = true → evalTRef ρ hs (genFieldType tm r) = .ok r
  | .named n k, h => by
    unfold refOK at h
    cases k with
    | scalar =>
      cases hstd : stdScalarPy n with
      | some py =>
        have : genFieldType tm (.named n .scalar) = .name py := by simp [genFieldType, hstd]
        rw [this]
        simp [evalTRef, hρ.std n py hstd]
      | none =>
        have hg : genFieldType tm (.named n .scalar) = getNamedType tm n .scalar := by simp [genFieldType, hstd]
        rw [hg]
        have hl : alookup n hs = some (Kind.scalar, n) := by simpa [hstd] using h
        exact evalTRef_named hρ hs n .scalar hl
    | _ => exact evalTRef_named hρ hs n _ (by simpa using h)
  | .list t, h => by
    unfold refOK at h
    have ih := evalTRef_gen hρ hs t h
    simp [genFieldType, evalTRef, callee_eq hρ.list, ih]
  | .nonNull t, h => by
    unfold refOK at h
    have ⟨h1, h2⟩ := Bool.and_eq_true_iff.mp h
    have ih := evalTRef_gen hρ hs t h2
    simp [genFieldType, evalTRef, callee_eq hρ.nonNull, ih]
    cases t with
    | nonNull _ => simp [TypeRef.isNonNull] at h1
    | named _ _ => rfl
    | list _ => rfl

theorem evalArg_gen {ρ : Env} {tm : Name} (hρ : EnvGood ρ tm) (hs : List (String × Head)) (ctor : Name) (expected : Builtin)
    (hc : ρ ctor = .builtin expected) (a : ArgDef) (h : argOK hs a = true) :
    evalArg ρ hs expected a.name (genArgWith ctor tm a) = .ok a := by
  unfold argOK at h
  have ⟨h12, h3⟩ := Bool.and_eq_true_iff.mp h
  have ⟨h1, h2⟩ := Bool.and_eq_true_iff.mp h12
  unfold evalArg genArgWith
  simp [callee_eq hc, evalTRef_gen hρ hs a.type h1, evalDefault_gen hρ, evalOptStr_gen, h2, require]

theorem evalArgItems_gen {ρ : Env} {tm : Name} (hρ : EnvGood ρ tm) (hs : List (String × Head)) (ctor : Name)
    (expected : Builtin) (hc : ρ ctor = .builtin expected) :
    ∀ (as : List ArgDef), (∀ a ∈ as, argOK hs a = true) →
      evalArgItems ρ hs expected (as.map fun a => (a.name, genArgWith ctor tm a)) = .ok as
  | [], _ => rfl
  | a :: rest, h => by
    have h1 := evalArg_gen hρ hs ctor expected hc a (h a (by simp))
    have h2 := evalArgItems_gen hρ hs ctor expected hc rest (fun x hx => h x (by simp [hx]))
    simp [evalArgItems, h1, h2]

theorem checkKeys_ok (keys : List String) (h1 : nodupB keys = true) (h2 : keys.all validName = true) :
    checkKeys keys = .ok () := by
  unfold checkKeys
  simp only [h1, h2, require_true, bind_ok]

theorem evalArgs_gen {ρ : Env} {tm : Name} (hρ : EnvGood ρ tm) (hs : List (String × Head)) (ctor : Name)
    (expected : Builtin) (hc : ρ ctor = .builtin expected) (as : List ArgDef) (h : argsOK hs as = true) :
    evalArgs ρ hs expected (as.map fun a => (a.name, genArgWith ctor tm a)) = .ok as := by
  unfold argsOK at h
  have ⟨h12, h3⟩ := Bool.and_eq_true_iff.mp h
  have ⟨h1, h2⟩ := Bool.and_eq_true_iff.mp h12
  have hall : ∀ a ∈ as, argOK hs a = true := by simpa using h3
  unfold evalArgs
  have hk : (as.map fun a => (a.name, genArgWith ctor tm a)).map (·.1) = as.map (·.name) := by
    simp [List.map_map, Function.comp_def]
  rw [evalArgItems_gen hρ hs ctor expected hc as hall, hk]
  simp [checkKeys_ok _ h1 h2]

theorem evalField_gen {ρ : Env} {tm : Name} (hρ : EnvGood ρ tm) (hs : List (String × Head)) (f : FieldDef)
    (h : fieldOK hs f = true) : evalField ρ hs f.name (genField tm f) = .ok f := by
  unfold fieldOK at h
  have ⟨h12, h3⟩ := Bool.and_eq_true_iff.mp h
  have ⟨h1, h2⟩ := Bool.and_eq_true_iff.mp h12
  unfold evalField genField genArgs
  simp [callee_eq hρ.field, evalTRef_gen hρ hs f.type h1, evalArgs_gen hρ hs "GraphQLArgument" .argument hρ.argument f.args h3,
    evalOptStr_gen, h2, require]

theorem evalFieldItems_gen {ρ : Env} {tm : Name} (hρ : EnvGood ρ tm) (hs : List (String × Head)) :
    ∀ (fs : List FieldDef), (∀ f ∈ fs, fieldOK hs f = true) →
      evalFieldItems ρ hs (fs.map fun f => (f.name, genField tm f)) = .ok fs
  | [], _ => rfl
  | f :: rest, h => by
    have h1 := evalField_gen hρ hs f (h f (by simp))
    have h2 := evalFieldItems_gen hρ hs rest (fun x hx => h x (by simp [hx]))
    simp [evalFieldItems, h1, h2]

theorem evalFields_gen {ρ : Env} {tm : Name} (hρ : EnvGood ρ tm) (hs : List (String × Head)) (fs : List FieldDef)
    (h : fieldsOK hs fs = true) : evalFields ρ hs (genFieldMap tm fs) = .ok fs := by
  unfold fieldsOK at h
  have ⟨h12, h3⟩ := Bool.and_eq_true_iff.mp h
  have ⟨h1, h2⟩ := Bool.and_eq_true_iff.mp h12
  have hall : ∀ f ∈ fs, fieldOK hs f = true := by simpa using h3
  cases fs with
  | nil => rfl
  | cons f rest =>
    have hk : ((f :: rest).map fun f => (f.name, genField tm f)).map (·.1) = (f :: rest).map (·.name) := by
      simp [List.map_map, Function.comp_def]
    show evalFields ρ hs (.thunk ((f :: rest).map fun f => (f.name, genField tm f))) = _
    simp only [evalFields]
    rw [evalFieldItems_gen hρ hs (f :: rest) hall, hk]
    simp only [bind_ok]
    rw [checkKeys_ok _ h1 h2]
    rfl

theorem evalInFields_gen {ρ : Env} {tm : Name} (hρ : EnvGood ρ tm) (hs : List (String × Head)) (fs : List ArgDef)
    (h : argsOK hs fs = true) : evalInFields ρ hs (genInputFieldMap tm fs) = .ok fs := by
  cases fs with
  | nil => rfl
  | cons f rest =>
    show evalInFields ρ hs (.thunk ((f :: rest).map fun a => (a.name, genArgWith "GraphQLInputField" tm a))) = _
    unfold evalInFields
    exact evalArgs_gen hρ hs "GraphQLInputField" .inputField hρ.inputField (f :: rest) h

theorem evalLookups_gen {ρ : Env} {tm : Name} (hρ : EnvGood ρ tm) (hs : List (String × Head)) (want : Kind) :
    ∀ (ns : List Name), namesOK hs want ns = true → evalLookups ρ hs tm ns = .ok (ns.map fun n => (want, n))
  | [], _ => rfl
  | n :: rest, h => by
    unfold namesOK at h
    have h' : (alookup n hs == some (want, n)) = true ∧ namesOK hs want rest = true := by
      simpa [namesOK] using h
    have hl : alookup n hs = some (want, n) := by simpa using h'.1
    have ih := evalLookups_gen hρ hs want rest h'.2
    simp [evalLookups, evalLookup, hρ.tm, hl, ih]

theorem evalNames_gen {ρ : Env} {tm : Name} (hρ : EnvGood ρ tm) (hs : List (String × Head)) (want : Kind) (cls : Name)
    (hcls : ρ cls ≠ .unbound)
    (ns : List Name) (h : namesOK hs want ns = true) : evalNames ρ hs want (genNames tm cls ns) = .ok ns := by
  cases ns with
  | nil => rfl
  | cons n rest =>
    show evalNames ρ hs want (.thunk "cast" "List" cls tm (n :: rest)) = _
    simp only [evalNames]
    rw [callee_eq hρ.cast (by simp), callee_eq hρ.tlist (by simp), callee_bound hcls,
      evalLookups_gen hρ hs want (n :: rest) h]
    simp [require, List.map_map, Function.comp_def]

/-! ### statement 1: constructing the named types -/

/-- name space while statement 1 is evaluated (imports only) -/
structure Env1Good (ρ : Env) : Prop where
  scalarT : ρ "GraphQLScalarType" = .builtin .scalarT
  objectT : ρ "GraphQLObjectType" = .builtin .objectT
  interfaceT : ρ "GraphQLInterfaceType" = .builtin .interfaceT
  unionT : ρ "GraphQLUnionType" = .builtin .unionT
  enumT : ρ "GraphQLEnumType" = .builtin .enumT
  inputT : ρ "GraphQLInputObjectType" = .builtin .inputT
  enumValue : ρ "GraphQLEnumValue" = .builtin .enumValue

/-- the type object statement 1 stores for `t`: eager attributes + the emitted thunks -/
def objOf (tm : Name) : TypeDef → TypeObj
  | .scalar n d u => .scalar n d u
  | .object n d is fs => .composite false n d (genNames tm "GraphQLInterfaceType" is) (genFieldMap tm fs)
  | .interface n d is fs => .composite true n d (genNames tm "GraphQLInterfaceType" is) (genFieldMap tm fs)
  | .union n d ms => .union n d (genNames tm "GraphQLObjectType" ms)
  | .enum n d vs => .enum n d vs
  | .input n d fs _ => .input n d (genInputFieldMap tm fs)

/-- what the emitted module can reproduce of `t`: everything except `is_one_of` -/
def clearOneOf : TypeDef → TypeDef
  | .input n d fs _ => .input n d fs false
  | t => t

theorem objOf_head (tm : Name) (t : TypeDef) : (objOf tm t).head = (t.kind, t.name) := by
  cases t <;> rfl

theorem clearOneOf_name (t : TypeDef) : (clearOneOf t).name = t.name := by
  cases t <;> rfl

theorem clearOneOf_of_not (t : TypeDef) (h : isOneOf t = false) : clearOneOf t = t := by
  cases t <;> simp [clearOneOf, isOneOf] at h ⊢
  exact h

theorem checkTypeName_ok (n : Name) (h1 : Tables.gqlReservedTypes.contains n = false) (h2 : validName n = true) :
    checkTypeName n = .ok () := by
  unfold checkTypeName
  simp only [h1, h2, Bool.not_false, require_true, bind_ok]

theorem evalEnumValues_gen (ρ : Env) (hρ : ρ "GraphQLEnumValue" = .builtin .enumValue) :
    ∀ (vs : List EnumValDef), evalEnumValues ρ (genEnumValues vs) = .ok vs
  | [] => rfl
  | v :: rest => by
    have ih := evalEnumValues_gen ρ hρ rest
    have h1 : evalEnumValue ρ v.name (genEnumValue v) = .ok v := by
      simp [evalEnumValue, genEnumValue, callee_eq hρ, evalAny, evalOptStr_gen, require]
    show evalEnumValues ρ ((v.name, genEnumValue v) :: genEnumValues rest) = _
    simp only [evalEnumValues, h1, ih, bind_ok]
    rfl

theorem typeNameOK_split (t : TypeDef) (h : typeNameOK t = true) :
    Tables.schemaStandardTypes.contains t.name = false ∧ Tables.gqlReservedTypes.contains t.name = false ∧
      validName t.name = true := by
  unfold typeNameOK at h
  have ⟨h12, h3⟩ := Bool.and_eq_true_iff.mp h
  have ⟨h1, h2⟩ := Bool.and_eq_true_iff.mp h12
  exact ⟨by simpa using h1, by simpa using h2, h3⟩

theorem construct_gen {ρ : Env} (hρ : Env1Good ρ) (tm : Name) (hs : List (String × Head)) (t : TypeDef)
    (hn : typeNameOK t = true) (ht : typeOK hs t = true) : construct ρ (genType tm t) = .ok (objOf tm t) := by
  have ⟨_, hres, hval⟩ := typeNameOK_split t hn
  cases t with
  | scalar n d u =>
    simp only [TypeDef.name] at hres hval
    simp [genType, construct, callee_eq hρ.scalarT, evalNameStr, evalOptStr_gen, require, checkTypeName_ok n hres hval, objOf]
  | object n d is fs =>
    simp only [TypeDef.name] at hres hval
    simp [genType, construct, callee_eq hρ.objectT, evalNameStr, evalOptStr_gen, require, checkTypeName_ok n hres hval, objOf]
  | interface n d is fs =>
    simp only [TypeDef.name] at hres hval
    simp [genType, construct, callee_eq hρ.interfaceT, evalNameStr, evalOptStr_gen, require, checkTypeName_ok n hres hval, objOf]
  | union n d ms =>
    simp only [TypeDef.name] at hres hval
    simp [genType, construct, callee_eq hρ.unionT, evalNameStr, evalOptStr_gen, require, checkTypeName_ok n hres hval, objOf]
  | enum n d vs =>
    simp only [TypeDef.name] at hres hval
    unfold typeOK at ht
    have ⟨h12, _⟩ := Bool.and_eq_true_iff.mp ht
    have ⟨h1, h2⟩ := Bool.and_eq_true_iff.mp h12
    have hk : (genEnumValues vs).map (·.1) = vs.map (·.name) := by
      simp [genEnumValues, List.map_map, Function.comp_def]
    simp [genType, construct, callee_eq hρ.enumT, evalNameStr, evalOptStr_gen, require, checkTypeName_ok n hres hval, objOf,
      evalEnumValues_gen ρ hρ.enumValue vs, hk, h1, h2]
  | input n d fs o =>
    simp only [TypeDef.name] at hres hval
    simp [genType, construct, callee_eq hρ.inputT, evalNameStr, evalOptStr_gen, require, checkTypeName_ok n hres hval, objOf]

theorem constructAll_gen {ρ : Env} (hρ : Env1Good ρ) (tm : Name) (hs : List (String × Head)) :
    ∀ (ts : List TypeDef), (∀ t ∈ ts, typeNameOK t = true) → (∀ t ∈ ts, typeOK hs t = true) →
      constructAll ρ (ts.map fun t => (t.name, genType tm t)) = .ok (ts.map fun t => (t.name, objOf tm t))
  | [], _, _ => rfl
  | t :: rest, hn, ht => by
    have h1 := construct_gen hρ tm hs t (hn t (by simp)) (ht t (by simp))
    have h2 := constructAll_gen hρ tm hs rest (fun x hx => hn x (by simp [hx])) (fun x hx => ht x (by simp [hx]))
    simp [constructAll, h1, h2]

theorem genTypeMap_eq (tm : Name) (ts : List TypeDef) (hn : ∀ t ∈ ts, typeNameOK t = true) :
    genTypeMap tm ts = ts.map fun t => (t.name, genType tm t) := by
  unfold genTypeMap
  have : ts.filter (fun t => !(Tables.schemaStandardTypes.contains t.name)) = ts := by
    apply List.filter_eq_self.mpr
    intro t ht
    have := (typeNameOK_split t (hn t ht)).1
    simpa using this
  rw [this]

theorem headsOf_objs (tm : Name) (ts : List TypeDef) :
    headsOf (ts.map fun t => (t.name, objOf tm t)) = headsS ts := by
  unfold headsOf headsS
  simp [List.map_map, Function.comp_def, objOf_head]

/-! ### statement 2: forcing the thunks, directives, roots -/

theorem force_gen {ρ : Env} {tm : Name} (hρ : EnvGood ρ tm) (hs : List (String × Head)) (t : TypeDef)
    (ht : typeOK hs t = true) : force ρ hs (objOf tm t) = .ok (clearOneOf t) := by
  cases t with
  | scalar n d u => rfl
  | object n d is fs =>
    unfold typeOK at ht
    have ⟨h1, h2⟩ := Bool.and_eq_true_iff.mp ht
    simp [objOf, force, evalNames_gen hρ hs .interface "GraphQLInterfaceType" (hρ.clsBound .interface) is h1,
      evalFields_gen hρ hs fs h2, wrapThunk, clearOneOf]
  | interface n d is fs =>
    unfold typeOK at ht
    have ⟨h1, h2⟩ := Bool.and_eq_true_iff.mp ht
    simp [objOf, force, evalNames_gen hρ hs .interface "GraphQLInterfaceType" (hρ.clsBound .interface) is h1,
      evalFields_gen hρ hs fs h2, wrapThunk, clearOneOf]
  | union n d ms =>
    unfold typeOK at ht
    simp [objOf, force, evalNames_gen hρ hs .object "GraphQLObjectType" (hρ.clsBound .object) ms ht, wrapThunk, clearOneOf]
  | enum n d vs => rfl
  | input n d fs o =>
    unfold typeOK at ht
    simp [objOf, force, evalInFields_gen hρ hs fs ht, wrapThunk, clearOneOf]

theorem forceAll_gen {ρ : Env} {tm : Name} (hρ : EnvGood ρ tm) (hs : List (String × Head)) :
    ∀ (ts : List TypeDef), (∀ t ∈ ts, typeOK hs t = true) →
      forceAll ρ hs (ts.map fun t => (t.name, objOf tm t)) = .ok (ts.map clearOneOf)
  | [], _ => rfl
  | t :: rest, ht => by
    have h1 := force_gen hρ hs t (ht t (by simp))
    have h2 := forceAll_gen hρ hs rest (fun x hx => ht x (by simp [hx]))
    simp [forceAll, h1, h2]

theorem evalLocations_gen {ρ : Env} (hρ : ρ "DirectiveLocation" = .builtin .directiveLocation) :
    ∀ (ls : List String), (ls.all fun l => Tables.gqlDirectiveLocations.contains l) = true →
      evalLocations ρ (ls.map fun l => ("DirectiveLocation", l)) = .ok ls
  | [], _ => rfl
  | l :: rest, h => by
    have h' : Tables.gqlDirectiveLocations.contains l = true ∧
        (rest.all fun l => Tables.gqlDirectiveLocations.contains l) = true := by simpa using h
    have ih := evalLocations_gen hρ rest h'.2
    simp only [List.map_cons, evalLocations, callee_eq hρ (by simp), bind_ok, h'.1, require_true, ih]
    simp [require]

theorem evalDirective_gen {ρ : Env} {tm : Name} (hρ : EnvGood ρ tm) (hs : List (String × Head)) (d : DirectiveDef)
    (h : directiveOK hs d = true) : evalDirective ρ hs (genDirective tm d) = .ok d := by
  unfold directiveOK at h
  have ⟨h12, h3⟩ := Bool.and_eq_true_iff.mp h
  have ⟨h1, h2⟩ := Bool.and_eq_true_iff.mp h12
  have hl := evalLocations_gen hρ.dirLoc d.locations h2
  obtain ⟨dn, dd, dr, dl, da⟩ := d
  simp only at h1 h3 hl
  cases da with
  | nil =>
    simp [genDirective, evalDirective, callee_eq hρ.directive, evalNameStr, evalOptStr_gen, evalBool, hl, require, h1]
  | cons a rest =>
    have ha := evalArgs_gen hρ hs "GraphQLArgument" .argument hρ.argument (a :: rest) h3
    simp [genDirective, evalDirective, callee_eq hρ.directive, evalNameStr, evalOptStr_gen, evalBool, hl, require, h1, genArgs]
    simp at ha
    simp [ha]

theorem evalDirectives_gen {ρ : Env} {tm : Name} (hρ : EnvGood ρ tm) (hs : List (String × Head)) :
    ∀ (ds : List DirectiveDef), (∀ d ∈ ds, directiveOK hs d = true) →
      evalDirectives ρ hs (ds.map (genDirective tm)) = .ok ds
  | [], _ => rfl
  | d :: rest, h => by
    have h1 := evalDirective_gen hρ hs d (h d (by simp))
    have h2 := evalDirectives_gen hρ hs rest (fun x hx => h x (by simp [hx]))
    simp [evalDirectives, h1, h2]

theorem evalRoot_gen {ρ : Env} {tm : Name} (hρ : EnvGood ρ tm) (hs : List (String × Head)) (r : Option (Name × Kind))
    (h : rootOK hs r = true) : evalRoot ρ hs (genRoot tm r) = .ok r := by
  cases r with
  | none => rfl
  | some p =>
    obtain ⟨n, k⟩ := p
    have hl : alookup n hs = some (k, n) := by simpa [rootOK] using h
    simp [genRoot, evalRoot, evalCast_gen hρ hs n k hl]

end Ariadne.SchemaRoundtrip
