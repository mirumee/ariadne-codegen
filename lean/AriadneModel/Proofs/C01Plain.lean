/-
  Property C01, "plain selections" tier: the main theorems.

  For a selection set consisting only of FIELDS (no fragment spreads, no inline fragments) whose fields are
  leaf-typed (scalar / enum under any list / non-null wrappers, no sub-selection) or object-typed (any
  wrappers, with a sub-selection that is again plain) — aliases and `@skip` / `@include` allowed — and that
  satisfies the decidable predicate `PlainOK` (Proofs/C01PlainDefs.lean):

    (1) `plain_generation`: `_parse_type_definition` succeeds for every fuel `≥ gfuel sel` and returns exactly
        the structurally defined `plainClasses env cn tn sel` (head class named `cn`); the new class names are
        appended to `publicNames` and `marks` is unchanged;
    (2) `plain_roundtrip`: every JSON value `j` that a conformant executor can return for the selection set
        (`Exec.respOK`, any executor fuel, any fragment table) and that has NO DUPLICATE OBJECT KEYS
        (`nodupKeys j`, hereditarily) is accepted by the root model, and the dump equals `j` up to the order
        of object members (`J.eqv (Pyd.dump v) j = true`), for every validation fuel `≥ vneed env tn sel + 1`;
    (3) `C01_plain`: both together, in the shape of the property statement.

  About `nodupKeys j`: `Exec.respOK` judges an association list by its FIRST binding of every key, and
  `J.eqv` compares lengths, so without this hypothesis the conclusion is false (`dupKey_counterexample`
  below); JSON objects decoded by the harness never have duplicate keys (Model/Json.lean).

  What `PlainOK env cn tn sid sel st` demands beyond "plain" (each item is needed, see the comments in
  C01PlainDefs.lean):
    * every field exists on its parent type; no field is `__typename` (generator and executor both treat it
      specially; for nested classes the generator passes non-empty `typename values`, which changes its annotation);
    * leaf field ⇔ empty sub-selection; leaf = scalar that is NOT configured as custom scalar, or enum;
      object field ⇔ non-empty sub-selection, the base type has kind OBJECT;
    * no `@mixin` directive on a field;
    * per selection set: response keys pairwise distinct, Python names pairwise distinct, and the Python name of
      an aliased field (python name ≠ response key) is not the response key of another field of the same
      selection set (pydantic `populate_by_name` would otherwise read the other field's value when the
      aliased, conditional field is absent);
    * all generated class names (parent class name ++ pascal(python name)) pairwise distinct and not in
      `st.publicNames`;
    * neither `sid` nor the `sid` of a sub-selection set is in `st.marks` (a selection-set object that already
      carries an automatic `__typename` from an earlier generation gets a required `typename__` field).
  The kind of the TOP type `tn` is not constrained (only its fields are looked up).

  Hypotheses on the pydantic environment (`PenvOK`): it agrees with the schema on enums
  (`ResultLeaf.EnvAgrees`), looking up the name of each generated class gives that class (`PenvOK.of_nodup`:
  the classes are among `penv.classes`, whose names are pairwise distinct), and there is no
  class called `BaseModel` (the generated classes inherit from pydantic's `BaseModel`, which has no fields).
-/
import AriadneModel.Proofs.C01PlainVal
import AriadneModel.Proofs.C01EnvAgrees


namespace Ariadne.C01Plain
open Ariadne Ariadne.Gql Ariadne.ResultTypes

/-- hypotheses on the pydantic environment in which the generated classes are used -/
structure PenvOK (env : ResultTypes.Env) (penv : Pyd.Env) (classes : List ClassDecl) : Prop where
  agrees : ResultLeaf.EnvAgrees env penv
  has : ∀ c ∈ classes, penv.class? c.name = some c
  noBaseModel : penv.class? "BaseModel" = none

theorem class?_of_nodup (penv : Pyd.Env) (hnd : (penv.classes.map (·.name)).Nodup) (c : ClassDecl) (hc : c ∈ penv.classes) :
    penv.class? c.name = some c :=
  Lists.find?_of_nodup_map hnd hc rfl

theorem PenvOK.of_nodup (env : ResultTypes.Env) (penv : Pyd.Env) (classes : List ClassDecl)
    (agrees : ResultLeaf.EnvAgrees env penv) (noBaseModel : penv.class? "BaseModel" = none)
    (hmem : ∀ c ∈ classes, c ∈ penv.classes) (hnd : (penv.classes.map (·.name)).Nodup) : PenvOK env penv classes :=
  ⟨agrees, fun c hc => class?_of_nodup penv hnd c (hmem c hc), noBaseModel⟩

theorem class?_none_of_not_mem (penv : Pyd.Env) (n : String) (h : n ∉ penv.classes.map (·.name)) :
    penv.class? n = none := by
  unfold Pyd.Env.class?
  rw [List.find?_eq_none]
  intro c hc e
  exact h (List.mem_map.mpr ⟨c, hc, by simpa using e⟩)

theorem PlainOK_spec {env : ResultTypes.Env} {cn tn : String} {sid : Nat} {sel : List Selection} {st : St}
    (h : PlainOK env cn tn sid sel st = true) :
    st.marks.contains sid = false ∧ setOK env sel = true ∧ plainLocal env st.marks cn tn sel = true ∧
    ((plainClasses env cn tn sel).map (·.name)).Nodup ∧
    (∀ n ∈ (plainClasses env cn tn sel).map (·.name), n ∉ st.publicNames) := by
  simp only [PlainOK, Bool.and_eq_true, Bool.not_eq_true', nodupB_iff, List.all_eq_true,
    List.contains_eq_mem, decide_eq_false_iff_not] at h
  obtain ⟨⟨⟨⟨h1, h2⟩, h3⟩, h4⟩, h5⟩ := h
  exact ⟨by simpa using h1, h2, h3, h4, h5⟩

theorem plain_generation (env : ResultTypes.Env) (cn tn : String) (sid : Nat) (sel : List Selection) (st : St)
    (h : PlainOK env cn tn sid sel st = true) (tv : List String) (fuel : Nat) (hfuel : gfuel sel ≤ fuel) :
    ∃ st', parseTypeDefinition env fuel cn tn sid sel false [] tv st = .ok (plainClasses env cn tn sel, st') ∧
      st'.publicNames = st.publicNames ++ (plainClasses env cn tn sel).map (·.name) ∧
      st'.marks = st.marks := by
  obtain ⟨h1, _, h3, h4, h5⟩ := PlainOK_spec h
  exact gen_spec env fuel cn tn sid sel tv st hfuel h1 h3 h4 h5

theorem plain_roundtrip (env : ResultTypes.Env) (cn tn : String) (sid : Nat) (sel : List Selection) (st : St)
    (h : PlainOK env cn tn sid sel st = true)
    (penv : Pyd.Env) (hp : PenvOK env penv (plainClasses env cn tn sel))
    (frags : List Fragment) (efuel : Nat) (j : J)
    (hresp : Exec.respOK env.schema frags efuel tn sel j = true) (hj : nodupKeys j = true)
    (vfuel : Nat) (hv : vneed env tn sel + 1 ≤ vfuel) :
    ∃ v, Pyd.validate penv vfuel (.cls cn) j = .ok v ∧ J.eqv (Pyd.dump v) j = true := by
  obtain ⟨_, h2, h3, _, _⟩ := PlainOK_spec h
  exact val_spec env penv frags hp.agrees hp.noBaseModel efuel st.marks cn tn sel h2 h3 hp.has j hresp hj vfuel hv

theorem C01_plain (env : ResultTypes.Env) (cn tn : String) (sid : Nat) (sel : List Selection) (st : St)
    (h : PlainOK env cn tn sid sel st = true) :
    ∃ classes : List ClassDecl,
      -- (1) generation succeeds for every sufficiently large fuel, the root class comes first
      (∀ fuel, gfuel sel ≤ fuel →
        ∃ st', parseTypeDefinition env fuel cn tn sid sel false [] [] st = .ok (classes, st')) ∧
      classes.head?.map (·.name) = some cn ∧
      -- (2) every answer of a conformant server is accepted and preserved
      (∀ (penv : Pyd.Env), PenvOK env penv classes →
        ∀ (efuel : Nat) (j : J), Exec.respOK env.schema [] efuel tn sel j = true → nodupKeys j = true →
        ∀ vfuel, vneed env tn sel + 1 ≤ vfuel →
          ∃ v, Pyd.validate penv vfuel (.cls cn) j = .ok v ∧ J.eqv (Pyd.dump v) j = true) := by
  refine ⟨plainClasses env cn tn sel, ?_, rfl, ?_⟩
  · intro fuel hfuel
    obtain ⟨st', hst, _⟩ := plain_generation env cn tn sid sel st h [] fuel hfuel
    exact ⟨st', hst⟩
  · intro penv hp efuel j hresp hj vfuel hv
    exact plain_roundtrip env cn tn sid sel st h penv hp [] efuel j hresp hj vfuel hv

/-! ### a concrete input satisfying `PlainOK`

    query Q($a: Boolean!, $b: Boolean!) {
      me { id givenName: firstName role friends @include(if: $a) { id } }
      everyone: users { id firstName @skip(if: $b) }
    }
-/

def exSchema : Schema :=
  { types := [
      { name := "Query", kind := .object,
        fields := [{ name := "me", type := .named "User" },
                   { name := "users", type := .nonNull (.list (.nonNull (.named "User"))) }] },
      { name := "User", kind := .object,
        fields := [{ name := "id", type := .nonNull (.named "ID") },
                   { name := "firstName", type := .named "String" },
                   { name := "role", type := .nonNull (.named "Role") },
                   { name := "friends", type := .list (.named "User") }] },
      { name := "Role", kind := .enum, values := ["ADMIN", "USER"] }],
    query := some "Query" }

def exEnv : ResultTypes.Env := { schema := exSchema, frags := [] }

def exSel : List Selection :=
  [ .field none "me" [] 2
      [ .field none "id" [] 0 [],
        .field (some "givenName") "firstName" [] 0 [],
        .field none "role" [] 0 [],
        .field none "friends" [{ name := "include", args := [("if", none)] }] 3 [.field none "id" [] 0 []] ],
    .field (some "everyone") "users" [] 4
      [ .field none "id" [] 0 [],
        .field none "firstName" [{ name := "skip", args := [("if", none)] }] 0 [] ] ]

def exResp : J :=
  .obj [("everyone", .arr [.obj [("id", .str "1")], .obj [("firstName", .null), ("id", .str "2")]]),
        ("me", .obj [("id", .str "1"), ("givenName", .str "Ada"), ("role", .str "ADMIN"),
                     ("friends", .arr [.null, .obj [("id", .str "2")]])])]

def exPenv : Pyd.Env := { classes := plainClasses exEnv "Q" "Query" exSel, enums := [("Role", ["ADMIN", "USER"])] }

/-- What the kernel evaluates on the example of this file, in one declaration: every evaluation that converts a name decodes the
    keyword tables of `Model/Names.lean`, and the kernel shares work (those tables, the generated classes) only inside one declaration. -/
theorem evaluated :
    (PlainOK exEnv "Q" "Query" 1 exSel {} = true
      ∧ (plainClasses exEnv "Q" "Query" exSel).map (·.name) = ["Q", "QMe", "QMeFriends", "QEveryone"]) ∧
    (Exec.respOK exSchema [] 5 "Query" exSel exResp = true ∧ nodupKeys exResp = true) ∧
    ((match parseTypeDefinition exEnv 10 "Q" "Query" 1 exSel false [] [] {} with
       | .ok (cs, _) => (cs.map (·.name)) == exPenv.classes.map (·.name)
       | .error _ => false) = true
      ∧ (match Pyd.validate exPenv 20 (.cls "Q") exResp with
         | .ok v => J.eqv (Pyd.dump v) exResp
         | .error _ => false) = true) ∧
    (Exec.respOK exSchema [] 5 "User" [.field none "id" [] 0 []] (.obj [("id", .str "1"), ("id", .str "2")]) = true
      ∧ PlainOK exEnv "U" "User" 1 [.field none "id" [] 0 []] {} = true
      ∧ (match Pyd.validate { classes := plainClasses exEnv "U" "User" [.field none "id" [] 0 []], enums := [] } 20 (.cls "U")
            (.obj [("id", .str "1"), ("id", .str "2")]) with
         | .ok v => J.eqv (Pyd.dump v) (.obj [("id", .str "1"), ("id", .str "2")])
         | .error _ => false) = false) := by
  decide +kernel

theorem exSel_ok : PlainOK exEnv "Q" "Query" 1 exSel {} = true
    ∧ (plainClasses exEnv "Q" "Query" exSel).map (·.name) = ["Q", "QMe", "QMeFriends", "QEveryone"] := evaluated.1

/-- nested object field (`me`), list of objects (`users`, `friends`), aliased fields (`givenName`, `everyone`),
    conditional fields (`friends`, `firstName`), an enum leaf (`role`) -/
example : PlainOK exEnv "Q" "Query" 1 exSel {} = true := exSel_ok.1

example : (plainClasses exEnv "Q" "Query" exSel).map (·.name) = ["Q", "QMe", "QMeFriends", "QEveryone"] := exSel_ok.2

theorem exResp_ok : Exec.respOK exSchema [] 5 "Query" exSel exResp = true ∧ nodupKeys exResp = true := evaluated.2.1

example : Exec.respOK exSchema [] 5 "Query" exSel exResp = true ∧ nodupKeys exResp = true := exResp_ok

/-- the conclusion, computed on the example (the model of the generator produces these very classes) -/
example :
    (match parseTypeDefinition exEnv 10 "Q" "Query" 1 exSel false [] [] {} with
     | .ok (cs, _) => (cs.map (·.name)) == exPenv.classes.map (·.name)
     | .error _ => false) = true
    ∧ (match Pyd.validate exPenv 20 (.cls "Q") exResp with
       | .ok v => J.eqv (Pyd.dump v) exResp
       | .error _ => false) = true := evaluated.2.2.1

/-! the hypotheses of the theorem hold for the example (non-vacuity), and the theorem applies -/

theorem exPenvOK : PenvOK exEnv exPenv (plainClasses exEnv "Q" "Query" exSel) :=
  PenvOK.of_nodup exEnv exPenv _ (C01.envAgrees_of_schemaOK exEnv exPenv (by decide +kernel) (by decide +kernel))
    (class?_none_of_not_mem exPenv "BaseModel" (by rw [show exPenv.classes.map (·.name) = _ from exSel_ok.2]; decide))
    (fun c hc => hc) (PlainOK_spec exSel_ok.1).2.2.2.1

example : ∃ v, Pyd.validate exPenv 20 (.cls "Q") exResp = .ok v ∧ J.eqv (Pyd.dump v) exResp = true :=
  plain_roundtrip exEnv "Q" "Query" 1 exSel {} exSel_ok.1 exPenv exPenvOK [] 5 exResp exResp_ok.1 exResp_ok.2 20
    (by decide +kernel)

/-- why `nodupKeys` is needed: an association list with a repeated key passes `Exec.respOK` (first binding),
    is accepted, but the dump (one member) is not `J.eqv` to it (two members) -/
theorem dupKey_counterexample :
    Exec.respOK exSchema [] 5 "User" [.field none "id" [] 0 []] (.obj [("id", .str "1"), ("id", .str "2")]) = true
    ∧ PlainOK exEnv "U" "User" 1 [.field none "id" [] 0 []] {} = true
    ∧ (match Pyd.validate { classes := plainClasses exEnv "U" "User" [.field none "id" [] 0 []], enums := [] } 20 (.cls "U")
          (.obj [("id", .str "1"), ("id", .str "2")]) with
       | .ok v => J.eqv (Pyd.dump v) (.obj [("id", .str "1"), ("id", .str "2")])
       | .error _ => false) = false := evaluated.2.2.2

end Ariadne.C01Plain
