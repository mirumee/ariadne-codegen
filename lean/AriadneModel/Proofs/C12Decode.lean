/-
  Lemmas about the JSON decoding reference (Spec/PyJson.lean) used by Properties/C12.lean:
  the only non-`ValueError` the decoder lets out is `RecursionError`; a body of `depthLimit + 1`
  opening brackets raises it, for every limit; an integer literal over the digit limit is a
  `ValueError`; a repeated key keeps the last value.
-/
import AriadneModel.Spec.PyJson
import AriadneModel.Proofs.Json

namespace Ariadne.PyJson

theorem parseText_raises (cfg : Cfg) (cps : List Nat) (x : String) (h : parseText cfg cps = .raises x) :
    x = recursionError := by
  unfold parseText at h
  split at h
  · simp at h
  · simp at h; exact h.symm
  · split at h <;> simp at h

theorem loads_raises (cfg : Cfg) (b : List Nat) (x : String) (h : loads cfg b = .raises x) :
    x = recursionError := by
  unfold loads at h
  split at h
  · simp at h
  · exact parseText_raises cfg _ x h

theorem loads_undecodable (cfg : Cfg) (b : List Nat) (h : decodeBytes b = none) : loads cfg b = .valueError := by
  simp [loads, h]

theorem detect_ascii_run (c : Nat) (h0 : c ≠ 0) (h : c < 128) (n : Nat) : detectEncoding (List.replicate n c) = .utf8 := by
  have e1 : (c == 0) = false := by simpa using h0
  have e2 : (c == 255) = false := by simp; omega
  have e3 : (c == 254) = false := by simp; omega
  have e4 : (c == 239) = false := by simp; omega
  match n with
  | 0 => simp [detectEncoding, startsWith]
  | 1 => simp [detectEncoding, startsWith, List.replicate, e1, e2, e3, e4]
  | 2 => simp [detectEncoding, startsWith, List.replicate, e1, e2, e3, e4]
  | 3 => simp [detectEncoding, startsWith, List.replicate, e1, e2, e3, e4]
  | n + 4 => simp [detectEncoding, startsWith, List.replicate_succ, e1, e2, e3, e4]

theorem decodeUtf8_ascii_run (c : Nat) (h : c < 128) (n : Nat) (acc : List Nat) :
    decodeUtf8 acc (List.replicate n c) = some (acc.reverse ++ List.replicate n c) := by
  induction n generalizing acc with
  | zero => simp [decodeUtf8]
  | succ n ih =>
    rw [List.replicate_succ, decodeUtf8.eq_def]
    simp [h, ih]

theorem decodeBytes_ascii_run (c : Nat) (h0 : c ≠ 0) (h : c < 128) (n : Nat) :
    decodeBytes (List.replicate n c) = some (List.replicate n c) := by
  simp [decodeBytes, detect_ascii_run c h0 h, decodeUtf8_ascii_run c h]

def lbr : Nat := 91

theorem decodeBytes_brackets (n : Nat) : decodeBytes (List.replicate n lbr) = some (List.replicate n lbr) :=
  decodeBytes_ascii_run lbr (by decide) (by decide) n

theorem skipWs_brackets (n : Nat) : skipWs (List.replicate n lbr) = List.replicate n lbr := by
  cases n with
  | zero => simp [skipWs]
  | succ n => rw [List.replicate_succ]; simp [skipWs, isWs, lbr]

/-- entering the container at depth `depthLimit` is refused; `j` = levels still allowed -/
theorem parseValue_brackets (cfg : Cfg) (j : Nat) :
    ∀ (d fuel m : Nat), d + j = cfg.depthLimit → j + 1 ≤ m → 2 * j + 1 ≤ fuel →
      parseValue cfg fuel d (List.replicate m lbr) = .rerr := by
  induction j with
  | zero =>
    intro d fuel m hd hm hf
    obtain ⟨f, rfl⟩ : ∃ f, fuel = f + 1 := ⟨fuel - 1, by omega⟩
    obtain ⟨m', rfl⟩ : ∃ m', m = m' + 1 := ⟨m - 1, by omega⟩
    rw [List.replicate_succ]
    have hge : d ≥ cfg.depthLimit := by omega
    simp [parseValue, lbr, hge]
  | succ j ih =>
    intro d fuel m hd hm hf
    obtain ⟨f, rfl⟩ : ∃ f, fuel = f + 2 := ⟨fuel - 2, by omega⟩
    obtain ⟨m', rfl⟩ : ∃ m', m = m' + 2 := ⟨m - 2, by omega⟩
    have hlt : ¬ (d ≥ cfg.depthLimit) := by omega
    have hrec := ih (d + 1) f (m' + 1) (by omega) (by omega) (by omega)
    rw [List.replicate_succ]
    have hsk : skipWs (List.replicate (m' + 1) lbr) = lbr :: List.replicate m' lbr := by
      rw [skipWs_brackets, List.replicate_succ]
    rw [List.replicate_succ] at hrec
    simp [parseValue, lbr, hlt, parseItems] at hrec ⊢
    simp [lbr] at hsk
    simp [hsk, hrec]

theorem parseText_deep (cfg : Cfg) :
    parseText cfg (List.replicate (cfg.depthLimit + 1) lbr) = .raises recursionError := by
  unfold parseText
  rw [skipWs_brackets]
  rw [parseValue_brackets cfg cfg.depthLimit 0 _ (cfg.depthLimit + 1) (by omega) (by omega) (by simp; omega)]

theorem loads_deep (cfg : Cfg) :
    loads cfg (List.replicate (cfg.depthLimit + 1) lbr) = .raises recursionError := by
  simp [loads, decodeBytes_brackets, parseText_deep]

def one : Nat := 49     -- '1'

theorem takeDigits_ones (n : Nat) (acc : List Nat) :
    takeDigits acc (List.replicate n one) = (acc.reverse ++ List.replicate n 1, []) := by
  induction n generalizing acc with
  | zero => simp [takeDigits]
  | succ n ih =>
    have : List.replicate (n + 1) one = one :: List.replicate n one := by simp [List.replicate_succ]
    rw [this]
    have h : takeDigits acc (one :: List.replicate n one) = takeDigits (1 :: acc) (List.replicate n one) := by
      simp [takeDigits, isDigit, one]
    rw [h, ih]
    simp [List.replicate_succ]

/-- an integer literal with more digits than `sys.get_int_max_str_digits()` is a `ValueError`
    (so the body is "not JSON" for `get_data`), whatever the limit is -/
theorem parseText_long_int (cfg : Cfg) (n : Nat) (h0 : cfg.intMaxDigits ≠ 0) (hn : cfg.intMaxDigits < n) :
    parseText cfg (List.replicate n one) = .valueError := by
  obtain ⟨m, rfl⟩ : ∃ m, n = m + 1 := ⟨n - 1, by omega⟩
  have hr : List.replicate (m + 1) one = one :: List.replicate m one := by simp [List.replicate_succ]
  have hsk : skipWs (List.replicate (m + 1) one) = one :: List.replicate m one := by
    rw [hr]; simp [skipWs, isWs, one]
  have htd : takeDigits [] (one :: List.replicate m one) = (List.replicate (m + 1) 1, []) := by
    rw [← hr, takeDigits_ones]; simp
  have hnum : parseNumber cfg false (one :: List.replicate m one) = .verr := by
    unfold parseNumber
    simp only [one, isDigit] at htd ⊢
    simp [htd, h0, hn]
  unfold parseText
  rw [hsk]
  have : parseValue cfg (2 * (List.replicate (m + 1) one).length + 2) 0 (one :: List.replicate m one) = .verr := by
    have hf : 2 * (List.replicate (m + 1) one).length + 2 = (2 * m + 3) + 1 := by simp; omega
    rw [hf]
    simp only [parseValue]
    simp [one, lNull, lTrue, lFalse, lNaN, lInfinity]
    simpa [one] using hnum
  rw [this]

theorem loads_long_int (cfg : Cfg) (n : Nat) (h0 : cfg.intMaxDigits ≠ 0) (hn : cfg.intMaxDigits < n) :
    loads cfg (List.replicate n one) = .valueError := by
  simp [loads, decodeBytes_ascii_run one (by decide) (by decide), parseText_long_int cfg n h0 hn]

/-- `d[k] = v` while decoding an object: what a lookup finds afterwards -/
theorem lookup_insertKv (k : String) (v : J) (x : String) (kvs : List (String × J)) :
    J.lookup x (insertKv k v kvs) = if k = x then some v else J.lookup x kvs := by
  rw [J.lookup_eq, J.lookup_eq]
  exact Lists.lookup_set_of_eqns insertKv (fun _ _ => rfl)
    (fun k v k' v' r => by by_cases e : k' = k <;> simp [insertKv, e]) k v x kvs

end Ariadne.PyJson
