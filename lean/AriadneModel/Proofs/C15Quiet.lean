/-
  C15: the run of the generator as a sequence of hook calls — ShorterResults' recording hooks (`bookStep`), one hook call in
  terms of what the plugin manager returns (`stepEvent_of_manager`), a run that does not raise as a relation (`Run`), two
  runs compared hook call by hook call (`run_sim`), and the case of one inserted plugin that rewrites the client module
  (`stepEvent_insert`, `rel_pipeline`).  A QUIET list (`quiet_decompose`, Properties/C15.lean) is an inert list with at most one
  other plugin in it: its run is the unplugged run but for what that one plugin does.
-/
import AriadneModel.Proofs.C15Manager
import AriadneModel.Model.PluginWhole


namespace Ariadne.C15
open Ariadne.Py Ariadne.Plugins

def bookStep (st : ShorterState) (e : Event) : ShorterState :=
  if e.call.hook == "generate_client_module" then st
  else match shorterStep e.call st e.payload with
    | .ok r => r.1
    | .error _ => st

theorem shorterFacts_eq (fm : String) (evs : List Event) :
    shorterFacts fm evs = evs.foldl bookStep { fragmentsModuleName := fm } := rfl

theorem inputFor_payload {P : PipeState} {e : Event}
    (h : e.call.hook ∉ ["generate_client_class", "generate_client_module", "generate_init_module"]) : inputFor P e = e.payload := by
  simp only [List.mem_cons, List.not_mem_nil, or_false, not_or] at h
  unfold inputFor
  split <;> simp_all

theorem inputFor_cm_module (P : PipeState) (cm : Event) (hc : cm.call.hook = "generate_client_module") (mp : Module)
    (hp : cm.payload = .module mp) : ∃ M, inputFor P cm = .module M := by
  unfold inputFor
  rw [hc, hp]
  simp only
  split <;> exact ⟨_, rfl⟩

theorem bookStep_idle {st : ShorterState} {e : Event} (h : e.call.hook ∉ hooksOf (.shorter st)) : bookStep st e = st := by
  unfold bookStep
  rw [show shorterStep e.call st e.payload = .ok (st, e.payload) from hook_idle h e.payload]
  split <;> rfl

theorem shorterStep_book {st : ShorterState} {e : Event} (hc : e.call.hook ≠ "generate_client_module") {x : Payload}
    (hx : e.call.hook ∈ recordingHooks → x = e.payload) : shorterStep e.call st x = .ok (bookStep st e, x) := by
  by_cases hi : e.call.hook ∈ hooksOf (.shorter st)
  · have hrec : e.call.hook ∈ recordingHooks := by
      simp only [hooksOf, List.mem_cons, List.not_mem_nil, or_false] at hi
      simp only [recordingHooks, List.mem_cons, List.not_mem_nil, or_false]
      rcases hi with h | h | h | h
      · exact absurd h hc
      · exact .inr (.inr h)
      · exact .inl h
      · exact .inr (.inl h)
    obtain ⟨st', hs⟩ := shorterStep_noncm e.call hc st e.payload
    have hb : (e.call.hook == "generate_client_module") = false := by simpa using hc
    rw [hx hrec, hs]
    unfold bookStep
    simp only [hb, hs]
    rfl
  · rw [bookStep_idle hi]
    exact hook_idle hi x

theorem manager_nil (c : Call) (x : Payload) : manager c [] x = .ok ([], x) := rfl

theorem stepEvent_of_manager (p : PipeState) (e : Event) (ps' : List PState) (y : Payload)
    (h : manager e.call p.plugins (inputFor p e) = .ok (ps', y)) :
    stepEvent p e = .ok (record { p with plugins := ps', trace := p.trace ++ [(e.call, inputFor p e, y)] } e.call y) := by
  unfold stepEvent
  dsimp only
  rw [h]
  rfl

theorem stepEvent_of_manager_error (p : PipeState) (e : Event) (err : Err)
    (h : manager e.call p.plugins (inputFor p e) = .error err) : stepEvent p e = .error err := by
  unfold stepEvent
  dsimp only
  rw [h]
  rfl

theorem stepEvent_nil (p : PipeState) (hp : p.plugins = []) (e : Event) :
    stepEvent p e = .ok (record { p with plugins := [], trace := p.trace ++ [(e.call, inputFor p e, inputFor p e)] } e.call (inputFor p e)) :=
  stepEvent_of_manager p e [] (inputFor p e) (by rw [hp]; rfl)

theorem stepEvent_finalOf (p q : PipeState) (e : Event) (h : stepEvent p e = .ok q) (hook : String) :
    q.finalOf hook = if e.call.hook == hook then (q.trace.getLast?.map (·.2.2)) else p.finalOf hook := by
  cases hm : manager e.call p.plugins (inputFor p e) with
  | error err => rw [stepEvent_of_manager_error p e err hm] at h; cases h
  | ok r =>
    rw [stepEvent_of_manager p e r.1 r.2 hm] at h
    simp only [Except.ok.injEq] at h
    rw [← h, record_finalOf, finalOf_eq, finalOfTrace_snoc]
    split
    · rw [record_trace]; simp
    · rw [finalOf_eq]

inductive Run : PipeState → List Event → PipeState → Prop where
  | nil (P : PipeState) : Run P [] P
  | cons {P P' P'' : PipeState} {e : Event} {evs : List Event} :
      stepEvent P e = .ok P' → Run P' evs P'' → Run P (e :: evs) P''

theorem run_iff {P P' : PipeState} {evs : List Event} : Run P evs P' ↔ runPipeline P evs = (P', none) := by
  induction evs generalizing P with
  | nil => exact ⟨fun h => by cases h; rfl, fun h => by cases h; exact .nil _⟩
  | cons e rest ih =>
    constructor
    · rintro (_ | ⟨hs, hr⟩); simp only [runPipeline, hs]; exact ih.mp hr
    · intro h
      simp only [runPipeline] at h
      cases hs : stepEvent P e with
      | error err => rw [hs] at h; cases h
      | ok P1 => rw [hs] at h; exact .cons hs (ih.mpr h)

theorem run_of_noerr {P : PipeState} {evs : List Event} (h : (runPipeline P evs).2 = none) : Run P evs (runPipeline P evs).1 :=
  run_iff.mpr (Prod.ext rfl h)

theorem Run.append {P P'' : PipeState} {a b : List Event} : Run P (a ++ b) P'' ↔ ∃ P', Run P a P' ∧ Run P' b P'' := by
  induction a generalizing P with
  | nil => exact ⟨fun h => ⟨_, .nil _, h⟩, fun ⟨_, h1, h2⟩ => by cases h1; exact h2⟩
  | cons e rest ih =>
    constructor
    · rintro (_ | ⟨hs, hr⟩); obtain ⟨P', h1, h2⟩ := ih.mp hr; exact ⟨P', .cons hs h1, h2⟩
    · rintro ⟨P', (_ | ⟨hs, h1⟩), h2⟩; exact .cons hs (ih.mpr ⟨P', h1, h2⟩)

theorem Run.finalOf {P P' : PipeState} {evs : List Event} (h : Run P evs P') (hook : String)
    (hno : ∀ e ∈ evs, e.call.hook ≠ hook) : P'.finalOf hook = P.finalOf hook := by
  induction h with
  | nil => rfl
  | @cons P P1 _ e _ hs _ ih =>
    rw [ih (fun e' he' => hno e' (by simp [he'])), stepEvent_finalOf P P1 e hs hook]
    have : (e.call.hook == hook) = false := by simpa using hno e (by simp)
    simp [this]

theorem run_unplugged : ∀ (evs : List Event) (Q : PipeState), Q.plugins = [] → ∃ Q', Run Q evs Q' ∧ Q'.plugins = []
  | [], Q, h => ⟨Q, .nil Q, h⟩
  | e :: rest, Q, h => by
    obtain ⟨Q', hQ', hn⟩ := run_unplugged rest _
      (show (record { Q with plugins := [], trace := _ } e.call (inputFor Q e)).plugins = [] from record_plugins _ _ _)
    exact ⟨Q', .cons (stepEvent_nil Q h e) hQ', hn⟩

theorem mid_manager (c : Call) (a a' b : List PState) (p : PState) (x xa : Payload)
    (hxa : applyAll PState.step c a x = .ok (a', xa)) :
    manager c (a ++ p :: b) x =
      (PState.step c p xa >>= fun r =>
        applyAll PState.step c b r.2 >>= fun rb => pure (a' ++ r.1 :: rb.1, rb.2)) := by
  unfold manager
  rw [applyAll_append, hxa]
  simp only [bind_ok]
  rw [applyAll_cons]
  cases PState.step c p xa with
  | error e => rfl
  | ok r =>
    simp only [bind_ok, pure_eq_ok]
    cases applyAll PState.step c b r.2 <;> rfl

theorem stepEvent_insert (P Q Q' : PipeState) (e : Event) (a b : List PState) (p p' : PState)
    (hP : P.plugins = a ++ p :: b) (hQp : Q.plugins = a ++ b) (hb : SameBooks P Q)
    (hpass : ∀ ra, applyAll PState.step e.call a (inputFor Q e) = .ok ra → PState.step e.call p ra.2 = .ok (p', ra.2))
    (hQ : stepEvent Q e = .ok Q') :
    ∃ ra rb P', applyAll PState.step e.call a (inputFor Q e) = .ok ra ∧ applyAll PState.step e.call b ra.2 = .ok rb ∧
      stepEvent P e = .ok P' ∧ P'.plugins = ra.1 ++ p' :: rb.1 ∧ Q'.plugins = ra.1 ++ rb.1 ∧ SameBooks P' Q' := by
  have hin : inputFor P e = inputFor Q e := hb.inputFor e
  cases hma : applyAll PState.step e.call a (inputFor Q e) with
  | error err =>
    exfalso
    have : manager e.call Q.plugins (inputFor Q e) = .error err := by
      unfold manager; rw [hQp, applyAll_append, hma]; rfl
    rw [stepEvent_of_manager_error Q e err this] at hQ
    cases hQ
  | ok ra =>
    cases hmb : applyAll PState.step e.call b ra.2 with
    | error err =>
      exfalso
      have : manager e.call Q.plugins (inputFor Q e) = .error err := by
        unfold manager; rw [hQp, applyAll_append, hma]; simp only [bind_ok]; rw [hmb]; rfl
      rw [stepEvent_of_manager_error Q e err this] at hQ
      cases hQ
    | ok rb =>
      have hmQ : manager e.call Q.plugins (inputFor Q e) = .ok (ra.1 ++ rb.1, rb.2) := by
        unfold manager; rw [hQp, applyAll_append, hma]; simp only [bind_ok]; rw [hmb]; rfl
      have hmP : manager e.call P.plugins (inputFor P e) = .ok (ra.1 ++ p' :: rb.1, rb.2) := by
        rw [hin, hP, mid_manager e.call a ra.1 b p _ ra.2 hma, hpass ra hma]
        simp only [bind_ok]
        rw [hmb]
        rfl
      rw [stepEvent_of_manager Q e _ _ hmQ] at hQ
      have hQ' := (Except.ok.inj hQ).symm
      refine ⟨ra, rb, _, rfl, hmb, stepEvent_of_manager P e _ _ hmP, ?_⟩
      rw [hQ', hin]
      refine ⟨record_plugins _ _ _, record_plugins _ _ _, ?_⟩
      apply SameBooks.record
      exact ⟨hb.methods, hb.imports, hb.gql, hb.cls, hb.init⟩

/-- the `generate_client_module` call with the plugin `mk s` inserted between `a` and `b`: the plugins of `a` make `Min` of the
    module in both runs, the plugins of `b` put `fr` in front of whatever they are handed, and the plugin itself (`run`)
    rewrites `Min` -/
theorem stepEvent_insert_cm {σ : Type} (mk : σ → PState) (run : σ → Module → M (σ × Module)) (s : σ)
    (P Q Q' : PipeState) (e : Event) (a a' b : List PState) (fr : List Top) (M Min : Module)
    (hc : e.call.hook = "generate_client_module") (hP : P.plugins = a ++ mk s :: b) (hQp : Q.plugins = a ++ b)
    (hin : inputFor P e = inputFor Q e) (hX : inputFor Q e = .module M)
    (ha : applyAll PState.step e.call a (.module M) = .ok (a', .module Min))
    (hb : ∀ M', applyAll PState.step e.call b (.module M') = .ok (b, .module { body := fr ++ M'.body }))
    (hstep : PState.step e.call (mk s) (.module Min) = (run s Min >>= fun r => pure (mk r.1, .module r.2)))
    (hQ : stepEvent Q e = .ok Q') :
    Q' = { Q with plugins := a' ++ b, trace := Q.trace ++ [(e.call, .module M, .module { body := fr ++ Min.body })] } ∧
    (∀ r, run s Min = .ok r → stepEvent P e = .ok
      { P with plugins := a' ++ mk r.1 :: b, trace := P.trace ++ [(e.call, .module M, .module { body := fr ++ r.2.body })] }) := by
  have hmQ : manager e.call Q.plugins (inputFor Q e) = .ok (a' ++ b, .module { body := fr ++ Min.body }) := by
    unfold manager; rw [hX, hQp, applyAll_append, ha]; simp only [bind_ok]; rw [hb]; rfl
  have hmid : manager e.call P.plugins (inputFor P e) =
      (run s Min >>= fun r => applyAll PState.step e.call b (.module r.2) >>= fun rb => pure (a' ++ mk r.1 :: rb.1, rb.2)) := by
    rw [hin, hX, hP, mid_manager e.call a a' b (mk s) _ _ ha, hstep]
    cases run s Min with
    | error err => rfl
    | ok r => rfl
  refine ⟨?_, fun r hr => ?_⟩
  · rw [stepEvent_of_manager Q e _ _ hmQ, record_silent (by simp [recordedHooks, hc]), hX] at hQ
    exact (Except.ok.inj hQ).symm
  · have := stepEvent_of_manager P e (a' ++ mk r.1 :: b) (.module { body := fr ++ r.2.body })
      (by rw [hmid, hr]; simp only [bind_ok]; rw [hb]; rfl)
    rw [record_silent (by simp [recordedHooks, hc]), hin, hX] at this
    exact this

theorem finalOf_cm_snoc (p : PipeState) (c : Call) (hc : c.hook = "generate_client_module") (l : List PState)
    (x y : Payload) : ({ p with plugins := l, trace := p.trace ++ [(c, x, y)] } : PipeState).finalOf "generate_client_module" = some y := by
  rw [finalOf_eq, finalOfTrace_snoc]
  simp [hc]

/-- the operations module is that of the last ExtractOperations object: a plugin of another kind does not show -/
theorem opsFile_insert (P Q : PipeState) (a b : List PState) (p : PState) (hp : p.isExtract = false)
    (hP : P.plugins = a ++ p :: b) (hQ : Q.plugins = a ++ b) : P.opsFile? = Q.opsFile? := by
  unfold PipeState.opsFile?
  rw [hP, hQ]
  cases p <;> simp [PState.isExtract] at hp <;>
    simp [List.reverse_append, List.findSome?_append]

/-! ### two runs related hook call by hook call

  `P` is the run with a plugin in the list that `Q` runs without.  `s : σ` is what the plugin has recorded, `book s e` what
  the hook call `e` makes of it, `G s e` what the comparison needs of that call; `R s` relates the two pipeline states. -/

section RelPipeline
variable {σ : Type} (R : σ → PipeState → PipeState → Prop) (book : σ → Event → σ)

def Guarded (G : σ → Event → Prop) : σ → List Event → Prop
  | _, [] => True
  | s, e :: rest => G s e ∧ Guarded G (book s e) rest

theorem guarded_of_forall (G : Event → Prop) : ∀ (evs : List Event) (s : σ), (∀ e ∈ evs, G e) →
    Guarded book (fun _ e => G e) s evs
  | [], _, _ => trivial
  | e :: rest, _, h => ⟨h e (by simp), guarded_of_forall G rest _ (fun e' he' => h e' (by simp [he']))⟩

theorem run_sim (G : σ → Event → Prop)
    (hstep : ∀ s P Q e Q', G s e → R s P Q → stepEvent Q e = .ok Q' → ∃ P', stepEvent P e = .ok P' ∧ R (book s e) P' Q')
    {evs : List Event} {s : σ} {P Q Q' : PipeState} (hG : Guarded book G s evs) (h : R s P Q) (hQ : Run Q evs Q') :
    ∃ P', Run P evs P' ∧ R (evs.foldl book s) P' Q' := by
  induction hQ generalizing s P with
  | nil Q => exact ⟨P, .nil P, h⟩
  | cons hs _ ih =>
    obtain ⟨P1, hP1, h1⟩ := hstep _ _ _ _ _ hG.1 h hs
    obtain ⟨P', hP', h'⟩ := ih hG.2 h1
    exact ⟨P', .cons hP1 hP', h'⟩

/-- a run split at the `generate_client_module` call.  The run without the plugin ends with the client module `fr ++ Min`
    (`Min`: what the plugin would be handed, `fr`: what the plugins after it put in front); if the plugin makes `r` of `Min`,
    the run with it goes through and ends with `fr ++ r.2` and the same operations module -/
theorem rel_pipeline (run : σ → Module → M (σ × Module)) (Fr : List Top → Prop)
    (hstep : ∀ s P Q e Q', e.call.hook ≠ "generate_client_module" → R s P Q → stepEvent Q e = .ok Q' →
      ∃ P', stepEvent P e = .ok P' ∧ R (book s e) P' Q')
    (hcmstep : ∀ s P Q e Q' mp, e.call.hook = "generate_client_module" → R s P Q → e.payload = .module mp →
      stepEvent Q e = .ok Q' →
      ∃ fr Min, Fr fr ∧ Q'.finalOf "generate_client_module" = some (.module { body := fr ++ Min.body }) ∧
        ∀ r, run s Min = .ok r → ∃ P', stepEvent P e = .ok P' ∧ R r.1 P' Q' ∧
          P'.finalOf "generate_client_module" = some (.module { body := fr ++ r.2.body }))
    (hops : ∀ s P Q, R s P Q → P.opsFile? = Q.opsFile?)
    {s0 : σ} {P0 Q0 Q2 : PipeState} (h0 : R s0 P0 Q0) {pre post : List Event} {cm : Event}
    (hcm : cm.call.hook = "generate_client_module")
    (hpre : ∀ e ∈ pre, e.call.hook ≠ "generate_client_module")
    (hpost : ∀ e ∈ post, e.call.hook ≠ "generate_client_module")
    {mp : Module} (hmp : cm.payload = .module mp) (hQ : Run Q0 (pre ++ cm :: post) Q2) :
    ∃ fr Min, Fr fr ∧ Q2.clientModule? = some { body := fr ++ Min.body } ∧
      ∀ r, run (pre.foldl book s0) Min = .ok r →
        ∃ P2, Run P0 (pre ++ cm :: post) P2 ∧ P2.clientModule? = some { body := fr ++ r.2.body } ∧
          P2.opsFile? = Q2.opsFile? := by
  obtain ⟨Qa, hQa, (_ | ⟨hQb, hQc⟩)⟩ := Run.append.mp hQ
  obtain ⟨Pa, hPa, ha⟩ := run_sim R book _ hstep (guarded_of_forall book _ pre s0 hpre) h0 hQa
  obtain ⟨fr, Min, hfr, hfQ, hplug⟩ := hcmstep _ _ _ cm _ mp hcm ha hmp hQb
  refine ⟨fr, Min, hfr, by unfold PipeState.clientModule?; rw [hQc.finalOf _ hpost, hfQ], fun r hr => ?_⟩
  obtain ⟨Pb, hPb, hb, hfP⟩ := hplug r hr
  obtain ⟨P2, hP2, h2⟩ := run_sim R book _ hstep (guarded_of_forall book _ post r.1 hpost) hb hQc
  exact ⟨P2, Run.append.mpr ⟨Pa, hPa, .cons hPb hP2⟩, by unfold PipeState.clientModule?; rw [hP2.finalOf _ hpost, hfP],
    hops _ _ _ h2⟩

end RelPipeline

theorem nil_opsFile (p : PipeState) (h : p.plugins = []) : p.opsFile? = none := by
  unfold PipeState.opsFile?; rw [h]; rfl

end Ariadne.C15
