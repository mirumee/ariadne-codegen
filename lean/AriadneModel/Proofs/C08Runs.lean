/-
  A successful run of the class-producing recursion (`_parse_type_definition` and
  `_parse_field_selection_set_types` calling each other through the field loop and the loop over the related classes) as a
  DERIVATION: `Runs env c st cs st'`, one constructor per way a call or a loop can go, no fuel, no loop accumulator.
  `parse_runs` obtains the derivation from the model once; a property of the generator is then an induction on it
  (`runs_spec` here, with its vocabulary `Accounted` / `BasesOK` / `Imported` / `Grow`: every base is accounted for, only
  fragments with a class of their own are inherited; `runs_low` in Proofs/C08Acyclic.lean), with a precondition that depends
  on the call (`Call.imported`).
  `resolve` and `parseOperationField` stay premises of the constructors, with whatever fuel they ran on.  Core Lean only.
-/
import AriadneModel.Proofs.C08Classes


open Ariadne.Gql

namespace Ariadne.ResultTypes

/-- the four loops/calls of the class-producing recursion; `fds` of `fields` is an output -/
inductive Call where
  | type (cn tn : String) (sid : Nat) (sel : List Selection) (a : Bool) (eb tv : List String)
  | fields (cn tn : String) (tv : List String) (fs : List RField) (fds : List FieldDecl)
  | set (sid : Nat) (sel : List Selection) (ctx : Ctx) (eb : List String)
  | related (sid : Nat) (sel : List Selection) (ctx : Ctx) (eb : List String) (rcs : List (String × String))

def fieldDecl (env : Env) (f : RField) (a : Ann) (dflt : Bool) : FieldDecl :=
  { py := pyFieldName env f.key, ann := a, alias := if pyFieldName env f.key != f.key then some f.key else none,
    discriminator := isUnionAnn a, defaultNone := dflt }

inductive Runs (env : Env) : Call → St → List ClassDecl → St → Prop
  | seen {cn tn sid sel a eb tv st} : st.publicNames.contains cn = true → Runs env (.type cn tn sid sel a eb tv) st [] st
  | fresh {cn tn sid sel a eb tv st x st1 fds more st'} {fuel : Nat} :
      st.publicNames.contains cn = false →
      resolve env fuel sel tn { st with publicNames := st.publicNames ++ [cn] } = .ok (x, st1) →
      Runs env (.fields cn tn tv (withTypename a (st1.marks.contains sid) x.1) fds)
        (afterTypename a sid (if st1.marks.contains sid then typenameRField :: x.1 else x.1) st1) more st' →
      Runs env (.type cn tn sid sel a eb tv) st ({ name := cn, bases := classBases x.2 eb, fields := fds } :: more) st'
  | fieldsNil {cn tn tv st} : Runs env (.fields cn tn tv [] []) st [] st
  | fieldsCons {cn tn tv f rest fds s t a dflt ctx more s1 more' s'} {fuel : Nat} :
      fieldTypeFromSchema env tn f.name = .ok t →
      parseOperationField env fuel f.name f.dirs f.sub t (cn ++ pascal (pyFieldName env f.key)) tv = .ok (a, dflt, ctx) →
      Runs env (.set f.sid f.sub ctx ((mixinPairs f.dirs).map (·.2))) (addImports s (mixinPairs f.dirs)) more s1 →
      Runs env (.fields cn tn tv rest fds)
        { s1 with usedEnums := s1.usedEnums ++ ctx.enums, usedScalars := s1.usedScalars ++ ctx.customScalars } more' s' →
      Runs env (.fields cn tn tv (f :: rest) (fieldDecl env f a dflt :: fds)) s (more ++ more') s'
  | setEmpty {sid sel ctx eb st} : sel.isEmpty = true → Runs env (.set sid sel ctx eb) st [] st
  | setRun {sid sel ctx eb st cs st'} : sel.isEmpty = false → Runs env (.related sid sel ctx eb ctx.related) st cs st' →
      Runs env (.set sid sel ctx eb) st cs st'
  | relNil {sid sel ctx eb st} : Runs env (.related sid sel ctx eb []) st [] st
  | relCons {sid sel ctx eb rc rest s cs s1 cs' s'} :
      Runs env (.type rc.1 rc.2 sid sel ctx.abstract eb (tvFor env ctx rc.2)) s cs s1 →
      Runs env (.related sid sel ctx eb rest) s1 cs' s' →
      Runs env (.related sid sel ctx eb (rc :: rest)) s (cs ++ cs') s'

theorem fields_runs {env : Env} {fuel : Nat} {cn tn : String} {tv : List String}
    (ihQ : ∀ sid sel ctx eb st cs st', parseFieldSelectionSetTypes env fuel sid sel ctx eb st = .ok (cs, st') →
      Runs env (.set sid sel ctx eb) st cs st') :
    ∀ (fs : List RField) (acc : FAcc) (s : St) (acc' : FAcc) (s' : St),
      forIn fs acc (fieldBody env fuel cn tn tv) s = .ok (acc', s') →
      ∃ fds more, acc' = (acc.1 ++ fds, acc.2 ++ more) ∧ Runs env (.fields cn tn tv fs fds) s more s'
  | [], acc, s, acc', s', h => by
    rw [List.forIn_nil] at h
    obtain ⟨rfl, rfl⟩ := (ok_pure _ _ _ _).mp h
    exact ⟨[], [], by simp, .fieldsNil⟩
  | f :: fs, acc, s, acc', s', h => by
    rw [List.forIn_cons] at h
    obtain ⟨r, s1, h1, h2⟩ := (ok_bind _ _ _ _ _).mp h
    obtain ⟨t, a, dflt, ctx, more, s2, ht, hx, h4, rfl, rfl⟩ := fieldBody_step h1
    obtain ⟨fds, more', rfl, hr⟩ := fields_runs ihQ fs _ _ acc' s' h2
    exact ⟨fieldDecl env f a dflt :: fds, more ++ more', by simp [fieldDecl, List.append_assoc],
      .fieldsCons ht hx (ihQ _ _ _ _ _ _ _ h4) hr⟩

theorem related_runs {env : Env} {fuel : Nat} {sid : Nat} {sel : List Selection} {ctx : Ctx} {eb : List String}
    (ihP : ∀ cn tn sid sel a eb tv st cs st', parseTypeDefinition env fuel cn tn sid sel a eb tv st = .ok (cs, st') →
      Runs env (.type cn tn sid sel a eb tv) st cs st') :
    ∀ (rcs : List (String × String)) (acc : List ClassDecl) (s : St) (acc' : List ClassDecl) (s' : St),
      forIn rcs acc (relatedBody env fuel sid sel ctx eb) s = .ok (acc', s') →
      ∃ cs, acc' = acc ++ cs ∧ Runs env (.related sid sel ctx eb rcs) s cs s'
  | [], acc, s, acc', s', h => by
    rw [List.forIn_nil] at h
    obtain ⟨rfl, rfl⟩ := (ok_pure _ _ _ _).mp h
    exact ⟨[], by simp, .relNil⟩
  | rc :: rcs, acc, s, acc', s', h => by
    rw [List.forIn_cons] at h
    obtain ⟨r, s1, h1, h2⟩ := (ok_bind _ _ _ _ _).mp h
    unfold relatedBody at h1
    obtain ⟨cs1, s2, h3, h4⟩ := (ok_bind _ _ _ _ _).mp h1
    obtain ⟨rfl, rfl⟩ := (ok_pure _ _ _ _).mp h4
    obtain ⟨cs', rfl, hr⟩ := related_runs ihP rcs _ _ acc' s' h2
    exact ⟨cs1 ++ cs', by simp [List.append_assoc], .relCons (ihP _ _ _ _ _ _ _ _ _ _ h3) hr⟩

theorem parse_runs (env : Env) : ∀ fuel : Nat,
    (∀ cn tn sid sel a eb tv st cs st', parseTypeDefinition env fuel cn tn sid sel a eb tv st = .ok (cs, st') →
      Runs env (.type cn tn sid sel a eb tv) st cs st') ∧
    (∀ sid sel ctx eb st cs st', parseFieldSelectionSetTypes env fuel sid sel ctx eb st = .ok (cs, st') →
      Runs env (.set sid sel ctx eb) st cs st')
  | 0 => ⟨fun _ _ _ _ _ _ _ _ _ _ h => by rw [parseTypeDefinition_zero] at h; exact ((ok_err _ _ _).mp h).elim,
          fun _ _ _ _ _ _ _ h => by rw [parseFieldSelectionSetTypes_zero] at h; exact ((ok_err _ _ _).mp h).elim⟩
  | fuel + 1 => by
    obtain ⟨ihP, ihQ⟩ := parse_runs env fuel
    constructor
    · intro cn tn sid sel a eb tv st cs st' h
      cases hseen : st.publicNames.contains cn with
      | true =>
        obtain ⟨rfl, rfl⟩ := parseTypeDefinition_seen _ _ _ _ _ _ _ _ _ _ _ _ h hseen
        exact .seen hseen
      | false =>
        obtain ⟨x, st1, acc, fuel', hfu, hres, hloop, rfl⟩ := parseTypeDefinition_nodes _ _ _ _ _ _ _ _ _ _ _ _ h hseen
        cases hfu
        obtain ⟨fds, more, rfl, hr⟩ := fields_runs ihQ _ _ _ _ _ hloop
        simpa using Runs.fresh hseen hres hr
    · intro sid sel ctx eb st cs st' h
      rw [parseFieldSelectionSetTypes_succ] at h
      by_cases hemp : sel.isEmpty = true
      · rw [if_pos hemp] at h
        obtain ⟨rfl, rfl⟩ := (ok_pure _ _ _ _).mp h
        exact .setEmpty hemp
      · rw [if_neg hemp] at h
        obtain ⟨acc, s1, h1, h2⟩ := (ok_bind _ _ _ _ _).mp h
        obtain ⟨rfl, rfl⟩ := (ok_pure _ _ _ _).mp h2
        obtain ⟨cs, rfl, hr⟩ := related_runs ihP ctx.related _ _ _ _ h1
        simpa using Runs.setRun (by simpa using hemp) hr

theorem Runs.of_type {env : Env} {fuel : Nat} {cn tn : String} {sid : Nat} {sel : List Selection} {a : Bool} {eb tv : List String}
    {st : St} {cs : List ClassDecl} {st' : St} (h : parseTypeDefinition env fuel cn tn sid sel a eb tv st = .ok (cs, st')) :
    Runs env (.type cn tn sid sel a eb tv) st cs st' := (parse_runs env fuel).1 _ _ _ _ _ _ _ _ _ _ h

theorem Runs.of_set {env : Env} {fuel : Nat} {sid : Nat} {sel : List Selection} {ctx : Ctx} {eb : List String}
    {st : St} {cs : List ClassDecl} {st' : St} (h : parseFieldSelectionSetTypes env fuel sid sel ctx eb st = .ok (cs, st')) :
    Runs env (.set sid sel ctx eb) st cs st' := (parse_runs env fuel).2 _ _ _ _ _ _ _ h

/-- a name in a class's base list is `BaseModel`, the class of a fragment recorded in
    `_fragments_used_as_mixins`, or a class imported because of a `@mixin` directive -/
def Accounted (st : St) (b : String) : Prop :=
  b = "BaseModel" ∨ (∃ n ∈ st.mixins, b = pascal n) ∨ (∃ p ∈ st.mixinImports, b = p.2)

def BasesOK (st : St) (cs : List ClassDecl) : Prop := ∀ c ∈ cs, ∀ b ∈ c.bases, Accounted st b

def Imported (st : St) (eb : List String) : Prop := ∀ b ∈ eb, ∃ p ∈ st.mixinImports, b = p.2

structure Grow (env : Env) (st st' : St) : Prop where
  mixins : ∀ n ∈ st.mixins, n ∈ st'.mixins
  imports : ∀ p ∈ st.mixinImports, p ∈ st'.mixinImports
  good : (∀ n ∈ st.mixins, GoodMixin env n) → ∀ n ∈ st'.mixins, GoodMixin env n

theorem Grow.refl (env : Env) (st : St) : Grow env st st := ⟨fun _ h => h, fun _ h => h, fun h => h⟩

theorem Grow.trans {env : Env} {a b c : St} (h₁ : Grow env a b) (h₂ : Grow env b c) : Grow env a c :=
  ⟨fun n h => h₂.mixins n (h₁.mixins n h), fun p h => h₂.imports p (h₁.imports p h), fun h => h₂.good (h₁.good h)⟩

theorem Grow.of_eq {env : Env} {a b : St} (hm : b.mixins = a.mixins) (hi : b.mixinImports = a.mixinImports) : Grow env a b :=
  ⟨fun _ h => hm ▸ h, fun _ h => hi ▸ h, fun h n hn => h n (hm ▸ hn)⟩

theorem Accounted.mono {env : Env} {st st' : St} (g : Grow env st st') {b : String} (h : Accounted st b) : Accounted st' b := by
  rcases h with h | ⟨n, hn, rfl⟩ | ⟨p, hp, rfl⟩
  · exact Or.inl h
  · exact Or.inr (Or.inl ⟨n, g.mixins n hn, rfl⟩)
  · exact Or.inr (Or.inr ⟨p, g.imports p hp, rfl⟩)

theorem BasesOK.mono {env : Env} {st st' : St} (g : Grow env st st') {cs : List ClassDecl} (h : BasesOK st cs) : BasesOK st' cs :=
  fun c hc b hb => (h c hc b hb).mono g

theorem Imported.mono {env : Env} {st st' : St} (g : Grow env st st') {eb : List String} (h : Imported st eb) : Imported st' eb :=
  fun b hb => let ⟨p, hp, e⟩ := h b hb; ⟨p, g.imports p hp, e⟩

theorem BasesOK.append {st : St} {a b : List ClassDecl} (ha : BasesOK st a) (hb : BasesOK st b) : BasesOK st (a ++ b) := by
  intro c hc
  rcases List.mem_append.mp hc with h | h
  · exact ha c h
  · exact hb c h

theorem Grow.of_resolve {env : Env} {st : St} {x : Acc} {st' : St} (sp : RSpec env st x st') : Grow env st st' :=
  ⟨fun n h => (sp.mixins n).mpr (Or.inl h), fun p h => sp.frame.mixinImports ▸ h,
   fun h n hn => by
    rcases (sp.mixins n).mp hn with h' | h'
    · exact h n h'
    · exact sp.good n h'⟩

theorem Grow.of_mixinBases {env : Env} (st : St) (ps : List (String × String)) : Grow env st (addImports st ps) :=
  ⟨fun _ h => h, fun _ h => List.mem_append_left _ h, fun h => h⟩

theorem imported_addImports (s : St) (ps : List (String × String)) : Imported (addImports s ps) (ps.map (·.2)) := by
  intro b hb
  obtain ⟨p, hp, rfl⟩ := List.mem_map.mp hb
  exact ⟨p, List.mem_append_right _ hp, rfl⟩

def Call.imported (st : St) : Call → Prop
  | .type _ _ _ _ _ eb _ => Imported st eb
  | .fields .. => True
  | .set _ _ _ eb => Imported st eb
  | .related _ _ _ eb _ => Imported st eb

/-- **invariants of the class-producing recursion** (any call, any state): the mixin set and the import list only grow,
    inherited fragments all get a class of their own, every base of every produced class is accounted for -/
theorem runs_spec {env : Env} {c : Call} {st : St} {cs : List ClassDecl} {st' : St} (h : Runs env c st cs st') :
    c.imported st → Grow env st st' ∧ BasesOK st' cs := by
  induction h with
  | seen => exact fun _ => ⟨Grow.refl _ _, fun c hc => nomatch hc⟩
  | @fresh cn tn sid sel a eb tv st x st1 fds more st' fuel hseen hres _ ih =>
    intro himp
    have sp := resolve_spec env _ _ _ _ _ _ hres
    have hat := afterTypename_keeps a sid (if st1.marks.contains sid then typenameRField :: x.1 else x.1) st1
    obtain ⟨g3, b3⟩ := ih trivial
    have g2 := (Grow.of_eq (env := env) hat.1 hat.2.1).trans g3
    have gAll : Grow env st st' :=
      ((Grow.of_eq (env := env) (a := st) (b := { st with publicNames := st.publicNames ++ [cn] }) rfl rfl).trans
        (Grow.of_resolve sp)).trans g2
    refine ⟨gAll, fun c hc => ?_⟩
    rcases List.mem_cons.mp hc with rfl | hc
    · intro b hb
      rcases mem_classBases hb with h1 | ⟨n, hn, rfl⟩ | h3
      · exact Or.inl h1
      · exact Or.inr (Or.inl ⟨n, g2.mixins n ((sp.mixins n).mpr (Or.inr hn)), rfl⟩)
      · obtain ⟨p, hp, e⟩ := himp b h3
        exact Or.inr (Or.inr ⟨p, gAll.imports p hp, e⟩)
    · exact b3 c hc
  | fieldsNil => exact fun _ => ⟨Grow.refl _ _, fun c hc => nomatch hc⟩
  | @fieldsCons cn tn tv f rest fds s t a dflt ctx more s1 more' s' fuel _ _ _ _ ih₁ ih₂ =>
    intro _
    obtain ⟨g1, b1⟩ := ih₁ (imported_addImports s _)
    obtain ⟨g2, b2⟩ := ih₂ trivial
    have g5 : Grow env s1 { s1 with usedEnums := s1.usedEnums ++ ctx.enums, usedScalars := s1.usedScalars ++ ctx.customScalars } :=
      Grow.of_eq rfl rfl
    exact ⟨((Grow.of_mixinBases s _).trans g1).trans (g5.trans g2), (b1.mono (g5.trans g2)).append b2⟩
  | setEmpty => exact fun _ => ⟨Grow.refl _ _, fun c hc => nomatch hc⟩
  | setRun _ _ ih => exact ih
  | relNil => exact fun _ => ⟨Grow.refl _ _, fun c hc => nomatch hc⟩
  | relCons _ _ ih₁ ih₂ =>
    intro himp
    obtain ⟨g1, b1⟩ := ih₁ himp
    obtain ⟨g2, b2⟩ := ih₂ (Imported.mono g1 himp)
    exact ⟨g1.trans g2, (b1.mono g2).append b2⟩

end Ariadne.ResultTypes
