/-
  Proofs/OrderClient.lean — the client strategy as one pipeline (Model/OrderClient.lean): its write log is
  independent of every unordered collection at once.  Core Lean only.
-/
import AriadneModel.Model.OrderClient
import AriadneModel.Proofs.OrderPkg
import AriadneModel.Proofs.OrderResult


namespace Ariadne.Order

theorem mapM_congr_mem {α β ε : Type} {f g : α → Except ε β} : ∀ (l : List α), (∀ a, a ∈ l → f a = g a) → l.mapM f = l.mapM g := by
  intro l
  induction l with
  | nil => intro _; rfl
  | cons x xs ih =>
    intro h
    simp only [List.mapM_cons, h x List.mem_cons_self, ih (fun a ha => h a (List.mem_cons_of_mem _ ha))]

/-- the write log does not depend on the directory a run starts from nor on what isort saw of it, when no file's
    rendering is sensitive to that view -/
theorem runWrites_eq_of_insens {α : Type} (render : Bool → α → String) (irs : List (Name × α))
    (flag₁ flag₂ : Nat → Bool) (dir₁ dir₂ : Dir)
    (insens : ∀ p, p ∈ irs → render true p.2 = render false p.2) :
    runWrites render irs flag₁ dir₁ = runWrites render irs flag₂ dir₂ := by
  have : ∀ b₁ b₂ p, p ∈ irs → render b₁ p.2 = render b₂ p.2 := by
    intro b₁ b₂ p hp
    cases b₁ <;> cases b₂ <;> simp [insens p hp]
  unfold runWrites packageWrites
  have hm : irs.mapIdx (fun i p => (p.1, render (flag₁ i) p.2)) = irs.mapIdx (fun i p => (p.1, render (flag₂ i) p.2)) := by
    apply List.ext_getElem
    · simp
    · intro i h1 h2
      simp only [List.getElem_mapIdx]
      rw [this (flag₁ i) (flag₂ i) _ (List.getElem_mem _)]
  rw [hm]

def MixinsDefinedIn (mixins : List Name) (closure : Name → Option (List Name)) : Prop := ∀ f, f ∈ mixins → (closure f).isSome

theorem emitResult_eq (e₁ e₂ : EnumOracle) (he₁ : EnumOK e₁) (he₂ : EnumOK e₂) (pascal : Name → Name)
    (baseModel : Name) (closure : Name → Option (List Name)) (r : ResultIn) (hdef : MixinsDefinedIn r.mixins closure) :
    emitResult e₁ pascal baseModel closure r = emitResult e₂ pascal baseModel closure r := by
  unfold emitResult
  rw [operationFragments_eq e₁ e₂ he₁ he₂ r.mixins r.unpacked closure hdef]
  have hb : r.classes.map (fun c => (c.name, classBases e₁ pascal baseModel c.fragments c.extraBases))
      = r.classes.map (fun c => (c.name, classBases e₂ pascal baseModel c.fragments c.extraBases)) := by
    apply List.map_congr_left
    intro c _
    rw [classBases_eq_of_perm e₁ e₂ he₁ he₂ pascal baseModel (List.Perm.refl c.fragments) c.extraBases]
  have hl : r.typenames.map (fun t => typenameLiterals e₁ t.typesNames t.abstract t.possible)
      = r.typenames.map (fun t => typenameLiterals e₂ t.typesNames t.abstract t.possible) := by
    apply List.map_congr_left
    intro t _
    exact typenameLiterals_eq e₁ e₂ he₁ he₂ t.typesNames t.abstract t.possible
  rw [hb, hl]

/-- the front end's output lies in the theorem region: no isort key tie among set-fed imports (C10-F2) and
    every mixin fragment has a definition -/
def FrontSupported (f : FrontOut) : Prop :=
  trigIsortTie f.pkg = false ∧ ∀ r, r ∈ f.results → MixinsDefinedIn r.mixins f.closure

theorem clientRun_eq {IR : Type} (e₁ e₂ : EnumOracle) (he₁ : EnumOK e₁) (he₂ : EnumOK e₂)
    (dirS₁ dirS₂ dirQ₁ dirQ₂ : List Entry → List Entry) (schemaEntries queryEntries : List Entry)
    (hs₁ : (dirS₁ schemaEntries).Perm schemaEntries) (hs₂ : (dirS₂ schemaEntries).Perm schemaEntries) (hsd : PathsDistinct schemaEntries)
    (hq₁ : (dirQ₁ queryEntries).Perm queryEntries) (hq₂ : (dirQ₂ queryEntries).Perm queryEntries) (hqd : PathsDistinct queryEntries)
    {ns₁ ns₂ : List (Name × Cls) → List (Name × Cls)} (resolve : String → PluginTarget)
    (hn₁ : ∀ ms, (ns₁ ms).Perm ms) (hn₂ : ∀ ms, (ns₂ ms).Perm ms) (hattrs : ∀ s ms, resolve s = .module ms → AttrsDistinct ms)
    (pluginsStrs : List String) (front : List Cls → String → String → Except String FrontOut)
    (hfront : ∀ ps s q f, front ps s q = .ok f → FrontSupported f)
    (keep : Name → Bool) (assemble : List Cls → PkgIR → List ResultIR → List (Name × IR))
    (render : Bool → IR → String) (insens : ∀ ir, render true ir = render false ir)
    (flag₁ flag₂ : Nat → Bool) (dir₁ dir₂ : Dir) :
    clientRun e₁ dirS₁ dirQ₁ schemaEntries queryEntries ns₁ resolve pluginsStrs front keep assemble render flag₁ dir₁
      = clientRun e₂ dirS₂ dirQ₂ schemaEntries queryEntries ns₂ resolve pluginsStrs front keep assemble render flag₂ dir₂ := by
  unfold clientRun
  rw [loadGraphqlFiles_eq_of_perm schemaEntries hs₁ hs₂ hsd, loadGraphqlFiles_eq_of_perm queryEntries hq₁ hq₂ hqd,
    getPluginsTypes_eq_of_perm resolve hn₁ hn₂ hattrs pluginsStrs]
  cases loadGraphqlFiles dirS₂ schemaEntries with
  | error er => rfl
  | ok schemaText =>
    cases getPluginsTypes ns₂ resolve pluginsStrs with
    | error m => rfl
    | ok plugins =>
      cases loadGraphqlFiles dirQ₂ queryEntries with
      | error er => rfl
      | ok queriesText =>
        cases hf : front plugins schemaText queriesText with
        | error why => simp only [hf]
        | ok f =>
          obtain ⟨ht, hm⟩ := hfront plugins schemaText queriesText f hf
          simp only [hf]
          rw [mapM_congr_mem f.results (fun r hr => emitResult_eq e₁ e₂ he₁ he₂ f.pkg.pascal f.baseModel f.closure r (hm r hr)),
            emitPackage_independent keep e₁ e₂ he₁ he₂ f.pkg ht]
          cases f.results.mapM (emitResult e₂ f.pkg.pascal f.baseModel f.closure) with
          | error er => rfl
          | ok rs =>
            cases emitPackage keep e₂ f.pkg with
            | error er => rfl
            | ok pk =>
              simp only []
              congr 1
              exact runWrites_eq_of_insens render _ flag₁ flag₂ dir₁ dir₂ (fun p _ => insens p.2)

end Ariadne.Order
