/-
  Proofs/C04WitnessA.lean — what is observed, by `decide +kernel` through the whole package model, on four finding witnesses of
  Properties/C04.lean.  For a witness whose run ends in a package, the observation is the one part of `moduleOK` that fails on
  a generated module and the one trigger that holds (evaluating `Holds` itself would check every part of every module
  written before the bad one).
-/
import AriadneModel.Proofs.C04Scope

namespace Ariadne.C04.Witness
open Ariadne.PackageTriggers Ariadne.Spec.PyScope
open Ariadne.C04Proofs (partFails)

/-- What the kernel evaluates on the concrete inputs of this file, in one declaration: every evaluation that converts a name decodes
    the keyword tables of `Model/Names.lean`, and the kernel shares work only inside one declaration.  The lemmas named after the
    inputs are its components. -/
theorem evaluatedA :
    (Valid {} W.enumMro ∧ onIR {} W.enumMro (partFails fun _ m => enumMembersOK m) = true ∧
      onIR {} W.enumMro trigEnumMemberReserved = true) ∧
    (Valid {} W.inlineNoType ∧ ¬ Holds (modelRun {} W.inlineNoType) ∧
      Triggers01.trigInlineNoType (t01Input {} W.inlineNoType) = true) ∧
    (Valid {} W.selfParam ∧ onIR {} W.selfParam (partFails fun _ m => paramsDistinct m) = true ∧
      onIR {} W.selfParam trigDuplicateParam = true) ∧
    (Valid W.customCfg W.customClash ∧
      onIR W.customCfg W.customClash (fun p => !(p.reported == p.onDisk)) = true ∧
      onIR W.customCfg W.customClash trigFileWrittenTwice = true) := by
  decide +kernel

theorem enumMro_observed : Valid {} W.enumMro ∧ onIR {} W.enumMro (partFails fun _ m => enumMembersOK m) = true ∧
    onIR {} W.enumMro trigEnumMemberReserved = true := evaluatedA.1

/-- the run on `inlineNoType` ends in an undocumented exception -/
theorem inlineNoType_observed : Valid {} W.inlineNoType ∧ ¬ Holds (modelRun {} W.inlineNoType) ∧
    Triggers01.trigInlineNoType (t01Input {} W.inlineNoType) = true := evaluatedA.2.1

theorem selfParam_observed : Valid {} W.selfParam ∧ onIR {} W.selfParam (partFails fun _ m => paramsDistinct m) = true ∧
    onIR {} W.selfParam trigDuplicateParam = true := evaluatedA.2.2.1

theorem customClash_observed : Valid W.customCfg W.customClash ∧
    onIR W.customCfg W.customClash (fun p => !(p.reported == p.onDisk)) = true ∧
    onIR W.customCfg W.customClash trigFileWrittenTwice = true := evaluatedA.2.2.2

end Ariadne.C04.Witness
