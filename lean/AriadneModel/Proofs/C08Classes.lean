/-
  The class-producing part of the result-types model
  (`_parse_type_definition`, `_parse_field_selection_set_types`, `_get_extra_bases_from_mixin_directives`):
  named loop bodies (equal to the model by `rfl`; also `condStep` for the fold of `inlineFragmentConds`, with its equation
  `inlineFragmentConds_succ`), what one call and one loop iteration do (`parseTypeDefinition_nodes`, `fieldBody_step`), the
  state and the node list the field loop starts from (`afterTypename`, `withTypename`, case by case) and the exact bases of the
  class a call creates.  Core Lean only.
-/
import AriadneModel.Proofs.C08Resolve


open Ariadne.Gql Ariadne.Util

namespace Ariadne.ResultTypes

def condStep (frags : List Fragment) (fuel : Nat) (acc : List (Option String)) (s : Selection) :
    Except GenErr (List (Option String)) :=
  match s with
  | .inline on _ _ _ => pure (acc ++ [on])
  | .spread n _ =>
    match findFragment? frags n with
    | none => .error (.internal "KeyError")
    | some f => do
      let inner ← inlineFragmentConds frags fuel f.sel
      pure (acc ++ inner)
  | .field .. => pure acc

theorem inlineFragmentConds_succ (frags : List Fragment) (fuel : Nat) (sels : List Selection) :
    inlineFragmentConds frags (fuel + 1) sels = sels.foldlM (condStep frags fuel) [] := rfl

def mixinGet (d : Directive) (k : String) : Option String := (d.args.reverse.find? (·.1 == k)).bind (·.2)

def mixinBody (d : Directive) (bases : List String) : M (ForInStep (List String)) :=
  if d.name == Tables.mixinName then
    if d.args.any (·.2.isNone) then err (.parsing "Arguments passed to mixin have to be strings.")
    else
      match mixinGet d Tables.mixinFromName, mixinGet d Tables.mixinImportName with
      | some fr, some im => do
        modify fun st => { st with mixinImports := st.mixinImports ++ [(fr, im)] }
        pure (.yield (bases ++ [im]))
      | _, _ => err (.parsing "Required arguments (from, import) not found.")
  else pure (.yield bases)

theorem mixinBases_eq (dirs : List Directive) : mixinBases dirs = (forIn dirs [] mixinBody >>= fun s => pure s) := by
  rfl

abbrev FAcc := List FieldDecl × List ClassDecl

def typenameRField : RField := ⟨none, typenameField, [], 0, []⟩

def classBases (frs eb : List String) : List String :=
  (if frs.isEmpty then ["BaseModel"] else (sortStr frs).map pascal) ++ eb

def fieldBody (env : Env) (fuel : Nat) (cn tn : String) (tv : List String) (f : RField) (acc : FAcc) : M (ForInStep FAcc) := do
  let t ← liftExcept (fieldTypeFromSchema env tn f.name)
  let x ← liftExcept (parseOperationField env (fuel + 1) f.name f.dirs f.sub t (cn ++ pascal (pyFieldName env f.key)) tv)
  let fieldBases ← mixinBases f.dirs
  let more ← parseFieldSelectionSetTypes env fuel f.sid f.sub x.2.2 fieldBases
  modify fun st => { st with usedEnums := st.usedEnums ++ x.2.2.enums, usedScalars := st.usedScalars ++ x.2.2.customScalars }
  pure (.yield (acc.1 ++ [{ py := pyFieldName env f.key, ann := x.1,
                            alias := if pyFieldName env f.key != f.key then some f.key else none,
                            discriminator := isUnionAnn x.1, defaultNone := x.2.1 }], acc.2 ++ more))

def classTail (env : Env) (fuel : Nat) (cn tn : String) (tv eb frs : List String) (resolved : List RField) : M (List ClassDecl) := do
  let s ← forIn resolved (([], []) : FAcc) (fieldBody env fuel cn tn tv)
  pure ({ name := cn, bases := classBases frs eb, fields := s.1 } :: s.2)

theorem parseTypeDefinition_succ (env : Env) (fuel : Nat) (cn tn : String) (sid : Nat) (sel : List Selection) (a : Bool)
    (eb tv : List String) :
    parseTypeDefinition env (fuel + 1) cn tn sid sel a eb tv = (do
      let st0 ← get
      if st0.publicNames.contains cn then pure []
      else do
        modify fun st => { st with publicNames := st.publicNames ++ [cn] }
        let x ← resolve env (fuel + 1) sel tn
        let st1 ← get
        let resolved0 := if st1.marks.contains sid then typenameRField :: x.1 else x.1
        if a && !(resolved0.any (·.name == typenameField)) then do
          modify fun st => { st with marks := if st.marks.contains sid then st.marks else st.marks ++ [sid] }
          classTail env fuel cn tn tv eb x.2 (typenameRField :: resolved0)
        else classTail env fuel cn tn tv eb x.2 resolved0) := by
  rfl

theorem parseTypeDefinition_zero (env : Env) (cn tn : String) (sid : Nat) (sel : List Selection) (a : Bool) (eb tv : List String) :
    parseTypeDefinition env 0 cn tn sid sel a eb tv = err .fuel := rfl

/-- the `typename_values` `_parse_field_selection_set_types` hands to the class for the related type `tn` -/
def tvFor (env : Env) (ctx : Ctx) (tn : String) : List String :=
  ((typenameValues env ctx.related).find? (·.1 == tn)).map (·.2) |>.getD []

def relatedBody (env : Env) (fuel : Nat) (sid : Nat) (sel : List Selection) (ctx : Ctx) (eb : List String)
    (x : String × String) (acc : List ClassDecl) : M (ForInStep (List ClassDecl)) := do
  let cs ← parseTypeDefinition env fuel x.1 x.2 sid sel ctx.abstract eb (tvFor env ctx x.2)
  pure (.yield (acc ++ cs))

theorem parseFieldSelectionSetTypes_succ (env : Env) (fuel : Nat) (sid : Nat) (sel : List Selection) (ctx : Ctx) (eb : List String) :
    parseFieldSelectionSetTypes env (fuel + 1) sid sel ctx eb =
      (if sel.isEmpty then pure []
       else forIn ctx.related [] (relatedBody env fuel sid sel ctx eb) >>= fun s => pure s) := by
  rfl

theorem parseFieldSelectionSetTypes_zero (env : Env) (sid : Nat) (sel : List Selection) (ctx : Ctx) (eb : List String) :
    parseFieldSelectionSetTypes env 0 sid sel ctx eb = err .fuel := rfl

def mixinPair (d : Directive) : Option (String × String) :=
  if d.name == Tables.mixinName then
    match mixinGet d Tables.mixinFromName, mixinGet d Tables.mixinImportName with
    | some fr, some im => some (fr, im)
    | _, _ => none
  else none

def mixinPairs (dirs : List Directive) : List (String × String) := dirs.filterMap mixinPair

/-- `self._imports.append(generate_import_from([import], from_))` for each pair -/
def addImports (st : St) (ps : List (String × String)) : St := { st with mixinImports := st.mixinImports ++ ps }

theorem addImports_nil (st : St) : addImports st [] = st := by
  cases st; simp [addImports]

theorem addImports_append (st : St) (a b : List (String × String)) : addImports (addImports st a) b = addImports st (a ++ b) := by
  cases st; simp [addImports, List.append_assoc]

theorem mixinBody_ok (d : Directive) (b : List String) (s : St) (r : ForInStep (List String)) (s' : St)
    (h : mixinBody d b s = .ok (r, s')) :
    r = .yield (b ++ (mixinPair d).toList.map (·.2)) ∧ s' = addImports s (mixinPair d).toList := by
  unfold mixinBody at h
  unfold mixinPair
  by_cases hn : (d.name == Tables.mixinName) = true
  · simp only [hn, if_true] at h ⊢
    by_cases hany : (d.args.any fun x => x.2.isNone) = true
    · simp only [hany, if_true] at h
      exact ((ok_err _ _ _).mp h).elim
    · simp only [hany] at h
      cases h1 : mixinGet d Tables.mixinFromName <;> cases h2 : mixinGet d Tables.mixinImportName <;>
        simp only [h1, h2] at h ⊢
      · exact ((ok_err _ _ _).mp h).elim
      · exact ((ok_err _ _ _).mp h).elim
      · exact ((ok_err _ _ _).mp h).elim
      · obtain ⟨u, s1, h3, h4⟩ := (ok_bind _ _ _ _ _).mp h
        have hs1 := (ok_modify _ _ _ _).mp h3
        obtain ⟨rfl, rfl⟩ := (ok_pure _ _ _ _).mp h4
        subst hs1
        exact ⟨rfl, rfl⟩
  · simp only [hn] at h ⊢
    obtain ⟨rfl, rfl⟩ := (ok_pure _ _ _ _).mp h
    simp [addImports_nil]

theorem mixinLoop_ok : ∀ (dirs : List Directive) (b : List String) (s : St) (b' : List String) (s' : St),
    forIn dirs b mixinBody s = .ok (b', s') →
      b' = b ++ (mixinPairs dirs).map (·.2) ∧ s' = addImports s (mixinPairs dirs)
  | [], b, s, b', s', h => by
    rw [List.forIn_nil] at h
    obtain ⟨rfl, rfl⟩ := (ok_pure _ _ _ _).mp h
    simp [mixinPairs, addImports_nil]
  | d :: ds, b, s, b', s', h => by
    rw [List.forIn_cons] at h
    obtain ⟨r, s1, h1, h2⟩ := (ok_bind _ _ _ _ _).mp h
    obtain ⟨rfl, rfl⟩ := mixinBody_ok d b s r s1 h1
    obtain ⟨rfl, rfl⟩ := mixinLoop_ok ds _ _ b' s' h2
    have hp : mixinPairs (d :: ds) = (mixinPair d).toList ++ mixinPairs ds := by
      unfold mixinPairs
      cases hm : mixinPair d <;> simp [hm]
    rw [hp, addImports_append]
    simp [List.append_assoc]

theorem mixinBases_spec (dirs : List Directive) (st : St) (bs : List String) (st' : St)
    (h : mixinBases dirs st = .ok (bs, st')) :
    bs = (mixinPairs dirs).map (·.2) ∧ st' = addImports st (mixinPairs dirs) := by
  rw [mixinBases_eq] at h
  obtain ⟨b1, s1, h1, h2⟩ := (ok_bind _ _ _ _ _).mp h
  obtain ⟨rfl, rfl⟩ := (ok_pure _ _ _ _).mp h2
  have := mixinLoop_ok dirs [] st b1 s1 h1
  simpa using this

theorem pascal_mem_classBases {frs eb : List String} {n : String} (h : n ∈ frs) : pascal n ∈ classBases frs eb := by
  unfold classBases
  have hne : frs.isEmpty = false := by
    cases frs with
    | nil => cases h
    | cons _ _ => rfl
  simp only [hne]
  exact List.mem_append_left _ (List.mem_map.mpr ⟨n, mem_sortStr.mpr h, rfl⟩)

theorem mem_classBases {frs eb : List String} {b : String} (h : b ∈ classBases frs eb) :
    b = "BaseModel" ∨ (∃ n ∈ frs, b = pascal n) ∨ b ∈ eb := by
  unfold classBases at h
  rcases List.mem_append.mp h with h | h
  · split at h
    · exact Or.inl (by simpa using h)
    · obtain ⟨n, hn, rfl⟩ := List.mem_map.mp h
      exact Or.inr (Or.inl ⟨n, mem_sortStr.mp hn, rfl⟩)
  · exact Or.inr (Or.inr h)

theorem classBases_suffix (frs eb : List String) : ∃ fragPart, classBases frs eb = fragPart ++ eb ∧
    (fragPart = ["BaseModel"] ∨ fragPart = (sortStr frs).map pascal) := by
  unfold classBases
  split
  · exact ⟨_, rfl, Or.inl rfl⟩
  · exact ⟨_, rfl, Or.inr rfl⟩

theorem classTail_ok (env : Env) (fuel : Nat) (cn tn : String) (tv eb frs : List String) (resolved : List RField)
    (s : St) (cs : List ClassDecl) (s' : St) (h : classTail env fuel cn tn tv eb frs resolved s = .ok (cs, s')) :
    ∃ acc : FAcc, forIn resolved (([], []) : FAcc) (fieldBody env fuel cn tn tv) s = .ok (acc, s') ∧
      cs = { name := cn, bases := classBases frs eb, fields := acc.1 } :: acc.2 := by
  unfold classTail at h
  obtain ⟨acc, s1, h1, h2⟩ := (ok_bind _ _ _ _ _).mp h
  obtain ⟨rfl, rfl⟩ := (ok_pure _ _ _ _).mp h2
  exact ⟨acc, h1, rfl⟩

/-- the state in which the field loop of a `_parse_type_definition` call starts -/
def afterTypename (a : Bool) (sid : Nat) (resolved0 : List RField) (st : St) : St :=
  if a && !(resolved0.any (·.name == typenameField)) then
    { st with marks := if st.marks.contains sid then st.marks else st.marks ++ [sid] }
  else st

theorem afterTypename_false (sid : Nat) (r : List RField) (st : St) : afterTypename false sid r st = st := rfl

theorem afterTypename_of_false {a : Bool} {sid : Nat} {r : List RField} {st : St}
    (h : (a && !(r.any (·.name == typenameField))) = false) : afterTypename a sid r st = st := by
  rw [afterTypename, h]; rfl

theorem afterTypename_marked {a : Bool} {sid : Nat} {r : List RField} {st : St} (hm : st.marks.contains sid = true) :
    afterTypename a sid r st = st := by
  unfold afterTypename
  split
  · simp
  · rfl

theorem afterTypename_of_true {a : Bool} {sid : Nat} {r : List RField} {st : St}
    (h : (a && !(r.any (·.name == typenameField))) = true) (hm : st.marks.contains sid = false) :
    afterTypename a sid r st = { st with marks := st.marks ++ [sid] } := by
  rw [afterTypename, h, hm]; rfl

/-- the field nodes a class is built from: the resolved ones, with `__typename` in front once for a selection set that
    was marked earlier and once more where the call asks for it and it is not there -/
def withTypename (a marked : Bool) (xs : List RField) : List RField :=
  let r0 := if marked then typenameRField :: xs else xs
  if a && !(r0.any (·.name == typenameField)) then typenameRField :: r0 else r0

theorem withTypename_decomp (a marked : Bool) (xs : List RField) :
    ∃ pre, withTypename a marked xs = pre ++ xs ∧ (∀ f ∈ pre, f = typenameRField) ∧
      (a = true → ∃ f ∈ pre ++ xs, f.name = typenameField) := by
  unfold withTypename
  cases marked <;> simp only [Bool.false_eq_true, if_false, if_true]
  · by_cases hc : (a && !(xs.any (·.name == typenameField))) = true
    · exact ⟨[typenameRField], by simp [hc], by simp, fun _ => ⟨typenameRField, by simp, rfl⟩⟩
    · refine ⟨[], by simp [hc], by simp, fun ha => ?_⟩
      subst ha
      obtain ⟨f, hf, hn⟩ := List.any_eq_true.mp (by simpa using hc : xs.any (·.name == typenameField) = true)
      exact ⟨f, by simpa using hf, by simpa using hn⟩
  · by_cases hc : (a && !((typenameRField :: xs).any (·.name == typenameField))) = true
    · exact ⟨[typenameRField, typenameRField], by rw [if_pos hc]; rfl, by simp, fun _ => ⟨typenameRField, by simp, rfl⟩⟩
    · exact ⟨[typenameRField], by rw [if_neg hc]; rfl, by simp, fun _ => ⟨typenameRField, by simp, rfl⟩⟩

theorem withTypename_mem {a marked : Bool} {xs : List RField} {f : RField} (h : f ∈ withTypename a marked xs) :
    f = typenameRField ∨ f ∈ xs := by
  obtain ⟨pre, e, hpre, _⟩ := withTypename_decomp a marked xs
  rw [e] at h
  exact (List.mem_append.mp h).imp (hpre f) id

theorem parseTypeDefinition_nodes (env : Env) (fuel : Nat) (cn tn : String) (sid : Nat) (sel : List Selection) (a : Bool)
    (eb tv : List String) (st : St) (cs : List ClassDecl) (st' : St)
    (h : parseTypeDefinition env fuel cn tn sid sel a eb tv st = .ok (cs, st'))
    (hfresh : st.publicNames.contains cn = false) :
    ∃ (x : Acc) (st1 : St) (acc : FAcc) (fuel' : Nat), fuel = fuel' + 1 ∧
      resolve env fuel sel tn { st with publicNames := st.publicNames ++ [cn] } = .ok (x, st1) ∧
      forIn (withTypename a (st1.marks.contains sid) x.1) (([], []) : FAcc) (fieldBody env fuel' cn tn tv)
        (afterTypename a sid (if st1.marks.contains sid then typenameRField :: x.1 else x.1) st1) = .ok (acc, st') ∧
      cs = { name := cn, bases := classBases x.2 eb, fields := acc.1 } :: acc.2 := by
  cases fuel with
  | zero =>
    rw [parseTypeDefinition_zero] at h
    exact ((ok_err _ _ _).mp h).elim
  | succ fuel =>
    rw [parseTypeDefinition_succ] at h
    obtain ⟨st0, s0, h0, hA⟩ := (ok_bind _ _ _ _ _).mp h
    obtain ⟨e1, e2⟩ := (ok_get _ _ _).mp h0
    subst e1 e2
    rw [if_neg (by rw [hfresh]; exact Bool.false_ne_true)] at hA
    obtain ⟨u, s1, h1, hB⟩ := (ok_bind _ _ _ _ _).mp hA
    have hs1 := (ok_modify _ _ _ _).mp h1
    subst hs1
    obtain ⟨x, s2, h2, hC⟩ := (ok_bind _ _ _ _ _).mp hB
    obtain ⟨st1, s3, h3, hD⟩ := (ok_bind _ _ _ _ _).mp hC
    obtain ⟨e3, e4⟩ := (ok_get _ _ _).mp h3
    subst e3 e4
    have hD' : classTail env fuel cn tn tv eb x.2 (withTypename a (s3.marks.contains sid) x.1)
        (afterTypename a sid (if s3.marks.contains sid then typenameRField :: x.1 else x.1) s3) = .ok (cs, st') := by
      unfold afterTypename withTypename
      simp only []
      generalize (if s3.marks.contains sid then typenameRField :: x.1 else x.1) = r0 at hD ⊢
      split at hD
      · rename_i hc
        obtain ⟨u2, s4, h4, hE⟩ := (ok_bind _ _ _ _ _).mp hD
        rw [(ok_modify _ _ _ _).mp h4] at hE
        rw [if_pos hc, if_pos hc]
        exact hE
      · rename_i hc
        rw [if_neg hc, if_neg hc]
        exact hD
    obtain ⟨acc, hl, hcs⟩ := classTail_ok _ _ _ _ _ _ _ _ _ _ _ hD'
    exact ⟨x, s3, acc, fuel, rfl, h2, hl, hcs⟩

theorem parseTypeDefinition_seen (env : Env) (fuel : Nat) (cn tn : String) (sid : Nat) (sel : List Selection) (a : Bool)
    (eb tv : List String) (st : St) (cs : List ClassDecl) (st' : St)
    (h : parseTypeDefinition env fuel cn tn sid sel a eb tv st = .ok (cs, st'))
    (hseen : st.publicNames.contains cn = true) : cs = [] ∧ st' = st := by
  cases fuel with
  | zero =>
    rw [parseTypeDefinition_zero] at h
    exact ((ok_err _ _ _).mp h).elim
  | succ fuel =>
    rw [parseTypeDefinition_succ] at h
    obtain ⟨st0, s0, h0, hA⟩ := (ok_bind _ _ _ _ _).mp h
    obtain ⟨e1, e2⟩ := (ok_get _ _ _).mp h0
    subst e1 e2
    rw [if_pos hseen] at hA
    obtain ⟨e3, e4⟩ := (ok_pure _ _ _ _).mp hA
    exact ⟨e3.symm, e4.symm⟩

theorem afterTypename_keeps (a : Bool) (sid : Nat) (r : List RField) (st : St) :
    (afterTypename a sid r st).mixins = st.mixins ∧ (afterTypename a sid r st).mixinImports = st.mixinImports ∧
    (afterTypename a sid r st).unpacked = st.unpacked := by
  unfold afterTypename
  split <;> exact ⟨rfl, rfl, rfl⟩

theorem fieldBody_step {env : Env} {fuel : Nat} {cn tn : String} {tv : List String} {f : RField} {acc : FAcc} {s : St}
    {r : ForInStep FAcc} {s' : St} (h : fieldBody env fuel cn tn tv f acc s = .ok (r, s')) :
    ∃ (t : TypeRef) (a : Ann) (dflt : Bool) (ctx : Ctx) (more : List ClassDecl) (s1 : St),
      fieldTypeFromSchema env tn f.name = .ok t ∧
      parseOperationField env (fuel + 1) f.name f.dirs f.sub t (cn ++ pascal (pyFieldName env f.key)) tv = .ok (a, dflt, ctx) ∧
      parseFieldSelectionSetTypes env fuel f.sid f.sub ctx ((mixinPairs f.dirs).map (·.2)) (addImports s (mixinPairs f.dirs))
        = .ok (more, s1) ∧
      s' = { s1 with usedEnums := s1.usedEnums ++ ctx.enums, usedScalars := s1.usedScalars ++ ctx.customScalars } ∧
      r = .yield (acc.1 ++ [{ py := pyFieldName env f.key, ann := a,
                              alias := if pyFieldName env f.key != f.key then some f.key else none,
                              discriminator := isUnionAnn a, defaultNone := dflt }], acc.2 ++ more) := by
  unfold fieldBody at h
  obtain ⟨t, s1, h1, hA⟩ := (ok_bind _ _ _ _ _).mp h
  obtain ⟨ht, rfl⟩ := (ok_liftExcept _ _ _ _).mp h1
  obtain ⟨x, s2, h2, hB⟩ := (ok_bind _ _ _ _ _).mp hA
  obtain ⟨hx, rfl⟩ := (ok_liftExcept _ _ _ _).mp h2
  obtain ⟨fb, s3, h3, hC⟩ := (ok_bind _ _ _ _ _).mp hB
  obtain ⟨rfl, rfl⟩ := mixinBases_spec _ _ _ _ h3
  obtain ⟨more, s4, h4, hD⟩ := (ok_bind _ _ _ _ _).mp hC
  obtain ⟨u, s5, h5, hE⟩ := (ok_bind _ _ _ _ _).mp hD
  have hs5 := (ok_modify _ _ _ _).mp h5
  obtain ⟨e3, rfl⟩ := (ok_pure _ _ _ _).mp hE
  obtain ⟨a, dflt, ctx⟩ := x
  exact ⟨t, a, dflt, ctx, more, s4, ht, hx, h4, hs5, e3.symm⟩

end Ariadne.ResultTypes
