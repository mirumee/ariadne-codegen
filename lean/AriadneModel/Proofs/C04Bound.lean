/-
  Proofs/C04Bound.lean — generic lemmas about the per-module parts of `Spec.PyScope`:
    * which names a module binds before its first class statement (`preBound`): an imported name survives autoflake's
      pruning whenever the module mentions it, so a name the generator made available (`Avail`) and uses is bound;
    * `importsResolve` from "every import the generator wrote resolves" (`Resolves`);
    * `classesLoad` from "every base / evaluated name is available or the name of an earlier class";
    * `residualParts` from and into its four parts (`residualParts_of`, `residualParts_parts`).
-/
import AriadneModel.Model.Package
import AriadneModel.Spec.PyScope


namespace Ariadne.C04Proofs
open Ariadne.Package Ariadne.Spec.PyScope

theorem normImport_names (i : Import) : (normImport i).names = i.names := rfl

/-- the names autoflake will not remove from an import statement -/
def keptNames (m : ModuleIR) : List String := m.usedNames ++ m.classes.map (·.name) ++ m.funcs

theorem mem_effective_of_kept {m : ModuleIR} {i : Import} {n : String} (hi : i ∈ m.imports) (hn : n ∈ i.names)
    (hk : m.prune = true → n ∈ keptNames m) : n ∈ importedNames m.effectiveImports := by
  unfold ModuleIR.effectiveImports
  simp only
  split
  · rename_i hp
    have hk' := hk hp
    unfold importedNames
    refine List.mem_flatMap.mpr ⟨{ normImport i with names := (normImport i).names.filter (keptNames m).contains }, ?_, ?_⟩
    · refine List.mem_filter.mpr ⟨List.mem_map.mpr ⟨normImport i, List.mem_map.mpr ⟨i, hi, rfl⟩, rfl⟩, ?_⟩
      have : n ∈ (normImport i).names.filter (keptNames m).contains :=
        List.mem_filter.mpr ⟨hn, by simpa using hk'⟩
      cases hl : (normImport i).names.filter (keptNames m).contains with
      | nil => rw [hl] at this; cases this
      | cons a l => simp
    · exact List.mem_filter.mpr ⟨hn, by simpa using hk'⟩
  · unfold importedNames
    exact List.mem_flatMap.mpr ⟨normImport i, List.mem_map.mpr ⟨i, hi, rfl⟩, hn⟩

/-- a name the generator made available to the class statements and method signatures of the module: a builtin, a function
    of the module, or a name one of the import statements it wrote lists -/
def Avail (m : ModuleIR) (u : String) : Prop :=
  builtins.contains u = true ∨ u ∈ m.funcs ∨ ∃ i ∈ m.imports, u ∈ i.names

theorem Avail.of_import {m : ModuleIR} {i : Import} {u : String} (hi : i ∈ m.imports) (hn : u ∈ i.names) : Avail m u :=
  Or.inr (Or.inr ⟨i, hi, hn⟩)

theorem Avail.bound {m : ModuleIR} {u : String} (h : Avail m u) (hk : u ∈ m.usedNames) :
    builtins.contains u = true ∨ u ∈ preBound m := by
  rcases h with h | h | ⟨i, hi, hn⟩
  · exact Or.inl h
  · exact Or.inr (List.mem_append_right _ h)
  · exact Or.inr (List.mem_append_left _ (mem_effective_of_kept hi hn fun _ => List.mem_append_left _ (List.mem_append_left _ hk)))

theorem mem_usedNames_class {m : ModuleIR} {c : ClassIR} {u : String} (hc : c ∈ m.classes)
    (hu : u ∈ c.bases ++ c.uses) : u ∈ m.usedNames := by
  unfold ModuleIR.usedNames
  refine List.mem_append_left _ (List.mem_append_left _ (List.mem_flatMap.mpr ⟨c, hc, ?_⟩))
  exact List.mem_append_left _ (List.mem_append_left _ hu)

theorem mem_usedNames_method {m : ModuleIR} {f : MethodIR} {u : String} (hf : f ∈ m.methods) (hu : u ∈ f.uses) : u ∈ m.usedNames := by
  unfold ModuleIR.usedNames
  exact List.mem_append_left _ (List.mem_append_right _ (List.mem_flatMap.mpr ⟨f, hf, hu⟩))

/-- an import as the generator wrote it (dots normalised) can be executed: absolute, or relative with one dot, naming a
    module of the package that defines every listed name (a user file: contents unknown) -/
def Resolves (p : PackageIR) (j : Import) : Prop :=
  j.level = 0 ∨ (j.level = 1 ∧ ∃ m', findModule p j.module = some m' ∧ ∀ ns, exported m' = some ns → ∀ n ∈ j.names, n ∈ ns)

theorem importsResolve_of {p : PackageIR} {m : ModuleIR} (h : ∀ i ∈ m.imports, Resolves p (normImport i)) : importsResolve p m = true := by
  unfold importsResolve
  refine List.all_eq_true.mpr ?_
  intro i' hi'
  -- every surviving import is a written one with (possibly) fewer names
  have hsrc : ∃ i ∈ m.imports, i'.level = (normImport i).level ∧ i'.module = (normImport i).module ∧ ∀ n ∈ i'.names, n ∈ (normImport i).names := by
    unfold ModuleIR.effectiveImports at hi'
    simp only at hi'
    split at hi'
    · obtain ⟨hmem, _⟩ := List.mem_filter.mp hi'
      obtain ⟨j, hj, rfl⟩ := List.mem_map.mp hmem
      obtain ⟨i, hi, rfl⟩ := List.mem_map.mp hj
      exact ⟨i, hi, rfl, rfl, fun n hn => (List.mem_filter.mp hn).1⟩
    · obtain ⟨i, hi, rfl⟩ := List.mem_map.mp hi'
      exact ⟨i, hi, rfl, rfl, fun n hn => hn⟩
  obtain ⟨i, hi, hl, hmod, hnames⟩ := hsrc
  rcases h i hi with h0 | ⟨h1, m', hfind, hex⟩
  · have : i'.level = 0 := by rw [hl]; exact h0
    simp [this]
  · have h1' : i'.level = 1 := by rw [hl]; exact h1
    have e10 : ((1 : Nat) == 0) = false := rfl
    have e11 : ((1 : Nat) == 1) = true := rfl
    simp only [h1', e10, e11, if_true, Bool.false_eq_true, if_false]
    rw [hmod, hfind]
    simp only
    cases hx : exported m' with
    | none => rfl
    | some ns =>
      simp only
      refine List.all_eq_true.mpr ?_
      intro n hn
      have := hex ns hx n (hnames n hn)
      simpa using this

theorem classesLoadFrom_intro : ∀ (cs : List ClassIR) (bound : List String),
    (∀ pre c post, cs = pre ++ c :: post → ∀ u ∈ c.bases ++ c.uses,
      builtins.contains u = true ∨ u ∈ bound ∨ u ∈ pre.map (·.name)) → classesLoadFrom bound cs = true
  | [], _, _ => rfl
  | c :: rest, bound, h => by
    simp only [classesLoadFrom, Bool.and_eq_true]
    refine ⟨?_, ?_⟩
    · refine List.all_eq_true.mpr ?_
      intro u hu
      show (builtins.contains u || bound.contains u) = true
      rcases h [] c rest rfl u hu with h1 | h1 | h1
      · exact (Bool.or_eq_true _ _).mpr (Or.inl h1)
      · have : bound.contains u = true := by simpa using h1
        exact (Bool.or_eq_true _ _).mpr (Or.inr this)
      · cases h1
    · apply classesLoadFrom_intro rest (c.name :: bound)
      intro pre c' post heq u hu
      rcases h (c :: pre) c' post (by rw [heq]; rfl) u hu with h1 | h1 | h1
      · exact Or.inl h1
      · exact Or.inr (Or.inl (List.mem_cons_of_mem _ h1))
      · rcases List.mem_cons.mp h1 with h2 | h2
        · exact Or.inr (Or.inl (by rw [h2]; exact List.mem_cons_self))
        · exact Or.inr (Or.inr h2)

theorem classesLoad_of {m : ModuleIR}
    (hc : ∀ pre c post, m.classes = pre ++ c :: post → ∀ u ∈ c.bases ++ c.uses, Avail m u ∨ u ∈ pre.map (·.name))
    (hm : ∀ f ∈ m.methods, ∀ u ∈ f.uses, Avail m u) : classesLoad m = true := by
  unfold classesLoad
  simp only [Bool.and_eq_true]
  refine ⟨?_, ?_⟩
  · apply classesLoadFrom_intro
    intro pre c post heq u hu
    rcases hc pre c post heq u hu with h | h
    · exact (h.bound (mem_usedNames_class (by rw [heq]; simp) hu)).imp_right Or.inl
    · exact Or.inr (Or.inr h)
  · refine List.all_eq_true.mpr fun f hf => List.all_eq_true.mpr fun u hu => ?_
    show (builtins.contains u || (preBound m).contains u) = true
    rcases (hm f hf u hu).bound (mem_usedNames_method hf hu) with h | h
    · exact (Bool.or_eq_true _ _).mpr (Or.inl h)
    · exact (Bool.or_eq_true _ _).mpr (Or.inr (by simpa using h))

/-- the common case: nothing depends on the order of the class statements -/
theorem classesLoad_of_avail {m : ModuleIR} (hc : ∀ c ∈ m.classes, ∀ u ∈ c.bases ++ c.uses, Avail m u)
    (hm : ∀ f ∈ m.methods, ∀ u ∈ f.uses, Avail m u) : classesLoad m = true :=
  classesLoad_of (fun pre c post heq u hu => Or.inl (hc c (by rw [heq]; simp) u hu)) hm

theorem forwardRefsOK_of {m : ModuleIR} (h : ∀ c ∈ m.classes, ∀ x ∈ c.fwd, x ∈ m.defines) : forwardRefsOK m = true :=
  List.all_eq_true.mpr fun c hc => List.all_eq_true.mpr fun x hx => List.contains_iff_mem.mpr (h c hc x hx)

theorem rebuildsOK_of {m : ModuleIR} (h : ∀ r ∈ m.rebuilds, r ∈ m.classes.map (·.name)) :
    (m.rebuilds.all (m.classes.map (·.name)).contains) = true :=
  List.all_eq_true.mpr fun r hr => List.contains_iff_mem.mpr (h r hr)

theorem residualParts_of {p : PackageIR} {m : ModuleIR} (h1 : importsResolve p m = true) (h2 : classesLoad m = true)
    (h3 : forwardRefsOK m = true) (h4 : (m.rebuilds.all (m.classes.map (·.name)).contains) = true) : residualParts p m = true := by
  unfold residualParts
  rw [h1, h2, h3, h4]
  rfl

theorem residualParts_parts {p : PackageIR} {m : ModuleIR} (h : residualParts p m = true) :
    importsResolve p m = true ∧ classesLoad m = true ∧ forwardRefsOK m = true ∧
      (m.rebuilds.all (m.classes.map (·.name)).contains) = true := by
  unfold residualParts at h
  simp only [Bool.and_eq_true] at h
  exact ⟨h.1.1.1, h.1.1.2, h.1.2, h.2⟩

end Ariadne.C04Proofs
