/-
  Lemmas about Model/IntrospectChain.lean (C19): which status codes count as success, what `schemaFromUrl` makes of an
  exception of `httpx.post` (`raised_outcome`) and of a response (`introspect_response_cases`), when `chooseSource` takes the
  remote branch and with which call (`chooseSource_remote_iff`, `remote_chosen`), one step of the header comprehension
  (`resolveHeaders_cons_ok`).
-/
import AriadneModel.Model.IntrospectChain

namespace Ariadne.Introspect

theorem isSuccess_iff (s : Nat) : isSuccess s = true ↔ (200 ≤ s ∧ s ≤ 299) := by
  simp [isSuccess]

theorem raised_outcome {σ : Type} (build : List (String × J) → Except String σ) (e : Exc) :
    schemaFromUrl build (.raised e) =
      if e.isa clsInvalidURL = true then .introspectionError .invalidUrl
      else if e.isa clsTransportError = true then .introspectionError (.transport e.msg)
      else .escaped e := by
  unfold schemaFromUrl introspect
  by_cases h1 : e.isa clsInvalidURL = true
  · simp [h1]
  · by_cases h2 : e.isa clsTransportError = true <;> simp [h1, h2]

theorem introspect_response_cases (status : Nat) (body : Option J) :
    (∃ k, introspect (.response status body) = .introspectionError k) ∨
    (∃ kvs d, body = some (.obj kvs) ∧ (200 ≤ status ∧ status ≤ 299) ∧ J.lookup "data" kvs = some (.obj d) ∧
      (J.getD "errors" kvs).truthy = false ∧ introspect (.response status body) = .data d) := by
  cases hs : isSuccess status
  · exact Or.inl ⟨.httpStatus status, by simp [introspect, hs]⟩
  have hst := (isSuccess_iff status).mp hs
  rcases body with _ | b
  · exact Or.inl ⟨.notJson, by simp [introspect, hs]⟩
  cases b
  case obj kvs =>
    rcases hd : J.lookup "data" kvs with _ | data
    · exact Or.inl ⟨.badFormat, by simp [introspect, hs, hd]⟩
    cases ht : (J.getD "errors" kvs).truthy
    · cases data
      case obj d => exact Or.inr ⟨kvs, d, rfl, hst, hd, ht, by simp [introspect, hs, hd, ht]⟩
      all_goals exact Or.inl ⟨.badData, by simp [introspect, hs, hd, ht]⟩
    · exact Or.inl ⟨.errors (J.getD "errors" kvs), by simp [introspect, hs, hd, ht]⟩
  all_goals exact Or.inl ⟨.badFormat, by simp [introspect, hs]⟩

theorem chooseSource_remote_iff (env : String → Option String) (pathExists : Bool) (c : SourceCfg) (call : PostCall) :
    chooseSource env pathExists c = .ok (.remote call) ↔
      c.schemaPath = "" ∧ c.remoteUrl ≠ "" ∧ ∃ hs, resolveHeaders env c.headers = .ok hs ∧
        call = ⟨c.remoteUrl, hs, c.verifySsl, Tables.introspectionQueryFlags⟩ := by
  unfold chooseSource
  by_cases hp : c.schemaPath = ""
  · by_cases hu : c.remoteUrl = ""
    · simp [hp, hu]
    · rcases hr : resolveHeaders env c.headers with n | hs
      · simp [hp, hu]
      · simp [hp, hu]
        exact eq_comm
  · cases pathExists
    · simp [hp]
    · rcases hr : resolveHeaders env c.headers with n | hs <;> simp [hp]

theorem remote_chosen (env : String → Option String) (pathExists : Bool) (c : SourceCfg) (hs : List (String × String))
    (hp : c.schemaPath = "") (hu : c.remoteUrl ≠ "") (hr : resolveHeaders env c.headers = .ok hs) :
    chooseSource env pathExists c = .ok (.remote ⟨c.remoteUrl, hs, c.verifySsl, Tables.introspectionQueryFlags⟩) :=
  (chooseSource_remote_iff env pathExists c _).mpr ⟨hp, hu, hs, hr, rfl⟩

theorem resolveHeaders_cons_ok (env : String → Option String) (k v : String) (rest r : List (String × String)) :
    resolveHeaders env ((k, v) :: rest) = .ok r ↔
      ∃ x r', headerValue env v = .ok x ∧ resolveHeaders env rest = .ok r' ∧ r = (k, x) :: r' := by
  rw [resolveHeaders]
  cases headerValue env v <;> cases resolveHeaders env rest <;> simp [eq_comm]

end Ariadne.Introspect
