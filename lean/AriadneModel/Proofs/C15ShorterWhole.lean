/-
  C15: the client module that leaves `ShorterResultsPlugin.generate_client_module`, as a whole — its form, what it
  binds, where its import statements point, and how its methods relate to the methods that went in.
-/
import AriadneModel.Proofs.C15ShorterRun
import AriadneModel.Proofs.C15ShorterModule


namespace Ariadne.C15
open Ariadne.Py Ariadne.Plugins Ariadne.ClientSem

theorem ItemsRel.and {R R' : Method → Method → Prop} : ∀ {x y : List ClassItem}, ItemsRel R x y → ItemsRel R' x y →
    ItemsRel (fun m m' => R m m' ∧ R' m m') x y := by
  intro x y h
  induction h with
  | nil => intro _; exact .nil
  | method hm _ ih => intro h'; cases h' with | method hm' hr => exact .method ⟨hm, hm'⟩ (ih hr)
  | other _ ih => intro h'; cases h' with | other hr => exact .other (ih hr)

theorem ItemsRel.mem_right {R : Method → Method → Prop} : ∀ {x y : List ClassItem}, ItemsRel R x y →
    ∀ m' ∈ y.filterMap ClassItem.method?, ∃ m ∈ x.filterMap ClassItem.method?, R m m' := by
  intro x y h
  induction h with
  | nil => intro m' hm'; simp at hm'
  | method hm _ ih =>
    intro m' hm'
    simp only [List.filterMap_cons, ClassItem.method?, List.mem_cons] at hm'
    rcases hm' with rfl | h
    · exact ⟨_, by simp [ClassItem.method?], hm⟩
    · obtain ⟨m0, h0, hr⟩ := ih m' h
      exact ⟨m0, by simp [ClassItem.method?, h0], hr⟩
  | other _ ih =>
    intro m' hm'
    simp only [List.filterMap_cons, ClassItem.method?] at hm'
    obtain ⟨m0, h0, hr⟩ := ih m' hm'
    exact ⟨m0, by simpa [ClassItem.method?] using h0, hr⟩

theorem ItemsRel.with_mem_aux {R : Method → Method → Prop} (l : List Method) : ∀ {x y : List ClassItem}, ItemsRel R x y →
    (∀ m ∈ x.filterMap ClassItem.method?, m ∈ l) → ItemsRel (fun m _ => m ∈ l) x y := by
  intro x y h
  induction h with
  | nil => intro _; exact .nil
  | @method m m' rest rest' hm _ ih =>
    intro hl
    exact .method (hl m (by simp [ClassItem.method?])) (ih (fun a ha => hl a (by simp [ClassItem.method?, ha])))
  | other _ ih =>
    intro hl
    exact .other (ih (fun a ha => hl a (by simpa [ClassItem.method?] using ha)))

theorem ItemsRel.with_mem {R : Method → Method → Prop} {x y : List ClassItem} (h : ItemsRel R x y) :
    ItemsRel (fun m _ => m ∈ x.filterMap ClassItem.method?) x y :=
  ItemsRel.with_mem_aux _ h (fun _ hm => hm)

theorem ItemsRel.find {R : Method → Method → Prop} (hname : ∀ m m', R m m' → m'.name = m.name) (n : String) :
    ∀ {x y : List ClassItem}, ItemsRel R x y →
      (((x.filterMap ClassItem.method?).find? (fun md => md.name == n) = none ∧
        (y.filterMap ClassItem.method?).find? (fun md => md.name == n) = none) ∨
       ∃ m m', (x.filterMap ClassItem.method?).find? (fun md => md.name == n) = some m ∧
        (y.filterMap ClassItem.method?).find? (fun md => md.name == n) = some m' ∧ R m m' ∧
        m ∈ x.filterMap ClassItem.method?) := by
  intro x y h
  induction h with
  | nil => exact .inl ⟨rfl, rfl⟩
  | @method m m' rest rest' hm _ ih =>
    have hn' : m'.name = m.name := hname m m' hm
    simp only [List.filterMap_cons, ClassItem.method?, List.find?_cons, hn']
    cases hk : (m.name == n) with
    | true =>
      simp only
      exact .inr ⟨m, m', rfl, rfl, hm, by simp⟩
    | false =>
      simp only
      rcases ih with ⟨h1, h2⟩ | ⟨a, a', h1, h2, h3, h4⟩
      · exact .inl ⟨h1, h2⟩
      · exact .inr ⟨a, a', h1, h2, h3, by simp [h4]⟩
  | other _ ih =>
    simp only [List.filterMap_cons, ClassItem.method?]
    exact ih

theorem sx_nil_ext : ∀ l : List Top, shorterExtendExisting [] l = ([], l) := by
  intro l
  induction l with
  | nil => rfl
  | cons t rest ih =>
    rw [sx_cons_keep [] t rest (by rintro ⟨i, m, extra, _, _, h⟩; simp [alookup] at h), ih]

theorem shorterClientModule_form (st st' : ShorterState) (M M' : Module) (pre : List Top) (g : Method) (c : ClassDef)
    (hb : M.body = pre ++ [.funcDef g, .classDef c]) (hn : NoClass pre)
    (h : shorterClientModule st M = .ok (st', M')) :
    ∃ st1 items1, mapMethodsM shorterModifyMethod st c.body = .ok (st1, items1) ∧
      M'.body = freshImports (shorterExtendExisting st1.extendedImports pre).1 ++
        (shorterExtendExisting st1.extendedImports pre).2 ++ [.funcDef g, .classDef { c with body := items1 }] := by
  have hfc : M.firstClass? = some c := firstClass_of_body M pre g c hb hn
  unfold shorterClientModule at h
  rw [hfc] at h
  simp only at h
  rw [hb, mapFirstClassM_pre _ g c pre st hn] at h
  cases hm : mapMethodsM shorterModifyMethod st c.body with
  | error e => simp [hm, bind, Except.bind] at h
  | ok r =>
    refine ⟨r.1, r.2, rfl, ?_⟩
    simp only [hm, bind_ok, pure_eq_ok] at h
    split at h
    · rename_i hemp
      simp only [Except.ok.injEq, Prod.mk.injEq] at h
      obtain ⟨_, rfl⟩ := h
      have : r.1.extendedImports = [] := by simpa using hemp
      rw [this, sx_nil_ext]
      simp [freshImports]
    · simp only [shorterExtend_tail, Except.ok.injEq, Prod.mk.injEq] at h
      obtain ⟨_, rfl⟩ := h
      simp [freshImports, List.append_assoc]

/-- the client module handed to ShorterResults (`M`, class `c`) and the one it returns (`M'`, class `c'`) when the walk collected `E`:
    `ExtendSpec` and the fresh import statements, read on the whole module -/
structure ModuleFacts (E : List (String × List String)) (M M' : Module) (c c' : ClassDef) : Prop where
  firstClass : M'.firstClass? = some c'
  names_mono : ∀ n ∈ moduleNames M, n ∈ moduleNames M'
  covered : ∀ cl, Covered E cl → cl ∈ moduleNames M'
  bindings : ∀ n, n ∉ addedNames E →
    alookup n (importBindings (topImports M')) = alookup n (importBindings (topImports M))
  provenance : ∀ i' ∈ topImports M', (∃ i ∈ topImports M, i'.module = i.module ∧ i'.level = i.level) ∨
    (∃ x ∈ E, i' = { module := some x.1, names := x.2.map (fun n => (n, none)), level := 0 })
  tops : ∀ t' ∈ M'.body, (∃ i, t' = .simple (.importFrom i)) ∨ t' ∈ M.body ∨ t' = .classDef c'

theorem topImports_eq (M : Module) : topImports M = importsOfTops M.body := rfl

theorem moduleNames_eq (M : Module) : moduleNames M = namesOfTops M.body := rfl

theorem module_facts (E : List (String × List String)) (M M' : Module) (pre : List Top) (g : Method) (c c' : ClassDef)
    (hb : M.body = pre ++ [.funcDef g, .classDef c]) (hn : NoClass pre) (hname : c'.name = c.name)
    (hb' : M'.body = freshImports (shorterExtendExisting E pre).1 ++ (shorterExtendExisting E pre).2 ++ [.funcDef g, .classDef c']) :
    ModuleFacts E M M' c c' := by
  have s := shorterExtend_spec pre E
  have hnc : NoClass (freshImports (shorterExtendExisting E pre).1 ++ (shorterExtendExisting E pre).2) :=
    List.forall_mem_append.mpr ⟨freshImports_noclass _, s.noclass hn⟩
  have htail : ∀ cc : ClassDef, importsOfTops [Top.funcDef g, Top.classDef cc] = [] := fun _ => rfl
  refine ⟨?_, ?_, ?_, ?_, ?_, ?_⟩
  · exact firstClass_of_body M' _ g c' hb' hnc
  · intro n hnm
    rw [moduleNames_eq, hb, namesOfTops_append] at hnm
    rw [moduleNames_eq, hb', namesOfTops_append, namesOfTops_append]
    rcases List.mem_append.mp hnm with h | h
    · exact List.mem_append_left _ (List.mem_append_right _ (s.names_mono n h))
    · apply List.mem_append_right
      simp only [namesOfTops, moduleNames, List.flatMap_cons, List.flatMap_nil, List.append_nil, List.mem_append,
        List.mem_singleton] at h ⊢
      rw [hname]; exact h
  · rintro cl ⟨src, names, hl, hcl⟩
    rw [moduleNames_eq, hb', namesOfTops_append, namesOfTops_append]
    apply List.mem_append_left
    rcases s.covered src names cl hl hcl with h | h
    · exact List.mem_append_right _ h
    · apply List.mem_append_left
      rw [freshImports_names]
      exact addedNames_mem (mem_of_alookup src names _ h) hcl
  · intro n hnn
    rw [topImports_eq, topImports_eq, hb, hb', importsOfTops_append, importsOfTops_append, importsOfTops_append, htail, htail,
      List.append_nil, List.append_nil, importBindings_append, alookup_append]
    have hfresh : alookup n (importBindings (importsOfTops (freshImports (shorterExtendExisting E pre).1))) = none := by
      apply alookup_none_of_not_key
      intro kv hkv hc
      have h1 := freshImports_binding_keys _ kv hkv
      apply hnn
      unfold addedNames at h1 ⊢
      rw [List.mem_flatMap] at h1 ⊢
      obtain ⟨p, hp, hnp⟩ := h1
      exact ⟨p, s.leftover p hp, hc ▸ hnp⟩
    rw [hfresh]
    exact s.bindings n hnn
  · intro i' hi'
    rw [topImports_eq, hb', importsOfTops_append, importsOfTops_append, htail, List.append_nil] at hi'
    rw [topImports_eq, hb, importsOfTops_append, htail, List.append_nil]
    rcases List.mem_append.mp hi' with h | h
    · obtain ⟨x, hx, rfl⟩ := freshImports_imports _ i' h
      exact .inr ⟨x, s.leftover x hx, rfl⟩
    · exact .inl (s.provenance i' h)
  · intro t' ht'
    rw [hb'] at ht'
    rw [hb]
    simp only [List.mem_append, List.mem_cons, List.not_mem_nil, or_false] at ht' ⊢
    rcases ht' with (h | h) | h | h
    · unfold freshImports at h
      simp only [List.mem_reverse, List.mem_map] at h
      obtain ⟨x, _, rfl⟩ := h
      exact .inl ⟨_, rfl⟩
    · rcases s.tops t' h with h' | h'
      · exact .inl h'
      · exact .inr (.inl (.inl h'))
    · exact .inr (.inl (.inr (.inl h)))
    · exact .inr (.inr h)

end Ariadne.C15
