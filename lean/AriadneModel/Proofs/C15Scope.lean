/-
  C15: the scoping and loading predicates of Model/ClientSem.lean, Model/PluginFindings.lean and Model/PluginWhole.lean
  (`runtimeUnresolved`, `wellScopedB`, `annScopedB`, `formatOkB`, `importsExistB`, `loadsB`) as propositions; and of the
  configurations `validB` admits (plugins of pairwise distinct kinds): such a list splits around its plugin of a given kind
  (`decompose_at`), and taking one plugin out of a valid input leaves a valid input (`validB_remove`).
-/
import AriadneModel.Proofs.C15
import AriadneModel.Model.PluginWholeF

namespace Ariadne.C15
open Ariadne.Py Ariadne.Plugins Ariadne.ClientSem

/-- the names a recognised body evaluates at call time -/
def needNames (v : Shape) : List String :=
  (match v.op with | .inline _ _ => ["gql"] | .const c => [c]) ++ [v.retClass] ++ exNames v.variables

/-- the names bound when the body runs -/
def boundNames (pkg : Pkg) (v : Shape) (md : Method) : List String :=
  (importBindings v.imports).map (·.1) ++ moduleNames pkg.client ++ builtinNames ++ md.args.map (·.1) ++ ["kwargs"]

theorem runtimeUnresolved_nil_iff (pkg : Pkg) (md : Method) (v : Shape) (hs : shapeOf md = some v) :
    runtimeUnresolved pkg md = [] ↔
      (∀ n ∈ needNames v, n ∈ boundNames pkg v md) ∧ ∀ c, v.op = .const c → (constValue pkg v c).isSome = true := by
  have hmiss : List.filter (fun n => !(boundNames pkg v md).contains n) (needNames v) = [] ↔
      ∀ n ∈ needNames v, n ∈ boundNames pkg v md := by
    rw [List.filter_eq_nil_iff]
    simp only [Bool.not_eq_true', Bool.not_eq_false, List.contains_iff_mem]
  have hrw : runtimeUnresolved pkg md =
      (needNames v).filter (fun n => !(boundNames pkg v md).contains n) ++
        (match v.op with
          | .const c => if (constValue pkg v c).isSome then [] else [c]
          | _ => []).filter (fun n => !((needNames v).filter (fun n => !(boundNames pkg v md).contains n)).contains n) := by
    unfold runtimeUnresolved
    simp only [hs]
    rfl
  rw [hrw, List.append_eq_nil_iff, hmiss]
  apply and_congr_right
  intro hall
  rw [hmiss.mpr hall]
  cases v.op with
  | inline q ls => simp
  | const c => cases hc : constValue pkg v c <;> simp [hc]

theorem runtimeUnresolved_no_shape (pkg : Pkg) (md : Method) (hs : shapeOf md = none) : runtimeUnresolved pkg md = [] := by
  unfold runtimeUnresolved; rw [hs]

theorem mem_needNames {v : Shape} {n : String} :
    n ∈ needNames v ↔ n = opSourceName v ∨ n = v.retClass ∨ n ∈ exNames v.variables := by
  unfold needNames opSourceName
  cases v.op <;> simp

theorem mem_boundNames {pkg : Pkg} {v : Shape} {md : Method} {n : String} :
    n ∈ boundNames pkg v md ↔ n ∈ (importBindings v.imports).map (·.1) ∨ n ∈ moduleNames pkg.client ∨ n ∈ builtinNames ∨
      n ∈ md.args.map (·.1) ∨ n = "kwargs" := by
  simp only [boundNames, List.mem_append, List.mem_singleton, or_assoc]

theorem boundNames_mono {pkg0 pkg1 : Pkg} (hmono : ∀ n ∈ moduleNames pkg0.client, n ∈ moduleNames pkg1.client)
    {v : Shape} {md : Method} {n : String} (h : n ∈ boundNames pkg0 v md) : n ∈ boundNames pkg1 v md := by
  rw [mem_boundNames] at h ⊢
  exact h.imp_right (Or.imp_left (hmono n))

theorem constValue_ops_none (M : Module) (v : Shape) (c : String) : constValue { client := M, ops := none } v c = none := by
  unfold constValue; cases resolveRuntime { client := M, ops := none } v c <;> rfl

theorem runtimeUnresolved_mono {pkg0 pkg1 : Pkg} {md : Method}
    (hmono : ∀ n ∈ moduleNames pkg0.client, n ∈ moduleNames pkg1.client)
    (hconst : ∀ v c, shapeOf md = some v → v.op = .const c →
      (constValue pkg0 v c).isSome = true → (constValue pkg1 v c).isSome = true)
    (h : runtimeUnresolved pkg0 md = []) : runtimeUnresolved pkg1 md = [] := by
  cases hs : shapeOf md with
  | none => exact runtimeUnresolved_no_shape pkg1 md hs
  | some v =>
    rw [runtimeUnresolved_nil_iff _ md v hs] at h ⊢
    exact ⟨fun n hn => boundNames_mono hmono (h.1 n hn), fun c hc => hconst v c hs hc (h.2 c hc)⟩

theorem runtimeUnresolved_congr {pkg : Pkg} {md md' : Method} {v v' : Shape} (hs : shapeOf md = some v) (hs' : shapeOf md' = some v')
    (hi : v'.imports = v.imports) (ho : v'.op = v.op) (hr : v'.retClass = v.retClass) (hv : v'.variables = v.variables)
    (ha : md'.args.map (·.1) = md.args.map (·.1)) : runtimeUnresolved pkg md' = [] ↔ runtimeUnresolved pkg md = [] := by
  rw [runtimeUnresolved_nil_iff _ md v hs, runtimeUnresolved_nil_iff _ md' v' hs']
  have h1 : needNames v' = needNames v := by unfold needNames; rw [ho, hr, hv]
  have h2 : boundNames pkg v' md' = boundNames pkg v md := by unfold boundNames; rw [hi, ha]
  have h3 : ∀ c, constValue pkg v' c = constValue pkg v c := by intro c; unfold constValue resolveRuntime; rw [hi]
  simp only [h1, h2, h3, ho]

theorem inline_of_unresolved_nil {M : Module} {md : Method} {v : Shape} (hs : shapeOf md = some v)
    (h : runtimeUnresolved { client := M, ops := none } md = []) : ∃ q ls, v.op = .inline q ls := by
  cases hop : v.op with
  | inline q ls => exact ⟨q, ls, rfl⟩
  | const c =>
    have := ((runtimeUnresolved_nil_iff _ md v hs).mp h).2 c hop
    rw [constValue_ops_none] at this
    cases this

theorem wellScopedB_iff (pkg : Pkg) (c : ClassDef) (hfc : pkg.client.firstClass? = some c) :
    wellScopedB pkg = true ↔ ∀ md ∈ c.methods, runtimeUnresolved pkg md = [] := by
  unfold wellScopedB unresolvedNames
  rw [hfc, List.isEmpty_iff, List.flatMap_eq_nil_iff]

theorem annScopedB_iff (M : Module) (c : ClassDef) (hfc : M.firstClass? = some c) :
    annScopedB M = true ↔ ∀ md ∈ c.methods, ∀ n ∈ defTimeNames md, n ∈ moduleNames M ∨ n ∈ builtinNames := by
  unfold annScopedB
  rw [hfc]
  simp only [List.all_eq_true, Bool.or_eq_true, List.contains_iff_mem]

theorem formatOkB_iff (M : Module) :
    formatOkB M = true ↔ ∀ t ∈ M.body, ∀ e o, t ≠ Top.ifStmt e [] o := by
  unfold formatOkB
  rw [List.all_eq_true]
  refine forall_congr' fun t => forall_congr' fun _ => ?_
  split
  · rename_i e o; simp
  · rename_i h
    simp only [true_iff]
    intro e o heq
    exact h e o heq

theorem importsExistB_iff (x : Input) (M : Module) (ops : Option (String × OpsFile)) :
    importsExistB x M ops = true ↔ ∀ i ∈ topImports M, ∀ q, relModule i = some q → q ∈ knownModules x ops := by
  unfold importsExistB
  rw [List.all_eq_true]
  refine forall_congr' fun i => forall_congr' fun _ => ?_
  cases relModule i with
  | none => simp
  | some q => simp

theorem loadsB_iff (ps : List PState) (x : Input) :
    loadsB ps x = true ↔ (runWith ps x).2 = none ∧ trigOpsModuleClash { x with plugins := ps } = false ∧
      ∃ M, (runWith ps x).1.clientModule? = some M ∧ formatOkB M = true ∧ annScopedB M = true ∧
        wellScopedB { client := M, ops := (runWith ps x).1.opsFile? } = true ∧
        importsExistB x M (runWith ps x).1.opsFile? = true := by
  unfold loadsB
  simp only [Bool.and_eq_true, Bool.not_eq_true', Option.isNone_iff_eq_none]
  cases (runWith ps x).1.clientModule? with
  | none => simp
  | some M =>
    simp only [Bool.and_eq_true, Option.some.injEq, exists_eq_left']
    constructor
    · rintro ⟨⟨h1, ⟨⟨h2, h3⟩, h4⟩, h5⟩, h6⟩; exact ⟨h1, h6, h2, h3, h4, h5⟩
    · rintro ⟨h1, h6, h2, h3, h4, h5⟩; exact ⟨⟨h1, ⟨⟨h2, h3⟩, h4⟩, h5⟩, h6⟩

theorem decompose_at (k : Nat) (ok : PState → Prop) : ∀ (ps : List PState),
    (∀ p ∈ ps, ok p ∨ PState.kind p = k) → distinct (ps.map PState.kind) = true →
    (∀ p ∈ ps, ok p) ∨ ∃ a b p0, ps = a ++ p0 :: b ∧ PState.kind p0 = k ∧ (∀ p ∈ a, ok p) ∧ (∀ p ∈ b, ok p) := by
  intro ps
  induction ps with
  | nil => intro _ _; exact .inl (fun p hp => by cases hp)
  | cons p rest ih =>
    intro hq hd
    simp only [List.map_cons, distinct, Bool.and_eq_true, Bool.not_eq_true'] at hd
    obtain ⟨hnot, hdr⟩ := hd
    have hrestq : ∀ q ∈ rest, ok q ∨ PState.kind q = k := fun q hq' => hq q (List.mem_cons_of_mem _ hq')
    rcases hq p List.mem_cons_self with hok | hpk
    · rcases ih hrestq hdr with hall | ⟨a, b, p0, rfl, hp0, ha, hb⟩
      · exact .inl (fun q hq' => by rcases List.mem_cons.mp hq' with rfl | h; exact hok; exact hall q h)
      · exact .inr ⟨p :: a, b, p0, rfl, hp0,
          fun q hq' => by rcases List.mem_cons.mp hq' with rfl | h; exact hok; exact ha q h, hb⟩
    · -- `p` is the member of kind `k`: no other member has that kind
      refine .inr ⟨[], rest, p, rfl, hpk, (fun q hq' => by cases hq'), fun q hq' => ?_⟩
      rcases hrestq q hq' with h | h
      · exact h
      · have : (rest.map PState.kind).contains (PState.kind p) = true := by
          rw [List.contains_iff_mem, List.mem_map]
          exact ⟨q, hq', h.trans hpk.symm⟩
        rw [this] at hnot; cases hnot

theorem kind_shorter {p : PState} (h : PState.kind p = 0) : ∃ s, p = .shorter s := by
  cases p <;> simp [PState.kind] at h
  exact ⟨_, rfl⟩

theorem kind_extract {p : PState} (h : PState.kind p = 1) : ∃ s, p = .extract s := by
  cases p <;> simp [PState.kind] at h
  exact ⟨_, rfl⟩

theorem distinct_nodup (l : List Nat) : distinct l = true ↔ l.Nodup :=
  Lists.nodupB_iff_of_eqns distinct rfl (fun _ _ => rfl) l

theorem validB_remove (x : Input) (a b : List PState) (p : PState) (hps : x.plugins = a ++ p :: b) (hv : validB x = true) :
    validB { x with plugins := a ++ b } = true := by
  simp only [validB, configOK, Bool.and_eq_true, List.all_eq_true, distinct_nodup] at hv ⊢
  obtain ⟨⟨⟨hfresh, hnd⟩, hl⟩, hproj⟩ := hv
  rw [hps] at hfresh hnd
  refine ⟨⟨⟨fun q hq => hfresh q ?_, ?_⟩, hl⟩, hproj⟩
  · rcases List.mem_append.mp hq with h | h
    · exact List.mem_append_left _ h
    · exact List.mem_append_right _ (List.mem_cons_of_mem _ h)
  · simp only [List.map_append, List.map_cons] at hnd ⊢
    exact hnd.sublist (List.Sublist.append_left (List.sublist_cons_self _ _) _)

theorem onlyB_iff (ok : PState → Bool) (ps : List PState) :
    onlyB ok ps = true ↔ ∀ p ∈ ps, p = PState.identity ∨ p = PState.noReimports ∨ ok p = true := by
  unfold onlyB
  rw [List.all_eq_true]
  constructor
  · intro h p hp
    have := h p hp
    cases p <;> simp_all
  · intro h p hp
    have := h p hp
    cases p <;> simp_all

end Ariadne.C15
