/-
  Proofs/C04ModInputsParts.lean — the components `input_types.py` is built from: what the annotation `InputField.annOf` builds
  mentions (`annOf_spec`) and what a default evaluates when the class statement runs; `InputField.kindOf` read backwards and
  where the leaf of an annotation is bound (`leafUse_where`).
-/
import AriadneModel.Proofs.C04ModShared
import AriadneModel.Proofs.InputField


namespace Ariadne.C04Proofs
open Ariadne.Gql Ariadne.Package Ariadne.PackageTriggers Ariadne.PackageValid Ariadne.Spec.PyScope
open Ariadne.InputField (annOf wrapNullable wrapAnn namedAnn annOf_eq kindOf_cases scalarKind_cases kindOf_builtin)

/-- what the leaf of the annotation of a field of named type `n` mentions -/
def LeafUse (kinds : String → InputField.Kind) (n u : String) : Prop :=
  match kinds n with
  | .builtin py => u = py
  | .custom ty ser => u = ty ∨ ser = some u
  | .any => u = "Any"
  | .enum => u = n
  | _ => False

def wrappers : List String := ["Optional", "List", "Annotated", "PlainSerializer"]

theorem inAnnUses_wrap (b : Bool) (a : InputField.Ann) {u : String} (h : u ∈ inAnnUses (wrapNullable b a)) :
    u ∈ wrappers ∨ u ∈ inAnnUses a := by
  cases b with
  | false => exact Or.inr h
  | true => exact (List.mem_cons.mp h).imp (fun e => by simp [e, wrappers]) id

theorem inAnnFwd_wrap (b : Bool) (a : InputField.Ann) : inAnnFwd (wrapNullable b a) = inAnnFwd a := by
  cases b <;> rfl

theorem wrapAnn_names (X : InputField.Ann) : ∀ (t : InputGen.TypeRef) (nl : Bool),
    (∀ u ∈ inAnnUses (wrapAnn t nl X), u ∈ wrappers ∨ u ∈ inAnnUses X) ∧ inAnnFwd (wrapAnn t nl X) = inAnnFwd X
  | .named _, nl => ⟨fun _ h => inAnnUses_wrap nl X h, inAnnFwd_wrap nl X⟩
  | .list t, nl => by
    obtain ⟨h1, h2⟩ := wrapAnn_names X t nl
    refine ⟨fun u h => ?_, by simp only [wrapAnn, inAnnFwd_wrap, inAnnFwd, h2]⟩
    rcases inAnnUses_wrap nl _ h with h | h
    · exact Or.inl h
    · rcases List.mem_cons.mp h with rfl | h
      · exact Or.inl (by simp [wrappers])
      · exact h1 u h
  | .nonNull t, _ => wrapAnn_names X t false

theorem annOf_spec (kinds : String → InputField.Kind) (t : InputGen.TypeRef) (nullable : Bool) (a : InputField.Ann) (ft : String)
    (h : annOf kinds t nullable = some (a, ft)) :
    (∀ u ∈ inAnnUses a, u ∈ wrappers ∨ LeafUse kinds t.base u) ∧
    (∀ x ∈ inAnnFwd a, x = t.base ∧ kinds t.base = .input) ∧
    (kinds t.base = .enum → ft = t.base) := by
  rw [annOf_eq] at h
  obtain ⟨⟨X, ft'⟩, hX, he⟩ := Option.map_eq_some_iff.mp h
  simp only [Prod.mk.injEq] at he
  obtain ⟨rfl, rfl⟩ := he
  obtain ⟨w1, w2⟩ := wrapAnn_names X t nullable
  have leaf : (∀ u ∈ inAnnUses X, u ∈ wrappers ∨ LeafUse kinds t.base u) ∧ (∀ x ∈ inAnnFwd X, x = t.base ∧ kinds t.base = .input) ∧
      (kinds t.base = .enum → ft' = t.base) := by
    clear h w1 w2
    unfold namedAnn at hX
    unfold LeafUse
    split at hX <;> cases hX <;> simp [inAnnUses, inAnnFwd, wrappers, *]
  exact ⟨fun u hu => (w1 u hu).elim Or.inl (leaf.1 u), fun x hx => leaf.2.1 x (w2 ▸ hx), leaf.2.2⟩

theorem constValue_top_eager (ft : String) (lit : InputGen.Lit) {u : String}
    (h : u ∈ exprEager (InputGen.constValue ft lit false false)) :
    u = "Field" ∨ ∃ v, lit = .enum v ∧ u = dottedHead (ft ++ "." ++ v) := by
  cases lit with
  | int v => simp [InputGen.constValue, exprEager] at h
  | float x => simp [InputGen.constValue, exprEager] at h
  | str s => simp [InputGen.constValue, exprEager] at h
  | bool b => simp [InputGen.constValue, exprEager] at h
  | null => simp [InputGen.constValue, exprEager] at h
  | «enum» v =>
    simp only [InputGen.constValue, exprEager, List.mem_singleton] at h
    exact Or.inr ⟨v, rfl, h⟩
  | list xs =>
    simp only [InputGen.constValue, Bool.false_eq_true, if_false, exprEager, List.mem_singleton] at h
    exact Or.inl h
  | obj kvs =>
    simp only [InputGen.constValue, Bool.false_eq_true, if_false, exprEager, List.mem_singleton] at h
    exact Or.inl h

theorem processFieldValue_eager (al : String) (e : InputGen.PyExpr) {u : String}
    (h : u ∈ valueUses (InputField.processFieldValue al (some e))) : u = "Field" ∨ u ∈ exprEager e := by
  cases e <;> simp only [InputField.processFieldValue, valueUses, List.mem_cons, exprEager] at h ⊢ <;>
    first | exact h | exact Or.inl h | (rcases h with h | h <;> simp_all)

/-- what the value of a generated field evaluates eagerly: `Field`, or the class of an enum literal that IS the default -/
theorem genField_value_eager (cfg : InputField.Cfg) (kinds : String → InputField.Kind) (f0 : InputGen.InputField) (fd : InputField.FieldDecl)
    (a : InputField.Ann) (ft : String) (ha : annOf kinds f0.type true = some (a, ft))
    (h : InputField.genField cfg kinds f0 = some fd) {u : String} (hu : u ∈ valueUses fd.value) :
    u = "Field" ∨ ∃ v, f0.default = some (.enum v) ∧ u = dottedHead (ft ++ "." ++ v) := by
  simp only [InputField.genField, ha, Option.some.injEq] at h
  subst h
  simp only at hu
  have hdef : ∀ e, InputGen.fieldDefault .sdl ft f0 = some e → ∀ u ∈ exprEager e,
      u = "Field" ∨ ∃ v, f0.default = some (.enum v) ∧ u = dottedHead (ft ++ "." ++ v) := by
    intro e he u hu
    simp only [InputGen.fieldDefault] at he
    cases hd : f0.default with
    | some lit =>
      rw [hd] at he
      simp only [Option.some.injEq] at he
      subst he
      rcases constValue_top_eager ft lit hu with h | ⟨v, rfl, h⟩
      · exact Or.inl h
      · exact Or.inr ⟨v, rfl, h⟩
    | none =>
      rw [hd] at he
      simp only at he
      split at he
      · simp only [Option.some.injEq] at he
        subst he
        simp [exprEager] at hu
      · cases he
  split at hu
  · -- aliased: Field(alias=…, …)
    cases hv : InputGen.fieldDefault .sdl ft f0 with
    | none =>
      rw [hv] at hu
      simp only [InputField.processFieldValue, valueUses, List.mem_singleton] at hu
      exact Or.inl hu
    | some e =>
      rw [hv] at hu
      rcases processFieldValue_eager _ e hu with h | h
      · exact Or.inl h
      · exact hdef e hv u h
  · cases hv : InputGen.fieldDefault .sdl ft f0 with
    | none => rw [hv] at hu; simp [valueUses] at hu
    | some e =>
      rw [hv] at hu
      simp only [valueUses] at hu
      exact hdef e hv u hu

theorem mem_pruneTable {cfg : Config} {defs : List InputGen.TypeDef} {d : Prune.InputDef} (h : d ∈ pruneTable cfg defs) :
    ∃ n fs, InputGen.TypeDef.input n fs ∈ defs ∧ d = { name := n, fields := fs.filterMap fun f => pruneRef cfg defs f.type } := by
  unfold pruneTable at h
  obtain ⟨x, hx, hc⟩ := List.mem_filterMap.mp h
  cases x with
  | input n fs =>
    simp only [Option.some.injEq] at hc
    exact ⟨n, fs, hx, hc.symm⟩
  | enum n vs => simp at hc
  | scalar n => simp at hc
  | composite n => simp at hc

theorem pruneTable_of_input {cfg : Config} {defs : List InputGen.TypeDef} {n : String} {fs : List InputGen.InputField}
    (h : InputGen.TypeDef.input n fs ∈ defs) :
    ({ name := n, fields := fs.filterMap fun f => pruneRef cfg defs f.type } : Prune.InputDef) ∈ pruneTable cfg defs := by
  unfold pruneTable
  exact List.mem_filterMap.mpr ⟨_, h, rfl⟩

theorem kindOf_custom {cfg : Config} {defs : List InputGen.TypeDef} {n ty : String} {ser : Option String}
    (h : InputField.kindOf (inputCfg cfg) defs n = .custom ty ser) :
    ∃ d, Scalars.lookupScalar cfg.scalars n = some d ∧ ty = d.typeName ∧ ser = d.serializeName := by
  rcases kindOf_cases (inputCfg cfg) defs n with h1 | h1 | ⟨h1, _⟩ | h1 | h1 <;> rw [h1] at h
  · rcases scalarKind_cases (inputCfg cfg) n with ⟨py', _, h2⟩ | ⟨sc, hs, h2⟩ | h2 <;> rw [h2] at h <;> cases h
    exact inputCfg_scalar hs
  all_goals cases h

/-- **where the leaf of an input annotation is bound**, kind by kind: a builtin or `Upload` (a value of
    `INPUT_SCALARS_MAP`), `Any`, the enum itself, or — a configured scalar — a builtin, `Any` or a name of its imports -/
theorem leafUse_where {cfg : Config} {inp : Input} (hc : cfgOK cfg = true) {n u : String}
    (hl : LeafUse (InputField.kindOf (inputCfg cfg) inp.defs) n u) {used : List String}
    (hused : ∀ ty ser, InputField.kindOf (inputCfg cfg) inp.defs n = .custom ty ser → n ∈ used) :
    builtins.contains u = true ∨ u = Tables.uploadClassName ∨ u = "Any" ∨
    (InputField.kindOf (inputCfg cfg) inp.defs n = .enum ∧ u = n) ∨
    ∃ i ∈ scalarImportsOf cfg used, u ∈ i.names ∧ i.module ≠ "" := by
  unfold LeafUse at hl
  cases hk : InputField.kindOf (inputCfg cfg) inp.defs n with
  | builtin py =>
    rw [hk] at hl
    rcases inputScalars_values u (hl ▸ kindOf_builtin hk) with hb | rfl
    · exact Or.inl hb
    · exact Or.inr (Or.inl rfl)
  | custom ty ser =>
    rw [hk] at hl
    obtain ⟨d, hd, rfl, rfl⟩ := kindOf_custom hk
    rcases scalar_name_where hc hd (hl.imp id fun h => Or.inr h.symm) (hused _ _ hk) with hb | rfl | hi
    · exact Or.inl hb
    · exact Or.inr (Or.inr (Or.inl rfl))
    · exact Or.inr (Or.inr (Or.inr (Or.inr hi)))
  | any => rw [hk] at hl; exact Or.inr (Or.inr (Or.inl hl))
  | enum => rw [hk] at hl; exact Or.inr (Or.inr (Or.inr (Or.inl ⟨rfl, hl⟩)))
  | input => rw [hk] at hl; exact hl.elim
  | composite => rw [hk] at hl; exact hl.elim
  | unknown => rw [hk] at hl; exact hl.elim

theorem specified_in_map : ∀ n ∈ InputGen.specifiedScalars, (Tables.inputScalarsMap.lookup n).isSome = true := by decide

/-- how `_save_dependencies` classifies what `parse_input_field_type` classified -/
theorem pruneRef_of_kind (cfg : Config) (defs : List InputGen.TypeDef) (t : InputGen.TypeRef) :
    (InputField.kindOf (inputCfg cfg) defs t.base = .input → pruneRef cfg defs t = some (.input t.base)) ∧
    (InputField.kindOf (inputCfg cfg) defs t.base = .enum → pruneRef cfg defs t = some (.enum t.base)) ∧
    (∀ ty ser, InputField.kindOf (inputCfg cfg) defs t.base = .custom ty ser → pruneRef cfg defs t = some (.scalar t.base)) := by
  unfold InputField.kindOf pruneRef
  simp only
  cases hd : InputGen.findDef defs t.base with
  | none =>
    simp only
    split
    · rename_i hs
      have hin : t.base ∈ InputGen.specifiedScalars := by simpa using hs
      have hl := specified_in_map _ hin
      unfold InputField.scalarKind
      cases hlk : Tables.inputScalarsMap.lookup t.base with
      | none => rw [hlk] at hl; simp at hl
      | some py => simp
    · simp
  | some d =>
    cases d with
    | input n fs => simp
    | enum n vs => simp
    | composite n => simp
    | scalar n =>
      simp only
      unfold InputField.scalarKind
      cases hlk : Tables.inputScalarsMap.lookup t.base with
      | some py => simp
      | none =>
        simp only
        cases hsc : (inputCfg cfg).scalar? t.base with
        | none => simp
        | some sc =>
          obtain ⟨d, hd', _⟩ := inputCfg_scalar hsc
          simp [hd']

end Ariadne.C04Proofs
