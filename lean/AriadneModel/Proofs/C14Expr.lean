/-
  C14: builder EXPRESSIONS.

  `e.alias(a)`, `e.fields(*cs)` and `e.on(T, *cs)` are one step with three parameters: evaluate the receiver `e`, then the
  arguments `cs` (none for `alias`), then apply one function to the object the receiver denotes, provided the receiver's
  class has the method (`Mutator`).  Every statement about `evalExpr` / `evalFresh` is proved for an accessor, a call and
  that one step (`exprMutInd`).

    * evaluating an expression changes the store only at the class-level objects it applies `alias`/`fields`/`on` to
      (`evalExpr_frame`): every other object is left alone;
    * hence an expression that applies no mutator to a class-level object leaves the store untouched, and evaluates to
      an owned object unless it is a bare class-level attribute (`evalExpr_noMut`).
-/
import AriadneModel.Spec.BuilderDoc

namespace Ariadne.C14
open Ariadne.Builder Ariadne.BuilderDoc

theorem mutate_obj (f : Node → Node) (r : Rec) (subs : List Node) (frags : List Frag) (st : Store) :
    mutate f (.obj r subs frags) st = (f (.obj r subs frags), st) := rfl

def IsObj (n : Node) : Prop := ∃ r s f, n = .obj r s f

theorem setAlias_isObj {al : String} {n : Node} (h : IsObj n) : IsObj (setAlias al n) := by
  obtain ⟨r, s, f, rfl⟩ := h; exact ⟨_, _, _, rfl⟩
theorem extendSubs_isObj {cs : List Node} {n : Node} (h : IsObj n) : IsObj (extendSubs cs n) := by
  obtain ⟨r, s, f, rfl⟩ := h; exact ⟨_, _, _, rfl⟩
theorem setFrag_isObj {ty : String} {cs : List Node} {n : Node} (h : IsObj n) : IsObj (setFrag ty cs n) := by
  obtain ⟨r, s, f, rfl⟩ := h; exact ⟨_, _, _, rfl⟩

theorem markHead_false (l : List (String × String × Bool)) : markHead l false = l := by
  cases l with
  | nil => rfl
  | cons x xs => obtain ⟨c, a, m⟩ := x; rfl

/-- `Mutator e' e cs has f`: `e'` applies to the receiver `e`, with arguments `cs`, the method whose presence on a class
    is `has` and whose effect on the receiver's object, given the argument objects, is `f` -/
inductive Mutator : Expr → Expr → List Expr → (ClassDef → Bool) → (List Node → Node → Node) → Prop
  | alias (e : Expr) (al : String) : Mutator (.alias e al) e [] (·.hasAlias) (fun _ => setAlias al)
  | fields (e : Expr) (cs : List Expr) : Mutator (.fields e cs) e cs (·.hasFields) extendSubs
  | on (e : Expr) (ty : String) (cs : List Expr) : Mutator (.on e ty cs) e cs (·.hasOn) (setFrag ty)

namespace Mutator
variable {p : Package} {e' e : Expr} {cs : List Expr} {has : ClassDef → Bool} {f : List Node → Node → Node}

theorem eval (h : Mutator e' e cs has f) (st : Store) :
    evalExpr p e' st =
      match evalExpr p e st with
      | (.error x, st1) => (.error x, st1)
      | (.ok n, st1) =>
        if classHas p has (nodeCls st1 n) then
          match evalList p cs st1 with
          | (.error x, st2) => (.error x, st2)
          | (.ok ns, st2) => (.ok (mutate (f ns) n st2).1, (mutate (f ns) n st2).2)
        else (.error .attribute, st1) := by
  cases h <;> simp only [evalExpr, evalList] <;> rfl

theorem evalFresh (h : Mutator e' e cs has f) :
    evalFresh p e' =
      match evalFresh p e with
      | .error x => .error x
      | .ok n =>
        if classHas p has (ownCls n) then
          match evalFreshList p cs with
          | .error x => .error x
          | .ok ns => .ok (f ns n)
        else .error .attribute := by
  cases h <;> simp only [BuilderDoc.evalFresh, evalFreshList] <;> rfl

theorem base (h : Mutator e' e cs has f) : exprBase e' = exprBase e := by
  cases h <;> rfl

theorem mutates (h : Mutator e' e cs has f) :
    mutatesShared e' = (exprIsAttr (exprBase e) || mutatesShared e || mutatesSharedList cs) := by
  cases h <;> simp [mutatesShared, mutatesSharedList]

theorem occs (h : Mutator e' e cs has f) :
    sharedOccs e' = markHead (sharedOccs e) (exprIsAttr (exprBase e)) ++ sharedOccsList cs := by
  cases h <;> simp [sharedOccs, sharedOccsList]

theorem isObj (h : Mutator e' e cs has f) (ns : List Node) {n : Node} (hn : IsObj n) : IsObj (f ns n) := by
  cases h
  · exact setAlias_isObj hn
  · exact extendSubs_isObj hn
  · exact setFrag_isObj hn

theorem trigListArg (h : Mutator e' e cs has f) :
    BuilderDoc.trigListArg p e' = (BuilderDoc.trigListArg p e || trigListArgList p cs) := by
  cases h <;> simp [BuilderDoc.trigListArg, trigListArgList]

theorem trigPyName (h : Mutator e' e cs has f) :
    BuilderDoc.trigPyName p e' = (BuilderDoc.trigPyName p e || trigPyNameList p cs) := by
  cases h <;> simp [BuilderDoc.trigPyName, trigPyNameList]

end Mutator

theorem exprMutInd {P : Expr → Prop} {PL : List Expr → Prop}
    (attr : ∀ c a, P (.attr c a)) (call : ∀ c a kw, P (.call c a kw))
    (step : ∀ e' e cs has f, Mutator e' e cs has f → P e → PL cs → P e')
    (nil : PL []) (cons : ∀ e es, P e → PL es → PL (e :: es)) : (∀ e, P e) ∧ (∀ es, PL es) :=
  ⟨go, goL⟩
where
  go : ∀ e, P e
    | .attr c a => attr c a
    | .call c a kw => call c a kw
    | .alias e al => step _ _ _ _ _ (.alias e al) (go e) nil
    | .fields e cs => step _ _ _ _ _ (.fields e cs) (go e) (goL cs)
    | .on e ty cs => step _ _ _ _ _ (.on e ty cs) (go e) (goL cs)
  goL : ∀ es, PL es
    | [] => nil
    | e :: es => cons e es (go e) (goL es)

/-- what `Cls.a` evaluates to, in whatever store -/
def attrResult (p : Package) (cls a : String) : Except Err Node := (evalExpr p (.attr cls a) []).1

/-- what `Cls.a(**kw)` evaluates to, in whatever store -/
def callResult (p : Package) (cls a : String) (kw : List (String × J)) : Except Err Node :=
  (evalExpr p (.call cls a kw) []).1

theorem evalExpr_attr (p : Package) (cls a : String) (st : Store) :
    evalExpr p (.attr cls a) st = (attrResult p cls a, st) := by
  simp only [attrResult, evalExpr]
  split <;> try rfl
  split <;> try rfl
  split <;> try rfl
  split <;> rfl

theorem evalExpr_call (p : Package) (cls a : String) (kw : List (String × J)) (st : Store) :
    evalExpr p (.call cls a kw) st = (callResult p cls a kw, st) := by
  simp only [callResult, evalExpr]
  split <;> try rfl
  split <;> try rfl
  split <;> try rfl
  split <;> rfl

theorem attrResult_ok {p : Package} {c a : String} {n : Node} (h : attrResult p c a = .ok n) :
    ∃ id, n = .ref id ∧ p.sharedId c a = some id := by
  simp only [attrResult, evalExpr] at h
  split at h <;> try (simp at h)
  split at h <;> try (simp at h)
  split at h <;> try (simp at h)
  split at h <;> try (simp at h)
  rename_i id hid
  exact ⟨id, h.symm, hid⟩

theorem callResult_ok {p : Package} {cls a : String} {kw : List (String × J)} {n : Node}
    (h : callResult p cls a kw = .ok n) :
    ∃ c acc vars, p.findClass cls = some c ∧ c.findAcc a = some acc ∧ bindArgs acc.args kw = .ok vars ∧
      n = mkNode acc vars := by
  simp only [callResult, evalExpr] at h
  split at h <;> try (simp at h)
  rename_i c hc
  split at h <;> try (simp at h)
  rename_i acc ha
  split at h <;> try (simp at h)
  split at h <;> try (simp at h)
  rename_i vars hv
  exact ⟨c, acc, vars, hc, ha, hv, h.symm⟩

theorem evalAttr_ok {p : Package} {c a : String} {st st' : Store} {n : Node}
    (h : evalExpr p (.attr c a) st = (.ok n, st')) : ∃ id, n = .ref id ∧ p.sharedId c a = some id := by
  rw [evalExpr_attr] at h
  exact attrResult_ok (Prod.mk.inj h).1

theorem evalCall_inv {p : Package} {cls a : String} {kw : List (String × J)} {st st' : Store} {n : Node}
    (h : evalExpr p (.call cls a kw) st = (.ok n, st')) :
    ∃ c acc vars, p.findClass cls = some c ∧ c.findAcc a = some acc ∧ bindArgs acc.args kw = .ok vars ∧
      n = mkNode acc vars := by
  rw [evalExpr_call] at h
  exact callResult_ok (Prod.mk.inj h).1

/-- the object `id` is the receiver of an `alias`/`fields`/`on` somewhere in these occurrences -/
def MutAt (p : Package) (occs : List (String × String × Bool)) (id : Nat) : Prop :=
  ∃ c a, (c, a, true) ∈ occs ∧ p.sharedId c a = some id

def OccAt (p : Package) (occs : List (String × String × Bool)) (id : Nat) : Prop :=
  ∃ c a m, (c, a, m) ∈ occs ∧ p.sharedId c a = some id

theorem mem_markHead_true {l : List (String × String × Bool)} {b : Bool} {c a : String}
    (h : (c, a, true) ∈ l) : (c, a, true) ∈ markHead l b := by
  cases l with
  | nil => simp at h
  | cons x xs =>
    obtain ⟨c', a', m'⟩ := x
    cases b with
    | false => simpa [markHead] using h
    | true =>
      simp only [markHead]
      rcases List.mem_cons.mp h with h1 | h1
      · simp only [Prod.mk.injEq] at h1
        obtain ⟨rfl, rfl, -⟩ := h1
        exact List.mem_cons_self
      · exact List.mem_cons_of_mem _ h1

theorem mem_markHead_any {l : List (String × String × Bool)} {b : Bool} {c a : String} {m : Bool}
    (h : (c, a, m) ∈ l) : ∃ m', (c, a, m') ∈ markHead l b := by
  cases l with
  | nil => simp at h
  | cons x xs =>
    obtain ⟨c', a', m'⟩ := x
    cases b with
    | false => exact ⟨m, by simpa [markHead] using h⟩
    | true =>
      simp only [markHead]
      rcases List.mem_cons.mp h with h1 | h1
      · simp only [Prod.mk.injEq] at h1
        obtain ⟨rfl, rfl, -⟩ := h1
        exact ⟨true, List.mem_cons_self⟩
      · exact ⟨m, List.mem_cons_of_mem _ h1⟩

theorem MutAt.markHead {p : Package} {l : List (String × String × Bool)} {b : Bool} {id : Nat}
    (h : MutAt p l id) : MutAt p (markHead l b) id := by
  obtain ⟨c, a, hm, hs⟩ := h
  exact ⟨c, a, mem_markHead_true hm, hs⟩

theorem MutAt.left {p : Package} {l1 l2 : List (String × String × Bool)} {id : Nat}
    (h : MutAt p l1 id) : MutAt p (l1 ++ l2) id := by
  obtain ⟨c, a, hm, hs⟩ := h
  exact ⟨c, a, List.mem_append_left _ hm, hs⟩

theorem MutAt.right {p : Package} {l1 l2 : List (String × String × Bool)} {id : Nat}
    (h : MutAt p l2 id) : MutAt p (l1 ++ l2) id := by
  obtain ⟨c, a, hm, hs⟩ := h
  exact ⟨c, a, List.mem_append_right _ hm, hs⟩

theorem OccAt.markHead {p : Package} {l : List (String × String × Bool)} {b : Bool} {id : Nat}
    (h : OccAt p l id) : OccAt p (markHead l b) id := by
  obtain ⟨c, a, m, hm, hs⟩ := h
  obtain ⟨m', hm'⟩ := mem_markHead_any (b := b) hm
  exact ⟨c, a, m', hm', hs⟩

theorem OccAt.left {p : Package} {l1 l2 : List (String × String × Bool)} {id : Nat}
    (h : OccAt p l1 id) : OccAt p (l1 ++ l2) id := by
  obtain ⟨c, a, m, hm, hs⟩ := h
  exact ⟨c, a, m, List.mem_append_left _ hm, hs⟩

theorem OccAt.right {p : Package} {l1 l2 : List (String × String × Bool)} {id : Nat}
    (h : OccAt p l2 id) : OccAt p (l1 ++ l2) id := by
  obtain ⟨c, a, m, hm, hs⟩ := h
  exact ⟨c, a, m, List.mem_append_right _ hm, hs⟩

theorem isObj_not_ref {n : Node} (h : IsObj n) (id : Nat) : n ≠ .ref id := by
  obtain ⟨r, s, f, rfl⟩ := h
  simp

theorem mutate_frame (f : Node → Node) (hf : ∀ m, IsObj m → IsObj (f m)) (n : Node) (st : Store) :
    (mutate f n st).2.length = st.length ∧
    (∀ id, n ≠ .ref id → (mutate f n st).2[id]? = st[id]?) ∧
    (∀ id, (mutate f n st).1 = .ref id → n = .ref id) := by
  cases n with
  | obj r s fr =>
    refine ⟨rfl, fun _ _ => rfl, ?_⟩
    intro id h
    exact absurd h (isObj_not_ref (hf _ ⟨r, s, fr, rfl⟩) id)
  | ref id0 =>
    simp only [mutate]
    cases st[id0]? with
    | none => simp
    | some o =>
      refine ⟨by simp, ?_, by simp⟩
      intro id hne
      have : id0 ≠ id := fun h => hne (by rw [h])
      simp [List.getElem?_set_ne this]

theorem evalExpr_ref_head (p : Package) : ∀ (e : Expr) (st st' : Store) (id : Nat),
    evalExpr p e st = (.ok (.ref id), st') →
    exprIsAttr (exprBase e) = true ∧ ∃ c a m rest, sharedOccs e = (c, a, m) :: rest ∧ p.sharedId c a = some id := by
  refine (exprMutInd (PL := fun _ => True) ?_ ?_ ?_ trivial fun _ _ _ _ => trivial).1
  · intro c a st st' id h
    obtain ⟨id', hn, hid⟩ := evalAttr_ok h
    cases hn
    exact ⟨rfl, c, a, false, [], rfl, hid⟩
  · intro c a kw st st' id h
    obtain ⟨_, _, _, _, _, _, hn⟩ := evalCall_inv h
    cases hn
  · intro e' e cs has f hm ihe _ st st' id h
    rw [hm.eval] at h
    rcases hh : evalExpr p e st with ⟨r1, st1⟩
    rw [hh] at h
    cases r1 with
    | error x => cases h
    | ok n =>
      simp only [] at h
      split at h
      · rcases hl : evalList p cs st1 with ⟨rl, st2⟩
        rw [hl] at h
        cases rl with
        | error x => cases h
        | ok ns =>
          -- the mutator returns the receiver: an owned object stays one, a reference stays that reference
          obtain rfl := (mutate_frame (f ns) (fun _ => hm.isObj ns) n st2).2.2 id (Except.ok.inj (Prod.mk.inj h).1)
          obtain ⟨hb, c, a, m, rest, ho, hs⟩ := ihe st st1 id hh
          rw [hm.occs, hm.base, ho, hb]
          exact ⟨rfl, c, a, true, rest ++ sharedOccsList cs, rfl, hs⟩
      · cases h

theorem evalExpr_frame_both (p : Package) :
    (∀ (e : Expr) (st : Store) (r : Except Err Node) (st' : Store), evalExpr p e st = (r, st') →
      st'.length = st.length ∧ (∀ id, ¬ MutAt p (sharedOccs e) id → st'[id]? = st[id]?)) ∧
    (∀ (es : List Expr) (st : Store) (r : Except Err (List Node)) (st' : Store), evalList p es st = (r, st') →
      st'.length = st.length ∧ (∀ id, ¬ MutAt p (sharedOccsList es) id → st'[id]? = st[id]?)) := by
  refine exprMutInd ?_ ?_ ?_ ?_ ?_
  · intro c a st r st' h
    rw [evalExpr_attr] at h
    cases h
    exact ⟨rfl, fun _ _ => rfl⟩
  · intro c a kw st r st' h
    rw [evalExpr_call] at h
    cases h
    exact ⟨rfl, fun _ _ => rfl⟩
  · intro e' e cs has f hm ihe ihcs st r st' h
    rw [hm.eval] at h
    rcases hh : evalExpr p e st with ⟨r1, st1⟩
    rw [hh] at h
    obtain ⟨l1, f1⟩ := ihe st r1 st1 hh
    rw [hm.occs]
    have keep1 : ∀ id, ¬ MutAt p (markHead (sharedOccs e) (exprIsAttr (exprBase e)) ++ sharedOccsList cs) id →
        st1[id]? = st[id]? := fun id hno => f1 id fun hm' => hno hm'.markHead.left
    cases r1 with
    | error x =>
      obtain ⟨-, rfl⟩ := Prod.mk.inj h
      exact ⟨l1, keep1⟩
    | ok n =>
      simp only [] at h
      split at h
      · rcases hl : evalList p cs st1 with ⟨rl, st2⟩
        rw [hl] at h
        obtain ⟨l2, f2⟩ := ihcs st1 rl st2 hl
        have keep2 : ∀ id, ¬ MutAt p (markHead (sharedOccs e) (exprIsAttr (exprBase e)) ++ sharedOccsList cs) id →
            st2[id]? = st[id]? := fun id hno => (f2 id fun hm' => hno hm'.right).trans (keep1 id hno)
        cases rl with
        | error x =>
          obtain ⟨-, rfl⟩ := Prod.mk.inj h
          exact ⟨l2.trans l1, keep2⟩
        | ok ns =>
          obtain ⟨-, rfl⟩ := Prod.mk.inj h
          obtain ⟨m1, m2, -⟩ := mutate_frame (f ns) (fun _ => hm.isObj ns) n st2
          refine ⟨(m1.trans l2).trans l1, fun id hno => (m2 id ?_).trans (keep2 id hno)⟩
          -- the receiver is this object only if the expression starts from it; then its occurrence is marked
          rintro rfl
          obtain ⟨hb, c, a, m, rest, ho, hs⟩ := evalExpr_ref_head p e st st1 id hh
          exact hno ⟨c, a, by simp [ho, hb, markHead], hs⟩
      · obtain ⟨-, rfl⟩ := Prod.mk.inj h
        exact ⟨l1, keep1⟩
  · intro st r st' h
    obtain ⟨-, rfl⟩ := Prod.mk.inj h
    exact ⟨rfl, fun _ _ => rfl⟩
  · intro e es ihe ihes st r st' h
    simp only [evalList] at h
    rcases hh : evalExpr p e st with ⟨r1, st1⟩
    rw [hh] at h
    obtain ⟨l1, f1⟩ := ihe st r1 st1 hh
    simp only [sharedOccsList]
    cases r1 with
    | error x =>
      obtain ⟨-, rfl⟩ := Prod.mk.inj h
      exact ⟨l1, fun id hno => f1 id (fun hm => hno hm.left)⟩
    | ok n =>
      simp only [] at h
      rcases hl : evalList p es st1 with ⟨rl, st2⟩
      rw [hl] at h
      obtain ⟨l2, f2⟩ := ihes st1 rl st2 hl
      have hst : st' = st2 := by cases rl <;> simp at h <;> exact h.2.symm
      subst hst
      exact ⟨l2.trans l1, fun id hno => (f2 id fun hm => hno hm.right).trans (f1 id fun hm => hno hm.left)⟩

theorem evalExpr_frame (p : Package) (e : Expr) (st : Store) (r : Except Err Node) (st' : Store)
    (h : evalExpr p e st = (r, st')) :
    st'.length = st.length ∧ (∀ id, ¬ MutAt p (sharedOccs e) id → st'[id]? = st[id]?) :=
  (evalExpr_frame_both p).1 e st r st' h

theorem evalList_frame (p : Package) (es : List Expr) (st : Store) (r : Except Err (List Node)) (st' : Store)
    (h : evalList p es st = (r, st')) :
    st'.length = st.length ∧ (∀ id, ¬ MutAt p (sharedOccsList es) id → st'[id]? = st[id]?) :=
  (evalExpr_frame_both p).2 es st r st' h

theorem sharedOccs_noMut_both :
    (∀ (e : Expr), mutatesShared e = false → ∀ o ∈ sharedOccs e, o.2.2 = false) ∧
    (∀ (es : List Expr), mutatesSharedList es = false → ∀ o ∈ sharedOccsList es, o.2.2 = false) := by
  refine exprMutInd ?_ ?_ ?_ ?_ ?_
  · intro c a _; simp [sharedOccs]
  · intro c a kw _; simp [sharedOccs]
  · intro e' e cs has f hm ihe ihcs h
    rw [hm.mutates] at h
    simp only [Bool.or_eq_false_iff] at h
    rw [hm.occs, h.1.1, markHead_false]
    intro o ho
    rcases List.mem_append.mp ho with h1 | h1
    · exact ihe h.1.2 o h1
    · exact ihcs h.2 o h1
  · intro _; simp [sharedOccsList]
  · intro e es ihe ihes h
    simp only [mutatesSharedList, Bool.or_eq_false_iff] at h
    simp only [sharedOccsList]
    intro o ho
    rcases List.mem_append.mp ho with h1 | h1
    · exact ihe h.1 o h1
    · exact ihes h.2 o h1

theorem sharedOccs_noMut (e : Expr) (h : mutatesShared e = false) : ∀ o ∈ sharedOccs e, o.2.2 = false :=
  sharedOccs_noMut_both.1 e h

theorem sharedOccsList_noMut (es : List Expr) (h : mutatesSharedList es = false) : ∀ o ∈ sharedOccsList es, o.2.2 = false :=
  sharedOccs_noMut_both.2 es h

theorem evalExpr_noMut (p : Package) (e : Expr) (st : Store) (h : mutatesShared e = false) :
    (evalExpr p e st).2 = st ∧
    (exprIsAttr (exprBase e) = false → ∀ n, (evalExpr p e st).1 = .ok n → IsObj n) := by
  obtain ⟨l, f⟩ := evalExpr_frame p e st _ _ rfl
  refine ⟨List.ext_getElem? fun id => f id ?_, fun hb n hn => ?_⟩
  · rintro ⟨c, a, hm, -⟩
    exact absurd (sharedOccs_noMut e h _ hm) (by simp)
  · cases n with
    | obj r s fr => exact ⟨r, s, fr, rfl⟩
    | ref id => rw [(evalExpr_ref_head p e st _ id (Prod.ext hn rfl)).1] at hb; cases hb

theorem evalList_noMut (p : Package) (es : List Expr) (st : Store) (h : mutatesSharedList es = false) :
    (evalList p es st).2 = st := by
  obtain ⟨l, f⟩ := evalList_frame p es st _ _ rfl
  refine List.ext_getElem? fun id => f id ?_
  rintro ⟨c, a, hm, -⟩
  exact absurd (sharedOccsList_noMut es h _ hm) (by simp)

theorem trigSharedMut_of_noMut (H : List Op) (E : Op)
    (hH : ∀ op ∈ H, opMutatesShared op = false) (hE : opMutatesShared E = false) : trigSharedMut H E = false := by
  unfold trigSharedMut
  simp only []
  rw [List.any_eq_false]
  rintro ⟨⟨c, a, m⟩, i⟩ _
  simp only [Bool.or_eq_true, not_or, Bool.not_eq_true]
  constructor
  · rw [List.any_eq_false]
    rintro ⟨c', a', m'⟩ hm
    obtain ⟨o, ho, hmem⟩ := List.mem_flatMap.mp hm
    have := sharedOccsList_noMut o.fields (hH o ho) _ hmem
    simp at this
    simp [this]
  · rw [List.any_eq_false]
    rintro ⟨⟨c', a', m'⟩, j⟩ hm
    have hmem : (c', a', m') ∈ sharedOccsList E.fields := List.fst_mem_of_mem_zipIdx hm
    have := sharedOccsList_noMut E.fields hE _ hmem
    simp at this
    simp [this]

end Ariadne.C14
