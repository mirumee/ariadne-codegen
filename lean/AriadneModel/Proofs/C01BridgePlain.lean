/-
  Property C01: the plain-selection tier (Proofs/C01Plain.lean) carried to the pipeline
  statement `claimB`:   ValidInput inp → PlainInput inp → nodupKeys j → claimB inp k j = true.

  `PlainInput` (decidable, Proofs/C01Regions.lean): no fragment definitions, `schemaOK`, and `plainOpOK` of every operation.
  Under it no operation inserts an automatic `__typename` (the marks stay empty), so the document is sent as written.
-/
import AriadneModel.Proofs.C01Bridge


namespace Ariadne.C01
open Ariadne Ariadne.Gql Ariadne.ResultTypes Ariadne.Util Ariadne.Triggers01 Ariadne.C01Plain

theorem generate_plain (env : ResultTypes.Env) (o : Operation) (n tn : String)
    (hn : o.name = some n) (hroot : Validate.rootOf env.schema o = some tn)
    (hmix : (o.dirs.any (·.name == Tables.mixinName)) = false)
    (hok : PlainOK env (pascal n) tn o.sid o.sel {} = true) (fuel : Nat) (hf : gfuel o.sel ≤ fuel) :
    ∃ out, generate env fuel (.op o) [] = .ok out ∧ out.st.marks = [] ∧
      out.classes = plainClasses env (pascal n) tn o.sel := by
  obtain ⟨st', hgen, _, hmk⟩ := plain_generation env (pascal n) tn o.sid o.sel {} hok [] fuel hf
  exact ⟨_, generate_of_parse env fuel o n tn [] hn hroot hmix hgen, hmk, rfl⟩

theorem plainOpOK_spec {env : ResultTypes.Env} {o : Operation} (h : plainOpOK env o = true) :
    ∃ n tn, o.name = some n ∧ Validate.rootOf env.schema o = some tn ∧
      (o.dirs.any (·.name == Tables.mixinName)) = false ∧
      PlainOK env (pascal n) tn o.sid o.sel {} = true ∧
      "BaseModel" ∉ (plainClasses env (pascal n) tn o.sel).map (·.name) ∧
      gfuel o.sel ≤ Triggers01.fuel ∧ vneed env tn o.sel + 1 ≤ execFuel := by
  unfold plainOpOK at h
  cases hn : o.name with
  | none => simp [hn] at h
  | some n =>
    cases hr : Validate.rootOf env.schema o with
    | none => simp [hn, hr] at h
    | some tn =>
      simp only [hn, hr, Bool.and_eq_true, Bool.not_eq_true', decide_eq_true_eq] at h
      obtain ⟨⟨⟨⟨h1, h2⟩, h3⟩, h4⟩, h5⟩ := h
      exact ⟨n, tn, rfl, rfl, h1, h2, NoShadowedImport_baseModel h3, h4, h5⟩

theorem claimB_plain (inp : Input) (k : Nat) (j : J) (hp : PlainInput inp) (hj : nodupKeys j = true) :
    claimB inp k j = true := by
  simp only [PlainInput, Bool.and_eq_true, List.isEmpty_iff, List.all_eq_true] at hp
  obtain ⟨⟨hfr, hschema⟩, hops⟩ := hp
  refine claimB_marksFree inp k j hj (plainOpOK inp.env · = true)
    (fun o out => ∀ n tn, o.name = some n → Validate.rootOf inp.env.schema o = some tn →
      out.classes = plainClasses inp.env (pascal n) tn o.sel) (fun o ho => ?gen) hops (fun _ _ o out hk hcls => ?acc)
  case gen =>
    obtain ⟨n, tn, hn, hr, hmix, hok, _, hgf, _⟩ := plainOpOK_spec ho
    obtain ⟨out, h1, h2, h3⟩ := generate_plain inp.env o n tn hn hr hmix hok _ hgf
    exact ⟨out, h1, h2, fun n' tn' hn' hr' => by cases hn.symm.trans hn'; cases hr.symm.trans hr'; exact h3⟩
  case acc =>
    obtain ⟨n, tn, hn, hr, _, hok, hbm, _, hvf⟩ := plainOpOK_spec (hops o (List.mem_of_getElem? hk))
    have hcls := hcls n tn hn hr
    refine ⟨_, tn, by rw [hcls]; rfl, hr, fun j hresp hj m hm => ?_⟩
    have hpenvcls : (pydEnvOf inp (run inp) out).classes = plainClasses inp.env (pascal n) tn o.sel := by
      have hrunfrags : (run inp).frags = [] := by
        show (sortStr (inp.env.frags.map (·.name))).filterMap _ = []
        rw [hfr]; rfl
      simp only [pydEnvOf, hrunfrags, List.foldl_nil, List.append_nil, hcls]
    have hpenv : PenvOK inp.env (pydEnvOf inp (run inp) out) (plainClasses inp.env (pascal n) tn o.sel) :=
      PenvOK.of_nodup _ _ _ (envAgrees_of_schemaOK inp.env _ hschema rfl)
        (class?_none_of_not_mem _ _ (by rw [hpenvcls]; exact hbm)) (fun c hc => by rw [hpenvcls]; exact hc)
        (by rw [hpenvcls]; exact (PlainOK_spec hok).2.2.2.1)
    exact plain_roundtrip inp.env (pascal n) tn o.sid o.sel {} hok _ hpenv _ execFuel j hresp hj m (Nat.le_trans hvf hm)

/-- non-vacuity: two operations over the schema of Proofs/C01Plain.lean; the answer of the first has a nested list with a
    `null` element, aliases, an enum leaf and an absent conditional field; it is conformant for the sent document -/
def plInp : Input :=
  { env := C01Plain.exEnv,
    ops := [{ kind := .query, name := some "Q", sid := 1, sel := C01Plain.exSel },
            { kind := .query, name := some "Other", sid := 10,
              sel := [.field none "users" [] 11 [.field none "friends" [] 12 [.field none "id" [] 0 []]]] }] }
theorem plInp_nonvacuous : ValidInput plInp ∧ PlainInput plInp ∧ nodupKeys C01Plain.exResp = true
    ∧ Exec.respOK plInp.env.schema [] execFuel "Query" C01Plain.exSel C01Plain.exResp = true
    ∧ claimB plInp 0 C01Plain.exResp = true := by decide +kernel

end Ariadne.C01
