/-
  Property C01, "abstract positions" tier (inline fragments on abstract types, and spreads of mixin
  fragments), part (1): on input satisfying
  `aSels` the generator succeeds and returns exactly `aClass` (base classes = the mixin fragments spread in the class, `aBases`);
  the marks it adds are exactly `needSids`; nothing is unpacked.
-/
import AriadneModel.Proofs.C01AbsDefs
import AriadneModel.Proofs.C01PlainGen
import AriadneModel.Proofs.C01MixGen


namespace Ariadne.C01Abs
open Ariadne Ariadne.Gql Ariadne.ResultTypes Ariadne.Util Ariadne.C01Plain Ariadne.C01Ann Ariadne.C01GenRules

def shapeOK : Selection → Bool
  | .field .. => true
  | .inline (some _) _ _ _ => true
  | _ => false

theorem aSels_iff (env : Env) (mk : Nat → Bool) (cn tn : String) (rts : List String) (sel : List Selection) :
    aSels env mk cn tn rts sel = true ↔ ∀ s ∈ sel, aSel1 env mk cn tn rts s = true := by
  induction sel with
  | nil => simp [aSels]
  | cons s rest ih => simp [aSels, ih]

theorem aSel1_spread {env : Env} {mk : Nat → Bool} {cn tn : String} {rts : List String} {n : String} {d : List Directive}
    (h : aSel1 env mk cn tn rts (.spread n d) = true) :
    hasConditionalDirective d = false ∧ env.schema.kindOf? tn = some .object ∧ (∀ rt ∈ rts, rt = tn) ∧
    ∃ f, findFragment? env.frags n = some f ∧ f.on = tn := by
  simp only [aSel1, Bool.and_eq_true, Bool.not_eq_true', beq_iff_eq, List.all_eq_true] at h
  obtain ⟨⟨⟨h1, h2⟩, h3⟩, h4⟩ := h
  refine ⟨h1, h2, h3, ?_⟩
  cases hf : findFragment? env.frags n with
  | none => simp [hf] at h4
  | some f => exact ⟨f, rfl, by simpa [hf] using h4⟩

theorem aSel1_shape {env : Env} {mk : Nat → Bool} {cn tn : String} {rts : List String} {s : Selection}
    (hk : env.schema.kindOf? tn ≠ some .object) (h : aSel1 env mk cn tn rts s = true) : shapeOK s = true := by
  cases s with
  | field a n d sid sub => rfl
  | spread n d => exact absurd (aSel1_spread h).2.1 hk
  | inline on d sid ss =>
    cases on with
    | none => simp [aSel1] at h
    | some c => rfl

theorem aSel1_inline {env : Env} {mk : Nat → Bool} {cn tn : String} {rts : List String} {c : String} {d : List Directive}
    {sid : Nat} {ss : List Selection} (h : aSel1 env mk cn tn rts (.inline (some c) d sid ss) = true)
    (hi : incl env c tn = true) :
    hasConditionalDirective d = false ∧
    (∀ y ∈ ss, notTnField y = true ∨ (isSpreadSel y = true ∧ c = tn)) ∧ aSels env mk cn tn rts ss = true := by
  simp only [aSel1, hi, Bool.not_true, Bool.false_or, Bool.and_eq_true, List.all_eq_true, Bool.not_eq_true',
    Bool.or_eq_true, beq_iff_eq] at h
  exact ⟨h.1.1, h.2.1, h.2.2⟩

/-- what the tier demands at a composite position whose classes are prefixed `C`, of named type `n`, selection set `sid` = `sub`:
    the automatic `__typename` is in the sent document exactly where the generator adds the field; every runtime type is in the
    literal of some variant; every variant has a non-empty literal and is a class of the tier for the runtime types in it -/
structure CompositeOK (env : Env) (mk : Nat → Bool) (C n : String) (sid : Nat) (sub : List Selection) : Prop where
  kind : isCompositeKind env n = true
  mark : mk sid = autoTn (env.schema.isAbstract n) sub
  ne : (relatedOf env C n sub).isEmpty = false
  cover : ∀ rt' ∈ Exec.runtimeTypes env.schema n, ∃ p ∈ relatedOf env C n sub, rt' ∈ tvOf env (relatedOf env C n sub) p.2
  variant : ∀ p ∈ relatedOf env C n sub, (tvOf env (relatedOf env C n sub) p.2).isEmpty = false ∧
    classHead env p.2 ((Exec.runtimeTypes env.schema n).filter (tvOf env (relatedOf env C n sub) p.2).contains)
      (tvOf env (relatedOf env C n sub) p.2) (env.schema.isAbstract n) sub = true ∧
    aSels env mk p.1 p.2 ((Exec.runtimeTypes env.schema n).filter (tvOf env (relatedOf env C n sub) p.2).contains) sub = true

theorem aSel1_field {env : Env} {mk : Nat → Bool} {cn tn : String} {rts : List String} {alias : Option String} {name : String}
    {dirs : List Directive} {sid : Nat} {sub : List Selection}
    (h : aSel1 env mk cn tn rts (.field alias name dirs sid sub) = true) (hn : (name == typenameField) = false) :
    (dirs.any (·.name == Tables.mixinName)) = false ∧ (env.schema.fieldOf? tn name).isSome = true ∧
    (∀ rt ∈ rts, (env.schema.fieldOf? rt name).map (·.type) = (env.schema.fieldOf? tn name).map (·.type)) ∧
    (sub.isEmpty = true → isLeafName env (subType env tn name) = true) ∧
    (sub.isEmpty = false → CompositeOK env mk (subClass env cn alias name) (subType env tn name) sid sub) := by
  simp only [aSel1, hn, Bool.false_eq_true, if_false, Bool.and_eq_true, List.all_eq_true, beq_iff_eq] at h
  obtain ⟨hmix, ⟨hfd, htypes⟩, hcase⟩ := h
  refine ⟨by simpa using hmix, hfd, htypes, fun hs => by rw [if_pos hs] at hcase; exact hcase, fun hs => ?_⟩
  rw [if_neg (by simp [hs])] at hcase
  simp only [Bool.and_eq_true, List.all_eq_true, beq_iff_eq, Bool.not_eq_true', List.any_eq_true] at hcase
  obtain ⟨⟨⟨⟨hkind, hmk⟩, hne⟩, hcov⟩, hvars⟩ := hcase
  exact ⟨hkind, hmk, hne, fun rt' h => let ⟨p, hp, hpc⟩ := hcov rt' h; ⟨p, hp, by simpa using hpc⟩,
    fun p hp => ⟨(hvars p hp).1.1, (hvars p hp).1.2, (hvars p hp).2⟩⟩

theorem notTnField_isField {s : Selection} (h : notTnField s = true) : isField s = true := by
  cases s <;> simp [notTnField, isField] at h ⊢

theorem isTnSel_of_notTnField {s : Selection} (h : notTnField s = true) : isTnSel s = false := by
  cases s <;> simp [notTnField, isTnSel] at h ⊢
  exact h

def item1 (env : Env) (tn : String) : Selection → List Selection
  | .inline (some c) _ _ ss => if incl env c tn then ss else []
  | .inline none _ _ _ => []
  | s => [s]

/-- the content of the class on `tn`: what is written directly in the selection set and the content of the inline fragments
    the generator merges into the class, in document order -/
def items (env : Env) (tn : String) (sel : List Selection) : List Selection := sel.flatMap (item1 env tn)

/-- a view of the class defined selection by selection (`φ1`), which looks into the merged inline fragments with `φ0`, is `φ0`
    over the content -/
theorem flatMap_items {β : Type} (env : Env) (tn : String) (φ0 φ1 : Selection → List β)
    (hin : ∀ c d sid ss, φ1 (.inline (some c) d sid ss) = if incl env c tn then ss.flatMap φ0 else [])
    (hnone : ∀ d sid ss, φ1 (.inline none d sid ss) = [])
    (hf : ∀ a n d sid sub, φ1 (.field a n d sid sub) = φ0 (.field a n d sid sub))
    (hs : ∀ n d, φ1 (.spread n d) = φ0 (.spread n d)) (sel : List Selection) :
    sel.flatMap φ1 = (items env tn sel).flatMap φ0 := by
  rw [items, List.flatMap_assoc]
  apply Lists.flatMap_congr
  intro s _
  cases s with
  | field a n d sid sub => simp [item1, hf]
  | spread n d => simp [item1, hs]
  | inline on d sid ss =>
    cases on with
    | none => simp [item1, hnone]
    | some c =>
      rw [hin]
      simp only [item1]
      split <;> simp

theorem flatG_items (env : Env) (tn : String) (sel : List Selection) :
    flatG env tn sel = (items env tn sel).filter isField := by
  rw [flatG, items, List.filter_flatMap]
  apply Lists.flatMap_congr
  intro s _
  cases s with
  | field a n d sid sub => simp [flat1, item1, List.filter_cons, isField]
  | spread n d => simp [flat1, item1, isField]
  | inline on d sid ss =>
    cases on with
    | none => simp [flat1, item1]
    | some c =>
      simp only [flat1, item1]
      split <;> simp

theorem items_spec {env : Env} {mk : Nat → Bool} {cn tn : String} {rts : List String} {sel : List Selection}
    (h : aSels env mk cn tn rts sel = true) :
    ∀ y ∈ items env tn sel, aSel1 env mk cn tn rts y = true ∧ (isField y = true ∨ isSpreadSel y = true) ∧
      (isTnSel y = true → y ∈ sel) := by
  intro y hy
  obtain ⟨s, hs, hys⟩ := List.mem_flatMap.mp hy
  have h1 := (aSels_iff env mk cn tn rts sel).mp h s hs
  cases s with
  | field a n d sid sub =>
    simp only [item1, List.mem_singleton] at hys
    subst hys
    exact ⟨h1, Or.inl rfl, fun _ => hs⟩
  | spread n d =>
    simp only [item1, List.mem_singleton] at hys
    subst hys
    exact ⟨h1, Or.inr rfl, fun _ => hs⟩
  | inline on d sid ss =>
    cases on with
    | none => simp [item1] at hys
    | some c =>
      simp only [item1] at hys
      by_cases hi : incl env c tn = true
      · simp only [hi, if_true] at hys
        obtain ⟨_, hnt, hss⟩ := aSel1_inline h1 hi
        refine ⟨(aSels_iff env mk cn tn rts ss).mp hss y hys, ?_, fun ht => ?_⟩
        · rcases hnt y hys with h2 | h2
          · exact Or.inl (notTnField_isField h2)
          · exact Or.inr h2.1
        · rcases hnt y hys with h2 | h2
          · rw [isTnSel_of_notTnField h2] at ht; cases ht
          · cases y <;> simp [isSpreadSel, isTnSel] at h2 ht
      · simp [hi] at hys

theorem aSels_contentOK {env : Env} {mk : Nat → Bool} {cn tn : String} {rts : List String} {sel : List Selection}
    (h : aSels env mk cn tn rts sel = true) : ∀ y ∈ items env tn sel, isField y = true ∨ isSpreadSel y = true :=
  fun y hy => (items_spec h y hy).2.1

theorem aSels_flat {env : Env} {mk : Nat → Bool} {cn tn : String} {rts : List String} {sel : List Selection}
    (h : aSels env mk cn tn rts sel = true) :
    ∀ x ∈ flatG env tn sel, isField x = true ∧ aSel1 env mk cn tn rts x = true := by
  intro x hx
  rw [flatG_items] at hx
  obtain ⟨hm, hf⟩ := List.mem_filter.mp hx
  exact ⟨hf, (items_spec h x hm).1⟩

theorem flatG_explicit {env : Env} {mk : Nat → Bool} {cn tn : String} {rts : List String} {sel : List Selection}
    (h : aSels env mk cn tn rts sel = true) : (flatG env tn sel).any isTnSel = explicitTn sel := by
  rw [Bool.eq_iff_iff, explicitTn, List.any_eq_true, List.any_eq_true, flatG_items]
  constructor
  · rintro ⟨x, hx, ht⟩
    exact ⟨x, (items_spec h x (List.mem_filter.mp hx).1).2.2 ht, ht⟩
  · rintro ⟨x, hx, ht⟩
    cases x with
    | field a n d sid sub =>
      exact ⟨_, List.mem_filter.mpr ⟨List.mem_flatMap.mpr ⟨_, hx, by simp [item1]⟩, rfl⟩, ht⟩
    | spread n d => simp [isTnSel] at ht
    | inline on d sid ss => simp [isTnSel] at ht

theorem agfuel_ge (sel : List Selection) : 2 ≤ agfuel sel := by
  induction sel with
  | nil => simp [agfuel]
  | cons s rest ih => simp only [agfuel]; omega

theorem agfuel_mem (sel : List Selection) (s : Selection) (h : s ∈ sel) : agfuel1 s ≤ agfuel sel := by
  induction sel with
  | nil => cases h
  | cons x rest ih =>
    simp only [agfuel]
    rcases List.mem_cons.mp h with rfl | h
    · omega
    · have := ih h; omega

theorem agfuel_flat (env : Env) (tn : String) (sel : List Selection) (x : Selection) (h : x ∈ flatG env tn sel) :
    agfuel1 x ≤ agfuel sel := by
  obtain ⟨s, hs, hxs⟩ := List.mem_flatMap.mp h
  have h1 := agfuel_mem sel s hs
  cases s with
  | field a n d sid sub =>
    simp only [flat1, List.mem_singleton] at hxs
    subst hxs; exact h1
  | spread n d => simp [flat1] at hxs
  | inline on d sid ss =>
    cases on with
    | none => simp [flat1] at hxs
    | some c =>
      simp only [flat1] at hxs
      split at hxs
      · have := agfuel_mem ss x (List.mem_filter.mp hxs).1
        simp only [agfuel1] at h1
        omega
      · cases hxs

theorem inlineCondsLoop (frags : List Fragment) (fuel : Nat) : ∀ (sels : List Selection) (acc : List (Option String)),
    (∀ s ∈ sels, shapeOK s = true) →
    sels.foldlM (condStep frags fuel) acc = .ok (acc ++ (inlConds sels).map some) := by
  intro sels
  induction sels with
  | nil => intro acc _; simp [inlConds, pure, Except.pure]
  | cons s rest ih =>
    intro acc h
    have hs := h s List.mem_cons_self
    have hr := fun y hy => h y (List.mem_cons_of_mem _ hy)
    rw [List.foldlM_cons]
    cases s with
    | field a n d sid sub =>
      have e : condStep frags fuel acc (.field a n d sid sub) = .ok acc := rfl
      simp only [e, bind, Except.bind]
      rw [ih acc hr]
      simp [inlConds, List.filterMap_cons, inlCond?]
    | spread n d => simp [shapeOK] at hs
    | inline on d sid ss =>
      cases on with
      | none => simp [shapeOK] at hs
      | some c =>
        have e : condStep frags fuel acc (.inline (some c) d sid ss) = .ok (acc ++ [some c]) := rfl
        simp only [e, bind, Except.bind]
        rw [ih (acc ++ [some c]) hr]
        simp [inlConds, inlCond?, List.append_assoc]

theorem inlineFragmentConds_ok (frags : List Fragment) (fuel : Nat) (sels : List Selection)
    (h : ∀ s ∈ sels, shapeOK s = true) :
    inlineFragmentConds frags (fuel + 1) sels = .ok ((inlConds sels).map some) := by
  rw [inlineFragmentConds_succ, inlineCondsLoop frags fuel sels [] h]
  simp

def subStep (env : Env) (root : String) (acc : List String) (s : Selection) : Except GenErr (List String) :=
  match s with
  | .spread n _ =>
    match findFragment? env.frags n with
    | none => .error (.internal "KeyError")
    | some f =>
      if (env.schema.get? f.on).isSome && env.schema.isSubType root f.on then pure (acc ++ [f.on]) else pure acc
  | _ => pure acc

theorem fragmentsOnSubtype_eq (env : Env) (sels : List Selection) (root : String) :
    fragmentsOnSubtype env sels root =
      if sels.isEmpty || !env.schema.isAbstract root then pure [] else sels.foldlM (subStep env root) [] := rfl

theorem subLoop (env : Env) (root : String) : ∀ (sels : List Selection) (acc : List String),
    (∀ s ∈ sels, shapeOK s = true) → sels.foldlM (subStep env root) acc = .ok acc := by
  intro sels
  induction sels with
  | nil => intro acc _; rfl
  | cons s rest ih =>
    intro acc h
    have hs := h s List.mem_cons_self
    have hr := fun y hy => h y (List.mem_cons_of_mem _ hy)
    rw [List.foldlM_cons]
    cases s with
    | field a n d sid sub =>
      have e : subStep env root acc (.field a n d sid sub) = .ok acc := rfl
      simp only [e, bind, Except.bind]
      exact ih acc hr
    | spread n d => simp [shapeOK] at hs
    | inline on d sid ss =>
      have e : subStep env root acc (.inline on d sid ss) = .ok acc := rfl
      simp only [e, bind, Except.bind]
      exact ih acc hr

theorem fragmentsOnSubtype_nil (env : Env) (sels : List Selection) (root : String)
    (h : ∀ s ∈ sels, shapeOK s = true) : fragmentsOnSubtype env sels root = .ok [] := by
  rw [fragmentsOnSubtype_eq]
  split
  · rfl
  · exact subLoop env root sels [] h

def ctxAfter (env : Env) (ctx : Ctx) (cn n : String) (sub : List Selection) : Ctx :=
  { ctx with related := ctx.related ++ relatedOf env cn n sub,
             abstract := if env.schema.isAbstract n then true else ctx.abstract }

theorem filterMap_id_map_some (l : List String) : (l.map some).filterMap id = l := by
  simp [List.filterMap_map]

theorem parseType_comp (env : Env) (fuel : Nat) (sub : List Selection)
    (T : TypeRef) (hk : isCompositeKind env T.base = true)
    (hshape : env.schema.kindOf? T.base = some .interface → ∀ s ∈ sub, shapeOK s = true)
    (nullable : Bool) (cn : String) (ctx : Ctx) :
    parseType env (fuel + 1) sub T nullable cn false ctx =
      .ok (wrapAnn (baseAnnOf env cn T.base sub) nullable T, ctxAfter env ctx cn T.base sub) := by
  -- the wrappers are `parseType_eq`'s; what is left is the named type, at a non-null position
  have hnamed : namedT env (fuel + 1) sub T.base cn false ctx = .ok (baseAnnOf env cn T.base sub, ctxAfter env ctx cn T.base sub) := by
    generalize T.base = n at hk hshape
    unfold namedT parseType
    unfold isCompositeKind at hk
    cases hkind : env.schema.kindOf? n with
    | none => simp [hkind] at hk
    | some k =>
      cases k with
      | scalar => simp [hkind] at hk
      | enum => simp [hkind] at hk
      | input => simp [hkind] at hk
      | object =>
        simp only [baseAnnOf, isMulti, hkind, ctxAfter, relatedOf, Schema.isAbstract, pure, Except.pure]
        simp [optionalIf]
      | union =>
        simp only [baseAnnOf, isMulti, hkind, ctxAfter, relatedOf, Schema.isAbstract, pure, Except.pure]
        simp [optionalIf, List.map_map, Function.comp_def]
      | interface =>
        have hshape := hshape hkind
        simp only [hkind, inlineFragmentConds_ok env.frags fuel sub hshape, fragmentsOnSubtype_nil env sub n hshape,
          bind, Except.bind, baseAnnOf, isMulti, ctxAfter, relatedOf, Schema.isAbstract, pure, Except.pure]
        by_cases he : (inlConds sub).isEmpty = true
        · simp [he, optionalIf]
        · have he' : (inlConds sub).isEmpty = false := by simpa using he
          have hany : ((inlConds sub).map some).any (·.isNone) = false := by
            rw [List.any_eq_false]; intro x hx; obtain ⟨y, _, rfl⟩ := List.mem_map.mp hx; simp
          simp [he', hany, optionalIf, List.map_map, Function.comp_def]
  rw [parseType_eq, Bool.false_and, hnamed, ← ResultLeaf.wrapT_eq_wrapAnn]
  rfl

theorem parseOperationField_comp (env : Env) (fuel : Nat) (name : String) (dirs : List Directive) (sub : List Selection)
    (T : TypeRef) (hshape : env.schema.kindOf? T.base = some .interface → ∀ s ∈ sub, shapeOK s = true)
    (cn : String) (tv : List String) (hn : (name == typenameField) = false)
    (hk : isCompositeKind env T.base = true) :
    parseOperationField env (fuel + 1) name dirs sub T cn tv =
      .ok (condAnn (annotateTop (wrapAnn (baseAnnOf env cn T.base sub) true T)) dirs, hasConditionalDirective dirs,
           { related := relatedOf env cn T.base sub, abstract := env.schema.isAbstract T.base }) := by
  unfold parseOperationField
  simp only [hn, Bool.false_and, Bool.false_eq_true, if_false, parseType_comp env fuel sub T hk hshape, bind, Except.bind,
    parseDirectives_eq, pure, Except.pure, ctxAfter]
  simp

theorem parseOperationField_tn (env : Env) (fuel : Nat) (name : String) (dirs : List Directive) (sub : List Selection)
    (T : TypeRef) (cn : String) (tv : List String) (hn : (name == typenameField) = true) (htv : tv.isEmpty = false) :
    ∃ ctx, parseOperationField env fuel name dirs sub T cn tv = .ok (.literal (sortStr tv), false, ctx) := by
  unfold parseOperationField
  exact ⟨{}, by simp [hn, htv, pure, Except.pure]⟩

theorem fieldTypeFromSchema_tn (env : Env) (tn name : String) (hn : (name == typenameField) = true) :
    ∃ t, fieldTypeFromSchema env tn name = .ok t := by
  unfold fieldTypeFromSchema
  cases env.schema.fieldOf? tn name with
  | some fd => exact ⟨_, rfl⟩
  | none => simp [hn, pure, Except.pure]

theorem rootTnOK_spec {env : Env} {tn : String} (h : rootTnOK env tn = true) :
    env.schema.fieldOf? tn typenameField = none ∧ isLeafName env "String" = true ∧
    (env.schema.kindOf? "String" = none ∨ env.schema.kindOf? "String" = some .scalar) := by
  simp only [rootTnOK, Bool.and_eq_true, Option.isNone_iff_eq_none] at h
  obtain ⟨⟨h1, h2⟩, h3⟩ := h
  refine ⟨h1, ?_, ?_⟩
  · unfold isLeafName
    cases hk : env.schema.kindOf? "String" with
    | none => simp [h3]
    | some k => cases k <;> simp_all
  · cases hk : env.schema.kindOf? "String" with
    | none => exact Or.inl rfl
    | some k => cases k <;> simp_all

theorem fieldTypeFromSchema_root (env : Env) (tn : String) (h : env.schema.fieldOf? tn typenameField = none) :
    fieldTypeFromSchema env tn typenameField = .ok tnT := by
  unfold fieldTypeFromSchema
  simp [h, pure, Except.pure, tnT]

theorem aExtra_eq (env : Env) (cn tn : String) : ∀ sel : List Selection,
    aExtra env cn tn sel = sel.flatMap (aExtra1 env cn tn)
  | [] => by simp [aExtra]
  | s :: rest => by simp [aExtra, aExtra_eq env cn tn rest]

theorem needSids_eq (env : Env) (cn tn : String) : ∀ sel : List Selection,
    needSids env cn tn sel = sel.flatMap (needSids1 env cn tn)
  | [] => by simp [needSids]
  | s :: rest => by simp [needSids, needSids_eq env cn tn rest]

theorem flatMap_filter_field {β : Type} (g : Selection → List β) (hg : ∀ n d, g (.spread n d) = []) :
    ∀ (ss : List Selection), (∀ y ∈ ss, isField y = true ∨ isSpreadSel y = true) →
      ss.flatMap g = (ss.filter isField).flatMap g
  | [], _ => rfl
  | y :: rest, h => by
    have ih := flatMap_filter_field g hg rest (fun z hz => h z (List.mem_cons_of_mem _ hz))
    have hy := h y List.mem_cons_self
    cases y with
    | field a n d sid sub => simp [List.filter_cons, isField, ih]
    | spread n d => simp [isField, hg, ih]
    | inline on d sid ss' => simp [isField, isSpreadSel] at hy

theorem aExtra_items (env : Env) (cn tn : String) (sel : List Selection) :
    aExtra env cn tn sel = (items env tn sel).flatMap (aExtra1 env cn tn) := by
  rw [aExtra_eq]
  exact flatMap_items env tn _ _ (fun c d sid ss => by simp only [aExtra1, aExtra_eq]) (fun d sid ss => by simp [aExtra1])
    (fun _ _ _ _ _ => rfl) (fun _ _ => rfl) sel

theorem needSids_items (env : Env) (cn tn : String) (sel : List Selection) :
    needSids env cn tn sel = (items env tn sel).flatMap (needSids1 env cn tn) := by
  rw [needSids_eq]
  exact flatMap_items env tn _ _ (fun c d sid ss => by simp only [needSids1, needSids_eq]) (fun d sid ss => by simp [needSids1])
    (fun _ _ _ _ _ => rfl) (fun _ _ => rfl) sel

theorem aExtra1_tn (env : Env) (cn tn : String) : aExtra1 env cn tn Marks.typenameSel = [] := by
  simp [Marks.typenameSel, aExtra1]

theorem needSids1_tn (env : Env) (cn tn : String) : needSids1 env cn tn Marks.typenameSel = [] := by
  simp [Marks.typenameSel, needSids1]

theorem rflat_extra (env : Env) (cn tn : String) (a : Bool) (sel : List Selection)
    (hc : ∀ y ∈ items env tn sel, isField y = true ∨ isSpreadSel y = true) :
    (rflat a env tn sel).flatMap (aExtra1 env cn tn) = aExtra env cn tn sel := by
  rw [aExtra_items, flatMap_filter_field _ (fun n d => by simp [aExtra1]) _ hc, ← flatG_items]
  unfold rflat
  split <;> simp [aExtra1_tn]

theorem rflat_need (env : Env) (cn tn : String) (a : Bool) (sel : List Selection)
    (hc : ∀ y ∈ items env tn sel, isField y = true ∨ isSpreadSel y = true) :
    (rflat a env tn sel).flatMap (needSids1 env cn tn) = needSids env cn tn sel := by
  rw [needSids_items, flatMap_filter_field _ (fun n d => by simp [needSids1]) _ hc, ← flatG_items]
  unfold rflat
  split <;> simp [needSids1_tn]

theorem setUnion_nil (s : List String) : setUnion s [] = s := rfl

theorem rootType_self {env : Env} {c rt : String} (h : inlineFragmentRootType env c c = some rt) : rt = c := by
  unfold inlineFragmentRootType at h
  cases hg : env.schema.get? c with
  | none => simp [hg] at h
  | some t =>
    simp only [hg] at h
    split at h
    · exact (Option.some.inj h).symm
    · simp at h; exact h.symm

theorem resolveLoop_abs (env : Env) (K : Nat) (hfr : C01Mix.FragsOK env K) (k : Nat) (root : String) {mk : Nat → Bool} {cn : String}
    {rts : List String} :
    ∀ (sels : List Selection) (acc : Acc) (s : St), (∀ x ∈ sels, aSel1 env mk cn root rts x = true) →
      ∃ s', forIn sels acc (resolveBody env (k + 1) root) s =
          .ok ((acc.1 ++ (flatG env root sels).map toR, sels.foldl (gSpreadStep env root) acc.2), s') ∧
        s'.publicNames = s.publicNames ∧ s'.marks = s.marks ∧ s'.unpacked = s.unpacked := by
  intro sels
  induction sels with
  | nil => intro acc s _; exact ⟨s, by simp [List.forIn_nil, flatG]; rfl, rfl, rfl, rfl⟩
  | cons x rest ih =>
    intro acc s h
    have hx := h x List.mem_cons_self
    have hr := fun y hy => h y (List.mem_cons_of_mem _ hy)
    rw [List.forIn_cons]
    cases x with
    | field alias name dirs sid sub =>
      obtain ⟨s', hrest, h1, h2, h3⟩ := ih (acc.1 ++ [⟨alias, name, dirs, sid, sub⟩], acc.2) s hr
      refine ⟨s', ?_, h1, h2, h3⟩
      refine run_bind (a := .yield (acc.1 ++ [⟨alias, name, dirs, sid, sub⟩], acc.2)) (s' := s) rfl ?_
      simp only []
      rw [hrest]
      simp [flatG, flat1, toR, gSpreadStep, List.append_assoc]
    | spread n d =>
      obtain ⟨_, hroot, _, f, hf, hon⟩ := aSel1_spread hx
      have hnu := (C01Mix.not_unpacked hfr (C01Mix.find_mem hf).1).1
      rw [hon] at hnu
      obtain ⟨s', hrest, h1, h2, h3⟩ := ih (acc.1, setAdd acc.2 n) s hr
      refine ⟨s', ?_, h1, h2, h3⟩
      have h1' : (env.schema.get? root).isNone = false := get_isNone_of_kind hroot
      refine run_bind (resolveBody_of_step (.keep hf hnu) (fun _ _ f' e hf' => by
        cases e; cases hf.symm.trans hf'; exact ⟨h1', by rw [hon]; exact h1'⟩)) ?_
      refine hrest.trans ?_
      simp [flatG, flat1, gSpreadStep]
    | inline on d sid ss =>
      cases on with
      | none => simp [aSel1] at hx
      | some c =>
        by_cases hi : incl env c root = true
        · obtain ⟨rt, hrt⟩ := Option.isSome_iff_exists.mp hi
          obtain ⟨_, hcont, hss⟩ := aSel1_inline hx hi
          have hssl := (aSels_iff env mk cn root rts ss).mp hss
          have hfs : ∀ y ∈ ss, isField y = true ∨ ∃ n d f, y = Selection.spread n d ∧ findFragment? env.frags n = some f ∧
              f.on = rt ∧ env.schema.kindOf? rt = some .object := by
            intro y hy
            rcases hcont y hy with h1 | ⟨h1, hc⟩
            · exact Or.inl (notTnField_isField h1)
            · right
              cases y with
              | field a n d' sid' sub => simp [isSpreadSel] at h1
              | inline on' d' sid' ss' => simp [isSpreadSel] at h1
              | spread n d' =>
                obtain ⟨_, hroot, _, f, hf, hon⟩ := aSel1_spread (hssl _ hy)
                subst hc
                have hrte := rootType_self hrt
                subst hrte
                exact ⟨n, d', f, rfl, hf, hon, hroot⟩
          obtain ⟨s', hrest, h1, h2, h3⟩ := ih (acc.1 ++ (ss.filter isField).map toR, setUnion acc.2 (C01Mix.spreadNames ss))
            { s with mixins := setUnion s.mixins (C01Mix.spreadNames ss) } hr
          refine ⟨s', ?_, h1, h2, h3⟩
          refine run_bind (resolveBody_of_step (.inline hrt (C01Mix.resolve_fs env K hfr k rt ss s hfs)) (fun _ _ _ e => by cases e)) ?_
          refine hrest.trans ?_
          simp [flatG, flat1, hi, gSpreadStep, List.append_assoc]
        · have hi' : inlineFragmentRootType env c root = none := by
            simpa [incl] using hi
          have hi'' : incl env c root = false := by simpa using hi
          obtain ⟨s', hrest, h1, h2, h3⟩ := ih (acc.1, acc.2) { s with dropped := s.dropped ++ [(c, root)] } hr
          refine ⟨s', ?_, h1, h2, h3⟩
          refine run_bind (resolveBody_of_step (.dropInline hi') (fun _ _ _ e => by cases e)) ?_
          refine hrest.trans ?_
          simp [flatG, flat1, hi'', gSpreadStep]

theorem resolve_abs (env : Env) (K : Nat) (hfr : C01Mix.FragsOK env K) (k : Nat) (root : String) {mk : Nat → Bool} {cn : String}
    {rts : List String} (sels : List Selection) (st : St) (h : ∀ x ∈ sels, aSel1 env mk cn root rts x = true) :
    ∃ st', resolve env (k + 2) sels root st = .ok (((flatG env root sels).map toR, gSpreads env root sels), st') ∧
      st'.publicNames = st.publicNames ∧ st'.marks = st.marks ∧ st'.unpacked = st.unpacked := by
  obtain ⟨s', hloop, h1, h2, h3⟩ := resolveLoop_abs env K hfr k root sels ([], []) st h
  refine ⟨{ s' with mixins := setUnion s'.mixins (gSpreads env root sels) }, ?_, h1, h2, h3⟩
  rw [resolve_succ]
  refine run_bind hloop ?_
  refine run_bind (run_modify _ _) ?_
  simp [run_pure, gSpreads]

theorem any_toR (fl : List Selection) (h : ∀ x ∈ fl, isField x = true) :
    (fl.map toR).any (·.name == typenameField) = fl.any isTnSel := by
  induction fl with
  | nil => rfl
  | cons x rest ih =>
    have hx := h x List.mem_cons_self
    simp only [List.map_cons, List.any_cons, ih (fun y hy => h y (List.mem_cons_of_mem _ hy))]
    congr 1
    cases x <;> simp [isField] at hx <;> rfl

/-- what a stretch of the generation does to the marks and to `unpacked`, in this tier -/
def Step (B : List Nat) (s s' : St) : Prop :=
  ((∀ m ∈ s.marks, m ∈ B) → ∀ m ∈ s'.marks, m ∈ B) ∧ (∀ m ∈ s.marks, m ∈ s'.marks) ∧ s'.unpacked = s.unpacked

theorem Step.refl (B : List Nat) (s : St) : Step B s s := ⟨id, fun _ h => h, rfl⟩

theorem Step.trans (B : List Nat) (a b c : St) (h1 : Step B a b) (h2 : Step B b c) : Step B a c :=
  ⟨fun h => h2.1 (h1.1 h), fun m h => h2.2.1 m (h1.2.1 m h), h2.2.2.trans h1.2.2⟩

/-- `B`: the marks of the document as it will be sent -/
def GenSpec (env : Env) (B : List Nat) (f : Nat) : Prop :=
  ∀ (cn tn : String) (rts : List String) (sid : Nat) (sel : List Selection) (a : Bool) (tv : List String) (st : St),
    agfuel sel ≤ f → aSels env B.contains cn tn rts sel = true →
    ((rflat a env tn sel).any isTnSel = true → tv.isEmpty = true → rootTnOK env tn = true) →
    B.contains sid = autoTn a sel →
    (∀ m ∈ st.marks, m ∈ B) →
    ((aClass env cn tn tv a sel).map (·.name)).Nodup →
    (∀ n ∈ (aClass env cn tn tv a sel).map (·.name), n ∉ st.publicNames) →
    ∃ st', parseTypeDefinition env f cn tn sid sel a [] tv st = .ok (aClass env cn tn tv a sel, st') ∧
      st'.publicNames = st.publicNames ++ (aClass env cn tn tv a sel).map (·.name) ∧ Step B st st' ∧
      (autoTn a sel = true → sid ∈ st'.marks) ∧ (∀ m ∈ needSids env cn tn sel, m ∈ st'.marks)

def variantClasses (env : Env) (rel : List (String × String)) (abs : Bool) (sub : List Selection)
    (ps : List (String × String)) : List ClassDecl :=
  ps.flatMap fun p => aClass env p.1 p.2 (tvOf env rel p.2) abs sub

theorem aExtra1_field (env : Env) (cn tn : String) (alias : Option String) (name : String) (dirs : List Directive)
    (sid : Nat) (sub : List Selection) (h1 : sub.isEmpty = false) (h2 : (name == typenameField) = false) :
    aExtra1 env cn tn (.field alias name dirs sid sub) =
      variantClasses env (relatedOf env (subClass env cn alias name) (subType env tn name) sub)
        (env.schema.isAbstract (subType env tn name)) sub
        (relatedOf env (subClass env cn alias name) (subType env tn name) sub) := by
  simp [aExtra1, h1, h2, variantClasses, aClass]

theorem needSids1_field (env : Env) (cn tn : String) (alias : Option String) (name : String) (dirs : List Directive)
    (sid : Nat) (sub : List Selection) (h1 : sub.isEmpty = false) (h2 : (name == typenameField) = false) :
    needSids1 env cn tn (.field alias name dirs sid sub) =
      (if autoTn (env.schema.isAbstract (subType env tn name)) sub then [sid] else [])
      ++ (relatedOf env (subClass env cn alias name) (subType env tn name) sub).flatMap fun p => needSids env p.1 p.2 sub := by
  simp [needSids1, h1, h2]

theorem aDecl_leaf_ann (env : Env) (T : TypeRef) (dirs : List Directive) :
    condAnn (annotateTop (wrapAnn (ResultLeaf.leafBase env T.base) true T)) dirs =
      condAnn (wrapAnn (ResultLeaf.leafBase env T.base) true T) dirs := by
  rw [annotateTop_wrapAnn _ (by rw [ResultLeaf.leafBase_eq]; exact Or.inl ⟨_, rfl⟩)]

theorem aDecl_leaf (env : Env) (cn tn : String) (tv : List String) (alias : Option String) (name : String)
    (dirs : List Directive) (sub : List Selection) (hname : (name == typenameField) = false) (hsub : sub.isEmpty = true) :
    aDecl env cn tn tv alias name dirs sub = fieldDecl env cn tn alias name dirs sub := by
  simp only [aDecl, fieldDecl, hname, hsub, if_true, Bool.false_and, Bool.false_eq_true, if_false, aDecl_leaf_ann]
  rw [isUnionAnn_fieldAnn _ (simpleBase_leaf env _)]

theorem fieldBody_abs (env : Env) (B : List Nat) (f : Nat) (IH : GenSpec env B f) (cn tn : String) (rts tv : List String)
    (alias : Option String) (name : String) (dirs : List Directive) (sid : Nat) (sub : List Selection)
    (acc : FAcc) (s : St)
    (hl : aSel1 env B.contains cn tn rts (.field alias name dirs sid sub) = true)
    (htv : (name == typenameField) = true → tv.isEmpty = true → rootTnOK env tn = true)
    (hfuel : agfuel1 (.field alias name dirs sid sub) ≤ f + 2)
    (hnd : ((aExtra1 env cn tn (.field alias name dirs sid sub)).map (·.name)).Nodup)
    (hfresh : ∀ n ∈ (aExtra1 env cn tn (.field alias name dirs sid sub)).map (·.name), n ∉ s.publicNames)
    (hm : ∀ m ∈ s.marks, m ∈ B) :
    ∃ s', fieldBody env (f + 1) cn tn tv ⟨alias, name, dirs, sid, sub⟩ acc s =
        .ok (.yield (acc.1 ++ [aDecl env cn tn tv alias name dirs sub],
                     acc.2 ++ aExtra1 env cn tn (.field alias name dirs sid sub)), s') ∧
      s'.publicNames = s.publicNames ++ (aExtra1 env cn tn (.field alias name dirs sid sub)).map (·.name) ∧
      Step B s s' ∧ (∀ m ∈ needSids1 env cn tn (.field alias name dirs sid sub), m ∈ s'.marks) := by
  have hl0 := hl
  simp only [aSel1, Bool.and_eq_true] at hl
  obtain ⟨hmix, hcase⟩ := hl
  have hmix' : (dirs.any (·.name == Tables.mixinName)) = false := by simpa using hmix
  by_cases hname : (name == typenameField) = true
  ·
    rw [if_pos hname] at hcase
    simp only [Bool.and_eq_true, Option.isNone_iff_eq_none, Bool.not_eq_true'] at hcase
    obtain ⟨⟨halias, _⟩, hsub⟩ := hcase
    have hex : aExtra1 env cn tn (.field alias name dirs sid sub) = [] := by simp [aExtra1, hname]
    have hns : needSids1 env cn tn (.field alias name dirs sid sub) = [] := by simp [needSids1, hname]
    -- what `_get_field_from_schema` and `parse_operation_field` return, in both cases
    have hboth : ∃ t ann dflt ctx, fieldTypeFromSchema env tn name = .ok t ∧
        parseOperationField env (f + 1 + 1) name dirs sub t (subClass env cn alias name) tv = .ok (ann, dflt, ctx) ∧
        ({ py := pyFieldName env (alias.getD name), ann := ann,
           alias := if pyFieldName env (alias.getD name) != alias.getD name then some (alias.getD name) else none,
           discriminator := isUnionAnn ann, defaultNone := dflt } : FieldDecl) = aDecl env cn tn tv alias name dirs sub := by
      by_cases hte : tv.isEmpty = true
      · obtain ⟨hfo, hleaf, _⟩ := rootTnOK_spec (htv hname hte)
        have hne : name = typenameField := by simpa using hname
        subst hne
        obtain ⟨ctx, hpo⟩ := parseOperationField_leaf env (f + 1 + 1) typenameField dirs sub tnT (subClass env cn alias typenameField) tv
          (by simp [hte]) hleaf
        refine ⟨tnT, _, _, ctx, fieldTypeFromSchema_root env tn hfo, hpo, ?_⟩
        simp only [aDecl, beq_self_eq_true, hte, Bool.not_true, Bool.and_false, Bool.false_eq_true, if_false, if_true, hsub,
          aDecl_leaf_ann]
      · have hte' : tv.isEmpty = false := by simpa using hte
        obtain ⟨t, hT⟩ := fieldTypeFromSchema_tn env tn name hname
        obtain ⟨ctx, hpo⟩ := parseOperationField_tn env (f + 1 + 1) name dirs sub t (subClass env cn alias name) tv hname hte'
        refine ⟨t, _, _, ctx, hT, hpo, ?_⟩
        simp only [aDecl, hname, hte', Bool.not_false, Bool.and_self, if_true, isUnionAnn]
    obtain ⟨t, ann, dflt, ctx, hT, hpo, hdecl⟩ := hboth
    refine ⟨bump s ctx, ?_, ?_, ⟨id, fun m h => h, rfl⟩, ?_⟩
    · rw [fieldBody_intro env (f + 1) cn tn tv ⟨alias, name, dirs, sid, sub⟩ acc s s t ann dflt ctx [] hT hpo hmix'
        (by rw [parseFieldSelectionSetTypes_succ, if_pos hsub]; rfl), hex, ← hdecl]
      rfl
    · rw [hex]; simp [bump]
    · rw [hns]; intro m h; cases h
  · have hname' : (name == typenameField) = false := by simpa using hname
    have hnameP : (name != typenameField) = true := by simp [bne, hname']
    obtain ⟨_, hfd, _, hleaf, hcomp⟩ := aSel1_field hl0 hname'
    have hT := fieldTypeFromSchema_some env tn name hfd
    by_cases hsub : sub.isEmpty = true
    · have hcase := hleaf hsub
      have hex : aExtra1 env cn tn (.field alias name dirs sid sub) = [] := by simp [aExtra1, hsub]
      have hns : needSids1 env cn tn (.field alias name dirs sid sub) = [] := by simp [needSids1, hsub]
      obtain ⟨ctx, h⟩ := fieldBody_field env f cn tn tv alias name dirs sid sub acc s hnameP hmix' hfd [] s
        (fun _ => ⟨hcase, rfl, rfl⟩) (fun h => by rw [hsub] at h; cases h)
      rw [hex, hns, aDecl_leaf env cn tn tv alias name dirs sub hname' hsub]
      exact ⟨bump s ctx, h, by simp [bump], ⟨id, fun m h => h, rfl⟩, fun m h => (by cases h)⟩
    · -- composite: one call of `_parse_type_definition` per variant
      have hsub' : sub.isEmpty = false := by simpa using hsub
      obtain ⟨hkind, hmk, hne, _, hvars⟩ := hcomp hsub'
      have hfu : agfuel sub ≤ f := by simp only [agfuel1, hsub', Bool.false_eq_true, if_false] at hfuel; omega
      have hvars' : ∀ p ∈ relatedOf env (subClass env cn alias name) (subType env tn name) sub,
          aSels env B.contains p.1 p.2
            ((Exec.runtimeTypes env.schema (subType env tn name)).filter
              (tvOf env (relatedOf env (subClass env cn alias name) (subType env tn name) sub) p.2).contains) sub = true ∧
          ((rflat (env.schema.isAbstract (subType env tn name)) env p.2 sub).any isTnSel = true →
            (tvOf env (relatedOf env (subClass env cn alias name) (subType env tn name) sub) p.2).isEmpty = true →
            rootTnOK env p.2 = true) := by
        intro p hp
        exact ⟨(hvars p hp).2.2, fun _ hte => by rw [(hvars p hp).1] at hte; cases hte⟩
      -- at an interface position the sub-selection has no spreads: the interface itself is a variant
      have hshape : env.schema.kindOf? (fieldT env tn name).base = some .interface → ∀ x ∈ sub, shapeOK x = true := by
        intro hki
        have hki' : env.schema.kindOf? (subType env tn name) = some .interface := hki
        have hp : ∃ p ∈ relatedOf env (subClass env cn alias name) (subType env tn name) sub, p.2 = subType env tn name := by
          unfold relatedOf
          rw [hki']
          by_cases he : (inlConds sub).isEmpty = true
          · simp only [he, if_true]
            exact ⟨(_, _), List.mem_singleton.mpr rfl, rfl⟩
          · simp only [he]
            exact ⟨(_, _), List.mem_cons_self, rfl⟩
        obtain ⟨p, hp, hp2⟩ := hp
        have := (hvars' p hp).1
        intro x hx
        exact aSel1_shape (by rw [hp2, hki']; simp) ((aSels_iff _ _ _ _ _ _).mp this x hx)
      have hpo := parseOperationField_comp env (f + 1) name dirs sub (fieldT env tn name) hshape
        (subClass env cn alias name) tv hname' hkind
      rw [aExtra1_field _ _ _ _ _ _ _ _ hsub' hname'] at hnd hfresh ⊢
      rw [needSids1_field _ _ _ _ _ _ _ _ hsub' hname']
      unfold variantClasses at hnd hfresh ⊢
      rw [List.map_flatMap] at hnd hfresh
      obtain ⟨s1, hloop, hpn, hS, hQ⟩ := forIn_fresh
        (relatedBody env f sid sub { related := relatedOf env (subClass env cn alias name) (subType env tn name) sub,
                                     abstract := env.schema.isAbstract (subType env tn name) } [])
        (fun p b => b ++ aClass env p.1 p.2
          (tvOf env (relatedOf env (subClass env cn alias name) (subType env tn name) sub) p.2)
          (env.schema.isAbstract (subType env tn name)) sub)
        (fun p => (aClass env p.1 p.2
          (tvOf env (relatedOf env (subClass env cn alias name) (subType env tn name) sub) p.2)
          (env.schema.isAbstract (subType env tn name)) sub).map (·.name))
        (Step B) (Step.refl B) (Step.trans B)
        (fun p s => (autoTn (env.schema.isAbstract (subType env tn name)) sub = true → sid ∈ s.marks) ∧
          ∀ m ∈ needSids env p.1 p.2 sub, m ∈ s.marks)
        (fun p s s' hR hq => ⟨fun ha => hR.2.1 _ (hq.1 ha), fun m hm => hR.2.1 _ (hq.2 m hm)⟩)
        (relatedOf env (subClass env cn alias name) (subType env tn name) sub) [] s
        (fun p hp acc s1 hR hnd1 hfr1 => by
          obtain ⟨hp1, hp2⟩ := hvars' p hp
          obtain ⟨s2, hrun, hpn1, hS1, hsid1, hneed1⟩ := IH p.1 p.2 _ sid sub _ _ s1 hfu hp1 hp2 hmk (hR.1 hm) hnd1 hfr1
          refine ⟨s2, ?_, hpn1, hS1, hsid1, hneed1⟩
          unfold relatedBody
          exact run_bind hrun rfl)
        hnd hfresh
      rw [Lists.foldl_append_flatMap, List.nil_append] at hloop
      refine ⟨bump s1 { related := relatedOf env (subClass env cn alias name) (subType env tn name) sub,
                        abstract := env.schema.isAbstract (subType env tn name) }, ?_, ?_, hS, ?_⟩
      · rw [fieldBody_intro env (f + 1) cn tn tv ⟨alias, name, dirs, sid, sub⟩ acc s s1 _ _ _ _ _ hT hpo hmix'
          (by rw [parseFieldSelectionSetTypes_succ, if_neg hsub]; exact run_bind hloop rfl)]
        simp only [aDecl, hname', hsub', RField.key, Bool.false_and, Bool.false_eq_true, if_false]
        rfl
      · show s1.publicNames = _
        rw [hpn, List.map_flatMap]
      · intro m hm'
        rcases List.mem_append.mp hm' with h | h
        · split at h
          · rename_i ha
            have : m = sid := by simpa using h
            subst this
            cases hrel : relatedOf env (subClass env cn alias name) (subType env tn name) sub with
            | nil => simp [hrel] at hne
            | cons p _ => exact (hQ p (by rw [hrel]; exact List.mem_cons_self)).1 ha
          · cases h
        · obtain ⟨p, hp, hmp⟩ := List.mem_flatMap.mp h
          exact (hQ p hp).2 m hmp

theorem aSel1_tn (env : Env) (mk : Nat → Bool) (cn tn : String) (rts : List String) :
    aSel1 env mk cn tn rts Marks.typenameSel = true := by
  simp [Marks.typenameSel, aSel1, hasConditionalDirective]

theorem rflat_spec {env : Env} {mk : Nat → Bool} {cn tn : String} {rts : List String} {sel : List Selection} (a : Bool)
    (h : aSels env mk cn tn rts sel = true) :
    ∀ x ∈ rflat a env tn sel, isField x = true ∧ aSel1 env mk cn tn rts x = true := by
  intro x hx
  unfold rflat at hx
  rcases List.mem_append.mp hx with h1 | h1
  · split at h1
    · have : x = Marks.typenameSel := by simpa using h1
      subst this
      exact ⟨rfl, aSel1_tn env mk cn tn rts⟩
    · cases h1
  · exact aSels_flat h x h1

theorem agfuel_rflat (a : Bool) (env : Env) (tn : String) (sel : List Selection) (x : Selection)
    (h : x ∈ rflat a env tn sel) : agfuel1 x ≤ agfuel sel := by
  unfold rflat at h
  rcases List.mem_append.mp h with h1 | h1
  · split at h1
    · have : x = Marks.typenameSel := by simpa using h1
      subst this
      simp [Marks.typenameSel, agfuel1]
    · cases h1
  · exact agfuel_flat env tn sel x h1

theorem toR_tn : toR Marks.typenameSel = typenameRField := rfl

theorem gen_spec (env : Env) (K : Nat) (hfr : C01Mix.FragsOK env K) (B : List Nat) : ∀ f : Nat, GenSpec env B f
  | 0 => by
    intro cn tn rts sid sel a tv st hfu; have := agfuel_ge sel; omega
  | 1 => by
    intro cn tn rts sid sel a tv st hfu; have := agfuel_ge sel; omega
  | f + 2 => by
    intro cn tn rts sid sel a tv st hfu hloc htv hB hm hnd hfresh
    have IH := gen_spec env K hfr B f
    have hlocs := (aSels_iff env B.contains cn tn rts sel).mp hloc
    have hcont := aSels_contentOK hloc
    obtain ⟨hcn, hnd', hfresh'⟩ := fresh_cons hnd hfresh
    rw [← rflat_extra env cn tn a sel hcont] at hnd' hfresh'
    obtain ⟨st1, hres, hpn1, hmk1, hup1⟩ := resolve_abs env K hfr f tn sel { st with publicNames := st.publicNames ++ [cn] } hlocs
    have hS1 : Step B st st1 := ⟨fun h => by rw [hmk1]; exact h, fun m h => by rw [hmk1]; exact h, hup1⟩
    have hfl := rflat_spec a hloc
    have hflat := aSels_flat hloc
    have hany : ((flatG env tn sel).map toR).any (·.name == typenameField) = explicitTn sel := by
      rw [any_toR _ (fun x hx => (hflat x hx).1), flatG_explicit hloc]
    -- the field loop over the nodes of the class, from whatever state the class is in when it starts
    have key : ∀ (s : St), s.publicNames = st.publicNames ++ [cn] → (∀ m ∈ s.marks, m ∈ B) →
        ∃ s', forIn ((rflat a env tn sel).map toR) (([], []) : FAcc) (fieldBody env (f + 1) cn tn tv) s =
            .ok (((rflat a env tn sel).flatMap (aDecl1 env cn tn tv), (rflat a env tn sel).flatMap (aExtra1 env cn tn)), s') ∧
          s'.publicNames = st.publicNames ++ (aClass env cn tn tv a sel).map (·.name) ∧ Step B s s' ∧
          ∀ m ∈ needSids env cn tn sel, m ∈ s'.marks := by
      intro s hspn hsB
      obtain ⟨s', hloop, hpn, hS', hQ⟩ := fieldLoop_fresh env (f + 1) cn tn tv (aDecl1 env cn tn tv) (aExtra1 env cn tn)
        (Step B) (Step.refl B) (Step.trans B) (fun x s => ∀ m ∈ needSids1 env cn tn x, m ∈ s.marks)
        (fun x s s' hR hq m hm => hR.2.1 _ (hq m hm)) (rflat a env tn sel) ([], []) s (fun x hx => (hfl x hx).1)
        (fun alias name dirs sid' sub hx acc s1 hR hnd1 hfr1 =>
          fieldBody_abs env B f IH cn tn rts tv alias name dirs sid' sub acc s1 (hfl _ hx).2
            (fun hn => htv (List.any_eq_true.mpr ⟨_, hx, hn⟩)) (Nat.le_trans (agfuel_rflat a env tn sel _ hx) hfu) hnd1 hfr1
            (hR.1 hsB))
        hnd' (by rw [hspn]; exact hfresh')
      refine ⟨s', by simpa using hloop, ?_, hS', ?_⟩
      · rw [hpn, hspn, rflat_extra _ _ _ _ _ hcont]; simp [aClass, List.append_assoc]
      · rw [← rflat_need env cn tn a sel hcont]
        intro m hmm
        obtain ⟨x, hx, hmx⟩ := List.mem_flatMap.mp hmm
        exact hQ x hx m hmx
    -- … and the call, from the loop
    have run : ∀ s', (let r0 := if st1.marks.contains sid then typenameRField :: (flatG env tn sel).map toR else (flatG env tn sel).map toR
          forIn (if a && !(r0.any (·.name == typenameField)) then typenameRField :: r0 else r0) (([], []) : FAcc)
            (fieldBody env (f + 1) cn tn tv) (afterTypename a sid r0 st1) =
          .ok (((rflat a env tn sel).flatMap (aDecl1 env cn tn tv), (rflat a env tn sel).flatMap (aExtra1 env cn tn)), s')) →
        parseTypeDefinition env (f + 2) cn tn sid sel a [] tv st = .ok (aClass env cn tn tv a sel, s') := by
      intro s' h
      rw [parseTypeDefinition_intro env (f + 1) cn tn sid sel a [] tv st st1 s' ((flatG env tn sel).map toR, gSpreads env tn sel)
        _ hcn hres h]
      simp [classBases, aClass, aBases, rflat_extra _ _ _ _ _ hcont]
    by_cases hauto : autoTn a sel = true
    · -- the automatic `__typename` is (or already was) inserted
      have hsidB : sid ∈ B := by simpa [hauto] using hB
      have hrf : rflat a env tn sel = Marks.typenameSel :: flatG env tn sel := by simp [rflat, hauto]
      have hexp : explicitTn sel = false := by
        simp only [autoTn, Bool.and_eq_true, Bool.not_eq_true'] at hauto; exact hauto.2
      have ha : a = true := by simp only [autoTn, Bool.and_eq_true] at hauto; exact hauto.1
      subst ha
      by_cases hmarked : st1.marks.contains sid = true
      · obtain ⟨s', hct, h1, h2, h3⟩ := key st1 hpn1 (hS1.1 hm)
        refine ⟨s', run s' ?_, h1, Step.trans B _ _ _ hS1 h2, fun _ => h2.2.1 _ (by simpa using hmarked), h3⟩
        simp only [hmarked, if_true, List.any_cons, typenameRField, beq_self_eq_true, Bool.true_or, Bool.not_true,
          Bool.and_false, Bool.false_eq_true, if_false, afterTypename_marked hmarked]
        rw [hrf, List.map_cons, toR_tn] at hct
        rw [hrf]
        exact hct
      · have hmarked' : st1.marks.contains sid = false := by simpa using hmarked
        have hS2 : Step B st1 { st1 with marks := st1.marks ++ [sid] } :=
          ⟨fun h m hmm => by
              rcases List.mem_append.mp hmm with h' | h'
              · exact h m h'
              · exact (List.mem_singleton.mp h') ▸ hsidB,
            fun m h => List.mem_append_left _ h, rfl⟩
        obtain ⟨s', hct, h1, h2, h3⟩ := key { st1 with marks := st1.marks ++ [sid] } hpn1 (hS2.1 (hS1.1 hm))
        refine ⟨s', run s' ?_, h1, Step.trans B _ _ _ hS1 (Step.trans B _ _ _ hS2 h2), fun _ => h2.2.1 _ (by simp), h3⟩
        simp only [hmarked', Bool.false_eq_true, if_false, hany, hexp, Bool.not_false, Bool.and_self, if_true, afterTypename_of_true]
        rw [hrf, List.map_cons, toR_tn] at hct
        rw [hrf]
        exact hct
    · have hauto' : autoTn a sel = false := by simpa using hauto
      have hsidB : B.contains sid = false := by rw [hB, hauto']
      have hmarked' : st1.marks.contains sid = false := by
        cases hc : st1.marks.contains sid with
        | false => rfl
        | true =>
          have h2 : sid ∈ B := hS1.1 hm sid (by simpa using hc)
          have h3 : B.contains sid = true := by simpa using h2
          rw [hsidB] at h3; cases h3
      have hrf : rflat a env tn sel = flatG env tn sel := by simp [rflat, hauto']
      obtain ⟨s', hct, h1, h2, h3⟩ := key st1 hpn1 (hS1.1 hm)
      refine ⟨s', run s' ?_, h1, Step.trans B _ _ _ hS1 h2, fun h => (by rw [hauto'] at h; cases h), h3⟩
      have hcond : (a && !explicitTn sel) = false := hauto'
      simp only [hmarked', Bool.false_eq_true, if_false, hany, hcond, afterTypename_of_false]
      rw [hrf] at hct ⊢
      exact hct

end Ariadne.C01Abs
