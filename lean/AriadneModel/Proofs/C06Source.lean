/-
  Lemmas for C06 about the schema source (`Model/InputSource.lean`): the generator with
  `field.ast_node` absent (introspection) is the SDL generator applied to what it can see of the
  schema (`viewOf`), requiredness for both sources, and what becomes of a schema default on the
  introspection path.
-/
import AriadneModel.Model.InputSource
import AriadneModel.Proofs.InputField


namespace Ariadne.C06Source
open Ariadne.InputGen (InputField TypeDef Mode)
open Ariadne.InputField Ariadne.InputSource

theorem genFieldSrc_sdl (cfg : Cfg) (kinds : String → Kind) (f : InputField) :
    genFieldSrc .sdl cfg kinds f = genField cfg kinds f := rfl

theorem viewField_type (m : Mode) (f : InputField) : (viewField m f).type = f.type := by cases m <;> rfl
theorem viewField_name (m : Mode) (f : InputField) : (viewField m f).name = f.name := by cases m <;> rfl

/-- `parse_input_field_default_value` with `node = None` is the same function with a node that has
    no default value -/
theorem fieldDefault_view (m : Mode) (ft : String) (f : InputField) :
    InputGen.fieldDefault m ft f = InputGen.fieldDefault .sdl ft (viewField m f) := by
  cases m with
  | sdl => rfl
  | intro d =>
    simp only [InputGen.fieldDefault, viewField]
    by_cases h : f.type.isNonNull = true <;> simp [h]

theorem genFieldSrc_eq_view (m : Mode) (cfg : Cfg) (kinds : String → Kind) (f : InputField) :
    genFieldSrc m cfg kinds f = genField cfg kinds (viewField m f) := by
  unfold genFieldSrc genField
  rw [viewField_type, viewField_name]
  cases annOf kinds f.type true with
  | none => rfl
  | some p =>
    obtain ⟨a, ft⟩ := p
    have hv := fieldDefault_view m ft f
    simp only [hv]
    rfl

theorem genClassSrc_eq_view (m : Mode) (cfg : Cfg) (kinds : String → Kind) (n : String) (fs : List InputField) :
    genClassSrc m cfg kinds n fs = genClass cfg kinds n (viewFields m fs) := by
  unfold genClassSrc genClass viewFields
  rw [List.map_map]
  congr 1
  apply List.map_congr_left
  intro f _
  exact genFieldSrc_eq_view m cfg kinds f

theorem viewDef_name (m : Mode) (d : TypeDef) : (viewDef m d).name = d.name := by cases d <;> rfl

theorem findDef_view (m : Mode) (defs : List TypeDef) (n : String) :
    InputGen.findDef (viewOf m defs) n = (InputGen.findDef defs n).map (viewDef m) := by
  simp only [InputGen.findDef, viewOf, List.find?_map, Function.comp_def, viewDef_name]

theorem kindOf_view (m : Mode) (cfg : Cfg) (defs : List TypeDef) : kindOf cfg (viewOf m defs) = kindOf cfg defs := by
  funext n
  unfold kindOf
  rw [findDef_view]
  cases InputGen.findDef defs n with
  | none => rfl
  | some d => cases d <;> rfl

theorem classOf_view (m : Mode) (cfg : Cfg) (kinds : String → Kind) (d : TypeDef) :
    classOf cfg kinds (viewDef m d) = classOfSrc m cfg kinds d := by
  cases d with
  | input n fs => simp only [viewDef, classOf, classOfSrc, genClassSrc_eq_view]
  | enum n vs => rfl
  | scalar n => rfl
  | composite n => rfl

theorem classesSrc_eq_view (m : Mode) (cfg : Cfg) (defs : List TypeDef) :
    classesSrc m cfg defs = classes cfg (viewOf m defs) := by
  unfold classesSrc classes
  rw [kindOf_view]
  unfold viewOf
  rw [List.filterMap_map]
  congr 1; funext d; exact (classOf_view m cfg _ d).symm

theorem viewOf_sdl (defs : List TypeDef) : viewOf .sdl defs = defs := by
  unfold viewOf
  have : viewDef .sdl = id := by
    funext d
    cases d with
    | input n fs =>
      have hid : viewField .sdl = id := by funext f; rfl
      simp [viewDef, viewFields, InputGen.visibleFields, hid]
    | enum n vs => rfl
    | scalar n => rfl
    | composite n => rfl
  rw [this, List.map_id]

theorem visibleDefs_sdl (defs : List TypeDef) : visibleDefs .sdl defs = defs := by
  unfold visibleDefs
  have : visibleDef .sdl = id := by
    funext d
    cases d <;> rfl
  rw [this, List.map_id]

theorem classesSrc_sdl (cfg : Cfg) (defs : List TypeDef) : classesSrc .sdl cfg defs = classes cfg defs := by
  rw [classesSrc_eq_view, viewOf_sdl]

theorem mkEnvSrc_sdl (cfg : Cfg) (defs : List TypeDef) (acc : String → J → Bool) (lax : PydInput.Lax) :
    mkEnvSrc .sdl cfg defs acc lax = PydInput.mkEnv cfg defs acc lax := by
  unfold mkEnvSrc
  rw [viewOf_sdl]

theorem viewField_default_none_iff (m : Mode) (f : InputField) :
    (viewField m f).default = none ↔ (m = .sdl → f.default = none) := by
  cases m with
  | sdl => simp [viewField]
  | intro d => simp [viewField]

theorem genFieldSrc_default (m : Mode) (cfg : Cfg) (kinds : String → Kind) (f : InputField) (d : FieldDecl)
    (h : genFieldSrc m cfg kinds f = some d) :
    ∃ a ft, annOf kinds f.type true = some (a, ft) ∧ d.ann = a ∧ d.py = pyName cfg.snake f.name ∧
      d.value.default = InputGen.fieldDefault m ft f ∧
      d.value.alias = (if pyName cfg.snake f.name != f.name then some f.name else none) := by
  rw [genFieldSrc_eq_view] at h
  obtain ⟨a, ft, ha, hann, hpy, hdef, hal⟩ := genField_default cfg kinds (viewField m f) d h
  rw [viewField_type] at ha
  rw [viewField_name] at hpy hal
  exact ⟨a, ft, ha, hann, hpy, by rw [hdef, fieldDefault_view m ft f], hal⟩

theorem genFieldSrc_required (m : Mode) (cfg : Cfg) (kinds : String → Kind) (f : InputField) (d : FieldDecl)
    (h : genFieldSrc m cfg kinds f = some d) :
    d.required = true ↔ (f.type.isNonNull = true ∧ (viewField m f).default = none) := by
  obtain ⟨a, ft, _, _, _, hdef, _⟩ := genFieldSrc_default m cfg kinds f d h
  unfold FieldDecl.required
  rw [hdef, Option.isNone_iff_eq_none, fieldDefault_view m ft f]
  have := fieldDefault_none_iff ft (viewField m f)
  rw [viewField_type] at this
  exact this

end Ariadne.C06Source
