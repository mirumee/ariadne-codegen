/-
  C11, value level (core Lean only): the laws of `separate_files` under an arbitrary `==` of Upload objects and, as
  their identity case, of `sep`: the tree with its uploads nulled, and `files_list` (first occurrences) and `files_map`
  (paths per file) as a fold of `addPath` over the upload positions; then what the property needs of paths, nulling,
  serialising, the header merge and `execute`.  The property is stated in Properties/C11.lean.
  `sepG`, `addPathG`, `processVariablesG` — the generalisation over `==` all these laws are stated for — are defined in
  Model/BaseClientObjects.lean, where the object level runs them; hence the import.
-/
import AriadneModel.Model.BaseClientTree
import AriadneModel.Model.BaseClientObjects
import AriadneModel.Proofs.ListLemmas

namespace Ariadne.BaseClient

theorem addPathG_identity (u : Nat) (p : String) (st : List Entry) : addPathG uploadEq u p st = addPath u p st := by
  induction st with
  | nil => rfl
  | cons e es ih => simp [addPathG, addPath, uploadEq, ih]

mutual
theorem sepG_identity (p : String) (v : PV) (st : List Entry) : sepG uploadEq p v st = sep p v st := by
  cases v with
  | list xs => simp [sepG, sep, sepListG_identity p 0 xs st]
  | dict kvs => simp [sepG, sep, sepDictG_identity p kvs st]
  | upload i => simp [sepG, sep, addPathG_identity]
  | _ => simp [sepG, sep]
theorem sepListG_identity (p : String) (i : Nat) (xs : List PV) (st : List Entry) :
    sepListG uploadEq p i xs st = sepList p i xs st := by
  cases xs with
  | nil => simp [sepListG, sepList]
  | cons x xs => simp [sepListG, sepList, sepG_identity _ x st, sepListG_identity p (i+1) xs]
theorem sepDictG_identity (p : String) (kvs : List (String × PV)) (st : List Entry) :
    sepDictG uploadEq p kvs st = sepDict p kvs st := by
  cases kvs with
  | nil => simp [sepDictG, sepDict]
  | cons kv rest =>
    obtain ⟨k, x⟩ := kv
    simp [sepDictG, sepDict, sepG_identity _ x st, sepDictG_identity p rest]
end

theorem processVariablesG_identity (vars : Option (List (String × PV))) :
    processVariablesG uploadEq vars = processVariables vars := by
  cases vars with
  | none => rfl
  | some kvs =>
    cases kvs with
    | nil => rfl
    | cons kv rest => simp [processVariablesG, processVariables, sepDictG_identity]

def collectG (eqv : Nat → Nat → Bool) (base : String) (ps : List (Path × Nat)) (st : List Entry) : List Entry :=
  ps.foldl (fun st pu => addPathG eqv pu.2 (render base pu.1) st) st

theorem collectG_append (eqv : Nat → Nat → Bool) (base : String) (l₁ l₂ : List (Path × Nat)) (st : List Entry) :
    collectG eqv base (l₁ ++ l₂) st = collectG eqv base l₂ (collectG eqv base l₁ st) := by
  simp [collectG, List.foldl_append]

theorem collectG_map_cons (eqv : Nat → Nat → Bool) (base : String) (s : Seg) (l : List (Path × Nat)) (st : List Entry) :
    collectG eqv base (l.map (fun pu => (s :: pu.1, pu.2))) st = collectG eqv (base ++ "." ++ s.str) l st := by
  simp [collectG, List.foldl_map, render]

/- `separate_files` in closed form: the tree with its uploads nulled, and the threaded `(files_list, files_map)` as a
   fold over the upload positions -/
mutual
theorem sepG_eq (eqv : Nat → Nat → Bool) (p : String) (v : PV) (st : List Entry) :
    sepG eqv p v st = (nullUploads v, collectG eqv p (upos v) st) := by
  cases v with
  | list xs => simp [sepG, nullUploads, upos, sepListG_eq eqv p 0 xs st]
  | dict kvs => simp [sepG, nullUploads, upos, sepDictG_eq eqv p kvs st]
  | upload i => simp [sepG, nullUploads, upos, collectG, render]
  | _ => simp [sepG, nullUploads, upos, collectG]
theorem sepListG_eq (eqv : Nat → Nat → Bool) (p : String) (i : Nat) (xs : List PV) (st : List Entry) :
    sepListG eqv p i xs st = (nullUploadsList xs, collectG eqv p (uposList i xs) st) := by
  cases xs with
  | nil => simp [sepListG, nullUploadsList, uposList, collectG]
  | cons x xs =>
    simp [sepListG, nullUploadsList, uposList, collectG_append, collectG_map_cons, sepG_eq eqv _ x st,
      sepListG_eq eqv p (i + 1) xs, Seg.str]
theorem sepDictG_eq (eqv : Nat → Nat → Bool) (p : String) (kvs : List (String × PV)) (st : List Entry) :
    sepDictG eqv p kvs st = (nullUploadsKvs kvs, collectG eqv p (uposKvs kvs) st) := by
  cases kvs with
  | nil => simp [sepDictG, nullUploadsKvs, uposKvs, collectG]
  | cons kv rest =>
    obtain ⟨k, x⟩ := kv
    simp [sepDictG, nullUploadsKvs, uposKvs, collectG_append, collectG_map_cons, sepG_eq eqv _ x st,
      sepDictG_eq eqv p rest, Seg.str]
end

theorem sepG_fst (eqv : Nat → Nat → Bool) (p : String) (v : PV) (st : List Entry) :
    (sepG eqv p v st).1 = nullUploads v := by rw [sepG_eq]
theorem sepListG_fst (eqv : Nat → Nat → Bool) (p : String) (i : Nat) (xs : List PV) (st : List Entry) :
    (sepListG eqv p i xs st).1 = nullUploadsList xs := by rw [sepListG_eq]
theorem sepDictG_fst (eqv : Nat → Nat → Bool) (p : String) (kvs : List (String × PV)) (st : List Entry) :
    (sepDictG eqv p kvs st).1 = nullUploadsKvs kvs := by rw [sepDictG_eq]
theorem sepG_snd (eqv : Nat → Nat → Bool) (p : String) (v : PV) (st : List Entry) :
    (sepG eqv p v st).2 = collectG eqv p (upos v) st := by rw [sepG_eq]
theorem sepListG_snd (eqv : Nat → Nat → Bool) (p : String) (i : Nat) (xs : List PV) (st : List Entry) :
    (sepListG eqv p i xs st).2 = collectG eqv p (uposList i xs) st := by rw [sepListG_eq]
theorem sepDictG_snd (eqv : Nat → Nat → Bool) (p : String) (kvs : List (String × PV)) (st : List Entry) :
    (sepDictG eqv p kvs st).2 = collectG eqv p (uposKvs kvs) st := by rw [sepDictG_eq]

def collect (base : String) (ps : List (Path × Nat)) (st : List Entry) : List Entry :=
  ps.foldl (fun st pu => addPath pu.2 (render base pu.1) st) st

theorem collect_nil (base : String) (st : List Entry) : collect base [] st = st := rfl

theorem collect_eq_collectG (base : String) (ps : List (Path × Nat)) (st : List Entry) :
    collect base ps st = collectG uploadEq base ps st := by
  simp only [collect, collectG, addPathG_identity]

theorem sep_fst (p : String) (v : PV) (st : List Entry) : (sep p v st).1 = nullUploads v := by
  rw [← sepG_identity, sepG_fst]
theorem sepList_fst (p : String) (i : Nat) (xs : List PV) (st : List Entry) :
    (sepList p i xs st).1 = nullUploadsList xs := by
  rw [← sepListG_identity, sepListG_fst]

theorem sep_snd (p : String) (v : PV) (st : List Entry) : (sep p v st).2 = collect p (upos v) st := by
  rw [← sepG_identity, sepG_snd, collect_eq_collectG]
theorem sepList_snd (p : String) (i : Nat) (xs : List PV) (st : List Entry) :
    (sepList p i xs st).2 = collect p (uposList i xs) st := by
  rw [← sepListG_identity, sepListG_snd, collect_eq_collectG]
theorem sepDict_eq (p : String) (kvs : List (String × PV)) (st : List Entry) :
    sepDict p kvs st = (nullUploadsKvs kvs, collect p (uposKvs kvs) st) := by
  rw [← sepDictG_identity, sepDictG_eq, collect_eq_collectG]

def ids (st : List Entry) : List Nat := st.map Entry.id

def pathsOf (u : Nat) : List Entry → List String
  | [] => []
  | e :: es => if e.id = u then e.paths else pathsOf u es

/-- `files_list` after `if obj in files_list: … else: files_list.append(obj)` -/
def keepG (eqv : Nat → Nat → Bool) (kept : List Nat) (x : Nat) : List Nat :=
  if kept.any (fun e => eqv e x) then kept else kept ++ [x]

def dedupG (eqv : Nat → Nat → Bool) (kept : List Nat) (xs : List Nat) : List Nat := xs.foldl (keepG eqv) kept

theorem ids_addPathG (eqv : Nat → Nat → Bool) (x : Nat) (p : String) (st : List Entry) :
    ids (addPathG eqv x p st) = keepG eqv (ids st) x := by
  induction st with
  | nil => simp [addPathG, ids, keepG]
  | cons e es ih =>
    by_cases h : eqv e.id x = true
    · simp [addPathG, ids, keepG, h]
    · have h' : eqv e.id x = false := by simpa using h
      simp only [ids] at ih
      by_cases ha : (es.map Entry.id).any (fun e => eqv e x) = true
      · simp [addPathG, ids, keepG, h', ih, ha]
      · have ha' : (es.map Entry.id).any (fun e => eqv e x) = false := by simpa using ha
        simp [addPathG, ids, keepG, h', ih, ha']

theorem ids_collectG (eqv : Nat → Nat → Bool) (base : String) (ps : List (Path × Nat)) (st : List Entry) :
    ids (collectG eqv base ps st) = dedupG eqv (ids st) (ps.map (·.2)) := by
  induction ps generalizing st with
  | nil => rfl
  | cons pu rest ih =>
    simp only [collectG, List.foldl_cons, List.map_cons, dedupG] at ih ⊢
    rw [ih, ids_addPathG]

theorem keepG_identity (kept : List Nat) (x : Nat) :
    keepG uploadEq kept x = if x ∈ kept then kept else kept ++ [x] := by
  have : kept.any (fun e => uploadEq e x) = decide (x ∈ kept) := by
    induction kept with
    | nil => rfl
    | cons e es ih => rw [List.any_cons, ih]; by_cases he : e = x <;> simp [uploadEq, he, eq_comm (a := x)]
  simp [keepG, this]

theorem pathsOf_addPath (u' u : Nat) (p : String) (st : List Entry) :
    pathsOf u' (addPath u p st) = if u' = u then pathsOf u st ++ [p] else pathsOf u' st := by
  induction st with
  | nil =>
    by_cases h : u' = u
    · simp [addPath, pathsOf, h]
    · have : ¬ u = u' := fun x => h x.symm
      simp [addPath, pathsOf, h, this]
  | cons e es ih =>
    by_cases h : e.id = u
    · by_cases h2 : u' = u
      · subst h2; simp [addPath, pathsOf, h]
      · have h3 : ¬ e.id = u' := fun x => h2 (x ▸ h)
        have h4 : ¬ u = u' := fun x => h2 x.symm
        simp [addPath, pathsOf, h, h2, h4]
    · by_cases h2 : u' = u
      · subst h2; simp [addPath, pathsOf, h, ih]
      · by_cases h3 : e.id = u' <;> simp [addPath, pathsOf, h, h2, h3, ih]

theorem firstOcc_mem (u : Nat) (l : List Nat) : u ∈ firstOcc l ↔ u ∈ l := by
  induction l with
  | nil => simp [firstOcc]
  | cons x xs ih =>
    by_cases h : u = x
    · simp [firstOcc, h]
    · simp [firstOcc, h, List.mem_filter, ih]

theorem firstOcc_nodup (l : List Nat) : (firstOcc l).Nodup := by
  induction l with
  | nil => simp [firstOcc]
  | cons x xs ih =>
    simp only [firstOcc, List.nodup_cons]
    refine ⟨by simp [List.mem_filter], ?_⟩
    exact List.Pairwise.filter _ ih

theorem dedupG_identity (kept xs : List Nat) :
    dedupG uploadEq kept xs = kept ++ (firstOcc xs).filter (fun u => u ∉ kept) := by
  induction xs generalizing kept with
  | nil => simp [dedupG, firstOcc]
  | cons u rest ih =>
    have step : dedupG uploadEq kept (u :: rest) = dedupG uploadEq (keepG uploadEq kept u) rest := rfl
    rw [step, ih, keepG_identity]
    by_cases h : u ∈ kept
    · simp only [h, if_true, firstOcc]
      congr 1
      rw [List.filter_cons]
      simp only [h, not_true_eq_false, decide_false, Bool.false_eq_true, if_false, List.filter_filter]
      apply List.filter_congr
      intro x _
      by_cases hx : x ∈ kept
      · simp [hx]
      · have : x ≠ u := fun e => hx (e ▸ h)
        simp [hx, this]
    · simp only [h, if_false, firstOcc, List.append_assoc]
      congr 1
      rw [List.filter_cons]
      simp only [h, not_false_eq_true, decide_true, if_true, List.singleton_append, List.filter_filter]
      congr 1
      apply List.filter_congr
      intro x _
      by_cases hx : x ∈ kept <;> by_cases hu : x = u <;> simp [hx, hu]

theorem pathsOf_collect_from (base : String) (u : Nat) (ps : List (Path × Nat)) (st : List Entry) :
    pathsOf u (collect base ps st) =
      pathsOf u st ++ (ps.filter (fun pu => pu.2 = u)).map (fun pu => render base pu.1) := by
  induction ps generalizing st with
  | nil => simp [collect]
  | cons pu rest ih =>
    have step : collect base (pu :: rest) st = collect base rest (addPath pu.2 (render base pu.1) st) := rfl
    rw [step, ih, pathsOf_addPath]
    by_cases h : u = pu.2
    · simp [h]
    · have : ¬ pu.2 = u := fun x => h x.symm
      simp [h, this]


/-- `enumerate`, from the two equations of a hand-written one -/
theorem enum_get {α β : Type} (f : Nat → α → β) (g : Nat → List α → List β) (h0 : ∀ i, g i [] = [])
    (h1 : ∀ i e es, g i (e :: es) = f i e :: g (i + 1) es) (i n : Nat) (st : List α) :
    (g i st)[n]? = st[n]?.map (f (i + n)) := by
  induction st generalizing i n with
  | nil => simp [h0]
  | cons e es ih =>
    cases n with
    | zero => simp [h1]
    | succ m => simp only [h1, List.getElem?_cons_succ, ih]; rw [show i + 1 + m = i + (m + 1) by omega]

theorem enum_length {α β : Type} (g : Nat → List α → List β) (h0 : ∀ i, g i [] = [])
    (h1 : ∀ i e es, (g i (e :: es)).length = (g (i + 1) es).length + 1) (i : Nat) (st : List α) :
    (g i st).length = st.length := by
  induction st generalizing i with
  | nil => simp [h0]
  | cons e es ih => simp [h1, ih]

theorem filesOf_get (i n : Nat) (st : List Entry) :
    (filesOf i st)[n]? = st[n]?.map (fun e => (toString (i + n), e.id)) :=
  enum_get _ filesOf (fun _ => rfl) (fun _ _ _ => rfl) i n st

theorem mapOf_get (i n : Nat) (st : List Entry) :
    (mapOf i st)[n]? = st[n]?.map (fun e => (toString (i + n), J.arr (e.paths.map J.str))) :=
  enum_get _ mapOf (fun _ => rfl) (fun _ _ _ => rfl) i n st

theorem filesOf_length (i : Nat) (st : List Entry) : (filesOf i st).length = st.length :=
  enum_length filesOf (fun _ => rfl) (fun _ _ _ => rfl) i st

theorem mapOf_length (i : Nat) (st : List Entry) : (mapOf i st).length = st.length :=
  enum_length mapOf (fun _ => rfl) (fun _ _ _ => rfl) i st

theorem lookupPV_eq (k : String) (kvs : List (String × PV)) : lookupPV k kvs = kvs.lookup k :=
  Lists.eq_lookup_of_eqns lookupPV (fun _ => rfl) (fun _ _ _ _ => rfl) k kvs

theorem keysOf_eq_map (kvs : List (String × PV)) : keysOf kvs = kvs.map (·.1) := by
  induction kvs with
  | nil => rfl
  | cons kv rest ih => obtain ⟨k, v⟩ := kv; simp [keysOf, ih]

theorem distinct_iff (l : List String) : distinct l = true ↔ l.Nodup :=
  Lists.nodupB_iff_of_eqns distinct rfl (fun _ _ => rfl) l

theorem mem_keysOf_of_mem {k : String} {x : PV} {kvs : List (String × PV)} (h : (k, x) ∈ kvs) : k ∈ keysOf kvs :=
  keysOf_eq_map kvs ▸ List.mem_map.mpr ⟨_, h, rfl⟩

theorem lookupPV_of_mem {k : String} {x : PV} {kvs : List (String × PV)}
    (hd : distinct (keysOf kvs) = true) (h : (k, x) ∈ kvs) : lookupPV k kvs = some x :=
  lookupPV_eq k kvs ▸ Lists.lookup_of_mem_nodup (keysOf_eq_map kvs ▸ (distinct_iff _).mp hd) h

theorem mem_of_lookupPV {k : String} {x : PV} {kvs : List (String × PV)} (h : lookupPV k kvs = some x) :
    (k, x) ∈ kvs :=
  Lists.lookup_mem (lookupPV_eq k kvs ▸ h)

mutual
theorem upos_at (v : PV) (h : uniq v = true) (q : Path) (u : Nat) :
    (q, u) ∈ upos v ↔ pvAt? q v = some (.upload u) := by
  cases v with
  | upload i =>
    cases q with
    | nil => simp [upos, pvAt?, eq_comm]
    | cons s p => simp [upos, pvAt?]
  | list xs =>
    simp only [uniq] at h
    rw [upos, uposList_at xs h 0 q u]
    cases q with
    | nil => simp [pvAt?]
    | cons s p =>
      cases s with
      | key k => simp [pvAt?]
      | idx n =>
        simp only [pvAt?, Nat.zero_add, List.cons.injEq, Seg.idx.injEq]
        constructor
        · rintro ⟨n', p', x, ⟨rfl, rfl⟩, hx, hat⟩
          simp [hx, hat]
        · intro hh
          cases hx : xs[n]? with
          | none => simp [hx] at hh
          | some x => exact ⟨n, p, x, ⟨rfl, rfl⟩, hx, by simpa [hx] using hh⟩
  | dict kvs =>
    simp only [uniq, Bool.and_eq_true] at h
    rw [upos, uposKvs_at kvs h.2 q u]
    cases q with
    | nil => simp [pvAt?]
    | cons s p =>
      cases s with
      | idx n => simp [pvAt?]
      | key k =>
        simp only [pvAt?, List.cons.injEq, Seg.key.injEq]
        constructor
        · rintro ⟨k', p', x, ⟨rfl, rfl⟩, hx, hat⟩
          simp [lookupPV_of_mem h.1 hx, hat]
        · intro hh
          cases hx : lookupPV k kvs with
          | none => simp [hx] at hh
          | some x => exact ⟨k, p, x, ⟨rfl, rfl⟩, mem_of_lookupPV hx, by simpa [hx] using hh⟩
  | none => cases q <;> simp [upos, pvAt?]
  | unset => cases q <;> simp [upos, pvAt?]
  | bool b => cases q <;> simp [upos, pvAt?]
  | num m e => cases q <;> simp [upos, pvAt?]
  | str s => cases q <;> simp [upos, pvAt?]
  | model d j => cases q <;> simp [upos, pvAt?]
  | leaf j => cases q <;> simp [upos, pvAt?]
theorem uposList_at (xs : List PV) (h : uniqList xs = true) (i : Nat) (q : Path) (u : Nat) :
    (q, u) ∈ uposList i xs ↔
      ∃ n p x, q = Seg.idx (i + n) :: p ∧ xs[n]? = some x ∧ pvAt? p x = some (.upload u) := by
  cases xs with
  | nil => simp [uposList]
  | cons x xs =>
    simp only [uniqList, Bool.and_eq_true] at h
    simp only [uposList, List.mem_append, List.mem_map, Prod.mk.injEq, Prod.exists]
    rw [uposList_at xs h.2 (i + 1) q u]
    constructor
    · rintro (⟨p, u', hm, rfl, hu⟩ | ⟨n, p, y, rfl, hy, hat⟩)
      · rw [hu] at hm
        exact ⟨0, p, x, by simp, by simp, (upos_at x h.1 p u).mp hm⟩
      · exact ⟨n + 1, p, y, by simp [Nat.add_assoc, Nat.add_comm 1 n], by simpa using hy, hat⟩
    · rintro ⟨n, p, y, rfl, hy, hat⟩
      cases n with
      | zero =>
        left
        simp at hy; subst hy
        exact ⟨p, u, (upos_at x h.1 p u).mpr hat, by simp, rfl⟩
      | succ m =>
        right
        exact ⟨m, p, y, by simp [Nat.add_assoc, Nat.add_comm 1 m], by simpa using hy, hat⟩
theorem uposKvs_at (kvs : List (String × PV)) (h : uniqKvs kvs = true) (q : Path) (u : Nat) :
    (q, u) ∈ uposKvs kvs ↔
      ∃ k p x, q = Seg.key k :: p ∧ (k, x) ∈ kvs ∧ pvAt? p x = some (.upload u) := by
  cases kvs with
  | nil => simp [uposKvs]
  | cons kv rest =>
    obtain ⟨k, x⟩ := kv
    simp only [uniqKvs, Bool.and_eq_true] at h
    simp only [uposKvs, List.mem_append, List.mem_map, Prod.mk.injEq, Prod.exists]
    rw [uposKvs_at rest h.2 q u]
    constructor
    · rintro (⟨p, u', hm, rfl, hu⟩ | ⟨k', p, y, rfl, hy, hat⟩)
      · rw [hu] at hm
        exact ⟨k, p, x, rfl, by simp, (upos_at x h.1 p u).mp hm⟩
      · exact ⟨k', p, y, rfl, by simp [hy], hat⟩
    · rintro ⟨k', p, y, rfl, hy, hat⟩
      rcases List.mem_cons.mp hy with hy | hy
      · cases hy
        left
        exact ⟨p, u, (upos_at x h.1 p u).mpr hat, rfl, rfl⟩
      · right
        exact ⟨k', p, y, rfl, hy, hat⟩
end


theorem nullUploadsList_get (xs : List PV) (n : Nat) :
    (nullUploadsList xs)[n]? = xs[n]?.map nullUploads := by
  induction xs generalizing n with
  | nil => simp [nullUploadsList]
  | cons x xs ih => cases n <;> simp [nullUploadsList, ih]

theorem lookupPV_nullUploadsKvs (k : String) (kvs : List (String × PV)) :
    lookupPV k (nullUploadsKvs kvs) = (lookupPV k kvs).map nullUploads := by
  induction kvs with
  | nil => simp [nullUploadsKvs, lookupPV]
  | cons kv rest ih =>
    obtain ⟨k', x⟩ := kv
    by_cases h : k' = k <;> simp [nullUploadsKvs, lookupPV, h, ih]

/-- behind `unrelated_positions_unchanged` of Properties/C11.lean -/
theorem pvAt_nullUploads (q : Path) (v w : PV) (h : pvAt? q v = some w) :
    pvAt? q (nullUploads v) = some (nullUploads w) := by
  induction q generalizing v with
  | nil => simp [pvAt?] at h; subst h; simp [pvAt?]
  | cons s p ih =>
    cases s with
    | idx n =>
      cases v <;> simp [pvAt?] at h
      case list xs =>
        cases hx : xs[n]? with
        | none => simp [hx] at h
        | some x =>
          simp [hx] at h
          simp [nullUploads, pvAt?, nullUploadsList_get, hx, ih x h]
    | key k =>
      cases v <;> simp [pvAt?] at h
      case dict kvs =>
        cases hx : lookupPV k kvs with
        | none => simp [hx] at h
        | some x =>
          simp [hx] at h
          simp [nullUploads, pvAt?, lookupPV_nullUploadsKvs, hx, ih x h]

theorem toJsonList_get {xs : List PV} {js : List J} (h : toJsonList xs = some js) (n : Nat) (x : PV)
    (hx : xs[n]? = some x) : ∃ j, toJson x = some j ∧ js[n]? = some j := by
  induction xs generalizing js n with
  | nil => simp at hx
  | cons y ys ih =>
    simp only [toJsonList] at h
    cases hy : toJson y with
    | none => simp [hy] at h
    | some jy =>
      cases hys : toJsonList ys with
      | none => simp [hy, hys] at h
      | some jys =>
        simp [hy, hys] at h; subst h
        cases n with
        | zero => simp at hx; subst hx; exact ⟨jy, hy, by simp⟩
        | succ m => simpa using ih hys m (by simpa using hx)

theorem toJsonKvs_lookup {kvs : List (String × PV)} {js : List (String × J)} (h : toJsonKvs kvs = some js)
    (k : String) (x : PV) (hx : lookupPV k kvs = some x) : ∃ j, toJson x = some j ∧ J.lookup k js = some j := by
  induction kvs generalizing js with
  | nil => simp [lookupPV] at hx
  | cons kv rest ih =>
    obtain ⟨k', y⟩ := kv
    simp only [toJsonKvs] at h
    cases hy : toJson y with
    | none => simp [hy] at h
    | some jy =>
      cases hys : toJsonKvs rest with
      | none => simp [hy, hys] at h
      | some jys =>
        simp [hy, hys] at h; subst h
        by_cases hk : k' = k
        · simp [lookupPV, hk] at hx; subst hx; exact ⟨jy, hy, by simp [J.lookup, hk]⟩
        · simp [lookupPV, hk] at hx
          simpa [J.lookup, hk] using ih hys hx

theorem jAt_toJson (q : Path) (v w : PV) (j : J) (hj : toJson v = some j) (h : pvAt? q v = some w) :
    ∃ j', toJson w = some j' ∧ jAt? q j = some j' := by
  induction q generalizing v j with
  | nil => simp [pvAt?] at h; subst h; exact ⟨j, hj, by simp [jAt?]⟩
  | cons s p ih =>
    cases s with
    | idx n =>
      cases v <;> simp [pvAt?] at h
      case list xs =>
        cases hx : xs[n]? with
        | none => simp [hx] at h
        | some x =>
          simp [hx] at h
          simp only [toJson] at hj
          cases hjs : toJsonList xs with
          | none => simp [hjs] at hj
          | some js =>
            simp [hjs] at hj; subst hj
            obtain ⟨jx, h1, h2⟩ := toJsonList_get hjs n x hx
            obtain ⟨j', h3, h4⟩ := ih x jx h1 h
            exact ⟨j', h3, by simp [jAt?, h2, h4]⟩
    | key k =>
      cases v <;> simp [pvAt?] at h
      case dict kvs =>
        cases hx : lookupPV k kvs with
        | none => simp [hx] at h
        | some x =>
          simp [hx] at h
          simp only [toJson] at hj
          cases hjs : toJsonKvs kvs with
          | none => simp [hjs] at hj
          | some js =>
            simp [hjs] at hj; subst hj
            obtain ⟨jx, h1, h2⟩ := toJsonKvs_lookup hjs k x hx
            obtain ⟨j', h3, h4⟩ := ih x jx h1 h
            exact ⟨j', h3, by simp [jAt?, h2, h4]⟩

mutual
theorem noUpload_nullUploads (v : PV) : noUpload (nullUploads v) = true := by
  cases v with
  | list xs => simp [nullUploads, noUpload, noUploadList_nullUploads xs]
  | dict kvs => simp [nullUploads, noUpload, noUploadKvs_nullUploads kvs]
  | _ => simp [nullUploads, noUpload]
theorem noUploadList_nullUploads (xs : List PV) : noUploadList (nullUploadsList xs) = true := by
  cases xs with
  | nil => simp [nullUploadsList, noUploadList]
  | cons x xs => simp [nullUploadsList, noUploadList, noUpload_nullUploads x, noUploadList_nullUploads xs]
theorem noUploadKvs_nullUploads (kvs : List (String × PV)) : noUploadKvs (nullUploadsKvs kvs) = true := by
  cases kvs with
  | nil => simp [nullUploadsKvs, noUploadKvs]
  | cons kv rest =>
    obtain ⟨k, x⟩ := kv
    simp [nullUploadsKvs, noUploadKvs, noUpload_nullUploads x, noUploadKvs_nullUploads rest]
end

mutual
theorem upos_of_noUpload (v : PV) (h : noUpload v = true) : upos v = [] := by
  cases v with
  | list xs => simp only [noUpload] at h; simp [upos, uposList_of_noUpload xs h 0]
  | dict kvs => simp only [noUpload] at h; simp [upos, uposKvs_of_noUpload kvs h]
  | upload i => simp [noUpload] at h
  | _ => simp [upos]
theorem uposList_of_noUpload (xs : List PV) (h : noUploadList xs = true) (i : Nat) : uposList i xs = [] := by
  cases xs with
  | nil => simp [uposList]
  | cons x xs =>
    simp only [noUploadList, Bool.and_eq_true] at h
    simp [uposList, upos_of_noUpload x h.1, uposList_of_noUpload xs h.2 (i + 1)]
theorem uposKvs_of_noUpload (kvs : List (String × PV)) (h : noUploadKvs kvs = true) : uposKvs kvs = [] := by
  cases kvs with
  | nil => simp [uposKvs]
  | cons kv rest =>
    obtain ⟨k, x⟩ := kv
    simp only [noUploadKvs, Bool.and_eq_true] at h
    simp [uposKvs, upos_of_noUpload x h.1, uposKvs_of_noUpload rest h.2]
end

mutual
theorem toJson_nullUploads_isSome (v : PV) (hs : ser v = true) (hh : hidden v = false) :
    (toJson (nullUploads v)).isSome = true := by
  cases v with
  | list xs =>
    simp only [ser] at hs; simp only [hidden] at hh
    have := toJsonList_nullUploads_isSome xs hs hh
    simp only [nullUploads, toJson]
    cases h : toJsonList (nullUploadsList xs) <;> simp [h] at this ⊢
  | dict kvs =>
    simp only [ser] at hs; simp only [hidden] at hh
    have := toJsonKvs_nullUploads_isSome kvs hs hh
    simp only [nullUploads, toJson]
    cases h : toJsonKvs (nullUploadsKvs kvs) <;> simp [h] at this ⊢
  | model d j =>
    simp only [ser, Bool.and_eq_true, Bool.or_eq_true, Bool.not_eq_true'] at hs
    simp only [hidden, Bool.not_eq_false'] at hh
    rcases hs.2 with h | h
    · simpa [nullUploads, toJson] using h
    · rw [hh] at h; cases h
  | unset => simp [ser] at hs
  | leaf j => simpa [nullUploads, toJson, ser] using hs
  | none => simp [nullUploads, toJson]
  | bool b => simp [nullUploads, toJson]
  | num m e => simp [nullUploads, toJson]
  | str s => simp [nullUploads, toJson]
  | upload i => simp [nullUploads, toJson]
theorem toJsonList_nullUploads_isSome (xs : List PV) (hs : serList xs = true) (hh : hiddenList xs = false) :
    (toJsonList (nullUploadsList xs)).isSome = true := by
  cases xs with
  | nil => simp [nullUploadsList, toJsonList]
  | cons x xs =>
    simp only [serList, Bool.and_eq_true] at hs
    simp only [hiddenList, Bool.or_eq_false_iff] at hh
    have h1 := toJson_nullUploads_isSome x hs.1 hh.1
    have h2 := toJsonList_nullUploads_isSome xs hs.2 hh.2
    simp only [nullUploadsList, toJsonList]
    cases e1 : toJson (nullUploads x) <;> cases e2 : toJsonList (nullUploadsList xs) <;> simp [e1, e2] at h1 h2 ⊢
theorem toJsonKvs_nullUploads_isSome (kvs : List (String × PV)) (hs : serKvs kvs = true) (hh : hiddenKvs kvs = false) :
    (toJsonKvs (nullUploadsKvs kvs)).isSome = true := by
  cases kvs with
  | nil => simp [nullUploadsKvs, toJsonKvs]
  | cons kv rest =>
    obtain ⟨k, x⟩ := kv
    simp only [serKvs, Bool.and_eq_true] at hs
    simp only [hiddenKvs, Bool.or_eq_false_iff] at hh
    have h1 := toJson_nullUploads_isSome x hs.1 hh.1
    have h2 := toJsonKvs_nullUploads_isSome rest hs.2 hh.2
    simp only [nullUploadsKvs, toJsonKvs]
    cases e1 : toJson (nullUploads x) <;> cases e2 : toJsonKvs (nullUploadsKvs rest) <;> simp [e1, e2] at h1 h2 ⊢
end


/-! ### the ideal tree (models expanded everywhere) versus the tree `separate_files` walks -/

mutual
theorem expand_of_noModel (v : PV) (h : noModel v = true) : expand v = v := by
  cases v with
  | list xs => simp only [noModel] at h; simp [expand, expandList_of_noModel xs h]
  | dict kvs => simp only [noModel] at h; simp [expand, expandKvs_of_noModel kvs h]
  | model d j => simp [noModel] at h
  | _ => simp [expand]
theorem expandList_of_noModel (xs : List PV) (h : noModelList xs = true) : expandList xs = xs := by
  cases xs with
  | nil => simp [expandList]
  | cons x xs =>
    simp only [noModelList, Bool.and_eq_true] at h
    simp [expandList, expand_of_noModel x h.1, expandList_of_noModel xs h.2]
theorem expandKvs_of_noModel (kvs : List (String × PV)) (h : noModelKvs kvs = true) : expandKvs kvs = kvs := by
  cases kvs with
  | nil => simp [expandKvs]
  | cons kv rest =>
    obtain ⟨k, x⟩ := kv
    simp only [noModelKvs, Bool.and_eq_true] at h
    simp [expandKvs, expand_of_noModel x h.1, expandKvs_of_noModel rest h.2]
end

mutual
theorem hidden_of_noModel (v : PV) (h : noModel v = true) : hidden v = false := by
  cases v with
  | list xs => simp only [noModel] at h; simp [hidden, hiddenList_of_noModel xs h]
  | dict kvs => simp only [noModel] at h; simp [hidden, hiddenKvs_of_noModel kvs h]
  | model d j => simp [noModel] at h
  | _ => simp [hidden]
theorem hiddenList_of_noModel (xs : List PV) (h : noModelList xs = true) : hiddenList xs = false := by
  cases xs with
  | nil => simp [hiddenList]
  | cons x xs =>
    simp only [noModelList, Bool.and_eq_true] at h
    simp [hiddenList, hidden_of_noModel x h.1, hiddenList_of_noModel xs h.2]
theorem hiddenKvs_of_noModel (kvs : List (String × PV)) (h : noModelKvs kvs = true) : hiddenKvs kvs = false := by
  cases kvs with
  | nil => simp [hiddenKvs]
  | cons kv rest =>
    obtain ⟨k, x⟩ := kv
    simp only [noModelKvs, Bool.and_eq_true] at h
    simp [hiddenKvs, hidden_of_noModel x h.1, hiddenKvs_of_noModel rest h.2]
end

/- below a raw dict: nothing is dumped, and if no model there holds an Upload nothing is missed -/
mutual
theorem upos_expand_raw (v : PV) (hp : plain v = true) (hh : hidden v = false) : upos (expand v) = upos v := by
  cases v with
  | list xs => simp only [plain] at hp; simp only [hidden] at hh; simp [expand, upos, uposList_expand_raw xs hp hh 0]
  | dict kvs => simp only [plain] at hp; simp only [hidden] at hh; simp [expand, upos, uposKvs_expand_raw kvs hp hh]
  | model d j =>
    simp only [plain] at hp
    simp only [hidden, Bool.not_eq_false', List.isEmpty_iff] at hh
    simp [expand, expand_of_noModel d hp, hh, upos]
  | _ => simp [expand]
theorem uposList_expand_raw (xs : List PV) (hp : plainList xs = true) (hh : hiddenList xs = false) (i : Nat) :
    uposList i (expandList xs) = uposList i xs := by
  cases xs with
  | nil => simp [expandList]
  | cons x xs =>
    simp only [plainList, Bool.and_eq_true] at hp
    simp only [hiddenList, Bool.or_eq_false_iff] at hh
    simp [expandList, uposList, upos_expand_raw x hp.1 hh.1, uposList_expand_raw xs hp.2 hh.2 (i + 1)]
theorem uposKvs_expand_raw (kvs : List (String × PV)) (hp : plainKvs kvs = true) (hh : hiddenKvs kvs = false) :
    uposKvs (expandKvs kvs) = uposKvs kvs := by
  cases kvs with
  | nil => simp [expandKvs]
  | cons kv rest =>
    obtain ⟨k, x⟩ := kv
    simp only [plainKvs, Bool.and_eq_true] at hp
    simp only [hiddenKvs, Bool.or_eq_false_iff] at hh
    simp [expandKvs, uposKvs, upos_expand_raw x hp.1 hh.1, uposKvs_expand_raw rest hp.2 hh.2]
end

/- at top level and through lists `_convert_value` dumps exactly what the ideal tree expands -/
mutual
theorem upos_expand_convert (v : PV) (hp : plain v = true) (hh : hiddenTop v = false) :
    upos (expand v) = upos (convertValue v) := by
  cases v with
  | list xs =>
    simp only [plain] at hp; simp only [hiddenTop] at hh
    simp [expand, convertValue, upos, uposList_expand_convert xs hp hh 0]
  | dict kvs =>
    simp only [plain] at hp; simp only [hiddenTop] at hh
    simp [expand, convertValue, upos, uposKvs_expand_raw kvs hp hh]
  | model d j =>
    simp only [plain] at hp
    simp [expand, convertValue, expand_of_noModel d hp]
  | _ => simp [expand, convertValue]
theorem uposList_expand_convert (xs : List PV) (hp : plainList xs = true) (hh : hiddenTopList xs = false) (i : Nat) :
    uposList i (expandList xs) = uposList i (convertList xs) := by
  cases xs with
  | nil => simp [expandList, convertList]
  | cons x xs =>
    simp only [plainList, Bool.and_eq_true] at hp
    simp only [hiddenTopList, Bool.or_eq_false_iff] at hh
    simp [expandList, convertList, uposList, upos_expand_convert x hp.1 hh.1, uposList_expand_convert xs hp.2 hh.2 (i + 1)]
end

theorem uposKvs_ideal (kvs : List (String × PV)) (hp : plainKvs kvs = true) (hh : hiddenTopKvs kvs = false) :
    uposKvs (expandKvs (dropUnset kvs)) = uposKvs (convertDict kvs) := by
  induction kvs with
  | nil => simp [dropUnset, expandKvs, convertDict]
  | cons kv rest ih =>
    obtain ⟨k, x⟩ := kv
    simp only [plainKvs, Bool.and_eq_true] at hp
    simp only [hiddenTopKvs, Bool.or_eq_false_iff] at hh
    by_cases hu : x.isUnset = true
    · simp [dropUnset, convertDict, hu, ih hp.2 hh.2]
    · simp [dropUnset, convertDict, hu, expandKvs, uposKvs, upos_expand_convert x hp.1 hh.1, ih hp.2 hh.2]

mutual
theorem toJson_convert_isSome (v : PV) (hs : ser v = true) (hp : plain v = true) (hh : hiddenTop v = false) :
    (toJson (nullUploads (convertValue v))).isSome = true := by
  cases v with
  | list xs =>
    simp only [ser] at hs; simp only [plain] at hp; simp only [hiddenTop] at hh
    have := toJsonList_convert_isSome xs hs hp hh
    simp only [convertValue, nullUploads, toJson]
    cases h : toJsonList (nullUploadsList (convertList xs)) <;> simp [h] at this ⊢
  | dict kvs =>
    simp only [hiddenTop] at hh
    simpa [convertValue] using toJson_nullUploads_isSome (.dict kvs) hs (by simpa [hidden] using hh)
  | model d j =>
    simp only [ser, Bool.and_eq_true] at hs
    simp only [plain] at hp
    simpa [convertValue] using toJson_nullUploads_isSome d hs.1 (hidden_of_noModel d hp)
  | unset => simp [ser] at hs
  | leaf j => simpa [convertValue, nullUploads, toJson, ser] using hs
  | none => simp [convertValue, nullUploads, toJson]
  | bool b => simp [convertValue, nullUploads, toJson]
  | num m e => simp [convertValue, nullUploads, toJson]
  | str s => simp [convertValue, nullUploads, toJson]
  | upload i => simp [convertValue, nullUploads, toJson]
theorem toJsonList_convert_isSome (xs : List PV) (hs : serList xs = true) (hp : plainList xs = true)
    (hh : hiddenTopList xs = false) : (toJsonList (nullUploadsList (convertList xs))).isSome = true := by
  cases xs with
  | nil => simp [convertList, nullUploadsList, toJsonList]
  | cons x xs =>
    simp only [serList, Bool.and_eq_true] at hs
    simp only [plainList, Bool.and_eq_true] at hp
    simp only [hiddenTopList, Bool.or_eq_false_iff] at hh
    have h1 := toJson_convert_isSome x hs.1 hp.1 hh.1
    have h2 := toJsonList_convert_isSome xs hs.2 hp.2 hh.2
    simp only [convertList, nullUploadsList, toJsonList]
    cases e1 : toJson (nullUploads (convertValue x)) <;>
      cases e2 : toJsonList (nullUploadsList (convertList xs)) <;> simp [e1, e2] at h1 h2 ⊢
end

theorem toJsonKvs_convertDict_isSome (kvs : List (String × PV)) (hs : serTop kvs = true) (hp : plainKvs kvs = true)
    (hh : hiddenTopKvs kvs = false) : (toJsonKvs (nullUploadsKvs (convertDict kvs))).isSome = true := by
  induction kvs with
  | nil => simp [convertDict, nullUploadsKvs, toJsonKvs]
  | cons kv rest ih =>
    obtain ⟨k, x⟩ := kv
    simp only [serTop, Bool.and_eq_true, Bool.or_eq_true] at hs
    simp only [plainKvs, Bool.and_eq_true] at hp
    simp only [hiddenTopKvs, Bool.or_eq_false_iff] at hh
    have h2 := ih hs.2 hp.2 hh.2
    by_cases hu : x.isUnset = true
    · simpa [convertDict, hu] using h2
    · have hsx : ser x = true := by rcases hs.1 with h | h; exact absurd h hu; exact h
      have h1 := toJson_convert_isSome x hsx hp.1 hh.1
      simp only [convertDict, hu, Bool.false_eq_true, if_false, nullUploadsKvs, toJsonKvs]
      cases e1 : toJson (nullUploads (convertValue x)) <;>
        cases e2 : toJsonKvs (nullUploadsKvs (convertDict rest)) <;> simp [e1, e2] at h1 h2 ⊢


/-! ### `headers.update(kwargs.get("headers", {}))` -/

def lookupS (k : String) : List (String × String) → Option String
  | [] => none
  | (k', v) :: rest => if k' = k then some v else lookupS k rest

theorem headerKeys_eq_map (l : List (String × String)) : headerKeys l = l.map (·.1) := by
  induction l with
  | nil => rfl
  | cons kv rest ih => obtain ⟨k, v⟩ := kv; simp [headerKeys, ih]

theorem lookupS_eq (k : String) (l : List (String × String)) : lookupS k l = l.lookup k :=
  Lists.eq_lookup_of_eqns lookupS (fun _ => rfl) (fun _ _ _ _ => rfl) k l

theorem mem_headerKeys_of_mem {k v : String} {l : List (String × String)} (h : (k, v) ∈ l) : k ∈ headerKeys l :=
  headerKeys_eq_map l ▸ List.mem_map.mpr ⟨_, h, rfl⟩

theorem lookupS_none {k : String} {l : List (String × String)} (h : k ∉ headerKeys l) : lookupS k l = none :=
  lookupS_eq k l ▸ Lists.lookup_none_iff.mpr (headerKeys_eq_map l ▸ h)

theorem lookupS_of_mem {k v : String} {l : List (String × String)} (hd : distinct (headerKeys l) = true)
    (h : (k, v) ∈ l) : lookupS k l = some v :=
  lookupS_eq k l ▸ Lists.lookup_of_mem_nodup (headerKeys_eq_map l ▸ (distinct_iff _).mp hd) h

theorem dictSet_of_not_mem (k v : String) (l : List (String × String)) (h : k ∉ headerKeys l) :
    dictSet k v l = l ++ [(k, v)] := by
  induction l with
  | nil => rfl
  | cons kv rest ih =>
    obtain ⟨k', v'⟩ := kv
    simp only [headerKeys, List.mem_cons, not_or] at h
    have : ¬ k' = k := fun e => h.1 e.symm
    simp [dictSet, this, ih h.2]

def dropKey (c : String) : List (String × String) → List (String × String)
  | [] => []
  | (k, v) :: rest => if k = c then dropKey c rest else (k, v) :: dropKey c rest

/-- closed form of `{c: a, **acc}.update(caller)` for a caller dict (unique keys) -/
theorem dictUpdate_closed (c : String) (caller : List (String × String)) :
    ∀ (a : String) (acc : List (String × String)), distinct (headerKeys caller) = true →
      (∀ k ∈ headerKeys acc, k ≠ c ∧ k ∉ headerKeys caller) →
      dictUpdate ((c, a) :: acc) caller = (c, (lookupS c caller).getD a) :: (acc ++ dropKey c caller) := by
  induction caller with
  | nil => intro a acc _ _; simp [dictUpdate, lookupS, dropKey]
  | cons kv rest ih =>
    obtain ⟨k, v⟩ := kv
    intro a acc hd hacc
    simp only [headerKeys, distinct, Bool.and_eq_true, Bool.not_eq_true', List.contains_eq_mem,
      decide_eq_false_iff_not] at hd
    by_cases hk : k = c
    · subst hk
      have h1 : dictSet k v ((k, a) :: acc) = (k, v) :: acc := by simp [dictSet]
      have h2 := ih v acc hd.2 (fun k' hk' => ⟨(hacc k' hk').1, fun hm => (hacc k' hk').2 (by simp [headerKeys, hm])⟩)
      simp only [dictUpdate, h1, h2, lookupS_none hd.1, Option.getD_none, lookupS, if_true, Option.getD_some, dropKey]
    · have hkacc : k ∉ headerKeys acc := fun hm => (hacc k hm).2 (by simp [headerKeys])
      have hck : ¬ c = k := fun e => hk e.symm
      have h1 : dictSet k v ((c, a) :: acc) = (c, a) :: (acc ++ [(k, v)]) := by
        simp [dictSet, hck, dictSet_of_not_mem k v acc hkacc]
      have hacc' : ∀ k' ∈ headerKeys (acc ++ [(k, v)]), k' ≠ c ∧ k' ∉ headerKeys rest := by
        intro k' hk'
        have : k' ∈ headerKeys acc ∨ k' = k := by
          rw [headerKeys_eq_map] at hk' ⊢
          simpa only [List.map_append, List.mem_append, List.map_cons, List.map_nil, List.mem_singleton] using hk'
        rcases this with h | h
        · exact ⟨(hacc k' h).1, fun hm => (hacc k' h).2 (by simp [headerKeys, hm])⟩
        · subst h; exact ⟨hk, hd.1⟩
      have h2 := ih a (acc ++ [(k, v)]) hd.2 hacc'
      simp only [dictUpdate, h1, h2, lookupS, hk, if_false, dropKey, List.append_assoc, List.singleton_append]

theorem headerKeys_dropKey {c k : String} {l : List (String × String)} (h : k ∈ headerKeys (dropKey c l)) :
    k ∈ headerKeys l ∧ k ≠ c := by
  induction l with
  | nil => simp [dropKey, headerKeys] at h
  | cons kv rest ih =>
    obtain ⟨k', v'⟩ := kv
    by_cases hk : k' = c
    · simp only [dropKey, hk, if_true] at h
      exact ⟨by simp [headerKeys, (ih h).1], (ih h).2⟩
    · simp only [dropKey, hk, if_false, headerKeys, List.mem_cons] at h
      rcases h with h | h
      · subst h; exact ⟨by simp [headerKeys], hk⟩
      · exact ⟨by simp [headerKeys, (ih h).1], (ih h).2⟩

theorem lookupS_dropKey {c k : String} (l : List (String × String)) (h : k ≠ c) :
    lookupS k (dropKey c l) = lookupS k l := by
  induction l with
  | nil => rfl
  | cons kv rest ih =>
    obtain ⟨k', v'⟩ := kv
    by_cases hk : k' = c
    · simp [dropKey, hk, lookupS, ih]
      intro e; exact absurd e.symm h
    · by_cases hk2 : k' = k
      · subst hk2; simp [dropKey, hk, lookupS]
      · simp [dropKey, hk, lookupS, hk2, ih]

/-! ### the same on the wire: HTTP field names are case-insensitive -/

theorem fieldValues_none {name : String} {l : List (String × String)}
    (h : ∀ k ∈ headerKeys l, lowerName k ≠ lowerName name) : fieldValues name l = [] := by
  induction l with
  | nil => rfl
  | cons kv rest ih =>
    obtain ⟨k', v'⟩ := kv
    have h1 := h k' (by simp [headerKeys])
    simp [fieldValues, h1, ih (fun k hk => h k (by simp [headerKeys, hk]))]

theorem fieldValues_of_mem {k v : String} {l : List (String × String)} (hd : ciDistinct l = true)
    (h : (k, v) ∈ l) : fieldValues k l = [v] := by
  induction l with
  | nil => cases h
  | cons kv rest ih =>
    obtain ⟨k', v'⟩ := kv
    simp only [ciDistinct, Bool.and_eq_true, Bool.not_eq_true', List.contains_eq_mem,
      decide_eq_false_iff_not, List.mem_map, not_exists, not_and] at hd
    rcases List.mem_cons.mp h with h | h
    · cases h
      have : fieldValues k rest = [] := fieldValues_none (fun k2 hk2 e => hd.1 k2 hk2 e)
      simp [fieldValues, this]
    · have hne : lowerName k' ≠ lowerName k := fun e => hd.1 k (mem_headerKeys_of_mem h) e.symm
      simp [fieldValues, hne, ih hd.2 h]

theorem distinct_of_ciDistinct {l : List (String × String)} (h : ciDistinct l = true) :
    distinct (headerKeys l) = true := by
  induction l with
  | nil => rfl
  | cons kv rest ih =>
    obtain ⟨k', v'⟩ := kv
    simp only [ciDistinct, Bool.and_eq_true, Bool.not_eq_true', List.contains_eq_mem,
      decide_eq_false_iff_not, List.mem_map, not_exists, not_and] at h
    simp only [headerKeys, distinct, Bool.and_eq_true, Bool.not_eq_true', List.contains_eq_mem,
      decide_eq_false_iff_not]
    exact ⟨fun hm => h.1 k' hm rfl, ih h.2⟩

theorem fieldValues_dropKey {c k : String} (l : List (String × String)) (h : lowerName k ≠ lowerName c) :
    fieldValues k (dropKey c l) = fieldValues k l := by
  induction l with
  | nil => rfl
  | cons kv rest ih =>
    obtain ⟨k', v'⟩ := kv
    by_cases hk : k' = c
    · simp [dropKey, hk, fieldValues, ih]
      intro e; exact absurd e.symm h
    · by_cases h2 : lowerName k' = lowerName k <;> simp [dropKey, hk, fieldValues, h2, ih]

theorem not_otherSpelling {hs : Option (List (String × String))} (h : ctOtherSpelling hs = false) :
    ∀ k ∈ headerKeys (hs.getD []), lowerName k = lowerName "Content-Type" → k = "Content-Type" := by
  intro k hk e
  simp only [ctOtherSpelling, List.any_eq_false, Bool.and_eq_true, decide_eq_true_eq, bne_iff_ne, ne_eq,
    not_and, Decidable.not_not] at h
  exact h k hk e


/-- the tree `separate_files` walks -/
def treeOf (vars : Option (List (String × PV))) : List (String × PV) := convertDict (vars.getD [])

theorem processVariables_eq (vars : Option (List (String × PV))) :
    processVariables vars = (nullUploadsKvs (treeOf vars), collect "variables" (uposKvs (treeOf vars)) []) := by
  cases vars with
  | none => simp [processVariables, treeOf, convertDict, nullUploadsKvs, uposKvs, collect]
  | some kvs =>
    cases kvs with
    | nil => simp [processVariables, treeOf, convertDict, nullUploadsKvs, uposKvs, collect]
    | cons kv rest => simp [processVariables, treeOf, sepDict_eq]

theorem addPath_ne_nil (u : Nat) (p : String) (st : List Entry) : addPath u p st ≠ [] := by
  cases st with
  | nil => simp [addPath]
  | cons e es => by_cases h : e.id = u <;> simp [addPath, h]

theorem collect_ne_nil (base : String) (ps : List (Path × Nat)) (st : List Entry) (h : st ≠ []) :
    collect base ps st ≠ [] := by
  induction ps generalizing st with
  | nil => exact h
  | cons pu rest ih => exact ih _ (addPath_ne_nil _ _ _)

theorem collect_isEmpty (base : String) (ps : List (Path × Nat)) :
    (collect base ps []).isEmpty = ps.isEmpty := by
  cases ps with
  | nil => rfl
  | cons pu rest =>
    have : collect base (pu :: rest) [] ≠ [] := collect_ne_nil base rest _ (addPath_ne_nil pu.2 (render base pu.1) [])
    cases h : collect base (pu :: rest) [] with
    | nil => exact absurd h this
    | cons _ _ => rfl

theorem ids_collect (base : String) (ps : List (Path × Nat)) :
    ids (collect base ps []) = firstOcc (ps.map (·.2)) := by
  rw [collect_eq_collectG, ids_collectG, dedupG_identity]
  simp [ids]

theorem pathsOf_collect (base : String) (u : Nat) (ps : List (Path × Nat)) :
    pathsOf u (collect base ps []) = (ps.filter (fun pu => pu.2 = u)).map (fun pu => render base pu.1) := by
  rw [pathsOf_collect_from]; rfl

theorem pathsOf_of_mem {e : Entry} {st : List Entry} (hn : (ids st).Nodup) (h : e ∈ st) : pathsOf e.id st = e.paths := by
  induction st with
  | nil => cases h
  | cons e' es ih =>
    have hn' : e'.id ∉ ids es ∧ (ids es).Nodup := by simpa [ids] using hn
    rcases List.mem_cons.mp h with h | h
    · subst h; simp [pathsOf]
    · have : ¬ e'.id = e.id := fun eq => hn'.1 (eq ▸ List.mem_map_of_mem h)
      simp [pathsOf, this, ih hn'.2 h]

theorem telemetry_eq_plain (cl : Client) (c : Call) : executeWithTelemetry cl c = executePlain cl c := by
  unfold executeWithTelemetry executePlain
  cases h : toJsonKvs (processVariables c.variables).1 with
  | some vs => simp [h]
  | none => simp [executeJson, executeMultipart, body, h]

theorem executePlain_unserialisable (cl : Client) (c : Call) (h : toJsonKvs (processVariables c.variables).1 = none) :
    executePlain cl c = .serializationError := by
  simp only [executePlain]
  split <;> simp [executeJson, executeMultipart, body, h]

theorem execute_snd (cl : Client) (c : Call) : (execute cl c).2 = executePlain cl c := by
  unfold execute
  split <;> simp [telemetry_eq_plain]

theorem execute_fst (cl : Client) (c : Call) : (execute cl c).1 = cl := by
  unfold execute
  split <;> rfl

theorem executePlain_url (cl cl' : Client) (c : Call) (h : cl'.url = cl.url) : executePlain cl' c = executePlain cl c := by
  simp [executePlain, executeJson, executeMultipart, h]

mutual
theorem uniq_convertValue (v : PV) (h : uniq v = true) : uniq (convertValue v) = true := by
  cases v with
  | list xs => simp only [uniq] at h; simp [convertValue, uniq, uniqList_convertList xs h]
  | model d j => simpa [convertValue, uniq] using h
  | dict kvs => simpa [convertValue] using h
  | _ => simp [convertValue, uniq]
theorem uniqList_convertList (xs : List PV) (h : uniqList xs = true) : uniqList (convertList xs) = true := by
  cases xs with
  | nil => simp [convertList, uniqList]
  | cons x xs =>
    simp only [uniqList, Bool.and_eq_true] at h
    simp [convertList, uniqList, uniq_convertValue x h.1, uniqList_convertList xs h.2]
end

theorem mem_keysOf_convertDict {k : String} {kvs : List (String × PV)} (h : k ∈ keysOf (convertDict kvs)) :
    k ∈ keysOf kvs := by
  induction kvs with
  | nil => simpa [convertDict] using h
  | cons kv rest ih =>
    obtain ⟨k', x⟩ := kv
    by_cases hu : x.isUnset = true
    · simp only [convertDict, hu, if_true] at h
      simp [keysOf, ih h]
    · simp only [convertDict, hu, Bool.false_eq_true, if_false, keysOf, List.mem_cons] at h
      rcases h with h | h
      · simp [keysOf, h]
      · simp [keysOf, ih h]

theorem uniq_tree (kvs : List (String × PV)) (hd : distinct (keysOf kvs) = true) (hu : uniqKvs kvs = true) :
    uniq (.dict (convertDict kvs)) = true := by
  simp only [uniq, Bool.and_eq_true]
  induction kvs with
  | nil => simp [convertDict, keysOf, distinct, uniqKvs]
  | cons kv rest ih =>
    obtain ⟨k, x⟩ := kv
    simp only [keysOf, distinct, Bool.and_eq_true, Bool.not_eq_true', List.contains_eq_mem,
      decide_eq_false_iff_not] at hd
    simp only [uniqKvs, Bool.and_eq_true] at hu
    have ih' := ih hd.2 hu.2
    by_cases hx : x.isUnset = true
    · simpa [convertDict, hx] using ih'
    · simp only [convertDict, hx, Bool.false_eq_true, if_false, keysOf, distinct, uniqKvs, Bool.and_eq_true,
        Bool.not_eq_true', List.contains_eq_mem, decide_eq_false_iff_not]
      exact ⟨⟨fun hm => hd.1 (mem_keysOf_convertDict hm), ih'.1⟩, uniq_convertValue x hu.1, ih'.2⟩


theorem nodup_map_cons (s : Seg) (l : List (Path × Nat)) (h : (l.map (·.1)).Nodup) :
    ((l.map (fun pu => (s :: pu.1, pu.2))).map (·.1)).Nodup := by
  have : (l.map (fun pu => (s :: pu.1, pu.2))).map (·.1) = (l.map (·.1)).map (s :: ·) := by simp [List.map_map]
  rw [this]
  exact Lists.nodup_map_of_inj _ _ h fun _ _ _ _ e => (List.cons.inj e).2

mutual
theorem upos_nodup (v : PV) (h : uniq v = true) : ((upos v).map (·.1)).Nodup := by
  cases v with
  | list xs => simp only [uniq] at h; simpa [upos] using uposList_nodup xs h 0
  | dict kvs => simp only [uniq, Bool.and_eq_true] at h; simpa [upos] using uposKvs_nodup kvs h.1 h.2
  | _ => simp [upos]
theorem uposList_nodup (xs : List PV) (h : uniqList xs = true) (i : Nat) : ((uposList i xs).map (·.1)).Nodup := by
  cases xs with
  | nil => simp [uposList]
  | cons x xs =>
    simp only [uniqList, Bool.and_eq_true] at h
    simp only [uposList, List.map_append]
    rw [List.nodup_append]
    refine ⟨nodup_map_cons _ _ (upos_nodup x h.1), uposList_nodup xs h.2 (i + 1), ?_⟩
    intro a ha b hb e
    subst e
    simp only [List.mem_map, Prod.exists, exists_and_right, exists_eq_right] at ha hb
    obtain ⟨u, p, u', _, hp⟩ := ha
    obtain ⟨u2, hb⟩ := hb
    obtain ⟨n, p2, y, hq, _, _⟩ := (uposList_at xs h.2 (i + 1) a u2).mp hb
    rw [hq] at hp
    simp at hp
    omega
theorem uposKvs_nodup (kvs : List (String × PV)) (hd : distinct (keysOf kvs) = true) (h : uniqKvs kvs = true) :
    ((uposKvs kvs).map (·.1)).Nodup := by
  cases kvs with
  | nil => simp [uposKvs]
  | cons kv rest =>
    obtain ⟨k, x⟩ := kv
    simp only [uniqKvs, Bool.and_eq_true] at h
    simp only [keysOf, distinct, Bool.and_eq_true, Bool.not_eq_true', List.contains_eq_mem,
      decide_eq_false_iff_not] at hd
    simp only [uposKvs, List.map_append]
    rw [List.nodup_append]
    refine ⟨nodup_map_cons _ _ (upos_nodup x h.1), uposKvs_nodup rest hd.2 h.2, ?_⟩
    intro a ha b hb e
    subst e
    simp only [List.mem_map, Prod.exists, exists_and_right, exists_eq_right] at ha hb
    obtain ⟨u, p, u', _, hp⟩ := ha
    obtain ⟨u2, hb⟩ := hb
    obtain ⟨k', p2, y, hq, hmem, _⟩ := (uposKvs_at rest h.2 a u2).mp hb
    rw [hq] at hp
    simp at hp
    exact hd.1 (hp.1.1 ▸ mem_keysOf_of_mem hmem)
end

def sfx : Path → List Char
  | [] => []
  | s :: r => '.' :: (s.str.toList ++ sfx r)

theorem render_toList (base : String) (q : Path) : (render base q).toList = base.toList ++ sfx q := by
  induction q generalizing base with
  | nil => simp [render, sfx]
  | cons s r ih =>
    have : (".": String).toList = ['.'] := by decide
    simp [render, sfx, ih, String.toList_append, this]

theorem idx_str_toList (i : Nat) : (Seg.idx i).str.toList = Nat.toDigits 10 i := by
  show (Nat.repr i).toList = _
  exact Nat.toList_repr

theorem seg_dotfree (s : Seg) (h : segOk s = true) : '.' ∉ s.str.toList := by
  cases s with
  | key k =>
    simp only [segOk, keyOk, Bool.and_eq_true, Bool.not_eq_true', List.contains_eq_mem, decide_eq_false_iff_not] at h
    exact h.1
  | idx i =>
    rw [idx_str_toList]
    intro hm
    have := Nat.isDigit_of_mem_toDigits (by decide) (by decide) hm
    revert this; decide

theorem toDigits_inj (i j : Nat) (h : Nat.toDigits 10 i = Nat.toDigits 10 j) : i = j := by
  have := congrArg (fun l => Nat.ofDigitChars 10 l 0) h
  simpa using this

theorem seg_str_inj (s s' : Seg) (h : segOk s = true) (h' : segOk s' = true)
    (e : s.str.toList = s'.str.toList) : s = s' := by
  have key_idx : ∀ (k : String) (i : Nat), keyOk k = true → k.toList = Nat.toDigits 10 i → False := by
    intro k i hk e
    simp only [keyOk, Bool.and_eq_true, List.any_eq_true, Bool.not_eq_true'] at hk
    obtain ⟨c, hc, hnd⟩ := hk.2
    rw [e] at hc
    have := Nat.isDigit_of_mem_toDigits (by decide) (by decide) hc
    rw [hnd] at this; cases this
  cases s with
  | key k =>
    cases s' with
    | key k' => simp only [Seg.str] at e; rw [String.toList_inj.mp e]
    | idx j => exact (key_idx k j h (by rw [← idx_str_toList]; exact e)).elim
  | idx i =>
    cases s' with
    | key k' => exact (key_idx k' i h' (by rw [← idx_str_toList]; exact e.symm)).elim
    | idx j =>
      rw [idx_str_toList, idx_str_toList] at e
      rw [toDigits_inj i j e]

theorem dotfree_split (a a' R R' : List Char) (ha : '.' ∉ a) (ha' : '.' ∉ a')
    (hR : R = [] ∨ ∃ t, R = '.' :: t) (hR' : R' = [] ∨ ∃ t, R' = '.' :: t)
    (e : a ++ R = a' ++ R') : a = a' ∧ R = R' := by
  induction a generalizing a' with
  | nil =>
    cases a' with
    | nil => exact ⟨rfl, by simpa using e⟩
    | cons c t =>
      simp only [List.nil_append, List.cons_append] at e
      rcases hR with h | ⟨t', h⟩
      · rw [h] at e; cases e
      · rw [h] at e
        have : c = '.' := (List.cons.inj e).1.symm
        exact absurd (by simp [this]) ha'
  | cons c t ih =>
    cases a' with
    | nil =>
      simp only [List.nil_append, List.cons_append] at e
      rcases hR' with h | ⟨t', h⟩
      · rw [h] at e; cases e
      · rw [h] at e
        have : c = '.' := (List.cons.inj e).1
        exact absurd (by simp [this]) ha
    | cons c' t' =>
      simp only [List.cons_append, List.cons.injEq] at e
      have := ih t' (fun hm => ha (by simp [hm])) (fun hm => ha' (by simp [hm])) e.2
      exact ⟨by rw [e.1, this.1], this.2⟩

theorem sfx_shape (q : Path) : sfx q = [] ∨ ∃ t, sfx q = '.' :: t := by
  cases q with
  | nil => exact Or.inl rfl
  | cons s r => exact Or.inr ⟨_, rfl⟩

theorem sfx_inj (q q' : Path) (h : pathOk q = true) (h' : pathOk q' = true) (e : sfx q = sfx q') : q = q' := by
  induction q generalizing q' with
  | nil =>
    cases q' with
    | nil => rfl
    | cons s r => simp [sfx] at e
  | cons s r ih =>
    cases q' with
    | nil => simp [sfx] at e
    | cons s' r' =>
      simp only [pathOk, Bool.and_eq_true] at h h'
      simp only [sfx, List.cons.injEq, true_and] at e
      have := dotfree_split _ _ _ _ (seg_dotfree s h.1) (seg_dotfree s' h'.1) (sfx_shape r) (sfx_shape r') e
      rw [seg_str_inj s s' h.1 h'.1 this.1, ih r' h.2 h'.2 this.2]

theorem render_inj (base : String) (q q' : Path) (h : pathOk q = true) (h' : pathOk q' = true)
    (e : render base q = render base q') : q = q' := by
  have := congrArg String.toList e
  rw [render_toList, render_toList] at this
  exact sfx_inj q q' h h' (List.append_cancel_left this)

mutual
theorem upos_pathOk (v : PV) (h : keysOk v = true) : ∀ pu ∈ upos v, pathOk pu.1 = true := by
  cases v with
  | list xs => simp only [keysOk] at h; simpa [upos] using uposList_pathOk xs h 0
  | dict kvs => simp only [keysOk] at h; simpa [upos] using uposKvs_pathOk kvs h
  | upload i => simp [upos, pathOk]
  | _ => simp [upos]
theorem uposList_pathOk (xs : List PV) (h : keysOkList xs = true) (i : Nat) :
    ∀ pu ∈ uposList i xs, pathOk pu.1 = true := by
  cases xs with
  | nil => simp [uposList]
  | cons x xs =>
    simp only [keysOkList, Bool.and_eq_true] at h
    intro pu hm
    simp only [uposList, List.mem_append, List.mem_map] at hm
    rcases hm with ⟨pu', hm, rfl⟩ | hm
    · simp [pathOk, segOk, upos_pathOk x h.1 pu' hm]
    · exact uposList_pathOk xs h.2 (i + 1) pu hm
theorem uposKvs_pathOk (kvs : List (String × PV)) (h : keysOkKvs kvs = true) :
    ∀ pu ∈ uposKvs kvs, pathOk pu.1 = true := by
  cases kvs with
  | nil => simp [uposKvs]
  | cons kv rest =>
    obtain ⟨k, x⟩ := kv
    simp only [keysOkKvs, Bool.and_eq_true] at h
    intro pu hm
    simp only [uposKvs, List.mem_append, List.mem_map] at hm
    rcases hm with ⟨pu', hm, rfl⟩ | hm
    · simp [pathOk, segOk, h.1.1, upos_pathOk x h.1.2 pu' hm]
    · exact uposKvs_pathOk rest h.2 pu hm
end


theorem rendered_nodup (base : String) (v : PV) (hu : uniq v = true) (hk : keysOk v = true) :
    ((upos v).map (fun pu => render base pu.1)).Nodup := by
  have : (upos v).map (fun pu => render base pu.1) = ((upos v).map (·.1)).map (render base) := by
    simp [List.map_map, Function.comp_def]
  rw [this]
  refine Lists.nodup_map_of_inj _ _ (upos_nodup v hu) fun a ha b hb e => ?_
  obtain ⟨pa, hpa, rfl⟩ := List.mem_map.mp ha
  obtain ⟨pb, hpb, rfl⟩ := List.mem_map.mp hb
  exact render_inj base _ _ (upos_pathOk v hk pa hpa) (upos_pathOk v hk pb hpb) e

end Ariadne.BaseClient
