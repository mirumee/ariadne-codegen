/-
  C14: `get_formatted_variables` / `_combine_variables` over annotated trees.

  `get_formatted_variables` (since dfbc7ef) merges, recursively, the `formatted_variables` of EVERY object
  of the tree with `dict.update`.  Over a pristine store the result is a pure function of the annotated
  tree (`gfPure`: class-level leaves contribute nothing) and the fuel `to_ast` got by with is enough for
  it; when the variable names of the tree are pairwise distinct - which `to_ast` guarantees per top-level
  field, and ¬F5 across fields - that dict is just the pre-order concatenation `fmtAll`, at ANY depth.
  And a dict with distinct keys answers every lookup with the entry itself.
-/
import AriadneModel.Proofs.C14Bound
import AriadneModel.Proofs.ListLemmas

namespace Ariadne.C14
open Ariadne.Builder Ariadne.BuilderDoc

def unames (l : List FVar) : List String := l.map (·.uname)

theorem unames_append (a b : List FVar) : unames (a ++ b) = unames a ++ unames b := by simp [unames]

theorem dictUpdate_fresh (d : List FVar) (x : FVar) (h : x.uname ∉ unames d) : dictUpdate d x = d ++ [x] := by
  unfold dictUpdate
  have : d.any (fun y => y.uname == x.uname) = false := by
    rw [List.any_eq_false]
    intro y hy
    simp only [beq_iff_eq]
    intro he
    exact h (by simp [unames]; exact ⟨y, hy, he⟩)
  simp [this]

theorem dictUpdateAll_fresh : ∀ (xs d : List FVar), (unames (d ++ xs)).Nodup → dictUpdateAll d xs = d ++ xs := by
  intro xs
  induction xs with
  | nil => intro d _; simp [dictUpdateAll]
  | cons x xs ih =>
    intro d h
    have hx : x.uname ∉ unames d := by
      rw [unames_append, List.nodup_append] at h
      intro hm
      exact h.2.2 _ hm x.uname (by simp [unames]) rfl
    have := ih (d ++ [x]) (by simpa [List.append_assoc] using h)
    simp only [dictUpdateAll, List.foldl_cons] at this ⊢
    rw [dictUpdate_fresh d x hx, this]
    simp

mutual
  /-- what `get_formatted_variables` returns for an annotated tree whose class-level leaves are pristine -/
  def gfPure : Node → List FVar
    | .obj r subs frags => gfPureFrags (gfPureList r.formatted subs) frags
    | .ref _ => []
  def gfPureList : List FVar → List Node → List FVar
    | d, [] => d
    | d, n :: ns => gfPureList (dictUpdateAll d (gfPure n)) ns
  def gfPureFrags : List FVar → List Frag → List FVar
    | d, [] => d
    | d, .mk _ ns :: fs => gfPureFrags (gfPureList d ns) fs
end

def Qg (fuel : Nat) (st : Store) (_ : Node) (_ : Sel) (n' : Node) : Prop :=
  getFormatted fuel st n' = .ok (gfPure n')

theorem gfvList_pure {g : GVisit} {Q : Node → Sel → Node → Prop} (hQ : ∀ n s n', Q n s n' → g n' = .ok (gfPure n')) :
    ∀ {ns ss ns'}, All3 Q ns ss ns' → ∀ d, gfvList g d ns' = .ok (gfPureList d ns') := by
  intro ns ss ns' h
  induction h with
  | nil => intro d; rfl
  | cons q _ ih =>
    intro d
    simp only [gfvList, hQ _ _ _ q, gfPureList, ih]

theorem gfvFrags_pure {g : GVisit} {Q : Node → Sel → Node → Prop} (hQ : ∀ n s n', Q n s n' → g n' = .ok (gfPure n')) :
    ∀ {fs ss fs'}, AllF Q fs ss fs' → ∀ d, gfvFrags g d fs' = .ok (gfPureFrags d fs') := by
  intro fs ss fs' h
  induction h with
  | nil => intro d; rfl
  | cons q _ ih =>
    intro d
    simp only [gfvFrags, gfvList_pure hQ q, gfPureFrags, ih]

theorem toAst_gf {st : Store} (hp : Pristine st) (idx : Nat) :
    ∀ fuel, VisitLaw (fun a => a.1 = st) (fun a _ b => b.1 = a.1) (Qg fuel st) (toAst fuel idx) := by
  intro fuel
  induction fuel with
  | zero => intro st0 used n s n' st' used' _ h; exact (toAst_zero_inv h).elim
  | succ f ih =>
    intro st0 used n s n' st' used' (hpre : st0 = st) h
    subst hpre
    cases n with
    | obj r subs frags =>
      obtain ⟨fv, u1, ss, subs', st1, u2, fs, frags', st2, u3, h1, h2, h3, hr⟩ := toAst_obj_inv h
      cases hr
      obtain ⟨(e2 : st1 = st0), q2⟩ := mapAcc_law (along_same st0) ih _ _ _ _ _ _ _ rfl h2
      obtain ⟨(e3 : st' = st1), q3⟩ := mapFrags_law (along_same st0) ih _ _ _ _ _ _ _ e2 h3
      refine ⟨e3.trans e2, ?_⟩
      have hQ : ∀ n s n', Qg f st0 n s n' → getFormatted f st0 n' = .ok (gfPure n') := fun _ _ _ q => q
      simp only [Qg, getFormatted, gfvList_pure hQ q2, gfvFrags_pure hQ q3, gfPure]
    | ref id =>
      obtain ⟨rfl, rfl, rfl, r, hn, hf, rfl, h1⟩ := toAst_ref_pristine hp h
      have q := (ih _ _ _ _ _ _ _ rfl h1).2
      simp only [Qg, gfPure, gfPureList, gfPureFrags, hf] at q
      exact ⟨rfl, by simp [Qg, getFormatted, hn, q, gfPure]⟩

theorem nodup_prefix {a b : List FVar} (h : (unames (a ++ b)).Nodup) : (unames a).Nodup := by
  rw [unames_append] at h
  exact (List.nodup_append.mp h).1

theorem nodup_suffix {a b : List FVar} (h : (unames (a ++ b)).Nodup) : (unames b).Nodup := by
  rw [unames_append] at h
  exact (List.nodup_append.mp h).2.1

mutual
  theorem gfPure_eq : ∀ (n : Node), (unames (fmtAll n)).Nodup → gfPure n = fmtAll n
    | .obj r subs frags, h => by
      simp only [fmtAll] at h
      simp only [gfPure, fmtAll]
      rw [gfPureList_eq subs _ (nodup_prefix h), gfPureFrags_eq frags _ h]
    | .ref _, _ => rfl
  theorem gfPureList_eq : ∀ (ns : List Node) (d : List FVar), (unames (d ++ fmtAllList ns)).Nodup →
      gfPureList d ns = d ++ fmtAllList ns
    | [], d, _ => by simp [gfPureList, fmtAllList]
    | n :: ns, d, h => by
      simp only [fmtAllList, ← List.append_assoc] at h
      have h1 : (unames (d ++ fmtAll n)).Nodup := nodup_prefix h
      simp only [gfPureList, gfPure_eq n (nodup_suffix h1), dictUpdateAll_fresh _ _ h1]
      rw [gfPureList_eq ns _ h]
      simp [fmtAllList, List.append_assoc]
  theorem gfPureFrags_eq : ∀ (fs : List Frag) (d : List FVar), (unames (d ++ fmtAllFrags fs)).Nodup →
      gfPureFrags d fs = d ++ fmtAllFrags fs
    | [], d, _ => by simp [gfPureFrags, fmtAllFrags]
    | .mk ty ns :: fs, d, h => by
      simp only [fmtAllFrags, ← List.append_assoc] at h
      simp only [gfPureFrags]
      rw [gfPureList_eq ns d (nodup_prefix h), gfPureFrags_eq fs _ h]
      simp [fmtAllFrags, List.append_assoc]
end

theorem combine_pure {fuel : Nat} {st : Store} : ∀ {ns ss ns'}, All3 (Qg fuel st) ns ss ns' →
    combine fuel st ns' = .ok (gfPureList [] ns') := by
  intro ns ss ns' h
  exact gfvList_pure (fun _ _ _ q => q) h []

theorem combine_eq {fuel : Nat} {st : Store} {ns ss ns'} (h : All3 (Qg fuel st) ns ss ns')
    (hn : (unames (fmtAllList ns')).Nodup) : combine fuel st ns' = .ok (fmtAllList ns') := by
  rw [combine_pure h, gfPureList_eq ns' [] (by simpa using hn)]
  simp

theorem lookupS_eq {α : Type} (k : String) (l : List (String × α)) : lookupS k l = l.lookup k :=
  Lists.eq_lookup_of_eqns lookupS (fun _ => rfl) (fun _ _ _ _ => rfl) k l

theorem lookOK_of_nodup (D : List FVar) (h : (unames D).Nodup) :
    LookOK (D.map fun v => (v.uname, v.ty)) (D.map fun v => (v.uname, v.value)) D := fun f hf => by
  rw [lookupS_eq, lookupS_eq]
  exact ⟨Lists.lookup_of_mem_nodup (by rw [List.map_map]; exact h) (List.mem_map_of_mem hf),
    Lists.lookup_of_mem_nodup (by rw [List.map_map]; exact h) (List.mem_map_of_mem hf)⟩

theorem nodup_of_crossClash : ∀ (ss : List Sel), crossClash ss = false → (∀ s ∈ ss, (selVars s).Nodup) →
    (selVarsList ss).Nodup := by
  intro ss
  induction ss with
  | nil => intro _ _; simp [selVarsList]
  | cons s ss ih =>
    intro hc hn
    simp only [crossClash, Bool.or_eq_false_iff] at hc
    simp only [selVarsList, List.nodup_append]
    refine ⟨hn s (by simp), ih hc.2 (fun t ht => hn t (by simp [ht])), ?_⟩
    intro a ha b hb hab
    subst hab
    have := hc.1
    rw [List.any_eq_false] at this
    have := this a ha
    simp at this
    exact this hb

end Ariadne.C14
