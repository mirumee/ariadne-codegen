/-
  Property C01, generation half: running the generator FORWARDS.
  Proofs/C08Classes.lean, C08Resolve.lean take a successful call apart (`parseTypeDefinition_nodes`, `fieldBody_step`,
  `resolveBody_step`); the tiers of C01 need the other direction — the result of a call from the results of its parts.
  A tier's `gen_spec` is its lemma about `_resolve_selection_set` plus instances of the rules here.
-/
import AriadneModel.Proofs.C01PlainDefs
import AriadneModel.Proofs.C08Classes


namespace Ariadne.C01GenRules
open Ariadne Ariadne.Gql Ariadne.ResultTypes Ariadne.C01Plain

/-- a field node as `_resolve_selection_set` hands it on; only applied to field nodes (the other value is never looked at) -/
def toR : Selection → RField
  | .field alias name dirs sid sub => ⟨alias, name, dirs, sid, sub⟩
  | _ => ⟨none, "", [], 0, []⟩


theorem mixinLoop_none : ∀ (dirs : List Directive) (b : List String) (s : St),
    (dirs.any (·.name == Tables.mixinName)) = false → forIn dirs b mixinBody s = .ok (b, s) := by
  intro dirs
  induction dirs with
  | nil => intro b s _; rfl
  | cons d ds ih =>
    intro b s h
    simp only [List.any_cons, Bool.or_eq_false_iff] at h
    rw [List.forIn_cons]
    refine run_bind (a := .yield b) (s' := s) ?_ ?_
    · unfold mixinBody; simp [h.1]; rfl
    · simp only []; exact ih b s h.2

theorem mixinBases_none (dirs : List Directive) (s : St) (h : (dirs.any (·.name == Tables.mixinName)) = false) :
    mixinBases dirs s = .ok ([], s) := by
  rw [mixinBases_eq]
  exact run_bind (mixinLoop_none dirs [] s h) rfl

/-- the record update `fieldBody_step` (Proofs/C08Classes.lean) writes out -/
def bump (s : St) (ctx : Ctx) : St :=
  { s with usedEnums := s.usedEnums ++ ctx.enums, usedScalars := s.usedScalars ++ ctx.customScalars }


theorem fieldBody_intro (env : Env) (f : Nat) (cn tn : String) (tv : List String) (x : RField) (acc : FAcc) (s s1 : St)
    (t : TypeRef) (a : Ann) (dflt : Bool) (ctx : Ctx) (more : List ClassDecl)
    (hT : fieldTypeFromSchema env tn x.name = .ok t)
    (hpo : parseOperationField env (f + 1) x.name x.dirs x.sub t (cn ++ pascal (pyFieldName env x.key)) tv = .ok (a, dflt, ctx))
    (hmix : (x.dirs.any (·.name == Tables.mixinName)) = false)
    (hsub : parseFieldSelectionSetTypes env f x.sid x.sub ctx [] s = .ok (more, s1)) :
    fieldBody env f cn tn tv x acc s =
      .ok (.yield (acc.1 ++ [{ py := pyFieldName env x.key, ann := a,
                               alias := if pyFieldName env x.key != x.key then some x.key else none,
                               discriminator := isUnionAnn a, defaultNone := dflt }], acc.2 ++ more), bump s1 ctx) := by
  unfold fieldBody
  refine run_bind (a := t) (s' := s) (by show ResultTypes.liftExcept (fieldTypeFromSchema env tn x.name) s = _; rw [hT]; rfl) ?_
  refine run_bind (a := (a, dflt, ctx)) (s' := s) (by
    show ResultTypes.liftExcept (parseOperationField env (f + 1) x.name x.dirs x.sub t _ tv) s = _
    rw [hpo]; rfl) ?_
  refine run_bind (mixinBases_none x.dirs s hmix) ?_
  refine run_bind hsub ?_
  exact run_bind (run_modify _ _) rfl

theorem subTypes_single (env : Env) (f : Nat) (sid : Nat) (sub : List Selection) (C n : String) (abs : Bool) (s s1 : St)
    (cs : List ClassDecl) (hsub : sub.isEmpty = false)
    (h : parseTypeDefinition env f C n sid sub abs [] (tvFor env { related := [(C, n)], abstract := abs } n) s = .ok (cs, s1)) :
    parseFieldSelectionSetTypes env (f + 1) sid sub { related := [(C, n)], abstract := abs } [] s = .ok (cs, s1) := by
  rw [parseFieldSelectionSetTypes_succ, if_neg (by simp [hsub])]
  refine run_bind (a := cs) (s' := s1) ?_ rfl
  rw [List.forIn_cons]
  refine run_bind (a := .yield ([] ++ cs)) (s' := s1) ?_ (by simp; rfl)
  unfold relatedBody
  exact run_bind h rfl

theorem parseTypeDefinition_intro (env : Env) (f : Nat) (cn tn : String) (sid : Nat) (sel : List Selection) (a : Bool)
    (eb tv : List String) (st st1 st' : St) (x : Acc) (acc : FAcc)
    (hfresh : st.publicNames.contains cn = false)
    (hres : resolve env (f + 1) sel tn { st with publicNames := st.publicNames ++ [cn] } = .ok (x, st1))
    (hloop : forIn (withTypename a (st1.marks.contains sid) x.1) (([], []) : FAcc) (fieldBody env f cn tn tv)
      (afterTypename a sid (if st1.marks.contains sid then typenameRField :: x.1 else x.1) st1) = .ok (acc, st')) :
    parseTypeDefinition env (f + 1) cn tn sid sel a eb tv st =
      .ok ({ name := cn, bases := classBases x.2 eb, fields := acc.1 } :: acc.2, st') := by
  rw [parseTypeDefinition_succ]
  refine run_bind (run_get st) ?_
  simp only [hfresh, Bool.false_eq_true, if_false]
  refine run_bind (run_modify _ _) ?_
  refine run_bind hres ?_
  refine run_bind (run_get _) ?_
  unfold withTypename afterTypename at hloop
  dsimp only at hloop ⊢
  generalize (if st1.marks.contains sid = true then typenameRField :: x.1 else x.1) = r0 at hloop ⊢
  by_cases hc : (a && !(r0.any (·.name == typenameField))) = true
  · rw [if_pos hc, if_pos hc] at hloop
    rw [if_pos hc]
    refine run_bind (run_modify _ _) ?_
    unfold classTail
    exact run_bind hloop rfl
  · rw [if_neg hc, if_neg hc] at hloop
    rw [if_neg hc]
    unfold classTail
    exact run_bind hloop rfl

theorem fresh_cons {cn : String} {ns pn : List String} (hnd : (cn :: ns).Nodup) (hfresh : ∀ n ∈ cn :: ns, n ∉ pn) :
    pn.contains cn = false ∧ ns.Nodup ∧ ∀ n ∈ ns, n ∉ pn ++ [cn] := by
  obtain ⟨h1, h2⟩ := List.nodup_cons.mp hnd
  refine ⟨by simpa using hfresh cn List.mem_cons_self, h2, fun n hn hmem => ?_⟩
  rcases List.mem_append.mp hmem with h | h
  · exact hfresh n (List.mem_cons_of_mem _ hn) h
  · exact h1 ((List.mem_singleton.mp h) ▸ hn)

/-- `R`, `Q` as in `ResultTypes.forIn_fresh` -/
theorem fieldLoop_fresh (env : Env) (f : Nat) (cn tn : String) (tv : List String)
    (dd : Selection → List FieldDecl) (e : Selection → List ClassDecl)
    (R : St → St → Prop) (hrefl : ∀ s, R s s) (htrans : ∀ a b c, R a b → R b c → R a c)
    (Q : Selection → St → Prop) (hQ : ∀ x s s', R s s' → Q x s → Q x s')
    (fl : List Selection) (acc : FAcc) (s : St) (hf : ∀ x ∈ fl, isField x = true)
    (hstep : ∀ alias name dirs sid sub, .field alias name dirs sid sub ∈ fl → ∀ (acc : FAcc) (s1 : St), R s s1 →
      ((e (.field alias name dirs sid sub)).map (·.name)).Nodup →
      (∀ n ∈ (e (.field alias name dirs sid sub)).map (·.name), n ∉ s1.publicNames) →
      ∃ s', fieldBody env f cn tn tv ⟨alias, name, dirs, sid, sub⟩ acc s1 =
          .ok (.yield (acc.1 ++ dd (.field alias name dirs sid sub), acc.2 ++ e (.field alias name dirs sid sub)), s') ∧
        s'.publicNames = s1.publicNames ++ (e (.field alias name dirs sid sub)).map (·.name) ∧ R s1 s' ∧
        Q (.field alias name dirs sid sub) s')
    (hnd : ((fl.flatMap e).map (·.name)).Nodup) (hfresh : ∀ n ∈ (fl.flatMap e).map (·.name), n ∉ s.publicNames) :
    ∃ s', forIn (fl.map toR) acc (fieldBody env f cn tn tv) s = .ok ((acc.1 ++ fl.flatMap dd, acc.2 ++ fl.flatMap e), s') ∧
      s'.publicNames = s.publicNames ++ (fl.flatMap e).map (·.name) ∧ R s s' ∧ ∀ x ∈ fl, Q x s' := by
  rw [List.map_flatMap] at hnd hfresh
  obtain ⟨s', hrun, hpn, hR, hQ'⟩ := forIn_fresh (fun x b => fieldBody env f cn tn tv (toR x) b)
    (fun x b => (b.1 ++ dd x, b.2 ++ e x)) (fun x => (e x).map (·.name)) R hrefl htrans Q hQ fl acc s
    (fun x hx => by
      have hxf := hf x hx
      cases x with
      | spread n d => exact absurd hxf Bool.false_ne_true
      | inline on d sid sub => exact absurd hxf Bool.false_ne_true
      | field alias name dirs sid sub => exact hstep alias name dirs sid sub hx) hnd hfresh
  refine ⟨s', ?_, ?_, hR, hQ'⟩
  · rw [List.forIn_map, hrun, Lists.foldl_append_flatMap₂]
  · rw [hpn, List.map_flatMap]


/-- the converse of `resolveBody_step`; `hget`: a spread also needs the two types to be in the schema, which `ResolveStep` does
    not record -/
theorem resolveBody_of_step {env : Env} {fuel : Nat} {root : String} {a : Selection} {b : Acc} {s : St} {b1 : Acc} {s' : St}
    (h : ResolveStep env fuel root b s a b1 s')
    (hget : ∀ n d f, a = .spread n d → findFragment? env.frags n = some f →
      (env.schema.get? root).isNone = false ∧ (env.schema.get? f.on).isNone = false) :
    resolveBody env fuel root a b s = .ok (.yield b1, s') := by
  cases h with
  | field alias name dirs sid sub => rfl
  | keep hf hnu =>
    obtain ⟨h1, h2⟩ := hget _ _ _ rfl hf
    simp only [resolveBody, hf, h1, h2, hnu, Bool.false_eq_true, if_false, Bool.not_false, if_true]
    rfl
  | unpack hf hu happ hres =>
    obtain ⟨h1, h2⟩ := hget _ _ _ rfl hf
    simp only [resolveBody, hf, h1, h2, hu, happ, Bool.false_eq_true, if_false, Bool.not_true, if_true]
    refine run_bind (run_modify _ _) ?_
    exact run_bind hres rfl
  | dropSpread hf hu happ =>
    obtain ⟨h1, h2⟩ := hget _ _ _ rfl hf
    simp only [resolveBody, hf, h1, h2, hu, happ, Bool.false_eq_true, if_false, Bool.not_true]
    exact run_bind (run_modify _ _) rfl
  | inline hrt hres =>
    simp only [resolveBody, hrt]
    exact run_bind hres rfl
  | dropInline hnone =>
    simp only [resolveBody, hnone]
    exact run_bind (run_modify _ _) rfl

end Ariadne.C01GenRules
