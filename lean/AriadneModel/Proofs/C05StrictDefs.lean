/-
  Proofs/C05StrictDefs.lean — property C05, plain-selections tier: WHAT PYDANTIC ACCEPTS for a selection set, as an
  executable predicate on the payload (definitions only; theorems in Proofs/C05Strict.lean).

  `laxResp env lax tn sel j`: `j` is an object in which, for every field of the (plain) selection set `sel` on type `tn`,
  hereditarily:
    * the value is found under the response key (or, failing that, under the python name: pydantic `populate_by_name`);
      if it is not found the field carries `@skip` / `@include`;
    * a found value is `null` on a conditional field, or is complete for the field's GraphQL type: `null` only where the
      type is nullable, a list exactly where the type is a list, at a leaf a value of the lax table
      (`ResultLeaf.conformsLax`), at an object position an object that is again `laxResp` for the sub-selection.
  Keys that are not selected are ignored (pydantic ignores them; the property does not speak about them).
  The compiled driver evaluates it (op `laxResp`) next to the real generated class on every corrupted payload.
  Core Lean only.
-/
import AriadneModel.Proofs.C01PlainDefs

namespace Ariadne.C05Strict
open Ariadne Ariadne.Gql Ariadne.ResultTypes Ariadne.C01Plain Ariadne.Pyd

/-- CompleteValue over the list / non-null wrappers as the generated annotation enforces it: `P` judges a non-null value
    of the named type; `anyNull` = the named type is annotated `Any`, which takes `None` even below a non-null wrapper -/
def completeLax (anyNull : Bool) (P : J → Bool) : TypeRef → Bool → J → Bool
  | .nonNull t, _, v => completeLax anyNull P t false v
  | .list t, nullable, v =>
    match v with
    | .null => nullable
    | .arr xs => xs.all (completeLax anyNull P t true)
    | _ => false
  | .named _, nullable, v =>
    match v with
    | .null => nullable || anyNull
    | _ => P v

/-- the value pydantic reads for a field: under the response key, else under the python name -/
def found (env : ResultTypes.Env) (key : String) (kvs : List (String × J)) : Option J :=
  match J.lookup key kvs with
  | some v => some v
  | none => J.lookup (pyFieldName env key) kvs

mutual
  def laxSel (env : ResultTypes.Env) (lax : Lax) : String → List Selection → List (String × J) → Bool
    | _, [], _ => true
    | tn, s :: rest, kvs => laxSel1 env lax tn s kvs && laxSel env lax tn rest kvs
  def laxSel1 (env : ResultTypes.Env) (lax : Lax) : String → Selection → List (String × J) → Bool
    | tn, .field alias name dirs _ sub, kvs =>
      match found env (alias.getD name) kvs with
      | none => hasConditionalDirective dirs
      | some v =>
        (hasConditionalDirective dirs && v.isNull) ||
        (if sub.isEmpty then ResultLeaf.conformsLax env.schema lax true (fieldT env tn name) v
         else completeLax false (fun x =>
            match x with
            | .obj kvs' => laxSel env lax (subType env tn name) sub kvs'
            | _ => false) (fieldT env tn name) true v)
    | _, _, _ => false
end

/-- **what the root class of a plain selection set accepts** -/
def laxResp (env : ResultTypes.Env) (lax : Lax) (tn : String) (sel : List Selection) (j : J) : Bool :=
  match j with
  | .obj kvs => laxSel env lax tn sel kvs
  | _ => false

end Ariadne.C05Strict
