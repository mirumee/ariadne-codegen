/-
  From one `ResultTypesGenerator` (`ResultTypes.generate`) to the fragments module
  (`Fragments.fragmentsModule`): the class a definition's generator creates first, the dependency dict, the
  emitted order, and "every base is bound when its class statement executes".  Core Lean only.
-/
import AriadneModel.Proofs.C08Runs
import AriadneModel.Proofs.OrderEmit
import AriadneModel.Model.Fragments


open Ariadne.Gql

namespace Ariadne.ResultTypes

def Definition.dirs : Definition → List Directive
  | .op o => o.dirs
  | .frag f => f.dirs

def Definition.sid : Definition → Nat
  | .op o => o.sid
  | .frag f => f.sid

def Definition.sel : Definition → List Selection
  | .op o => o.sel
  | .frag f => f.sel

/-- **a successful generator, read off**: a fragment that gets no class of its own produces nothing and registers nothing;
    every other definition is ONE call of `_parse_type_definition` for its selection set, started from the state in which
    only the definition's own `@mixin` imports are recorded -/
theorem generate_cases {env : Env} {fuel : Nat} {d : Definition} {marks : List Nat} {out : ModuleOut}
    (h : generate env fuel d marks = .ok out) :
    (∃ f, d = .frag f ∧ unpackFragment env f none = true ∧ out.classes = [] ∧ out.st = { marks := marks }) ∨
    (∃ cn tn, operationTypeName env d = .ok tn ∧
      (∀ f, d = .frag f → unpackFragment env f none = false ∧ cn = pascal f.name) ∧
      (∀ o, d = .op o → ∃ n, o.name = some n ∧ cn = pascal n) ∧
      parseTypeDefinition env fuel cn tn d.sid d.sel false ((mixinPairs d.dirs).map (·.2)) []
        (addImports { marks := marks } (mixinPairs d.dirs)) = .ok (out.classes, out.st)) := by
  unfold generate at h
  have hrun : ∀ (x : M (List ClassDecl)) (s : St), x.run s = x s := fun _ _ => rfl
  simp only [hrun] at h
  split at h
  case h_2 => cases h
  rename_i cs st hr
  cases h
  have call : ∀ {dirs : List Directive} {cn tn : String} {sid : Nat} {sel : List Selection} {s : St},
      (mixinBases dirs >>= fun bases => parseTypeDefinition env fuel cn tn sid sel false bases []) s = .ok (cs, st) →
      parseTypeDefinition env fuel cn tn sid sel false ((mixinPairs dirs).map (·.2)) [] (addImports s (mixinPairs dirs)) = .ok (cs, st) := by
    intro dirs cn tn sid sel s hb
    obtain ⟨bs, s1, h1, h2⟩ := (ok_bind _ _ _ _ _).mp hb
    obtain ⟨e1, e2⟩ := mixinBases_spec _ _ _ _ h1
    rw [← e1, ← e2]; exact h2
  cases d with
  | op o =>
    dsimp only at hr
    cases hn : o.name with
    | none =>
      rw [hn] at hr
      exact ((ok_err _ _ _).mp hr).elim
    | some n =>
      rw [hn] at hr
      obtain ⟨tn, s0, h0, hA⟩ := (ok_bind _ _ _ _ _).mp hr
      obtain ⟨htn, rfl⟩ := (ok_liftExcept _ _ _ _).mp h0
      exact Or.inr ⟨_, tn, htn, (fun f hf => nomatch hf), fun o' ho => by cases ho; exact ⟨n, hn, rfl⟩, call hA⟩
  | frag f =>
    dsimp only at hr
    cases hu : unpackFragment env f none with
    | true =>
      rw [hu, if_pos rfl] at hr
      obtain ⟨e1, e2⟩ := (ok_pure _ _ _ _).mp hr
      exact Or.inl ⟨f, rfl, hu, e1.symm, e2.symm⟩
    | false =>
      rw [hu, if_neg Bool.false_ne_true] at hr
      exact Or.inr ⟨_, f.on, rfl, fun f' hf => by cases hf; exact ⟨hu, rfl⟩, (fun o ho => nomatch ho), call hr⟩

/-- **one generator, globally**: only fragments that get a class of their own are recorded as mixins, and every
    base of every class it emits is `BaseModel`, the class of a recorded mixin, or an imported `@mixin` class -/
theorem generate_spec (env : Env) (fuel : Nat) (d : Definition) (marks : List Nat) (o : ModuleOut)
    (h : generate env fuel d marks = .ok o) : (∀ n ∈ o.st.mixins, GoodMixin env n) ∧ BasesOK o.st o.classes := by
  rcases generate_cases h with ⟨_, _, _, hc, hs⟩ | ⟨_, _, _, _, _, hp⟩
  · rw [hc, hs]
    exact ⟨fun n hn => absurd hn List.not_mem_nil, fun c hc => absurd hc List.not_mem_nil⟩
  · obtain ⟨g, b⟩ := runs_spec (Runs.of_type hp) (imported_addImports _ _)
    exact ⟨g.good (fun n hn => absurd hn List.not_mem_nil), b⟩

/-- **the root class of a generator**: named after the definition, bases = fragment bases ++ exactly the classes
    named by the definition's `@mixin` directives (in order), each of them imported -/
theorem root_class (env : Env) (fuel : Nat) (cn tn : String) (sid : Nat) (sel : List Selection)
    (ps : List (String × String)) (marks : List Nat) (cs : List ClassDecl) (st : St)
    (hp : parseTypeDefinition env fuel cn tn sid sel false (ps.map (·.2)) [] (addImports { marks := marks } ps) = .ok (cs, st)) :
    ∃ (x : Acc) (st1 : St) (fields : List FieldDecl) (rest : List ClassDecl),
      resolve env fuel sel tn { addImports { marks := marks } ps with publicNames := [cn] } = .ok (x, st1) ∧
      cs = { name := cn, bases := classBases x.2 (ps.map (·.2)), fields := fields } :: rest ∧
      (∀ n ∈ x.2, n ∈ st.mixins) ∧ (∀ p ∈ ps, p ∈ st.mixinImports) := by
  obtain ⟨x, st1, acc, fuel', _, hres, hloop, hcs⟩ := parseTypeDefinition_nodes _ _ _ _ _ _ _ _ _ _ _ _ hp (by rfl)
  obtain ⟨g, _⟩ := runs_spec (Runs.of_type hp) (imported_addImports _ ps)
  refine ⟨x, st1, acc.1, acc.2, hres, hcs, fun n hn => ?_, fun p hp' => g.imports p (List.mem_append_right _ hp')⟩
  -- the mixins returned by `resolve` are recorded, and the record only grows afterwards
  obtain ⟨fds, more, _, hf⟩ := fields_runs (fun _ _ _ _ _ _ _ => Runs.of_set) _ _ _ _ _ hloop
  refine (runs_spec hf trivial).1.mixins n ?_
  rw [(afterTypename_keeps ..).1]
  exact ((resolve_spec env _ _ _ _ _ _ hres).mixins n).mpr (Or.inr hn)

end Ariadne.ResultTypes

namespace Ariadne.Fragments
open Ariadne.ResultTypes Ariadne.Spec.Py

theorem loadsFrom_mono (ext : String → Prop) : ∀ (t : ClassTable) (seen seen' : List String),
    (∀ x ∈ seen, x ∈ seen') → LoadsFrom ext seen t → LoadsFrom ext seen' t
  | [], _, _, _, _ => trivial
  | (n, bs) :: rest, seen, seen', hsub, h => by
    obtain ⟨h1, h2⟩ := h
    refine ⟨fun b hb => (h1 b hb).imp id (hsub b), ?_⟩
    exact loadsFrom_mono ext rest (n :: seen) (n :: seen')
      (fun x hx => by
        rcases List.mem_cons.mp hx with rfl | hx
        · exact List.mem_cons_self
        · exact List.mem_cons_of_mem _ (hsub x hx)) h2

theorem loadsFrom_append (ext : String → Prop) : ∀ (t₁ t₂ : ClassTable) (seen : List String),
    LoadsFrom ext seen t₁ → (∀ seen', (∀ x ∈ seen, x ∈ seen') → (∀ x ∈ t₁.map (·.1), x ∈ seen') → LoadsFrom ext seen' t₂) →
    LoadsFrom ext seen (t₁ ++ t₂)
  | [], t₂, seen, _, h₂ => h₂ seen (fun _ h => h) (fun x hx => by cases hx)
  | (n, bs) :: rest, t₂, seen, h₁, h₂ => by
    obtain ⟨h1, h1'⟩ := h₁
    refine ⟨h1, ?_⟩
    apply loadsFrom_append ext rest t₂ (n :: seen) h1'
    intro seen' hs hr
    apply h₂ seen' (fun x hx => hs x (List.mem_cons_of_mem _ hx))
    intro x hx
    rcases List.mem_cons.mp hx with rfl | hx
    · exact hs _ List.mem_cons_self
    · exact hr x hx

theorem loadsFrom_of_all (ext : String → Prop) : ∀ (t : ClassTable) (seen : List String),
    (∀ p ∈ t, ∀ b ∈ p.2, ext b ∨ b ∈ seen) → LoadsFrom ext seen t
  | [], _, _ => trivial
  | (n, bs) :: rest, seen, h => by
    refine ⟨h (n, bs) List.mem_cons_self, ?_⟩
    apply loadsFrom_of_all ext rest (n :: seen)
    intro p hp b hb
    exact (h p (List.mem_cons_of_mem _ hp) b hb).imp id (List.mem_cons_of_mem _)

theorem loadsFrom_split (ext : String → Prop) : ∀ (t : ClassTable) (seen : List String), LoadsFrom ext seen t →
    ∀ pre n bs post, t = pre ++ (n, bs) :: post → ∀ b ∈ bs, ext b ∨ b ∈ seen ∨ b ∈ pre.map (·.1)
  | [], _, _, pre, n, bs, post, h, _, _ => by cases pre <;> simp at h
  | (n0, bs0) :: rest, seen, hl, [], n, bs, post, h, b, hb => by
    simp only [List.nil_append, List.cons.injEq, Prod.mk.injEq] at h
    obtain ⟨⟨rfl, rfl⟩, _⟩ := h
    rcases hl.1 b hb with h1 | h1
    · exact Or.inl h1
    · exact Or.inr (Or.inl h1)
  | (n0, bs0) :: rest, seen, hl, q :: pre, n, bs, post, h, b, hb => by
    simp only [List.cons_append, List.cons.injEq] at h
    obtain ⟨rfl, h⟩ := h
    rcases loadsFrom_split ext rest (n0 :: seen) hl.2 pre n bs post h b hb with h1 | h1 | h1
    · exact Or.inl h1
    · rcases List.mem_cons.mp h1 with rfl | h1
      · exact Or.inr (Or.inr (by simp))
      · exact Or.inr (Or.inl h1)
    · exact Or.inr (Or.inr (by simp [h1]))

def FromFragment (env : Env) (fuel : Nat) (g : DefGen) : Prop :=
  ∃ f marks, findFragment? env.frags g.name = some f ∧ generate env fuel (.frag f) marks = .ok g.out

theorem genFragments_spec (env : Env) (fuel : Nat) (names : List String) (marks : List Nat) (gens : List DefGen)
    (h : genFragments env fuel names marks = .ok gens) : gens.map (·.name) = names ∧ ∀ g ∈ gens, FromFragment env fuel g := by
  fun_induction genFragments env fuel names marks generalizing gens with
  | case1 => cases h; exact ⟨rfl, fun g hg => nomatch hg⟩
  | case2 | case3 | case4 => cases h
  | case5 n rest marks f hf out hg more hr ih =>
    cases h
    obtain ⟨hn, hall⟩ := ih more hr
    refine ⟨by simp [hn], fun g hg' => ?_⟩
    rcases List.mem_cons.mp hg' with rfl | hg'
    · exact ⟨f, marks, hf, hg⟩
    · exact hall g hg'

theorem lookupGen_some {gens : List DefGen} {n : String} {g : DefGen} (h : lookupGen gens n = some g) : g ∈ gens ∧ g.name = n := by
  unfold lookupGen at h
  exact ⟨List.mem_of_find?_eq_some h, by simpa using List.find?_some h⟩

theorem lookupGen_of_mem {gens : List DefGen} {n : String} (h : n ∈ gens.map (·.name)) : ∃ g, lookupGen gens n = some g :=
  Lists.find?_of_mem_map h

theorem lookupGen_of_nodup (gens : List DefGen) (hn : (gens.map (·.name)).Nodup) : ∀ g ∈ gens, lookupGen gens g.name = some g :=
  fun _ h => Lists.find?_of_nodup_map hn h rfl

theorem lookup_deps (n : String) : ∀ gens : List DefGen,
    Order.lookup (gens.map fun g => (g.name, g.out.st.mixins)) n = (lookupGen gens n).map (·.out.st.mixins)
  | [] => rfl
  | g :: rest => by
    simp only [List.map_cons, Order.lookup, lookupGen, List.find?_cons]
    by_cases hk : g.name = n
    · simp [hk]
    · have : (g.name == n) = false := by simpa using hk
      simp only [hk, if_false, this]
      exact lookup_deps n rest

def classesOf (gens : List DefGen) : List String → List ClassDecl
  | [] => []
  | n :: rest => (match lookupGen gens n with | some g => g.out.classes | none => []) ++ classesOf gens rest

theorem classesInOrder_spec (gens : List DefGen) (l : List String) (cs : List ClassDecl) (h : classesInOrder gens l = .ok cs) :
    cs = classesOf gens l ∧ ∀ n ∈ l, ∃ g, lookupGen gens n = some g := by
  fun_induction classesInOrder gens l generalizing cs with
  | case1 => cases h; exact ⟨rfl, fun n hn => nomatch hn⟩
  | case2 | case3 => cases h
  | case4 n rest g hl more hr ih =>
    cases h
    obtain ⟨e, hall⟩ := ih more hr
    refine ⟨by simp [classesOf, hl, e], fun m hm => ?_⟩
    rcases List.mem_cons.mp hm with rfl | hm
    · exact ⟨g, hl⟩
    · exact hall m hm

theorem frag_head (env : Env) (fuel : Nat) (g : DefGen) (hg : FromFragment env fuel g) (hgood : GoodMixin env g.name) :
    ∃ c rest, g.out.classes = c :: rest ∧ c.name = pascal g.name := by
  obtain ⟨f, marks, hf, hgen⟩ := hg
  obtain ⟨f', hf', hnu⟩ := hgood
  rw [hf] at hf'
  injection hf' with hf'
  subst hf'
  rcases generate_cases hgen with ⟨_, e, hu, _⟩ | ⟨_, _, _, hfr, _, hp⟩
  · cases e
    cases hu.symm.trans hnu
  obtain ⟨_, rfl⟩ := hfr f rfl
  obtain ⟨x, st1, fields, rest, _, hcs, _, _⟩ := root_class env fuel _ _ _ _ _ marks _ _ hp
  exact ⟨_, rest, hcs, by rw [findFragment_name hf]⟩

/-- one run of `FragmentsGenerator.generate`, described through the generators it ran -/
structure Described (e : Order.EnumOracle) (env : Env) (fuel : Nat) (names : List String) (gens : List DefGen) (fo : FragmentsOut) :
    Prop where
  genNames : gens.map (·.name) = names
  from_ : ∀ g ∈ gens, FromFragment env fuel g
  deps : fo.deps = gens.map fun g => (g.name, g.out.st.mixins)
  order : Order.sortedFragmentsNames e names fo.deps = .ok fo.order
  found : ∀ n ∈ fo.order, ∃ g, lookupGen gens n = some g
  classes : fo.classes = classesOf gens fo.order
  rebuilds : Order.rebuildCalls (gens.filterMap fun g => g.out.classes.head?.map (·.name)) (fo.classes.map (·.name)) = .ok fo.rebuilds
  publicNames : fo.publicNames = gens.flatMap (·.out.st.publicNames)
  usedEnums : fo.usedEnums = gens.flatMap (·.out.st.usedEnums)
  mixinImports : fo.mixinImports = gens.flatMap (·.out.st.mixinImports)

theorem generateFragments_described {e : Order.EnumOracle} {env : Env} {fuel : Nat} {names : List String} {marks : List Nat}
    {fo : FragmentsOut} (h : generateFragments e env fuel names marks = .ok fo) :
    ∃ gens, genFragments env fuel names marks = .ok gens ∧ Described e env fuel names gens fo := by
  unfold generateFragments at h
  split at h
  · cases h
  rename_i gens hg
  simp only at h
  split at h
  · cases h
  rename_i sorted hs
  split at h
  · cases h
  rename_i classes hc
  split at h
  · cases h
  rename_i rebuilds hr
  cases h
  obtain ⟨hn, hfrom⟩ := genFragments_spec env fuel names marks gens hg
  obtain ⟨hcs, hall⟩ := classesInOrder_spec gens sorted classes hc
  exact ⟨gens, hg, hn, hfrom, rfl, hs, hall, hcs, hr, rfl, rfl, rfl⟩

/-- what is bound without being defined in the fragments module: `BaseModel` and the `@mixin` imports -/
def external (fo : FragmentsOut) (b : String) : Prop := b = "BaseModel" ∨ b ∈ fo.mixinImports.map (·.2)

theorem classTable_append (a b : List ClassDecl) : classTable (a ++ b) = classTable a ++ classTable b := by
  simp [classTable]

theorem mem_classesOf (gens : List DefGen) {n : String} {g : DefGen} (hl : lookupGen gens n = some g) :
    ∀ (l : List String), n ∈ l → ∀ c ∈ g.out.classes, c ∈ classesOf gens l
  | [], h, _, _ => by cases h
  | m :: rest, h, c, hc => by
    unfold classesOf
    rcases List.mem_cons.mp h with rfl | h
    · rw [hl]; exact List.mem_append_left _ hc
    · exact List.mem_append_right _ (mem_classesOf gens hl rest h c hc)

theorem mem_classesOf_inv (gens : List DefGen) : ∀ (l : List String) (c : ClassDecl), c ∈ classesOf gens l →
    ∃ g ∈ gens, c ∈ g.out.classes
  | [], c, h => by simp [classesOf] at h
  | n :: rest, c, h => by
    unfold classesOf at h
    rcases List.mem_append.mp h with h | h
    · cases hl : lookupGen gens n with
      | none => rw [hl] at h; cases h
      | some g =>
        rw [hl] at h
        exact ⟨g, (lookupGen_some hl).1, h⟩
    · exact mem_classesOf_inv gens rest c h

theorem loads_suffix (env : Env) (fuel : Nat) (gens : List DefGen) (hfrom : ∀ g ∈ gens, FromFragment env fuel g)
    (ext : String → Prop) (hbm : ext "BaseModel") (hext : ∀ g ∈ gens, ∀ p ∈ g.out.st.mixinImports, ext p.2)
    (sorted : List String) (htopo : Order.TopoOK (gens.map fun g => (g.name, g.out.st.mixins)) sorted)
    (hall : ∀ n ∈ sorted, ∃ g, lookupGen gens n = some g) :
    ∀ (post pre seen : List String), sorted = pre ++ post → (∀ x ∈ pre, GoodMixin env x → pascal x ∈ seen) →
      LoadsFrom ext seen (classTable (classesOf gens post))
  | [], _, _, _, _ => trivial
  | n :: post, pre, seen, heq, hseen => by
    obtain ⟨g, hl⟩ := hall n (by rw [heq]; simp)
    obtain ⟨hgm, hgn⟩ := lookupGen_some hl
    obtain ⟨f, marks, hf, hgen⟩ := hfrom g hgm
    obtain ⟨hgood, hbases⟩ := generate_spec env fuel _ marks _ hgen
    have hdeps : Order.depsOf (gens.map fun g => (g.name, g.out.st.mixins)) n = g.out.st.mixins := by
      simp [Order.depsOf, lookup_deps, hl]
    show LoadsFrom ext seen (classTable ((match lookupGen gens n with | some g => g.out.classes | none => []) ++ classesOf gens post))
    rw [hl, classTable_append]
    apply loadsFrom_append
    · apply loadsFrom_of_all
      intro p hp b hb
      obtain ⟨c, hc, rfl⟩ := List.mem_map.mp hp
      rcases hbases c hc b hb with h1 | ⟨m, hm, rfl⟩ | ⟨q, hq, rfl⟩
      · exact Or.inl (h1 ▸ hbm)
      · refine Or.inr (hseen m ?_ (hgood m hm))
        exact htopo pre n post heq m (by rw [hdeps]; exact hm)
      · exact Or.inl (hext g hgm q hq)
    · intro seen' hs hr
      apply loads_suffix env fuel gens hfrom ext hbm hext sorted htopo hall post (pre ++ [n]) seen' (by rw [heq]; simp)
      intro x hx hgx
      rcases List.mem_append.mp hx with hx | hx
      · exact hs _ (hseen x hx hgx)
      · have : x = n := by simpa using hx
        subst this
        obtain ⟨c, rest, hc, hcn⟩ := frag_head env fuel g ⟨f, marks, hf, hgen⟩ (hgn ▸ hgx)
        apply hr
        show pascal x ∈ List.map (fun p => p.1) (classTable g.out.classes)
        rw [hc]
        simp [classTable, hcn, hgn]

/-- **the fragments module loads**: in the emitted order every base of every class is `BaseModel`, an imported
    `@mixin` class, or a class defined earlier in the module — for every enumeration oracle -/
theorem fragments_load (e : Order.EnumOracle) (he : Order.EnumOK e) (env : Env) (fuel : Nat) (names : List String)
    (marks : List Nat) (fo : FragmentsOut) (h : generateFragments e env fuel names marks = .ok fo)
    (rk : String → Nat) (hrk : ∀ n ds m, Order.lookup fo.deps n = some ds → m ∈ ds → rk m < rk n) :
    Loads (external fo) (classTable fo.classes) := by
  obtain ⟨gens, _, D⟩ := generateFragments_described h
  have htopo : Order.TopoOK fo.deps fo.order :=
    Order.dfs_topo (fun ds x => by rw [Order.mem_pySorted]; exact (he ds).mem_iff) rk hrk D.order
  rw [D.classes]
  refine loads_suffix env fuel gens D.from_ (external fo) (Or.inl rfl) ?_ fo.order (D.deps ▸ htopo) D.found fo.order [] [] rfl
    (fun x hx => by cases hx)
  intro g hgm p hp
  refine Or.inr (List.mem_map.mpr ⟨p, ?_, rfl⟩)
  rw [D.mixinImports]
  exact List.mem_flatMap.mpr ⟨g, hgm, hp⟩

/-- every fragment handed to `FragmentsGenerator` that gets a class of its own has that class in the module -/
theorem fragments_emitted (e : Order.EnumOracle) (he : Order.EnumOK e) (env : Env) (fuel : Nat) (names : List String)
    (marks : List Nat) (fo : FragmentsOut) (h : generateFragments e env fuel names marks = .ok fo)
    (n : String) (hn : n ∈ names) (hgood : GoodMixin env n) : pascal n ∈ fo.classes.map (·.name) := by
  obtain ⟨gens, _, D⟩ := generateFragments_described h
  have hin : n ∈ fo.order :=
    Order.dfs_complete D.order n ((Order.mem_pySorted _ _).mpr ((he names).mem_iff.mpr hn))
  obtain ⟨g, hl⟩ := D.found n hin
  obtain ⟨hgm, hgn⟩ := lookupGen_some hl
  obtain ⟨c, rest, hcl, hcn⟩ := frag_head env fuel g (D.from_ g hgm) (hgn ▸ hgood)
  rw [D.classes]
  refine List.mem_map.mpr ⟨c, mem_classesOf gens hl fo.order hin c (by rw [hcl]; exact List.mem_cons_self), ?_⟩
  rw [hcn, hgn]

def FromOperation (env : Env) (fuel : Nat) (g : DefGen) : Prop :=
  ∃ o marks, generate env fuel (.op o) marks = .ok g.out

theorem addOperationsFrom_spec (env : Env) (fuel : Nat) (ops : List Operation) (acc acc' : OpsOut)
    (h : addOperationsFrom env fuel acc ops = .ok acc') (hacc : ∀ g ∈ acc.ops, FromOperation env fuel g) :
    ∀ g ∈ acc'.ops, FromOperation env fuel g := by
  fun_induction addOperationsFrom env fuel acc ops with
  | case1 => cases h; exact hacc
  | case2 => cases h
  | case3 acc o rest acc1 ha ih =>
    refine ih h ?_
    unfold addOperation at ha
    split at ha
    · cases ha
    split at ha
    · cases ha
    rename_i out hg
    cases ha
    intro g hg'
    rcases List.mem_append.mp hg' with hg' | hg'
    · exact hacc g hg'
    · rw [List.mem_singleton.mp hg']
      exact ⟨o, acc.marks, hg⟩

theorem addOperations_from (env : Env) (fuel : Nat) (ops : List Operation) (acc : OpsOut)
    (h : addOperations env fuel ops = .ok acc) : ∀ g ∈ acc.ops, FromOperation env fuel g :=
  addOperationsFrom_spec env fuel ops {} acc h (fun g hg => by cases hg)

theorem goodMixin_mem_frags {env : Env} {n : String} (h : GoodMixin env n) : n ∈ env.frags.map (·.name) := by
  obtain ⟨f, hf, _⟩ := h
  exact List.mem_map.mpr ⟨f, List.mem_of_find?_eq_some hf, findFragment_name hf⟩

theorem mem_remaining {env : Env} {ex : List String} {n : String} :
    n ∈ remaining env ex ↔ n ∈ env.frags.map (·.name) ∧ ex.contains n = false := by
  unfold remaining
  rw [List.mem_filter, Util.mem_dedup, Bool.not_eq_true']

/-- outside the trigger of finding C08-F1 no operation has unpacked a fragment that an operation class or a generated
    fragment class inherits from -/
theorem not_unpacked_of_inherited {e : Order.EnumOracle} {env : Env} {fuel : Nat} {ops : List Operation} {acc : OpsOut}
    (hacc : addOperations env fuel ops = .ok acc) (hF1 : trigUnpackedAndInherited e env fuel ops = false) {n : String}
    (hn : n ∈ inheritedByOps acc ∨ n ∈ inheritedByFragments e env fuel acc) : acc.unpacked.contains n = false := by
  unfold trigUnpackedAndInherited at hF1
  simp only [hacc] at hF1
  cases hc : acc.unpacked.contains n with
  | false => rfl
  | true =>
    have := List.any_eq_false.mp hF1 n (by simpa using hc)
    rcases hn with hn | hn <;> simp [hn] at this

/-- the two ways `PackageGenerator._generate_fragments` ends -/
theorem fragmentsModule_ok (e : Order.EnumOracle) (env : Env) (fuel : Nat) (ops : List Operation) (out : PackageOut)
    (h : fragmentsModule e env fuel ops = .ok out) :
    ∃ acc, addOperations env fuel ops = .ok acc ∧ out.ops = acc.ops ∧ out.excluded = acc.unpacked ∧
      (((remaining env acc.unpacked).isEmpty = true ∧ out.fragments = none) ∨
       ((remaining env acc.unpacked).isEmpty = false ∧
          ∃ fo, generateFragments e env fuel (e (remaining env acc.unpacked)) acc.marks = .ok fo ∧ out.fragments = some fo)) := by
  unfold fragmentsModule at h
  split at h
  · cases h
  rename_i acc hacc
  simp only at h
  split at h
  · rename_i hrem
    cases h
    exact ⟨acc, hacc, rfl, rfl, Or.inl ⟨hrem, rfl⟩⟩
  · rename_i hrem
    split at h
    · cases h
    rename_i fo hgf
    cases h
    exact ⟨acc, hacc, rfl, rfl, Or.inr ⟨by simpa using hrem, fo, hgf, rfl⟩⟩

/-- the trigger of finding C08-F3 on a package that is generated: some emitted module has a class CPython cannot linearise -/
theorem trigMroConflict_eq_false_iff {e : Order.EnumOracle} {env : Env} {fuel : Nat} {ops : List Operation} {out : PackageOut}
    (h : fragmentsModule e env fuel ops = .ok out) :
    trigMroConflict e env fuel ops = false ↔ ∀ t ∈ moduleTables out, Spec.Py.mroOK t = true := by
  simp [trigMroConflict, h]

/-- the trigger of finding C08-F4 on a package that is generated -/
theorem trigSiblingUnpacks_eq_false_iff {e : Order.EnumOracle} {env : Env} {fuel : Nat} {ops : List Operation} {out : PackageOut}
    (h : fragmentsModule e env fuel ops = .ok out) :
    trigSiblingUnpacks e env fuel ops = false ↔
      (∀ g ∈ out.ops, siblingsInheritAlike env g.out.classes g.out.st.mixins = true) ∧
      (∀ fo, out.fragments = some fo → siblingsInheritAlike env fo.classes (fo.deps.flatMap (·.2)) = true) := by
  simp only [trigSiblingUnpacks, h, Bool.or_eq_false_iff, List.any_eq_false, Bool.not_eq_true', Bool.not_eq_false]
  refine and_congr Iff.rfl ?_
  cases out.fragments <;> simp

end Ariadne.Fragments
