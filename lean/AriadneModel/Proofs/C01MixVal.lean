/-
  Property C01, "mixin" tier, part (2): the classes `mClass` together with the fragment classes
  accept every response a conformant executor can give, and dump it back.
-/
import AriadneModel.Proofs.Util
import AriadneModel.Proofs.C01MixGen
import AriadneModel.Proofs.C01PlainVal


namespace Ariadne.C01Mix
open Ariadne Ariadne.Gql Ariadne.ResultTypes Ariadne.Util Ariadne.Pyd Ariadne.C01Plain Ariadne.C01Accepts

theorem mflat_succ (env : ResultTypes.Env) (k : Nat) (cn : String) (sel : List Selection) :
    mflat env (k + 1) cn sel = sel.flatMap fun s =>
      match s with
      | .field a n d sid sub => [(cn, .field a n d sid sub)]
      | .spread n _ =>
        match findFragment? env.frags n with
        | some f => mflat env k (pascal f.name) f.sel
        | none => []
      | _ => [] := rfl

theorem mfull_succ (env : ResultTypes.Env) (k : Nat) (tn : String) (sel : List Selection) :
    mfull env (k + 1) tn sel = sel.all fun s =>
      match s with
      | .field _ name _ _ sub => sub.isEmpty || mfull env k (subType env tn name) sub
      | .spread n _ =>
        match findFragment? env.frags n with
        | some f => mfull env k f.on f.sel
        | none => false
      | _ => false := rfl

theorem mfullS_succ (env : ResultTypes.Env) (k : Nat) (sel : List Selection) :
    mfullS env (k + 1) sel = sel.all fun s =>
      match s with
      | .spread n _ =>
        match findFragment? env.frags n with
        | some f => mfullS env k f.sel
        | none => false
      | _ => true := rfl

theorem mfullS_mono (env : ResultTypes.Env) : ∀ (k : Nat) (sel : List Selection),
    mfullS env k sel = true → mfullS env (k + 1) sel = true
  | 0, _, h => by simp [mfullS] at h
  | k + 1, sel, h => by
    rw [mfullS_succ] at h ⊢
    rw [List.all_eq_true] at h ⊢
    intro s hs
    have := h s hs
    cases s with
    | field a n d sid sub => rfl
    | spread n d =>
      cases hf : findFragment? env.frags n with
      | none => simp [hf] at this
      | some f =>
        simp only [hf] at this ⊢
        exact mfullS_mono env k _ this
    | inline on d sid ss => rfl

theorem mflat_stableS (env : ResultTypes.Env) : ∀ (k : Nat) (cn : String) (sel : List Selection),
    mfullS env k sel = true → mflat env (k + 1) cn sel = mflat env k cn sel
  | 0, _, _, h => by simp [mfullS] at h
  | k + 1, cn, sel, h => by
    rw [mfullS_succ, List.all_eq_true] at h
    rw [mflat_succ env (k + 1), mflat_succ env k]
    apply Lists.flatMap_congr
    intro s hs
    have := h s hs
    cases s with
    | field a n d sid sub => rfl
    | spread n d =>
      cases hf : findFragment? env.frags n with
      | none => simp only [hf]
      | some f =>
        simp only [hf] at this ⊢
        exact mflat_stableS env k _ _ this
    | inline on d sid ss => rfl

theorem mflat_eq_of_leS (env : ResultTypes.Env) (k k' : Nat) (cn : String) (sel : List Selection)
    (h : mfullS env k sel = true) (hk : k ≤ k') : mflat env k' cn sel = mflat env k cn sel := by
  obtain ⟨j, rfl⟩ : ∃ j, k' = k + j := ⟨k' - k, by omega⟩
  induction j with
  | zero => rfl
  | succ j ih =>
    have hm : ∀ i, mfullS env (k + i) sel = true := by
      intro i
      induction i with
      | zero => exact h
      | succ i ih' => exact mfullS_mono env _ _ ih'
    rw [← Nat.add_assoc, mflat_stableS env (k + j) cn sel (hm j)]
    exact ih (by omega)

theorem mflat_eq_both (env : ResultTypes.Env) (a b : Nat) (cn : String) (sel : List Selection)
    (ha : mfullS env a sel = true) (hb : mfullS env b sel = true) : mflat env a cn sel = mflat env b cn sel := by
  rcases Nat.le_total a b with h | h
  · exact (mflat_eq_of_leS env a b cn sel ha h).symm
  · exact mflat_eq_of_leS env b a cn sel hb h

theorem mfullS_of_mfull (env : ResultTypes.Env) : ∀ (k : Nat) (tn : String) (sel : List Selection),
    mfull env k tn sel = true → mfullS env k sel = true
  | 0, _, _, h => by simp [mfull] at h
  | k + 1, tn, sel, h => by
    rw [mfull_succ, List.all_eq_true] at h
    rw [mfullS_succ, List.all_eq_true]
    intro s hs
    have := h s hs
    cases s with
    | field a n d sid sub => rfl
    | spread n d =>
      cases hf : findFragment? env.frags n with
      | none => simp [hf] at this
      | some f =>
        simp only [hf] at this ⊢
        exact mfullS_of_mfull env k _ _ this
    | inline on d sid ss => rfl

theorem mflat_mem (env : ResultTypes.Env) (K : Nat) (hfr : FragsOK env K) : ∀ (k : Nat) (cn tn : String) (sel : List Selection),
    mLocal env K cn tn sel = true →
    ∀ o x, (o, x) ∈ mflat env k cn sel →
      isField x = true ∧ mLocal1 env K o tn x = true ∧
      ((o = cn ∧ x ∈ sel) ∨ (∃ f ∈ env.frags, o = pascal f.name ∧ x ∈ f.sel ∧ f.on = tn))
  | 0, _, _, _, _, o, x, h => by simp [mflat] at h
  | k + 1, cn, tn, sel, hloc, o, x, h => by
    rw [mflat_succ] at h
    obtain ⟨s, hs, hxs⟩ := List.mem_flatMap.mp h
    have hl1 := (mLocal_iff env K cn tn sel).mp hloc s hs
    cases s with
    | field a n d sid sub =>
      simp only [List.mem_singleton, Prod.mk.injEq] at hxs
      obtain ⟨rfl, rfl⟩ := hxs
      exact ⟨rfl, hl1, Or.inl ⟨rfl, hs⟩⟩
    | inline on d sid ss => simp at hxs
    | spread n d =>
      obtain ⟨_, f, hf, hon⟩ := mLocal1_spread hl1
      simp only [hf] at hxs
      obtain ⟨_, _, _, hlocf, _⟩ := fragOK_spec (hfr f (find_mem hf).1)
      obtain ⟨h1, h2, h3⟩ := mflat_mem env K hfr k (pascal f.name) f.on f.sel hlocf o x hxs
      rw [hon] at h2 h3
      refine ⟨h1, h2, Or.inr ?_⟩
      rcases h3 with ⟨rfl, hx⟩ | ⟨f', hf', ho, hx, hon'⟩
      · exact ⟨f, (find_mem hf).1, rfl, hx, hon⟩
      · exact ⟨f', hf', ho, hx, hon'⟩

theorem entries_mix (env : ResultTypes.Env) (K : Nat) (hfr : FragsOK env K) (rt : String) :
    ∀ (e : Nat) (cn : String) (sels : List Selection), mLocal env K cn rt sels = true →
      entries env.schema env.frags e rt false sels = (mflat env e cn sels).map (fun p => collOf p.2)
  | 0, _, _, _ => rfl
  | e + 1, cn, sels, hloc => by
    have hlocs := (mLocal_iff env K cn rt sels).mp hloc
    rw [mflat_succ, List.map_flatMap]
    refine Lists.flatMap_congr _ _ _ (fun x hx => ?_)
    have hx1 := hlocs x hx
    cases x with
    | inline on d sid ss => simp [mLocal1] at hx1
    | field alias name dirs sid sub => rfl
    | spread n d =>
      obtain ⟨hcond, f, hf, hon⟩ := mLocal1_spread hx1
      obtain ⟨_, _, _, hlocf, _⟩ := fragOK_spec (hfr f (find_mem hf).1)
      have happ : Exec.applies env.schema (some f.on) rt = true := by simp [Exec.applies, hon]
      have hc0 : Exec.isConditional d = false := hcond
      simp only [hf, happ, if_true, hc0, Bool.or_false]
      exact entries_mix env K hfr rt e (pascal f.name) f.sel (hon ▸ hlocf)

/-- one step of the merge `Pyd.allFields` performs: later lists override earlier ones by Python name -/
def mstep (acc bf : List FieldDecl) : List FieldDecl := acc.filter (fun f => !(bf.any (·.py == f.py))) ++ bf

theorem allFields_succ (penv : Pyd.Env) (fuel : Nat) (cn : String) (c : ClassDecl) (hc : penv.class? cn = some c) :
    allFields penv (fuel + 1) cn = (c.bases.map (allFields penv fuel) ++ [mergeDup c.fields]).foldl mstep [] := by
  simp only [allFields, hc, List.foldl_append, List.foldl_map, List.foldl_cons, List.foldl_nil, mstep]

theorem mem_mstep_foldl (d : FieldDecl) : ∀ (bfs : List (List FieldDecl)) (acc : List FieldDecl),
    d ∈ bfs.foldl mstep acc → d ∈ acc ∨ ∃ bf ∈ bfs, d ∈ bf
  | [], acc, h => Or.inl h
  | bf :: rest, acc, h => by
    rw [List.foldl_cons] at h
    rcases mem_mstep_foldl d rest _ h with h1 | ⟨bf', hb, hd⟩
    · rcases List.mem_append.mp h1 with h2 | h2
      · exact Or.inl (List.mem_filter.mp h2).1
      · exact Or.inr ⟨bf, List.mem_cons_self, h2⟩
    · exact Or.inr ⟨bf', List.mem_cons_of_mem _ hb, hd⟩

theorem nodup_mstep (acc bf : List FieldDecl) (h1 : (acc.map (·.py)).Nodup) (h2 : (bf.map (·.py)).Nodup) :
    ((mstep acc bf).map (·.py)).Nodup := by
  unfold mstep
  rw [List.map_append, List.nodup_append]
  refine ⟨(h1.sublist (List.Sublist.map _ List.filter_sublist)), h2, ?_⟩
  intro a ha b hb e
  obtain ⟨x, hx, rfl⟩ := List.mem_map.mp ha
  obtain ⟨y, hy, rfl⟩ := List.mem_map.mp hb
  have := (List.mem_filter.mp hx).2
  simp only [Bool.not_eq_true', List.any_eq_false] at this
  have := this y hy
  simp [e] at this

theorem nodup_mstep_foldl : ∀ (bfs : List (List FieldDecl)) (acc : List FieldDecl),
    (acc.map (·.py)).Nodup → (∀ bf ∈ bfs, (bf.map (·.py)).Nodup) → ((bfs.foldl mstep acc).map (·.py)).Nodup
  | [], acc, h, _ => h
  | bf :: rest, acc, h, hb => by
    rw [List.foldl_cons]
    exact nodup_mstep_foldl rest _ (nodup_mstep acc bf h (hb bf List.mem_cons_self))
      (fun b hb' => hb b (List.mem_cons_of_mem _ hb'))

theorem mem_mstep_foldl_of (d : FieldDecl) : ∀ (bfs : List (List FieldDecl)) (acc : List FieldDecl),
    (d ∈ acc ∨ ∃ bf ∈ bfs, d ∈ bf) → (∀ bf ∈ bfs, ∀ d' ∈ bf, d'.py = d.py → d' = d) → d ∈ bfs.foldl mstep acc
  | [], acc, h, _ => by
    rcases h with h | ⟨bf, hb, _⟩
    · exact h
    · cases hb
  | bf :: rest, acc, h, hu => by
    rw [List.foldl_cons]
    apply mem_mstep_foldl_of d rest _ _ (fun b hb => hu b (List.mem_cons_of_mem _ hb))
    rcases h with h | ⟨bf', hb, hd⟩
    · -- `d` survives the filter unless `bf` has a declaration of the same Python name — which then is `d` itself
      by_cases hc : (bf.any (·.py == d.py)) = true
      · obtain ⟨d', hd', he⟩ := List.any_eq_true.mp hc
        have := hu bf List.mem_cons_self d' hd' (by simpa using he)
        subst this
        exact Or.inl (List.mem_append_right _ hd')
      · exact Or.inl (List.mem_append_left _ (List.mem_filter.mpr ⟨h, by simpa using hc⟩))
    · rcases List.mem_cons.mp hb with rfl | hb
      · exact Or.inl (List.mem_append_right _ hd)
      · exact Or.inr ⟨bf', hb, hd⟩

theorem mem_spreadNames (g : String) (sel : List Selection) : g ∈ spreadNames sel ↔ ∃ d, Selection.spread g d ∈ sel := by
  unfold spreadNames
  rw [show (sel.filterMap spreadName?).foldl setAdd [] = setUnion [] (sel.filterMap spreadName?) from rfl, mem_setUnion]
  simp only [List.not_mem_nil, false_or, List.mem_filterMap]
  constructor
  · rintro ⟨s, hs, he⟩
    cases s <;> simp [spreadName?] at he
    subst he
    exact ⟨_, hs⟩
  · rintro ⟨d, hd⟩
    exact ⟨_, hd, rfl⟩

theorem basesOf_eq (sel : List Selection) : basesOf sel = classBases (spreadNames sel) [] := by
  simp [basesOf, classBases]

def pyKey (env : ResultTypes.Env) (p : String × Selection) : String := pyFieldName env (keyOf p.2)

def headClass (env : ResultTypes.Env) (cn tn : String) (sel : List Selection) : ClassDecl :=
  { name := cn, bases := basesOf sel, fields := plainDecls env cn tn sel }

def HeadClassesIn (env : ResultTypes.Env) (penv : Pyd.Env) : Prop :=
  ∀ f ∈ env.frags, penv.class? (pascal f.name) = some (headClass env (pascal f.name) f.on f.sel)

theorem mflat_field_mem (env : ResultTypes.Env) (k : Nat) (cn : String) (sel : List Selection)
    (a : Option String) (n : String) (d : List Directive) (sid : Nat) (sub : List Selection)
    (h : Selection.field a n d sid sub ∈ sel) : (cn, Selection.field a n d sid sub) ∈ mflat env (k + 1) cn sel := by
  rw [mflat_succ]
  exact List.mem_flatMap.mpr ⟨_, h, by simp⟩

theorem mflat_spread_sub (env : ResultTypes.Env) (k : Nat) (cn : String) (sel : List Selection) (g : String)
    (d : List Directive) (f : Fragment) (h : Selection.spread g d ∈ sel) (hf : findFragment? env.frags g = some f) :
    (mflat env k (pascal f.name) f.sel).Sublist (mflat env (k + 1) cn sel) := by
  rw [mflat_succ]
  have := Lists.sublist_flatMap_of_mem (fun s => match s with
      | .field a n d sid sub => [(cn, Selection.field a n d sid sub)]
      | .spread n _ =>
        match findFragment? env.frags n with
        | some f => mflat env k (pascal f.name) f.sel
        | none => []
      | _ => []) sel (.spread g d) h
  simpa [hf] using this

theorem own_sublist (env : ResultTypes.Env) (k : Nat) (cn : String) (sel : List Selection) :
    ((sel.filter isField).map fun x => (cn, x)).Sublist (mflat env (k + 1) cn sel) := by
  rw [mflat_succ]
  induction sel with
  | nil => simp
  | cons x rest ih =>
    rw [List.flatMap_cons]
    cases x with
    | field a n d sid sub => exact List.Sublist.cons_cons _ ih
    | spread n d => exact ih.trans (List.sublist_append_right _ _)
    | inline on d sid ss => exact ih

theorem own_py_nodup (env : ResultTypes.Env) (k : Nat) (cn tn : String) (sel : List Selection)
    (h : ((mflat env (k + 1) cn sel).map (pyKey env)).Nodup) :
    ((plainDecls env cn tn sel).map (·.py)).Nodup := by
  rw [← plainDecls_filter, plainDecls_map env cn tn (·.py) (pyFieldName env) (fun _ _ _ _ => rfl) _
    (fun x hx => (List.mem_filter.mp hx).2)]
  simpa [List.map_map, Function.comp_def, pyKey] using h.sublist (List.Sublist.map (pyKey env) (own_sublist env k cn sel))

/-- **the fields pydantic sees for a class with mixin bases** are exactly the declarations of `mflat` -/
theorem allFields_mix (env : ResultTypes.Env) (penv : Pyd.Env) (K : Nat) (hfr : FragsOK env K)
    (Hfrag : HeadClassesIn env penv) (hbm : penv.class? "BaseModel" = none) :
    ∀ (k : Nat) (cn tn : String) (sel : List Selection),
      mfullS env k sel = true → mLocal env K cn tn sel = true →
      penv.class? cn = some (headClass env cn tn sel) →
      ((mflat env k cn sel).map (pyKey env)).Nodup →
      ∀ fuel, k ≤ fuel →
        (∀ d ∈ allFields penv fuel cn, ∃ o a n dirs sid sub,
          (o, Selection.field a n dirs sid sub) ∈ mflat env k cn sel ∧ d = fieldDecl env o tn a n dirs sub) ∧
        ((allFields penv fuel cn).map (·.py)).Nodup ∧
        (∀ o a n dirs sid sub, (o, Selection.field a n dirs sid sub) ∈ mflat env k cn sel →
          fieldDecl env o tn a n dirs sub ∈ allFields penv fuel cn)
  | 0, _, _, _, h, _, _, _, _, _ => by simp [mfullS] at h
  | k + 1, cn, tn, sel, hfull, hloc, hc, hnd, fuel, hfuel => by
    obtain ⟨fuel', rfl⟩ : ∃ fuel', fuel = fuel' + 1 := ⟨fuel - 1, by omega⟩
    have hlocs := (mLocal_iff env K cn tn sel).mp hloc
    have hfulls := by rw [mfullS_succ, List.all_eq_true] at hfull; exact hfull
    have hownnd := own_py_nodup env k cn tn sel hnd
    rw [allFields_succ penv fuel' cn _ hc]
    simp only [headClass, C01Fold.mergeDup_nodup _ hownnd]
    have hbase : ∀ b ∈ basesOf sel,
        (∀ d ∈ allFields penv fuel' b, ∃ o a n dirs sid sub,
          (o, Selection.field a n dirs sid sub) ∈ mflat env (k + 1) cn sel ∧ d = fieldDecl env o tn a n dirs sub) ∧
        ((allFields penv fuel' b).map (·.py)).Nodup := by
      intro b hb
      rcases mem_classBases (basesOf_eq sel ▸ hb) with rfl | ⟨g, hgs, rfl⟩ | h
      · rw [allFields_none penv "BaseModel" hbm fuel']
        exact ⟨fun d hd => (by cases hd), by simp⟩
      · obtain ⟨d, hg⟩ := (mem_spreadNames g sel).mp hgs
        obtain ⟨_, f, hf, hon⟩ := mLocal1_spread (hlocs _ hg)
        obtain ⟨hfm, hfn⟩ := find_mem hf
        obtain ⟨_, _, _, hlocf, _⟩ := fragOK_spec (hfr f hfm)
        have hfullf : mfullS env k f.sel = true := by simpa [hf] using hfulls _ hg
        have hsub := mflat_spread_sub env k cn sel g d f hg hf
        have hndf := hnd.sublist (List.Sublist.map (pyKey env) hsub)
        obtain ⟨h1, h2, _⟩ := allFields_mix env penv K hfr Hfrag hbm k (pascal f.name) f.on f.sel hfullf hlocf
          (Hfrag f hfm) hndf fuel' (by omega)
        rw [← hfn]
        refine ⟨fun d' hd' => ?_, h2⟩
        obtain ⟨o, a, n, dirs, sid, sub, hm, he⟩ := h1 d' hd'
        exact ⟨o, a, n, dirs, sid, sub, hsub.subset hm, by rw [he, hon]⟩
      · cases h
    have hall : ∀ bf ∈ (basesOf sel).map (allFields penv fuel') ++ [plainDecls env cn tn sel], ∀ d ∈ bf,
        ∃ o a n dirs sid sub, (o, Selection.field a n dirs sid sub) ∈ mflat env (k + 1) cn sel ∧
          d = fieldDecl env o tn a n dirs sub := by
      intro bf hbf d hd
      rcases List.mem_append.mp hbf with h | h
      · obtain ⟨b, hb, rfl⟩ := List.mem_map.mp h
        exact (hbase b hb).1 d hd
      · have : bf = plainDecls env cn tn sel := by simpa using h
        subst this
        obtain ⟨a, n, dirs, sid, sub, hx, rfl⟩ := mem_plainDecls hd
        exact ⟨cn, a, n, dirs, sid, sub, mflat_field_mem env k cn sel a n dirs sid sub hx, rfl⟩
    refine ⟨?_, ?_, ?_⟩
    · intro d hd
      rcases mem_mstep_foldl d _ _ hd with h | ⟨bf, hbf, hdbf⟩
      · cases h
      · exact hall bf hbf d hdbf
    · apply nodup_mstep_foldl _ _ (by simp)
      intro bf hbf
      rcases List.mem_append.mp hbf with h | h
      · obtain ⟨b, hb, rfl⟩ := List.mem_map.mp h
        exact (hbase b hb).2
      · have : bf = plainDecls env cn tn sel := by simpa using h
        subst this
        exact hownnd
    · intro o a n dirs sid sub hm
      apply mem_mstep_foldl_of
      · right
        rw [mflat_succ] at hm
        obtain ⟨s, hs, hxs⟩ := List.mem_flatMap.mp hm
        cases s with
        | field a' n' d' sid' sub' =>
          simp only [List.mem_singleton, Prod.mk.injEq] at hxs
          obtain ⟨rfl, hx⟩ := hxs
          refine ⟨plainDecls env o tn sel, by simp, ?_⟩
          cases hx
          unfold plainDecls
          exact List.mem_flatMap.mpr ⟨_, hs, by simp [plainDecl1]⟩
        | inline on d' sid' ss => simp at hxs
        | spread g d' =>
          obtain ⟨_, f, hf, hon⟩ := mLocal1_spread (hlocs _ hs)
          simp only [hf] at hxs
          obtain ⟨hfm, hfn⟩ := find_mem hf
          obtain ⟨_, _, _, hlocf, _⟩ := fragOK_spec (hfr f hfm)
          have hfullf : mfullS env k f.sel = true := by simpa [hf] using hfulls _ hs
          have hsub := mflat_spread_sub env k cn sel g d' f hs hf
          have hndf := hnd.sublist (List.Sublist.map (pyKey env) hsub)
          obtain ⟨_, _, h3⟩ := allFields_mix env penv K hfr Hfrag hbm k (pascal f.name) f.on f.sel hfullf hlocf
            (Hfrag f hfm) hndf fuel' (by omega)
          refine ⟨allFields penv fuel' (pascal g), ?_, ?_⟩
          · exact List.mem_append_left _ (List.mem_map.mpr ⟨pascal g, basesOf_eq sel ▸ pascal_mem_classBases ((mem_spreadNames g sel).mpr ⟨_, hs⟩), rfl⟩)
          · rw [← hfn, ← hon]
            exact h3 o a n dirs sid sub hxs
      · -- uniqueness: a declaration with the same Python name is the same declaration
        intro bf hbf d' hd' hpy
        obtain ⟨o', a', n', dirs', sid', sub', hm', rfl⟩ := hall bf hbf d' hd'
        have hkey : pyKey env (o', Selection.field a' n' dirs' sid' sub') = pyKey env (o, Selection.field a n dirs sid sub) := by
          simpa [pyKey, fieldDecl, keyOf] using hpy
        have := Lists.eq_of_nodup_map hnd hm' hm hkey
        simp only [Prod.mk.injEq, Selection.field.injEq] at this
        obtain ⟨rfl, rfl, rfl, rfl, _, rfl⟩ := this
        rfl

def mterm (env : ResultTypes.Env) (k : Nat) (tn : String) (s : Selection) : Nat :=
  match s with
  | .field _ name _ _ sub =>
    wneed (fieldT env tn name) + 2 + (if sub.isEmpty then 0 else mneed env k (subType env tn name) sub + 1)
  | .spread n _ =>
    match findFragment? env.frags n with
    | some f => mneed env k f.on f.sel + 1
    | none => 0
  | _ => 0

theorem mneed_succ (env : ResultTypes.Env) (k : Nat) (tn : String) (sel : List Selection) :
    mneed env (k + 1) tn sel = sel.foldl (fun acc s => max acc (mterm env k tn s)) 2 := rfl

theorem mterm_le (env : ResultTypes.Env) (k : Nat) (tn : String) (sel : List Selection) (s : Selection) (h : s ∈ sel) :
    mterm env k tn s ≤ mneed env (k + 1) tn sel := by
  rw [mneed_succ]
  exact Lists.le_foldl_max _ sel 2 _ (Or.inr ⟨s, h, Nat.le_refl _⟩)

/-- the fuel bound of a class covers every field node it has, own or inherited -/
theorem mneed_field (env : ResultTypes.Env) (K : Nat) (hfr : FragsOK env K) :
    ∀ (k : Nat) (cn tn : String) (sel : List Selection),
      mfull env k tn sel = true → mLocal env K cn tn sel = true →
      ∀ o a n d sid sub, (o, Selection.field a n d sid sub) ∈ mflat env k cn sel →
        wneed (fieldT env tn n) + 2 ≤ mneed env k tn sel ∧
        (sub.isEmpty = false → ∃ k', k' < k ∧ mfull env k' (subType env tn n) sub = true ∧
          wneed (fieldT env tn n) + 2 + mneed env k' (subType env tn n) sub + 1 ≤ mneed env k tn sel)
  | 0, _, _, _, h, _, _, _, _, _, _, _, _ => by simp [mfull] at h
  | k + 1, cn, tn, sel, hfull, hloc, o, a, n, d, sid, sub, hm => by
    have hlocs := (mLocal_iff env K cn tn sel).mp hloc
    have hfulls := by rw [mfull_succ, List.all_eq_true] at hfull; exact hfull
    rw [mflat_succ] at hm
    obtain ⟨s, hs, hxs⟩ := List.mem_flatMap.mp hm
    have hterm := mterm_le env k tn sel s hs
    cases s with
    | field a' n' d' sid' sub' =>
      simp only [List.mem_singleton, Prod.mk.injEq] at hxs
      obtain ⟨_, hx⟩ := hxs
      cases hx
      simp only [mterm] at hterm
      refine ⟨by omega, fun hne => ⟨k, Nat.lt_succ_self k, ?_, ?_⟩⟩
      · have := hfulls _ hs
        simpa [hne] using this
      · simp only [hne, Bool.false_eq_true, if_false] at hterm
        omega
    | inline on d' sid' ss => simp at hxs
    | spread g d' =>
      obtain ⟨_, f, hf, hon⟩ := mLocal1_spread (hlocs _ hs)
      simp only [hf] at hxs
      obtain ⟨_, _, _, hlocf, _⟩ := fragOK_spec (hfr f (find_mem hf).1)
      have hfullf : mfull env k f.on f.sel = true := by simpa [hf] using hfulls _ hs
      obtain ⟨h1, h2⟩ := mneed_field env K hfr k (pascal f.name) f.on f.sel hfullf hlocf o a n d sid sub hxs
      simp only [mterm, hf] at hterm
      rw [hon] at h1 h2 hterm
      refine ⟨by omega, fun hne => ?_⟩
      obtain ⟨k', hk', hf', hb⟩ := h2 hne
      exact ⟨k', by omega, hf', by omega⟩

def FragsIn (env : ResultTypes.Env) (penv : Pyd.Env) : Prop :=
  ∀ f ∈ env.frags, ∀ c ∈ fragClassesOf env f, penv.class? c.name = some c

theorem headClassesIn_of (env : ResultTypes.Env) (penv : Pyd.Env) (h : FragsIn env penv) : HeadClassesIn env penv := by
  intro f hf
  exact h f hf (headClass env (pascal f.name) f.on f.sel) (by simp [fragClassesOf, mClass, headClass])

theorem mem_mExtra {env : ResultTypes.Env} {cn tn : String} {x : Selection} {sel : List Selection} (hx : x ∈ sel)
    {c : ClassDecl} (hc : c ∈ mExtra1 env cn tn x) : c ∈ mExtra env cn tn sel := by
  rw [mExtra_eq]
  exact List.mem_flatMap.mpr ⟨x, hx, hc⟩

/-- what part (2) says about one class, for executor fuel `e`; `k` = what is left of the fragment-nesting fuel at this class,
    and the validation fuel of the tier is `mneed … k … + 1` -/
def ValSpec (env : ResultTypes.Env) (penv : Pyd.Env) (K : Nat) (e : Nat) : Prop :=
  ∀ (k : Nat) (cn tn : String) (sel : List Selection),
    k ≤ e → k ≤ K →
    mfull env k tn sel = true → mfullS env (fragDepth env) sel = true →
    mLocal env K cn tn sel = true → msetOK env K cn sel = true →
    (∀ c ∈ mClass env cn tn sel, penv.class? c.name = some c) →
    Accepts env.schema env.frags penv e (mneed env k tn sel + 1) cn tn sel

/-- a field node of the flattened selection serves the entry CollectFields makes of it, whichever class declares it: the class
    of its sub-selection is named after the declaring class and is the tier's own, or a fragment's -/
theorem node_fits (env : ResultTypes.Env) (penv : Pyd.Env) (K : Nat) (hfr : FragsOK env K) (ha : ResultLeaf.EnvAgrees env penv)
    (Hcls : FragsIn env penv) (e : Nat) (IH : ValSpec env penv K e) (k : Nat) (cn tn : String) (sel : List Selection)
    (hke : k ≤ e + 1) (hkK : k ≤ K) (hfull : mfull env k tn sel = true) (hloc : mLocal env K cn tn sel = true)
    (hcls : ∀ c ∈ mClass env cn tn sel, penv.class? c.name = some c)
    (o : String) (alias : Option String) (name : String) (dirs : List Directive) (sid : Nat) (sub : List Selection)
    (hm : (o, Selection.field alias name dirs sid sub) ∈ mflat env k cn sel) :
    DeclFits env.schema env.frags penv e (mneed env k tn sel) tn (collOf (.field alias name dirs sid sub))
      (fieldDecl env o tn alias name dirs sub) := by
  obtain ⟨_, hlx, horig⟩ := mflat_mem env K hfr k cn tn sel hloc o _ hm
  obtain ⟨hn1, hn2⟩ := mneed_field env K hfr k cn tn sel hfull hloc o alias name dirs sid sub hm
  obtain ⟨hname, _, hfd, hleaf, hobj⟩ := mLocal1_field hlx
  obtain ⟨fd, hfd'⟩ := Option.isSome_iff_exists.mp hfd
  have hT : fieldT env tn name = fd.type := by simp [fieldT, hfd']
  refine DeclFits.plainField env penv env.frags ha e _ tn _ _ (fieldT env tn name) _ dirs (fieldDecl_alias ..) rfl rfl
    (fun h => by simpa [collOf, fieldDecl, Exec.isConditional, hasConditionalDirective] using h)
    (by simpa [collOf, typenameField] using hname) ⟨fd, hfd', hT.symm⟩ (fun hs => ?_) (fun hs => ?_)
  · exact ⟨if_pos hs, hleaf hs, hn1⟩
  · have hs' : sub.isEmpty = false := hs
    obtain ⟨hkindS, hsetS, hfSS, hrec⟩ := hobj hs'
    obtain ⟨k', hk'lt, hk'full, hk'b⟩ := hn2 hs'
    refine ⟨subClass env o alias name, mneed env k' (subType env tn name) sub + 1, if_neg (by simp [hs']), by omega, ?_⟩
    intro rt' hrt'
    rw [show (fieldT env tn name).base = subType env tn name from rfl, runtimeTypes_object hkindS, List.mem_singleton] at hrt'
    subst hrt'
    refine IH k' _ _ sub (by omega) (by omega) hk'full hfSS hrec hsetS (fun c hc => ?_)
    have hc' : c ∈ mExtra1 env o tn (.field alias name dirs sid sub) := by rw [mExtra1_sub _ _ _ _ _ _ _ _ hs']; exact hc
    rcases horig with ⟨rfl, hx⟩ | ⟨f, hf, rfl, hx, hon⟩
    · exact hcls c (List.mem_cons_of_mem _ (mem_mExtra hx hc'))
    · refine Hcls f hf c ?_
      rw [← hon] at hc'
      exact List.mem_cons_of_mem _ (mem_mExtra hx hc')

theorem class_rt_mix (env : ResultTypes.Env) (penv : Pyd.Env) (K : Nat) (hfr : FragsOK env K)
    (ha : ResultLeaf.EnvAgrees env penv) (hbm : penv.class? "BaseModel" = none) (Hcls : FragsIn env penv)
    (hKf : fragDepth env ≤ penv.clsFuel) (e : Nat) (IH : ValSpec env penv K e) : ValSpec env penv K (e + 1) := by
  intro k cn tn sel hke hkK hfull hfullS hloc hset hcls
  -- `K` (the tier's conditions), `k` (what is left of it at this class), `e + 1` (the executor), `fragDepth env` (pydantic's
  -- inheritance): all the fuels see the same field nodes
  have hfS := mfullS_of_mfull env k tn sel hfull
  have hFLe : mflat env (e + 1) cn sel = mflat env k cn sel := mflat_eq_of_leS env k (e + 1) cn sel hfS hke
  have hFLK : mflat env K cn sel = mflat env k cn sel := mflat_eq_of_leS env k K cn sel hfS hkK
  have hFLD : mflat env (fragDepth env) cn sel = mflat env k cn sel := mflat_eq_both env _ _ cn sel hfullS hfS
  unfold msetOK at hset
  rw [hFLK] at hset
  obtain ⟨hkeys, hpys, hpk⟩ := setOK_spec hset
  simp only [List.map_map] at hkeys hpys hpk
  have hmem := mflat_mem env K hfr k cn tn sel hloc
  have hG := collect_fresh env.schema env.frags (e + 1) tn sel [] (mflat env (e + 1) cn sel) (fun p => collOf p.2) (fun p => keyOf p.2)
    (entries_mix env K hfr tn (e + 1) cn sel hloc) (fun p hp => collOf_key (mflat_mem env K hfr (e + 1) cn tn sel hloc p.1 p.2 hp).1)
    (by rw [hFLe]; exact hkeys) (by intro _ _ c hc; cases hc)
  rw [List.nil_append, hFLe] at hG
  have hc0 : penv.class? cn = some (headClass env cn tn sel) := hcls (headClass env cn tn sel) (by simp [mClass, headClass])
  obtain ⟨hA1, hA2, hA3⟩ := allFields_mix env penv K hfr (headClassesIn_of env penv Hcls) hbm (fragDepth env) cn tn sel hfullS hloc hc0
    (by rw [hFLD]; unfold pyKey; exact hpys) penv.clsFuel hKf
  rw [hFLD] at hA1 hA3
  have hgk : ∀ p ∈ mflat env k cn sel, (collOf p.2).key = keyOf p.2 := fun p hp => collOf_key (hmem p.1 p.2 hp).1
  refine class_fits env.schema env.frags penv e (mneed env k tn sel) cn tn sel (pyFieldName env) _ hc0 hA2 ?_ ?_ ?_ ?_
  · intro d hd
    obtain ⟨o, alias, name, dirs, sid, sub, _, rfl⟩ := hA1 d hd
    rw [fieldDecl_key]; rfl
  · rw [hG]
    intro d hd
    obtain ⟨o, alias, name, dirs, sid, sub, hm, rfl⟩ := hA1 d hd
    rw [fieldDecl_key]
    refine (hpk _ (List.mem_map.mpr ⟨_, hm, rfl⟩)).imp id (fun h g hg he => h ?_)
    obtain ⟨p, hp, rfl⟩ := List.mem_map.mp hg
    rw [hgk p hp] at he
    exact (show pyFieldName env (alias.getD name) = keyOf p.2 from he.symm) ▸ List.mem_map.mpr ⟨p, hp, rfl⟩
  · rw [hG]
    intro g hg
    obtain ⟨⟨o, x⟩, hp, rfl⟩ := List.mem_map.mp hg
    have hxf := (hmem o x hp).1
    cases x with
    | field a n d sid sub => exact ⟨_, hA3 o a n d sid sub hp, fieldDecl_key ..⟩
    | spread n d => simp [isField] at hxf
    | inline on d sid ss => simp [isField] at hxf
  · rw [hG]
    intro d hd
    obtain ⟨o, alias, name, dirs, sid, sub, hm, rfl⟩ := hA1 d hd
    exact ⟨collOf (.field alias name dirs sid sub), List.mem_map.mpr ⟨_, hm, rfl⟩, (fieldDecl_key ..).symm,
      node_fits env penv K hfr ha Hcls e IH k cn tn sel hke hkK hfull hloc hcls o alias name dirs sid sub hm⟩

theorem val_spec (env : ResultTypes.Env) (penv : Pyd.Env) (K : Nat) (hfr : FragsOK env K)
    (ha : ResultLeaf.EnvAgrees env penv) (hbm : penv.class? "BaseModel" = none) (Hcls : FragsIn env penv)
    (hKf : fragDepth env ≤ penv.clsFuel) : ∀ e, ValSpec env penv K e
  | 0 => fun _ _ _ _ _ _ _ _ _ _ _ => Accepts.zero _ _ _ _ _ _ _
  | e + 1 => class_rt_mix env penv K hfr ha hbm Hcls hKf e (val_spec env penv K hfr ha hbm Hcls hKf e)

end Ariadne.C01Mix
