/-
  Proofs/C04ModShared.lean — what the module theorems of input_types.py, client.py, the result modules and `__init__`
  share: what `Valid` says about the configuration (`CfgFacts`) and about the two vocabularies (`defsMatch_*`), the scalar
  configuration as the component generators see it (`find?_map_scalars`), how a user import, the base client import, the
  enums import and the scalar imports resolve (`resolves_userImport`, `Facts.resolves_baseClient / _enums / _scalarImports`;
  `enum_class_mem`: which enum classes `enums.py` defines),
  and where the names of a configured scalar are bound (`scalar_name_bound`, `scalar_name_where`).
-/
import AriadneModel.Proofs.C04Resolve
import AriadneModel.Proofs.Names
import AriadneModel.Proofs.InputField


namespace Ariadne.C04Proofs
open Ariadne.Gql Ariadne.Package Ariadne.PackageTriggers Ariadne.PackageValid Ariadne.Spec.PyScope
open Ariadne.InputField (findDef_mem)

theorem inputScalars_values : ∀ v ∈ Tables.inputScalarsMap.map (·.2), builtins.contains v = true ∨ v = Tables.uploadClassName := by
  decide

theorem dottedHead_enum {n v : String} (h : '.' ∉ n.toList) : dottedHead (n ++ "." ++ v) = n := by
  unfold dottedHead
  have : (n ++ "." ++ v).toList = n.toList ++ '.' :: v.toList := by simp [String.toList_append]
  rw [this, Lists.takeWhile_append_stop (by decide) fun c hc => by simpa using fun (e : c = '.') => h (e ▸ hc)]
  simp

theorem defsMatch_enum {inp : Input} (hm : defsMatch inp = true) {n : String} {vs : List String}
    (h : InputGen.findDef inp.defs n = some (.enum n vs)) : inp.schema.kindOf? n = some .enum := by
  unfold defsMatch at hm
  simp only [Bool.and_eq_true] at hm
  have := List.all_eq_true.mp hm.2 _ (findDef_mem h).1
  simpa using this

theorem kindOf_mem_types {s : Schema} {n : String} {k : Gql.Kind} (h : s.kindOf? n = some k) : ∃ t ∈ s.types, t.name = n ∧ t.kind = k := by
  unfold Schema.kindOf? Schema.get? at h
  cases hf : s.types.find? (·.name == n) with
  | none => rw [hf] at h; simp at h
  | some t => exact ⟨t, List.mem_of_find?_eq_some hf, by simpa using List.find?_some hf, by simpa [hf] using h⟩

theorem defsMatch_input {inp : Input} (hm : defsMatch inp = true) {n : String} (h : inp.schema.kindOf? n = some .input) :
    ∃ m fs, InputGen.findDef inp.defs n = some (.input m fs) := by
  unfold defsMatch at hm
  simp only [Bool.and_eq_true] at hm
  obtain ⟨t, ht, hname, hk⟩ := kindOf_mem_types h
  have := List.all_eq_true.mp hm.1 t ht
  rw [hk, hname] at this
  cases hd : InputGen.findDef inp.defs n with
  | none => rw [hd] at this; simp at this
  | some d =>
    rw [hd] at this
    cases d with
    | input m fs => exact ⟨m, fs, rfl⟩
    | enum m vs => simp at this
    | scalar m => simp at this
    | composite m => simp at this

/-- a component generator sees the configured scalars through a map: what it finds under a name is the image of what
    `lookupScalar` finds -/
theorem find?_map_scalars {β : Type} (l : Scalars.ScalarCfg) (f : String × Scalars.ScalarData → β) (name : β → String)
    (hname : ∀ x, name (f x) = x.1) {n : String} {sc : β} (h : (l.map f).find? (fun s => name s == n) = some sc) :
    ∃ k d, Scalars.lookupScalar l n = some d ∧ sc = f (k, d) := by
  unfold Scalars.lookupScalar
  induction l with
  | nil => simp at h
  | cons a rest ih =>
    simp only [List.map_cons, List.find?_cons, hname] at h ⊢
    by_cases hk : a.1 == n
    · simp only [hk, Option.some.injEq] at h ⊢
      exact ⟨a.1, a.2, rfl, h.symm⟩
    · simp only [hk] at h ⊢
      exact ih h

theorem inputCfg_scalar {cfg : Config} {n : String} {sc : InputField.ScalarCfg} (h : (inputCfg cfg).scalar? n = some sc) :
    ∃ d, Scalars.lookupScalar cfg.scalars n = some d ∧ sc.typeName = d.typeName ∧ sc.serialize = d.serializeName := by
  obtain ⟨k, d, hd, rfl⟩ := find?_map_scalars cfg.scalars (fun nd => (⟨nd.1, nd.2.typeName, nd.2.serializeName⟩ : InputField.ScalarCfg))
    InputField.ScalarCfg.name (fun _ => rfl) h
  exact ⟨d, hd, rfl, rfl⟩

theorem enum_class_mem {cfg : Config} {s : Schema} {ue : List String} {n : String} (hk : s.kindOf? n = some .enum)
    (hu : cfg.allEnums = true ∨ n ∈ ue) : n ∈ (enumsModule cfg s ue).classes.map (·.name) := by
  obtain ⟨t, hmem, hname, hk⟩ := kindOf_mem_types hk
  have hsch : t ∈ schemaEnums s := List.mem_filter.mpr ⟨hmem, by simp [hk]⟩
  simp only [enumsModule, List.map_map]
  refine List.mem_map.mpr ⟨t, ?_, by simp [enumClassIR, hname]⟩
  rcases hu with h | h
  · simp [h, hsch]
  · cases ha : cfg.allEnums with
    | true => simp [hsch]
    | false =>
      simp only [Bool.false_eq_true, if_false]
      exact List.mem_filter.mpr ⟨hsch, by simpa [hname] using h⟩

theorem enumsModule_file (cfg : Config) (s : Schema) (ue : List String) : (enumsModule cfg s ue).file = pyFile cfg.enumsModule := rfl

theorem enumsModule_generated (cfg : Config) (s : Schema) (ue : List String) : generated (enumsModule cfg s ue) = true := rfl

/-- the conjuncts of `cfgOK`, named -/
structure CfgFacts (cfg : Config) : Prop where
  enumsNe : cfg.enumsModule ≠ ""
  inputsNe : cfg.inputsModule ≠ ""
  baseNe : stem cfg.baseClientFile ≠ ""
  enumsDot : leadingDot cfg.enumsModule = false
  inputsDot : leadingDot cfg.inputsModule = false
  fragsDot : leadingDot cfg.fragmentsModule = false
  clientDot : leadingDot cfg.clientFile = false
  baseDot : leadingDot (stem cfg.baseClientFile) = false
  basePy : pyFile (stem cfg.baseClientFile) = cfg.baseClientFile
  notBaseModel : cfg.baseClientFile ≠ baseModelFile
  notExceptions : cfg.baseClientFile ≠ exceptionsFile
  notBaseOperation : cfg.baseClientFile ≠ baseOperationFile
  scalars : (cfg.scalars.all fun nd => scalarOK cfg nd.2) = true

theorem cfgFacts {cfg : Config} (h : cfgOK cfg = true) : CfgFacts cfg := by
  unfold cfgOK at h
  simp only [Bool.and_eq_true, Bool.not_eq_true', bne_iff_ne, ne_eq, beq_iff_eq] at h
  obtain ⟨⟨⟨⟨⟨⟨⟨⟨⟨⟨⟨⟨a1, a2⟩, a3⟩, a4⟩, a5⟩, a6⟩, a7⟩, a8⟩, a9⟩, a10⟩, a11⟩, a12⟩, a13⟩ := h
  exact ⟨a1, a2, a3, a4, a5, a6, a7, a8, a9, a10, a11, a12, a13⟩

theorem scalarOK_imports {cfg : Config} {d : Scalars.ScalarData} (h : scalarOK cfg d = true) :
    ∀ i ∈ Scalars.scalarImports d, i.module ≠ "" ∧ userImportOK cfg (ofScalarImport i) = true := by
  unfold scalarOK at h
  simp only [Bool.and_eq_true] at h
  intro i hi
  have := List.all_eq_true.mp h.2 i hi
  simp only [Bool.and_eq_true, bne_iff_ne, ne_eq] at this
  exact this

theorem scalarOK_of_lookup {cfg : Config} (hc : cfgOK cfg = true) {n : String} {d : Scalars.ScalarData}
    (h : Scalars.lookupScalar cfg.scalars n = some d) : scalarOK cfg d = true :=
  List.all_eq_true.mp (cfgFacts hc).scalars (n, d) (ArgProofs.lookupScalar_mem h)

theorem copiedList_eq (cfg : Config) : copiedList cfg = copiedFiles cfg := rfl

section
variable {cfg : Config} {inp : Input} {p : PackageIR} {st : St} {io : InputsOut}
  {fx : Option (Fragments.FragmentsOut × List Fragments.DefGen)}

theorem resolves_userImport (F : Facts cfg inp p st io fx) {i : Import}
    (h : userImportOK cfg i = true) : Resolves p (normImport i) := by
  unfold userImportOK at h
  simp only [Bool.or_eq_true, Bool.and_eq_true, beq_iff_eq] at h
  rcases h with h | ⟨⟨h1, h2⟩, h3⟩
  · exact Or.inl h
  · have hmem : pyFile (normImport i).module ∈ copiedList cfg := by simpa [copiedList_eq] using h2
    refine F.resolves (copied_mem_written hmem) h1 rfl ?_
    intro ns hns
    rw [exported_copied] at hns
    rw [hns] at h3
    intro n hn
    have := List.all_eq_true.mp h3 n hn
    simpa using this

theorem Facts.resolves_baseClient (F : Facts cfg inp p st io fx) (C : CfgFacts cfg) :
    Resolves p (normImport ⟨1, stem cfg.baseClientFile, [cfg.baseClientName]⟩) := by
  refine F.resolves_copied (baseClient_mem_copied cfg) C.basePy.symm C.baseDot ?_ (fun n hn => hn)
  have h1 : (cfg.baseClientFile == baseModelFile) = false := by simpa using C.notBaseModel
  have h2 : (cfg.baseClientFile == exceptionsFile) = false := by simpa using C.notExceptions
  have h3 : (cfg.baseClientFile == baseOperationFile) = false := by simpa using C.notBaseOperation
  simp [copiedModule, h1, h2, h3]

theorem Facts.resolves_enums (F : Facts cfg inp p st io fx) (C : CfgFacts cfg) {ns : List String}
    (hns : ∀ n ∈ ns, inp.schema.kindOf? n = some .enum ∧ n ∈ finalUsedEnums st io fx) :
    Resolves p (normImport ⟨1, cfg.enumsModule, ns⟩) :=
  F.resolves_generated enums_mem_written (enumsModule_generated _ _ _) C.enumsDot (enumsModule_file _ _ _)
    (fun n hn => className_mem_defines (enum_class_mem (hns n hn).1 (Or.inr (hns n hn).2)))

theorem Facts.resolves_scalarImports (F : Facts cfg inp p st io fx) (hc : cfgOK cfg = true) {used : List String} :
    ∀ i ∈ scalarImportsOf cfg used, Resolves p (normImport i) := by
  intro i hi
  unfold scalarImportsOf at hi
  obtain ⟨n, _, hi⟩ := List.mem_flatMap.mp hi
  cases hl : Scalars.lookupScalar cfg.scalars n with
  | none => rw [hl] at hi; cases hi
  | some d =>
    rw [hl] at hi
    obtain ⟨si, hsi, rfl⟩ := List.mem_map.mp hi
    exact resolves_userImport F (scalarOK_imports (scalarOK_of_lookup hc hl) si hsi).2

end

theorem scalar_name_bound {cfg : Config} {d : Scalars.ScalarData} (h : scalarOK cfg d = true) {u : String}
    (hu : u = d.typeName ∨ some u = d.parseName ∨ some u = d.serializeName) :
    builtins.contains u = true ∨ u = "Any" ∨ ∃ i ∈ (Scalars.scalarImports d).map ofScalarImport, u ∈ i.names := by
  unfold scalarOK at h
  simp only [Bool.and_eq_true] at h
  obtain ⟨⟨⟨h1, h2⟩, h3⟩, _⟩ := h
  have key : (alwaysBound ++ Scalars.boundNames (Scalars.scalarImports d)).contains u = true := by
    rcases hu with rfl | hu | hu
    · exact h1
    · rw [← hu] at h2; exact h2
    · rw [← hu] at h3; exact h3
  have : u ∈ alwaysBound ++ Scalars.boundNames (Scalars.scalarImports d) := by simpa using key
  rcases List.mem_append.mp this with h | h
  · have : builtins.contains u = true ∨ u = "Any" := by
      revert h
      simp only [alwaysBound, builtins]
      intro h
      simp only [List.mem_cons, List.mem_nil_iff, or_false] at h
      rcases h with rfl | rfl | rfl | rfl | rfl | rfl | rfl | rfl | rfl | rfl | rfl <;> first | exact Or.inl (by decide) | exact Or.inr rfl
    rcases this with h | h
    · exact Or.inl h
    · exact Or.inr (Or.inl h)
  · unfold Scalars.boundNames at h
    obtain ⟨ns, hns, hu'⟩ := List.mem_flatten.mp h
    obtain ⟨i, hi, rfl⟩ := List.mem_map.mp hns
    exact Or.inr (Or.inr ⟨ofScalarImport i, List.mem_map.mpr ⟨i, hi, rfl⟩, hu'⟩)

theorem scalar_name_where {cfg : Config} (hc : cfgOK cfg = true) {n : String} {d : Scalars.ScalarData}
    (hd : Scalars.lookupScalar cfg.scalars n = some d) {u : String}
    (hu : u = d.typeName ∨ some u = d.parseName ∨ some u = d.serializeName) {used : List String} (hn : n ∈ used) :
    builtins.contains u = true ∨ u = "Any" ∨ ∃ i ∈ scalarImportsOf cfg used, u ∈ i.names ∧ i.module ≠ "" := by
  have hok := scalarOK_of_lookup hc hd
  rcases scalar_name_bound hok hu with hb | rfl | ⟨i, hi, hni⟩
  · exact Or.inl hb
  · exact Or.inr (Or.inl rfl)
  · obtain ⟨si, hsi, rfl⟩ := List.mem_map.mp hi
    refine Or.inr (Or.inr ⟨_, ?_, hni, (scalarOK_imports hok si hsi).1⟩)
    unfold scalarImportsOf
    exact List.mem_flatMap.mpr ⟨n, hn, by rw [hd]; exact List.mem_map.mpr ⟨si, hsi, rfl⟩⟩

end Ariadne.C04Proofs
