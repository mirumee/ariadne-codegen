/-
  C15: the body of a generated method (`bodyPre`, `lastStmt`, `shorterShape`) and what ShorterResults and ExtractOperations
  make of ONE method of that shape; ExtractOperations' bookkeeping and the operations module it writes.
-/
import AriadneModel.Proofs.C15


namespace Ariadne.C15
open Ariadne.Py Ariadne.Plugins Ariadne.ClientSem

/-- the generated body without its last statement: in-body imports, the operation, the variables dict and, for a query / mutation,
    the `execute` and `get_data` assignments -/
def bodyPre (s : Shape) : List Stmt :=
  s.imports.map (fun i => Stmt.simple (.importFrom i)) ++ opStmts s ++
    [.simple (.annAssign (.name s.varsVar) s.varsAnn (some s.variables))] ++
    (match s.tail with
     | .call aw r d =>
       [.simple (.assign r (if aw then .await (execCall "execute" s) else execCall "execute" s)),
        .simple (.assign d (.call (.attr (.name "self") "get_data") [.name r] [] []))]
     | .sub _ _ _ => [])

/-- the last statement of the generated body, the one ShorterResults rewrites: `return C.model_validate(data)…` or the
    `async for … yield` loop of a subscription -/
def lastStmt (s : Shape) : Stmt :=
  match s.tail with
  | .call _ _ d => .simple (.ret (some (projExpr s.retClass d s.proj)))
  | .sub d l o => .asyncFor (.name d) (execCall "execute_ws" s) [.expr (.yield (projExpr s.retClass d s.proj))] l o

theorem bodyOf_eq (s : Shape) : bodyOf s = bodyPre s ++ [lastStmt s] := by
  unfold bodyOf bodyPre lastStmt tailStmts
  cases s.tail <;> simp [List.append_assoc]

theorem bodyOf_getLast (s : Shape) : (bodyOf s).getLast? = some (lastStmt s) := by
  rw [bodyOf_eq]; simp

theorem bodyOf_dropLast (s : Shape) : (bodyOf s).dropLast = bodyPre s := by
  rw [bodyOf_eq]; simp

theorem projExpr_snoc (c d : String) (fs : List String) (f : String) :
    projExpr c d (fs ++ [f]) = .attr (projExpr c d fs) f := by
  simp [projExpr, List.foldl_append]

theorem execCall_proj (callee : String) (s : Shape) (p : List String) :
    execCall callee { s with proj := p } = execCall callee s := rfl

theorem bodyPre_proj (s : Shape) (p : List String) : bodyPre { s with proj := p } = bodyPre s := by
  unfold bodyPre opStmts
  cases s.tail <;> simp [execCall, Shape.queryName]

/-- the body ShorterResults leaves behind: one more attribute behind `model_validate`; for a
    subscription the rebuilt `async for` has a bare `Expr` body and no `orelse` -/
def shorterShape (s : Shape) (f : String) : Shape :=
  { s with proj := s.proj ++ [f],
           tail := match s.tail with
             | .call aw r d => .call aw r d
             | .sub d _ _ => .sub d false 0 }

theorem bodyPre_shorterShape (s : Shape) (f : String) : bodyPre (shorterShape s f) = bodyPre s := by
  unfold shorterShape bodyPre opStmts
  cases s.tail <;> simp [execCall, Shape.queryName]

theorem shorterShape_body_call (s : Shape) (f : String) (aw : Bool) (r d : String) (ht : s.tail = .call aw r d) :
    bodyOf (shorterShape s f) = bodyPre s ++ [.simple (.ret (some (.attr (projExpr s.retClass d s.proj) f)))] := by
  rw [bodyOf_eq, bodyPre_shorterShape]
  have h2 : lastStmt (shorterShape s f) = .simple (.ret (some (.attr (projExpr s.retClass d s.proj) f))) := by
    unfold shorterShape lastStmt
    simp [ht, projExpr_snoc]
  rw [h2]

theorem shorterShape_body_sub (s : Shape) (f : String) (d : String) (l : Bool) (o : Nat) (ht : s.tail = .sub d l o) :
    bodyOf (shorterShape s f) = bodyPre s ++
      [.asyncFor (.name d) (execCall "execute_ws" s) [.expr (.yield (.attr (projExpr s.retClass d s.proj) f))] false 0] := by
  rw [bodyOf_eq, bodyPre_shorterShape]
  have h2 : lastStmt (shorterShape s f) =
      .asyncFor (.name d) (execCall "execute_ws" s) [.expr (.yield (.attr (projExpr s.retClass d s.proj) f))] false 0 := by
    unfold shorterShape lastStmt
    simp [ht, projExpr_snoc, execCall, Shape.queryName]
  rw [h2]

theorem shorter_call (st : ShorterState) (m : Method) (s : Shape) (aw : Bool) (r d cls : String)
    (hb : m.body = bodyOf s) (ht : s.tail = .call aw r d) (hr : m.returns = some (.name cls)) :
    shorterModifyMethod st m =
      (nodeAndClass st.classDict cls >>= fun x =>
        match x with
        | none => pure (st, m)
        | some (node, classes, f) =>
          pure (shorterUpdateImports st m.name classes,
            { m with returns := some node, body := bodyOf (shorterShape s f) })) := by
  unfold shorterModifyMethod
  rw [hb, bodyOf_getLast]
  simp only [lastStmt, ht]
  unfold shorterQueryMutation
  simp only [hr]
  cases nodeAndClass st.classDict cls with
  | error e => rfl
  | ok x =>
    cases x with
    | none => rfl
    | some t =>
      obtain ⟨node, classes, f⟩ := t
      simp only [bind_ok, pure_eq_ok]
      rw [shorterShape_body_call s f aw r d ht, hb, bodyOf_dropLast]

/-- subscription methods (`l` = the `async for` body is a list, as client.py builds it; the bare `Expr`
    body ShorterResults itself leaves behind makes a second application die in `len(stmt.body)`) -/
theorem shorter_sub_any (st : ShorterState) (m : Method) (s : Shape) (d cls : String) (l : Bool) (o : Nat) (a : Ex)
    (hb : m.body = bodyOf s) (ht : s.tail = .sub d l o) (hr : m.returns = some (.sub a (.name cls))) :
    shorterModifyMethod st m =
      (nodeAndClass st.classDict cls >>= fun x =>
        match x with
        | none => pure (st, m)
        | some (node, classes, f) =>
          if l then
            pure (shorterUpdateImports st m.name classes,
              { m with returns := some (.sub (.name "AsyncIterator") node), body := bodyOf (shorterShape s f) })
          else throw "TypeError") := by
  unfold shorterModifyMethod
  rw [hb, bodyOf_getLast]
  simp only [lastStmt, ht]
  unfold shorterSubscription
  simp only [hr]
  cases nodeAndClass st.classDict cls with
  | error e => rfl
  | ok x =>
    cases x with
    | none => rfl
    | some t =>
      obtain ⟨node, classes, f⟩ := t
      cases l with
      | false => rfl
      | true =>
        simp only [bind_ok, pure_eq_ok, Bool.not_true, Bool.false_eq_true, ↓reduceIte]
        rw [shorterShape_body_sub s f d true o ht, hb, bodyOf_dropLast]

theorem shorter_sub (st : ShorterState) (m : Method) (s : Shape) (d cls : String) (o : Nat) (a : Ex)
    (hb : m.body = bodyOf s) (ht : s.tail = .sub d true o) (hr : m.returns = some (.sub a (.name cls))) :
    shorterModifyMethod st m =
      (nodeAndClass st.classDict cls >>= fun x =>
        match x with
        | none => pure (st, m)
        | some (node, classes, f) =>
          pure (shorterUpdateImports st m.name classes,
            { m with returns := some (.sub (.name "AsyncIterator") node), body := bodyOf (shorterShape s f) })) := by
  rw [shorter_sub_any st m s d cls true o a hb ht hr]
  cases nodeAndClass st.classDict cls with
  | error e => rfl
  | ok x => cases x <;> rfl

/-- a return annotation that is not a plain class name (for instance the string constant
    ClientForwardRefs leaves behind) makes ShorterResults skip the method -/
theorem shorter_skips_non_name (st : ShorterState) (m : Method) (s : Shape) (aw : Bool) (r d : String)
    (hb : m.body = bodyOf s) (ht : s.tail = .call aw r d) (hr : ∀ id, m.returns ≠ some (.name id)) :
    shorterModifyMethod st m = pure (st, m) := by
  unfold shorterModifyMethod
  rw [hb, bodyOf_getLast]
  simp only [lastStmt, ht]
  unfold shorterQueryMutation
  split
  · rename_i id _ h2
    exact absurd h2 (hr _)
  · rfl

/-- what `_modify_method_def` makes of a method whose result class has the single field `f` with unwrapped annotation `node`: the
    signature stays but for the return annotation, the body is projected on `f` -/
structure Rewritten (m m' : Method) (node : Ex) (f : String) : Prop where
  name : m'.name = m.name
  args : m'.args = m.args
  rest : m'.rest = m.rest
  isAsync : m'.isAsync = m.isAsync
  returns : (∃ cls, m.returns = some (.name cls) ∧ m'.returns = some node) ∨
    (∃ a cls, m.returns = some (.sub a (.name cls)) ∧ m'.returns = some (.sub (.name "AsyncIterator") node))
  body : ∀ s, m.body = bodyOf s → m'.body = bodyOf (shorterShape s f)

theorem shorterModifyMethod_cases (st st' : ShorterState) (m m' : Method)
    (h : shorterModifyMethod st m = .ok (st', m')) :
    (st' = st ∧ m' = m) ∨
    (∃ cls node classes f, returnClassOf m = some cls ∧ nodeAndClass st.classDict cls = .ok (some (node, classes, f)) ∧
      st' = shorterUpdateImports st m.name classes ∧ Rewritten m m' node f) := by
  have same : ∀ {x : Method}, (pure (st, x) : M (ShorterState × Method)) = .ok (st', m') → st' = st ∧ m' = x := by
    intro x hh; simp [pure, Except.pure] at hh; exact ⟨hh.1.symm, hh.2.symm⟩
  unfold shorterModifyMethod at h
  split at h
  · rename_i v hlast
    unfold shorterQueryMutation at h
    split at h
    · rename_i value id hret
      cases hn : nodeAndClass st.classDict id with
      | error e => rw [hn] at h; cases h
      | ok x =>
        rw [hn] at h
        cases x with
        | none => exact .inl (same h)
        | some t =>
          obtain ⟨node, classes, f⟩ := t
          simp only [bind_ok, pure_eq_ok, Except.ok.injEq, Prod.mk.injEq] at h
          obtain ⟨h1, h2⟩ := h
          right
          refine ⟨id, node, classes, f, by simp [returnClassOf, hret], hn, h1.symm, ?_⟩
          subst h2
          refine ⟨rfl, rfl, rfl, rfl, .inl ⟨id, hret, rfl⟩, ?_⟩
          intro s hb
          simp only
          rw [hb, bodyOf_getLast] at hlast
          cases ht : s.tail with
          | call aw r d =>
            simp only [lastStmt, ht, Option.some.injEq, Stmt.simple.injEq, Simple.ret.injEq] at hlast
            subst hlast
            rw [shorterShape_body_call s f aw r d ht, hb, bodyOf_dropLast]
          | sub d l o =>
            simp [lastStmt, ht] at hlast
    · exact .inl (same h)
  · rename_i target iter body isList orelse hlast
    unfold shorterSubscription at h
    split at h
    · rename_i a id hret
      cases hn : nodeAndClass st.classDict id with
      | error e => rw [hn] at h; cases h
      | ok x =>
        rw [hn] at h
        cases x with
        | none => exact .inl (same h)
        | some t =>
          obtain ⟨node, classes, f⟩ := t
          simp only [bind_ok] at h
          split at h
          · cases h
          · rename_i hlist
            split at h
            · rename_i prev rest
              simp only [pure_eq_ok, Except.ok.injEq, Prod.mk.injEq] at h
              obtain ⟨h1, h2⟩ := h
              right
              refine ⟨id, node, classes, f, by simp [returnClassOf, hret], hn, h1.symm, ?_⟩
              subst h2
              refine ⟨rfl, rfl, rfl, rfl, .inr ⟨a, id, hret, rfl⟩, ?_⟩
              intro s hb
              simp only
              rw [hb, bodyOf_getLast] at hlast
              cases ht : s.tail with
              | call aw r d => simp [lastStmt, ht] at hlast
              | sub d l o =>
                simp only [lastStmt, ht, Option.some.injEq, Stmt.asyncFor.injEq] at hlast
                obtain ⟨rfl, rfl, hbody, rfl, rfl⟩ := hlast
                simp only [List.cons.injEq, Simple.expr.injEq, Ex.yield.injEq] at hbody
                obtain ⟨rfl, rfl⟩ := hbody
                rw [shorterShape_body_sub s f d l o ht, hb, bodyOf_dropLast]
            · exact .inl (same h)
    · exact .inl (same h)
  · exact .inl (same h)

theorem nodeAndClass_some (dict : List (String × ClassDef)) (cls : String) (node : Ex) (classes : List String) (f : String) :
    nodeAndClass dict cls = .ok (some (node, classes, f)) ↔
      ∃ cd ann, alookup cls dict = some cd ∧
        getAllFields dict (dict.length + 1) cd = .ok [(.name f, ann)] ∧
        updateNode (ann.size + 1) ann = .ok (node, classes) := by
  unfold nodeAndClass
  cases alookup cls dict with
  | none => simp [pure_eq_ok]
  | some cd =>
    simp only [Option.some.injEq, exists_and_left, exists_eq_left']
    cases getAllFields dict (dict.length + 1) cd with
    | error e => simp [bind_error]
    | ok fields =>
      simp only [bind_ok]
      match fields with
      | [] => simp [pure_eq_ok]
      | [(t, ann)] =>
        cases t <;> simp [pure_eq_ok]
        rename_i id
        cases hu : updateNode (ann.size + 1) ann with
        | error e => simp [bind_error]; intro _ h; rw [hu] at h; cases h
        | ok r =>
          obtain ⟨n', c'⟩ := r
          simp [bind_ok]
          constructor
          · rintro ⟨h1, h2, h3⟩
            exact ⟨ann, ⟨h3, rfl⟩, by rw [hu, h1, h2]⟩
          · rintro ⟨x, ⟨h3, h4⟩, h5⟩
            subst h4
            rw [hu] at h5
            simp at h5
            exact ⟨h5.1, h5.2, h3⟩
      | _ :: _ :: _ => simp [pure_eq_ok]

theorem request_shorterShape (pkg : Pkg) (s : Shape) (f : String) : request pkg (shorterShape s f) = request pkg s := by
  unfold request shorterShape constValue resolveRuntime
  cases s.op <;> rfl

theorem respond_shorterShape {PyV : Type} (validate : String × String → J → Except String PyV)
    (getattr : String → PyV → PyV) (pkg : Pkg) (s : Shape) (f : String) (d : J) :
    respond validate getattr pkg (shorterShape s f) d = (respond validate getattr pkg s d).map (getattr f) := by
  unfold respond shorterShape resolveRuntime
  simp only
  cases alookup s.retClass (importBindings s.imports) with
  | some cls =>
    simp only
    cases validate cls d with
    | ok o => simp [Outcome.map, List.foldl_append]
    | error e => simp [Outcome.map]
  | none =>
    simp only
    cases alookup s.retClass (importBindings (topImports pkg.client)) with
    | some cls =>
      simp only
      cases validate cls d with
      | ok o => simp [Outcome.map, List.foldl_append]
      | error e => simp [Outcome.map]
    | none => simp [Outcome.map]

theorem replaceQueryKw_exec (v : Ex) (q o vv kw : Ex) :
    replaceQueryKw v [some "query", some "operation_name", some "variables", none] [q, o, vv, kw] = [v, o, vv, kw] := by
  simp [replaceQueryKw]

theorem extract_method (st : ExtractState) (c : Call) (m : Method) (s : Shape) (q : String) (ls : List String)
    (op v : String)
    (hb : m.body = bodyOf s) (hi : s.imports = []) (ho : s.op = .inline q ls)
    (hn : c.opName = some op) (hv : alookup op st.vars = some v)
    (hk : match s.tail with
          | .call aw _ _ => c.opKind ≠ some "subscription" ∧ st.asyncClient = aw
          | .sub _ _ _ => c.opKind = some "subscription") :
    extractClientMethod st c m = .ok { m with body := bodyOf { s with op := .const v } } := by
  unfold extractClientMethod
  have hbody : m.body = .simple (.assign q (.call (.name "gql") [.strs ls] [] [])) ::
      .simple (.annAssign (.name s.varsVar) s.varsAnn (some s.variables)) :: tailStmts s := by
    rw [hb]; unfold bodyOf opStmts; simp [hi, ho]
  have hbody' : bodyOf { s with op := .const v } =
      .simple (.annAssign (.name s.varsVar) s.varsAnn (some s.variables)) :: tailStmts { s with op := .const v } := by
    unfold bodyOf opStmts; simp [hi]
  rw [hbody, hbody']
  cases ht : s.tail with
  | call aw r d =>
    rw [ht] at hk
    obtain ⟨hk1, hk2⟩ := hk
    cases aw with
    | true =>
      simp [tailStmts, ht, execCall, Shape.queryName, ho, hn, hv, hk2, List.drop, replaceQueryKw_exec, bind, Except.bind, pure, Except.pure]
    | false =>
      simp [tailStmts, ht, execCall, Shape.queryName, ho, hn, hv, hk2, List.drop, replaceQueryKw_exec, bind, Except.bind, pure, Except.pure]
  | sub d l o =>
    rw [ht] at hk
    simp [tailStmts, ht, execCall, Shape.queryName, ho, hn, hv, hk, List.drop, replaceQueryKw_exec, bind, Except.bind, pure, Except.pure, List.set]

theorem extract_opStr (st : ExtractState) (c : Call) (s op snake : String)
    (hn : c.opName = some op) (hs : c.opSnake = some snake) :
    extractOperationStr st c s =
      .ok { st with gqls := aset op s st.gqls, vars := aset op (gqlVarName snake) st.vars } := by
  unfold extractOperationStr; simp [hn, hs, pure_eq_ok]

theorem extract_opsFile_binds (st : ExtractState) (f : OpsFile) (h : extractOpsFile st = .ok f)
    (op g : String) (hg : (op, g) ∈ st.gqls) :
    ∃ v, alookup op st.vars = some v ∧ (v, pyLines g) ∈ f.assigns := by
  unfold extractOpsFile at h
  simp only [bind, Except.bind] at h
  split at h
  · cases h
  · rename_i assigns hm
    simp only [pure, Except.pure, Except.ok.injEq] at h
    subst h
    obtain ⟨y, hy, hfy⟩ := Lists.mapM_ok_mem hm hg
    simp only at hfy
    cases hv : alookup op st.vars with
    | none => rw [hv] at hfy; cases hfy
    | some v =>
      rw [hv] at hfy
      simp only [pure, Except.pure, Except.ok.injEq] at hfy
      exact ⟨v, rfl, by rw [hfy]; exact hy⟩

end Ariadne.C15
