/-
  C15: what ANY chain of bundled plugins can do to the client module (Properties/C15.lean §7b,
  `plugin_chain_preserves_methods`): a method evolves by projections (ShorterResults) and in-body imports
  (ClientForwardRefs) only, and the module keeps the form `imports ++ [def gql, class Client]` (`ClientInv`).
-/
import AriadneModel.Proofs.C15ShorterWhole
import AriadneModel.Proofs.C15FwdImports


namespace Ariadne.C15
open Ariadne.Py Ariadne.Plugins Ariadne.ClientSem

inductive ShapeStep : Shape → Shape → Prop where
  | proj (s : Shape) (f : String) : ShapeStep s (shorterShape s f)
  | imp (s : Shape) (i : ImportFrom) : ShapeStep s (withImport s i)

inductive ShapeEvolves : Shape → Shape → Prop where
  | refl (s : Shape) : ShapeEvolves s s
  | step {s t u : Shape} : ShapeEvolves s t → ShapeStep t u → ShapeEvolves s u

theorem ShapeEvolves.trans {s t u : Shape} (h1 : ShapeEvolves s t) (h2 : ShapeEvolves t u) : ShapeEvolves s u := by
  induction h2 with
  | refl => exact h1
  | step _ hs ih => exact .step ih hs

def sameKind : Tail → Tail → Prop
  | .call aw r d, .call aw' r' d' => aw = aw' ∧ r = r' ∧ d = d'
  | .sub d _ _, .sub d' _ _ => d = d'
  | _, _ => False

theorem sameKind_refl (t : Tail) : sameKind t t := by cases t <;> simp [sameKind]

theorem sameKind_trans {a b c : Tail} (h1 : sameKind a b) (h2 : sameKind b c) : sameKind a c := by
  cases a <;> cases b <;> cases c <;> simp_all [sameKind]

theorem ShapeEvolves.preserves {s s' : Shape} (h : ShapeEvolves s s') :
    s'.op = s.op ∧ s'.opName = s.opName ∧ s'.variables = s.variables ∧ s'.varsVar = s.varsVar ∧
    s'.retClass = s.retClass ∧ s'.kwargs = s.kwargs ∧ sameKind s.tail s'.tail ∧
    (∃ fs, s'.proj = s.proj ++ fs) ∧ (∃ is, s'.imports = is ++ s.imports) := by
  induction h with
  | refl => exact ⟨rfl, rfl, rfl, rfl, rfl, rfl, sameKind_refl _, ⟨[], by simp⟩, ⟨[], by simp⟩⟩
  | step _ hs ih =>
    obtain ⟨h1, h2, h3, h4, h5, h6, h7, ⟨fs, h8⟩, ⟨is, h9⟩⟩ := ih
    cases hs with
    | proj f =>
      rename_i t _
      refine ⟨h1, h2, h3, h4, h5, h6, ?_, ⟨fs ++ [f], ?_⟩, ⟨is, h9⟩⟩
      · apply sameKind_trans h7
        unfold shorterShape
        cases t.tail <;> simp [sameKind]
      · simp [shorterShape, h8]
    | imp i =>
      exact ⟨h1, h2, h3, h4, h5, h6, h7, ⟨fs, h8⟩, ⟨i :: is, by simp [withImport, h9]⟩⟩

theorem shorter_step_shape (st st' : ShorterState) (m m' : Method) (s : Shape) (hb : m.body = bodyOf s)
    (h : shorterModifyMethod st m = .ok (st', m')) :
    ∃ s', m'.body = bodyOf s' ∧ (s' = s ∨ ∃ f, s' = shorterShape s f) := by
  rcases shorterModifyMethod_cases st st' m m' h with ⟨_, rfl⟩ | ⟨cls, node, classes, f, _, _, _, hrw⟩
  · exact ⟨s, hb, .inl rfl⟩
  · exact ⟨shorterShape s f, hrw.body s hb, .inr ⟨f, rfl⟩⟩

theorem fwd_step_shape (st st' : FwdState) (m m' : Method) (s : Shape) (hb : m.body = bodyOf s)
    (h : fwdMethod st m = .ok (st', m')) :
    ∃ s', m'.body = bodyOf s' ∧ (s' = s ∨ ∃ i, s' = withImport s i) := by
  unfold fwdMethod at h
  simp only [pure_eq_ok] at h
  rw [hb, bodyOf_getLast] at h
  simp only at h
  cases hi : fwdImportClass (lastStmt s) with
  | none =>
    simp only [hi, Except.ok.injEq, Prod.mk.injEq] at h
    obtain ⟨_, rfl⟩ := h
    exact ⟨s, rfl, .inl rfl⟩
  | some cls =>
    simp only [hi] at h
    split at h
    · cases h
    · rename_i src hsrc
      simp only [Except.ok.injEq, Prod.mk.injEq] at h
      obtain ⟨_, rfl⟩ := h
      refine ⟨withImport s { module := some src, names := [(cls, none)], level := 0 }, ?_, .inr ⟨_, rfl⟩⟩
      simp only
      rw [bodyOf_withImport]


inductive MethodEvolves : Method → Method → Prop where
  | refl (m : Method) : MethodEvolves m m
  | shorter {m m' m'' : Method} (st st' : ShorterState) :
      MethodEvolves m m' → shorterModifyMethod st m' = .ok (st', m'') → MethodEvolves m m''
  | fwd {m m' m'' : Method} (st st' : FwdState) :
      MethodEvolves m m' → fwdMethod st m' = .ok (st', m'') → MethodEvolves m m''

theorem MethodEvolves.trans {a b c : Method} (h1 : MethodEvolves a b) (h2 : MethodEvolves b c) : MethodEvolves a c := by
  induction h2 with
  | refl => exact h1
  | shorter st st' _ hs ih => exact .shorter st st' ih hs
  | fwd st st' _ hs ih => exact .fwd st st' ih hs

theorem MethodEvolves.shape {m m' : Method} (h : MethodEvolves m m') (s : Shape) (hb : m.body = bodyOf s) :
    ∃ s', m'.body = bodyOf s' ∧ ShapeEvolves s s' := by
  induction h with
  | refl => exact ⟨s, hb, .refl s⟩
  | shorter st st' _ hs ih =>
    obtain ⟨s1, hb1, he1⟩ := ih
    obtain ⟨s2, hb2, hor⟩ := shorter_step_shape st st' _ _ s1 hb1 hs
    refine ⟨s2, hb2, ?_⟩
    rcases hor with rfl | ⟨f, rfl⟩
    · exact he1
    · exact .step he1 (.proj s1 f)
  | fwd st st' _ hs ih =>
    obtain ⟨s1, hb1, he1⟩ := ih
    obtain ⟨s2, hb2, hor⟩ := fwd_step_shape st st' _ _ s1 hb1 hs
    refine ⟨s2, hb2, ?_⟩
    rcases hor with rfl | ⟨i, rfl⟩
    · exact he1
    · exact .step he1 (.imp s1 i)

def ClassRel (c c' : ClassDef) : Prop :=
  c'.name = c.name ∧ c'.bases = c.bases ∧ ItemsRel MethodEvolves c.body c'.body

theorem ClassRel.refl (c : ClassDef) : ClassRel c c := ⟨rfl, rfl, ItemsRel.refl MethodEvolves.refl _⟩

theorem ClassRel.trans {a b c : ClassDef} (h1 : ClassRel a b) (h2 : ClassRel b c) : ClassRel a c :=
  ⟨h2.1.trans h1.1, h2.2.1.trans h1.2.1, ItemsRel.trans (R := MethodEvolves) (fun _ _ _ hab hbc => MethodEvolves.trans hab hbc) h1.2.2 h2.2.2⟩


/-- `generate_module(body=self._imports + [gql_func, self._class_def])`, possibly after plugins put
    further imports / an `if TYPE_CHECKING:` block in front of `gql` -/
def ClientInv (M : Module) (c : ClassDef) : Prop :=
  ∃ pre g, M.body = pre ++ [.funcDef g, .classDef c] ∧ NoClass pre ∧ HasImp pre

theorem firstClass_of_inv {M : Module} {c : ClassDef} (h : ClientInv M c) : M.firstClass? = some c := by
  obtain ⟨pre, g, hb, hn, _⟩ := h
  exact firstClass_of_body M pre g c hb hn

theorem hasImp_append_right {a b : List Top} (hb : HasImp b) : HasImp (a ++ b) := by
  obtain ⟨t, ht, hi⟩ := hb; exact ⟨t, by simp [ht], hi⟩

theorem shorter_module_inv (st st' : ShorterState) (M M' : Module) (c : ClassDef) (hinv : ClientInv M c)
    (h : shorterClientModule st M = .ok (st', M')) : ∃ c', ClientInv M' c' ∧ ClassRel c c' := by
  obtain ⟨pre, g, hb, hn, hi⟩ := hinv
  obtain ⟨st1, items1, hmm, hbody⟩ := shorterClientModule_form st st' M M' pre g c hb hn h
  have hrel : ItemsRel MethodEvolves c.body items1 :=
    mapMethodsM_rel shorterModifyMethod MethodEvolves (fun a b m m' hs => .shorter a b (.refl m) hs) c.body st st1 items1 hmm
  exact ⟨{ c with body := items1 },
    ⟨_, g, hbody, List.forall_mem_append.mpr ⟨freshImports_noclass _, (shorterExtend_spec pre _).noclass hn⟩,
      hasImp_append_right (shorterExtend_hasImp pre _ hi)⟩, rfl, rfl, hrel⟩

theorem extract_module_inv (st : ExtractState) (M : Module) (c : ClassDef) (hinv : ClientInv M c) :
    ClientInv { body := extractImport st :: M.body } c := by
  obtain ⟨pre, g, hb, hn, hi⟩ := hinv
  exact ⟨extractImport st :: pre, g, by simp [hb], List.forall_mem_cons.mpr ⟨rfl, hn⟩, hasImp_append_right (a := [_]) hi⟩


theorem fwdUpdateImports_inv (st : FwdState) (pre : List Top) (g : Method) (c : ClassDef) (M' : Module)
    (hn : NoClass pre) (hi : HasImp pre)
    (h : fwdUpdateImports st { body := pre ++ [.funcDef g, .classDef c] } = .ok M') :
    ∃ pre', M'.body = pre' ++ [.funcDef g, .classDef c] ∧ NoClass pre' ∧ HasImp pre' := by
  unfold fwdUpdateImports at h
  simp only [pure_eq_ok] at h
  split at h
  · simp only [Except.ok.injEq] at h
    subst h
    exact ⟨pre, rfl, hn, hi⟩
  · rename_i hdrop
    cases hg : fwdTypeCheckingImports st with
    | error e => simp [hg, bind, Except.bind] at h
    | ok groups =>
      simp only [hg, bind_ok, Except.ok.injEq] at h
      subst h
      generalize hd : (st.inputAndReturnTypes ++ st.importedInMethod.filter (fun n => !st.inputAndReturnTypes.contains n)) = drop
      have htail : ∀ t ∈ [Top.funcDef g, Top.classDef c], isImp t = false := by
        intro t ht; simp at ht; rcases ht with rfl | rfl <;> rfl
      have hscan : fwdScanImports drop (pre ++ [.funcDef g, .classDef c]) 0 ([], 0) = fwdScanImports drop pre 0 ([], 0) := by
        rw [scan_append, scan_nonimp drop _ _ _ htail]
      have hk := scan_filterMap drop pre 0 ([], 0)
      -- the last import statement stands inside `pre`
      have hle : (fwdScanImports drop pre 0 ([], 0)).2 + 1 ≤ pre.length := by
        obtain ⟨a, t, b, rfl, ht, hb⟩ := exists_last_imp hi
        rw [scan_snd_last drop a t b 0 _ ht hb]
        simp only [List.length_append, List.length_cons]
        omega
      simp only [hscan]
      rw [List.drop_append_of_le_length hle]
      refine ⟨(fwdScanImports drop pre 0 ([], 0)).1 ++
          [.simple (.importFrom { module := some "typing", names := [("TYPE_CHECKING", none)], level := 0 }),
           .ifStmt (.name "TYPE_CHECKING") (groups.map (fun (g : String × List String) =>
              Simple.importFrom { module := some g.1, names := g.2.map (fun n => (n, none)), level := 0 })) 0] ++
          pre.drop ((fwdScanImports drop pre 0 ([], 0)).2 + 1), by simp [List.append_assoc], ?_, ?_⟩
      · intro t ht
        rcases List.mem_append.mp ht with h1 | h1
        · rcases List.mem_append.mp h1 with h2 | h2
          · rw [hk] at h2
            exact isImp_noClass (keep_isImp drop pre t h2)
          · simp at h2; rcases h2 with rfl | rfl <;> rfl
        · exact hn t (List.mem_of_mem_drop h1)
      · exact ⟨.simple (.importFrom { module := some "typing", names := [("TYPE_CHECKING", none)], level := 0 }), by simp, rfl⟩


theorem fwd_module_inv (st st' : FwdState) (M M' : Module) (c : ClassDef) (hinv : ClientInv M c)
    (h : fwdClientModule st M = .ok (st', M')) : ∃ c', ClientInv M' c' ∧ ClassRel c c' := by
  have hfc := firstClass_of_inv hinv
  obtain ⟨pre, g, hb, hn, hi⟩ := hinv
  unfold fwdClientModule at h
  simp only [pure_eq_ok] at h
  rw [hfc] at h
  simp only at h
  rw [hb, mapFirstClassM_pre _ g c pre _ hn] at h
  cases hm : mapMethodsM fwdMethod (fwdStoreImported st (pre ++ [.funcDef g, .classDef c])) c.body with
  | error e => simp [hm, bind, Except.bind] at h
  | ok r =>
    have hrel : ItemsRel MethodEvolves c.body r.2 :=
      mapMethodsM_rel fwdMethod MethodEvolves
        (fun a b m m' hs => .fwd a b (.refl m) hs) c.body _ r.1 r.2 (by rw [hm])
    have hcr : ClassRel c { c with body := r.2 } := ⟨rfl, rfl, hrel⟩
    simp only [hm, bind_ok, pure_eq_ok] at h
    cases hu : fwdUpdateImports r.1 { body := pre ++ [.funcDef g, .classDef { c with body := r.2 }] } with
    | error e => simp [hu, bind, Except.bind] at h
    | ok M2 =>
      simp only [hu, bind_ok, Except.ok.injEq, Prod.mk.injEq] at h
      obtain ⟨_, rfl⟩ := h
      obtain ⟨pre', hb', hn', hi'⟩ := fwdUpdateImports_inv r.1 pre g _ M2 hn hi hu
      exact ⟨_, ⟨pre', g, hb', hn', hi'⟩, hcr⟩

theorem step_client_module (c : Call) (hc : c.hook = "generate_client_module") (p p' : PState) (M : Module) (cls : ClassDef)
    (y : Payload) (hinv : ClientInv M cls) (h : PState.step c p (.module M) = .ok (p', y)) :
    ∃ M' cls', y = .module M' ∧ ClientInv M' cls' ∧ ClassRel cls cls' := by
  cases p with
  | shorter st =>
    simp only [PState.step, shorterStep, hc] at h
    cases hx : shorterClientModule st M with
    | error e => simp [hx, bind, Except.bind] at h
    | ok r =>
      simp [hx, bind, Except.bind, pure, Except.pure] at h
      obtain ⟨cls', h1, h2⟩ := shorter_module_inv st r.1 M r.2 cls hinv (by rw [hx])
      exact ⟨r.2, cls', h.2.symm, h1, h2⟩
  | extract st =>
    simp only [PState.step, extractStep, hc] at h
    simp [bind, Except.bind, pure, Except.pure] at h
    exact ⟨_, cls, h.2.symm, extract_module_inv st M cls hinv, ClassRel.refl cls⟩
  | fwd st =>
    simp only [PState.step, fwdStep, hc] at h
    cases hx : fwdClientModule st M with
    | error e => simp [hx, bind, Except.bind] at h
    | ok r =>
      simp [hx, bind, Except.bind, pure, Except.pure] at h
      obtain ⟨cls', h1, h2⟩ := fwd_module_inv st r.1 M r.2 cls hinv (by rw [hx])
      exact ⟨r.2, cls', h.2.symm, h1, h2⟩
  | noReimports =>
    simp only [PState.step, noReimportsStep, hc, pure, Except.pure, Except.ok.injEq, Prod.mk.injEq] at h
    exact ⟨M, cls, by rw [← h.2]; simp, hinv, ClassRel.refl cls⟩
  | identity =>
    simp only [PState.step, pure, Except.pure, Except.ok.injEq, Prod.mk.injEq] at h
    exact ⟨M, cls, h.2.symm, hinv, ClassRel.refl cls⟩

theorem chain_client_module (c : Call) (hc : c.hook = "generate_client_module") (ps ps' : List PState) (M : Module)
    (cls : ClassDef) (y : Payload) (hinv : ClientInv M cls) (h : applyAll PState.step c ps (.module M) = .ok (ps', y)) :
    ∃ M' cls', y = .module M' ∧ ClientInv M' cls' ∧ ClassRel cls cls' :=
  applyAll_invariant (fun y => ∃ M' cls', y = .module M' ∧ ClientInv M' cls' ∧ ClassRel cls cls')
    (fun p x p' y ⟨M1, cls1, hx, hinv1, hrel1⟩ hs => by
      subst hx
      obtain ⟨M2, cls2, hy, hinv2, hrel2⟩ := step_client_module c hc p p' M1 cls1 y hinv1 hs
      exact ⟨M2, cls2, hy, hinv2, ClassRel.trans hrel1 hrel2⟩)
    ps ps' _ y ⟨M, cls, rfl, hinv, ClassRel.refl cls⟩ h

/-- what a method of the generated shape can look like after any chain of bundled plugins ran over
    the client module: same name; same operation source, operation name, variables expression,
    validated class and kind; projections only appended, imports only prepended -/
def MethodPreserved (m m' : Method) : Prop :=
  m'.name = m.name ∧ ∀ s, m.body = bodyOf s → ∃ s', m'.body = bodyOf s' ∧
    s'.op = s.op ∧ s'.opName = s.opName ∧ s'.variables = s.variables ∧ s'.varsVar = s.varsVar ∧
    s'.retClass = s.retClass ∧ s'.kwargs = s.kwargs ∧ sameKind s.tail s'.tail ∧
    (∃ fs, s'.proj = s.proj ++ fs) ∧ (∃ is, s'.imports = is ++ s.imports)

theorem shorter_keeps_name (st st' : ShorterState) (m m' : Method) (h : shorterModifyMethod st m = .ok (st', m')) :
    m'.name = m.name := by
  rcases shorterModifyMethod_cases st st' m m' h with ⟨_, rfl⟩ | ⟨_, _, _, _, _, _, _, hrw⟩
  · rfl
  · exact hrw.name

theorem fwd_keeps_name (st st' : FwdState) (m m' : Method) (h : fwdMethod st m = .ok (st', m')) : m'.name = m.name := by
  unfold fwdMethod at h
  simp only [pure_eq_ok] at h
  split at h
  · cases h
  · split at h
    · simp at h; rw [← h.2]
    · split at h
      · cases h
      · simp at h; rw [← h.2]

theorem MethodEvolves.name {m m' : Method} (h : MethodEvolves m m') : m'.name = m.name := by
  induction h with
  | refl => rfl
  | shorter st st' _ hs ih => exact (shorter_keeps_name st st' _ _ hs).trans ih
  | fwd st st' _ hs ih => exact (fwd_keeps_name st st' _ _ hs).trans ih

theorem MethodEvolves.preserved {m m' : Method} (h : MethodEvolves m m') : MethodPreserved m m' := by
  refine ⟨h.name, fun s hb => ?_⟩
  obtain ⟨s', hb', hev⟩ := h.shape s hb
  exact ⟨s', hb', hev.preserves⟩



end Ariadne.C15
