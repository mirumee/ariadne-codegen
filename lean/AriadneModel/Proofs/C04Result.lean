/-
  Proofs/C04Result.lean — invariants of the class-producing recursion of `ResultTypesGenerator`
  (`_parse_type_definition` / `_parse_field_selection_set_types`), for every fuel, state and selection set:
  the generated public names are exactly the names of the classes produced; the recorded enums are enums of the schema,
  the recorded scalars are configured ones; every name an annotation evaluates is a `typing` / `pydantic` name, a simple
  type, a recorded enum, or the type / parse function of a recorded scalar.
-/
import AriadneModel.Proofs.C04Ann
import AriadneModel.Proofs.C04Mixins
import AriadneModel.Proofs.C08Package


namespace Ariadne.ResultTypes
open Ariadne.Gql Ariadne.Package

theorem annUses_annotateNested (a : Ann) (u : String) (h : u ∈ annUses (annotateNested a)) :
    u = "Annotated" ∨ u = "Field" ∨ u ∈ annUses a := by
  fun_induction annotateNested a <;> simp_all [annUses] <;> grind

theorem annFwd_annotateNested (a : Ann) : annFwd (annotateNested a) = annFwd a := by
  fun_induction annotateNested a <;> simp_all [annFwd]

theorem annsUses_map_annotateNested : ∀ (as : List Ann) (u : String), u ∈ annsUses (as.map annotateNested) →
    u = "Annotated" ∨ u = "Field" ∨ u ∈ annsUses as
  | [], u, h => by simp [annsUses] at h
  | a :: rest, u, h => by
    simp only [List.map_cons, annsUses, List.mem_append] at h ⊢
    rcases h with h | h
    · exact (annUses_annotateNested a u h).imp id (Or.imp id Or.inl)
    · exact (annsUses_map_annotateNested rest u h).imp id (Or.imp id Or.inr)

theorem annsFwd_map_annotateNested : ∀ (as : List Ann), annsFwd (as.map annotateNested) = annsFwd as
  | [] => rfl
  | a :: rest => by simp [annsFwd, annFwd_annotateNested a, annsFwd_map_annotateNested rest]

/-- at the top only a union is treated differently: its members are visited, it is not itself wrapped -/
theorem annUses_annotateTop (a : Ann) (u : String) (h : u ∈ annUses (annotateTop a)) :
    u = "Annotated" ∨ u = "Field" ∨ u ∈ annUses a := by
  cases a with
  | union as =>
    rcases List.mem_cons.mp h with h | h
    · exact Or.inr (Or.inr (h ▸ List.mem_cons_self))
    · exact (annsUses_map_annotateNested as u h).imp id (Or.imp id (List.mem_cons_of_mem _))
  | optional a => exact annUses_annotateNested (.optional a) u h
  | list a => exact annUses_annotateNested (.list a) u h
  | _ => exact Or.inr (Or.inr h)

theorem annFwd_annotateTop (a : Ann) : annFwd (annotateTop a) = annFwd a := by
  cases a with
  | union as => exact annsFwd_map_annotateNested as
  | optional a => exact annFwd_annotateNested a
  | list a => exact annFwd_annotateNested a
  | _ => rfl

theorem parseDirectives_uses (a : Ann) (dirs : List Directive) (u : String) (h : u ∈ annUses (parseDirectives a dirs).1) :
    u = "Optional" ∨ u ∈ annUses a := by
  unfold parseDirectives at h
  split at h
  · simp only at h
    split at h
    · exact Or.inr h
    · simp only [annUses, List.mem_cons] at h
      exact h
  · exact Or.inr h

theorem parseDirectives_fwd (a : Ann) (dirs : List Directive) : annFwd (parseDirectives a dirs).1 = annFwd a := by
  unfold parseDirectives
  split
  · simp only
    split
    · rfl
    · rfl
  · rfl

/-- what `parse_operation_field` returns -/
structure FieldSpec (env : Env) (a : Ann) (ctx : Ctx) : Prop where
  enumsKind : ∀ x ∈ ctx.enums, env.schema.kindOf? x = some .enum
  scalarsCfg : ∀ x ∈ ctx.customScalars, (scalarCfg? env x).isSome = true
  uses : ∀ u ∈ annUses a, NameIn env ctx.enums ctx.customScalars u
  fwd : ∀ x ∈ annFwd a, x ∈ ctx.related.map (·.1)

theorem parseOperationField_spec (env : Env) (fuel : Nat) (name : String) (dirs : List Directive) (sub : List Selection)
    (t : TypeRef) (cn : String) (tv : List String) (a : Ann) (dflt : Bool) (ctx : Ctx)
    (h : parseOperationField env fuel name dirs sub t cn tv = .ok (a, dflt, ctx)) : FieldSpec env a ctx := by
  unfold parseOperationField at h
  split at h
  · simp only [pure, Except.pure, Except.ok.injEq, Prod.mk.injEq] at h
    obtain ⟨rfl, _, rfl⟩ := h
    refine ⟨fun x h => (by cases h), fun x h => (by cases h), ?_, ?_⟩
    · intro u hu
      have : u = "Literal" := by simpa [annUses] using hu
      subst this
      exact Or.inl (by decide)
    · intro x hx
      simp [annFwd] at hx
  · cases hp : parseType env fuel sub t true cn false {} with
    | error e => rw [hp] at h; simp [bind, Except.bind] at h
    | ok r =>
      obtain ⟨a0, c0⟩ := r
      rw [hp] at h
      simp only [bind, Except.bind, pure, Except.pure, Except.ok.injEq, Prod.mk.injEq] at h
      obtain ⟨rfl, _, rfl⟩ := h
      have sp := parseType_spec env fuel sub t true cn false {} a0 c0 hp
      refine ⟨?_, ?_, ?_, ?_⟩
      · intro x hx
        rcases sp.enumsKind x hx with h | h
        · cases h
        · exact h
      · intro x hx
        rcases sp.scalarsCfg x hx with h | h
        · cases h
        · exact h
      · intro u hu
        rcases parseDirectives_uses _ _ u hu with rfl | hu
        · exact Or.inl (by decide)
        · rcases annUses_annotateTop a0 u hu with rfl | rfl | hu
          · exact Or.inl (by decide)
          · exact Or.inl (by decide)
          · exact sp.uses u hu
      · intro x hx
        rw [parseDirectives_fwd, annFwd_annotateTop] at hx
        exact sp.fwd x hx

/-- the generator's three lists (public names, used enums, used scalars) only grow from `s` to `s'`: what keeps a fact about
    a class produced earlier (`FieldsOK`: the names its annotations mention are recorded) true in the final state -/
structure Sub (s s' : St) : Prop where
  pub : ∀ x ∈ s.publicNames, x ∈ s'.publicNames
  enums : ∀ x ∈ s.usedEnums, x ∈ s'.usedEnums
  scalars : ∀ x ∈ s.usedScalars, x ∈ s'.usedScalars

theorem Sub.refl (s : St) : Sub s s := ⟨fun _ h => h, fun _ h => h, fun _ h => h⟩

theorem Sub.trans {a b c : St} (h1 : Sub a b) (h2 : Sub b c) : Sub a c :=
  ⟨fun x h => h2.pub x (h1.pub x h), fun x h => h2.enums x (h1.enums x h), fun x h => h2.scalars x (h1.scalars x h)⟩

structure Same (s s' : St) : Prop where
  pub : s'.publicNames = s.publicNames
  enums : s'.usedEnums = s.usedEnums
  scalars : s'.usedScalars = s.usedScalars

theorem Same.refl (s : St) : Same s s := ⟨rfl, rfl, rfl⟩

theorem Same.trans {a b c : St} (h1 : Same a b) (h2 : Same b c) : Same a c :=
  ⟨h2.pub.trans h1.pub, h2.enums.trans h1.enums, h2.scalars.trans h1.scalars⟩

theorem Same.of_frame {s s' : St} (f : Frame s s') : Same s s' := ⟨f.publicNames, f.usedEnums, f.usedScalars⟩

theorem same_addImports (s : St) (ps : List (String × String)) : Same s (addImports s ps) := ⟨rfl, rfl, rfl⟩

theorem same_afterTypename (a : Bool) (sid : Nat) (r : List RField) (s : St) : Same s (afterTypename a sid r s) := by
  unfold afterTypename
  split <;> exact ⟨rfl, rfl, rfl⟩

def FieldsOK (env : Env) (s : St) (fs : List FieldDecl) : Prop :=
  ∀ f ∈ fs, ∀ u ∈ fieldUses f, NameIn env s.usedEnums s.usedScalars u

def ClassesOK (env : Env) (s : St) (cs : List ClassDecl) : Prop := ∀ c ∈ cs, FieldsOK env s c.fields

/-- what a successful run of the class-producing recursion guarantees -/
structure Out (env : Env) (s s' : St) (cs : List ClassDecl) : Prop where
  sub : Sub s s'
  pubNew : ∀ x ∈ s'.publicNames, x ∈ s.publicNames ∨ x ∈ cs.map (·.name)
  clsPub : ∀ c ∈ cs, c.name ∈ s'.publicNames
  enumsKind : ∀ x ∈ s'.usedEnums, x ∈ s.usedEnums ∨ env.schema.kindOf? x = some .enum
  scalarsCfg : ∀ x ∈ s'.usedScalars, x ∈ s.usedScalars ∨ (scalarCfg? env x).isSome = true
  uses : ClassesOK env s' cs

theorem FieldsOK.mono {env : Env} {s s' : St} (h : Sub s s') {fs : List FieldDecl} (hf : FieldsOK env s fs) : FieldsOK env s' fs :=
  fun f hfm u hu => (hf f hfm u hu).mono h.enums h.scalars

theorem ClassesOK.mono {env : Env} {s s' : St} (h : Sub s s') {cs : List ClassDecl} (hc : ClassesOK env s cs) : ClassesOK env s' cs :=
  fun c hcm => (hc c hcm).mono h

theorem Out.nil (env : Env) (s : St) : Out env s s [] :=
  ⟨Sub.refl s, fun x h => Or.inl h, fun c h => (by cases h), fun x h => Or.inl h, fun x h => Or.inl h, fun c h => (by cases h)⟩

theorem Out.append {env : Env} {a b c : St} {cs1 cs2 : List ClassDecl} (h1 : Out env a b cs1) (h2 : Out env b c cs2) :
    Out env a c (cs1 ++ cs2) := by
  refine ⟨h1.sub.trans h2.sub, ?_, ?_, ?_, ?_, ?_⟩
  · intro x hx
    rcases h2.pubNew x hx with h | h
    · rcases h1.pubNew x h with h | h
      · exact Or.inl h
      · exact Or.inr (by simp only [List.map_append, List.mem_append]; exact Or.inl h)
    · exact Or.inr (by simp only [List.map_append, List.mem_append]; exact Or.inr h)
  · intro cl hc
    rcases List.mem_append.mp hc with hc | hc
    · exact h2.sub.pub _ (h1.clsPub cl hc)
    · exact h2.clsPub cl hc
  · intro x hx
    rcases h2.enumsKind x hx with h | h
    · exact h1.enumsKind x h
    · exact Or.inr h
  · intro x hx
    rcases h2.scalarsCfg x hx with h | h
    · exact h1.scalarsCfg x h
    · exact Or.inr h
  · intro cl hc
    rcases List.mem_append.mp hc with hc | hc
    · exact (h1.uses cl hc).mono h2.sub
    · exact h2.uses cl hc

theorem Out.same_left {env : Env} {a a' b : St} {cs : List ClassDecl} (hs : Same a a') (h : Out env a' b cs) : Out env a b cs := by
  obtain ⟨e1, e2, e3⟩ := hs
  refine ⟨⟨fun x hx => h.sub.pub x (e1 ▸ hx), fun x hx => h.sub.enums x (e2 ▸ hx), fun x hx => h.sub.scalars x (e3 ▸ hx)⟩, ?_, h.clsPub, ?_, ?_, h.uses⟩
  · intro x hx
    rcases h.pubNew x hx with h' | h'
    · exact Or.inl (e1 ▸ h')
    · exact Or.inr h'
  · intro x hx
    rcases h.enumsKind x hx with h' | h'
    · exact Or.inl (e2 ▸ h')
    · exact Or.inr h'
  · intro x hx
    rcases h.scalarsCfg x hx with h' | h'
    · exact Or.inl (e3 ▸ h')
    · exact Or.inr h'

theorem mem_ite_singleton {c : Bool} {u x : String} (h : u ∈ (if c = true then [x] else [])) : u = x := by
  cases c <;> simp_all

/-- the field declarations a call builds (the field loop's; the other calls build none of their own) -/
def Call.fds : Call → List FieldDecl
  | .fields _ _ _ _ fds => fds
  | _ => []

/-- **the invariants of the class-producing recursion**, any call, any state -/
theorem runs_out {env : Env} {c : Call} {st : St} {cs : List ClassDecl} {st' : St} (h : Runs env c st cs st') :
    Out env st st' cs ∧ FieldsOK env st' c.fds := by
  have none : ∀ s, FieldsOK env s [] := fun _ _ h => nomatch h
  induction h with
  | seen => exact ⟨Out.nil env _, none _⟩
  | @fresh cn tn sid sel a eb tv st x st1 fds more st' fuel hseen hres _ ih =>
    obtain ⟨o, fo⟩ := ih
    -- the state the field loop starts in has the three lists of `st` with `cn` appended to the public names
    have o' := Out.same_left ((Same.of_frame (resolve_spec env _ _ _ _ _ _ hres).frame).trans (same_afterTypename _ _ _ _)) o
    refine ⟨⟨⟨fun y hy => o'.sub.pub y (List.mem_append_left _ hy), o'.sub.enums, o'.sub.scalars⟩, ?_, ?_, o'.enumsKind, o'.scalarsCfg, ?_⟩, none _⟩
    · intro y hy
      rcases o'.pubNew y hy with h' | h'
      · rcases List.mem_append.mp h' with h' | h'
        · exact Or.inl h'
        · exact Or.inr (by simp [List.mem_singleton.mp h'])
      · exact Or.inr (List.mem_cons_of_mem _ h')
    · intro c hc
      rcases List.mem_cons.mp hc with rfl | hc
      · exact o'.sub.pub _ (by simp)
      · exact o'.clsPub c hc
    · intro c hc
      rcases List.mem_cons.mp hc with rfl | hc
      · exact fo
      · exact o'.uses c hc
  | fieldsNil => exact ⟨Out.nil env _, none _⟩
  | @fieldsCons cn tn tv f rest fds s t a dflt ctx more s1 more' s' fuel _ hx _ _ ih₁ ih₂ =>
    obtain ⟨o2, fo2⟩ := ih₂
    have fs := parseOperationField_spec env _ _ _ _ _ _ _ a dflt ctx hx
    have o4 : Out env s s1 more := Out.same_left (same_addImports s _) ih₁.1
    -- the final `modify` appends what the field's context recorded
    have sub45 : Sub s1 { s1 with usedEnums := s1.usedEnums ++ ctx.enums, usedScalars := s1.usedScalars ++ ctx.customScalars } :=
      ⟨fun _ h => h, fun x h => List.mem_append_left _ h, fun x h => List.mem_append_left _ h⟩
    have o5 : Out env s { s1 with usedEnums := s1.usedEnums ++ ctx.enums, usedScalars := s1.usedScalars ++ ctx.customScalars } more :=
      ⟨o4.sub.trans sub45, o4.pubNew, o4.clsPub,
        fun y hy => (List.mem_append.mp hy).elim (o4.enumsKind y) fun hy => Or.inr (fs.enumsKind y hy),
        fun y hy => (List.mem_append.mp hy).elim (o4.scalarsCfg y) fun hy => Or.inr (fs.scalarsCfg y hy), o4.uses.mono sub45⟩
    refine ⟨o5.append o2, fun fd hfd => ?_⟩
    rcases List.mem_cons.mp hfd with rfl | hfd
    · refine FieldsOK.mono o2.sub (fs := [fieldDecl env f a dflt]) (fun fd hfd u hu => ?_) _ List.mem_cons_self
      rw [List.mem_singleton.mp hfd] at hu
      rcases List.mem_append.mp hu with hu | hu
      · exact (fs.uses u hu).mono (fun y hy => List.mem_append_right _ hy) (fun y hy => List.mem_append_right _ hy)
      · exact Or.inl (mem_ite_singleton hu ▸ by decide)
    · exact fo2 fd hfd
  | setEmpty => exact ⟨Out.nil env _, none _⟩
  | setRun _ _ ih => exact ih
  | relNil => exact ⟨Out.nil env _, none _⟩
  | relCons _ _ ih₁ ih₂ => exact ⟨ih₁.1.append ih₂.1, none _⟩

/-- what `ResultTypesGenerator` guarantees about the module it returns -/
structure GenSpec (env : Env) (out : ModuleOut) : Prop where
  pubClasses : ∀ x, x ∈ out.st.publicNames ↔ x ∈ out.classes.map (·.name)
  enumsKind : ∀ x ∈ out.st.usedEnums, env.schema.kindOf? x = some .enum
  scalarsCfg : ∀ x ∈ out.st.usedScalars, (scalarCfg? env x).isSome = true
  uses : ClassesOK env out.st out.classes

theorem generate_out (env : Env) (fuel : Nat) (d : Definition) (marks : List Nat) (o : ModuleOut)
    (h : generate env fuel d marks = .ok o) : GenSpec env o := by
  rcases generate_cases h with ⟨_, _, _, hc, hs⟩ | ⟨cn, tn, _, _, _, hp⟩
  · rw [show o = ⟨[], o.rebuild, { marks := marks }⟩ from by rw [← hc, ← hs]]
    exact ⟨fun x => by simp, fun x hx => (nomatch hx), fun x hx => (nomatch hx), fun c hc' => (nomatch hc')⟩
  · have ot := (runs_out (Runs.of_type hp)).1
    exact ⟨fun x => ⟨fun hx => (ot.pubNew x hx).resolve_left (fun h' => nomatch h'),
        fun hx => by obtain ⟨c, hcm, rfl⟩ := List.mem_map.mp hx; exact ot.clsPub c hcm⟩,
      fun x hx => (ot.enumsKind x hx).resolve_left (fun h' => nomatch h'),
      fun x hx => (ot.scalarsCfg x hx).resolve_left (fun h' => nomatch h'), ot.uses⟩

/-- a call that starts with no public name produces its class, it does not skip it -/
theorem Runs.root_public {env : Env} {cn tn : String} {sid : Nat} {sel : List Selection} {a : Bool} {eb tv : List String} {st st' : St}
    {cs : List ClassDecl} (h : Runs env (.type cn tn sid sel a eb tv) st cs st') (h0 : st.publicNames = []) : cn ∈ cs.map (·.name) := by
  cases h with
  | seen hseen => rw [h0] at hseen; cases hseen
  | fresh => exact List.mem_cons_self

theorem generate_op_root (env : Env) (fuel : Nat) (op : Operation) (marks : List Nat) (o : ModuleOut) (n : String)
    (hn : op.name = some n) (h : generate env fuel (.op op) marks = .ok o) : pascal n ∈ o.st.publicNames := by
  rcases generate_cases h with ⟨_, hf, _⟩ | ⟨cn, tn, _, _, hop, hp⟩
  · cases hf
  · obtain ⟨n', hn', rfl⟩ := hop op rfl
    cases hn.symm.trans hn'
    rw [(generate_out env fuel _ marks o h).pubClasses]
    exact (Runs.of_type hp).root_public rfl

end Ariadne.ResultTypes
