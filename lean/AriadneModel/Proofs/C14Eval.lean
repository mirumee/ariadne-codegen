/-
  C14: from the builder EXPRESSION to the tree of field objects it evaluates to.

  `ExactOK`: every object of the tree carries its GraphQL field name and the exact GraphQL type of each argument,
  hence `intended = intendedExact`; `bindArgs` and the mutator step establish / keep it (that the value of an
  expression outside the F1 and F3 triggers has it: Proofs/C14Fresh.lean, `PureEval.exact`).
-/
import AriadneModel.Proofs.C14Expr
import AriadneModel.Proofs.ListLemmas

namespace Ariadne.C14
open Ariadne.Builder Ariadne.BuilderDoc

def varsExact (vs : List Var) : Bool := vs.all fun v => v.ty == v.exactTy

mutual
  def ExactOK : Node → Bool
    | .obj r subs frags => (r.fieldName == r.gqlName) && varsExact r.vars && ExactOKList subs && ExactOKFrags frags
    | .ref _ => true
  def ExactOKList : List Node → Bool
    | [] => true
    | n :: ns => ExactOK n && ExactOKList ns
  def ExactOKFrags : List Frag → Bool
    | [] => true
    | .mk _ ns :: fs => ExactOKList ns && ExactOKFrags fs
end

def StoreExact (st : Store) : Prop :=
  ∀ (id : Nat) (r : Rec) (s : List Node) (f : List Frag), st[id]? = some (.obj r s f) → r.fieldName = r.gqlName

theorem vars_map_exact : ∀ (vs : List Var), varsExact vs = true →
    vs.map (fun v => (v.key, v.ty, v.value)) = vs.map (fun v => (v.key, v.exactTy, v.value)) := by
  intro vs h
  apply List.map_congr_left
  intro v hv
  have := List.all_eq_true.mp h v hv
  simp at this
  simp [this]

mutual
  theorem intended_eq_exact {st : Store} (hs : StoreExact st) : ∀ (n : Node), ExactOK n = true →
      intended st n = intendedExact st n
    | .obj r subs frags, h => by
      simp only [ExactOK, Bool.and_eq_true, beq_iff_eq] at h
      obtain ⟨⟨⟨h1, h2⟩, h3⟩, h4⟩ := h
      simp only [intended, intendedExact, h1, vars_map_exact _ h2, intendedList_eq_exact hs subs h3,
        intendedFrags_eq_exact hs frags h4]
    | .ref id, _ => by
      simp only [intended, intendedExact, intendedRef, intendedRefExact]
      cases hn : st[id]? with
      | none => rfl
      | some n =>
        cases n with
        | obj r s f => simp [hs id r s f hn]
        | ref _ => rfl
  theorem intendedList_eq_exact {st : Store} (hs : StoreExact st) : ∀ (ns : List Node), ExactOKList ns = true →
      intendedList st ns = intendedExactList st ns
    | [], _ => rfl
    | n :: ns, h => by
      simp only [ExactOKList, Bool.and_eq_true] at h
      simp only [intendedList, intendedExactList, intended_eq_exact hs n h.1, intendedList_eq_exact hs ns h.2]
  theorem intendedFrags_eq_exact {st : Store} (hs : StoreExact st) : ∀ (fs : List Frag), ExactOKFrags fs = true →
      intendedFrags st fs = intendedExactFrags st fs
    | [], _ => rfl
    | .mk ty ns :: fs, h => by
      simp only [ExactOKFrags, Bool.and_eq_true] at h
      simp only [intendedFrags, intendedExactFrags, intendedList_eq_exact hs ns h.1, intendedFrags_eq_exact hs fs h.2]
end

theorem ExactOKList_append : ∀ (a b : List Node), ExactOKList (a ++ b) = (ExactOKList a && ExactOKList b)
  | [], b => by simp [ExactOKList]
  | n :: a, b => by simp [ExactOKList, ExactOKList_append a b, Bool.and_assoc]

theorem ExactOKFrags_set (ty : String) (cs : List Node) (hc : ExactOKList cs = true) :
    ∀ (fs : List Frag), ExactOKFrags fs = true → ExactOKFrags (setFragList ty cs fs) = true
  | [], _ => by simp [setFragList, ExactOKFrags, hc]
  | .mk t ns :: fs, h => by
    simp only [ExactOKFrags, Bool.and_eq_true] at h
    simp only [setFragList]
    split
    · simp [ExactOKFrags, hc, h.2]
    · simp [ExactOKFrags, h.1, ExactOKFrags_set ty cs hc fs h.2]

def NodeOK (n : Node) : Prop := ExactOK n = true
def NodesOK (ns : List Node) : Prop := ExactOKList ns = true

theorem lookupKw_eq (k : String) (kw : List (String × J)) : lookupKw k kw = kw.lookup k :=
  Lists.eq_lookup_of_eqns lookupKw (fun _ => rfl) (fun _ _ _ _ => rfl) k kw

def argValue (s : ArgSpec) (kw : List (String × J)) : J := (lookupKw s.param kw).getD .null

def bound (kw : List (String × J)) (s : ArgSpec) : Option Var :=
  match argValue s kw with
  | .null => none
  | v => some { key := s.key, ty := s.ty, value := v, exactTy := s.exactTy }

theorem bindArgs_ok {specs kw vars} (h : bindArgs specs kw = .ok vars) : vars = specs.filterMap (bound kw) := by
  unfold bindArgs at h
  split at h
  · simp at h
  · split at h
    · simp at h
    · simp at h
      rw [← h]
      rfl

theorem argValue_null_of_allNull {kw : List (String × J)} (h : kwNonNull kw = false) (s : ArgSpec) :
    argValue s kw = .null := by
  unfold argValue
  cases hl : lookupKw s.param kw with
  | none => rfl
  | some v =>
    have hm := Lists.lookup_mem (lookupKw_eq _ kw ▸ hl)
    unfold kwNonNull at h
    rw [List.any_eq_false] at h
    have := h _ hm
    cases v <;> simp at this ⊢

theorem bindArgs_allNull {specs kw vars} (h : bindArgs specs kw = .ok vars) (hn : kwNonNull kw = false) : vars = [] := by
  rw [bindArgs_ok h]
  apply List.filterMap_eq_nil_iff.mpr
  intro s _
  simp [bound, argValue_null_of_allNull hn s]

theorem bindArgs_exact {specs kw vars} (h : bindArgs specs kw = .ok vars)
    (ht : specs.any (fun s => s.ty != s.exactTy && (match (lookupKw s.param kw).getD .null with | .null => false | _ => true)) = false) :
    varsExact vars = true := by
  rw [bindArgs_ok h]
  unfold varsExact
  rw [List.all_eq_true]
  intro v hv
  obtain ⟨s, hs, hb⟩ := List.mem_filterMap.mp hv
  rw [List.any_eq_false] at ht
  have hts := ht s hs
  unfold bound argValue at hb
  cases hval : (lookupKw s.param kw).getD .null <;> rw [hval] at hb hts <;> simp at hb hts
  all_goals (subst hb; simp [hts])

theorem bindArgs_none_omitted {specs kw vars} (h : bindArgs specs kw = .ok vars) :
    (∀ v ∈ vars, v.value ≠ .null) ∧
    (∀ v ∈ vars, ∃ s ∈ specs, v.key = s.key ∧ v.ty = s.ty ∧ lookupKw s.param kw = some v.value) ∧
    (∀ s ∈ specs, ∀ x, lookupKw s.param kw = some x → x ≠ .null →
        ∃ v ∈ vars, v.key = s.key ∧ v.ty = s.ty ∧ v.value = x) := by
  rw [bindArgs_ok h]
  refine ⟨?_, ?_, ?_⟩
  · intro v hv
    obtain ⟨s, _, hb⟩ := List.mem_filterMap.mp hv
    unfold bound at hb
    cases hval : argValue s kw <;> rw [hval] at hb <;> simp at hb <;> subst hb <;> simp
  · intro v hv
    obtain ⟨s, hs, hb⟩ := List.mem_filterMap.mp hv
    refine ⟨s, hs, ?_⟩
    unfold bound at hb
    have hav : argValue s kw = (lookupKw s.param kw).getD .null := rfl
    cases hl : lookupKw s.param kw with
    | none => rw [hav, hl] at hb; simp at hb
    | some x =>
      rw [hav, hl] at hb
      cases x <;> simp at hb <;> subst hb <;> simp
  · intro s hs x hl hx
    refine ⟨{ key := s.key, ty := s.ty, value := x, exactTy := s.exactTy }, ?_, rfl, rfl, rfl⟩
    apply List.mem_filterMap.mpr
    refine ⟨s, hs, ?_⟩
    unfold bound argValue
    rw [hl]
    cases x <;> simp at hx ⊢

theorem Mutator.nodeOK {e' e : Expr} {cs : List Expr} {has : ClassDef → Bool} {f : List Node → Node → Node}
    (hm : Mutator e' e cs has f) {r subs frags ns} (h : NodeOK (.obj r subs frags)) (hc : NodesOK ns) :
    NodeOK (f ns (.obj r subs frags)) := by
  unfold NodeOK NodesOK at *
  cases hm
  · simpa [setAlias, ExactOK] using h
  · simp only [extendSubs, ExactOK, Bool.and_eq_true] at h ⊢
    simp [h.1.1.1, h.1.1.2, h.1.2, h.2, ExactOKList_append, hc]
  · simp only [setFrag, ExactOK, Bool.and_eq_true] at h ⊢
    exact ⟨⟨⟨h.1.1.1, h.1.1.2⟩, h.1.2⟩, ExactOKFrags_set _ _ hc frags h.2⟩

end Ariadne.C14
