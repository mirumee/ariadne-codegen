/-
  C15, ShorterResults over a whole generation run: the rewrite of ONE client method depends on the
  recorded result classes (`class_dict`) only — not on the methods rewritten before it, not on the
  imports collected so far.  Lemmas for Properties/C15.lean §3b.

  `ShorterResultsPlugin.generate_client_module` walks the methods of the client class in order and
  threads the plugin object (`self.class_dict`, `self.imported_types`, `self.extended_imports`)
  through `_modify_method_def`.  The only thing `_modify_method_def` writes is `extended_imports`
  (`_update_imports`); the decision "exactly one field, inherited fragment fields included"
  (`_return_or_yield_node_and_class` / `_get_all_fields`) reads `class_dict` only.  Hence, for every list
  of methods, method k is rewritten exactly as it would be if it were the only method.
-/
import AriadneModel.Proofs.C15Shape
import AriadneModel.Proofs.C15Class


namespace Ariadne.C15
open Ariadne.Py Ariadne.Plugins Ariadne.ClientSem
open Ariadne.Lists (bind_eq_ok)

theorem foldl_keeps {α β γ : Type} (f : β → α → β) (g : β → γ) (h : ∀ b a, g (f b a) = g b) :
    ∀ (l : List α) (b : β), g (l.foldl f b) = g b := by
  intro l
  induction l with
  | nil => intro b; rfl
  | cons a rest ih => intro b; simp only [List.foldl_cons]; rw [ih, h]

/-- the part of the plugin object that `_modify_method_def` never writes -/
def _root_.Ariadne.Plugins.ShorterState.readOnly (st : ShorterState) : String × List (String × ClassDef) × List (String × String) :=
  (st.fragmentsModuleName, st.classDict, st.importedTypes)

theorem shorterUpdateImports_readOnly (st : ShorterState) (n : String) (classes : List String) :
    (shorterUpdateImports st n classes).readOnly = st.readOnly := by
  unfold shorterUpdateImports
  apply foldl_keeps (g := ShorterState.readOnly)
  intro b a
  simp only
  split <;> rfl

theorem shorterModifyMethod_readOnly (st st' : ShorterState) (m m' : Method)
    (h : shorterModifyMethod st m = .ok (st', m')) : st'.readOnly = st.readOnly := by
  rcases shorterModifyMethod_cases st st' m m' h with ⟨rfl, _⟩ | ⟨_, _, classes, _, _, _, rfl, _⟩
  · rfl
  · exact shorterUpdateImports_readOnly st m.name classes

theorem shorterModifyMethod_state_free (st1 st2 : ShorterState) (m : Method) (hd : st1.classDict = st2.classDict) :
    (shorterModifyMethod st1 m).map (·.2) = (shorterModifyMethod st2 m).map (·.2) := by
  unfold shorterModifyMethod
  split
  · unfold shorterQueryMutation
    split
    · rename_i value id _ _
      rw [hd]
      cases nodeAndClass st2.classDict id with
      | error e => rfl
      | ok x =>
        cases x with
        | none => rfl
        | some t => obtain ⟨node, classes, f⟩ := t; rfl
    · rfl
  · unfold shorterSubscription
    split
    · rename_i id _
      rw [hd]
      cases nodeAndClass st2.classDict id with
      | error e => rfl
      | ok x =>
        cases x with
        | none => rfl
        | some t =>
          obtain ⟨node, classes, f⟩ := t
          simp only [bind_ok]
          split
          · rfl
          · split <;> rfl
    · rfl
  · rfl

def AloneGives (dict : List (String × ClassDef)) (m m' : Method) : Prop :=
  ∀ st0 : ShorterState, st0.classDict = dict → (shorterModifyMethod st0 m).map (·.2) = .ok m'

theorem shorter_methods_history_free : ∀ (items : List ClassItem) (st st' : ShorterState) (items' : List ClassItem),
    mapMethodsM shorterModifyMethod st items = .ok (st', items') →
    st'.readOnly = st.readOnly ∧ ItemsRel (AloneGives st.classDict) items items' := by
  intro items
  induction items with
  | nil =>
    intro st st' items' h
    obtain ⟨rfl, rfl⟩ := mapMethodsM_nil_ok h
    exact ⟨rfl, .nil⟩
  | cons it rest ih =>
    intro st st' items' h
    cases it with
    | method m =>
      obtain ⟨st1, m', rest', hfm, hrest, rfl⟩ := mapMethodsM_method_ok h
      have hro : st1.readOnly = st.readOnly := shorterModifyMethod_readOnly st st1 m m' hfm
      have hdict : st1.classDict = st.classDict := congrArg (fun t => t.2.1) hro
      obtain ⟨ih1, ih2⟩ := ih st1 st' rest' hrest
      refine ⟨ih1.trans hro, .method ?_ ?_⟩
      · intro st0 h0
        rw [shorterModifyMethod_state_free st0 st m h0, hfm]
        rfl
      · rw [hdict] at ih2; exact ih2
    | stmt s =>
      obtain ⟨rest', hrest, rfl⟩ := mapMethodsM_stmt_ok h
      obtain ⟨ih1, ih2⟩ := ih st st' rest' hrest
      exact ⟨ih1, .other ih2⟩

/-- the result class `cls` has exactly one field, `f: ann`, counting the fields of the recorded base
    classes (`_get_all_fields`: fragments the class inherits from, transitively) -/
def SingleField (dict : List (String × ClassDef)) (cls f : String) (ann : Ex) : Prop :=
  ∃ cd, alookup cls dict = some cd ∧ getAllFields dict (dict.length + 1) cd = .ok [(.name f, ann)]

theorem nodeAndClass_of_single (dict : List (String × ClassDef)) (cls f : String) (ann : Ex)
    (h : SingleField dict cls f ann) :
    nodeAndClass dict cls = (updateNode (ann.size + 1) ann >>= fun r => pure (some (r.1, r.2, f))) := by
  obtain ⟨cd, h1, h2⟩ := h
  unfold nodeAndClass
  rw [h1]
  simp only [h2, bind_ok]

theorem single_of_nodeAndClass (dict : List (String × ClassDef)) (cls f : String) (node : Ex) (classes : List String)
    (h : nodeAndClass dict cls = .ok (some (node, classes, f))) : ∃ ann, SingleField dict cls f ann := by
  obtain ⟨cd, ann, h1, h2, _⟩ := (nodeAndClass_some dict cls node classes f).mp h
  exact ⟨ann, cd, h1, h2⟩

theorem not_single_of_nodeAndClass_none (dict : List (String × ClassDef)) (cls : String)
    (h : nodeAndClass dict cls = .ok none) (f : String) (ann : Ex) : ¬ SingleField dict cls f ann := by
  intro hs
  rw [nodeAndClass_of_single dict cls f ann hs] at h
  cases hu : updateNode (ann.size + 1) ann with
  | error e => rw [hu] at h; cases h
  | ok r => rw [hu] at h; simp [bind_ok, pure_eq_ok] at h

theorem single_unique (dict : List (String × ClassDef)) (cls f f' : String) (ann ann' : Ex)
    (h : SingleField dict cls f ann) (h' : SingleField dict cls f' ann') : f = f' ∧ ann = ann' := by
  obtain ⟨cd, h1, h2⟩ := h
  obtain ⟨cd', h1', h2'⟩ := h'
  rw [h1] at h1'
  cases h1'
  rw [h2] at h2'
  simp at h2'
  exact h2'

/-- a generated body has one shape: the recogniser reads it back (`shapeOf_bodyOf`) -/
theorem bodyOf_inj {s s' : Shape} (h : bodyOf s = bodyOf s') : s = s' :=
  Option.some.inj ((shapeOf_bodyOf { (default : Method) with body := bodyOf s } s rfl).symm.trans (shapeOf_bodyOf _ s' h))

theorem bodyOf_shorterShape_ne (s : Shape) (f : String) : bodyOf (shorterShape s f) ≠ bodyOf s := fun h => by
  simpa [shorterShape] using congrArg (·.proj.length) (bodyOf_inj h)

theorem bodyOf_shorterShape_inj (s : Shape) (f f' : String)
    (h : bodyOf (shorterShape s f) = bodyOf (shorterShape s f')) : f = f' := by
  simpa [shorterShape] using congrArg Shape.proj (bodyOf_inj h)

/-- the case `m' = m` of what `iff_of_projected` states (hence `m = m ↔ …`): each closes one branch of the two theorems below by `exact` -/
theorem iff_of_untouched (dict : List (String × ClassDef)) (cls : String) (m : Method) (s : Shape) (hb : m.body = bodyOf s)
    (hn : nodeAndClass dict cls = .ok none) :
    (∀ f, m.body = bodyOf (shorterShape s f) ↔ ∃ ann, SingleField dict cls f ann) ∧
    (m = m ↔ ∀ f ann, ¬ SingleField dict cls f ann) := by
  have hno := not_single_of_nodeAndClass_none dict cls hn
  refine ⟨fun f => ⟨fun hbody => ?_, fun ⟨ann, hs⟩ => absurd hs (hno f ann)⟩, ⟨fun _ => hno, fun _ => rfl⟩⟩
  rw [hb] at hbody
  exact absurd hbody.symm (bodyOf_shorterShape_ne s f)

theorem iff_of_projected (dict : List (String × ClassDef)) (cls f0 : String) (node : Ex) (classes : List String)
    (m m' : Method) (s : Shape) (hb : m.body = bodyOf s) (hb' : m'.body = bodyOf (shorterShape s f0))
    (hn : nodeAndClass dict cls = .ok (some (node, classes, f0))) :
    (∀ f, m'.body = bodyOf (shorterShape s f) ↔ ∃ ann, SingleField dict cls f ann) ∧
    (m' = m ↔ ∀ f ann, ¬ SingleField dict cls f ann) := by
  obtain ⟨ann0, hs0⟩ := single_of_nodeAndClass dict cls f0 node classes hn
  refine ⟨fun f => ⟨fun hbody => ?_, fun ⟨ann, hs⟩ => ?_⟩, ⟨fun heq => ?_, fun hall => absurd hs0 (hall f0 ann0)⟩⟩
  · have := bodyOf_shorterShape_inj s f0 f (hb'.symm.trans hbody)
    subst this
    exact ⟨ann0, hs0⟩
  · have := (single_unique dict cls f f0 ann ann0 hs hs0).1
    subst this
    exact hb'
  · rw [heq, hb] at hb'
    exact absurd hb'.symm (bodyOf_shorterShape_ne s f0)

theorem shorter_call_iff (st st' : ShorterState) (m m' : Method) (s : Shape) (aw : Bool) (r d cls : String)
    (hb : m.body = bodyOf s) (ht : s.tail = .call aw r d) (hr : m.returns = some (.name cls))
    (h : shorterModifyMethod st m = .ok (st', m')) :
    (∀ f, m'.body = bodyOf (shorterShape s f) ↔ ∃ ann, SingleField st.classDict cls f ann) ∧
    (m' = m ↔ ∀ f ann, ¬ SingleField st.classDict cls f ann) := by
  rw [shorter_call st m s aw r d cls hb ht hr] at h
  obtain ⟨x, hn, h⟩ := bind_eq_ok.mp h
  cases x with
  | none => cases h; exact iff_of_untouched _ cls m s hb hn
  | some t => obtain ⟨node, classes, f0⟩ := t; cases h; exact iff_of_projected _ cls f0 node classes m _ s hb rfl hn

theorem shorter_sub_iff (st st' : ShorterState) (m m' : Method) (s : Shape) (d cls : String) (o : Nat) (a : Ex)
    (hb : m.body = bodyOf s) (ht : s.tail = .sub d true o) (hr : m.returns = some (.sub a (.name cls)))
    (h : shorterModifyMethod st m = .ok (st', m')) :
    (∀ f, m'.body = bodyOf (shorterShape s f) ↔ ∃ ann, SingleField st.classDict cls f ann) ∧
    (m' = m ↔ ∀ f ann, ¬ SingleField st.classDict cls f ann) := by
  rw [shorter_sub st m s d cls o a hb ht hr] at h
  obtain ⟨x, hn, h⟩ := bind_eq_ok.mp h
  cases x with
  | none => cases h; exact iff_of_untouched _ cls m s hb hn
  | some t => obtain ⟨node, classes, f0⟩ := t; cases h; exact iff_of_projected _ cls f0 node classes m _ s hb rfl hn

end Ariadne.C15
