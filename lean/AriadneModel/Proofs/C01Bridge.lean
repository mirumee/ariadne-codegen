/-
  Property C01: from the class-level tier theorems (about `parseTypeDefinition`) to the
  pipeline statement `claimB` (Model/Claim01.lean); the part all tiers share.

  `claimB_ops` is the bridge with the tier as a parameter (what a tier provides is said there); every `claimB_…` of
  Proofs/C01Bridge*.lean is an instance, in the three parts `gen`, `ops`, `acc`.  Underneath, one induction over the operations
  (`runOps_thread`): `PackageGenerator` hands every operation the marks its predecessors left, and they are threaded as sets —
  a tier says which selection sets an operation marks (`need o`; none in the tiers without abstract positions), operation `i`
  is entered with `(ops.take i).flatMap need`, its document is sent with `(ops.take (i + 1)).flatMap need`.
  What the tiers do NOT share is the fragments module: `pydEnvOf_fragModule` (Proofs/C01BridgeMix.lean: nothing is unpacked,
  every fragment definition generates) and `pydEnvOf_unpacked` (Proofs/C01BridgeUnp.lean: every fragment definition is unpacked
  by some operation).
-/
import AriadneModel.Proofs.C01Plain
import AriadneModel.Model.Claim01
import AriadneModel.Proofs.C01Regions


namespace Ariadne.C01
open Ariadne Ariadne.Gql Ariadne.ResultTypes Ariadne.Triggers01 Ariadne.C01Plain Ariadne.C01GenRules Ariadne.C01Accepts

mutual
  theorem applySel_nil : ∀ s : Selection, Marks.applySel [] s = s
    | .field alias name dirs sid sub => by
      simp only [Marks.applySel, applySels_nil sub]
      simp
    | .spread n dirs => by simp [Marks.applySel]
    | .inline on dirs sid sub => by simp only [Marks.applySel, applySels_nil sub]
  theorem applySels_nil : ∀ sels : List Selection, Marks.applySels [] sels = sels
    | [] => by simp [Marks.applySels]
    | s :: rest => by simp only [Marks.applySels, applySel_nil s, applySels_nil rest]
end

theorem applyOp_nil (o : Operation) : Marks.applyOp [] o = o := by
  simp [Marks.applyOp, applySels_nil]

theorem operationTypeName_rootOf (env : ResultTypes.Env) (o : Operation) (rt : String)
    (h : Validate.rootOf env.schema o = some rt) : operationTypeName env (.op o) = .ok rt := by
  unfold Validate.rootOf at h
  unfold operationTypeName
  cases hk : o.kind <;> simp only [hk] at h ⊢ <;> simp [h, pure, Except.pure]

theorem generate_op (env : ResultTypes.Env) (fuel : Nat) (o : Operation) (n : String) (marks : List Nat)
    (hn : o.name = some n) :
    generate env fuel (.op o) marks =
      match ((ResultTypes.liftExcept (operationTypeName env (.op o)) >>= fun tn =>
              mixinBases o.dirs >>= fun bases =>
              parseTypeDefinition env fuel (pascal n) tn o.sid o.sel false bases []) : M (List ClassDecl))
            { marks := marks } with
      | .ok (cs, st) => .ok { classes := cs, rebuild := (cs.filter classHasForwardRefs).map (·.name), st := st }
      | .error e => .error e := by
  unfold generate
  simp only [hn]
  rfl

theorem generate_of_parse (env : ResultTypes.Env) (fuel : Nat) (o : Operation) (n tn : String) (ms : List Nat)
    (hn : o.name = some n) (hroot : Validate.rootOf env.schema o = some tn)
    (hmix : (o.dirs.any (·.name == Tables.mixinName)) = false) {cs : List ClassDecl} {st' : St}
    (hgen : parseTypeDefinition env fuel (pascal n) tn o.sid o.sel false [] [] { marks := ms } = .ok (cs, st')) :
    generate env fuel (.op o) ms =
      .ok { classes := cs, rebuild := (cs.filter classHasForwardRefs).map (·.name), st := st' } := by
  rw [generate_op env fuel o n ms hn]
  have hrun : ((ResultTypes.liftExcept (operationTypeName env (.op o)) >>= fun tn =>
              mixinBases o.dirs >>= fun bases =>
              parseTypeDefinition env fuel (pascal n) tn o.sid o.sel false bases []) : M (List ClassDecl))
            { marks := ms } = .ok (cs, st') := by
    refine run_bind (a := tn) (s' := { marks := ms }) (by rw [operationTypeName_rootOf env o tn hroot]; rfl) ?_
    refine run_bind (mixinBases_none o.dirs _ hmix) ?_
    exact hgen
  rw [hrun]

theorem runOps_length (env : ResultTypes.Env) : ∀ (ops : List Operation) (ms : List Nat), (runOps env ops ms).length = ops.length
  | [], _ => rfl
  | o :: rest, ms => by
    simp only [runOps]
    split <;> simp [runOps_length env rest]

/-- `claimB` from what a tier knows about operation `k`: it generated, its first class is the root class, and the root class
    accepts (`C01Accepts.Accepts`, executor and validation fuel `execFuel`) the document as sent -/
theorem claimB_of (inp : Input) (k : Nat) (j : J) (hj : nodupKeys j = true)
    (h : ∀ o, inp.ops[k]? = some o → ∃ out root rt, (run inp).ops[k]? = some (.ok out) ∧ out.classes.head? = some root ∧
      Validate.rootOf inp.env.schema o = some rt ∧
      Accepts inp.env.schema (inp.env.frags.map (Marks.applyFrag (marksAfter ((run inp).ops.take (k + 1)))))
        (pydEnvOf inp (run inp) out) execFuel execFuel root.name rt
        (Marks.applyOp (marksAfter ((run inp).ops.take (k + 1))) o).sel) :
    claimB inp k j = true := by
  unfold claimB
  simp only []
  cases hk : inp.ops[k]? with
  | none =>
    have : (run inp).ops[k]? = none := by
      show (runOps inp.env inp.ops [])[k]? = none
      rw [List.getElem?_eq_none_iff, runOps_length]
      exact List.getElem?_eq_none_iff.mp hk
    simp only [this]
  | some o =>
    obtain ⟨out, root, rt, h1, h2, h3, h4⟩ := h o hk
    simp only [h1, h2, h3]
    cases hresp : Exec.respOK inp.env.schema (inp.env.frags.map (Marks.applyFrag (marksAfter ((run inp).ops.take (k + 1))))) execFuel rt
          (Marks.applyOp (marksAfter ((run inp).ops.take (k + 1))) o).sel j with
    | false => simp
    | true =>
      obtain ⟨v, hv, he⟩ := h4 j hresp hj execFuel (Nat.le_refl _)
      simp only [Bool.not_true, Bool.false_or, hv]
      exact he

theorem mem_marksAfter (rs : List (Except GenErr ModuleOut)) (m : Nat) :
    m ∈ marksAfter rs ↔ ∃ out, .ok out ∈ rs ∧ m ∈ out.st.marks := by
  unfold marksAfter
  rw [Lists.mem_foldl_of_step _ (fun r => match r with | .ok out => out.st.marks | .error _ => []) (fun acc r m => ?_)]
  · simp only [List.not_mem_nil, false_or]
    constructor
    · rintro ⟨r, hr, hm⟩
      cases r with
      | ok out => exact ⟨out, hr, hm⟩
      | error e => cases hm
    · rintro ⟨out, ho, hm⟩
      exact ⟨_, ho, hm⟩
  · cases r with
    | error e => simp
    | ok out =>
      simp only []
      rw [Lists.mem_foldl_of_step _ (fun x => [x]) (fun acc x m => ?_)]
      · simp
      · by_cases hx : x ∈ acc
        · simp only [List.contains_eq_mem, hx, decide_true, if_true, List.mem_singleton]
          exact ⟨Or.inl, fun h => h.elim id (fun e => e ▸ hx)⟩
        · simp [hx]

/-- **the operations in order.**  `OK o ms`: what the region knows of operation `o` entered with the marks `ms`; `post o out`:
    what the tier's generation theorem says of its module.  If every operation is `OK` with the marks (any list with the
    members) of its predecessors, every operation generates, and the marks it leaves are those of operations `0..i`. -/
theorem runOps_thread (env : ResultTypes.Env) (need : Operation → List Nat) (OK : Operation → List Nat → Prop)
    (post : Operation → ModuleOut → Prop)
    (hgen : ∀ o ms, OK o ms → ∃ out, generate env Triggers01.fuel (.op o) ms = .ok out ∧
      (∀ m, m ∈ out.st.marks ↔ m ∈ ms ∨ m ∈ need o) ∧ post o out) :
    ∀ (ops : List Operation) (ms : List Nat),
      (∀ i o, ops[i]? = some o → ∀ ms', (∀ m, m ∈ ms' ↔ m ∈ ms ∨ m ∈ (ops.take i).flatMap need) → OK o ms') →
      ∀ i o, ops[i]? = some o → ∃ out, (runOps env ops ms)[i]? = some (.ok out) ∧ post o out ∧
        ∀ m, m ∈ out.st.marks ↔ m ∈ ms ∨ m ∈ (ops.take (i + 1)).flatMap need
  | [], _, _, i, o, hi => by simp at hi
  | o0 :: rest, ms, h, i, o, hi => by
    obtain ⟨out0, hg, hm0, hp0⟩ := hgen o0 ms (h 0 o0 rfl ms (fun m => by simp))
    have hrun : runOps env (o0 :: rest) ms = .ok out0 :: runOps env rest out0.st.marks := by simp only [runOps, hg]
    cases i with
    | zero =>
      cases (by simpa using hi : o0 = o)
      exact ⟨out0, by rw [hrun]; rfl, hp0, fun m => by rw [hm0]; simp⟩
    | succ i =>
      obtain ⟨out, h1, h2, h3⟩ := runOps_thread env need OK post hgen rest out0.st.marks
        (fun i' o' hi' ms' hms' => h (i' + 1) o' (by simpa using hi') ms' (fun m => by
          rw [hms' m, hm0 m]; simp [or_assoc])) i o (by simpa using hi)
      exact ⟨out, by rw [hrun]; simpa using h1, h2, fun m => by rw [h3 m, hm0 m]; simp [or_assoc]⟩

/-- what the run of a whole input looks like, in a tier with the marks `need` and the module property `post` -/
structure RunFacts (inp : Input) (need : Operation → List Nat) (post : Operation → ModuleOut → Prop) : Prop where
  get : ∀ (i : Nat) (o : Operation), inp.ops[i]? = some o → ∃ out, (run inp).ops[i]? = some (Except.ok out) ∧ post o out
  outs : ∀ r ∈ (run inp).ops, ∃ o ∈ inp.ops, ∃ out, r = Except.ok out ∧ post o out
  covered : ∀ o ∈ inp.ops, ∃ out, Except.ok out ∈ (run inp).ops ∧ post o out
  marks : ∀ k m, m ∈ marksAfter ((run inp).ops.take k) ↔ m ∈ (inp.ops.take k).flatMap need

theorem run_facts (inp : Input) (need : Operation → List Nat) (OK : Operation → List Nat → Prop)
    (post : Operation → ModuleOut → Prop)
    (hgen : ∀ o ms, OK o ms → ∃ out, generate inp.env Triggers01.fuel (.op o) ms = .ok out ∧
      (∀ m, m ∈ out.st.marks ↔ m ∈ ms ∨ m ∈ need o) ∧ post o out)
    (hops : ∀ i o, inp.ops[i]? = some o → ∀ ms, (∀ m, m ∈ ms ↔ m ∈ (inp.ops.take i).flatMap need) → OK o ms) :
    RunFacts inp need post := by
  have hth : ∀ i o, inp.ops[i]? = some o → ∃ out, (run inp).ops[i]? = some (.ok out) ∧ post o out ∧
      ∀ m, m ∈ out.st.marks ↔ m ∈ (inp.ops.take (i + 1)).flatMap need := fun i o hi => by
    obtain ⟨out, h1, h2, h3⟩ := runOps_thread inp.env need OK post hgen inp.ops []
      (fun i o hi ms hms => hops i o hi ms (fun m => by rw [hms m]; simp)) i o hi
    exact ⟨out, h1, h2, fun m => by simpa using h3 m⟩
  have hlen : (run inp).ops.length = inp.ops.length := runOps_length inp.env inp.ops []
  have hat : ∀ i r, (run inp).ops[i]? = some r → ∃ o out, inp.ops[i]? = some o ∧ r = .ok out ∧ post o out ∧
      ∀ m, m ∈ out.st.marks ↔ m ∈ (inp.ops.take (i + 1)).flatMap need := fun i r hr => by
    have hi : i < inp.ops.length := hlen ▸ (List.getElem?_eq_some_iff.mp hr).1
    obtain ⟨out, h1, h2, h3⟩ := hth i _ (List.getElem?_eq_getElem hi)
    exact ⟨_, out, List.getElem?_eq_getElem hi, Option.some.inj (hr.symm.trans h1), h2, h3⟩
  have hneed : ∀ k m, m ∈ (inp.ops.take k).flatMap need ↔ ∃ i o, i < k ∧ inp.ops[i]? = some o ∧ m ∈ need o := fun k m => by
    simp only [List.mem_flatMap, Lists.mem_take_iff_getElem?]
    exact ⟨fun ⟨o, ⟨i, hi, ho⟩, hm⟩ => ⟨i, o, hi, ho, hm⟩, fun ⟨i, o, hi, ho, hm⟩ => ⟨o, ⟨i, hi, ho⟩, hm⟩⟩
  refine ⟨fun i o hi => ?_, fun r hr => ?_, fun o ho => ?_, fun k m => ?_⟩
  · obtain ⟨out, h1, h2, _⟩ := hth i o hi
    exact ⟨out, h1, h2⟩
  · obtain ⟨i, hi⟩ := List.getElem?_of_mem hr
    obtain ⟨o, out, h1, h2, h3, _⟩ := hat i r hi
    exact ⟨o, List.mem_of_getElem? h1, out, h2, h3⟩
  · obtain ⟨i, hi⟩ := List.getElem?_of_mem ho
    obtain ⟨out, h1, h2, _⟩ := hth i o hi
    exact ⟨out, List.mem_of_getElem? h1, h2⟩
  · rw [mem_marksAfter, hneed]
    constructor
    · rintro ⟨out, ho, hm⟩
      obtain ⟨i, hik, hi⟩ := Lists.mem_take_iff_getElem?.mp ho
      obtain ⟨o, out', _, h2, _, h4⟩ := hat i _ hi
      cases h2
      obtain ⟨i', o', hi', ho', hm'⟩ := (hneed (i + 1) m).mp ((h4 m).mp hm)
      exact ⟨i', o', by omega, ho', hm'⟩
    · rintro ⟨i, o, hik, hi, hm⟩
      obtain ⟨out, h1, _, h3⟩ := hth i o hi
      exact ⟨out, Lists.mem_take_iff_getElem?.mpr ⟨i, hik, h1⟩, (h3 m).mpr ((hneed (i + 1) m).mpr ⟨i, o, by omega, hi, hm⟩)⟩

/-- **the bridge, with the tier as a parameter.**  A tier provides: the selection sets an operation marks (`need`); what its
    region says of an operation entered with given marks (`OK`; `hops`: the region says it of every operation of the input,
    entered with the marks of its predecessors); that such an operation generates, marks exactly `need`, and what else is
    true of its module (`post`; `hgen`: the generation half of the tier's class-level theorem); and that, the run being what
    `RunFacts` says, the root class of operation `k` accepts the document as sent in the environment `pydEnvOf` builds
    (`hacc`: the fragments-module scheme of the tier and the validation half of its class-level theorem). -/
theorem claimB_ops (inp : Input) (k : Nat) (j : J) (hj : nodupKeys j = true)
    (need : Operation → List Nat) (OK : Operation → List Nat → Prop) (post : Operation → ModuleOut → Prop)
    (hgen : ∀ o ms, OK o ms → ∃ out, generate inp.env Triggers01.fuel (.op o) ms = .ok out ∧
      (∀ m, m ∈ out.st.marks ↔ m ∈ ms ∨ m ∈ need o) ∧ post o out)
    (hops : ∀ i o, inp.ops[i]? = some o → ∀ ms, (∀ m, m ∈ ms ↔ m ∈ (inp.ops.take i).flatMap need) → OK o ms)
    (hacc : RunFacts inp need post → ∀ o out, inp.ops[k]? = some o → (run inp).ops[k]? = some (.ok out) → post o out →
      ∃ root rt, out.classes.head? = some root ∧ Validate.rootOf inp.env.schema o = some rt ∧
        Accepts inp.env.schema (inp.env.frags.map (Marks.applyFrag (marksAfter ((run inp).ops.take (k + 1)))))
          (pydEnvOf inp (run inp) out) execFuel execFuel root.name rt
          (Marks.applyOp (marksAfter ((run inp).ops.take (k + 1))) o).sel) :
    claimB inp k j = true := by
  have R := run_facts inp need OK post hgen hops
  refine claimB_of inp k j hj fun o hk => ?_
  obtain ⟨out, h1, h2⟩ := R.get k o hk
  obtain ⟨root, rt, h3, h4, h5⟩ := hacc R o out hk h1 h2
  exact ⟨out, root, rt, h1, h3, h4, h5⟩

theorem applyFrags_nil (frags : List Fragment) : frags.map (Marks.applyFrag []) = frags := by
  rw [List.map_congr_left (g := id) (fun f _ => by simp [Marks.applyFrag, applySels_nil])]
  simp

/-- the bridge for the tiers in which no operation marks anything (`need := fun _ => []`): every operation is generated
    with empty marks and leaves them empty, the document is sent as written -/
theorem claimB_marksFree (inp : Input) (k : Nat) (j : J) (hj : nodupKeys j = true)
    (opOK : Operation → Prop) (post : Operation → ModuleOut → Prop)
    (hgen : ∀ o, opOK o → ∃ out, generate inp.env Triggers01.fuel (.op o) [] = .ok out ∧ out.st.marks = [] ∧ post o out)
    (hops : ∀ o ∈ inp.ops, opOK o)
    (hacc : RunFacts inp (fun _ => []) post → marksAfter (run inp).ops = [] → ∀ o out, inp.ops[k]? = some o → post o out →
      ∃ root rt, out.classes.head? = some root ∧ Validate.rootOf inp.env.schema o = some rt ∧
        Accepts inp.env.schema inp.env.frags (pydEnvOf inp (run inp) out) execFuel execFuel root.name rt o.sel) :
    claimB inp k j = true := by
  refine claimB_ops inp k j hj (fun _ => []) (fun o ms => ms = [] ∧ opOK o) post (fun o ms h => ?_)
    (fun i o hi ms hms => ⟨List.eq_nil_iff_forall_not_mem.mpr fun m hm => by simpa using (hms m).mp hm,
      hops o (List.mem_of_getElem? hi)⟩)
    (fun R o out hk _ hp => ?_)
  · obtain ⟨out, h1, h2, h3⟩ := hgen o h.2
    exact ⟨out, by rw [h.1]; exact h1, by simp [h2, h.1], h3⟩
  · have hM : ∀ n, marksAfter ((run inp).ops.take n) = [] := fun n =>
      List.eq_nil_iff_forall_not_mem.mpr fun m hm => by simpa using (R.marks n m).mp hm
    rw [hM, applyOp_nil, applyFrags_nil]
    exact hacc R (by simpa using hM (run inp).ops.length) o out hk hp

theorem NoShadowedImport_baseModel {env : ResultTypes.Env} {classes : List ClassDecl}
    (h : NoShadowedImport env classes = true) : "BaseModel" ∉ classes.map (·.name) := by
  intro hm
  obtain ⟨c, hc, hn⟩ := List.mem_map.mp hm
  have := List.all_eq_true.mp h c hc
  simp [importedNames, hn] at this

end Ariadne.C01
