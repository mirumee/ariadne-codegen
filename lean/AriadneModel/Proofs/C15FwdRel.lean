/-
  C15: ClientForwardRefs on a client module of the generated form, inside a frame (`fr`: import statements later
  plugins put in front) and with an operations module (`ops`): what is assumed of the package WITHOUT ClientForwardRefs
  (`fr ++ M0`, `ops`) carries over to the package WITH it (`fr ++ M1`, `ops`) — under the decidable hygiene of the
  module that reaches the plugin (`FwdHypsR`).
-/
import AriadneModel.Proofs.C15FwdImports
import AriadneModel.Proofs.C15ShorterRel


namespace Ariadne.C15
open Ariadne.Py Ariadne.Plugins Ariadne.ClientSem

theorem fwdStoreImported_sets (st : FwdState) (body : List Top) :
    (fwdStoreImported st body).inputAndReturnTypes = st.inputAndReturnTypes ∧
    (fwdStoreImported st body).importedInMethod = st.importedInMethod := by
  unfold fwdStoreImported
  have h := foldl_keeps (β := FwdState) (g := fun s => (s.inputAndReturnTypes, s.importedInMethod))
    (fun st t =>
      match t.importFrom? with
      | some i =>
        match i.module with
        | some mname =>
          if i.level != 1 && !startsWithDot mname then st
          else i.names.foldl (fun st (n : String × Option String) =>
            { st with importedClasses := aset n.1 (dotted i.level mname) st.importedClasses }) st
        | none => st
      | none => st)
    (by
      intro b a
      split
      · split
        · split
          · rfl
          · apply foldl_keeps (g := fun (s : FwdState) => (s.inputAndReturnTypes, s.importedInMethod))
            intro b' a'; rfl
        · rfl
      · rfl) body st
  exact ⟨congrArg Prod.fst h, congrArg Prod.snd h⟩

theorem tc_ok (classes : List (String × String)) : ∀ (l : List String) (acc : List (String × List String)),
    (∀ c ∈ l, ahas c classes = true) → ∃ groups, l.foldlM (tcStep classes) acc = .ok groups ∧ (l ≠ [] → groups ≠ []) ∧ (acc ≠ [] → groups ≠ []) := by
  intro l
  induction l with
  | nil => intro acc _; exact ⟨acc, rfl, fun h => absurd rfl h, fun h => h⟩
  | cons c rest ih =>
    intro acc hall
    have hc := hall c (by simp)
    cases hl : alookup c classes with
    | none => simp [ahas, hl] at hc
    | some mname =>
      have hne : aset mname ((alookup mname acc).getD [] ++ [c]) acc ≠ [] := by
        cases acc with
        | nil => simp [aset]
        | cons kv tl =>
          obtain ⟨k, v⟩ := kv
          simp only [aset]
          split <;> simp
      obtain ⟨groups, hg, _, hg3⟩ := ih (aset mname ((alookup mname acc).getD [] ++ [c]) acc) (fun x hx => hall x (by simp [hx]))
      refine ⟨groups, ?_, fun _ => hg3 hne, fun _ => hg3 hne⟩
      rw [List.foldlM_cons]
      simp only [tcStep, hl, pure_eq_ok, bind_ok]
      exact hg

def typingTop : Top := .simple (.importFrom { module := some "typing", names := [("TYPE_CHECKING", none)], level := 0 })

def tcTop (groups : List (String × List String)) : Top :=
  .ifStmt (.name "TYPE_CHECKING") (groups.map (fun (g : String × List String) =>
    Simple.importFrom { module := some g.1, names := g.2.map (fun n => (n, none)), level := 0 })) 0

/-- the names `_update_existing_imports` takes out of the module-level import statements -/
def dropOf (st : FwdState) : List String :=
  st.inputAndReturnTypes ++ st.importedInMethod.filter (fun n => !st.inputAndReturnTypes.contains n)

theorem fwdUpdateImports_form (st : FwdState) (pre : List Top) (g : Method) (c : ClassDef)
    (hall : AllImp pre) (hne : pre ≠ []) (hir : ∀ n ∈ st.inputAndReturnTypes, ahas n st.importedClasses = true)
    (hdrop : dropOf st ≠ []) :
    ∃ groups, (st.inputAndReturnTypes ≠ [] → groups ≠ []) ∧
      fwdUpdateImports st { body := pre ++ [.funcDef g, .classDef c] } =
        .ok { body := pre.filterMap (keepTop (dropOf st)) ++ [typingTop, tcTop groups] ++ [.funcDef g, .classDef c] } := by
  obtain ⟨groups, hg, hg2, _⟩ := tc_ok st.importedClasses st.inputAndReturnTypes [] hir
  refine ⟨groups, hg2, ?_⟩
  unfold fwdUpdateImports
  have hd : (st.inputAndReturnTypes ++ st.importedInMethod.filter (fun n => !st.inputAndReturnTypes.contains n)).isEmpty = false := by
    cases hdd : dropOf st with
    | nil => exact absurd hdd hdrop
    | cons a as => unfold dropOf at hdd; rw [hdd]; rfl
  simp only [hd, Bool.false_eq_true, ↓reduceIte, pure_eq_ok]
  rw [fwdTypeCheckingImports_eq, hg]
  simp only [bind_ok]
  have htail : ∀ t ∈ [Top.funcDef g, Top.classDef c], isImp t = false := by
    intro t ht; simp at ht; rcases ht with rfl | rfl <;> rfl
  have hscan : fwdScanImports (dropOf st) (pre ++ [.funcDef g, .classDef c]) 0 ([], 0) = fwdScanImports (dropOf st) pre 0 ([], 0) := by
    rw [scan_append, scan_nonimp (dropOf st) _ _ _ htail]
  have hkept := scan_filterMap (dropOf st) pre 0 ([], 0)
  have hlast := scan_last (dropOf st) pre 0 ([], 0) hall hne
  show Except.ok _ = _
  unfold dropOf at hscan hkept hlast ⊢
  simp only [hscan]
  rw [hkept]
  simp only [List.nil_append]
  have hle : (fwdScanImports (st.inputAndReturnTypes ++ st.importedInMethod.filter (fun n => !st.inputAndReturnTypes.contains n)) pre 0 ([], 0)).2 + 1 = pre.length := by
    simpa using hlast
  rw [hle, List.drop_left']
  · simp [typingTop, tcTop, List.append_assoc]
  · rfl


def fwdImport (src cls : String) : ImportFrom := { module := some src, names := [(cls, none)], level := 0 }

structure FwdHypsR (known : List String) (fr : List Top) (ops : Option (String × OpsFile))
    (M0 : Module) (pre0 : List Top) (g : Method) (C0 : ClassDef) : Prop where
  frame : ImportsOnly fr
  body : M0.body = pre0 ++ [.funcDef g, .classDef C0]
  noclass : NoClass pre0
  allimp : AllImp pre0
  nonempty : pre0 ≠ []
  noas : NoAs pre0
  someMethod : C0.methods ≠ []
  methods : FwdMethodsOK (icOf M0) C0.methods
  quoting : ∃ md ∈ C0.methods, ∃ n ∈ sigLeaves md, ahas n (icOf M0) = true
  hyg1 : ∀ md ∈ C0.methods, ∀ n ∈ quotedSigNames (icOf M0) md, n ∉ dropNames (icOf M0) C0.methods
  hyg2 : ∀ md ∈ C0.methods, ∀ s, shapeOf md = some s →
    opSourceName s ∉ dropNames (icOf M0) C0.methods ∧
    ∀ n ∈ exNames s.variables, n ∉ dropNames (icOf M0) C0.methods
  bind : ∀ md ∈ C0.methods, ∀ s src, shapeOf md = some s → alookup s.retClass (icOf M0) = some src →
    resolveRuntime { client := ({ body := fr ++ M0.body } : Module), ops := ops } s s.retClass = some (src, s.retClass)
  gql0 : "gql" ∈ moduleNames ({ body := fr ++ M0.body } : Module)
  fmt0 : formatOkB ({ body := fr ++ M0.body } : Module) = true
  ann0 : annScopedB ({ body := fr ++ M0.body } : Module) = true
  well0 : wellScopedB { client := ({ body := fr ++ M0.body } : Module), ops := ops } = true
  imp0 : ∀ i ∈ topImports ({ body := fr ++ M0.body } : Module), ∀ q, relModule i = some q → q ∈ known

structure FwdConclR (known : List String) (IC : List (String × String)) (ops : Option (String × OpsFile)) (B0 B1 : Module) (C0 : ClassDef) : Prop where
  fmt : formatOkB B1 = true
  ann : annScopedB B1 = true
  well : wellScopedB { client := B1, ops := ops } = true
  imp : ∀ i ∈ topImports B1, ∀ q, relModule i = some q → q ∈ known
  cls : ∃ C1, B1.firstClass? = some C1 ∧ ItemsRel (FwdOutcome IC) C0.body C1.body
  sem : ∀ md ∈ C0.methods, ∀ s src, shapeOf md = some s → alookup s.retClass IC = some src →
    request { client := B1, ops := ops } (withImport s (fwdImport src s.retClass)) = request { client := B0, ops := ops } s ∧
    ∀ (PyV : Type) (validate : String × String → J → Except String PyV) (getattr : String → PyV → PyV) (d : J),
      respond validate getattr { client := B1, ops := ops } (withImport s (fwdImport src s.retClass)) d =
        respond validate getattr { client := B0, ops := ops } s d

theorem fwdMethod_ic : ∀ (items : List ClassItem) (st st1 : FwdState) (items1 : List ClassItem),
    mapMethodsM fwdMethod st items = .ok (st1, items1) → True := fun _ _ _ _ _ => trivial

theorem argsQuoted_names (IC : List (String × String)) (args : List (String × Option Ex)) :
    (argsQuoted IC args).map (·.1) = args.map (·.1) := by
  simp [argsQuoted, List.map_map, Function.comp_def]

theorem defTimeNames_quoted (IC : List (String × String)) (md : Method) (b : List Stmt) :
    defTimeNames ({ md with args := argsQuoted IC md.args, returns := md.returns.map (quoted IC), body := b } : Method) =
      quotedSigNames IC md := rfl

theorem quotedSigNames_sub (IC : List (String × String)) (md : Method) (n : String) (h : n ∈ quotedSigNames IC md) :
    n ∈ defTimeNames md := by
  unfold quotedSigNames defTimeNames argsQuoted at h
  unfold defTimeNames
  simp only [List.mem_append, List.mem_flatMap, List.mem_map] at h ⊢
  rcases h with (⟨a', ⟨a, ha, rfl⟩, hn⟩ | h) | h
  · refine .inl (.inl ⟨a, ha, ?_⟩)
    cases hq : a.2 with
    | none => simp [hq] at hn
    | some e => simp only [hq, Option.map_some] at hn; exact toConst_names IC e [] n hn
  · exact .inl (.inr h)
  · right
    cases hr : md.returns with
    | none => simp [hr] at h
    | some r => simp only [hr, Option.map_some] at h; exact toConst_names IC r [] n h

theorem fwd_client_module_rel (known : List String) (fr : List Top) (ops : Option (String × OpsFile))
    (M0 : Module) (pre0 : List Top) (g : Method) (C0 : ClassDef) (H : FwdHypsR known fr ops M0 pre0 g C0) :
    ∃ r groups, mapMethodsM fwdMethod (fwdStoreImported {} M0.body) C0.body = .ok r ∧ groups ≠ [] ∧
      fwdClientModule {} M0 = .ok (r.1, { body := pre0.filterMap (keepTop (dropOf r.1)) ++ [typingTop, tcTop groups] ++
        [.funcDef g, .classDef { C0 with body := r.2 }] }) := by
  obtain ⟨s0i, s0m⟩ := fwdStoreImported_sets {} M0.body
  obtain ⟨r, hr, j1, j2, j3, j4⟩ := fwd_methods_spec C0.body (fwdStoreImported {} M0.body) H.methods
  have hir : ∀ n ∈ r.1.inputAndReturnTypes, ahas n r.1.importedClasses = true := by
    intro n hn
    rw [j1]
    rcases (j3 n).mp hn with h | ⟨md, _, _, hc⟩
    · rw [s0i] at h; cases h
    · exact hc
  have hdrop : dropOf r.1 ≠ [] := by
    obtain ⟨md, hmd⟩ := List.exists_mem_of_ne_nil _ H.someMethod
    obtain ⟨s, src, hsh, _, _⟩ := H.methods md hmd
    have hmem : s.retClass ∈ r.1.importedInMethod := (j4 _).mpr (.inr ⟨md, hmd, s, hsh, rfl⟩)
    intro hnil
    unfold dropOf at hnil
    rw [List.append_eq_nil_iff] at hnil
    have h2 := hnil.2
    rw [List.filter_eq_nil_iff] at h2
    have := h2 _ hmem
    rw [hnil.1] at this
    simp at this
  obtain ⟨groups, hgroups, hform⟩ := fwdUpdateImports_form r.1 pre0 g { C0 with body := r.2 } H.allimp H.nonempty hir hdrop
  refine ⟨r, groups, hr, ?_, ?_⟩
  · apply hgroups
    obtain ⟨md, hmd, n, hn, hc⟩ := H.quoting
    intro hnil
    have : n ∈ r.1.inputAndReturnTypes := (j3 n).mpr (.inr ⟨md, hmd, hn, hc⟩)
    rw [hnil] at this
    cases this
  · unfold fwdClientModule
    simp only [pure_eq_ok]
    rw [firstClass_of_body M0 pre0 g C0 H.body H.noclass]
    simp only
    rw [H.body, mapFirstClassM_pre _ g C0 pre0 _ H.noclass]
    rw [← H.body, hr]
    simp only [bind_ok, pure_eq_ok]
    rw [hform]
    rfl

theorem fwd_no_crash_rel (known : List String) (fr : List Top) (ops : Option (String × OpsFile))
    (M0 : Module) (pre0 : List Top) (g : Method) (C0 : ClassDef) (H : FwdHypsR known fr ops M0 pre0 g C0) :
    ∃ r, fwdClientModule {} M0 = .ok r := by
  obtain ⟨r, groups, _, _, h⟩ := fwd_client_module_rel known fr ops M0 pre0 g C0 H
  exact ⟨_, h⟩


theorem namesOf_typing (groups : List (String × List String)) : namesOfTops [typingTop, tcTop groups] = ["TYPE_CHECKING"] := by
  simp [namesOfTops, moduleNames, typingTop, tcTop]

theorem importsOf_typing (groups : List (String × List String)) :
    importsOfTops [typingTop, tcTop groups] = [{ module := some "typing", names := [("TYPE_CHECKING", none)], level := 0 }] := by
  simp [importsOfTops, typingTop, tcTop, Top.importFrom?]

theorem allImp_noClass {pre : List Top} (h : AllImp pre) : NoClass pre := fun t ht => isImp_noClass (h t ht)

theorem fwd_concl_rel (known : List String) (fr : List Top) (ops : Option (String × OpsFile))
    (M0 M1 : Module) (st' : FwdState) (pre0 : List Top) (g : Method) (C0 : ClassDef)
    (H : FwdHypsR known fr ops M0 pre0 g C0) (h : fwdClientModule {} M0 = .ok (st', M1)) :
    FwdConclR known (icOf M0) ops { body := fr ++ M0.body } { body := fr ++ M1.body } C0 := by
  obtain ⟨s0i, s0m⟩ := fwdStoreImported_sets {} M0.body
  obtain ⟨r, groups, hr, hgne, hform⟩ := fwd_client_module_rel known fr ops M0 pre0 g C0 H
  obtain ⟨r', hr', j1, j2, j3, j4⟩ := fwd_methods_spec C0.body (fwdStoreImported {} M0.body) H.methods
  obtain rfl : r = r' := Except.ok.inj (hr.symm.trans hr')
  have hM1 : M1.body = pre0.filterMap (keepTop (dropOf r.1)) ++ [typingTop, tcTop groups] ++ [.funcDef g, .classDef { C0 with body := r.2 }] := by
    rw [hform] at h
    cases h
    rfl
  -- what is dropped is a quoted signature class or a validated class
  have hdropsub : ∀ n ∈ dropOf r.1, n ∈ dropNames (icOf M0) C0.methods := by
    intro n hn
    unfold dropOf at hn
    unfold dropNames
    rcases List.mem_append.mp hn with h1 | h1
    · rcases (j3 n).mp h1 with h' | ⟨md, hmd, hl, hc⟩
      · rw [s0i] at h'; cases h'
      · apply List.mem_append_left
        rw [List.mem_flatMap]
        exact ⟨md, hmd, List.mem_filter.mpr ⟨hl, hc⟩⟩
    · have h2 := (List.mem_filter.mp h1).1
      rcases (j4 n).mp h2 with h' | ⟨md, hmd, s, hs, rfl⟩
      · rw [s0m] at h'; cases h'
      · apply List.mem_append_right
        rw [List.mem_filterMap]
        exact ⟨md, hmd, by rw [hs]; rfl⟩
  have hnotdrop : ∀ n, n ∉ dropNames (icOf M0) C0.methods → n ∉ dropOf r.1 := fun n hn hc => hn (hdropsub n hc)
  have hB0names : moduleNames ({ body := fr ++ M0.body } : Module) =
      namesOfTops fr ++ (namesOfTops pre0 ++ namesOfTops [Top.funcDef g, Top.classDef C0]) := by
    rw [moduleNames_eq, namesOfTops_append, H.body, namesOfTops_append]
  have hB1names : moduleNames ({ body := fr ++ M1.body } : Module) =
      namesOfTops fr ++ ((namesOfTops (pre0.filterMap (keepTop (dropOf r.1))) ++ ["TYPE_CHECKING"]) ++
        namesOfTops [Top.funcDef g, Top.classDef C0]) := by
    rw [moduleNames_eq, namesOfTops_append, hM1, namesOfTops_append, namesOfTops_append, namesOf_typing]
    rfl
  have hkeepB : ∀ n ∈ moduleNames ({ body := fr ++ M0.body } : Module), n ∉ dropOf r.1 →
      n ∈ moduleNames ({ body := fr ++ M1.body } : Module) := by
    intro n hn hnd
    rw [hB0names] at hn
    rw [hB1names]
    simp only [List.mem_append] at hn ⊢
    rcases hn with h1 | h1 | h1
    · exact .inl h1
    · exact .inr (.inl (.inl (keep_names _ pre0 H.allimp H.noas n h1 hnd)))
    · exact .inr (.inr h1)
  have hB0tops : topImports ({ body := fr ++ M0.body } : Module) = importsOfTops fr ++ importsOfTops pre0 := by
    rw [topImports_eq, importsOfTops_append, H.body, importsOfTops_append]
    simp [importsOfTops, Top.importFrom?]
  have hB1tops : topImports ({ body := fr ++ M1.body } : Module) =
      importsOfTops fr ++ (importsOfTops (pre0.filterMap (keepTop (dropOf r.1))) ++
        [{ module := some "typing", names := [("TYPE_CHECKING", none)], level := 0 }]) := by
    rw [topImports_eq, importsOfTops_append, hM1, importsOfTops_append, importsOfTops_append, importsOf_typing]
    simp [importsOfTops, Top.importFrom?]
  have hfoundB : ∀ n v, n ∉ dropOf r.1 →
      alookup n (importBindings (topImports ({ body := fr ++ M0.body } : Module))) = some v →
      alookup n (importBindings (topImports ({ body := fr ++ M1.body } : Module))) = some v := by
    intro n v hnd hv
    rw [hB0tops, importBindings_append, alookup_append] at hv
    rw [hB1tops, importBindings_append, alookup_append]
    cases hf : alookup n (importBindings (importsOfTops fr)) with
    | some w => rw [hf] at hv; simpa using hv
    | none =>
      rw [hf] at hv
      simp only at hv ⊢
      rw [importBindings_append, alookup_append, keep_bindings _ pre0 H.noas n hnd, hv]
  have hfcB0 : ({ body := fr ++ M0.body } : Module).firstClass? = some C0 := by
    rw [firstClass_frame fr H.frame]; exact firstClass_of_body M0 pre0 g C0 H.body H.noclass
  have hncK : NoClass (pre0.filterMap (keepTop (dropOf r.1)) ++ [typingTop, tcTop groups]) := by
    intro t ht
    rcases List.mem_append.mp ht with h1 | h1
    · exact isImp_noClass (keep_isImp _ pre0 t h1)
    · simp at h1; rcases h1 with rfl | rfl <;> rfl
  have hfcB1 : ({ body := fr ++ M1.body } : Module).firstClass? = some { C0 with body := r.2 } := by
    rw [firstClass_frame fr H.frame]
    exact firstClass_of_body M1 _ g _ hM1 hncK
  have hC1methods : ∀ md' ∈ ({ C0 with body := r.2 } : ClassDef).methods, ∃ md ∈ C0.methods, FwdOutcome (icOf M0) md md' :=
    fun md' hmd' => ItemsRel.mem_right j2 md' hmd'
  have hann0 := (annScopedB_iff _ C0 hfcB0).mp H.ann0
  have hwell0 := (wellScopedB_iff _ C0 hfcB0).mp H.well0
  -- resolution of a runtime name other than the validated class, with the in-body import in front
  have hresolve : ∀ (s : Shape) (src n : String) (v : String × String), n ≠ s.retClass → n ∉ dropOf r.1 →
      resolveRuntime { client := ({ body := fr ++ M0.body } : Module), ops := ops } s n = some v →
      resolveRuntime { client := ({ body := fr ++ M1.body } : Module), ops := ops } (withImport s (fwdImport src s.retClass)) n = some v := by
    intro s src n v hne hnd hv
    unfold resolveRuntime at hv ⊢
    have hin : alookup n (importBindings (withImport s (fwdImport src s.retClass)).imports) = alookup n (importBindings s.imports) := by
      have : (withImport s (fwdImport src s.retClass)).imports = fwdImport src s.retClass :: s.imports := rfl
      rw [this]
      have e : importBindings (fwdImport src s.retClass :: s.imports) = importBindings [fwdImport src s.retClass] ++ importBindings s.imports :=
        importBindings_append [_] _
      rw [e, alookup_append]
      have : alookup n (importBindings [fwdImport src s.retClass]) = none := by
        simp [importBindings, fwdImport, alookup, Ne.symm hne]
      rw [this]
    rw [hin]
    cases hs : alookup n (importBindings s.imports) with
    | some w => rw [hs] at hv; simpa using hv
    | none =>
      rw [hs] at hv
      simp only at hv ⊢
      exact hfoundB n v hnd hv
  -- an operation constant that resolved without ClientForwardRefs resolves to the same string with it
  have hconstV : ∀ md ∈ C0.methods, ∀ (s : Shape) (src c : String), shapeOf md = some s → s.op = .const c →
      (constValue { client := ({ body := fr ++ M0.body } : Module), ops := ops } s c).isSome = true →
      constValue { client := ({ body := fr ++ M1.body } : Module), ops := ops } (withImport s (fwdImport src s.retClass)) c =
        constValue { client := ({ body := fr ++ M0.body } : Module), ops := ops } s c := by
    intro md hmd s src c hsh hop hsome
    have hyop := (H.hyg2 md hmd s hsh).1
    unfold opSourceName at hyop
    rw [hop] at hyop
    simp only at hyop
    have hcne : c ≠ s.retClass := by
      intro hc
      apply hyop
      rw [hc]
      unfold dropNames
      apply List.mem_append_right
      rw [List.mem_filterMap]
      exact ⟨md, hmd, by rw [hsh]; rfl⟩
    unfold constValue at hsome ⊢
    cases hres : resolveRuntime { client := ({ body := fr ++ M0.body } : Module), ops := ops } s c with
    | none => rw [hres] at hsome; cases hsome
    | some w => rw [hresolve s src c w hcne (hnotdrop c hyop) hres]
  refine ⟨?_, ?_, ?_, ?_, ⟨_, hfcB1, j2⟩, ?_⟩
  · have h0 := (formatOkB_iff _).mp H.fmt0
    rw [formatOkB_iff]
    intro t ht
    simp only [List.mem_append] at ht
    rcases ht with h1 | h1
    · exact h0 t (List.mem_append_left _ h1)
    · rw [hM1] at h1
      simp only [List.mem_append, List.mem_cons, List.not_mem_nil, or_false] at h1
      rcases h1 with (h2 | h2 | h2) | h2 | h2
      · have := keep_isImp _ pre0 t h2
        intro e o hc
        rw [hc] at this
        cases this
      · subst h2; intro e o hc; cases hc
      · subst h2
        intro e o hc
        simp only [tcTop, Top.ifStmt.injEq, List.map_eq_nil_iff] at hc
        exact hgne hc.2.1
      · subst h2; intro e o hc; cases hc
      · subst h2; intro e o hc; cases hc
  · rw [annScopedB_iff _ _ hfcB1]
    intro md' hmd' n hn
    obtain ⟨md, hmd, s, src, hsh, hsrc, hmdeq⟩ := hC1methods md' hmd'
    rw [hmdeq, defTimeNames_quoted] at hn
    have hn0 := quotedSigNames_sub (icOf M0) md n hn
    rcases hann0 md hmd n hn0 with h1 | h1
    · exact .inl (hkeepB n h1 (hnotdrop n (H.hyg1 md hmd n hn)))
    · exact .inr h1
  · rw [wellScopedB_iff _ _ hfcB1]
    intro md' hmd'
    obtain ⟨md, hmd, s, src, hsh, hsrc, hmdeq⟩ := hC1methods md' hmd'
    obtain ⟨hyop, hyvars⟩ := H.hyg2 md hmd s hsh
    have hsh' : shapeOf md' = some (withImport s (fwdImport src s.retClass)) := shapeOf_bodyOf md' _ (by rw [hmdeq]; rfl)
    have hargs' : md'.args.map (·.1) = md.args.map (·.1) := by rw [hmdeq]; exact argsQuoted_names _ _
    obtain ⟨hneed, hcv⟩ := (runtimeUnresolved_nil_iff _ md s hsh).mp (hwell0 md hmd)
    rw [runtimeUnresolved_nil_iff _ md' _ hsh']
    refine ⟨fun n hn => ?_, fun c hc => ?_⟩
    · have hn' : n ∈ needNames s := hn
      by_cases hrc : n = s.retClass
      · -- the validated class is bound by the in-body import
        subst hrc
        exact mem_boundNames.mpr (.inl (by simp [withImport, fwdImport, importBindings]))
      · -- every other name is not one of the names taken out of the module-level imports
        have hnd : n ∉ dropNames (icOf M0) C0.methods := by
          rcases mem_needNames.mp hn' with rfl | h1 | h1
          · exact hyop
          · exact absurd h1 hrc
          · exact hyvars n h1
        rcases mem_boundNames.mp (hneed n hn') with h1 | h1 | h1 | h1 | h1
        · refine mem_boundNames.mpr (.inl ?_)
          have e : importBindings (withImport s (fwdImport src s.retClass)).imports =
              importBindings [fwdImport src s.retClass] ++ importBindings s.imports := importBindings_append [_] _
          rw [e, List.map_append]
          exact List.mem_append_right _ h1
        · exact mem_boundNames.mpr (.inr (.inl (hkeepB n h1 (hnotdrop n hnd))))
        · exact mem_boundNames.mpr (.inr (.inr (.inl h1)))
        · exact mem_boundNames.mpr (.inr (.inr (.inr (.inl (by rw [hargs']; exact h1)))))
        · exact mem_boundNames.mpr (.inr (.inr (.inr (.inr h1))))
    · have hc' : s.op = .const c := hc
      rw [hconstV md hmd s src c hsh hc' (hcv c hc')]
      exact hcv c hc'
  ·
    intro i hi q hq
    rw [hB1tops] at hi
    simp only [List.mem_append, List.mem_singleton] at hi
    rcases hi with h1 | h1 | h1
    · exact H.imp0 i (by rw [hB0tops]; exact List.mem_append_left _ h1) q hq
    · obtain ⟨i0, hi0, hm, hl⟩ := keep_provenance _ pre0 i h1
      rw [relModule_congr i0 i hm hl] at hq
      exact H.imp0 i0 (by rw [hB0tops]; exact List.mem_append_right _ hi0) q hq
    · subst h1
      simp [relModule, startsWithDot] at hq
  ·
    intro md hmd s src hsh hsrc
    obtain ⟨hyop, hyvars⟩ := H.hyg2 md hmd s hsh
    unfold opSourceName at hyop
    constructor
    · unfold request
      have hop' : (withImport s (fwdImport src s.retClass)).op = s.op := rfl
      have hon : (withImport s (fwdImport src s.retClass)).opName = s.opName := rfl
      have hvv : (withImport s (fwdImport src s.retClass)).variables = s.variables := rfl
      rw [hop', hon, hvv]
      cases hop : s.op with
      | inline q ls =>
        rw [hop] at hyop
        simp only at hyop
        have h1 : "gql" ∈ moduleNames ({ body := fr ++ M1.body } : Module) := hkeepB _ H.gql0 (hnotdrop _ hyop)
        simp [H.gql0, h1]
      | const c =>
        simp only
        rw [hconstV md hmd s src c hsh hop (((runtimeUnresolved_nil_iff _ md s hsh).mp (hwell0 md hmd)).2 c hop)]
    · intro PyV validate getattr d
      unfold respond
      have hb := H.bind md hmd s src hsh hsrc
      have h1 : resolveRuntime { client := ({ body := fr ++ M1.body } : Module), ops := ops } (withImport s (fwdImport src s.retClass))
          (withImport s (fwdImport src s.retClass)).retClass = some (src, s.retClass) := by
        simp [resolveRuntime, withImport, fwdImport, importBindings, alookup, dotted]
      have hp : (withImport s (fwdImport src s.retClass)).proj = s.proj := rfl
      rw [h1, hb, hp]

end Ariadne.C15
