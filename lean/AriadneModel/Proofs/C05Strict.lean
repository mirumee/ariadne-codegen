/-
  Property C05, plain-selections tier: THE GENERATED MODEL ACCEPTS ONLY WHAT THE SCHEMA ALLOWS.

  `strict_spec`: for a plain selection set (`plainLocal`, `setOK`; Proofs/C01PlainDefs.lean) whose classes
  (`plainClasses`) are in the pydantic environment, EVERY JSON value the root class accepts — with whatever validation
  fuel — is `laxResp`: at every depth, below every list / non-null wrapper, no selected unconditional key is missing, no
  `null` sits at a non-null unconditional position, every leaf value is in the lax table, every list is a list, every
  object position holds an object that is again accepted only if `laxResp`.  The converse of C01's `plain_roundtrip`.
  Induction on the validation fuel (it decreases at every class reference), inside a class over the fields, inside a
  field over the type's wrappers (`ResultLeaf.wrap_sound`).
-/
import AriadneModel.Proofs.ResultWrap
import AriadneModel.Proofs.C01PlainVal


namespace Ariadne.C05Strict
open Ariadne Ariadne.Gql Ariadne.ResultTypes Ariadne.C01Plain Ariadne.Pyd Ariadne.C01Accepts Ariadne.C01Ann

theorem laxSel_iff (env : ResultTypes.Env) (lax : Lax) (tn : String) (kvs : List (String × J)) :
    ∀ sel : List Selection, laxSel env lax tn sel kvs = true ↔ ∀ s ∈ sel, laxSel1 env lax tn s kvs = true
  | [] => by simp [laxSel]
  | s :: rest => by simp [laxSel, laxSel_iff env lax tn kvs rest]

theorem readField_fieldDecl (env : ResultTypes.Env) (cn tn : String) (alias : Option String) (name : String)
    (dirs : List Directive) (sub : List Selection) (kvs : List (String × J)) :
    ResultLeaf.readField (fieldDecl env cn tn alias name dirs sub) kvs = found env (alias.getD name) kvs := by
  rw [ResultLeaf.readField_of_alias (C01Plain.fieldDecl_alias ..)]
  rfl

/-- what the strictness theorem says about one class, for validation fuel `g` -/
def StrictSpec (env : ResultTypes.Env) (penv : Pyd.Env) (g : Nat) : Prop :=
  ∀ (marks : List Nat) (cn tn : String) (sel : List Selection) (j : J) (v : PV),
    setOK env sel = true → plainLocal env marks cn tn sel = true →
    (∀ c ∈ plainClasses env cn tn sel, penv.class? c.name = some c) →
    validate penv g (.cls cn) j = .ok v → laxResp env penv.lax tn sel j = true

theorem mem_plainDecls_of_mem (env : ResultTypes.Env) (cn tn : String) (sel : List Selection)
    (alias : Option String) (name : String) (dirs : List Directive) (sid : Nat) (sub : List Selection)
    (h : Selection.field alias name dirs sid sub ∈ sel) : fieldDecl env cn tn alias name dirs sub ∈ plainDecls env cn tn sel := by
  unfold plainDecls
  exact List.mem_flatMap.mpr ⟨_, h, by simp [plainDecl1]⟩

theorem class_strict (env : ResultTypes.Env) (penv : Pyd.Env) (ha : ResultLeaf.EnvAgrees env penv)
    (hbm : penv.class? "BaseModel" = none) (g : Nat) (IH : ∀ g', g' ≤ g → StrictSpec env penv g') :
    StrictSpec env penv (g + 1) := by
  intro marks cn tn sel j v hset hloc hcls hacc
  have hlocs := (plainLocal_iff env marks cn tn sel).mp hloc
  have hfields : ∀ x ∈ sel, isField x = true := fun x hx => plainLocal1_isField (hlocs x hx)
  obtain ⟨_, hpys, _⟩ := setOK_spec hset
  have hc0 : penv.class? cn = some { name := cn, bases := ["BaseModel"], fields := plainDecls env cn tn sel } :=
    hcls { name := cn, bases := ["BaseModel"], fields := plainDecls env cn tn sel } (by simp [plainClasses])
  have hall : allFields penv penv.clsFuel cn = plainDecls env cn tn sel :=
    allFields_plain penv ⟨cn, ["BaseModel"], plainDecls env cn tn sel⟩ hc0 rfl hbm (by
      show ((plainDecls env cn tn sel).map (·.py)).Nodup
      rw [plainDecls_map env cn tn (·.py) (pyFieldName env) (fun _ _ _ _ => rfl) sel hfields]
      exact hpys) penv.classes.length
  rw [validate_cls_succ] at hacc
  obtain ⟨kvs, rfl, hfs⟩ := ResultLeaf.modelWith_ok hacc
  rw [hall] at hfs
  show laxSel env penv.lax tn sel kvs = true
  rw [laxSel_iff]
  intro s hs
  have hls := hlocs s hs
  cases s with
  | spread n d => simp [plainLocal1] at hls
  | inline on d sid sub => simp [plainLocal1] at hls
  | field alias name dirs sid sub =>
    obtain ⟨y, hy⟩ := hfs _ (mem_plainDecls_of_mem env cn tn sel alias name dirs sid sub hs)
    simp only [laxSel1]
    cases hf : found env (alias.getD name) kvs with
    | none =>
      rw [ResultLeaf.fieldWith_none (by rw [readField_fieldDecl]; exact hf)] at hy
      simp only []
      by_cases hc : hasConditionalDirective dirs = true
      · exact hc
      · rw [show (fieldDecl env cn tn alias name dirs sub).defaultNone = hasConditionalDirective dirs from rfl, if_neg hc] at hy
        cases hy
    | some x =>
      rw [ResultLeaf.fieldWith_some (by rw [readField_fieldDecl]; exact hf) rfl] at hy
      simp only []
      cases hv : validate penv g (fieldDecl env cn tn alias name dirs sub).ann x with
      | error e => simp [hv] at hy
      | ok pv =>
        have hv' : validate penv g (condAnn (wrapAnn
            (if sub.isEmpty then ResultLeaf.leafBase env (fieldT env tn name).base else .cls (subClass env cn alias name))
            true (fieldT env tn name)) dirs) x = .ok pv := hv
        rw [ResultLeaf.condAnn_eq] at hv'
        rcases ResultLeaf.validate_optionalIf_ok hv' with ⟨hc, rfl⟩ | ⟨g1, hg1, hw⟩
        · simp [(Bool.and_eq_true_iff.mp hc).1, J.isNull]
        · simp only [plainLocal1, Bool.and_eq_true] at hls
          obtain ⟨_, hcase⟩ := hls
          rw [Bool.or_eq_true]
          right
          by_cases hsub : sub.isEmpty = true
          · rw [if_pos hsub] at hcase hw ⊢
            rw [← ResultLeaf.leafAnn_eq_wrapAnn] at hw
            exact ResultLeaf.leaf_sound env penv ha (fieldT env tn name) (isLeafName_spec hcase) true x g1 pv hw
          · rw [if_neg hsub] at hcase hw ⊢
            have hsub' : sub.isEmpty = false := by simpa using hsub
            simp only [Bool.and_eq_true, beq_iff_eq] at hcase
            obtain ⟨⟨⟨_, _⟩, hset'⟩, hrec⟩ := hcase
            have hcls' : ∀ c ∈ plainClasses env (subClass env cn alias name) (subType env tn name) sub, penv.class? c.name = some c := by
              intro c hc
              refine hcls c (List.mem_cons_of_mem _ (mem_plainExtra hs c ?_))
              rw [plainExtra1_sub _ _ _ _ _ _ _ _ hsub']
              exact hc
            refine ResultLeaf.wrap_sound penv (.cls (subClass env cn alias name)) false _ g1 ?_ (fieldT env tn name) true x g1 pv (Nat.le_refl _) hw
            intro g2 hg2 x2 pv2 hx2
            have hlr := IH g2 (by omega) marks (subClass env cn alias name) (subType env tn name) sub x2 pv2 hset' hrec hcls' hx2
            unfold laxResp at hlr
            cases x2 with
            | obj kvs2 => exact ⟨fun h => (by cases h), fun _ => hlr⟩
            | null => cases hlr
            | _ => cases hlr

theorem strict_spec (env : ResultTypes.Env) (penv : Pyd.Env) (ha : ResultLeaf.EnvAgrees env penv)
    (hbm : penv.class? "BaseModel" = none) : ∀ g, ∀ g', g' ≤ g → StrictSpec env penv g'
  | 0, g', hg' => by
    have : g' = 0 := by omega
    subst this
    intro marks cn tn sel j v _ _ _ hacc
    rw [ResultLeaf.validate_zero] at hacc; cases hacc
  | g + 1, g', hg' => by
    by_cases h : g' ≤ g
    · exact strict_spec env penv ha hbm g g' h
    · have : g' = g + 1 := by omega
      subst this
      exact class_strict env penv ha hbm g (strict_spec env penv ha hbm g)

end Ariadne.C05Strict
