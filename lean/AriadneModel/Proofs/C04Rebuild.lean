/-
  Proofs/C04Rebuild.lean — the rebuild placement of an operation module as Model/Package.lean computes it
  (`classHasFwd`, structural recursion, kernel-evaluable) IS the one of the result-type model
  (`ResultTypes.classHasForwardRefs`, `ModuleOut.rebuild`): `model_has_forward_refs` has one meaning.
-/
import AriadneModel.Model.Package


namespace Ariadne.C04Proofs
open Ariadne.Package
open Ariadne.ResultTypes (Ann annHasForwardRef classHasForwardRefs)

mutual
  theorem annHasForwardRef_eq : ∀ a : Ann, annHasForwardRef a = !(annFwd a).isEmpty
    | .name n => by simp [annHasForwardRef, annFwd]
    | .cls n => by simp [annHasForwardRef, annFwd]
    | .optional a => by
      have := annHasForwardRef_eq a
      simp [annHasForwardRef, annFwd, this]
    | .list a => by
      have := annHasForwardRef_eq a
      simp [annHasForwardRef, annFwd, this]
    | .union as => by
      have h := annsHasForwardRef_eq as
      have e : (as.attach.any fun x => match x with | ⟨a, _⟩ => annHasForwardRef a) = as.any annHasForwardRef := by
        rw [List.any_subtype (g := annHasForwardRef) (fun _ _ => rfl), List.unattach_attach]
      simp only [annHasForwardRef, annFwd]
      rw [e, h]
    | .disc a => by
      have := annHasForwardRef_eq a
      simp [annHasForwardRef, annFwd, this]
    | .literal vs => by simp [annHasForwardRef, annFwd]
    | .before t p => by simp [annHasForwardRef, annFwd]
  theorem annsHasForwardRef_eq : ∀ as : List Ann, as.any annHasForwardRef = !(annsFwd as).isEmpty
    | [] => by simp [annsFwd]
    | a :: as => by
      have h1 := annHasForwardRef_eq a
      have h2 := annsHasForwardRef_eq as
      simp only [List.any_cons, annsFwd, h1, h2]
      cases annFwd a <;> simp
end

theorem classHasFwd_eq (c : ResultTypes.ClassDecl) : classHasFwd c = classHasForwardRefs c := by
  unfold classHasFwd classHasForwardRefs
  congr 1
  funext f
  exact (annHasForwardRef_eq f.ann).symm

theorem resultModule_rebuilds (cfg : Config) (file : String) (env : ResultTypes.Env) (fl : Nat) (d : ResultTypes.Definition)
    (marks : List Nat) (out : ResultTypes.ModuleOut) (h : ResultTypes.generate env fl d marks = .ok out) :
    (resultModule cfg file out).rebuilds = out.rebuild := by
  unfold ResultTypes.generate at h
  simp only at h
  split at h
  · simp only [Except.ok.injEq] at h
    subst h
    simp only [resultModule]
    congr 1
    apply List.filter_congr
    intro c _
    exact classHasFwd_eq c
  · simp at h

end Ariadne.C04Proofs
