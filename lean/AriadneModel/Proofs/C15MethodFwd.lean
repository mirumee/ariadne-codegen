/-
  C15: what ClientForwardRefs makes of ONE method of the generated shape (`withImport`, `fwdSignature`), what
  `_update_name_to_constant` does to an annotation, what ends up under `if TYPE_CHECKING:`, ClientForwardRefs before
  ShorterResults (finding C15-F3), `_store_imported_classes`.
-/
import AriadneModel.Proofs.C15Method


namespace Ariadne.C15
open Ariadne.Py Ariadne.Plugins Ariadne.ClientSem

theorem fwdImportClass_last (s : Shape) (hp : s.proj.length ≤ 1) : fwdImportClass (lastStmt s) = some s.retClass := by
  unfold lastStmt
  match hproj : s.proj with
  | [] => cases s.tail <;> simp [fwdImportClass, projExpr, fwdCallOf, fwdClassOfCall]
  | [f] => cases s.tail <;> simp [fwdImportClass, projExpr, fwdCallOf, fwdClassOfCall]
  | _ :: _ :: _ => rw [hproj] at hp; simp at hp

def withImport (s : Shape) (i : ImportFrom) : Shape := { s with imports := i :: s.imports }

theorem bodyOf_withImport (s : Shape) (i : ImportFrom) :
    bodyOf (withImport s i) = .simple (.importFrom i) :: bodyOf s := by
  unfold bodyOf withImport opStmts tailStmts
  cases h1 : s.op <;> cases s.tail <;> simp [execCall, Shape.queryName, h1]

def fwdSignature (st : FwdState) (m : Method) : List (String × Option Ex) × Option Ex × List String :=
  let r1 := fwdRewriteArgs st.importedClasses m.args st.inputAndReturnTypes
  match m.returns with
  | some r => let x := toConst st.importedClasses r r1.2; (r1.1, some x.1, x.2)
  | none => (r1.1, none, r1.2)

theorem fwd_method (st : FwdState) (m : Method) (s : Shape) (src : String)
    (hb : m.body = bodyOf s) (hp : s.proj.length ≤ 1) (hc : alookup s.retClass st.importedClasses = some src) :
    fwdMethod st m = .ok
      ({ st with inputAndReturnTypes := (fwdSignature st m).2.2,
                 importedInMethod := sadd s.retClass st.importedInMethod },
       { m with args := (fwdSignature st m).1, returns := (fwdSignature st m).2.1,
                body := bodyOf (withImport s { module := some src, names := [(s.retClass, none)], level := 0 }) }) := by
  unfold fwdMethod fwdSignature
  simp only [pure_eq_ok]
  cases m.returns with
  | none =>
    simp only [hb, bodyOf_getLast, fwdImportClass_last s hp, hc, bodyOf_withImport]
  | some r =>
    simp only [hb, bodyOf_getLast, fwdImportClass_last s hp, hc, bodyOf_withImport]

/-- a validated class that was never imported by a local import: KeyError (finding C15-F5 is the
    instance `self.get_data(...)`, where the "class" is `self`) -/
theorem fwd_method_keyerror (st : FwdState) (m : Method) (last : Stmt) (cls : String)
    (hl : m.body.getLast? = some last) (hi : fwdImportClass last = some cls)
    (hc : alookup cls st.importedClasses = none) : fwdMethod st m = .error "KeyError" := by
  unfold fwdMethod
  simp only [pure_eq_ok]
  cases m.returns <;> simp [hl, hi, hc, throw, throwThe, MonadExceptOf.throw]

mutual
  /-- read a string annotation as the name it quotes (where `_update_name_to_constant` can write one) -/
  def unconst : Ex → Ex
    | .const v => .name v
    | .sub v s => .sub v (unconst s)
    | .tuple es => .tuple (unconstList es)
    | e => e
  def unconstList : List Ex → List Ex
    | [] => []
    | e :: es => unconst e :: unconstList es
end

mutual
  theorem toConst_unconst (cls : List (String × String)) : ∀ (e : Ex) (s : List String),
      unconst (toConst cls e s).1 = unconst e
    | .name id, s => by
      unfold toConst
      split <;> simp [unconst]
    | .sub v sl, s => by
      simp only [toConst, unconst]
      rw [toConst_unconst cls sl s]
    | .tuple es, s => by
      simp only [toConst, unconst]
      rw [toConstList_unconst cls es s]
    | .const _, _ => by simp [toConst]
    | .attr _ _, _ => by simp [toConst]
    | .call _ _ _ _, _ => by simp [toConst]
    | .await _, _ => by simp [toConst]
    | .yield _, _ => by simp [toConst]
    | .yieldNone, _ => by simp [toConst]
    | .strs _, _ => by simp [toConst]
    | .other _ _, _ => by simp [toConst]
  theorem toConstList_unconst (cls : List (String × String)) : ∀ (es : List Ex) (s : List String),
      unconstList (toConstList cls es s).1 = unconstList es
    | [], s => by simp [toConstList, unconstList]
    | e :: es, s => by
      simp only [toConstList, unconstList]
      rw [toConst_unconst cls e s, toConstList_unconst cls es _]
end

mutual
  theorem toConst_mem (cls : List (String × String)) : ∀ (e : Ex) (s : List String) (n : String),
      n ∈ (toConst cls e s).2 ↔ n ∈ s ∨ (n ∈ annLeafNames e ∧ ahas n cls = true)
    | .name id, s, n => by
      unfold toConst
      simp only [annLeafNames, List.mem_singleton]
      split
      · rename_i h
        rw [mem_sadd]
        exact ⟨fun hn => hn.imp_right (fun h1 => ⟨h1, h1 ▸ h⟩), fun hn => hn.imp_right (·.1)⟩
      · rename_i h
        exact ⟨.inl, fun hn => hn.elim (fun h0 => h0) (fun ⟨h1, h2⟩ => absurd (h1 ▸ h2) h)⟩
    | .sub v sl, s, n => by simp only [toConst, annLeafNames]; exact toConst_mem cls sl s n
    | .tuple es, s, n => by simp only [toConst, annLeafNames]; exact toConstList_mem cls es s n
    | .const _, _, _ => by simp [toConst, annLeafNames]
    | .attr _ _, _, _ => by simp [toConst, annLeafNames]
    | .call _ _ _ _, _, _ => by simp [toConst, annLeafNames]
    | .await _, _, _ => by simp [toConst, annLeafNames]
    | .yield _, _, _ => by simp [toConst, annLeafNames]
    | .yieldNone, _, _ => by simp [toConst, annLeafNames]
    | .strs _, _, _ => by simp [toConst, annLeafNames]
    | .other _ _, _, _ => by simp [toConst, annLeafNames]
  theorem toConstList_mem (cls : List (String × String)) : ∀ (es : List Ex) (s : List String) (n : String),
      n ∈ (toConstList cls es s).2 ↔ n ∈ s ∨ (n ∈ annLeafNamesList es ∧ ahas n cls = true)
    | [], s, n => by simp [toConstList, annLeafNamesList]
    | e :: es, s, n => by
      simp only [toConstList, annLeafNamesList, List.mem_append]
      rw [toConstList_mem cls es _ n, toConst_mem cls e s n]
      constructor
      · rintro ((h | ⟨h, hc⟩) | ⟨h, hc⟩)
        · exact .inl h
        · exact .inr ⟨.inl h, hc⟩
        · exact .inr ⟨.inr h, hc⟩
      · rintro (h | ⟨h | h, hc⟩)
        · exact .inl (.inl h)
        · exact .inl (.inr ⟨h, hc⟩)
        · exact .inr ⟨h, hc⟩
end

theorem toConst_set (cls : List (String × String)) (e : Ex) (s : List String) (n : String)
    (h : n ∈ (toConst cls e s).2) : n ∈ s ∨ ahas n cls = true :=
  ((toConst_mem cls e s n).mp h).imp_right (·.2)

theorem toConstList_set (cls : List (String × String)) : ∀ (es : List Ex) (s : List String) (n : String),
      n ∈ (toConstList cls es s).2 → n ∈ s ∨ ahas n cls = true :=
  fun es s n h => ((toConstList_mem cls es s n).mp h).imp_right (·.2)

def tcStep (classes : List (String × String)) (acc : List (String × List String)) (cls : String) :
    M (List (String × List String)) :=
  match alookup cls classes with
  | none => throw "KeyError"
  | some mname => pure (aset mname ((alookup mname acc).getD [] ++ [cls]) acc)

theorem fwdTypeCheckingImports_eq (st : FwdState) :
    fwdTypeCheckingImports st = st.inputAndReturnTypes.foldlM (tcStep st.importedClasses) [] := rfl

theorem tc_fold (classes : List (String × String)) : ∀ (l : List String) (acc groups : List (String × List String)),
    l.foldlM (tcStep classes) acc = .ok groups →
      (∀ src names cls, alookup src acc = some names → cls ∈ names →
          ∃ names', alookup src groups = some names' ∧ cls ∈ names') ∧
      (∀ cls ∈ l, ∃ src names, alookup cls classes = some src ∧ alookup src groups = some names ∧ cls ∈ names) := by
  intro l
  induction l with
  | nil =>
    intro acc groups h
    simp [List.foldlM, pure, Except.pure] at h
    subst h
    exact ⟨fun src names cls h1 h2 => ⟨names, h1, h2⟩, fun cls hc => by simp at hc⟩
  | cons c rest ih =>
    intro acc groups h
    rw [List.foldlM_cons] at h
    cases hc : alookup c classes with
    | none => simp [tcStep, hc, bind, Except.bind, throw, throwThe, MonadExceptOf.throw] at h
    | some mname =>
      simp only [tcStep, hc, pure_eq_ok, bind_ok] at h
      obtain ⟨ih1, ih2⟩ := ih _ groups h
      constructor
      · intro src names cls h1 h2
        by_cases hs : mname = src
        · subst hs
          apply ih1 mname ((alookup mname acc).getD [] ++ [c]) cls (alookup_aset_self _ _ _)
          simp [h1, h2]
        · apply ih1 src names cls _ h2
          rw [alookup_aset_other mname src _ _ hs]; exact h1
      · intro cls hcls
        rcases List.mem_cons.mp hcls with rfl | hr
        · obtain ⟨names', hn1, hn2⟩ := ih1 mname ((alookup mname acc).getD [] ++ [cls]) cls (alookup_aset_self _ _ _) (by simp)
          exact ⟨mname, names', hc, hn1, hn2⟩
        · exact ih2 cls hr

theorem fwd_typechecking_complete (st : FwdState) (groups : List (String × List String))
    (h : fwdTypeCheckingImports st = .ok groups) (cls : String) (hc : cls ∈ st.inputAndReturnTypes) :
    ∃ src names, alookup cls st.importedClasses = some src ∧ alookup src groups = some names ∧ cls ∈ names := by
  rw [fwdTypeCheckingImports_eq] at h
  exact (tc_fold st.importedClasses st.inputAndReturnTypes [] groups h).2 cls hc

theorem toConst_name_imported (cls : List (String × String)) (id : String) (s : List String) (h : ahas id cls = true) :
    (toConst cls (.name id) s).1 = .const id := by
  unfold toConst; simp [h]

theorem shorter_after_fwd_method (stF : FwdState) (stS : ShorterState) (m : Method) (s : Shape) (aw : Bool)
    (r d cls src : String)
    (hb : m.body = bodyOf s) (ht : s.tail = .call aw r d) (hp : s.proj.length ≤ 1)
    (hr : m.returns = some (.name cls)) (hcls : ahas cls stF.importedClasses = true)
    (hc : alookup s.retClass stF.importedClasses = some src) :
    ∃ stF' m', fwdMethod stF m = .ok (stF', m') ∧ shorterModifyMethod stS m' = .ok (stS, m') := by
  refine ⟨_, _, fwd_method stF m s src hb hp hc, ?_⟩
  apply shorter_skips_non_name stS _ (withImport s { module := some src, names := [(s.retClass, none)], level := 0 }) aw r d rfl
  · simp [withImport, ht]
  · intro id h
    simp only [fwdSignature, hr] at h
    rw [toConst_name_imported _ _ _ hcls] at h
    cases h

def storeStep (st : FwdState) (t : Top) : FwdState :=
  match t.importFrom? with
  | some i =>
    match i.module with
    | some mname =>
      if i.level != 1 && !startsWithDot mname then st
      else i.names.foldl (fun st (n : String × Option String) =>
        { st with importedClasses := aset n.1 (dotted i.level mname) st.importedClasses }) st
    | none => st
  | none => st

theorem fwdStoreImported_eq (st : FwdState) (body : List Top) : fwdStoreImported st body = body.foldl storeStep st := rfl

theorem names_fold_lookup (src : String) (n : String) : ∀ (names : List (String × Option String)) (st : FwdState),
    alookup n (names.foldl (fun st (x : String × Option String) =>
        { st with importedClasses := aset x.1 src st.importedClasses }) st).importedClasses =
      if names.any (fun x => x.1 == n) then some src else alookup n st.importedClasses := by
  intro names
  induction names with
  | nil => intro st; simp
  | cons x rest ih =>
    intro st
    simp only [List.foldl_cons, List.any_cons]
    rw [ih]
    by_cases hr : rest.any (fun x => x.1 == n) = true
    · simp [hr]
    · simp only [hr, Bool.or_false]
      by_cases hx : x.1 = n
      · subst hx; simp [alookup_aset_self]
      · have : (x.1 == n) = false := by simpa using hx
        simp [this, alookup_aset_other x.1 n _ _ hx]

/-- does this statement (re)bind `n` in `imported_classes`, and to which module text -/
def storeTarget (n : String) (t : Top) : Option String :=
  match t.importFrom? with
  | some i =>
    match i.module with
    | some mname =>
      if i.level != 1 && !startsWithDot mname then none
      else if i.names.any (fun x => x.1 == n) then some (dotted i.level mname) else none
    | none => none
  | none => none

theorem storeStep_lookup (n : String) (st : FwdState) (t : Top) :
    alookup n (storeStep st t).importedClasses = (storeTarget n t).orElse (fun _ => alookup n st.importedClasses) := by
  unfold storeStep storeTarget
  cases t.importFrom? with
  | none => simp
  | some i =>
    simp only
    cases i.module with
    | none => simp
    | some mname =>
      simp only
      by_cases hc : (i.level != 1 && !startsWithDot mname) = true
      · simp [hc]
      · simp only [hc, Bool.false_eq_true, ↓reduceIte]
        rw [names_fold_lookup]
        by_cases ha : (i.names.any fun x => x.1 == n) = true <;> simp [ha]

theorem fwd_store_records (n src : String) : ∀ (body : List Top) (st : FwdState),
    (∀ t ∈ body, storeTarget n t = none ∨ storeTarget n t = some src) →
    (alookup n st.importedClasses = some src ∨ ∃ t ∈ body, storeTarget n t = some src) →
    alookup n (fwdStoreImported st body).importedClasses = some src := by
  intro body
  induction body with
  | nil =>
    intro st _ h
    rcases h with h | ⟨t, ht, _⟩
    · exact h
    · simp at ht
  | cons t rest ih =>
    intro st hall h
    rw [fwdStoreImported_eq, List.foldl_cons, ← fwdStoreImported_eq]
    apply ih (storeStep st t) (fun u hu => hall u (by simp [hu]))
    rw [storeStep_lookup]
    rcases hall t (by simp) with ht | ht
    · rw [ht]
      simp only [Option.orElse]
      rcases h with h | ⟨u, hu, hus⟩
      · exact .inl h
      · rcases List.mem_cons.mp hu with rfl | hu'
        · rw [ht] at hus; cases hus
        · exact .inr ⟨u, hu', hus⟩
    · rw [ht]; exact .inl rfl

end Ariadne.C15
