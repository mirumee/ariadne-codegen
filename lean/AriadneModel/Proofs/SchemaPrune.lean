/-
  C16 — removing unused imports (the autoflake pass of `ast_to_str`, modelled by
  `SchemaGen.written`) does not change what the module evaluates to: the evaluator only ever
  consults the names in `PyModuleIR.used` (coincidence lemmas, one per evaluator function), and the
  pruned import list binds those names exactly as the full one does.
-/
import AriadneModel.Model.SchemaWF
import AriadneModel.Proofs.ListLemmas

namespace Ariadne.SchemaPrune
open Ariadne.Schema Ariadne.SchemaGen Ariadne.PySchemaEval

def Agree (U : List Name) (ρ ρ' : Env) : Prop := ∀ n ∈ U, ρ n = ρ' n

theorem Agree.sub {U V : List Name} {ρ ρ' : Env} (h : Agree V ρ ρ') (hs : ∀ n ∈ U, n ∈ V) : Agree U ρ ρ' :=
  fun n hn => h n (hs n hn)

theorem callee_congr {ρ ρ' : Env} {n : Name} (h : ρ n = ρ' n) : callee ρ n = callee ρ' n := by
  unfold callee; rw [h]

theorem evalOptStr_congr {ρ ρ' : Env} (c : CExpr) (h : Agree c.used ρ ρ') : evalOptStr ρ c = evalOptStr ρ' c := by
  cases c with
  | const v => cases v <;> rfl
  | name n => simp [evalOptStr, h n (by simp [CExpr.used])]

theorem evalNameStr_congr {ρ ρ' : Env} (c : CExpr) (h : Agree c.used ρ ρ') : evalNameStr ρ c = evalNameStr ρ' c := by
  cases c with
  | const v => cases v <;> rfl
  | name n => simp [evalNameStr, h n (by simp [CExpr.used])]

theorem evalBool_congr {ρ ρ' : Env} (c : CExpr) (h : Agree c.used ρ ρ') : evalBool ρ c = evalBool ρ' c := by
  cases c with
  | const v => cases v <;> rfl
  | name n => simp [evalBool, h n (by simp [CExpr.used])]

theorem evalDefault_congr {ρ ρ' : Env} (c : CExpr) (h : Agree c.used ρ ρ') : evalDefault ρ c = evalDefault ρ' c := by
  cases c with
  | const v => rfl
  | name n => simp [evalDefault, h n (by simp [CExpr.used])]

theorem evalAny_congr {ρ ρ' : Env} (c : CExpr) (h : Agree c.used ρ ρ') : evalAny ρ c = evalAny ρ' c := by
  cases c with
  | const v => rfl
  | name n => simp [evalAny, h n (by simp [CExpr.used])]

theorem evalLookup_congr {ρ ρ' : Env} (hs : List (String × Head)) (tm : Name) (key : String) (h : ρ tm = ρ' tm) :
    evalLookup ρ hs tm key = evalLookup ρ' hs tm key := by
  unfold evalLookup; rw [h]

theorem evalCast_congr {ρ ρ' : Env} (hs : List (String × Head)) (fn cls tm : Name) (key : String)
    (h : Agree [fn, cls, tm] ρ ρ') : evalCast ρ hs fn cls tm key = evalCast ρ' hs fn cls tm key := by
  unfold evalCast
  rw [callee_congr (h fn (by simp)), callee_congr (h cls (by simp)), evalLookup_congr hs tm key (h tm (by simp))]

theorem evalTRef_congr {ρ ρ' : Env} (hs : List (String × Head)) :
    ∀ (t : TExpr), Agree t.used ρ ρ' → evalTRef ρ hs t = evalTRef ρ' hs t
  | .name n, h => by simp [evalTRef, h n (by simp [TExpr.used])]
  | .cast fn cls tm key, h => by
    simp only [evalTRef]
    rw [evalCast_congr hs fn cls tm key (fun n hn => h n (by simpa [TExpr.used] using hn))]
  | .call fn a, h => by
    have ih := evalTRef_congr hs a (fun n hn => h n (by simp [TExpr.used, hn]))
    simp only [evalTRef]
    rw [callee_congr (h fn (by simp [TExpr.used])), ih]

theorem evalArg_congr {ρ ρ' : Env} (hs : List (String × Head)) (expected : Builtin) (name : String) (a : ArgE)
    (h : Agree a.used ρ ρ') : evalArg ρ hs expected name a = evalArg ρ' hs expected name a := by
  unfold evalArg
  rw [callee_congr (h a.ctor (by simp [ArgE.used])),
    evalTRef_congr hs a.type (fun n hn => h n (by simp [ArgE.used, hn])),
    evalDefault_congr a.default (fun n hn => h n (by simp [ArgE.used, hn])),
    evalOptStr_congr a.description (fun n hn => h n (by simp [ArgE.used, hn])),
    evalOptStr_congr a.deprecation (fun n hn => h n (by simp [ArgE.used, hn]))]

theorem evalArgItems_congr {ρ ρ' : Env} (hs : List (String × Head)) (expected : Builtin) :
    ∀ (items : List (String × ArgE)), Agree (items.flatMap fun p => p.2.used) ρ ρ' →
      evalArgItems ρ hs expected items = evalArgItems ρ' hs expected items
  | [], _ => rfl
  | (k, a) :: rest, h => by
    have h1 := evalArg_congr hs expected k a (fun n hn => h n (by simp [hn]))
    have h2 := evalArgItems_congr hs expected rest (fun n hn => h n (by
      simp only [List.flatMap_cons, List.mem_append]; exact Or.inr hn))
    simp only [evalArgItems, h1, h2]

theorem evalArgs_congr {ρ ρ' : Env} (hs : List (String × Head)) (expected : Builtin) (items : List (String × ArgE))
    (h : Agree (items.flatMap fun p => p.2.used) ρ ρ') : evalArgs ρ hs expected items = evalArgs ρ' hs expected items := by
  unfold evalArgs
  rw [evalArgItems_congr hs expected items h]

theorem evalField_congr {ρ ρ' : Env} (hs : List (String × Head)) (name : String) (f : FieldE)
    (h : Agree f.used ρ ρ') : evalField ρ hs name f = evalField ρ' hs name f := by
  unfold evalField
  rw [callee_congr (h f.ctor (by simp [FieldE.used])),
    evalTRef_congr hs f.type (fun n hn => h n (by simp [FieldE.used, hn])),
    evalArgs_congr hs .argument f.args (fun n hn => h n (by
      simp only [FieldE.used, List.mem_cons, List.mem_append]; exact Or.inr (Or.inl (Or.inl (Or.inr hn))))),
    evalOptStr_congr f.description (fun n hn => h n (by simp [FieldE.used, hn])),
    evalOptStr_congr f.deprecation (fun n hn => h n (by simp [FieldE.used, hn]))]

theorem evalFieldItems_congr {ρ ρ' : Env} (hs : List (String × Head)) :
    ∀ (items : List (String × FieldE)), Agree (items.flatMap fun p => p.2.used) ρ ρ' →
      evalFieldItems ρ hs items = evalFieldItems ρ' hs items
  | [], _ => rfl
  | (k, f) :: rest, h => by
    have h1 := evalField_congr hs k f (fun n hn => h n (by simp [hn]))
    have h2 := evalFieldItems_congr hs rest (fun n hn => h n (by
      simp only [List.flatMap_cons, List.mem_append]; exact Or.inr hn))
    simp only [evalFieldItems, h1, h2]

def fieldsUsed : FieldsE → List Name
  | .emptyConst => []
  | .thunk items => items.flatMap fun p => p.2.used

def inFieldsUsed : InFieldsE → List Name
  | .emptyConst => []
  | .thunk items => items.flatMap fun p => p.2.used

theorem evalFields_congr {ρ ρ' : Env} (hs : List (String × Head)) (fs : FieldsE) (h : Agree (fieldsUsed fs) ρ ρ') :
    evalFields ρ hs fs = evalFields ρ' hs fs := by
  cases fs with
  | emptyConst => rfl
  | thunk items => simp only [evalFields]; rw [evalFieldItems_congr hs items h]

theorem evalInFields_congr {ρ ρ' : Env} (hs : List (String × Head)) (fs : InFieldsE) (h : Agree (inFieldsUsed fs) ρ ρ') :
    evalInFields ρ hs fs = evalInFields ρ' hs fs := by
  cases fs with
  | emptyConst => rfl
  | thunk items => simp only [evalInFields]; exact evalArgs_congr hs .inputField items h

theorem evalLookups_congr {ρ ρ' : Env} (hs : List (String × Head)) (tm : Name) (h : ρ tm = ρ' tm) :
    ∀ (keys : List String), evalLookups ρ hs tm keys = evalLookups ρ' hs tm keys
  | [] => rfl
  | k :: rest => by simp only [evalLookups, evalLookup_congr hs tm k h, evalLookups_congr hs tm h rest]

theorem evalNames_congr {ρ ρ' : Env} (hs : List (String × Head)) (want : Kind) (ns : NamesE) (h : Agree ns.used ρ ρ') :
    evalNames ρ hs want ns = evalNames ρ' hs want ns := by
  cases ns with
  | emptyConst => rfl
  | thunk c l e tm keys =>
    simp only [evalNames]
    rw [callee_congr (h c (by simp [NamesE.used])), callee_congr (h l (by simp [NamesE.used])),
      callee_congr (h e (by simp [NamesE.used])), evalLookups_congr hs tm (h tm (by simp [NamesE.used])) keys]

/-! ### the first statement of the module (the type-map assignment): constructing the named types -/

theorem evalEnumValues_congr {ρ ρ' : Env} :
    ∀ (vs : List (String × EnumValE)),
      Agree (vs.flatMap fun p => p.2.ctor :: (p.2.value.used ++ p.2.description.used ++ p.2.deprecation.used)) ρ ρ' →
      evalEnumValues ρ vs = evalEnumValues ρ' vs
  | [], _ => rfl
  | (k, v) :: rest, h => by
    have h2 := evalEnumValues_congr rest (fun n hn => h n (by
      simp only [List.flatMap_cons, List.mem_append]; exact Or.inr hn))
    have h1 : evalEnumValue ρ k v = evalEnumValue ρ' k v := by
      unfold evalEnumValue
      rw [callee_congr (h v.ctor (by simp)), evalAny_congr v.value (fun n hn => h n (by simp [hn])),
        evalOptStr_congr v.description (fun n hn => h n (by simp [hn])),
        evalOptStr_congr v.deprecation (fun n hn => h n (by simp [hn]))]
    simp only [evalEnumValues, h1, h2]

theorem construct_congr {ρ ρ' : Env} (e : TypeE) (h : Agree e.used ρ ρ') : construct ρ e = construct ρ' e := by
  cases e with
  | scalar c n d u =>
    simp only [construct]
    rw [callee_congr (h c (by simp [TypeE.used])), evalNameStr_congr n (fun x hx => h x (by simp [TypeE.used, hx])),
      evalOptStr_congr d (fun x hx => h x (by simp [TypeE.used, hx])),
      evalOptStr_congr u (fun x hx => h x (by simp [TypeE.used, hx]))]
  | composite c n d is fs =>
    simp only [construct]
    rw [callee_congr (h c (by simp [TypeE.used])), evalNameStr_congr n (fun x hx => h x (by simp [TypeE.used, hx])),
      evalOptStr_congr d (fun x hx => h x (by simp [TypeE.used, hx]))]
  | union c n d ts =>
    simp only [construct]
    rw [callee_congr (h c (by simp [TypeE.used])), evalNameStr_congr n (fun x hx => h x (by simp [TypeE.used, hx])),
      evalOptStr_congr d (fun x hx => h x (by simp [TypeE.used, hx]))]
  | enum c n d vs =>
    simp only [construct]
    rw [callee_congr (h c (by simp [TypeE.used])), evalNameStr_congr n (fun x hx => h x (by simp [TypeE.used, hx])),
      evalOptStr_congr d (fun x hx => h x (by simp [TypeE.used, hx])),
      evalEnumValues_congr vs (fun x hx => h x (by
        simp only [TypeE.used, List.mem_cons, List.mem_append]; exact Or.inr (Or.inr hx)))]
  | input c n d fs =>
    simp only [construct]
    rw [callee_congr (h c (by simp [TypeE.used])), evalNameStr_congr n (fun x hx => h x (by simp [TypeE.used, hx])),
      evalOptStr_congr d (fun x hx => h x (by simp [TypeE.used, hx]))]

theorem constructAll_congr {ρ ρ' : Env} :
    ∀ (items : List (String × TypeE)), Agree (items.flatMap fun p => p.2.used) ρ ρ' →
      constructAll ρ items = constructAll ρ' items
  | [], _ => rfl
  | (k, e) :: rest, h => by
    have h1 := construct_congr e (fun n hn => h n (by simp [hn]))
    have h2 := constructAll_congr rest (fun n hn => h n (by
      simp only [List.flatMap_cons, List.mem_append]; exact Or.inr hn))
    simp only [constructAll, h1, h2]

/-! ### the second statement (the schema assignment): forcing the thunks, directives, roots -/

/-- names a stored type object still needs when its thunks run -/
def objUsed : TypeObj → List Name
  | .scalar _ _ _ => []
  | .composite _ _ _ is fs => is.used ++ fieldsUsed fs
  | .union _ _ ts => ts.used
  | .enum _ _ _ => []
  | .input _ _ fs => inFieldsUsed fs

theorem force_congr {ρ ρ' : Env} (hs : List (String × Head)) (o : TypeObj) (h : Agree (objUsed o) ρ ρ') :
    force ρ hs o = force ρ' hs o := by
  cases o with
  | scalar n d u => rfl
  | composite iface n d is fs =>
    simp only [force]
    rw [evalNames_congr hs .interface is (fun x hx => h x (by simp [objUsed, hx])),
      evalFields_congr hs fs (fun x hx => h x (by simp [objUsed, hx]))]
  | union n d ts =>
    simp only [force]
    rw [evalNames_congr hs .object ts (fun x hx => h x (by simp [objUsed, hx]))]
  | enum n d vs => rfl
  | input n d fs =>
    simp only [force]
    rw [evalInFields_congr hs fs (fun x hx => h x (by simp [objUsed, hx]))]

theorem forceAll_congr {ρ ρ' : Env} (hs : List (String × Head)) :
    ∀ (tmv : List (String × TypeObj)), Agree (tmv.flatMap fun p => objUsed p.2) ρ ρ' →
      forceAll ρ hs tmv = forceAll ρ' hs tmv
  | [], _ => rfl
  | (k, o) :: rest, h => by
    have h1 := force_congr hs o (fun n hn => h n (by simp [hn]))
    have h2 := forceAll_congr hs rest (fun n hn => h n (by
      simp only [List.flatMap_cons, List.mem_append]; exact Or.inr hn))
    simp only [forceAll, h1, h2]

theorem construct_used {ρ : Env} (e : TypeE) (o : TypeObj) (h : construct ρ e = .ok o) : ∀ n ∈ objUsed o, n ∈ e.used := by
  intro x hx
  cases e with
  | scalar c n d u =>
    simp only [construct] at h
    repeat obtain ⟨_, _, h⟩ := Lists.bind_eq_ok.mp h
    have := Except.ok.inj h
    subst this
    simp [objUsed] at hx
  | composite c n d is fs =>
    simp only [construct] at h
    repeat obtain ⟨_, _, h⟩ := Lists.bind_eq_ok.mp h
    have := Except.ok.inj h
    subst this
    simp only [objUsed, List.mem_append] at hx
    simp only [TypeE.used, List.mem_cons, List.mem_append]
    rcases hx with hx | hx
    · exact Or.inr (Or.inl (Or.inr hx))
    · cases fs with
      | emptyConst => simp [fieldsUsed] at hx
      | thunk items => exact Or.inr (Or.inr hx)
  | union c n d ts =>
    simp only [construct] at h
    repeat obtain ⟨_, _, h⟩ := Lists.bind_eq_ok.mp h
    have := Except.ok.inj h
    subst this
    simp only [objUsed] at hx
    simp only [TypeE.used, List.mem_cons, List.mem_append]
    exact Or.inr (Or.inr hx)
  | enum c n d vs =>
    simp only [construct] at h
    repeat obtain ⟨_, _, h⟩ := Lists.bind_eq_ok.mp h
    have := Except.ok.inj h
    subst this
    simp [objUsed] at hx
  | input c n d fs =>
    simp only [construct] at h
    repeat obtain ⟨_, _, h⟩ := Lists.bind_eq_ok.mp h
    have := Except.ok.inj h
    subst this
    simp only [objUsed] at hx
    simp only [TypeE.used, List.mem_cons, List.mem_append]
    cases fs with
    | emptyConst => simp [inFieldsUsed] at hx
    | thunk items => exact Or.inr (Or.inr hx)

theorem constructAll_used {ρ : Env} :
    ∀ (items : List (String × TypeE)) (tmv : List (String × TypeObj)), constructAll ρ items = .ok tmv →
      ∀ n ∈ (tmv.flatMap fun p => objUsed p.2), n ∈ (items.flatMap fun p => p.2.used)
  | [], tmv, h => by
    have : tmv = [] := (Except.ok.inj h).symm
    subst this
    intro n hn
    simp at hn
  | (k, e) :: rest, tmv, h => by
    simp only [constructAll] at h
    obtain ⟨o, ho, h⟩ := Lists.bind_eq_ok.mp h
    obtain ⟨os, hos, h⟩ := Lists.bind_eq_ok.mp h
    have := Except.ok.inj h
    subst this
    intro n hn
    simp only [List.flatMap_cons, List.mem_append] at hn ⊢
    rcases hn with hn | hn
    · exact Or.inl (construct_used e o ho n hn)
    · exact Or.inr (constructAll_used rest os hos n hn)

theorem evalLocations_congr {ρ ρ' : Env} :
    ∀ (ls : List (Name × Name)), Agree (ls.map (·.1)) ρ ρ' → evalLocations ρ ls = evalLocations ρ' ls
  | [], _ => rfl
  | (o, m) :: rest, h => by
    have h2 := evalLocations_congr rest (fun n hn => h n (by simp [hn]))
    simp only [evalLocations, callee_congr (h o (by simp)), h2]

theorem evalDirective_congr {ρ ρ' : Env} (hs : List (String × Head)) (d : DirectiveE) (h : Agree d.used ρ ρ') :
    evalDirective ρ hs d = evalDirective ρ' hs d := by
  obtain ⟨c, n, desc, rep, locs, args⟩ := d
  have h1 := callee_congr (h c (by simp [DirectiveE.used]))
  have h2 := evalNameStr_congr n (fun x hx => h x (by simp [DirectiveE.used, hx]))
  have h3 := evalOptStr_congr desc (fun x hx => h x (by simp [DirectiveE.used, hx]))
  have h4 := evalBool_congr rep (fun x hx => h x (by simp [DirectiveE.used, hx]))
  have h5 := evalLocations_congr locs (fun x hx => h x (by
    simp only [DirectiveE.used, List.mem_cons, List.mem_append]; exact Or.inr (Or.inl (Or.inr hx))))
  cases args with
  | none =>
    simp only [evalDirective]
    rw [h1, h2, h3, h4, h5]
  | some items =>
    have h6 := evalArgs_congr hs .argument items (fun x hx => h x (by
      simp only [DirectiveE.used, List.mem_cons, List.mem_append]; exact Or.inr (Or.inr hx)))
    simp only [evalDirective]
    rw [h1, h2, h3, h4, h5, h6]

theorem evalDirectives_congr {ρ ρ' : Env} (hs : List (String × Head)) :
    ∀ (ds : List DirectiveE), Agree (ds.flatMap (·.used)) ρ ρ' → evalDirectives ρ hs ds = evalDirectives ρ' hs ds
  | [], _ => rfl
  | d :: rest, h => by
    have h1 := evalDirective_congr hs d (fun n hn => h n (by simp [hn]))
    have h2 := evalDirectives_congr hs rest (fun n hn => h n (by
      simp only [List.flatMap_cons, List.mem_append]; exact Or.inr hn))
    simp only [evalDirectives, h1, h2]

theorem evalRoot_congr {ρ ρ' : Env} (hs : List (String × Head)) (r : RootE) (h : Agree r.used ρ ρ') :
    evalRoot ρ hs r = evalRoot ρ' hs r := by
  cases r with
  | none => rfl
  | cast fn cls tm key =>
    simp only [evalRoot]
    rw [evalCast_congr hs fn cls tm key (fun n hn => h n (by simpa [RootE.used] using hn))]

def schemaUsed (s : SchemaE) : List Name :=
  s.ctor :: (s.query.used ++ s.mutation.used ++ s.subscription.used ++ [s.typesTm] ++ s.directives.flatMap (·.used) ++
    s.description.used)

theorem evalSchema_congr {ρ ρ' : Env} (tmv : List (String × TypeObj)) (s : SchemaE)
    (h : Agree (schemaUsed s) ρ ρ') (ht : Agree (tmv.flatMap fun p => objUsed p.2) ρ ρ') :
    evalSchema ρ tmv s = evalSchema ρ' tmv s := by
  unfold evalSchema
  simp only
  rw [callee_congr (h s.ctor (by simp [schemaUsed])),
    evalRoot_congr _ s.query (fun n hn => h n (by simp [schemaUsed, hn])),
    evalRoot_congr _ s.mutation (fun n hn => h n (by simp [schemaUsed, hn])),
    evalRoot_congr _ s.subscription (fun n hn => h n (by simp [schemaUsed, hn])),
    callee_congr (h s.typesTm (by simp [schemaUsed])),
    evalDirectives_congr _ s.directives (fun n hn => h n (by
      simp only [schemaUsed, List.mem_cons, List.mem_append]; exact Or.inr (Or.inl (Or.inr hn)))),
    evalOptStr_congr s.description (fun n hn => h n (by simp [schemaUsed, hn])),
    forceAll_congr _ tmv ht]

theorem bindNames_filter (keep : Name → Bool) (module : String) :
    ∀ (names : List Name) (bs : List (Name × Builtin)), bindNames module names = .ok bs →
      bindNames module (names.filter keep) = .ok (bs.filter fun p => keep p.1)
  | [], bs, h => by
    have : bs = [] := (Except.ok.inj h).symm
    subst this; rfl
  | n :: rest, bs, h => by
    unfold bindNames at h
    cases he : exportOf module n with
    | none => simp [he] at h
    | some b =>
      cases hr : bindNames module rest with
      | error e => simp [he, hr] at h
      | ok bs' =>
        simp [he, hr] at h
        subst h
        have ih := bindNames_filter keep module rest bs' hr
        by_cases hk : keep n = true
        · simp [List.filter, hk, bindNames, he, ih]
        · simp [List.filter, hk, ih]

theorem bindImports_prune (keep : Name → Bool) :
    ∀ (imports : List ImportE) (bs : List (Name × Builtin)), bindImports imports = .ok bs →
      bindImports (pruneWith keep imports) = .ok (bs.filter fun p => keep p.1)
  | [], bs, h => by
    have : bs = [] := (Except.ok.inj h).symm
    subst this; rfl
  | i :: rest, bs, h => by
    unfold bindImports at h
    cases h1 : bindNames i.module i.names with
    | error e => simp [h1] at h
    | ok b1 =>
      cases h2 : bindImports rest with
      | error e => simp [h1, h2] at h
      | ok b2 =>
        simp [h1, h2] at h
        subst h
        have f1 := bindNames_filter keep i.module i.names b1 h1
        have f2 := bindImports_prune keep rest b2 h2
        unfold pruneWith at f2 ⊢
        by_cases hem : (i.names.filter keep).isEmpty = true
        · have hnil : i.names.filter keep = [] := by simpa using hem
          rw [hnil] at f1
          have : b1.filter (fun p => keep p.1) = [] := (Except.ok.inj f1).symm
          simp [List.map_cons, hnil, f2, this]
        · simp [List.map_cons, hem, bindImports, f1, f2]

theorem lastBinding_filter (keep : Name → Bool) (n : Name) (hk : keep n = true) :
    ∀ (bs : List (Name × Builtin)), lastBinding n (bs.filter fun p => keep p.1) = lastBinding n bs
  | [] => rfl
  | (k, b) :: rest => by
    have ih := lastBinding_filter keep n hk rest
    by_cases hkk : keep k = true
    · simp [List.filter, hkk, lastBinding, ih]
    · have hne : k ≠ n := by
        intro e; subst e; exact hkk hk
      simp [List.filter, hkk, lastBinding, ih, hne]
      cases lastBinding n rest <;> rfl

theorem envOfImports_filter (keep : Name → Bool) (bs : List (Name × Builtin)) (n : Name) (hk : keep n = true) :
    envOfImports (bs.filter fun p => keep p.1) n = envOfImports bs n := by
  unfold envOfImports
  rw [lastBinding_filter keep n hk bs]

/-- what `evalSchemaModule` does once the type map is bound -/
def tail (m : PyModuleIR) (sv : Name) (ρ : Env) (tmv : List (String × TypeObj)) : Except PyErr SchemaIR := do
  let _ ← callee ρ m.tmAnn
  let S ← evalSchema ρ tmv m.schema
  let _ ← if m.svAnn = m.svName then pure Binding.unbound else callee ρ m.svAnn
  if sv = m.svName then pure S
  else if (ρ sv) = Binding.unbound then .error (.keyError sv)
  else .error (.typeError "the requested variable is not the schema")

theorem tail_congr (m : PyModuleIR) (ρ ρ' : Env) (tmv : List (String × TypeObj)) (h : Agree m.used ρ ρ')
    (hobj : ∀ n ∈ (tmv.flatMap fun p => objUsed p.2), n ∈ m.used) :
    tail m m.svName ρ tmv = tail m m.svName ρ' tmv := by
  have hsub2 : ∀ n ∈ schemaUsed m.schema, n ∈ m.used := by
    intro n hn
    simp only [PyModuleIR.used, List.mem_cons, List.mem_append]
    simp only [schemaUsed, List.mem_cons, List.mem_append] at hn
    exact Or.inr (Or.inr (Or.inr hn))
  unfold tail
  rw [callee_congr (h m.tmAnn (by simp [PyModuleIR.used])),
    evalSchema_congr tmv m.schema (h.sub hsub2) (h.sub hobj),
    callee_congr (h m.svAnn (by simp [PyModuleIR.used]))]
  simp

theorem evalSchemaModule_eq (m : PyModuleIR) (sv : Name) :
    evalSchemaModule m sv = (do
      let bs ← bindImports m.imports
      let tmv ← evalTypeMap (envOfImports bs) m.typeMap
      tail m sv (fun n => if n = m.tmName then Binding.typeMap else envOfImports bs n) tmv) := rfl

theorem tail_written (m : PyModuleIR) (sv : Name) (ρ : Env) (tmv : List (String × TypeObj)) :
    tail (written m) sv ρ tmv = tail m sv ρ tmv := rfl

/-- **Removing the unused imports changes nothing**: for every module whose imports bind at all,
    the written module (imports pruned to the names the body mentions or re-binds) evaluates to
    exactly what the unpruned module evaluates to — same schema or same error. -/
theorem eval_written (m : PyModuleIR) (bs : List (Name × Builtin)) (hb : bindImports m.imports = .ok bs) :
    evalSchemaModule (written m) m.svName = evalSchemaModule m m.svName := by
  have hkeep : ∀ n ∈ m.used, keepName m n = true := by
    intro n hn
    unfold keepName
    rw [List.contains_iff_mem.mpr hn]
    rfl
  have hb' := bindImports_prune (keepName m) m.imports bs hb
  have hρ₁ : Agree m.used (envOfImports (bs.filter fun p => keepName m p.1)) (envOfImports bs) :=
    fun n hn => envOfImports_filter (keepName m) bs n (hkeep n hn)
  have hρ₂ : Agree m.used (fun n => if n = m.tmName then Binding.typeMap else envOfImports (bs.filter fun p => keepName m p.1) n)
      (fun n => if n = m.tmName then Binding.typeMap else envOfImports bs n) := by
    intro n hn
    by_cases e : n = m.tmName
    · simp [e]
    · simp [e, hρ₁ n hn]
  have hsub1 : ∀ n ∈ (m.typeMap.flatMap fun p => p.2.used), n ∈ m.used := by
    intro n hn
    simp only [PyModuleIR.used, List.mem_cons, List.mem_append]
    exact Or.inr (Or.inr (Or.inl hn))
  have htm : evalTypeMap (envOfImports (bs.filter fun p => keepName m p.1)) m.typeMap = evalTypeMap (envOfImports bs) m.typeMap := by
    unfold evalTypeMap
    rw [constructAll_congr m.typeMap (hρ₁.sub hsub1)]
  rw [evalSchemaModule_eq, evalSchemaModule_eq]
  have e1 : (written m).imports = pruneWith (keepName m) m.imports := rfl
  have e2 : (written m).typeMap = m.typeMap := rfl
  have e3 : (written m).tmName = m.tmName := rfl
  simp only [e1, e2, e3, hb', hb, bind_ok, tail_written]
  rw [htm]
  cases ht : evalTypeMap (envOfImports bs) m.typeMap with
  | error e => rfl
  | ok tmv =>
    simp only [bind_ok]
    have hca : constructAll (envOfImports bs) m.typeMap = .ok tmv := by
      unfold evalTypeMap at ht
      obtain ⟨os, hos, h⟩ := Lists.bind_eq_ok.mp ht
      obtain ⟨_, _, h⟩ := Lists.bind_eq_ok.mp h
      have := Except.ok.inj h
      subst this
      exact hos
    have hobj : ∀ n ∈ (tmv.flatMap fun p => objUsed p.2), n ∈ m.used :=
      fun n hn => hsub1 n (constructAll_used m.typeMap tmv hca n hn)
    exact tail_congr m _ _ tmv hρ₂ hobj

end Ariadne.SchemaPrune
