/-
  C14: the builder does not raise.

  * `_format_variable_name` always finds a free name within `|used| + 1` candidates (pigeonhole; the
    candidates `base, base_1, base_2, …` are pairwise distinct), so the model's guard is unreachable;
  * `to_ast` over a pristine store succeeds whenever the fuel covers the height of the tree, and
    `opFuel` does;
  hence an operation without mutators on class-level objects that `evalFresh` accepts is sent (`runOp_sends`).
-/
import Std.Data.String.ToNat
import AriadneModel.Proofs.C14Main

namespace Ariadne.C14
open Ariadne.Builder Ariadne.BuilderDoc

theorem candidate_succ_ne_base (base : String) (k : Nat) : candidate base (k + 1) ≠ base := by
  intro h
  have := congrArg (fun s => s.toList.length) h
  simp [candidate, String.toList_append] at this

theorem candidate_inj (base : String) : ∀ (i j : Nat), candidate base i = candidate base j → i = j
  | 0, 0, _ => rfl
  | 0, j + 1, h => absurd h.symm (candidate_succ_ne_base base j)
  | i + 1, 0, h => absurd h (candidate_succ_ne_base base i)
  | i + 1, j + 1, h => by
    simp only [candidate, String.append_assoc] at h
    have h1 := (String.append_right_inj _).mp h
    have h2 := (String.append_right_inj _).mp h1
    exact Nat.repr_injective h2

theorem firstFree_none (base : String) (used : List String) :
    ∀ (fuel k : Nat), firstFree base used fuel k = none → ∀ i, i < fuel → candidate base (k + i) ∈ used := by
  intro fuel
  induction fuel with
  | zero => intro k _ i hi; omega
  | succ f ih =>
    intro k h i hi
    unfold firstFree at h
    split at h
    · rename_i hm
      cases i with
      | zero => simpa using hm
      | succ i =>
        have := ih (k + 1) h i (by omega)
        have e : k + 1 + i = k + (i + 1) := by omega
        rw [e] at this
        exact this
    · simp at h

theorem formatVarName_ok (idx : Nat) (name : String) (used : List String) :
    ∃ u used', formatVarName idx name used = .ok (u, used') := by
  unfold formatVarName
  cases h : firstFree (name ++ "_" ++ toString idx) used (used.length + 1) 0 with
  | some u => exact ⟨u, _, rfl⟩
  | none =>
    exfalso
    have hall := firstFree_none _ _ _ _ h
    let base := name ++ "_" ++ toString idx
    let l := (List.range (used.length + 1)).map (candidate base)
    have hn : l.Nodup :=
      List.pairwise_map.mpr (List.nodup_range.imp fun hne e => hne (candidate_inj base _ _ e))
    have hs : ∀ x ∈ l, x ∈ used := by
      intro x hx
      obtain ⟨i, hi, rfl⟩ := List.mem_map.mp hx
      have := hall i (List.mem_range.mp hi)
      simp only [Nat.zero_add] at this
      exact this
    have := hn.length_le_of_subset hs
    simp [l] at this
    omega

theorem collectVars_ok (idx : Nat) : ∀ (vs : List Var) (used : List String),
    ∃ fv used', collectVars idx vs used = .ok (fv, used') := by
  intro vs
  induction vs with
  | nil => intro used; exact ⟨[], used, rfl⟩
  | cons v vs ih =>
    intro used
    obtain ⟨u, u1, h1⟩ := formatVarName_ok idx v.key used
    obtain ⟨fs, u2, h2⟩ := ih u1
    simp only [collectVars, h1, h2]
    exact ⟨_, _, rfl⟩

mutual
  def height : Node → Nat
    | .obj _ subs frags => 1 + max (heightList subs) (heightFrags frags)
    | .ref _ => 2
  def heightList : List Node → Nat
    | [] => 0
    | n :: ns => max (height n) (heightList ns)
  def heightFrags : List Frag → Nat
    | [] => 0
    | .mk _ ns :: fs => max (heightList ns) (heightFrags fs)
end

def Fits (st : Store) (fuel : Nat) (n : Node) : Prop := RefsOK st n = true ∧ height n ≤ fuel

def VisitOK (st : Store) (f : Visit) (fuel : Nat) : Prop :=
  ∀ used n, Fits st fuel n → ∃ s n' used', f st used n = .ok (s, n', st, used')

theorem mapAcc_ok {st : Store} {f : Visit} {fuel : Nat} (hf : VisitOK st f fuel) :
    ∀ (ns : List Node) (used : List String), RefsOKList st ns = true → heightList ns ≤ fuel →
      ∃ ss ns' used', mapAcc f st used ns = .ok (ss, ns', st, used') := by
  intro ns
  induction ns with
  | nil => intro used _ _; exact ⟨[], [], used, rfl⟩
  | cons n ns ih =>
    intro used hr hh
    simp only [RefsOKList, Bool.and_eq_true] at hr
    simp only [heightList] at hh
    obtain ⟨s, n', u1, h1⟩ := hf used n ⟨hr.1, by omega⟩
    obtain ⟨ss, ns', u2, h2⟩ := ih u1 hr.2 (by omega)
    simp only [mapAcc, h1, h2]
    exact ⟨_, _, _, rfl⟩

theorem mapFrags_ok {st : Store} {f : Visit} {fuel : Nat} (hf : VisitOK st f fuel) :
    ∀ (fs : List Frag) (used : List String), RefsOKFrags st fs = true → heightFrags fs ≤ fuel →
      ∃ ss fs' used', mapFrags f st used fs = .ok (ss, fs', st, used') := by
  intro fs
  induction fs with
  | nil => intro used _ _; exact ⟨[], [], used, rfl⟩
  | cons fr fs ih =>
    intro used hr hh
    cases fr with
    | mk ty ns =>
      simp only [RefsOKFrags, Bool.and_eq_true] at hr
      simp only [heightFrags] at hh
      obtain ⟨ss, ns', u1, h1⟩ := mapAcc_ok hf ns used hr.1 (by omega)
      obtain ⟨rest, fs', u2, h2⟩ := ih u1 hr.2 (by omega)
      simp only [mapFrags, h1, h2]
      exact ⟨_, _, _, rfl⟩

theorem toAst_ok {st : Store} (hp : Pristine st) (idx : Nat) : ∀ fuel, VisitOK st (toAst fuel idx) fuel := by
  intro fuel
  induction fuel with
  | zero =>
    intro used n hfit
    exfalso
    obtain ⟨-, hh⟩ := hfit
    cases n <;> simp [height] at hh
  | succ f ih =>
    intro used n hfit
    obtain ⟨hr, hh⟩ := hfit
    cases n with
    | obj r subs frags =>
      simp only [RefsOK, Bool.and_eq_true] at hr
      simp only [height] at hh
      obtain ⟨fv, u1, h1⟩ := collectVars_ok idx r.vars used
      obtain ⟨ss, subs', u2, h2⟩ := mapAcc_ok ih subs u1 hr.1 (by omega)
      obtain ⟨fs, frags', u3, h3⟩ := mapFrags_ok ih frags u2 hr.2 (by omega)
      simp only [toAst, h1, h2, h3]
      exact ⟨_, _, _, rfl⟩
    | ref id =>
      simp only [RefsOK] at hr
      simp only [height] at hh
      obtain ⟨n0, hn0⟩ := Option.isSome_iff_exists.mp hr
      obtain ⟨r, rfl, hv, hfm⟩ := hp id n0 hn0
      have hfit : Fits st f (.obj r [] []) := by
        refine ⟨by simp [RefsOK, RefsOKList, RefsOKFrags], ?_⟩
        simp [height, heightList, heightFrags]
        omega
      obtain ⟨s, n', u1, h1⟩ := ih used _ hfit
      obtain ⟨rfl, -⟩ := toAst_pristine_leaf (hp id _ hn0) h1
      refine ⟨s, .ref id, u1, ?_⟩
      simp only [toAst, hn0, h1]
      rw [set_self _ _ _ hn0]

mutual
  theorem height_le_size : ∀ (n : Node), height n ≤ Node.size n + 1
    | .obj r subs frags => by
      have := heightList_le_size subs
      have := heightFrags_le_size frags
      simp only [height, Node.size]
      omega
    | .ref _ => by simp [height, Node.size]
  theorem heightList_le_size : ∀ (ns : List Node), heightList ns ≤ Node.sizeList ns + 1
    | [] => by simp [heightList]
    | n :: ns => by
      have := height_le_size n
      have := heightList_le_size ns
      simp only [heightList, Node.sizeList]
      omega
  theorem heightFrags_le_size : ∀ (fs : List Frag), heightFrags fs ≤ Frag.sizeList fs + 1
    | [] => by simp [heightFrags]
    | .mk _ ns :: fs => by
      have := heightList_le_size ns
      have := heightFrags_le_size fs
      simp only [heightFrags, Frag.sizeList]
      omega
end

theorem fits_mono {st : Store} {a b : Nat} (h : a ≤ b) {n : Node} (hf : Fits st a n) : Fits st b n :=
  ⟨hf.1, Nat.le_trans hf.2 h⟩

theorem buildSelections_ok {st : Store} (hp : Pristine st) (fuel : Nat) :
    ∀ (ns : List Node) (idx : Nat), RefsOKList st ns = true → heightList ns ≤ fuel →
      ∃ sels ns', buildSelections fuel idx st ns = .ok (sels, ns', st) := by
  intro ns
  induction ns with
  | nil => intro idx _ _; exact ⟨[], [], rfl⟩
  | cons n ns ih =>
    intro idx hr hh
    simp only [RefsOKList, Bool.and_eq_true] at hr
    simp only [heightList] at hh
    obtain ⟨s, n', u1, h1⟩ := toAst_ok hp idx fuel [] n ⟨hr.1, by omega⟩
    obtain ⟨ss, ns', h2⟩ := ih (idx + 1) hr.2 (by omega)
    simp only [buildSelections, h1, h2]
    exact ⟨_, _, rfl⟩

/-- `_combine_variables` (whose `get_formatted_variables` recurses through the whole tree) gets by with the fuel `to_ast`
    got by with -/
theorem execOp_ok {st : Store} (hp : Pristine st) (ty nm : String) (nodes : List Node)
    (hr : RefsOKList st nodes = true) : ∃ d, execOp ty nm st nodes = .ok (d, st) := by
  have hh : heightList nodes ≤ opFuel st nodes := by
    have := heightList_le_size nodes
    unfold opFuel
    omega
  obtain ⟨sels, ns', h⟩ := buildSelections_ok hp (opFuel st nodes) nodes 0 hr hh
  obtain ⟨-, a⟩ := buildSelections_Q hp _ _ _ _ _ _ h
  simp only [execOp, h, combine_pure (a.imp fun _ _ _ q => q.2.1)]
  exact ⟨_, rfl⟩

theorem runOp_sends (p : Package) (E : Op) (hE : opMutatesShared E = false)
    (hI : (Intended p E).isSome = true) : ∃ d, (runOp p E p.initStore).1 = .ok d := by
  unfold Intended at hI
  cases hl : evalFreshList p E.fields with
  | error x => rw [hl] at hI; simp at hI
  | ok nsF =>
    obtain ⟨ns, hes, hrs⟩ := evalList_ok p E.fields nsF hE hl
    obtain ⟨d, hd⟩ := execOp_ok (initStore_pristine p) E.opType E.name ns hrs
    exact ⟨d, by simp [runOp, hes, hd]⟩

end Ariadne.C14
