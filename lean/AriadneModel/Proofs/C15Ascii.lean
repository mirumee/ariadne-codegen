/-
  Strings of ASCII characters: the characters are the bytes.  `String.toList` decodes UTF-8 position by position, which the
  kernel evaluates in quadratic time; for a string whose bytes are all below 128 the list of characters can be read off
  the bytes in one pass (`toList_of_isAscii`).
-/
namespace Ariadne.C15

def asciiChars (s : String) : List Char := s.toByteArray.data.toList.map (fun b => Char.ofNat b.toNat)

def isAscii (s : String) : Bool := s.toByteArray.data.toList.all (fun b => b.toNat < 128)

/-- the leading byte of a longer encoding is at least 192 -/
theorem encodeChar_ascii (c : Char) (h : ∀ b ∈ String.utf8EncodeChar c, b.toNat < 128) :
    String.utf8EncodeChar c = [UInt8.ofNat c.val.toNat] ∧ c.val.toNat ≤ 127 := by
  have hlead : ∀ (n : Nat) (rest : List UInt8), 192 ≤ n → n < 256 → String.utf8EncodeChar c = UInt8.ofNat n :: rest → False := by
    intro n rest h1 h2 he
    have := h (UInt8.ofNat n) (by rw [he]; exact List.mem_cons_self)
    rw [UInt8.toNat_ofNat'] at this
    omega
  unfold String.utf8EncodeChar at hlead ⊢
  simp only at hlead ⊢
  split
  · exact ⟨rfl, by assumption⟩
  · exfalso
    rename_i h1
    rw [if_neg h1] at hlead
    split at hlead
    · exact hlead _ _ (by omega) (by omega) rfl
    · split at hlead
      · exact hlead _ _ (by omega) (by omega) rfl
      · exact hlead _ _ (by omega) (by omega) rfl

theorem bytes_ascii : ∀ (l : List Char), (∀ b ∈ l.flatMap String.utf8EncodeChar, b.toNat < 128) →
    (l.flatMap String.utf8EncodeChar).map (fun b => Char.ofNat b.toNat) = l := by
  intro l
  induction l with
  | nil => intro _; rfl
  | cons c cs ih =>
    intro h
    simp only [List.flatMap_cons, List.mem_append] at h ⊢
    obtain ⟨h1, h2⟩ := encodeChar_ascii c (fun b hb => h b (.inl hb))
    rw [h1, List.singleton_append, List.map_cons, ih (fun b hb => h b (.inr hb))]
    congr 1
    have : (UInt8.ofNat c.val.toNat).toNat = c.toNat := by
      show _ = c.val.toNat
      rw [UInt8.toNat_ofNat']; omega
    rw [this]
    exact Char.ofNat_toNat c

theorem toList_of_isAscii (s : String) (h : isAscii s = true) : s.toList = asciiChars s := by
  have hs : s = String.ofList s.toList := String.ofList_toList.symm
  unfold isAscii asciiChars at *
  rw [hs] at h ⊢
  simp only [String.toByteArray_ofList, List.utf8Encode, List.data_toByteArray, String.toList_ofList] at h ⊢
  rw [List.all_eq_true] at h
  exact (bytes_ascii _ (fun b hb => by simpa using h b hb)).symm

end Ariadne.C15
