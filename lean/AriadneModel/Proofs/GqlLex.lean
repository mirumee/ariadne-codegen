/-
  `indent_invariant` (C02, stretch tier): re-indenting the lines of an operation text, putting a newline in
  front and the indentation of the closing quotes behind — what the embedding does to a safe text — does not
  change its GraphQL tokens (reference lexer of Spec/GqlLex.lean: line-local, no block strings).
-/
import AriadneModel.Spec.GqlLex
import AriadneModel.Proofs.Embed


namespace Ariadne.GqlLexProofs
open Ariadne.PyStr Ariadne.GqlLex Ariadne.Embed Ariadne.EmbedProofs

theorem lexLine_nil : lexLine [] = [] := by simp [lexLine, lexF]

theorem lexLine_space (l : List Char) : lexLine (' ' :: l) = lexLine l := by
  simp [lexLine, lexF, isIgnored]

theorem lexLine_spaces (k : Nat) (l : List Char) : lexLine (List.replicate k ' ' ++ l) = lexLine l := by
  induction k with
  | zero => simp
  | succ k ih => rw [List.replicate_succ, List.cons_append, lexLine_space, ih]

theorem splitlines_line (A B : List Char) (h : ∀ c ∈ A, isLineSep c = false) :
    splitlines (A ++ '\n' :: B) = A :: splitlines B := by
  induction A with
  | nil => exact splitlines_sep '\n' B (by decide) (fun h => absurd h (by decide))
  | cons a A ih =>
    rw [List.cons_append, splitlines_nosep a _ (h a (by simp)), ih (fun c hc => h c (by simp [hc]))]
    rfl

theorem splitlines_single (A : List Char) (hne : A ≠ []) (h : ∀ c ∈ A, isLineSep c = false) : splitlines A = [A] := by
  induction A with
  | nil => exact absurd rfl hne
  | cons a A ih =>
    rw [splitlines_nosep a A (h a (by simp))]
    cases A with
    | nil => rfl
    | cons b A' => rw [ih (by simp) (fun c hc => h c (by simp [hc]))]; rfl

theorem splitlines_join (ls : List (List Char)) (tail : List Char) (h : ∀ l ∈ ls, ∀ c ∈ l, isLineSep c = false) :
    splitlines (ls.flatMap (· ++ ['\n']) ++ tail) = ls ++ splitlines tail := by
  induction ls with
  | nil => simp
  | cons l ls ih =>
    have : (l :: ls).flatMap (· ++ ['\n']) ++ tail = l ++ '\n' :: (ls.flatMap (· ++ ['\n']) ++ tail) := by simp
    rw [this, splitlines_line l _ (h l (by simp)), ih (fun x hx => h x (by simp [hx]))]
    rfl

def reind (k : Nat) (l : List Char) : List Char := if l.all (· == ' ') then l else List.replicate k ' ' ++ l

theorem lexLine_reind (k : Nat) (l : List Char) : lexLine (reind k l) = lexLine l := by
  unfold reind
  split
  · rfl
  · exact lexLine_spaces k l

theorem indentLines_eq (k : Nat) (ls : List (List Char)) : indentLines k ls = (ls.map (reind k)).flatMap (· ++ ['\n']) := by
  induction ls with
  | nil => rfl
  | cons l ls ih =>
    simp only [indentLines, List.flatMap_cons, List.map_cons] at ih ⊢
    rw [ih]
    rfl

theorem lexLine_all_spaces (k : Nat) : (splitlines (List.replicate k ' ')).flatMap lexLine = [] := by
  cases k with
  | zero => simp [splitlines]
  | succ k =>
    rw [splitlines_single _ (by simp) (by intro c hc; rw [List.mem_replicate] at hc; rw [hc.2]; decide)]
    have := lexLine_spaces (k + 1) []
    simp only [List.append_nil] at this
    simp [this, lexLine_nil]

/-- **indent_invariant**: the text handed to the transport has the same tokens as the printed operation. -/
theorem indent_invariant (k : Nat) (q : List Char) : lexText (expectedSent k q) = lexText q := by
  unfold lexText expectedSent
  rw [splitlines_sep '\n' _ (by decide) (fun h => absurd h (by decide)), indentLines_eq, splitlines_join]
  · simp only [List.flatMap_cons, lexLine_nil, List.nil_append, List.flatMap_append, lexLine_all_spaces, List.append_nil]
    induction splitlines q with
    | nil => rfl
    | cons l ls ih => simp only [List.map_cons, List.flatMap_cons, lexLine_reind, ih]
  · intro l hl c hc
    rw [List.mem_map] at hl
    obtain ⟨l0, hl0, rfl⟩ := hl
    have hsep := ((splitlines_spec q).1 l0 hl0).2
    unfold reind at hc
    split at hc
    · exact hsep c hc
    · rw [List.mem_append] at hc
      rcases hc with hc | hc
      · rw [List.mem_replicate] at hc
        rw [hc.2]
        decide
      · exact hsep c hc

end Ariadne.GqlLexProofs
