/-
  Lemmas for the embedding theorems of C02: what the string pipeline
      lines -> repr of each line -> adjacent literals -> replace/delete/indent -> Python evaluation
  does to one character (`TokOK`, `reprChar_ok`) and to one line without a backslash-`n` pair (`escs_*`), and how a text
  falls into lines.  The pipeline itself is Proofs/EmbedBN.lean.  Pure `List Char` reasoning.
-/
import AriadneModel.Model.Embed


namespace Ariadne.EmbedProofs
open Ariadne.Embed Ariadne.PyStr

theorem replaceBN_ne (c : Char) (X : List Char) (h : c ≠ '\\') : replaceBN (c :: X) = c :: replaceBN X := by
  rw [replaceBN.eq_def]
  split <;> simp_all

theorem replaceBN_bs (a : Char) (X : List Char) (h : a ≠ 'n') :
    replaceBN ('\\' :: a :: X) = '\\' :: replaceBN (a :: X) := by
  rw [replaceBN.eq_def]
  split
  · simp_all
  · simp_all
  · rename_i heq
    simp only [List.cons.injEq] at heq
    obtain ⟨rfl, rfl⟩ := heq
    rfl

theorem replaceBN_bsn (X : List Char) : replaceBN ('\\' :: 'n' :: X) = '\n' :: replaceBN X := by
  rw [replaceBN.eq_def]
  simp

theorem replaceBN_bs_nil : replaceBN ['\\'] = ['\\'] := by
  rw [replaceBN.eq_def]
  simp [replaceBN]

theorem splitlines_crlf (cs : List Char) : splitlines ('\r' :: '\n' :: cs) = [] :: splitlines cs := by
  rw [splitlines]

theorem splitlines_sep (c : Char) (cs : List Char) (h : isLineSep c = true) (hrn : c = '\r' → cs.head? ≠ some '\n') :
    splitlines (c :: cs) = [] :: splitlines cs := by
  rw [splitlines]
  · simp only [h, if_true]
  · intro cs' hc hcs
    exact hrn hc (by simp [hcs])

def consHead (c : Char) : List (List Char) → List (List Char)
  | [] => [[c]]
  | l :: ls => (c :: l) :: ls

theorem consHead_eq (c : Char) (ls : List (List Char)) : consHead c ls = (c :: ls.headD []) :: ls.tail := by
  cases ls <;> rfl

theorem mem_consHead {c : Char} {ls : List (List Char)} {x : List Char} :
    x ∈ consHead c ls ↔ x = c :: ls.headD [] ∨ x ∈ ls.tail := by
  rw [consHead_eq, List.mem_cons]

theorem headD_nil_or_mem (ls : List (List Char)) : ls.headD [] = [] ∨ ls.headD [] ∈ ls := by
  cases ls <;> simp

theorem headD_or_mem_tail {ls : List (List Char)} {l : List Char} (h : l ∈ ls) : l = ls.headD [] ∨ l ∈ ls.tail := by
  cases ls with
  | nil => cases h
  | cons a ls => simpa using h

theorem splitlines_nosep (c : Char) (cs : List Char) (h : isLineSep c = false) :
    splitlines (c :: cs) = consHead c (splitlines cs) := by
  have hr : c ≠ '\r' := by intro hc; subst hc; simp [isLineSep] at h
  rw [splitlines]
  · simp only [h, Bool.false_eq_true, if_false]
    cases splitlines cs <;> rfl
  · exact fun _ hc => absurd hc hr

def startsQQ : List Char → Bool
  | '"' :: '"' :: _ => true
  | _ => false

theorem evalBody_raw (c : Char) (X : List Char) (h1 : c ≠ '"') (h2 : c ≠ '\\') (h3 : c ≠ '\r') :
    evalBody (c :: X) = (evalBody X).map (fun (v, r) => (c :: v, r)) := by
  rw [evalBody.eq_def]
  split <;> simp_all

theorem evalBody_q1 (X : List Char) (h : startsQQ X = false) :
    evalBody ('"' :: X) = (evalBody X).map (fun (v, r) => ('"' :: v, r)) := by
  rw [evalBody.eq_def]
  split
  all_goals first
    | (simp_all [startsQQ]; done)
    | (rename_i heq
       simp only [List.cons.injEq] at heq
       obtain ⟨rfl, rfl⟩ := heq
       rfl)

theorem evalBody_end (X : List Char) : evalBody ('"' :: '"' :: '"' :: X) = some ([], X) := by
  rw [evalBody.eq_def]
  simp

theorem evalBody_bsbs (X : List Char) :
    evalBody ('\\' :: '\\' :: X) = (evalBody X).map (fun (v, r) => ('\\' :: v, r)) := by
  rw [evalBody.eq_def]
  simp

theorem evalBody_bst (X : List Char) :
    evalBody ('\\' :: 't' :: X) = (evalBody X).map (fun (v, r) => ('\t' :: v, r)) := by
  rw [evalBody.eq_def]
  simp

theorem evalBody_x (a b : Char) (n : Nat) (X : List Char) (h : hexVals [a, b] = some n) :
    evalBody ('\\' :: 'x' :: a :: b :: X) = (evalBody X).map (fun (v, r) => (Char.ofNat n :: v, r)) := by
  rw [evalBody.eq_def]
  simp [h]

theorem evalBody_u (a b c d : Char) (n : Nat) (X : List Char) (h : hexVals [a, b, c, d] = some n) :
    evalBody ('\\' :: 'u' :: a :: b :: c :: d :: X) = (evalBody X).map (fun (v, r) => (Char.ofNat n :: v, r)) := by
  rw [evalBody.eq_def]
  simp [h]

theorem evalBody_U (a b c d e f g h' : Char) (n : Nat) (X : List Char) (h : hexVals [a, b, c, d, e, f, g, h'] = some n) :
    evalBody ('\\' :: 'U' :: a :: b :: c :: d :: e :: f :: g :: h' :: X) = (evalBody X).map (fun (v, r) => (Char.ofNat n :: v, r)) := by
  rw [evalBody.eq_def]
  simp [h]


theorem hexDigit_ok : ∀ d : Fin 16,
    hexVal (hexDigit d.val) = some d.val ∧ hexDigit d.val ≠ '\\' ∧ hexDigit d.val ≠ '\'' ∧ hexDigit d.val ≠ 'n'
      ∧ hexDigit d.val ≠ '"' ∧ hexDigit d.val ≠ '\n' ∧ isWs (hexDigit d.val) = false := by
  decide +kernel

theorem hexDigit_val (d : Nat) (h : d < 16) : hexVal (hexDigit d) = some d := (hexDigit_ok ⟨d, h⟩).1

/-- what is needed of a character inside an escape token -/
def Plain (x : Char) : Prop := x ≠ '\\' ∧ x ≠ '\'' ∧ x ≠ 'n' ∧ x ≠ '"' ∧ x ≠ '\n' ∧ isWs x = false

theorem hexDigit_plain (d : Nat) (h : d < 16) : Plain (hexDigit d) := (hexDigit_ok ⟨d, h⟩).2

/-- the `k` base-16 digits of `n`, most significant first -/
def digits16 (n k : Nat) : List Nat := (List.range k).reverse.map fun i => n / 16 ^ i % 16

theorem hex2_eq (n : Nat) : hex2 n = (digits16 n 2).map hexDigit := by simp [hex2, digits16, List.range_succ]
theorem hex4_eq (n : Nat) : hex4 n = (digits16 n 4).map hexDigit := by simp [hex4, digits16, List.range_succ]
theorem hex8_eq (n : Nat) : hex8 n = (digits16 n 8).map hexDigit := by simp [hex8, digits16, List.range_succ]

theorem plain_digits16 (n k : Nat) : ∀ x ∈ (digits16 n k).map hexDigit, Plain x := by
  intro x hx
  obtain ⟨d, hd, rfl⟩ := List.mem_map.mp hx
  obtain ⟨i, _, rfl⟩ := List.mem_map.mp hd
  exact hexDigit_plain _ (Nat.mod_lt _ (by decide))

/-- reading hexadecimal digits is Horner's scheme -/
theorem hexVals_fold : ∀ (ds : List Nat) (acc : Nat), (∀ d ∈ ds, d < 16) →
    (ds.map hexDigit).foldlM (fun acc c => (hexVal c).map (acc * 16 + ·)) acc = some (ds.foldl (fun a d => a * 16 + d) acc)
  | [], _, _ => rfl
  | d :: ds, acc, h => by
    rw [List.map_cons, List.foldlM_cons, hexDigit_val d (h d List.mem_cons_self)]
    exact hexVals_fold ds (acc * 16 + d) (fun x hx => h x (List.mem_cons_of_mem _ hx))

/-- … and Horner's scheme over the digits of `n`, started with what lies above them, gives `n` back -/
theorem horner16 (n : Nat) : ∀ k, (digits16 n k).foldl (fun a d => a * 16 + d) (n / 16 ^ k) = n
  | 0 => by simp [digits16]
  | k + 1 => by
    have step : n / 16 ^ (k + 1) * 16 + n / 16 ^ k % 16 = n / 16 ^ k := by
      rw [Nat.pow_succ, ← Nat.div_div_eq_div_mul, Nat.mul_comm, Nat.div_add_mod]
    unfold digits16
    rw [List.range_succ, List.reverse_append, List.reverse_singleton, List.singleton_append, List.map_cons, List.foldl_cons, step]
    exact horner16 n k

theorem hexVals_digits16 (n k : Nat) (h : n < 16 ^ k) : hexVals ((digits16 n k).map hexDigit) = some n := by
  have hd : ∀ d ∈ digits16 n k, d < 16 := by
    intro d hd
    obtain ⟨i, _, rfl⟩ := List.mem_map.mp hd
    exact Nat.mod_lt _ (by decide)
  have hv : ∀ ds : List Nat, (∀ d ∈ ds, d < 16) → hexVals (ds.map hexDigit) = some (ds.foldl (fun a d => a * 16 + d) 0) := by
    intro ds h
    cases ds with
    | nil => rfl
    | cons d ds => exact hexVals_fold (d :: ds) 0 h
  have := horner16 n k
  rw [Nat.div_eq_of_lt h] at this
  rw [hv _ hd, this]

theorem hexVals_hex2 (n : Nat) (h : n < 256) : hexVals (hex2 n) = some n := hex2_eq n ▸ hexVals_digits16 n 2 h
theorem hexVals_hex4 (n : Nat) (h : n < 65536) : hexVals (hex4 n) = some n := hex4_eq n ▸ hexVals_digits16 n 4 h
theorem hexVals_hex8 (n : Nat) (h : n < 4294967296) : hexVals (hex8 n) = some n := hex8_eq n ▸ hexVals_digits16 n 8 h


/-! ### `replace("\\n", "\n")` on a text without an adjacent backslash-n pair -/

/-- no backslash is immediately followed by `n` -/
def noBN : List Char → Bool
  | a :: b :: t => !(a == '\\' && b == 'n') && noBN (b :: t)
  | _ => true

/-- `noBN` is `hasBsN` negated, in the shape the induction over the unparsed text needs (it looks one character ahead) -/
theorem noBN_eq_not_hasBsN : ∀ l : List Char, noBN l = !hasBsN l
  | [] => rfl
  | [a] => by simp [noBN, hasBsN]
  | a :: b :: t => by
    rw [noBN, noBN_eq_not_hasBsN (b :: t), hasBsN]
    simp [Bool.not_or]

theorem noBN_tail (a : Char) (X : List Char) (h : noBN (a :: X) = true) : noBN X = true := by
  cases X with
  | nil => rfl
  | cons b t => simp [noBN] at h; exact h.2

theorem noBN_head (a : Char) (X : List Char) (h : noBN (a :: X) = true) (ha : a = '\\') : X.head? ≠ some 'n' := by
  cases X with
  | nil => simp
  | cons b t =>
    simp [noBN, ha] at h
    simpa using h.1

theorem noBN_cons (a : Char) (X : List Char) (hX : noBN X = true) (h : a = '\\' → X.head? ≠ some 'n') : noBN (a :: X) = true := by
  cases X with
  | nil => rfl
  | cons b t =>
    simp [noBN]
    refine ⟨?_, hX⟩
    by_cases ha : a = '\\'
    · right
      intro hb
      exact h ha (by simp [hb])
    · left
      exact ha

theorem replaceBN_cons (a : Char) (X : List Char) (h : a = '\\' → X.head? ≠ some 'n') :
    replaceBN (a :: X) = a :: replaceBN X := by
  by_cases ha : a = '\\'
  · subst ha
    cases X with
    | nil => simp [replaceBN_bs_nil, replaceBN]
    | cons b t =>
      have hb : b ≠ 'n' := by
        intro hb
        exact h rfl (by simp [hb])
      exact replaceBN_bs b t hb
  · exact replaceBN_ne a X ha

theorem replaceBN_prefix (L R : List Char) (h : noBN (L ++ R.take 1) = true) :
    replaceBN (L ++ R) = L ++ replaceBN R := by
  induction L with
  | nil => rfl
  | cons a L ih =>
    have ht := noBN_tail a _ h
    have hh : a = '\\' → (L ++ R).head? ≠ some 'n' := by
      intro ha
      have := noBN_head a _ h ha
      cases L with
      | nil => cases R <;> simp_all
      | cons b L' => simpa using this
    rw [List.cons_append, replaceBN_cons a _ hh, ih ht]
    rfl

def consFst (c : Char) (p : List Char × List Char) : List Char × List Char := (c :: p.1, p.2)

theorem consFst_eq (c : Char) : (fun (x : List Char × List Char) => match x with | (v, r) => (c :: v, r)) = consFst c := by
  funext ⟨v, r⟩
  rfl

/-- what the pipeline needs of the `repr` token `tok` of a character `c` -/
structure TokOK (c : Char) (tok : List Char) : Prop where
  noQuote : ∀ x ∈ tok, x ≠ '\''
  noNL : ∀ x ∈ tok, x ≠ '\n'
  bn : ∀ R, noBN R = true → (c = '\\' → R.head? ≠ some 'n') → noBN (tok ++ R) = true
  headN : tok.head? = some 'n' → c = 'n'
  headQ : tok.head? = some '"' → c = '"'
  ne : tok ≠ []
  ws : tok.all isWs = (c == ' ')
  eval : ∀ R, (c = '"' → startsQQ R = false) → evalBody (tok ++ R) = (evalBody R).map (consFst c)

def SafeChar (c : Char) : Prop := c ≠ '\'' ∧ isLineSep c = false

theorem ascii_ws : ∀ n : Fin 128, 0x20 ≤ n.val → n.val < 0x7f → isWs (Char.ofNat n.val) = (Char.ofNat n.val == ' ') := by
  decide +kernel

theorem printable_ws (env : Char → Bool) (c : Char) (h : isPrintable env c = true) : isWs c = (c == ' ') := by
  unfold isPrintable at h
  by_cases hc : c.toNat < 128
  · simp [hc] at h
    have := ascii_ws ⟨c.toNat, hc⟩ h.1 h.2
    simpa [Char.ofNat_toNat] using this
  · simp [hc] at h
    have hne : (c == ' ') = false := by
      apply beq_false_of_ne
      intro h'
      subst h'
      exact hc (by decide)
    rw [hne]
    exact h.1

theorem tok_raw (c : Char) (h1 : c ≠ '\\') (h2 : c ≠ '\'') (h3 : c ≠ '\n') (h4 : c ≠ '\r') (hw : isWs c = (c == ' ')) :
    TokOK c [c] where
  noQuote := by simp [h2]
  noNL := by simp [h3]
  bn := fun R hR _ => noBN_cons c R hR (fun h => absurd h h1)
  headN := by simp
  headQ := by simp
  ne := by simp
  ws := by simp [hw]
  eval := by
    intro R hq
    by_cases hc : c = '"'
    · subst hc
      simp only [List.singleton_append]
      rw [evalBody_q1 R (hq rfl), consFst_eq]
    · simp only [List.singleton_append]
      rw [evalBody_raw c R hc h1 h4, consFst_eq]

theorem tok_bs : TokOK '\\' ['\\', '\\'] where
  noQuote := by decide
  noNL := by decide
  bn := by
    intro R hR h
    have := noBN_cons '\\' R hR h
    simpa [noBN] using this
  headN := by decide
  headQ := by decide
  ne := by simp
  ws := by decide
  eval := by
    intro R _
    simp only [List.cons_append, List.nil_append]
    rw [evalBody_bsbs, consFst_eq]

theorem tok_tab : TokOK '\t' ['\\', 't'] where
  noQuote := by decide
  noNL := by decide
  bn := by
    intro R hR _
    have := noBN_cons 't' R hR (fun h => absurd h (by decide))
    simpa [noBN] using this
  headN := by decide
  headQ := by decide
  ne := by simp
  ws := by decide
  eval := by
    intro R _
    simp only [List.cons_append, List.nil_append]
    rw [evalBody_bst, consFst_eq]

theorem noBN_plain (ds R : List Char) (hds : ∀ x ∈ ds, x ≠ '\\') (hR : noBN R = true) : noBN (ds ++ R) = true := by
  induction ds with
  | nil => simpa using hR
  | cons d ds ih =>
    exact noBN_cons d _ (ih (fun x hx => hds x (by simp [hx]))) (fun h => absurd h (hds d (by simp)))

theorem tok_hex_generic (c : Char) (k : Char) (ds : List Char) (hk : Plain k) (hds : ∀ x ∈ ds, Plain x)
    (hc2 : c ≠ ' ')
    (hev : ∀ R, evalBody ('\\' :: k :: ds ++ R) = (evalBody R).map (consFst c)) :
    TokOK c ('\\' :: k :: ds) where
  noQuote := by
    intro x hx
    simp at hx
    rcases hx with rfl | rfl | hx
    · decide
    · exact hk.2.1
    · exact (hds x hx).2.1
  noNL := by
    intro x hx
    simp at hx
    rcases hx with rfl | rfl | hx
    · decide
    · exact hk.2.2.2.2.1
    · exact (hds x hx).2.2.2.2.1
  bn := by
    intro R hR _
    have h1 : noBN (ds ++ R) = true := noBN_plain ds R (fun x hx => (hds x hx).1) hR
    have h2 : noBN (k :: (ds ++ R)) = true := noBN_cons k _ h1 (fun h => absurd h hk.1)
    have h3 : noBN ('\\' :: k :: (ds ++ R)) = true := by
      simp [noBN]
      exact ⟨hk.2.2.1, by simpa using h2⟩
    simpa using h3
  headN := by simp
  headQ := by simp
  ne := by simp
  ws := by
    have : (c == ' ') = false := beq_false_of_ne hc2
    simp [this]
    intro h
    exact absurd h (by decide)
  eval := fun R _ => hev R

theorem reprChar_ok (env : Char → Bool) (c : Char) (hs : SafeChar c) : TokOK c (reprChar env '\'' c) := by
  obtain ⟨hq, hsep⟩ := hs
  have hn : c ≠ '\n' := by intro h; subst h; simp [isLineSep] at hsep
  have hr : c ≠ '\r' := by intro h; subst h; simp [isLineSep] at hsep
  unfold reprChar
  by_cases hb : c = '\\'
  · subst hb
    simpa using tok_bs
  · by_cases ht : c = '\t'
    · subst ht
      simpa using tok_tab
    · by_cases hp : isPrintable env c = true
      · have : (if (c == '\'' || c == '\\') = true then ['\\', c]
            else if (c == '\t') = true then ['\\', 't']
            else if (c == '\n') = true then ['\\', 'n']
            else if (c == '\r') = true then ['\\', 'r']
            else if isPrintable env c = true then [c]
            else if c.toNat < 0x100 then '\\' :: 'x' :: hex2 c.toNat
            else if c.toNat < 0x10000 then '\\' :: 'u' :: hex4 c.toNat
            else '\\' :: 'U' :: hex8 c.toNat) = [c] := by simp [hq, hb, ht, hn, hr, hp]
        rw [this]
        exact tok_raw c hb hq hn hr (printable_ws env c hp)
      · have h0 : (c == '\'' || c == '\\') = false := by simp [hq, hb]
        simp only [h0, beq_iff_eq, if_false, ht, hn, hr, hp, Bool.false_eq_true]
        have hsp : c ≠ ' ' := by
          intro h; subst h
          exact hp (by simp [isPrintable])
        by_cases h1 : c.toNat < 0x100
        · simp only [h1, if_true]
          refine tok_hex_generic c 'x' (hex2 c.toNat) (by unfold Plain; decide) ?_ hsp ?_
          · exact hex2_eq _ ▸ plain_digits16 _ 2
          · intro R
            have := evalBody_x (hexDigit (c.toNat / 16 % 16)) (hexDigit (c.toNat % 16)) c.toNat R (hexVals_hex2 c.toNat h1)
            simpa [hex2, consFst_eq, Char.ofNat_toNat] using this
        · simp only [h1, if_false]
          by_cases h2 : c.toNat < 0x10000
          · simp only [h2, if_true]
            refine tok_hex_generic c 'u' (hex4 c.toNat) (by unfold Plain; decide) ?_ hsp ?_
            · exact hex4_eq _ ▸ plain_digits16 _ 4
            · intro R
              have := evalBody_u _ _ _ _ c.toNat R (hexVals_hex4 c.toNat h2)
              simpa [hex4, consFst_eq, Char.ofNat_toNat] using this
          · simp only [h2, if_false]
            have h3 : c.toNat < 4294967296 := by
              have := UInt32.toNat_lt c.val
              have e : c.toNat = c.val.toNat := rfl
              omega
            refine tok_hex_generic c 'U' (hex8 c.toNat) (by unfold Plain; decide) ?_ hsp ?_
            · exact hex8_eq _ ▸ plain_digits16 _ 8
            · intro R
              have := evalBody_U _ _ _ _ _ _ _ _ c.toNat R (hexVals_hex8 c.toNat h3)
              simpa [hex8, consFst_eq, Char.ofNat_toNat] using this


/-- the escaped content of a line between its quotes -/
def escs (env : Char → Bool) (l : List Char) : List Char := l.flatMap (reprChar env '\'')

theorem escs_cons (env : Char → Bool) (c : Char) (l : List Char) : escs env (c :: l) = reprChar env '\'' c ++ escs env l := by
  simp [escs]

structure SafeLine (l : List Char) : Prop where
  chars : ∀ c ∈ l, SafeChar c
  bsn : hasBsN l = false
  tq : hasTQ l = false

theorem SafeLine.tail {c : Char} {l : List Char} (h : SafeLine (c :: l)) : SafeLine l where
  chars := fun x hx => h.chars x (by simp [hx])
  bsn := by
    have := h.bsn
    simp only [hasBsN, Bool.or_eq_false_iff] at this
    exact this.2
  tq := by
    have := h.tq
    simp only [hasTQ, Bool.or_eq_false_iff] at this
    exact this.2

theorem SafeLine.head {c : Char} {l : List Char} (h : SafeLine (c :: l)) : SafeChar c := h.chars c (by simp)

theorem SafeLine.nil : SafeLine [] := ⟨by simp, rfl, rfl⟩

theorem head_escs_append (env : Char → Bool) (c : Char) (l R : List Char) (hc : SafeChar c) :
    (escs env (c :: l) ++ R).head? = (reprChar env '\'' c).head? := by
  have hne := (reprChar_ok env c hc).ne
  rw [escs_cons, List.append_assoc]
  cases h : reprChar env '\'' c with
  | nil => exact absurd h hne
  | cons a t => simp

theorem escs_noQuote (env : Char → Bool) (l : List Char) (h : SafeLine l) : ∀ x ∈ escs env l, x ≠ '\'' := fun x hx =>
  let ⟨c, hc, hx⟩ := List.mem_flatMap.mp hx
  (reprChar_ok env c (h.chars c hc)).noQuote x hx

theorem escs_noNL (env : Char → Bool) (l : List Char) (h : SafeLine l) : ∀ x ∈ escs env l, x ≠ '\n' := fun x hx =>
  let ⟨c, hc, hx⟩ := List.mem_flatMap.mp hx
  (reprChar_ok env c (h.chars c hc)).noNL x hx

theorem escs_noBN (env : Char → Bool) (l R : List Char) (h : SafeLine l) (hR : noBN R = true) (hh : R.head? ≠ some 'n') :
    noBN (escs env l ++ R) = true := by
  induction l with
  | nil => simpa [escs] using hR
  | cons c l ih =>
    rw [escs_cons, List.append_assoc]
    apply (reprChar_ok env c h.head).bn _ (ih h.tail)
    intro hc
    cases l with
    | nil => simpa [escs] using hh
    | cons c2 l2 =>
      rw [head_escs_append env c2 l2 R h.tail.head]
      intro hn
      have h2 := (reprChar_ok env c2 h.tail.head).headN hn
      have := h.bsn
      subst hc h2
      simp [hasBsN] at this

theorem escs_ws (env : Char → Bool) (l : List Char) (h : SafeLine l) : (escs env l).all isWs = l.all (· == ' ') := by
  induction l with
  | nil => simp [escs]
  | cons c l ih =>
    rw [escs_cons, List.all_append, (reprChar_ok env c h.head).ws, ih h.tail]
    simp

theorem startsQQ_false_of_head (X : List Char) (h : X.head? ≠ some '"') : startsQQ X = false := by
  cases X with
  | nil => rfl
  | cons a t =>
    have : a ≠ '"' := by simpa using h
    cases t with
    | nil => simp [startsQQ]
    | cons b t => simp [startsQQ, this]

theorem reprChar_dq (env : Char → Bool) : reprChar env '\'' '"' = ['"'] := by
  simp [reprChar, isPrintable]

def appFst (l : List Char) (p : List Char × List Char) : List Char × List Char := (l ++ p.1, p.2)

theorem map_consFst_appFst (c : Char) (l : List Char) (o : Option (List Char × List Char)) :
    (o.map (appFst l)).map (consFst c) = o.map (appFst (c :: l)) := by
  cases o <;> simp [appFst, consFst]

theorem escs_eval (env : Char → Bool) (l R : List Char) (h : SafeLine l) (hR : R.head? ≠ some '"') :
    evalBody (escs env l ++ R) = (evalBody R).map (appFst l) := by
  induction l with
  | nil =>
    simp only [escs, List.flatMap_nil, List.nil_append]
    cases evalBody R <;> simp [appFst]
  | cons c l ih =>
    rw [escs_cons, List.append_assoc, (reprChar_ok env c h.head).eval, ih h.tail, map_consFst_appFst]
    intro hc
    subst hc
    cases l with
    | nil => simpa [escs] using startsQQ_false_of_head R hR
    | cons c2 l2 =>
      by_cases h2 : c2 = '"'
      · subst h2
        rw [escs_cons, reprChar_dq]
        have : startsQQ ('"' :: (escs env l2 ++ R)) = false := by
          have hh : (escs env l2 ++ R).head? ≠ some '"' := by
            cases l2 with
            | nil => simpa [escs] using hR
            | cons c3 l3 =>
              rw [head_escs_append env c3 l3 R h.tail.tail.head]
              intro h3
              have h3' := (reprChar_ok env c3 h.tail.tail.head).headQ h3
              subst h3'
              have := h.tq
              simp [hasTQ] at this
          generalize escs env l2 ++ R = X at hh
          cases X with
          | nil => simp [startsQQ]
          | cons a t =>
            have : a ≠ '"' := by simpa using hh
            simp [startsQQ, this]
        simpa using this
      · apply startsQQ_false_of_head
        rw [head_escs_append env c2 l2 R h.tail.head]
        intro hq
        exact h2 ((reprChar_ok env c2 h.tail.head).headQ hq)


theorem reprStr_line (env : Char → Bool) (l : List Char) (h : ∀ c ∈ l, SafeChar c) :
    reprStr env (l ++ ['\n']) = '\'' :: (escs env l ++ ['\\', 'n', '\'']) := by
  have hm : '\'' ∉ l ++ ['\n'] := by
    intro hm
    rw [List.mem_append] at hm
    rcases hm with hm | hm
    · exact (h _ hm).1 rfl
    · simp at hm
  have hq : reprQuote (l ++ ['\n']) = '\'' := by
    unfold reprQuote
    have : (l ++ ['\n']).contains '\'' = false := by
      cases hc : (l ++ ['\n']).contains '\'' with
      | false => rfl
      | true => exact absurd (List.contains_iff_mem.mp hc) hm
    rw [this]
    simp
  have hn : reprChar env '\'' '\n' = ['\\', 'n'] := by simp [reprChar]
  unfold PyStr.reprStr
  simp only [hq, List.flatMap_append, List.flatMap_cons, List.flatMap_nil, List.append_nil, hn]
  simp [escs]

/-- the unparsed adjacent constants -/
def U (env : Char → Bool) (ls : List (List Char)) : List Char :=
  ls.flatMap fun l => '\'' :: (escs env l ++ ['\\', 'n', '\''])

theorem splitKeep_line (A B : List Char) (h : ∀ x ∈ A, x ≠ '\n') :
    splitKeep (A ++ '\n' :: B) = (A ++ ['\n']) :: splitKeep B := by
  induction A with
  | nil => simp [splitKeep]
  | cons a A ih =>
    have ha : a ≠ '\n' := h a (by simp)
    have := ih (fun x hx => h x (by simp [hx]))
    simp [splitKeep, ha, this]

theorem splitKeep_tq : splitKeep tq = [tq] := by decide

/-- indentation chosen by `textwrap.indent` for an escaped line -/
def ind (k : Nat) (l : List Char) : List Char := if l.all (· == ' ') then [] else List.replicate k ' '

theorem eval_spaces (k : Nat) (R : List Char) :
    evalBody (List.replicate k ' ' ++ R) = (evalBody R).map (appFst (List.replicate k ' ')) := by
  induction k with
  | zero =>
    simp only [List.replicate_zero, List.nil_append]
    cases evalBody R <;> simp [appFst]
  | succ k ih =>
    rw [List.replicate_succ, List.cons_append, evalBody_raw ' ' _ (by decide) (by decide) (by decide), ih, consFst_eq,
      map_consFst_appFst]

theorem map_appFst_appFst (a b : List Char) (o : Option (List Char × List Char)) :
    (o.map (appFst b)).map (appFst a) = o.map (appFst (a ++ b)) := by
  cases o <;> simp [appFst]

theorem eval_ind (k : Nat) (l R : List Char) : evalBody (ind k l ++ R) = (evalBody R).map (appFst (ind k l)) := by
  unfold ind
  split
  · rw [List.nil_append]
    cases evalBody R <;> simp [appFst]
  · exact eval_spaces k R

inductive IsBreak : List Char → Prop
  | crlf : IsBreak ['\r', '\n']
  | one (c : Char) (h : isLineSep c = true) : IsBreak [c]

theorem IsBreak.sep {s : List Char} (h : IsBreak s) : ∀ c ∈ s, isLineSep c = true := by
  cases h with
  | crlf => decide
  | one c h => simpa using h

theorem splitlines_induction {motive : List Char → List (List Char) → Prop}
    (nil : motive [] [])
    (brk : ∀ s cs, IsBreak s → motive cs (splitlines cs) → motive (s ++ cs) ([] :: splitlines cs))
    (nosep : ∀ c cs, isLineSep c = false → motive cs (splitlines cs) → motive (c :: cs) (consHead c (splitlines cs))) :
    ∀ q, motive q (splitlines q) := by
  intro q
  fun_induction splitlines q with
  | case1 => exact nil
  | case2 cs ih => exact brk _ cs .crlf ih
  | case3 c cs hnot hsep ih => exact brk _ cs (.one c hsep) ih
  | case4 c cs hnot hsep hnil ih =>
    have := nosep c cs (by simpa using hsep) ih
    rw [hnil] at this
    exact this
  | case5 c cs hnot hsep l ls heq ih =>
    have := nosep c cs (by simpa using hsep) ih
    rw [heq] at this
    exact this

theorem splitlines_spec (q : List Char) :
    (∀ l ∈ splitlines q, l <:+: q ∧ ∀ c ∈ l, isLineSep c = false) ∧
    (∀ l0 rest, splitlines q = l0 :: rest → l0 <+: q) := by
  refine splitlines_induction (motive := fun q ls => (∀ l ∈ ls, l <:+: q ∧ ∀ c ∈ l, isLineSep c = false) ∧
    (∀ l0 rest, ls = l0 :: rest → l0 <+: q)) (by simp) ?_ ?_ q
  · -- after a line break `s`: an empty line in front, the other lines lie in the rest of the text
    intro s cs _ h
    refine ⟨?_, ?_⟩
    · intro l hl
      rcases List.mem_cons.mp hl with rfl | hl
      · exact ⟨List.nil_infix, by simp⟩
      · exact ⟨(h.1 l hl).1.trans (List.suffix_append s cs).isInfix, (h.1 l hl).2⟩
    · intro l0 rest e
      rw [← (List.cons.inj e).1]
      exact List.nil_prefix
  · intro c cs hc h
    generalize splitlines cs = ls at h ⊢
    have h0 : ls.headD [] <+: cs := by
      cases ls with
      | nil => exact List.nil_prefix
      | cons l ls => exact h.2 l ls rfl
    have h1 : c :: ls.headD [] <+: c :: cs := List.cons_prefix_cons.mpr ⟨rfl, h0⟩
    refine ⟨?_, ?_⟩
    · intro x hx
      rcases mem_consHead.mp hx with rfl | hx
      · refine ⟨h1.isInfix, ?_⟩
        intro y hy
        rcases List.mem_cons.mp hy with rfl | hy
        · exact hc
        · rcases headD_nil_or_mem ls with e | e
          · rw [e] at hy
            cases hy
          · exact (h.1 _ e).2 y hy
      · obtain ⟨hi, hn⟩ := h.1 x (List.mem_of_mem_tail hx)
        exact ⟨hi.trans (List.suffix_cons c cs).isInfix, hn⟩
    · intro l0 rest e
      rw [consHead_eq] at e
      rw [← (List.cons.inj e).1]
      exact h1

/-- the two scans of Model/Embed.lean for a pattern say that the pattern is an infix -/
theorem hasBsN_iff : ∀ l : List Char, hasBsN l = true ↔ ['\\', 'n'] <:+: l
  | [] => by simp [hasBsN]
  | [c] => by simp [hasBsN, List.infix_cons_iff]
  | c :: a :: t => by
    rw [List.infix_cons_iff, ← hasBsN_iff (a :: t), hasBsN]
    simp only [List.cons_prefix_cons, List.nil_prefix, and_true, Bool.or_eq_true, Bool.and_eq_true, beq_iff_eq, @eq_comm _ '\\', @eq_comm _ 'n']

theorem hasTQ_iff : ∀ l : List Char, hasTQ l = true ↔ tq <:+: l
  | [] => by simp [hasTQ, tq]
  | [c] => by simp [hasTQ, tq, List.infix_cons_iff]
  | [c, a] => by simp [hasTQ, tq, List.infix_cons_iff]
  | c :: a :: b :: t => by
    rw [List.infix_cons_iff, ← hasTQ_iff (a :: b :: t), hasTQ]
    simp only [tq, List.cons_prefix_cons, List.nil_prefix, and_true, Bool.or_eq_true, Bool.and_eq_true, beq_iff_eq, @eq_comm _ '"']

theorem hasBsN_infix {l q : List Char} (hi : l <:+: q) (h : hasBsN q = false) : hasBsN l = false :=
  Bool.eq_false_iff.mpr fun hl => Bool.eq_false_iff.mp h ((hasBsN_iff q).mpr (((hasBsN_iff l).mp hl).trans hi))

theorem hasTQ_infix {l q : List Char} (hi : l <:+: q) (h : hasTQ q = false) : hasTQ l = false :=
  Bool.eq_false_iff.mpr fun hl => Bool.eq_false_iff.mp h ((hasTQ_iff q).mpr (((hasTQ_iff l).mp hl).trans hi))

theorem trigger_none (q : List Char) (h : trigger q = none) :
    hasTQ q = false ∧ hasQuote q = false ∧ hasBsN q = false ∧ hasExtraSep q = false := by
  unfold trigger at h
  cases h1 : hasTQ q <;> cases h2 : hasQuote q <;> cases h3 : hasBsN q <;> cases h4 : hasExtraSep q <;> simp_all

end Ariadne.EmbedProofs
