/-
  Property C01: the layer between the reference semantics (Spec/Pyd.lean, Spec/Exec.lean) and the tiers.
  Nothing here mentions the generator.

  Two notions carry the validation half of every tier:
    * `Accepts S frags penv e n cn rt sels` — the class `cn` of the pydantic environment accepts, and dumps back up to member
      order, every answer a conformant executor (fuel `e`) can give to `sels` on an object of runtime type `rt`, for every
      validation fuel from `n` on.  Each tier's `val_spec` concludes it, with its own fuel functions for `e` and `n`.
    * `DeclFits S frags penv e n rt g d` — the field declaration `d` serves the group `g` CollectFields made of the
      selections of one response key.
  and their introduction rules: `class_fits` (a class whose gathered fields serve the collected groups key by key accepts the
  selection set), `DeclFits.plainField` (wrappers and `@skip/@include` around a leaf annotation or a single class),
  `DeclFits.unionField` (around the `Union[..]` of several variant classes: `tagged_accepts`, `smart_accepts`), `DeclFits.of_value`.
  What is left to a tier is structural: which entries CollectFields visits (`entries`, `collect_eq_fold`), which fields pydantic
  gathers for the class.
-/
import AriadneModel.Proofs.ResultWrap
import AriadneModel.Proofs.C01Ann
import AriadneModel.Proofs.C01Fold
import AriadneModel.Proofs.Json


namespace Ariadne.C01Plain
open Ariadne Ariadne.Gql Ariadne.ResultTypes Ariadne.Util Ariadne.Pyd Ariadne.C01Ann

theorem nodupKvs_spec : ∀ kvs : List (String × J), nodupKvs kvs = true →
    (kvs.map (·.1)).Nodup ∧ (∀ p ∈ kvs, nodupKeys p.2 = true) ∧ (∀ p ∈ kvs, J.lookup p.1 kvs = some p.2)
  | [], _ => by simp
  | (k, v) :: rest, h => by
    simp only [nodupKvs, Bool.and_eq_true, Bool.not_eq_true'] at h
    obtain ⟨⟨hk, hv⟩, hr⟩ := h
    obtain ⟨ih1, ih2, ih3⟩ := nodupKvs_spec rest hr
    have hk' : k ∉ rest.map (·.1) := by
      rw [← J.hasKey_iff]; simp [hk]
    refine ⟨by simp only [List.map_cons, List.nodup_cons]; exact ⟨hk', ih1⟩, ?_, ?_⟩
    · intro p hp
      rcases List.mem_cons.mp hp with rfl | hp
      · exact hv
      · exact ih2 p hp
    · intro p hp
      rcases List.mem_cons.mp hp with rfl | hp
      · simp [J.lookup]
      · have : k ≠ p.1 := by
          intro e; apply hk'; rw [e]; exact List.mem_map.mpr ⟨p, hp, rfl⟩
        simp only [J.lookup, this, if_false]
        exact ih3 p hp

theorem nodupKeysList_mem : ∀ (xs : List J), nodupKeysList xs = true → ∀ x ∈ xs, nodupKeys x = true
  | [], _, x, hx => by cases hx
  | y :: ys, h, x, hx => by
    simp only [nodupKeysList, Bool.and_eq_true] at h
    rcases List.mem_cons.mp hx with rfl | hx
    · exact h.1
    · exact nodupKeysList_mem ys h.2 x hx

mutual
  theorem eqv_refl : ∀ j : J, nodupKeys j = true → J.eqv j j = true
    | .null, _ => by simp [J.eqv]
    | .bool b, _ => by simp [J.eqv]
    | .num m e, _ => by simp [J.eqv]
    | .str s, _ => by simp [J.eqv]
    | .arr xs, h => by
      simp only [nodupKeys] at h
      simp only [J.eqv]
      exact eqvList_refl xs h
    | .obj kvs, h => by
      simp only [nodupKeys] at h
      obtain ⟨_, h2, h3⟩ := nodupKvs_spec kvs h
      simp only [J.eqv, beq_self_eq_true, Bool.true_and]
      exact eqvKvs_refl kvs kvs h2 h3
  theorem eqvList_refl : ∀ xs : List J, nodupKeysList xs = true → J.eqvList xs xs = true
    | [], _ => by simp [J.eqvList]
    | x :: xs, h => by
      simp only [nodupKeysList, Bool.and_eq_true] at h
      simp only [J.eqvList, Bool.and_eq_true]
      exact ⟨eqv_refl x h.1, eqvList_refl xs h.2⟩
  theorem eqvKvs_refl : ∀ (xs ys : List (String × J)), (∀ p ∈ xs, nodupKeys p.2 = true) →
      (∀ p ∈ xs, J.lookup p.1 ys = some p.2) → J.eqvKvs xs ys = true
    | [], _, _, _ => by simp [J.eqvKvs]
    | (k, x) :: xs, ys, h1, h2 => by
      have hl := h2 (k, x) List.mem_cons_self
      simp only at hl
      simp only [J.eqvKvs, hl, Bool.and_eq_true]
      exact ⟨eqv_refl x (h1 (k, x) List.mem_cons_self),
        eqvKvs_refl xs ys (fun p hp => h1 p (List.mem_cons_of_mem _ hp)) (fun p hp => h2 p (List.mem_cons_of_mem _ hp))⟩
end

/-- the entry CollectFields makes of a field node at the top of a selection set; `false ||` is the executor's `cond ||` at `cond = false`,
    written out so that `entries_fields` holds by `rfl` -/
def collOf : Selection → Exec.Collected
  | .field alias name dirs _ sub =>
    { key := alias.getD name, name := name, subs := sub, conditional := false || Exec.isConditional dirs }
  | _ => { key := "", name := "", subs := [], conditional := false }

end Ariadne.C01Plain

namespace Ariadne.C01Accepts
open Ariadne Ariadne.Gql Ariadne.ResultTypes Ariadne.Util Ariadne.Pyd Ariadne.C01Plain Ariadne.C01Ann

/-- round trip: `r` is a value whose dump is `j` up to the order of object members -/
def RT (r : Except VErr PV) (j : J) : Prop := ∃ v, r = .ok v ∧ J.eqv (dump v) j = true

theorem mapE_rt (f : J → Except VErr PV) : ∀ (xs : List J), (∀ x ∈ xs, RT (f x) x) →
    ∃ vs, mapE f xs = .ok vs ∧ J.eqvList (dumpList vs) xs = true
  | [], _ => ⟨[], rfl, by simp [dumpList, J.eqvList]⟩
  | x :: xs, h => by
    obtain ⟨v, hv, he⟩ := h x List.mem_cons_self
    obtain ⟨vs, hvs, hes⟩ := mapE_rt f xs (fun y hy => h y (List.mem_cons_of_mem _ hy))
    exact ⟨v :: vs, by simp [mapE, hv, hvs], by simp [dumpList, J.eqvList, he, hes]⟩

theorem listLift_eqv : ResultLeaf.ListLift (fun j pv => J.eqv (dump pv) j = true) := fun f xs h => by
  obtain ⟨vs, hvs, he⟩ := mapE_rt f xs h
  exact ⟨vs, hvs, by simp [dump, J.eqv, he]⟩

theorem wrap_rt (penv : Pyd.Env) (base : Ann) (P : String → J → Bool) (B : Nat) (T : TypeRef)
    (hbase : ∀ g, B ≤ g → ∀ v, nodupKeys v = true → P T.base v = true → RT (validate penv g base v) v) :
    ∀ (nullable : Bool) (v : J) (fuel : Nat), B + wneed T ≤ fuel → nodupKeys v = true →
      Exec.complete P T nullable v = true → RT (validate penv fuel (wrapAnn base nullable T) v) v := by
  intro b v fuel hf hnd hc
  rw [ResultLeaf.complete_eq] at hc
  exact ResultLeaf.wrap_complete penv base (nodupKeys · = true) (fun xs h => nodupKeysList_mem xs (by simpa [nodupKeys] using h))
    (fun j pv => J.eqv (dump pv) j = true) (by simp [dump, J.eqv]) listLift_eqv false _ B
    (fun g hg x hd hn hx => by
      cases x with
      | null => cases hn rfl
      | _ => exact hbase g hg _ hd (hx (by simp)))
    T b v fuel hf hnd hc

theorem condAnn_rt (penv : Pyd.Env) (a : Ann) (dirs : List Directive) (v : J) (g : Nat)
    (h : ∀ fuel, g ≤ fuel → RT (validate penv fuel a v) v) :
    ∀ fuel, g + 1 ≤ fuel → RT (validate penv fuel (condAnn a dirs) v) v := by
  rw [ResultLeaf.condAnn_eq]
  exact ResultLeaf.validate_optionalIf_of (R := fun j pv => J.eqv (dump pv) j = true) (by simp [dump, J.eqv]) (Or.inr h)

theorem complete_leaf (S : Schema) (T : TypeRef) (nullable : Bool) (v : J) :
    Exec.complete (fun n v => Exec.leafOk S n v) T nullable v = Exec.conforms S nullable T v := by
  rw [ResultLeaf.complete_eq, ResultLeaf.conforms_eq]

theorem leaf_rt (env : ResultTypes.Env) (penv : Pyd.Env) (ha : ResultLeaf.EnvAgrees env penv) (T : TypeRef)
    (hleaf : isLeafName env T.base = true) (dirs : List Directive) (v : J) (hnd : nodupKeys v = true)
    (hc : Exec.conforms env.schema true T v = true) :
    ∀ g, wneed T + 2 ≤ g → RT (validate penv g (condAnn (wrapAnn (ResultLeaf.leafBase env T.base) true T) dirs) v) v := by
  intro g hg
  refine condAnn_rt penv _ dirs v (wneed T + 1) ?_ g (by omega)
  intro fuel hfuel
  rw [← ResultLeaf.leafAnn_eq_wrapAnn]
  obtain ⟨pv, hpv, hd⟩ := ResultLeaf.validate_leaf_dump env penv ha T (isLeafName_spec hleaf)
    true v fuel (by rw [ResultLeaf.need_eq_wneed]; exact hfuel) hc
  exact ⟨pv, hpv, by rw [hd]; exact eqv_refl v hnd⟩

theorem allFields_none (penv : Pyd.Env) (n : String) (h : penv.class? n = none) : ∀ k, allFields penv k n = []
  | 0 => rfl
  | k + 1 => by simp [allFields, h]

theorem allFields_plain (penv : Pyd.Env) (c : ClassDecl) (hc : penv.class? c.name = some c)
    (hb : c.bases = ["BaseModel"]) (hbm : penv.class? "BaseModel" = none) (hnd : (c.fields.map (·.py)).Nodup) (k : Nat) :
    allFields penv (k + 1) c.name = c.fields := by
  simp [allFields, hc, hb, allFields_none penv "BaseModel" hbm, C01Fold.mergeDup_nodup c.fields hnd]

theorem validate_cls_succ (penv : Pyd.Env) (g : Nat) (n : String) (j : J) :
    validate penv (g + 1) (.cls n) j = modelWith penv penv.clsFuel (validate penv g) n j := rfl

theorem mapE_error_of_mem {α β ε : Type} (f : α → Except ε β) (xs : List α) (x : α) (hx : x ∈ xs)
    (he : ∃ e, f x = .error e) : ∃ e, mapE f xs = .error e := by
  cases h : mapE f xs with
  | error e => exact ⟨e, rfl⟩
  | ok ys =>
    obtain ⟨y, hy⟩ := ResultLeaf.mapE_ok_mem f xs ys h x hx
    obtain ⟨e, he⟩ := he
    rw [hy] at he; cases he

theorem mapE_fields (F : FieldDecl → Except VErr (Option (String × Option String × PV))) (kvs : List (String × J))
    (keyf : FieldDecl → String) : ∀ (ds : List FieldDecl),
    (∀ d ∈ ds, (J.lookup (keyf d) kvs = none ∧ F d = .ok none) ∨
      (∃ v pv al py, J.lookup (keyf d) kvs = some v ∧ F d = .ok (some (py, al, pv)) ∧ al.getD py = keyf d ∧
        J.eqv (dump pv) v = true)) →
    ∃ fs, mapE F ds = .ok fs ∧ J.eqvKvs (dumpFields (fs.filterMap id)) kvs = true ∧
      (dumpFields (fs.filterMap id)).map (·.1) = (ds.map keyf).filter (fun k => J.hasKey k kvs)
  | [], _ => ⟨[], rfl, by simp [dumpFields, J.eqvKvs], by simp [dumpFields]⟩
  | d :: ds, h => by
    obtain ⟨fs, hfs, he, hk⟩ := mapE_fields F kvs keyf ds (fun x hx => h x (List.mem_cons_of_mem _ hx))
    rcases h d List.mem_cons_self with ⟨hl, hF⟩ | ⟨v, pv, al, py, hl, hF, hal, hev⟩
    · refine ⟨none :: fs, by simp [mapE, hF, hfs], by simpa using he, ?_⟩
      have : J.hasKey (keyf d) kvs = false := by simp [J.hasKey, hl]
      simp [this, hk]
    · refine ⟨some (py, al, pv) :: fs, by simp [mapE, hF, hfs], ?_, ?_⟩
      · simp only [List.filterMap_cons, id, dumpFields, J.eqvKvs, hal, hl, hev, Bool.true_and]
        exact he
      · have : J.hasKey (keyf d) kvs = true := by simp [J.hasKey, hl]
        simp only [List.filterMap_cons, id, dumpFields, List.map_cons, hal, List.filter_cons, this, if_true, hk]


def collectStep (S : Schema) (frags : List Fragment) (fuel : Nat) (rt : String) (cond : Bool)
    (acc : List Exec.Collected) (s : Selection) : List Exec.Collected :=
  match s with
  | .field alias name dirs _ sub =>
    Exec.addCollected acc { key := alias.getD name, name := name, subs := sub, conditional := cond || Exec.isConditional dirs }
  | .inline on dirs _ sub =>
    if Exec.applies S on rt then Exec.collect S frags fuel rt (cond || Exec.isConditional dirs) sub acc else acc
  | .spread n dirs =>
    match findFragment? frags n with
    | some f => if Exec.applies S (some f.on) rt then Exec.collect S frags fuel rt (cond || Exec.isConditional dirs) f.sel acc else acc
    | none => acc

theorem collect_succ (S : Schema) (frags : List Fragment) (fuel : Nat) (rt : String) (cond : Bool) (sels : List Selection)
    (acc : List Exec.Collected) :
    Exec.collect S frags (fuel + 1) rt cond sels acc = sels.foldl (collectStep S frags fuel rt cond) acc := by
  rfl

theorem collOf_key {x : Selection} (h : isField x = true) : (collOf x).key = keyOf x := by
  cases x <;> simp [isField] at h <;> rfl

/-- the entries CollectFields visits for an object of runtime type `rt`, in document order, before entries of the same
    response key are merged: `Exec.collect` without its accumulator -/
def entries (S : Schema) (frags : List Fragment) : Nat → String → Bool → List Selection → List Exec.Collected
  | 0, _, _, _ => []
  | fuel + 1, rt, cond, sels =>
    sels.flatMap fun s =>
      match s with
      | .field alias name dirs _ sub =>
        [{ key := alias.getD name, name := name, subs := sub, conditional := cond || Exec.isConditional dirs }]
      | .inline on dirs _ sub =>
        if Exec.applies S on rt then entries S frags fuel rt (cond || Exec.isConditional dirs) sub else []
      | .spread n dirs =>
        match findFragment? frags n with
        | some f => if Exec.applies S (some f.on) rt then entries S frags fuel rt (cond || Exec.isConditional dirs) f.sel else []
        | none => []

def entryStep (S : Schema) (frags : List Fragment) (fuel : Nat) (rt : String) (cond : Bool) (s : Selection) : List Exec.Collected :=
  match s with
  | .field alias name dirs _ sub =>
    [{ key := alias.getD name, name := name, subs := sub, conditional := cond || Exec.isConditional dirs }]
  | .inline on dirs _ sub =>
    if Exec.applies S on rt then entries S frags fuel rt (cond || Exec.isConditional dirs) sub else []
  | .spread n dirs =>
    match findFragment? frags n with
    | some f => if Exec.applies S (some f.on) rt then entries S frags fuel rt (cond || Exec.isConditional dirs) f.sel else []
    | none => []

theorem entries_succ (S : Schema) (frags : List Fragment) (fuel : Nat) (rt : String) (cond : Bool) (sels : List Selection) :
    entries S frags (fuel + 1) rt cond sels = sels.flatMap (entryStep S frags fuel rt cond) := rfl

/-- what a tier has to say about CollectFields is then what the entries of its selection sets are: a statement without
    accumulator -/
theorem collect_eq_fold (S : Schema) (frags : List Fragment) : ∀ (fuel : Nat) (rt : String) (cond : Bool)
    (sels : List Selection) (acc : List Exec.Collected),
    Exec.collect S frags fuel rt cond sels acc = (entries S frags fuel rt cond sels).foldl Exec.addCollected acc
  | 0, _, _, _, _ => rfl
  | fuel + 1, rt, cond, sels, acc => by
    rw [collect_succ, entries_succ]
    induction sels generalizing acc with
    | nil => rfl
    | cons s rest ih =>
      rw [List.foldl_cons, ih, List.flatMap_cons, List.foldl_append]
      congr 1
      cases s with
      | field alias name dirs sid sub => rfl
      | inline on dirs sid sub =>
        simp only [collectStep, entryStep]
        split
        · exact collect_eq_fold S frags fuel rt _ sub acc
        · rfl
      | spread n dirs =>
        simp only [collectStep, entryStep]
        cases findFragment? frags n with
        | none => rfl
        | some f =>
          simp only []
          split
          · exact collect_eq_fold S frags fuel rt _ f.sel acc
          · rfl

theorem entries_fields (S : Schema) (frags : List Fragment) (fuel : Nat) (rt : String) (sels : List Selection)
    (h : ∀ x ∈ sels, isField x = true) : entries S frags (fuel + 1) rt false sels = sels.map collOf := by
  rw [List.map_eq_flatMap]
  refine Lists.flatMap_congr _ _ _ (fun x hx => ?_)
  cases x with
  | field alias name dirs sid sub => rfl
  | spread n d => have := h _ hx; simp [isField] at this
  | inline on d sid ss => have := h _ hx; simp [isField] at this

theorem collect_fresh {ι : Type} (S : Schema) (frags : List Fragment) (e : Nat) (rt : String) (sels : List Selection)
    (acc : List Exec.Collected) (L : List ι) (c : ι → Exec.Collected) (k : ι → String)
    (hent : entries S frags e rt false sels = L.map c) (hkey : ∀ p ∈ L, (c p).key = k p)
    (hnd : (L.map k).Nodup) (hdisj : ∀ p ∈ L, ∀ a ∈ acc, a.key ≠ k p) :
    Exec.collect S frags e rt false sels acc = acc ++ L.map c := by
  have hmap : (L.map c).map (·.key) = L.map k := by
    rw [List.map_map]
    exact List.map_congr_left hkey
  rw [collect_eq_fold, hent]
  refine C01Fold.foldl_addCollected_fresh _ _ (by rw [hmap]; exact hnd) (fun g hg a ha => ?_)
  obtain ⟨p, hp, rfl⟩ := List.mem_map.mp hg
  rw [hkey p hp]
  exact hdisj p hp a ha


/-- what `Exec.respOK` demands of the value found under the key of the collected group `g` (sub-answers judged with fuel `e`) -/
def valueOK (S : Schema) (frags : List Fragment) (e : Nat) (rt : String) (g : Exec.Collected) (v : J) : Bool :=
  if g.name == Tables.typenameFieldName then (match v with | .str s => s == rt | _ => false)
  else match S.fieldOf? rt g.name with
    | none => false
    | some fd =>
      Exec.complete (fun n v =>
        if g.subs.isEmpty then Exec.leafOk S n v
        else (Exec.runtimeTypes S n).any fun rt' => Exec.respOK S frags e rt' g.subs v) fd.type true v

/-- the judgement `Exec.respOK` passes on one collected group -/
def groupOK (S : Schema) (frags : List Fragment) (e : Nat) (rt : String) (kvs : List (String × J)) (g : Exec.Collected) : Bool :=
  match J.lookup g.key kvs with
  | none => g.conditional
  | some v => valueOK S frags e rt g v

theorem respOK_groups (S : Schema) (frags : List Fragment) (e : Nat) (rt : String) (sels : List Selection)
    (kvs : List (String × J)) :
    Exec.respOK S frags (e + 1) rt sels (.obj kvs) =
      (kvs.all (fun (k, _) => (Exec.collect S frags (e + 1) rt false sels []).any (·.key == k))
      && (Exec.collect S frags (e + 1) rt false sels []).all (groupOK S frags e rt kvs)) := by
  rfl

theorem runtimeTypes_object {S : Schema} {n : String} (h : S.kindOf? n = some .object) : Exec.runtimeTypes S n = [n] := by
  unfold Exec.runtimeTypes; rw [h]

theorem respOK_isObj (S : Schema) (frags : List Fragment) (fuel : Nat) (rt : String) (sels : List Selection) (j : J)
    (h : Exec.respOK S frags fuel rt sels j = true) : ∃ kvs, j = .obj kvs := by
  cases fuel with
  | zero => simp [Exec.respOK] at h
  | succ f =>
    cases j with
    | obj kvs => exact ⟨kvs, rfl⟩
    | null => simp [Exec.respOK] at h
    | _ => simp [Exec.respOK] at h

/-- what `fieldWith` does with the value found for a field -/
def fieldRec (penv : Pyd.Env) (cf : Nat) (rec : Ann → J → Except VErr PV) (d : FieldDecl) (v : J) : Except VErr PV :=
  if d.discriminator then
    (match d.ann with
     | .union as => taggedWith penv cf rec as v
     | a => rec a v)
  else rec d.ann v

/-- `halias`: the alias as `parseTypeDefinition` writes it -/
theorem fieldWith_gen (penv : Pyd.Env) (cf : Nat) (rec : Ann → J → Except VErr PV) (kvs : List (String × J))
    (d : FieldDecl) (key : String)
    (halias : d.alias = if d.py != key then some key else none)
    (hpy : d.py = key ∨ J.lookup d.py kvs = none) :
    fieldWith penv cf rec kvs d = (match J.lookup key kvs with
      | some v => (match fieldRec penv cf rec d v with
        | .ok pv => .ok (some (d.py, d.alias, pv))
        | .error e => .error e)
      | none => if d.defaultNone then .ok none else .error (.missing (d.alias.getD d.py))) := by
  rw [ResultLeaf.fieldWith_read, ResultLeaf.readField_of_alias halias]
  cases hl : J.lookup key kvs with
  | some v => rfl
  | none =>
    have hn : J.lookup d.py kvs = none := by
      rcases hpy with h | h
      · rw [h]; exact hl
      · exact h
    simp only [hn]

theorem fieldRec_plain (penv : Pyd.Env) (cf : Nat) (rec : Ann → J → Except VErr PV) (d : FieldDecl) (v : J)
    (h : d.discriminator = false) : fieldRec penv cf rec d v = rec d.ann v := by
  simp only [fieldRec, h, Bool.false_eq_true, if_false]

theorem length_of_keys (D kvs : List (String × J)) (keys : List String)
    (hk : D.map (·.1) = keys.filter (fun k => J.hasKey k kvs)) (hnd : keys.Nodup)
    (hkn : (kvs.map (·.1)).Nodup) (hsub : ∀ k ∈ kvs.map (·.1), k ∈ keys) : D.length = kvs.length := by
  have h1 : D.length = (keys.filter (fun k => J.hasKey k kvs)).length := by rw [← hk]; simp
  have h2 : kvs.length = (kvs.map (·.1)).length := by simp
  rw [h1, h2]
  apply List.Perm.length_eq
  rw [List.perm_ext_iff_of_nodup (hnd.sublist List.filter_sublist) hkn]
  intro a
  rw [List.mem_filter, J.hasKey_iff]
  constructor
  · exact fun h => h.2
  · exact fun h => ⟨hsub a h, h⟩

/-- the class `cn` of `penv` accepts, and dumps back, every answer a conformant executor (fuel `e`) can give to `sels` on an
    object of runtime type `rt`, given validation fuel `n` -/
def Accepts (S : Schema) (frags : List Fragment) (penv : Pyd.Env) (e n : Nat) (cn rt : String) (sels : List Selection) : Prop :=
  ∀ j, Exec.respOK S frags e rt sels j = true → nodupKeys j = true → ∀ m, n ≤ m → RT (validate penv m (.cls cn) j) j

theorem Accepts.zero (S : Schema) (frags : List Fragment) (penv : Pyd.Env) (n : Nat) (cn rt : String) (sels : List Selection) :
    Accepts S frags penv 0 n cn rt sels := fun j h => by simp [Exec.respOK] at h

theorem Accepts.mono {S : Schema} {frags : List Fragment} {penv : Pyd.Env} {e n n' : Nat} {cn rt : String} {sels : List Selection}
    (h : Accepts S frags penv e n cn rt sels) (hn : n ≤ n') : Accepts S frags penv e n' cn rt sels :=
  fun j hr hj m hm => h j hr hj m (Nat.le_trans hn hm)

/-- the declaration `d` serves the collected group `g` of an object of runtime type `rt`: it is looked up under the group's
    key, may be absent where the group may, and accepts and dumps back whatever the executor may return there, given
    validation fuel `n` -/
structure DeclFits (S : Schema) (frags : List Fragment) (penv : Pyd.Env) (e n : Nat) (rt : String)
    (g : Exec.Collected) (d : FieldDecl) : Prop where
  alias : d.alias = if d.py != g.key then some g.key else none
  dflt : g.conditional = true → d.defaultNone = true
  value : ∀ v, nodupKeys v = true → valueOK S frags e rt g v = true →
    ∀ m, n ≤ m → RT (fieldRec penv penv.clsFuel (validate penv m) d v) v

theorem DeclFits.mono {S : Schema} {frags : List Fragment} {penv : Pyd.Env} {e n n' : Nat} {rt : String}
    {g : Exec.Collected} {d : FieldDecl} (h : DeclFits S frags penv e n rt g d) (hn : n ≤ n') :
    DeclFits S frags penv e n' rt g d :=
  ⟨h.alias, h.dflt, fun v hnd hv m hm => h.value v hnd hv m (Nat.le_trans hn hm)⟩

/-- what a declaration does with a value is decided by its annotation, and what the executor may return by the field and its
    sub-selection: only `alias` and the default look at the rest -/
theorem DeclFits.of_value {S : Schema} {frags : List Fragment} {penv : Pyd.Env} {e n : Nat} {rt : String}
    {g g' : Exec.Collected} {d d' : FieldDecl} (h : DeclFits S frags penv e n rt g d)
    (hn : g'.name = g.name) (hs : g'.subs = g.subs) (hann : d'.ann = d.ann) (hdi : d'.discriminator = d.discriminator)
    (hal : d'.alias = if d'.py != g'.key then some g'.key else none) (hdf : g'.conditional = true → d'.defaultNone = true) :
    DeclFits S frags penv e n rt g' d' :=
  ⟨hal, hdf, fun v hnd hv m hm => by
    have := h.value v hnd (by simpa only [valueOK, hn, hs] using hv) m hm
    simpa only [fieldRec, hann, hdi] using this⟩

/-- `py`, `hpy`: the Python name of a gathered field is a function of its response key, so distinct Python names (`hpys`) give
    distinct keys, and the dump has as many members as the answer.  `hpop`: pydantic (`populate_by_name`) looks a field up under its
    alias first and then under its Python name, which therefore must not be the key of another group -/
theorem class_fits (S : Schema) (frags : List Fragment) (penv : Pyd.Env) (e n : Nat) (cn rt : String)
    (sels : List Selection) (py : String → String) (c : ClassDecl) (hc : penv.class? cn = some c)
    (hpys : ((allFields penv penv.clsFuel cn).map (·.py)).Nodup)
    (hpy : ∀ d ∈ allFields penv penv.clsFuel cn, d.py = py (d.alias.getD d.py))
    (hpop : ∀ d ∈ allFields penv penv.clsFuel cn, d.py = d.alias.getD d.py ∨
      ∀ g ∈ Exec.collect S frags (e + 1) rt false sels [], g.key ≠ d.py)
    (hcov : ∀ g ∈ Exec.collect S frags (e + 1) rt false sels [],
      ∃ d ∈ allFields penv penv.clsFuel cn, d.alias.getD d.py = g.key)
    (hfit : ∀ d ∈ allFields penv penv.clsFuel cn, ∃ g ∈ Exec.collect S frags (e + 1) rt false sels [],
      g.key = d.alias.getD d.py ∧ DeclFits S frags penv e n rt g d) :
    Accepts S frags penv (e + 1) (n + 1) cn rt sels := by
  intro j hresp hj m hm
  obtain ⟨kvs, rfl⟩ := respOK_isObj _ _ _ _ _ _ hresp
  obtain ⟨g, rfl⟩ : ∃ g, m = g + 1 := ⟨m - 1, by omega⟩
  rw [respOK_groups, Bool.and_eq_true] at hresp
  obtain ⟨hr1, hr2⟩ := hresp
  obtain ⟨hkn, hkv, _⟩ := nodupKvs_spec kvs (by simpa [nodupKeys] using hj)
  have hkeys : ∀ k ∈ kvs.map (·.1), ∃ gr ∈ Exec.collect S frags (e + 1) rt false sels [], gr.key = k := by
    intro k hk
    obtain ⟨p, hp, rfl⟩ := List.mem_map.mp hk
    obtain ⟨gr, hgr, he⟩ := List.any_eq_true.mp (List.all_eq_true.mp hr1 p hp)
    exact ⟨gr, hgr, by simpa using he⟩
  have hstep : ∀ d ∈ allFields penv penv.clsFuel cn,
      (J.lookup (d.alias.getD d.py) kvs = none ∧ fieldWith penv penv.clsFuel (validate penv g) kvs d = .ok none) ∨
      (∃ v pv al py, J.lookup (d.alias.getD d.py) kvs = some v ∧
        fieldWith penv penv.clsFuel (validate penv g) kvs d = .ok (some (py, al, pv)) ∧
        al.getD py = d.alias.getD d.py ∧ J.eqv (dump pv) v = true) := by
    intro d hd
    obtain ⟨gr, hgr, hk, hf⟩ := hfit d hd
    have hg := List.all_eq_true.mp hr2 gr hgr
    unfold groupOK at hg
    have hpyl : d.py = gr.key ∨ J.lookup d.py kvs = none := by
      rcases hpop d hd with h | h
      · exact Or.inl (h.trans hk.symm)
      · refine Or.inr ((J.lookup_none_iff _ _).mpr (fun hm' => ?_))
        obtain ⟨g', hg', he⟩ := hkeys _ hm'
        exact h g' hg' he
    rw [← hk, fieldWith_gen penv penv.clsFuel (validate penv g) kvs d gr.key hf.alias hpyl]
    cases hlk : J.lookup gr.key kvs with
    | none =>
      rw [hlk] at hg
      exact Or.inl ⟨rfl, by simp only [hf.dflt hg, if_true]⟩
    | some v =>
      rw [hlk] at hg
      obtain ⟨pv, hpv, hev⟩ := hf.value v (hkv _ (J.lookup_mem hlk)) hg g (by omega)
      exact Or.inr ⟨v, pv, d.alias, d.py, rfl, by simp only [hpv], hk.symm, hev⟩
  obtain ⟨fs, hfs, heq, hkeysD⟩ := mapE_fields (fieldWith penv penv.clsFuel (validate penv g) kvs) kvs
    (fun d => d.alias.getD d.py) (allFields penv penv.clsFuel cn) hstep
  -- the dump has as many members as the answer: the declared keys are distinct, and all keys of the answer are declared
  have hkeysND : ((allFields penv penv.clsFuel cn).map (fun d => d.alias.getD d.py)).Nodup := by
    have : (allFields penv penv.clsFuel cn).map (·.py) =
        ((allFields penv penv.clsFuel cn).map (fun d => d.alias.getD d.py)).map py := by
      rw [List.map_map]
      exact List.map_congr_left hpy
    rw [this] at hpys
    exact Lists.nodup_of_map hpys
  refine ⟨.model cn (fs.filterMap id), ?_, ?_⟩
  · rw [validate_cls_succ]
    unfold modelWith
    simp only [hc, hfs]
  · simp only [dump, J.eqv, Bool.and_eq_true, beq_iff_eq]
    refine ⟨length_of_keys _ kvs _ hkeysD hkeysND hkn (fun k hk => ?_), heq⟩
    obtain ⟨gr, hgr, rfl⟩ := hkeys k hk
    obtain ⟨d, hd, hdk⟩ := hcov gr hgr
    exact List.mem_map.mpr ⟨d, hd, hdk⟩

/-- `hsub` is the induction hypothesis of the caller, at the class of the sub-selection -/
theorem DeclFits.plainField (env : ResultTypes.Env) (penv : Pyd.Env) (frags : List Fragment)
    (ha : ResultLeaf.EnvAgrees env penv) (e n : Nat) (rt : String) (g : Exec.Collected) (d : FieldDecl)
    (T : TypeRef) (base : Ann) (dirs : List Directive)
    (halias : d.alias = if d.py != g.key then some g.key else none)
    (hdisc : d.discriminator = false) (hann : d.ann = condAnn (wrapAnn base true T) dirs)
    (hdflt : g.conditional = true → d.defaultNone = true)
    (hname : (g.name == Tables.typenameFieldName) = false)
    (hfd : ∃ fd, env.schema.fieldOf? rt g.name = some fd ∧ fd.type = T)
    (hleaf : g.subs.isEmpty = true →
      base = ResultLeaf.leafBase env T.base ∧ isLeafName env T.base = true ∧ wneed T + 2 ≤ n)
    (hsub : g.subs.isEmpty = false → ∃ C n', base = .cls C ∧ n' + wneed T + 1 ≤ n ∧
      ∀ rt' ∈ Exec.runtimeTypes env.schema T.base, Accepts env.schema frags penv e n' C rt' g.subs) :
    DeclFits env.schema frags penv e n rt g d := by
  refine ⟨halias, hdflt, fun v hnd hv m hm => ?_⟩
  obtain ⟨fd, hfd1, rfl⟩ := hfd
  simp only [valueOK, hname, Bool.false_eq_true, if_false, hfd1] at hv
  rw [fieldRec_plain _ _ _ _ _ hdisc, hann]
  by_cases hs : g.subs.isEmpty = true
  · obtain ⟨rfl, hl, hn⟩ := hleaf hs
    simp only [hs, if_true] at hv
    rw [complete_leaf] at hv
    exact leaf_rt env penv ha fd.type hl dirs v hnd hv m (by omega)
  · have hs' : g.subs.isEmpty = false := by simpa using hs
    obtain ⟨C, n', rfl, hn, hC⟩ := hsub hs'
    simp only [hs', Bool.false_eq_true, if_false] at hv
    refine condAnn_rt penv _ dirs v (n' + wneed fd.type) ?_ m (by omega)
    intro fuel hfuel
    refine wrap_rt penv (.cls C) _ n' fd.type ?_ true v fuel hfuel hnd hv
    intro g' hg' v' hnd' hP
    obtain ⟨rt', hrt', hr⟩ := List.any_eq_true.mp hP
    exact hC rt' hrt' v' hr hnd' g' hg'

theorem validate_disc_succ (penv : Pyd.Env) (g : Nat) (as : List Ann) (j : J) :
    validate penv (g + 1) (.disc (.union as)) j = taggedWith penv penv.clsFuel (validate penv g) as j := rfl

theorem firstOk_variant (f : Ann → Except VErr PV) (lit : String × String → List String) (tag : String)
    (p0 : String × String) (v : PV) (hv : f (.cls p0.1) = .ok v) :
    ∀ (ps : List (String × String)),
      (∀ p ∈ ps, (lit p).contains tag = false → ∃ e, f (.cls p.1) = .error e) →
      ps.find? (fun p => (lit p).contains tag) = some p0 →
      firstOk f VErr.noUnionMember (ps.map fun p => Ann.cls p.1) = .ok v := by
  intro ps
  induction ps with
  | nil => intro _ h; simp at h
  | cons p rest ih =>
    intro h hfind
    rw [List.find?_cons] at hfind
    simp only [List.map_cons, firstOk]
    cases hc : (lit p).contains tag with
    | true =>
      simp only [hc] at hfind
      cases hfind
      simp only [hv]
    | false =>
      simp only [hc] at hfind
      obtain ⟨e, he⟩ := h p List.mem_cons_self hc
      simp only [he]
      exact ih (fun q hq => h q (List.mem_cons_of_mem _ hq)) hfind

theorem validate_union_succ (penv : Pyd.Env) (g : Nat) (as : List Ann) (j : J) :
    validate penv (g + 1) (.union as) j = firstOk (fun a => validate penv g a j) .noUnionMember as := rfl

theorem typenameLiteral_of_mem (penv : Pyd.Env) (cn : String)
    (hnd : ((allFields penv penv.clsFuel cn).map (·.py)).Nodup)
    (d : FieldDecl) (hd : d ∈ allFields penv penv.clsFuel cn) (hpy : d.py = typenameAlias) (vs : List String)
    (hann : d.ann = .literal vs) : typenameLiteral penv penv.clsFuel cn = some vs := by
  unfold typenameLiteral
  cases hf : (allFields penv penv.clsFuel cn).find? (·.py == typenameAlias) with
  | none =>
    have := List.find?_eq_none.mp hf d hd
    simp [hpy] at this
  | some e =>
    have he := List.mem_of_find?_eq_some hf
    have hpe : e.py = typenameAlias := by simpa using List.find?_some hf
    have := Lists.eq_of_nodup_map (f := (·.py)) hnd he hd (by rw [hpe, hpy])
    subst this
    simp [hann]

theorem taggedWith_variant (penv : Pyd.Env) (rec : Ann → J → Except VErr PV) (lit : String × String → List String)
    (tag : String) (kvs : List (String × J)) (htag : J.lookup typenameField kvs = some (.str tag)) (p0 : String × String) :
    ∀ (ps : List (String × String)),
      (∀ p ∈ ps, typenameLiteral penv penv.clsFuel p.1 = some (sortStr (lit p))) →
      ps.find? (fun p => (lit p).contains tag) = some p0 →
      taggedWith penv penv.clsFuel rec (ps.map fun p => Ann.cls p.1) (.obj kvs) = rec (.cls p0.1) (.obj kvs) := by
  intro ps
  induction ps with
  | nil => intro _ h; simp at h
  | cons p rest ih =>
    intro h hfind
    have hp := h p List.mem_cons_self
    have ih' := ih (fun q hq => h q (List.mem_cons_of_mem _ hq))
    simp only [taggedWith, htag, List.map_cons, List.find?_cons, annClassName?, hp, Option.getD_some, contains_sortStr] at ih' ⊢
    rw [List.find?_cons] at hfind
    cases hc : (lit p).contains tag with
    | true =>
      simp only [hc] at hfind ⊢
      cases hfind
      rfl
    | false =>
      simp only [hc] at hfind ⊢
      exact ih' hfind

/-- an object position with several variant classes `ps` (class name, type), the variant `p` carrying the `typename__`
    literal `lit p`: the answer names its runtime type, the first variant whose literal contains it is chosen, and accepts -/
theorem tagged_accepts (S : Schema) (frags : List Fragment) (penv : Pyd.Env) (e n : Nat) (subs : List Selection)
    (ps : List (String × String)) (lit : String × String → List String) (rts : List String)
    (hlits : ∀ p ∈ ps, typenameLiteral penv penv.clsFuel p.1 = some (sortStr (lit p)))
    (hcover : ∀ rt' ∈ rts, ∃ p ∈ ps, rt' ∈ lit p)
    (hacc : ∀ p ∈ ps, ∀ rt' ∈ rts, rt' ∈ lit p → Accepts S frags penv e n p.1 rt' subs)
    (htag : ∀ rt' ∈ rts, ∀ kvs, Exec.respOK S frags e rt' subs (.obj kvs) = true →
      J.lookup typenameField kvs = some (.str rt'))
    (v : J) (hnd : nodupKeys v = true) (hP : (rts.any fun rt' => Exec.respOK S frags e rt' subs v) = true)
    (m : Nat) (hm : n ≤ m) :
    RT (taggedWith penv penv.clsFuel (validate penv m) (ps.map fun p => Ann.cls p.1) v) v := by
  obtain ⟨rt', hrt', hresp⟩ := List.any_eq_true.mp hP
  obtain ⟨kvs, rfl⟩ := respOK_isObj _ _ _ _ _ _ hresp
  obtain ⟨p1, hp1, hl1⟩ := hcover rt' hrt'
  cases hfind : ps.find? (fun p => (lit p).contains rt') with
  | none => simpa [hl1] using List.find?_eq_none.mp hfind p1 hp1
  | some p0 =>
    rw [taggedWith_variant penv (validate penv m) lit rt' kvs (htag rt' hrt' kvs hresp) p0 ps hlits hfind]
    exact hacc p0 (List.mem_of_find?_eq_some hfind) rt' hrt' (by simpa using List.find?_some hfind) _ hresp hnd m hm

/-- the same position when `@skip/@include` has turned the bare `Union[..]` into `Optional[Union[..]]` (smart mode: the first
    member that validates): the variants whose literal does not contain the runtime type reject the answer -/
theorem smart_accepts (S : Schema) (frags : List Fragment) (penv : Pyd.Env) (e n : Nat) (subs : List Selection)
    (ps : List (String × String)) (lit : String × String → List String) (rts : List String)
    (hcover : ∀ rt' ∈ rts, ∃ p ∈ ps, rt' ∈ lit p)
    (hacc : ∀ p ∈ ps, ∀ rt' ∈ rts, rt' ∈ lit p → Accepts S frags penv e n p.1 rt' subs)
    (htag : ∀ rt' ∈ rts, ∀ kvs, Exec.respOK S frags e rt' subs (.obj kvs) = true →
      J.lookup typenameField kvs = some (.str rt'))
    (hrej : ∀ p ∈ ps, ∀ tag kvs, J.lookup typenameField kvs = some (.str tag) → tag ∉ lit p →
      ∀ m, ∃ err, validate penv m (.cls p.1) (.obj kvs) = .error err)
    (v : J) (hnd : nodupKeys v = true) (hP : (rts.any fun rt' => Exec.respOK S frags e rt' subs v) = true)
    (m : Nat) (hm : n ≤ m) :
    RT (firstOk (fun a => validate penv m a v) .noUnionMember (ps.map fun p => Ann.cls p.1)) v := by
  obtain ⟨rt', hrt', hresp⟩ := List.any_eq_true.mp hP
  obtain ⟨kvs, rfl⟩ := respOK_isObj _ _ _ _ _ _ hresp
  obtain ⟨p1, hp1, hl1⟩ := hcover rt' hrt'
  cases hfind : ps.find? (fun p => (lit p).contains rt') with
  | none => simpa [hl1] using List.find?_eq_none.mp hfind p1 hp1
  | some p0 =>
    obtain ⟨pv, hpv, he⟩ := hacc p0 (List.mem_of_find?_eq_some hfind) rt' hrt' (by simpa using List.find?_some hfind) _ hresp hnd m hm
    exact ⟨pv, firstOk_variant (fun a => validate penv m a (.obj kvs)) lit rt' p0 pv hpv ps
      (fun p hp hnc => hrej p hp rt' kvs (htag rt' hrt' kvs hresp) (by simpa using hnc) m) hfind, he⟩

/-- **a declaration annotated with the `Union[..]` of several variant classes serves a composite group**: the field itself is the
    discriminated union (no wrapper, no `@skip/@include`), or `Optional[Union[..]]` validated in smart mode (no wrapper,
    `@skip/@include`), or the union sits discriminated below `Optional`/`List` wrappers -/
theorem DeclFits.unionField (S : Schema) (frags : List Fragment) (penv : Pyd.Env) (e n n' : Nat) (rt : String)
    (g : Exec.Collected) (d : FieldDecl) (T : TypeRef) (dirs : List Directive)
    (ps : List (String × String)) (lit : String × String → List String)
    (halias : d.alias = if d.py != g.key then some g.key else none) (hdflt : g.conditional = true → d.defaultNone = true)
    (hann : d.ann = condAnn (annotateTop (wrapAnn (.union (ps.map fun p => Ann.cls p.1)) true T)) dirs)
    (hdisc : d.discriminator = isUnionAnn d.ann)
    (hname : (g.name == Tables.typenameFieldName) = false) (hfd : ∃ fd, S.fieldOf? rt g.name = some fd ∧ fd.type = T)
    (hsubs : g.subs.isEmpty = false) (hn : n' + wneed T + 2 ≤ n)
    (hlits : ∀ p ∈ ps, typenameLiteral penv penv.clsFuel p.1 = some (sortStr (lit p)))
    (hcover : ∀ rt' ∈ Exec.runtimeTypes S T.base, ∃ p ∈ ps, rt' ∈ lit p)
    (hacc : ∀ p ∈ ps, ∀ rt' ∈ Exec.runtimeTypes S T.base, rt' ∈ lit p → Accepts S frags penv e n' p.1 rt' g.subs)
    (htagk : ∀ rt' ∈ Exec.runtimeTypes S T.base, ∀ kvs, Exec.respOK S frags e rt' g.subs (.obj kvs) = true →
      J.lookup typenameField kvs = some (.str rt'))
    (hrej : ∀ p ∈ ps, ∀ tag kvs, J.lookup typenameField kvs = some (.str tag) → tag ∉ lit p →
      ∀ m, ∃ err, validate penv m (.cls p.1) (.obj kvs) = .error err) :
    DeclFits S frags penv e n rt g d := by
  obtain ⟨fd, hfr, hty⟩ := hfd
  have hallcls : AllCls (ps.map fun p => Ann.cls p.1) := fun a' ha' => by
    obtain ⟨p, _, rfl⟩ := List.mem_map.mp ha'; exact ⟨_, rfl⟩
  have htag := tagged_accepts S frags penv e n' g.subs ps lit _ hlits hcover hacc htagk
  refine ⟨halias, hdflt, fun v hnd hv m hm => ?_⟩
  simp only [valueOK, hname, Bool.false_eq_true, if_false, hfr, hty, hsubs] at hv
  have hw := wneed_pos T
  rcases wrap_union_shape (ps.map fun p => Ann.cls p.1) T true with ⟨hbare, hc⟩ | ⟨hwrap, hdi⟩
  · rw [hc] at hv
    rw [hbare, annotateTop_union_cls _ hallcls] at hann
    by_cases hcd : hasConditionalDirective dirs = true
    · have hann' : d.ann = .optional (.union (ps.map fun p => Ann.cls p.1)) := by
        rw [hann]; simp [condAnn, hcd, isNullableAnn]
      simp only [fieldRec, hdisc, hann', isUnionAnn, Bool.false_eq_true, if_false]
      obtain ⟨g2, rfl⟩ : ∃ g2, m = g2 + 2 := ⟨m - 2, by omega⟩
      rw [ResultLeaf.validate_optional_succ]
      cases v with
      | null => simp at hv
      | _ =>
        rw [validate_union_succ]
        exact smart_accepts S frags penv e n' g.subs ps lit _ hcover hacc htagk hrej _ hnd hv g2 (by omega)
    · have hann' : d.ann = .union (ps.map fun p => Ann.cls p.1) := by
        rw [hann]; simp [condAnn, (by simpa using hcd : hasConditionalDirective dirs = false)]
      simp only [fieldRec, hdisc, hann', isUnionAnn, if_true]
      cases v with
      | null => simp at hv
      | _ => exact htag _ hnd hv m (by omega)
  · rw [hwrap] at hann
    simp only [fieldRec, hdisc, hann, isUnionAnn_condAnn _ _ hdi, Bool.false_eq_true, if_false]
    refine condAnn_rt penv _ dirs v (n' + 1 + wneed T) ?_ m (by omega)
    intro fuel hfuel
    refine wrap_rt penv _ _ _ T ?_ true v fuel hfuel hnd hv
    intro g' hg' v' hnd' hP
    obtain ⟨g'', rfl⟩ : ∃ g'', g' = g'' + 1 := ⟨g' - 1, by omega⟩
    rw [validate_disc_succ]
    exact htag v' hnd' hP g'' (by omega)

end Ariadne.C01Accepts

namespace Ariadne.C01Plain
open Ariadne Ariadne.Gql Ariadne.C01Accepts

theorem collect_fields (S : Schema) (frags : List Fragment) (fuel : Nat) (rt : String) :
    ∀ (sels : List Selection) (acc : List Exec.Collected),
      (∀ x ∈ sels, isField x = true) → (sels.map keyOf).Nodup →
      (∀ x ∈ sels, ∀ c ∈ acc, c.key ≠ keyOf x) →
      Exec.collect S frags (fuel + 1) rt false sels acc = acc ++ sels.map collOf := by
  intro sels acc hf hnd hdisj
  exact collect_fresh S frags (fuel + 1) rt sels acc sels collOf keyOf (entries_fields S frags fuel rt sels hf)
    (fun x hx => collOf_key (hf x hx)) hnd hdisj

end Ariadne.C01Plain
