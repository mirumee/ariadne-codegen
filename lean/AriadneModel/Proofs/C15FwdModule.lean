/-
  C15: ClientForwardRefs on the methods of the client class — what `_update_name_to_constant` does to an annotation
  (which names it quotes, which names stay evaluated), the rewritten signature of a method, and the plugin state
  (`input_and_return_types`, `imported_in_method`) after the walk over all methods.
-/
import AriadneModel.Proofs.C15Shape
import AriadneModel.Proofs.C15MethodFwd
import AriadneModel.Proofs.C15Class
import AriadneModel.Model.PluginWholeF


namespace Ariadne.C15
open Ariadne.Py Ariadne.Plugins Ariadne.ClientSem

mutual
  theorem toConst_expr (cls : List (String × String)) : ∀ (e : Ex) (s s' : List String), (toConst cls e s).1 = (toConst cls e s').1
    | .name id, s, s' => by unfold toConst; split <;> rfl
    | .sub v sl, s, s' => by simp only [toConst]; rw [toConst_expr cls sl s s']
    | .tuple es, s, s' => by simp only [toConst]; rw [toConstList_expr cls es s s']
    | .const _, _, _ => by simp [toConst]
    | .attr _ _, _, _ => by simp [toConst]
    | .call _ _ _ _, _, _ => by simp [toConst]
    | .await _, _, _ => by simp [toConst]
    | .yield _, _, _ => by simp [toConst]
    | .yieldNone, _, _ => by simp [toConst]
    | .strs _, _, _ => by simp [toConst]
    | .other _ _, _, _ => by simp [toConst]
  theorem toConstList_expr (cls : List (String × String)) : ∀ (es : List Ex) (s s' : List String),
      (toConstList cls es s).1 = (toConstList cls es s').1
    | [], _, _ => by simp [toConstList]
    | e :: es, s, s' => by
      simp only [toConstList]
      rw [toConst_expr cls e s s', toConstList_expr cls es (toConst cls e s).2 (toConst cls e s').2]
end

theorem toConstList_adds (cls : List (String × String)) : ∀ (es : List Ex) (s : List String) (n : String),
      n ∈ annLeafNamesList es → ahas n cls = true → n ∈ (toConstList cls es s).2 :=
  fun es s n h hc => (toConstList_mem cls es s n).mpr (.inr ⟨h, hc⟩)

mutual
  theorem toConst_names (cls : List (String × String)) : ∀ (e : Ex) (s : List String) (n : String),
      n ∈ exNames (toConst cls e s).1 → n ∈ exNames e
    | .name id, s, n => by
      unfold toConst
      split
      · simp [exNames]
      · exact fun h => h
    | .sub v sl, s, n => by
      simp only [toConst, exNames, List.mem_append]
      rintro (h | h)
      · exact .inl h
      · exact .inr (toConst_names cls sl s n h)
    | .tuple es, s, n => by
      simp only [toConst, exNames]
      exact toConstList_names cls es s n
    | .const _, _, _ => by simp [toConst]
    | .attr _ _, _, _ => by simp [toConst]
    | .call _ _ _ _, _, _ => by simp [toConst]
    | .await _, _, _ => by simp [toConst]
    | .yield _, _, _ => by simp [toConst]
    | .yieldNone, _, _ => by simp [toConst]
    | .strs _, _, _ => by simp [toConst]
    | .other _ _, _, _ => by simp [toConst]
  theorem toConstList_names (cls : List (String × String)) : ∀ (es : List Ex) (s : List String) (n : String),
      n ∈ exNamesList (toConstList cls es s).1 → n ∈ exNamesList es
    | [], _, _ => by simp [toConstList]
    | e :: es, s, n => by
      simp only [toConstList, exNamesList, List.mem_append]
      rintro (h | h)
      · exact .inl (toConst_names cls e s n h)
      · exact .inr (toConstList_names cls es _ n h)
end


theorem fwdRewriteArgs_spec (IC : List (String × String)) : ∀ (args : List (String × Option Ex)) (s : List String),
    (fwdRewriteArgs IC args s).1 = argsQuoted IC args ∧
    (∀ n, n ∈ (fwdRewriteArgs IC args s).2 ↔
      n ∈ s ∨ (n ∈ args.flatMap (fun a => match a.2 with | some e => annLeafNames e | none => []) ∧ ahas n IC = true)) := by
  intro args
  induction args with
  | nil => intro s; simp [fwdRewriteArgs, argsQuoted]
  | cons a rest ih =>
    intro s
    obtain ⟨nm, ann⟩ := a
    cases ann with
    | none =>
      obtain ⟨h1, h2⟩ := ih s
      simp only [fwdRewriteArgs, argsQuoted, List.map_cons, Option.map_none, List.flatMap_cons, List.nil_append]
      refine ⟨by rw [h1]; rfl, h2⟩
    | some e =>
      obtain ⟨h1, h2⟩ := ih (toConst IC e s).2
      simp only [fwdRewriteArgs, argsQuoted, List.map_cons, Option.map_some, List.flatMap_cons, List.mem_append]
      refine ⟨by rw [h1]; simp [argsQuoted, quoted, toConst_expr IC e s []], ?_⟩
      intro n
      rw [h2 n]
      constructor
      · rintro (h | ⟨h, hc⟩)
        · rcases (toConst_mem IC e s n).mp h with h' | ⟨h', hc⟩
          · exact .inl h'
          · exact .inr ⟨.inl h', hc⟩
        · exact .inr ⟨.inr h, hc⟩
      · rintro (h | ⟨h | h, hc⟩)
        · exact .inl ((toConst_mem IC e s n).mpr (.inl h))
        · exact .inl ((toConst_mem IC e s n).mpr (.inr ⟨h, hc⟩))
        · exact .inr ⟨h, hc⟩

theorem fwdSignature_spec (st : FwdState) (m : Method) :
    (fwdSignature st m).1 = argsQuoted st.importedClasses m.args ∧
    (fwdSignature st m).2.1 = m.returns.map (quoted st.importedClasses) ∧
    (∀ n, n ∈ (fwdSignature st m).2.2 ↔ n ∈ st.inputAndReturnTypes ∨ (n ∈ sigLeaves m ∧ ahas n st.importedClasses = true)) := by
  obtain ⟨a1, a2⟩ := fwdRewriteArgs_spec st.importedClasses m.args st.inputAndReturnTypes
  unfold fwdSignature sigLeaves
  cases hr : m.returns with
  | none =>
    simp only [Option.map_none, List.append_nil]
    exact ⟨a1, trivial, a2⟩
  | some r =>
    simp only [Option.map_some, List.mem_append]
    refine ⟨a1, by simp [quoted, toConst_expr st.importedClasses r _ []], ?_⟩
    intro n
    constructor
    · intro h
      rcases (toConst_mem st.importedClasses r _ n).mp h with h' | ⟨h', hc⟩
      · rcases (a2 n).mp h' with h'' | ⟨h'', hc⟩
        · exact .inl h''
        · exact .inr ⟨.inl h'', hc⟩
      · exact .inr ⟨.inr h', hc⟩
    · rintro (h | ⟨h | h, hc⟩)
      · exact (toConst_mem _ r _ n).mpr (.inl ((a2 n).mpr (.inl h)))
      · exact (toConst_mem _ r _ n).mpr (.inl ((a2 n).mpr (.inr ⟨h, hc⟩)))
      · exact (toConst_mem _ r _ n).mpr (.inr ⟨h, hc⟩)

/-- what ClientForwardRefs makes of a method of the generated shape whose validated class is a locally imported one -/
def FwdOutcome (IC : List (String × String)) (md md' : Method) : Prop :=
  ∃ s src, shapeOf md = some s ∧ alookup s.retClass IC = some src ∧
    md' = { md with args := argsQuoted IC md.args, returns := md.returns.map (quoted IC),
                    body := bodyOf (withImport s { module := some src, names := [(s.retClass, none)], level := 0 }) }

def FwdMethodsOK (IC : List (String × String)) (methods : List Method) : Prop :=
  ∀ md ∈ methods, ∃ s src, shapeOf md = some s ∧ s.proj.length ≤ 1 ∧ alookup s.retClass IC = some src

theorem fwd_methods_spec : ∀ (items : List ClassItem) (st : FwdState),
    FwdMethodsOK st.importedClasses (items.filterMap ClassItem.method?) →
    ∃ r, mapMethodsM fwdMethod st items = .ok r ∧
    r.1.importedClasses = st.importedClasses ∧
    ItemsRel (FwdOutcome st.importedClasses) items r.2 ∧
    (∀ n, n ∈ r.1.inputAndReturnTypes ↔ n ∈ st.inputAndReturnTypes ∨
      ∃ md ∈ items.filterMap ClassItem.method?, n ∈ sigLeaves md ∧ ahas n st.importedClasses = true) ∧
    (∀ n, n ∈ r.1.importedInMethod ↔ n ∈ st.importedInMethod ∨
      ∃ md ∈ items.filterMap ClassItem.method?, ∃ s, shapeOf md = some s ∧ n = s.retClass) := by
  intro items
  induction items with
  | nil => intro st _; exact ⟨(st, []), rfl, rfl, .nil, by simp, by simp⟩
  | cons it rest ih =>
    intro st hok
    cases it with
    | method m =>
      obtain ⟨s, src, hsh, hp, hsrc⟩ := hok m (by simp [ClassItem.method?])
      have hfm := fwd_method st m s src (shapeOf_sound m s hsh) hp hsrc
      obtain ⟨r, hrest, j1, j2, j3, j4⟩ :=
        ih { st with inputAndReturnTypes := (fwdSignature st m).2.2, importedInMethod := sadd s.retClass st.importedInMethod }
          (fun md hmd => hok md (by simp [ClassItem.method?, hmd]))
      obtain ⟨g1, g2, g3⟩ := fwdSignature_spec st m
      refine ⟨(r.1, _ :: r.2), by simp only [mapMethodsM, hfm, bind_ok, hrest]; rfl, j1, .method ⟨s, src, hsh, hsrc, by rw [g1, g2]⟩ j2, ?_, ?_⟩
      · intro n
        rw [j3 n, g3 n]
        simp only [List.filterMap_cons, ClassItem.method?, List.mem_cons, exists_eq_or_imp]
        constructor
        · rintro ((h | h) | h)
          · exact .inl h
          · exact .inr (.inl h)
          · exact .inr (.inr h)
        · rintro (h | h | h)
          · exact .inl (.inl h)
          · exact .inl (.inr h)
          · exact .inr h
      · intro n
        rw [j4 n, mem_sadd]
        simp only [List.filterMap_cons, ClassItem.method?, List.mem_cons, exists_eq_or_imp]
        constructor
        · rintro ((h | h) | h)
          · exact .inl h
          · exact .inr (.inl ⟨s, hsh, h⟩)
          · exact .inr (.inr h)
        · rintro (h | ⟨s', hs', h⟩ | h)
          · exact .inl (.inl h)
          · rw [hsh] at hs'
            cases hs'
            exact .inl (.inr h)
          · exact .inr h
    | stmt sm =>
      obtain ⟨r, hrest, j1, j2, j3, j4⟩ := ih st (fun md hmd => hok md (by simpa [ClassItem.method?] using hmd))
      exact ⟨(r.1, _ :: r.2), by simp only [mapMethodsM, hrest, bind_ok]; rfl, j1, .other j2, by simpa [ClassItem.method?] using j3,
        by simpa [ClassItem.method?] using j4⟩

end Ariadne.C15
