/-
  Lemmas for C06 about the module around the classes (`Model/InputDeps.lean`): `generate` is total,
  every enum an emitted class is typed with is imported, every input class an emitted class refers
  to is emitted, and a default expression mentions only `<field_type>.<enum literal of the default>`.
  The DFS facts are C09's (`Proofs/Prune.lean`), instantiated with the table computed from the
  definitions.
-/
import AriadneModel.Model.InputDeps
import AriadneModel.Proofs.Prune
import AriadneModel.Proofs.InputField
import AriadneModel.Proofs.InputGen
import AriadneModel.Proofs.CoerceInput


namespace Ariadne.C06Deps
open Ariadne.InputGen (TypeRef Lit PyExpr InputField TypeDef Mode constValue constValues constFields)
open Ariadne.InputField Ariadne.InputSource Ariadne.InputDeps

theorem annOf_ft (kinds : String → Kind) (t : TypeRef) (nl : Bool) (a : Ann) (ft : String)
    (h : annOf kinds t nl = some (a, ft)) : (namedAnn kinds t.base).map (·.2) = some ft := by
  rw [annOf_eq] at h
  cases hn : namedAnn kinds t.base with
  | none => simp [hn] at h
  | some p => simp only [hn, Option.map_some, Option.some.injEq, Prod.mk.injEq] at h ⊢; exact h.2

theorem annOf_total (kinds : String → Kind) (t : TypeRef) (nl : Bool) (ft : String)
    (h : (namedAnn kinds t.base).map (·.2) = some ft) : ∃ a, annOf kinds t nl = some (a, ft) := by
  rw [annOf_eq]
  cases hn : namedAnn kinds t.base with
  | none => simp [hn] at h
  | some p =>
    simp only [hn, Option.map_some, Option.some.injEq] at h
    exact ⟨wrapAnn t nl p.1, by simp [h]⟩

def annLeaf : Ann → Ann
  | .optional a => annLeaf a
  | .list a => annLeaf a
  | a => a

theorem annLeaf_wrap (nl : Bool) (a : Ann) : annLeaf (wrapNullable nl a) = annLeaf a := by
  cases nl <;> rfl

theorem annLeaf_wrapAnn (t : TypeRef) (nl : Bool) (X : Ann) : annLeaf (wrapAnn t nl X) = annLeaf X := by
  induction t generalizing nl with
  | named n => exact annLeaf_wrap nl X
  | list t ih => simp only [wrapAnn, annLeaf_wrap, annLeaf, ih]
  | nonNull t ih => exact ih false

theorem annOf_leaf (kinds : String → Kind) (t : TypeRef) (nl : Bool) (a : Ann) (ft : String)
    (h : annOf kinds t nl = some (a, ft)) :
    (kinds t.base = .enum → annLeaf a = .name t.base) ∧ (kinds t.base = .input → annLeaf a = .fwd t.base) := by
  rw [annOf_eq] at h
  cases hn : namedAnn kinds t.base with
  | none => simp [hn] at h
  | some p =>
    simp only [hn, Option.map_some, Option.some.injEq, Prod.mk.injEq] at h
    rw [← h.1, annLeaf_wrapAnn]
    constructor <;> intro hk <;> simp [namedAnn, hk] at hn <;> simp [← hn, annLeaf]

theorem fieldRef_enum (kinds : String → Kind) (f : InputField) (hk : kinds f.type.base = .enum) (hne : f.type.base ≠ "") :
    fieldRef kinds f = some (.enum f.type.base) := by
  obtain ⟨a, ha⟩ := annOf_total kinds f.type true f.type.base (by simp [namedAnn, hk])
  simp [fieldRef, ha, refOf, hne, hk]

theorem fieldRef_input (kinds : String → Kind) (f : InputField) (hk : kinds f.type.base = .input) (hne : f.type.base ≠ "") :
    fieldRef kinds f = some (.input f.type.base) := by
  obtain ⟨a, ha⟩ := annOf_total kinds f.type true f.type.base (by simp [namedAnn, hk])
  simp [fieldRef, ha, refOf, hne, hk]

theorem mem_tableOf (m : Mode) (cfg : Cfg) (defs : List TypeDef) (n : String) (fs : List InputField)
    (hd : TypeDef.input n fs ∈ defs) :
    ({ name := n, fields := (InputGen.visibleFields m fs).filterMap (fieldRef (kindOf cfg defs)) } : Prune.InputDef)
      ∈ tableOf m cfg defs := by
  unfold tableOf
  exact List.mem_filterMap.mpr ⟨_, hd, rfl⟩

theorem mem_classesSrc (m : Mode) (cfg : Cfg) (defs : List TypeDef) (n : String) (fs : List InputField)
    (hd : TypeDef.input n fs ∈ defs) :
    genClassSrc m cfg (kindOf cfg defs) n fs ∈ classesSrc m cfg defs := by
  unfold classesSrc
  exact List.mem_filterMap.mpr ⟨_, hd, rfl⟩

theorem generate_some (m : Mode) (cfg : Cfg) (defs : List TypeDef) (roots : Option (List String)) (mod : Module)
    (h : generate m cfg defs roots = some mod) :
    ∃ cds, Prune.filterInputDefs (tableOf m cfg defs) roots = some cds ∧
      mod.classes = (classesSrc m cfg defs).filter (fun c => (cds.map (·.name)).contains c.name) ∧
      mod.enumImport = Prune.inputsUsedEnums (tableOf m cfg defs) (cds.map (·.name)) := by
  unfold generate at h
  cases hf : Prune.filterInputDefs (tableOf m cfg defs) roots with
  | none => simp [hf] at h
  | some cds =>
    simp only [hf, Option.some.injEq] at h
    subst h
    exact ⟨cds, rfl, rfl, rfl⟩

/-- the fuelled DFS never runs dry: `generate(types_to_include)` answers for every schema, source and list of roots -/
theorem generate_total (m : Mode) (cfg : Cfg) (defs : List TypeDef) (roots : Option (List String)) :
    ∃ mod, generate m cfg defs roots = some mod := by
  obtain ⟨cds, h⟩ := Prune.filterInputDefs_total (tableOf m cfg defs) roots
  exact ⟨⟨(classesSrc m cfg defs).filter (fun c => (cds.map (·.name)).contains c.name),
    Prune.inputsUsedEnums (tableOf m cfg defs) (cds.map (·.name))⟩, by simp only [generate, h]⟩

theorem emitted_name_kept {m : Mode} {cfg : Cfg} {defs : List TypeDef} {cds : List Prune.InputDef} {mod : Module}
    (hc : mod.classes = (classesSrc m cfg defs).filter (fun c => (cds.map (·.name)).contains c.name))
    (n : String) (hn : n ∈ mod.classes.map (·.name)) : n ∈ cds.map (·.name) := by
  rw [hc] at hn
  obtain ⟨c, hcm, rfl⟩ := List.mem_map.mp hn
  have := (List.mem_filter.mp hcm).2
  simpa using this

theorem kept_name_emitted {m : Mode} {cfg : Cfg} {defs : List TypeDef} {cds : List Prune.InputDef} {mod : Module}
    (hc : mod.classes = (classesSrc m cfg defs).filter (fun c => (cds.map (·.name)).contains c.name))
    (n : String) (fs : List InputField) (hd : TypeDef.input n fs ∈ defs) (hn : n ∈ cds.map (·.name)) :
    n ∈ mod.classes.map (·.name) := by
  rw [hc]
  refine List.mem_map.mpr ⟨genClassSrc m cfg (kindOf cfg defs) n fs, List.mem_filter.mpr ⟨mem_classesSrc m cfg defs n fs hd, ?_⟩, rfl⟩
  simpa [genClassSrc] using hn

theorem used_enum_imported (m : Mode) (cfg : Cfg) (defs : List TypeDef) (roots : Option (List String)) (mod : Module)
    (h : generate m cfg defs roots = some mod)
    (n : String) (fs : List InputField) (hd : TypeDef.input n fs ∈ defs) (hn : n ∈ mod.classes.map (·.name))
    (f : InputField) (hf : f ∈ InputGen.visibleFields m fs)
    (hk : kindOf cfg defs f.type.base = .enum) (hne : f.type.base ≠ "") :
    f.type.base ∈ mod.enumImport := by
  obtain ⟨cds, _, hc, he⟩ := generate_some m cfg defs roots mod h
  have hkept := emitted_name_kept hc n hn
  rw [he]
  unfold Prune.inputsUsedEnums
  refine List.mem_flatMap.mpr ⟨n, hkept, ?_⟩
  rw [Prune.mem_usedEnumsOf]
  refine ⟨_, mem_tableOf m cfg defs n fs hd, rfl, ?_⟩
  unfold Prune.enumRefs
  refine List.mem_filterMap.mpr ⟨.enum f.type.base, ?_, rfl⟩
  exact List.mem_filterMap.mpr ⟨f, hf, fieldRef_enum _ f hk hne⟩

theorem dependency_emitted (m : Mode) (cfg : Cfg) (defs : List TypeDef) (roots : Option (List String)) (mod : Module)
    (h : generate m cfg defs roots = some mod)
    (n : String) (fs : List InputField) (hd : TypeDef.input n fs ∈ defs) (hn : n ∈ mod.classes.map (·.name))
    (f : InputField) (hf : f ∈ InputGen.visibleFields m fs)
    (hk : kindOf cfg defs f.type.base = .input) (hne : f.type.base ≠ "") :
    f.type.base ∈ mod.classes.map (·.name) := by
  obtain ⟨cds, hfil, hc, _⟩ := generate_some m cfg defs roots mod h
  obtain ⟨c, hcm, hcn⟩ := List.mem_map.mp (emitted_name_kept hc n hn)
  obtain ⟨fs', hd'⟩ := kindOf_input hk
  refine kept_name_emitted hc _ fs' hd' ?_
  -- the class is kept, it refers to the field's type, and what is kept is closed under references
  have hdep : f.type.base ∈ Prune.depsOf (tableOf m cfg defs) c.name := by
    rw [hcn, Prune.mem_depsOf]
    refine ⟨_, mem_tableOf m cfg defs n fs hd, rfl, ?_⟩
    unfold Prune.inputRefs
    refine List.mem_filterMap.mpr ⟨.input f.type.base, ?_, rfl⟩
    exact List.mem_filterMap.mpr ⟨f, hf, fieldRef_input _ f hk hne⟩
  exact List.mem_map.mpr ⟨_, (Prune.filterInputDefs_spec hfil).2.1 c hcm _ hdep _ (mem_tableOf m cfg defs _ fs' hd') rfl, rfl⟩

mutual
  theorem exprNames_constValue (ft : String) : ∀ (l : Lit) (nl no : Bool),
      exprNames (constValue ft l nl no) = (litEnums l).map (fun v => ft ++ "." ++ v)
    | .int _, _, _ => by simp [constValue, exprNames, litEnums]
    | .float _, _, _ => by simp [constValue, exprNames, litEnums]
    | .str _, _, _ => by simp [constValue, exprNames, litEnums]
    | .bool _, _, _ => by simp [constValue, exprNames, litEnums]
    | .null, _, _ => by simp [constValue, exprNames, litEnums]
    | .enum v, _, _ => by simp [constValue, exprNames, litEnums]
    | .list xs, nl, no => by
      have := exprNames_constValues ft xs no
      cases nl <;> simp [constValue, exprNames, litEnums, this]
    | .obj kvs, nl, no => by
      have := exprNames_constFields ft kvs
      cases no <;> simp [constValue, exprNames, litEnums, this]
  theorem exprNames_constValues (ft : String) : ∀ (xs : List Lit) (no : Bool),
      exprNamesL (constValues ft xs no) = (litEnumsL xs).map (fun v => ft ++ "." ++ v)
    | [], _ => by simp [constValues, exprNamesL, litEnumsL]
    | x :: xs, no => by
      simp [constValues, exprNamesL, litEnumsL, exprNames_constValue ft x true no, exprNames_constValues ft xs no]
  theorem exprNames_constFields (ft : String) : ∀ (kvs : List (String × Lit)),
      exprNamesKv (constFields ft kvs) = (litEnumsKv kvs).map (fun v => ft ++ "." ++ v)
    | [] => by simp [constFields, exprNamesKv, litEnumsKv]
    | (k, v) :: rest => by
      simp [constFields, exprNamesKv, litEnumsKv, exprNames_constValue ft v true true, exprNames_constFields ft rest]
end

theorem fieldDefault_names (m : Mode) (ft : String) (f : InputField) (e : PyExpr)
    (h : InputGen.fieldDefault m ft f = some e) (s : String) (hs : s ∈ exprNames e) :
    m = .sdl ∧ ∃ lit, f.default = some lit ∧ ∃ v ∈ litEnums lit, s = ft ++ "." ++ v := by
  cases m with
  | intro b =>
    rw [InputGen.fieldDefault_intro_cases] at h
    split at h
    · simp at h
    · simp only [Option.some.injEq] at h; subst h; simp [exprNames] at hs
  | sdl =>
    unfold InputGen.fieldDefault at h
    cases hd : f.default with
    | none =>
      simp only [hd] at h
      split at h
      · simp only [Option.some.injEq] at h; subst h; simp [exprNames] at hs
      · simp at h
    | some lit =>
      simp only [hd, Option.some.injEq] at h
      subst h
      rw [exprNames_constValue] at hs
      obtain ⟨v, hv, rfl⟩ := List.mem_map.mp hs
      exact ⟨rfl, lit, rfl, v, hv, rfl⟩

open Ariadne.CoerceInput in
theorem litLeaf_enum (s : CSchema) (n : String) (vals : List String) (hs : s.find? n = some (.enum n vals))
    (l : Lit) (d : J) (h : litLeaf s n l = .ok d) : ∀ v ∈ litEnums l, v ∈ vals := by
  intro v hv
  unfold litLeaf at h
  cases l with
  | enum x =>
    simp only [litEnums, List.mem_singleton] at hv
    subst hv
    cases hb : litBuiltin n (.enum v) with
    | some r =>
      obtain ⟨e, rfl⟩ := litBuiltin_nonscalar hb rfl
      simp [hb] at h
    | none =>
      simp only [hb, hs] at h
      split at h
      · next hc => simpa using hc
      · simp at h
  | list xs =>
    cases hb : litBuiltin n (.list xs) with
    | some r =>
      obtain ⟨e, rfl⟩ := litBuiltin_nonscalar hb rfl
      simp [hb] at h
    | none => simp [hb, hs] at h
  | obj kvs =>
    cases hb : litBuiltin n (.obj kvs) with
    | some r =>
      obtain ⟨e, rfl⟩ := litBuiltin_nonscalar hb rfl
      simp [hb] at h
    | none => simp [hb, hs] at h
  | _ => simp [litEnums] at hv

open Ariadne.CoerceInput in
mutual
  theorem coerceLit_enums (s : CSchema) (n : String) (vals : List String) (hs : s.find? n = some (.enum n vals)) :
      ∀ (l : Lit) (t : TypeRef) (d : J), t.base = n → coerceLit s t l = .ok d → ∀ v ∈ litEnums l, v ∈ vals
    | .null, _, _, _, _ => by simp [litEnums]
    | .int _, _, _, _, _ => by simp [litEnums]
    | .float _, _, _, _, _ => by simp [litEnums]
    | .str _, _, _, _, _ => by simp [litEnums]
    | .bool _, _, _, _, _ => by simp [litEnums]
    | .enum x, t, d, hb, h => by
      unfold coerceLit at h
      obtain ⟨d', hd'⟩ := nestE_inv _ _ _ h
      rw [hb] at hd'
      exact litLeaf_enum s n vals hs _ d' hd'
    | .obj kvs, t, d, hb, h => by
      unfold coerceLit at h
      obtain ⟨d', hd'⟩ := nestE_inv _ _ _ h
      rw [hb, hs] at hd'
      exact litLeaf_enum s n vals hs _ d' hd'
    | .list xs, t, d, hb, h => by
      unfold coerceLit at h
      have hub := unNN_base t
      cases hu : CoerceInput.unNN t with
      | list it =>
        simp only [hu] at h
        cases hr : coerceLits s it xs with
        | error e => simp [hr] at h
        | ok ys =>
          have hib : it.base = n := by rw [hu] at hub; simpa [TypeRef.base, hb] using hub
          simpa [litEnums] using coerceLits_enums s n vals hs xs it ys hib hr
      | named m =>
        simp only [hu] at h
        have hm : m = n := by rw [hu] at hub; simpa [TypeRef.base, hb] using hub
        subst hm
        exact litLeaf_enum s m vals hs _ d h
      | nonNull t' => simp [hu] at h
  theorem coerceLits_enums (s : CSchema) (n : String) (vals : List String) (hs : s.find? n = some (.enum n vals)) :
      ∀ (xs : List Lit) (t : TypeRef) (ds : List J), t.base = n → coerceLits s t xs = .ok ds → ∀ v ∈ litEnumsL xs, v ∈ vals
    | [], _, _, _, _ => by simp [litEnumsL]
    | x :: xs, t, ds, hb, h => by
      unfold coerceLits at h
      cases hx : coerceLit s t x with
      | error e => simp [hx] at h
      | ok y =>
        simp only [hx] at h
        cases hr : coerceLits s t xs with
        | error e => simp [hr] at h
        | ok ys =>
          intro v hv
          simp only [litEnumsL, List.mem_append] at hv
          rcases hv with hv | hv
          · exact coerceLit_enums s n vals hs x t y hb hx v hv
          · exact coerceLits_enums s n vals hs xs t ys hb hr v hv
end

end Ariadne.C06Deps
