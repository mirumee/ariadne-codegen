/-
  Membership and duplicate-freeness of the list-as-set utilities of `Model/Util.lean`
  (`insertSorted`, `sortStr`, `dedup`, `setAdd`, `setUnion`, `sortedSet`): each is the identity on the set of
  elements, and `sortStr` of a duplicate-free list is strictly increasing (the order on `String` from core's own lemmas);
  `lookupStr` is `List.lookup`.  Facts about core notions alone are in Proofs/ListLemmas.lean.
  Core Lean only, so that every proof module can import it.
-/
import AriadneModel.Model.Util
import AriadneModel.Proofs.ListLemmas

namespace Ariadne.Util

theorem mem_insertSorted {a x : String} : ∀ {l : List String}, a ∈ insertSorted x l ↔ a = x ∨ a ∈ l
  | [] => by simp [insertSorted]
  | y :: ys => by
    simp only [insertSorted]
    split
    · simp
    · simp only [List.mem_cons, mem_insertSorted (l := ys)]
      exact or_left_comm

theorem mem_sortStr {a : String} : ∀ {l : List String}, a ∈ sortStr l ↔ a ∈ l
  | [] => by simp [sortStr]
  | x :: xs => by
    show a ∈ insertSorted x (sortStr xs) ↔ _
    rw [mem_insertSorted, mem_sortStr, List.mem_cons]

theorem contains_sortStr (l : List String) (x : String) : (sortStr l).contains x = l.contains x := by
  cases h : l.contains x with
  | true =>
    have : x ∈ l := by simpa using h
    simpa using mem_sortStr.mpr this
  | false =>
    have : x ∉ l := by simpa using h
    simpa using fun hm => this (mem_sortStr.mp hm)

theorem sortStr_isEmpty (l : List String) : (sortStr l).isEmpty = l.isEmpty := by
  cases l with
  | nil => rfl
  | cons y ys =>
    show (insertSorted y (sortStr ys)).isEmpty = false
    cases sortStr ys with
    | nil => rfl
    | cons z zs =>
      unfold insertSorted
      split <;> rfl

theorem string_lt_trichotomy (a b : String) : a < b ∨ a = b ∨ b < a := by
  by_cases h : a < b
  · exact Or.inl h
  · by_cases h' : b < a
    · exact Or.inr (Or.inr h')
    · exact Or.inr (Or.inl (String.le_antisymm (String.not_lt.mp h') (String.not_lt.mp h)))

theorem pairwise_insertSorted (x : String) (l : List String) (hl : l.Pairwise (· < ·)) (hx : x ∉ l) :
    (insertSorted x l).Pairwise (· < ·) := by
  induction l with
  | nil => simp [insertSorted]
  | cons a l ih =>
    have ha := List.pairwise_cons.mp hl
    simp only [insertSorted]
    split
    · rename_i hlt
      refine List.pairwise_cons.mpr ⟨?_, hl⟩
      intro b hb
      rcases List.mem_cons.mp hb with rfl | hb
      · exact hlt
      · exact String.lt_trans hlt (ha.1 b hb)
    · rename_i hnlt
      have hax : a < x := by
        rcases string_lt_trichotomy x a with h | h | h
        · exact (hnlt h).elim
        · exact (hx (by simp [h])).elim
        · exact h
      refine List.pairwise_cons.mpr ⟨?_, ih ha.2 (fun h => hx (by simp [h]))⟩
      intro b hb
      rcases mem_insertSorted.mp hb with rfl | hb
      · exact hax
      · exact ha.1 b hb

theorem pairwise_sortStr (l : List String) (h : l.Nodup) : (sortStr l).Pairwise (· < ·) := by
  induction l with
  | nil => simp [sortStr]
  | cons a l ih =>
    have hn := List.nodup_cons.mp h
    have : sortStr (a :: l) = insertSorted a (sortStr l) := rfl
    rw [this]
    exact pairwise_insertSorted a _ (ih hn.2) (fun hm => hn.1 (mem_sortStr.mp hm))

theorem mem_dedup {a : String} : ∀ {l : List String}, a ∈ dedup l ↔ a ∈ l
  | [] => by simp [dedup]
  | x :: xs => by
    simp only [dedup, List.mem_cons, List.mem_filter, mem_dedup (l := xs), bne_iff_ne]
    by_cases e : a = x <;> simp [e]

theorem nodup_dedup : ∀ l : List String, (dedup l).Nodup
  | [] => by simp [dedup]
  | x :: xs => by
    simp only [dedup, List.nodup_cons, List.mem_filter]
    exact ⟨fun h => by simpa using h.2, (nodup_dedup xs).sublist List.filter_sublist⟩

theorem mem_sortedSet {a : String} {l : List String} : a ∈ sortedSet l ↔ a ∈ l := by
  rw [sortedSet, mem_sortStr, mem_dedup]

theorem mem_setAdd {s : List String} {x a : String} : a ∈ setAdd s x ↔ a ∈ s ∨ a = x := by
  unfold setAdd
  split
  · rename_i h
    exact ⟨Or.inl, fun h' => h'.elim id fun e => e ▸ List.contains_iff_mem.mp h⟩
  · simp

theorem mem_setUnion {a : String} : ∀ {t s : List String}, a ∈ setUnion s t ↔ a ∈ s ∨ a ∈ t
  | [], s => by simp [setUnion]
  | x :: t, s => by
    show a ∈ setUnion (setAdd s x) t ↔ _
    rw [mem_setUnion, mem_setAdd, List.mem_cons, or_assoc]

theorem lookupStr_eq (k : String) (l : List (String × String)) : lookupStr k l = l.lookup k :=
  Lists.eq_lookup_of_eqns lookupStr (fun _ => rfl) (fun _ _ _ _ => by simp [lookupStr]) k l

theorem lookupStr_mem {k v : String} {l : List (String × String)} (h : lookupStr k l = some v) : (k, v) ∈ l :=
  Lists.lookup_mem (lookupStr_eq k l ▸ h)

theorem lookupStr_none {k : String} {l : List (String × String)} (h : lookupStr k l = none) : ∀ p ∈ l, p.1 ≠ k :=
  fun p hp e => Lists.lookup_none_iff.mp (lookupStr_eq k l ▸ h) (List.mem_map.mpr ⟨p, hp, e⟩)

theorem nodup_setAdd {s : List String} (x : String) (h : s.Nodup) : (setAdd s x).Nodup := by
  unfold setAdd
  split
  · exact h
  · rename_i hc
    rw [List.nodup_append]
    refine ⟨h, by simp, ?_⟩
    intro a ha b hb
    rw [List.mem_singleton] at hb
    subst hb
    intro hab
    subst hab
    exact hc (by simpa using ha)

theorem nodup_setUnion (t : List String) : ∀ {s : List String}, s.Nodup → (setUnion s t).Nodup := by
  induction t with
  | nil => intro s h; exact h
  | cons x xs ih =>
    intro s h
    have : setUnion s (x :: xs) = setUnion (setAdd s x) xs := rfl
    rw [this]
    exact ih (nodup_setAdd x h)

theorem length_insertSorted (x : String) (l : List String) : (insertSorted x l).length = l.length + 1 := by
  induction l with
  | nil => simp [insertSorted]
  | cons a l ih =>
    simp only [insertSorted]
    split
    · simp
    · simp [ih]

theorem length_sortStr (l : List String) : (sortStr l).length = l.length := by
  induction l with
  | nil => simp [sortStr]
  | cons a l ih =>
    have : sortStr (a :: l) = insertSorted a (sortStr l) := rfl
    rw [this, length_insertSorted, ih, List.length_cons]

theorem dedup_of_nodup (l : List String) (h : l.Nodup) : dedup l = l := by
  induction l with
  | nil => rfl
  | cons a l ih =>
    have hn := List.nodup_cons.mp h
    simp only [dedup, ih hn.2]
    rw [List.filter_eq_self.mpr fun b hb => by simpa using fun (e : b = a) => hn.1 (e ▸ hb)]

theorem length_dedup_le (l : List String) : (dedup l).length ≤ l.length := by
  induction l with
  | nil => simp [dedup]
  | cons a l ih =>
    simp only [dedup, List.length_cons]
    have := List.length_filter_le (· != a) (dedup l)
    omega

theorem length_dedup_lt (l : List String) (h : ¬ l.Nodup) : (dedup l).length < l.length := by
  induction l with
  | nil => exact absurd List.nodup_nil h
  | cons a l ih =>
    simp only [dedup, List.length_cons]
    have h2 := length_dedup_le l
    by_cases ha : a ∈ l
    · have h1 : ((dedup l).filter (· != a)).length < (dedup l).length :=
        List.length_filter_lt_length_iff_exists.mpr ⟨a, mem_dedup.mpr ha, by simp⟩
      omega
    · have h1 := ih fun hn => h (List.nodup_cons.mpr ⟨ha, hn⟩)
      have := List.length_filter_le (· != a) (dedup l)
      omega

theorem sortedSet_eq_sortStr_iff (l : List String) : sortedSet l = sortStr l ↔ l.Nodup := by
  constructor
  · intro h
    refine Classical.byContradiction fun hn => ?_
    have h1 := length_dedup_lt l hn
    have h2 : (sortedSet l).length = (sortStr l).length := by rw [h]
    unfold sortedSet at h2
    rw [length_sortStr, length_sortStr] at h2
    omega
  · intro h
    unfold sortedSet
    rw [dedup_of_nodup l h]

end Ariadne.Util
