/-
  Lemmas about Model/InputGen.lean (C06, C19): when the SDL path and the introspection path emit the
  same value for an input field, and invariance of the generated class sets under permutation of
  the schema's definitions (name lookup does not depend on the order of definitions).
-/
import AriadneModel.Model.InputGen

namespace Ariadne.InputGen

theorem constValue_none_iff (ft : String) (lit : Lit) :
    constValue ft lit false false = .none ↔ lit = .null := by
  cases lit <;> simp [constValue]

theorem optionalAnn_eq (t : TypeRef) : (!t.isNonNull || !t.isNonNull) = !t.isNonNull :=
  Bool.or_self _

theorem fieldDefault_no_default (ft : String) (f : InputField) (d : Bool) (h : f.default = none) :
    fieldDefault .sdl ft f = fieldDefault (.intro d) ft f := by
  simp [fieldDefault, h]

theorem fieldDefault_agree_iff (ft : String) (f : InputField) (d : Bool) :
    fieldDefault .sdl ft f = fieldDefault (.intro d) ft f ↔ effectiveDefault f = false := by
  unfold fieldDefault effectiveDefault
  rcases hd : f.default with _ | lit
  · simp
  · cases hn : f.type.isNonNull
    · simp only [Bool.not_false, if_true, Option.some.injEq, constValue_none_iff]
      cases lit <;> simp
    · simp only [Bool.not_true, Bool.false_eq_true, if_false]
      cases lit <;> simp

theorem fieldDefault_intro_cases (ft : String) (f : InputField) (d : Bool) :
    fieldDefault (.intro d) ft f = (if f.type.isNonNull then none else some .none) := by
  unfold fieldDefault
  cases f.type.isNonNull <;> simp

theorem fieldDefault_sdl_some (ft : String) (f : InputField) (lit : Lit) (h : f.default = some lit) :
    fieldDefault .sdl ft f = some (constValue ft lit false false) := by
  simp [fieldDefault, h]

theorem find_perm {α : Type} (p : α → Bool) : ∀ {l₁ l₂ : List α}, l₁.Perm l₂ →
    (∀ a ∈ l₁, ∀ b ∈ l₁, p a = true → p b = true → a = b) → l₁.find? p = l₂.find? p := by
  intro l₁ l₂ h
  induction h with
  | nil => intro _; rfl
  | cons x _ ih =>
    intro hu
    simp only [List.find?_cons]
    cases hx : p x
    · exact ih (fun a ha b hb => hu a (List.mem_cons_of_mem _ ha) b (List.mem_cons_of_mem _ hb))
    · rfl
  | swap x y l =>
    intro hu
    simp only [List.find?_cons]
    cases hx : p x <;> cases hy : p y <;> simp
    exact hu y (by simp) x (by simp) hy hx
  | trans h₁ h₂ ih₁ ih₂ =>
    intro hu
    rw [ih₁ hu]
    exact ih₂ (fun a ha b hb => hu a (h₁.mem_iff.mpr ha) b (h₁.mem_iff.mpr hb))

/-- type names are unique (every schema graphql-core builds has this property) -/
def NamesUnique (defs : List TypeDef) : Prop :=
  ∀ a ∈ defs, ∀ b ∈ defs, a.name = b.name → a = b

theorem NamesUnique.perm {d₁ d₂ : List TypeDef} (h : d₁.Perm d₂) (hu : NamesUnique d₁) : NamesUnique d₂ :=
  fun a ha b hb => hu a (h.mem_iff.mpr ha) b (h.mem_iff.mpr hb)

theorem findDef_perm {d₁ d₂ : List TypeDef} (h : d₁.Perm d₂) (hu : NamesUnique d₁) (n : String) :
    findDef d₁ n = findDef d₂ n := by
  unfold findDef
  apply find_perm _ h
  intro a ha b hb pa pb
  have ea : a.name = n := by simpa using pa
  have eb : b.name = n := by simpa using pb
  exact hu a ha b hb (ea.trans eb.symm)

theorem kindOf_perm {d₁ d₂ : List TypeDef} (h : d₁.Perm d₂) (hu : NamesUnique d₁) :
    kindOf d₁ = kindOf d₂ := by
  funext n
  unfold kindOf
  rw [findDef_perm h hu n]

theorem inputResults_perm (m : Mode) {d₁ d₂ : List TypeDef} (h : d₁.Perm d₂) (hu : NamesUnique d₁) :
    (inputResults m d₁).Perm (inputResults m d₂) := by
  unfold inputResults inputResultsK
  rw [kindOf_perm h hu]
  exact h.filterMap _

theorem enumResults_perm {d₁ d₂ : List TypeDef} (h : d₁.Perm d₂) :
    (enumResults d₁).Perm (enumResults d₂) := by
  unfold enumResults
  exact h.filterMap _

theorem genField_agree_iff (kinds : String → Kind) (f : InputField) (d : Bool) (a : Ann) (ft : String)
    (hann : annOf kinds f.type true = some (a, ft)) :
    genField .sdl kinds f = genField (.intro d) kinds f ↔ effectiveDefault f = false := by
  unfold genField
  simp only [hann, Option.some.injEq, FieldDecl.mk.injEq, true_and]
  exact fieldDefault_agree_iff ft f d

def AnnOk (kinds : String → Kind) (fs : List InputField) : Prop :=
  ∀ f ∈ fs, ∃ a ft, annOf kinds f.type true = some (a, ft)

theorem genInput_agree_iff (kinds : String → Kind) (name : String) (fs : List InputField) (d : Bool)
    (hv : visibleFields (.intro d) fs = fs) (hok : AnnOk kinds fs) :
    genInput .sdl kinds name fs = genInput (.intro d) kinds name fs ↔ ∀ f ∈ fs, effectiveDefault f = false := by
  unfold genInput
  rw [hv]
  have hs : visibleFields .sdl fs = fs := rfl
  rw [hs]
  simp only [ClassResult.mk.injEq, true_and]
  rw [List.map_inj_left]
  constructor
  · intro h f hf
    obtain ⟨a, ft, hann⟩ := hok f hf
    exact (genField_agree_iff kinds f d a ft hann).mp (h f hf)
  · intro h f hf
    obtain ⟨a, ft, hann⟩ := hok f hf
    exact (genField_agree_iff kinds f d a ft hann).mpr (h f hf)

theorem visibleFields_eq_of_no_deprecated (d : Bool) (fs : List InputField)
    (h : d = true ∨ ∀ f ∈ fs, f.deprecated = false) : visibleFields (.intro d) fs = fs := by
  cases d
  · rcases h with h | h
    · cases h
    · simp only [visibleFields]
      apply List.filter_eq_self.mpr
      intro f hf; simp [h f hf]
  · rfl

theorem visibleFields_length_lt (fs : List InputField) (h : ∃ f ∈ fs, f.deprecated = true) :
    (visibleFields (.intro false) fs).length < fs.length := by
  obtain ⟨f, hf, hd⟩ := h
  simp only [visibleFields]
  apply List.length_filter_lt_length_iff_exists.mpr
  exact ⟨f, hf, by simp [hd]⟩

theorem trigDefaultLost_false_iff (defs : List TypeDef) :
    trigDefaultLost defs = false ↔ ∀ n fs, TypeDef.input n fs ∈ defs → ∀ f ∈ fs, effectiveDefault f = false := by
  simp only [trigDefaultLost, List.any_eq_false]
  exact ⟨fun h n fs hm => by simpa using h _ hm, fun h d hd => by cases d <;> simp; exact h _ _ hd⟩

theorem trigDeprecatedInput_false_iff (d : Bool) (defs : List TypeDef) :
    trigDeprecatedInput d defs = false ↔
      (d = true ∨ ∀ n fs, TypeDef.input n fs ∈ defs → ∀ f ∈ fs, f.deprecated = false) := by
  cases d
  · simp only [trigDeprecatedInput, Bool.not_false, Bool.true_and, Bool.false_eq_true, false_or, List.any_eq_false]
    exact ⟨fun h n fs hm => by simpa using h _ hm, fun h d hd => by cases d <;> simp; exact h _ _ hd⟩
  · simp [trigDeprecatedInput]

theorem forall_input_cons {P : String → List InputField → Prop} (x : TypeDef) (rest : List TypeDef)
    (hx : ∀ n fs, x ≠ .input n fs) :
    (∀ n fs, TypeDef.input n fs ∈ x :: rest → P n fs) ↔ (∀ n fs, TypeDef.input n fs ∈ rest → P n fs) := by
  constructor
  · intro h n fs hm; exact h n fs (List.mem_cons_of_mem _ hm)
  · intro h n fs hm
    rcases List.mem_cons.mp hm with e | hm'
    · exact absurd e.symm (hx n fs)
    · exact h n fs hm'

theorem inputResultsK_agree_iff (K : String → Kind) (d : Bool) : ∀ (defs : List TypeDef),
    (∀ n fs, TypeDef.input n fs ∈ defs → AnnOk K fs) →
    (∀ n fs, TypeDef.input n fs ∈ defs → visibleFields (.intro d) fs = fs) →
    (inputResultsK .sdl K defs = inputResultsK (.intro d) K defs ↔
      ∀ n fs, TypeDef.input n fs ∈ defs → ∀ f ∈ fs, effectiveDefault f = false)
  | [], _, _ => by simp [inputResultsK]
  | x :: rest, hok, hv => by
    have ih := inputResultsK_agree_iff K d rest
      (fun n fs hm => hok n fs (List.mem_cons_of_mem _ hm))
      (fun n fs hm => hv n fs (List.mem_cons_of_mem _ hm))
    unfold inputResultsK at ih ⊢
    cases x with
    | input n fs =>
      simp only [List.filterMap_cons, inputOf, List.cons.injEq]
      rw [ih, genInput_agree_iff K n fs d (hv n fs (by simp)) (hok n fs (by simp))]
      constructor
      · rintro ⟨h₁, h₂⟩ n' fs' hm f hf
        rcases List.mem_cons.mp hm with e | hm'
        · cases e; exact h₁ f hf
        · exact h₂ n' fs' hm' f hf
      · intro h
        exact ⟨fun f hf => h n fs (by simp) f hf, fun n' fs' hm f hf => h n' fs' (List.mem_cons_of_mem _ hm) f hf⟩
    | _ =>
      simp only [List.filterMap_cons, inputOf]
      rw [ih]
      exact (forall_input_cons _ rest (fun n fs e => by cases e)).symm

theorem visible_of_not_trig (d : Bool) (defs : List TypeDef) (h : trigDeprecatedInput d defs = false) :
    ∀ n fs, TypeDef.input n fs ∈ defs → visibleFields (.intro d) fs = fs := by
  intro n fs hm
  apply visibleFields_eq_of_no_deprecated
  rcases (trigDeprecatedInput_false_iff d defs).mp h with h | h
  · exact Or.inl h
  · exact Or.inr (h n fs hm)

end Ariadne.InputGen
