/-
  Helper lemmas for C07 over abstract positions (Model/ResultUnion.lean, Spec/PydUnionLog.lean):

    * `finalAnn`: the annotation in which EVERY union is a tagged union, and the proof that the
      generator's pipeline (`rawAnn`, then `annotate_nested_unions` on the slice, then the field-level
      discriminator) produces exactly it, for every shape (`top_final`, `nested_final`);
    * validation of `finalAnn` calls `parse` exactly on the occurrences (`parse_once_final`), none of
      which is null (`occurrencesU_non_null`);
    * the custom-scalar imports of a result module cover every configured scalar position (`importsOfNames_total`,
      `_mem`; `client.py` collects its scalar imports with the same `importsOfNames`, and Proofs/InputImports.lean
      reduces the function of `input_types.py` to it);
    * no plain `Union[...]` is left in `finalAnn` (`hasPlainUnion`);
    * shapes without abstract positions as the special case `ofRT`: same conformant values, same occurrences,
      and `validateU` on their annotation is `validateLog` (`validateU_ofRT`).
-/
import AriadneModel.Spec.PydUnionLog
import AriadneModel.Model.ResultAnn


namespace Ariadne.C07Union
open Ariadne.Scalars Ariadne.PydLog Ariadne.ResultUnion Ariadne.PydUnionLog

mutual
  def finalAnn (cfg : ScalarCfg) : RTU → PAnn
    | .custom sc nn => optionalIf (!nn) (.leaf (scalarLeaf cfg sc))
    | .plain py nn => optionalIf (!nn) (.leaf (.name py))
    | .tag vs => .literal vs
    | .list it nn => optionalIf (!nn) (.list (finalAnn cfg it))
    | .obj fs nn => optionalIf (!nn) (.model (finalFlds cfg fs))
    | .abs ms nn => optionalIf (!nn) (.dunion (finalMems cfg ms))
  def finalFlds (cfg : ScalarCfg) : Flds → PFlds
    | .nil => .nil
    | .cons k t rest => .cons k (finalAnn cfg t) (finalFlds cfg rest)
  def finalMems (cfg : ScalarCfg) : Mems → PMems
    | .nil => .nil
    | .cons fs rest => .cons (finalFlds cfg fs) (finalMems cfg rest)
end

/-- visiting only the slice and then putting the field-level discriminator on a union left at the top
    is the walk through every wrapper: on a union both give the tagged union, below `Optional` / `List`
    both continue with the walk -/
theorem fieldDisc_annotateTop (a : PAnn) : fieldDisc (annotateTop a) = annotateNested a := by
  cases a <;> rfl

mutual
  theorem nested_final (cfg : ScalarCfg) (t : RTU) : annotateNested (rawAnn cfg t) = finalAnn cfg t := by
    cases t with
    | custom sc nn => cases nn <;> simp [rawAnn, finalAnn, optionalIf, annotateNested]
    | plain py nn => cases nn <;> simp [rawAnn, finalAnn, optionalIf, annotateNested]
    | tag vs => simp [rawAnn, finalAnn, annotateNested]
    | list it nn =>
      have ih := nested_final cfg it
      cases nn <;> simp [rawAnn, finalAnn, optionalIf, annotateNested, ih]
    | obj fs nn =>
      have ih := fields_final cfg fs
      cases nn <;> simp [rawAnn, finalAnn, optionalIf, annotateNested, ih]
    | abs ms nn =>
      have ih := mems_final cfg ms
      cases nn <;> simp [rawAnn, finalAnn, optionalIf, annotateNested, ih]
  theorem fields_final (cfg : ScalarCfg) (fs : Flds) : annFields cfg fs = finalFlds cfg fs := by
    cases fs with
    | nil => simp [annFields, finalFlds]
    | cons k t rest => simp [annFields, finalFlds, fieldDisc_annotateTop, nested_final cfg t, fields_final cfg rest]
  theorem mems_final (cfg : ScalarCfg) (ms : Mems) : annMems cfg ms = finalMems cfg ms := by
    cases ms with
    | nil => simp [annMems, finalMems]
    | cons fs rest => simp [annMems, finalMems, fields_final cfg fs, mems_final cfg rest]
end

/-- the whole field pipeline: `parse_operation_field` visits only the slice, the field-level
    `Field(discriminator=…)` covers a union left at the top -/
theorem top_final (cfg : ScalarCfg) (t : RTU) : fieldDisc (annotateTop (rawAnn cfg t)) = finalAnn cfg t := by
  rw [fieldDisc_annotateTop]; exact nested_final cfg t

theorem collect_calls (rs : List VOut) : (collect rs).calls = (rs.map (·.calls)).flatten := by
  induction rs with
  | nil => rfl
  | cons r rs ih => simp [collect, ih]

theorem findTag_final (cfg : ScalarCfg) : (fs : Flds) → findTag (finalFlds cfg fs) = tagOf fs
  | .nil => by simp [finalFlds, findTag, tagOf]
  | .cons k t rest => by
    have ih := findTag_final cfg rest
    by_cases hk : k = typenameKey
    · cases t with
      | custom sc nn => cases nn <;> simp [finalFlds, findTag, tagOf, hk, finalAnn, optionalIf]
      | plain py nn => cases nn <;> simp [finalFlds, findTag, tagOf, hk, finalAnn, optionalIf]
      | tag vs => simp [finalFlds, findTag, tagOf, hk, finalAnn]
      | list it nn => cases nn <;> simp [finalFlds, findTag, tagOf, hk, finalAnn, optionalIf]
      | obj fs nn => cases nn <;> simp [finalFlds, findTag, tagOf, hk, finalAnn, optionalIf]
      | abs ms nn => cases nn <;> simp [finalFlds, findTag, tagOf, hk, finalAnn, optionalIf]
    · simp [finalFlds, findTag, tagOf, hk, ih]

theorem validateU_optionalIf (accept : Leaf → J → Bool) (b : Bool) (a : PAnn) (j : J) :
    validateU accept (optionalIf b a) j = if (j.isNull && b) then ⟨[], true⟩ else validateU accept a j := by
  cases b <;> simp [optionalIf, validateU]

mutual
  theorem parse_once_final (accept : Leaf → J → Bool) (cfg : ScalarCfg) (t : RTU) (j : J) (h : conformsU t j = true) :
      (validateU accept (finalAnn cfg t) j).calls = occurrencesU cfg t j := by
    cases t with
    | custom sc nn =>
      simp only [finalAnn, validateU_optionalIf, occurrencesU]
      by_cases hn : j.isNull = true
      · have hnn : nn = false := by
          simp only [conformsU, hn, Bool.true_and, Bool.not_eq_true'] at h
          exact h
        simp [hn, hnn]
      · have hn' : j.isNull = false := by simpa using hn
        simp only [hn', Bool.false_and, Bool.false_eq_true, if_false]
        simp only [validateU, scalarLeaf]
        cases lookupScalar cfg sc with
        | none => simp [validateLeaf]
        | some d => cases hp : d.parseName <;> simp [validateLeaf, resultLeaf, hp]
    | plain py nn =>
      simp only [finalAnn, validateU_optionalIf, occurrencesU]
      by_cases hn : (j.isNull && !nn) = true <;> simp [hn, validateU, validateLeaf]
    | tag vs => simp [finalAnn, validateU, occurrencesU]
    | list it nn =>
      simp only [finalAnn, validateU_optionalIf, occurrencesU]
      cases j with
      | arr xs =>
        simp only [conformsU, List.all_eq_true] at h
        simp only [J.isNull, Bool.false_and, Bool.false_eq_true, if_false, validateU, collect_calls, List.map_map]
        congr 1
        apply List.map_congr_left
        intro x hx
        exact parse_once_final accept cfg it x (h x hx)
      | null => simp [J.isNull, conformsU] at h ⊢; simp [h]
      | _ => simp [conformsU] at h
    | obj fs nn =>
      simp only [finalAnn, validateU_optionalIf, occurrencesU]
      cases j with
      | obj kvs =>
        simp only [J.isNull, Bool.false_and, Bool.false_eq_true, if_false, validateU]
        exact flds_once_final accept cfg fs kvs (by simpa [conformsU] using h)
      | null => simp [J.isNull, conformsU] at h ⊢; simp [h]
      | _ => simp [conformsU] at h
    | abs ms nn =>
      simp only [finalAnn, validateU_optionalIf, occurrencesU]
      cases j with
      | obj kvs =>
        simp only [J.isNull, Bool.false_and, Bool.false_eq_true, if_false, validateU]
        simp only [conformsU] at h
        cases hl : J.lookup typenameKey kvs with
        | none => simp [hl] at h
        | some v =>
          cases v with
          | str tag =>
            simp only [hl] at h ⊢
            exact tagged_once_final accept cfg tag ms kvs h
          | _ => simp [hl] at h
      | null => simp [J.isNull, conformsU] at h ⊢; simp [h]
      | _ => simp [conformsU] at h
  theorem flds_once_final (accept : Leaf → J → Bool) (cfg : ScalarCfg) (fs : Flds) (kvs : List (String × J))
      (h : conformsFlds fs kvs = true) :
      (validateUFlds accept (finalFlds cfg fs) kvs).calls = occurrencesFlds cfg fs kvs := by
    cases fs with
    | nil => simp [finalFlds, validateUFlds, occurrencesFlds]
    | cons k t rest =>
      simp only [conformsFlds, Bool.and_eq_true] at h
      have h2 := flds_once_final accept cfg rest kvs h.2
      cases hl : J.lookup k kvs with
      | none => simp [hl] at h
      | some v =>
        have h1 := parse_once_final accept cfg t v (by simpa [hl] using h.1)
        simp [finalFlds, validateUFlds, occurrencesFlds, hl, h1, h2]
  theorem tagged_once_final (accept : Leaf → J → Bool) (cfg : ScalarCfg) (tag : String) (ms : Mems) (kvs : List (String × J))
      (h : conformsTagged tag ms kvs = true) :
      (validateUTagged accept tag (finalMems cfg ms) kvs).calls = occurrencesTagged cfg tag ms kvs := by
    cases ms with
    | nil => simp [conformsTagged] at h
    | cons fs rest =>
      simp only [finalMems, validateUTagged, occurrencesTagged, findTag_final]
      simp only [conformsTagged] at h
      by_cases ht : tagMatches tag (tagOf fs) = true
      · simp only [ht, if_true] at h ⊢
        exact flds_once_final accept cfg fs kvs h
      · simp only [ht, Bool.false_eq_true, if_false] at h ⊢
        exact tagged_once_final accept cfg tag rest kvs h
end

mutual
  theorem occurrencesU_non_null (cfg : ScalarCfg) (t : RTU) (j : J) : ∀ c ∈ occurrencesU cfg t j, c.raw.isNull = false := by
    cases t with
    | custom sc nn =>
      intro c hc
      simp only [occurrencesU] at hc
      by_cases hn : j.isNull = true
      · simp [hn] at hc
      · simp only [hn, Bool.false_eq_true, if_false] at hc
        cases hl : lookupScalar cfg sc with
        | none => simp [hl] at hc
        | some d =>
          cases hp : d.parseName with
          | none => simp [hl, hp] at hc
          | some p => simp [hl, hp] at hc; subst hc; simpa using hn
    | plain py nn => intro c hc; simp [occurrencesU] at hc
    | tag vs => intro c hc; simp [occurrencesU] at hc
    | list it nn =>
      intro c hc
      cases j with
      | arr xs =>
        simp only [occurrencesU, List.mem_flatten, List.mem_map] at hc
        obtain ⟨l, ⟨x, _, rfl⟩, hcl⟩ := hc
        exact occurrencesU_non_null cfg it x c hcl
      | _ => simp [occurrencesU] at hc
    | obj fs nn =>
      intro c hc
      cases j with
      | obj kvs => simp only [occurrencesU] at hc; exact occurrencesFlds_non_null cfg fs kvs c hc
      | _ => simp [occurrencesU] at hc
    | abs ms nn =>
      intro c hc
      cases j with
      | obj kvs =>
        simp only [occurrencesU] at hc
        cases hl : J.lookup typenameKey kvs with
        | none => simp [hl] at hc
        | some v =>
          cases v with
          | str tag => simp only [hl] at hc; exact occurrencesTagged_non_null cfg tag ms kvs c hc
          | _ => simp [hl] at hc
      | _ => simp [occurrencesU] at hc
  theorem occurrencesFlds_non_null (cfg : ScalarCfg) (fs : Flds) (kvs : List (String × J)) :
      ∀ c ∈ occurrencesFlds cfg fs kvs, c.raw.isNull = false := by
    cases fs with
    | nil => intro c hc; simp [occurrencesFlds] at hc
    | cons k t rest =>
      intro c hc
      simp only [occurrencesFlds, List.mem_append] at hc
      rcases hc with hc | hc
      · cases hl : J.lookup k kvs with
        | none => simp [hl] at hc
        | some v => rw [hl] at hc; exact occurrencesU_non_null cfg t v c hc
      · exact occurrencesFlds_non_null cfg rest kvs c hc
  theorem occurrencesTagged_non_null (cfg : ScalarCfg) (tag : String) (ms : Mems) (kvs : List (String × J)) :
      ∀ c ∈ occurrencesTagged cfg tag ms kvs, c.raw.isNull = false := by
    cases ms with
    | nil => intro c hc; simp [occurrencesTagged] at hc
    | cons fs rest =>
      intro c hc
      simp only [occurrencesTagged] at hc
      by_cases ht : tagMatches tag (tagOf fs) = true
      · simp only [ht, if_true] at hc; exact occurrencesFlds_non_null cfg fs kvs c hc
      · simp only [ht, Bool.false_eq_true, if_false] at hc; exact occurrencesTagged_non_null cfg tag rest kvs c hc
end

mutual
  theorem usedScalarsU_configured (cfg : ScalarCfg) (t : RTU) : ∀ sc ∈ usedScalarsU cfg t, (lookupScalar cfg sc).isSome = true := by
    cases t with
    | custom s nn =>
      intro sc hsc
      simp only [usedScalarsU] at hsc
      by_cases hs : (lookupScalar cfg s).isSome = true
      · simp only [hs, if_true, List.mem_singleton] at hsc; subst hsc; exact hs
      · simp [hs] at hsc
    | plain py nn => intro sc hsc; simp [usedScalarsU] at hsc
    | tag vs => intro sc hsc; simp [usedScalarsU] at hsc
    | list it nn => intro sc hsc; simp only [usedScalarsU] at hsc; exact usedScalarsU_configured cfg it sc hsc
    | obj fs nn => intro sc hsc; simp only [usedScalarsU] at hsc; exact usedScalarsFlds_configured cfg fs sc hsc
    | abs ms nn => intro sc hsc; simp only [usedScalarsU] at hsc; exact usedScalarsMems_configured cfg ms sc hsc
  theorem usedScalarsFlds_configured (cfg : ScalarCfg) (fs : Flds) : ∀ sc ∈ usedScalarsFlds cfg fs, (lookupScalar cfg sc).isSome = true := by
    cases fs with
    | nil => intro sc hsc; simp [usedScalarsFlds] at hsc
    | cons k t rest =>
      intro sc hsc
      simp only [usedScalarsFlds, List.mem_append] at hsc
      rcases hsc with h | h
      · exact usedScalarsU_configured cfg t sc h
      · exact usedScalarsFlds_configured cfg rest sc h
  theorem usedScalarsMems_configured (cfg : ScalarCfg) (ms : Mems) : ∀ sc ∈ usedScalarsMems cfg ms, (lookupScalar cfg sc).isSome = true := by
    cases ms with
    | nil => intro sc hsc; simp [usedScalarsMems] at hsc
    | cons fs rest =>
      intro sc hsc
      simp only [usedScalarsMems, List.mem_append] at hsc
      rcases hsc with h | h
      · exact usedScalarsFlds_configured cfg fs sc h
      · exact usedScalarsMems_configured cfg rest sc h
end

theorem importsOfNames_total (cfg : ScalarCfg) :
    ∀ l : List String, (∀ sc ∈ l, (lookupScalar cfg sc).isSome = true) → ∃ is, importsOfNames cfg l = .ok is := by
  intro l
  induction l with
  | nil => intro _; exact ⟨[], rfl⟩
  | cons sc rest ih =>
    intro h
    obtain ⟨is, his⟩ := ih (fun x hx => h x (List.mem_cons_of_mem _ hx))
    have hsc := h sc List.mem_cons_self
    cases hl : lookupScalar cfg sc with
    | none => simp [hl] at hsc
    | some d => exact ⟨scalarImports d ++ is, by simp [importsOfNames, hl, his]⟩

theorem importsOfNames_mem (cfg : ScalarCfg) :
    ∀ (l : List String) (is : List Import), importsOfNames cfg l = .ok is →
      ∀ sc ∈ l, ∀ d, lookupScalar cfg sc = some d → ∀ i ∈ scalarImports d, i ∈ is := by
  intro l
  induction l with
  | nil => intro is _ sc hsc; cases hsc
  | cons a rest ih =>
    intro is h sc hsc d hd i hi
    simp only [importsOfNames] at h
    cases hl : lookupScalar cfg a with
    | none => simp [hl] at h
    | some da =>
      cases hr : importsOfNames cfg rest with
      | error e => simp [hl, hr] at h
      | ok is' =>
        simp only [hl, hr, Except.ok.injEq] at h
        subst h
        rcases List.mem_cons.mp hsc with he | he
        · subst he
          rw [hl] at hd; cases hd
          exact List.mem_append_left _ hi
        · exact List.mem_append_right _ (ih is' hr sc he d hd i hi)

theorem leavesOf_optionalIf (b : Bool) (a : PAnn) : leavesOf (optionalIf b a) = leavesOf a := by
  cases b <;> simp [optionalIf, leavesOf]

mutual
  /-- every leaf of the annotation of a shape is `generate_result_scalar_annotation(d)` of a scalar
      that `_used_scalars` holds, or `Any` (unconfigured scalar), or the name of a plain position -/
  theorem leaves_origin (cfg : ScalarCfg) (t : RTU) : ∀ l ∈ leavesOf (finalAnn cfg t),
      (∃ sc ∈ usedScalarsU cfg t, ∃ d, lookupScalar cfg sc = some d ∧ l = resultLeaf d) ∨ (∃ py, l = .name py) := by
    cases t with
    | custom s nn =>
      intro l hl
      simp only [finalAnn, leavesOf_optionalIf, leavesOf, List.mem_singleton] at hl
      subst hl
      cases hs : lookupScalar cfg s with
      | none => right; exact ⟨"Any", by simp [scalarLeaf, hs]⟩
      | some d => left; exact ⟨s, by simp [usedScalarsU, hs], d, hs, by simp [scalarLeaf, hs]⟩
    | plain py nn =>
      intro l hl
      simp only [finalAnn, leavesOf_optionalIf, leavesOf, List.mem_singleton] at hl
      right; exact ⟨py, hl⟩
    | tag vs => intro l hl; simp [finalAnn, leavesOf] at hl
    | list it nn =>
      intro l hl
      simp only [finalAnn, leavesOf_optionalIf, leavesOf] at hl
      simpa [usedScalarsU] using leaves_origin cfg it l hl
    | obj fs nn =>
      intro l hl
      simp only [finalAnn, leavesOf_optionalIf, leavesOf] at hl
      simpa [usedScalarsU] using leaves_originFlds cfg fs l hl
    | abs ms nn =>
      intro l hl
      simp only [finalAnn, leavesOf_optionalIf, leavesOf] at hl
      simpa [usedScalarsU] using leaves_originMems cfg ms l hl
  theorem leaves_originFlds (cfg : ScalarCfg) (fs : Flds) : ∀ l ∈ leavesOfFlds (finalFlds cfg fs),
      (∃ sc ∈ usedScalarsFlds cfg fs, ∃ d, lookupScalar cfg sc = some d ∧ l = resultLeaf d) ∨ (∃ py, l = .name py) := by
    cases fs with
    | nil => intro l hl; simp [finalFlds, leavesOfFlds] at hl
    | cons k t rest =>
      intro l hl
      simp only [finalFlds, leavesOfFlds, List.mem_append] at hl
      rcases hl with hl | hl
      · rcases leaves_origin cfg t l hl with ⟨sc, hsc, d, hd, he⟩ | h
        · left; exact ⟨sc, by simp [usedScalarsFlds, hsc], d, hd, he⟩
        · right; exact h
      · rcases leaves_originFlds cfg rest l hl with ⟨sc, hsc, d, hd, he⟩ | h
        · left; exact ⟨sc, by simp [usedScalarsFlds, hsc], d, hd, he⟩
        · right; exact h
  theorem leaves_originMems (cfg : ScalarCfg) (ms : Mems) : ∀ l ∈ leavesOfMems (finalMems cfg ms),
      (∃ sc ∈ usedScalarsMems cfg ms, ∃ d, lookupScalar cfg sc = some d ∧ l = resultLeaf d) ∨ (∃ py, l = .name py) := by
    cases ms with
    | nil => intro l hl; simp [finalMems, leavesOfMems] at hl
    | cons fs rest =>
      intro l hl
      simp only [finalMems, leavesOfMems, List.mem_append] at hl
      rcases hl with hl | hl
      · rcases leaves_originFlds cfg fs l hl with ⟨sc, hsc, d, hd, he⟩ | h
        · left; exact ⟨sc, by simp [usedScalarsMems, hsc], d, hd, he⟩
        · right; exact h
      · rcases leaves_originMems cfg rest l hl with ⟨sc, hsc, d, hd, he⟩ | h
        · left; exact ⟨sc, by simp [usedScalarsMems, hsc], d, hd, he⟩
        · right; exact h
end

mutual
  def hasPlainUnion : PAnn → Bool
    | .leaf _ => false
    | .literal _ => false
    | .optional a => hasPlainUnion a
    | .list a => hasPlainUnion a
    | .model fs => hasPlainUnionFlds fs
    | .union _ => true
    | .dunion ms => hasPlainUnionMems ms
  def hasPlainUnionFlds : PFlds → Bool
    | .nil => false
    | .cons _ a rest => hasPlainUnion a || hasPlainUnionFlds rest
  def hasPlainUnionMems : PMems → Bool
    | .nil => false
    | .cons fs rest => hasPlainUnionFlds fs || hasPlainUnionMems rest
end

theorem hasPlainUnion_optionalIf (b : Bool) (a : PAnn) : hasPlainUnion (optionalIf b a) = hasPlainUnion a := by
  cases b <;> simp [optionalIf, hasPlainUnion]

mutual
  theorem final_no_plain_union (cfg : ScalarCfg) (t : RTU) : hasPlainUnion (finalAnn cfg t) = false := by
    cases t with
    | custom sc nn => simp [finalAnn, hasPlainUnion_optionalIf, hasPlainUnion]
    | plain py nn => simp [finalAnn, hasPlainUnion_optionalIf, hasPlainUnion]
    | tag vs => simp [finalAnn, hasPlainUnion]
    | list it nn => simp [finalAnn, hasPlainUnion_optionalIf, hasPlainUnion, final_no_plain_union cfg it]
    | obj fs nn => simp [finalAnn, hasPlainUnion_optionalIf, hasPlainUnion, finalFlds_no_plain_union cfg fs]
    | abs ms nn => simp [finalAnn, hasPlainUnion_optionalIf, hasPlainUnion, finalMems_no_plain_union cfg ms]
  theorem finalFlds_no_plain_union (cfg : ScalarCfg) (fs : Flds) : hasPlainUnionFlds (finalFlds cfg fs) = false := by
    cases fs with
    | nil => simp [finalFlds, hasPlainUnionFlds]
    | cons k t rest => simp [finalFlds, hasPlainUnionFlds, final_no_plain_union cfg t, finalFlds_no_plain_union cfg rest]
  theorem finalMems_no_plain_union (cfg : ScalarCfg) (ms : Mems) : hasPlainUnionMems (finalMems cfg ms) = false := by
    cases ms with
    | nil => simp [finalMems, hasPlainUnionMems]
    | cons fs rest => simp [finalMems, hasPlainUnionMems, finalFlds_no_plain_union cfg fs, finalMems_no_plain_union cfg rest]
end

open Ariadne.ResultAnn in
mutual
  def ofRT : RT → RTU
    | .custom sc nn => .custom sc nn
    | .plain py nn => .plain py nn
    | .list it nn => .list (ofRT it) nn
    | .obj fs nn => .obj (ofRTFields fs) nn
  def ofRTFields : List (String × RT) → Flds
    | [] => .nil
    | (k, t) :: rest => .cons k (ofRT t) (ofRTFields rest)
end

open Ariadne.ResultAnn in
mutual
  theorem conformsU_ofRT (t : RT) (j : J) : conformsU (ofRT t) j = conforms t j := by
    cases t with
    | custom sc nn => simp [ofRT, conformsU, conforms]
    | plain py nn => simp [ofRT, conformsU, conforms]
    | list it nn =>
      cases j with
      | arr xs =>
        simp only [ofRT, conformsU, conforms]
        apply List.all_congr rfl
        intro x
        exact conformsU_ofRT it x
      | _ => simp [ofRT, conformsU, conforms]
    | obj fs nn =>
      cases j with
      | obj kvs => simp only [ofRT, conformsU, conforms]; exact conformsFlds_ofRT fs kvs
      | _ => simp [ofRT, conformsU, conforms]
  theorem conformsFlds_ofRT (fs : List (String × RT)) (kvs : List (String × J)) :
      conformsFlds (ofRTFields fs) kvs = conformsFields fs kvs := by
    cases fs with
    | nil => simp [ofRTFields, conformsFlds, conformsFields]
    | cons p rest =>
      obtain ⟨k, t⟩ := p
      simp only [ofRTFields, conformsFlds, conformsFields, conformsFlds_ofRT rest kvs]
      cases J.lookup k kvs with
      | none => rfl
      | some v => simp [conformsU_ofRT t v]
end

open Ariadne.ResultAnn in
mutual
  theorem occurrencesU_ofRT (cfg : ScalarCfg) (t : RT) (j : J) : occurrencesU cfg (ofRT t) j = occurrences cfg t j := by
    cases t with
    | custom sc nn =>
      simp only [ofRT, occurrencesU, occurrences]
      by_cases hn : j.isNull = true
      · simp [hn]
      · simp only [hn]
        cases lookupScalar cfg sc with
        | none => rfl
        | some d => cases d.parseName <;> rfl
    | plain py nn => simp [ofRT, occurrencesU, occurrences]
    | list it nn =>
      cases j with
      | arr xs =>
        simp only [ofRT, occurrencesU, occurrences]
        congr 1
        apply List.map_congr_left
        intro x hx
        exact occurrencesU_ofRT cfg it x
      | _ => simp [ofRT, occurrencesU, occurrences]
    | obj fs nn =>
      cases j with
      | obj kvs => simp only [ofRT, occurrencesU, occurrences]; exact occurrencesFlds_ofRT cfg fs kvs
      | _ => simp [ofRT, occurrencesU, occurrences]
  theorem occurrencesFlds_ofRT (cfg : ScalarCfg) (fs : List (String × RT)) (kvs : List (String × J)) :
      occurrencesFlds cfg (ofRTFields fs) kvs = occurrencesFields cfg fs kvs := by
    cases fs with
    | nil => simp [ofRTFields, occurrencesFlds, occurrencesFields]
    | cons p rest =>
      obtain ⟨k, t⟩ := p
      simp only [ofRTFields, occurrencesFlds, occurrencesFields, occurrencesFlds_ofRT cfg rest kvs]
      cases J.lookup k kvs with
      | none => rfl
      | some v => simp [occurrencesU_ofRT cfg t v]
end

theorem collect_map_items (accept : Leaf → J → Bool) (a : PAnn) (item : RAnn)
    (ih : ∀ x, validateU accept a x = validateLog accept item x) :
    ∀ xs : List J, collect (xs.map (validateU accept a)) = validateItems accept item xs
  | [] => by simp [collect, validateItems]
  | x :: xs => by simp [collect, validateItems, ih x, collect_map_items accept a item ih xs]

open Ariadne.ResultAnn in
mutual
  theorem validateU_ofRT (accept : Leaf → J → Bool) (cfg : ScalarCfg) (t : RT) (j : J) :
      validateU accept (finalAnn cfg (ofRT t)) j = validateLog accept (annOfR cfg t) j := by
    cases t with
    | custom sc nn =>
      simp only [ofRT, finalAnn, validateU_optionalIf, annOfR, validateLog, validateU, scalarLeaf]
      cases lookupScalar cfg sc <;> rfl
    | plain py nn => simp only [ofRT, finalAnn, validateU_optionalIf, annOfR, validateLog, validateU]
    | list it nn =>
      have ih := collect_map_items accept _ _ (validateU_ofRT accept cfg it)
      cases j <;> cases nn <;> simp [ofRT, finalAnn, validateU_optionalIf, annOfR, validateLog, validateU, J.isNull, ih]
    | obj fs nn =>
      have ih := validateUFlds_ofRT accept cfg fs
      cases j <;> cases nn <;> simp [ofRT, finalAnn, validateU_optionalIf, annOfR, validateLog, validateU, J.isNull, ih]
  theorem validateUFlds_ofRT (accept : Leaf → J → Bool) (cfg : ScalarCfg) (fs : List (String × RT)) (kvs : List (String × J)) :
      validateUFlds accept (finalFlds cfg (ofRTFields fs)) kvs = validateFields accept (annOfFields cfg fs) kvs := by
    cases fs with
    | nil => simp [ofRTFields, finalFlds, validateUFlds, annOfFields, validateFields]
    | cons p rest =>
      obtain ⟨k, t⟩ := p
      simp only [ofRTFields, finalFlds, validateUFlds, annOfFields, validateFields, validateUFlds_ofRT accept cfg rest kvs]
      cases J.lookup k kvs with
      | none => rfl
      | some v => simp [validateU_ofRT accept cfg t v]
end

end Ariadne.C07Union
