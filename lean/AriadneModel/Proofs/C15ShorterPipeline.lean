/-
  C15: what the three whole-pipeline proofs share — the decidable pieces of `genShapedS/SR/E/FR` as propositions
  (`splitAt_spec`, `splitClient_spec`, `kindOKB_sound`, `GenFrame`, `genShapedSR_spec`), what ShorterResults' recording hooks do to
  the plugin object over a run (`fresh_shorter`, `foldl_bookStep_*`), and the step from related methods to the
  whole-pipeline statement (`whole_of_refines`, `sameBehaviour_unplugged`).
-/
import AriadneModel.Proofs.C15ShorterRel
import AriadneModel.Proofs.C15Quiet
import AriadneModel.Model.PluginWholeSE


namespace Ariadne.C15
open Ariadne.Py Ariadne.Plugins Ariadne.ClientSem

theorem splitAt_spec : ∀ (evs pre : List Event) (cm : Event) (post : List Event),
    splitAtClientModule evs = some (pre, cm, post) →
    evs = pre ++ cm :: post ∧ cm.call.hook = "generate_client_module" ∧
      ∀ e ∈ pre, e.call.hook ≠ "generate_client_module" := by
  intro evs
  induction evs with
  | nil => intro pre cm post h; simp [splitAtClientModule] at h
  | cons e rest ih =>
    intro pre cm post h
    unfold splitAtClientModule at h
    by_cases hk : (e.call.hook == "generate_client_module") = true
    · simp only [hk, ↓reduceIte, Option.some.injEq, Prod.mk.injEq] at h
      obtain ⟨rfl, rfl, rfl⟩ := h
      exact ⟨rfl, by simpa using hk, fun e' he' => by simp at he'⟩
    · simp only [hk, Bool.false_eq_true, ↓reduceIte] at h
      cases hs : splitAtClientModule rest with
      | none => simp [hs] at h
      | some t =>
        obtain ⟨pre', cm', post'⟩ := t
        simp only [hs, Option.some.injEq, Prod.mk.injEq] at h
        obtain ⟨rfl, rfl, rfl⟩ := h
        obtain ⟨h1, h2, h3⟩ := ih pre' cm' post' hs
        refine ⟨by rw [h1]; rfl, h2, ?_⟩
        intro e' he'
        rcases List.mem_cons.mp he' with rfl | he''
        · simpa using hk
        · exact h3 e' he''

theorem splitClient_spec (M : Module) (pre : List Top) (g : Method) (c : ClassDef) (h : splitClient M = some (pre, g, c)) :
    M.body = pre ++ [.funcDef g, .classDef c] ∧ NoClass pre := by
  unfold splitClient at h
  split at h
  · rename_i c' g' preRev hrev
    split at h
    · rename_i hall
      simp only [Option.some.injEq, Prod.mk.injEq] at h
      obtain ⟨rfl, rfl, rfl⟩ := h
      constructor
      · have := congrArg List.reverse hrev
        simp only [List.reverse_reverse, List.reverse_cons, List.append_assoc, List.singleton_append] at this
        exact this
      · intro t ht
        rw [List.all_eq_true] at hall
        have := hall t (by simpa using ht)
        cases hcd : t.classDef? with
        | none => rfl
        | some _ => rw [hcd] at this; cases this
    · cases h
  · cases h

theorem kindOKB_sound (md : Method) (h : kindOKB md = true) : KindOK md := by
  unfold kindOKB at h
  cases hs : shapeOf md with
  | none => simp [hs] at h
  | some s =>
    simp only [hs, Bool.and_eq_true, List.isEmpty_iff] at h
    obtain ⟨hp, hk⟩ := h
    refine ⟨s, hs, hp, ?_⟩
    split at hk
    · rename_i aw r d cls ht hr; exact .inl ⟨aw, r, d, cls, ht, hr⟩
    · rename_i d o a cls ht hr; exact .inr ⟨d, o, a, cls, ht, hr⟩
    · cases hk

theorem isOkB_sound {α : Type} (r : Except Err α) (h : isOkB r = true) : ∃ a, r = .ok a := by
  cases r with
  | ok a => exact ⟨a, rfl⟩
  | error e => cases h

/-- what the `genShaped*` predicates say of the run they look at (`L`: the plugin list of that run): the events split at
    the first `generate_client_module` call, which is handed a module, and the run ends with the client module `B0` -/
structure GenFrame (x : Input) (L : List PState) (pre : List Event) (cm : Event) (post : List Event) (B0 : Module) : Prop where
  events : x.events = pre ++ cm :: post
  hook : cm.call.hook = "generate_client_module"
  pre : ∀ e ∈ pre, e.call.hook ≠ "generate_client_module"
  payload : ∃ mp, cm.payload = .module mp
  client : (runWith L x).1.clientModule? = some B0

theorem genFrame_of_split {x : Input} {L : List PState} {pre post : List Event} {cm : Event} {B0 : Module}
    (hsplit : splitAtClientModule x.events = some (pre, cm, post)) (hB0 : (runWith L x).1.clientModule? = some B0)
    (hp : (match cm.payload with | .module _ => true | _ => false) = true) : GenFrame x L pre cm post B0 := by
  obtain ⟨hevs, hcm, hpre⟩ := splitAt_spec x.events pre cm post hsplit
  refine ⟨hevs, hcm, hpre, ?_, hB0⟩
  split at hp
  · exact ⟨_, by assumption⟩
  · cases hp

theorem genShapedSR_spec {L : List PState} {x : Input} (hg : genShapedSR L x = true) :
    ∃ pre cm post B0 preB g C0, GenFrame x L pre cm post B0 ∧
      (∀ e ∈ post, (e.call.hook != "generate_client_module" && !recordingHooks.contains e.call.hook) = true) ∧
      "gql" ∈ moduleNames B0 ∧ B0.body = preB ++ [.funcDef g, .classDef C0] ∧ NoClass preB ∧
      ShorterGen (knownModules x (runWith L x).1.opsFile?) (shorterFacts (fragmentsModuleNameOf x.plugins) x.events) B0 C0 ∧
      ∀ m ∈ baseMethods x.events, ∃ md, C0.methods.find? (fun md => md.name == m.name) = some md ∧
        returnClassOf md = returnClassOf m := by
  unfold genShapedSR at hg
  split at hg
  rotate_left
  · cases hg
  rename_i pre cm post B0 hsplit hB0
  simp only [Bool.and_eq_true] at hg
  obtain ⟨⟨⟨hpayload, hpost⟩, hgql⟩, hrest⟩ := hg
  split at hrest
  rotate_left
  · cases hrest
  rename_i preB g C0 hsc
  obtain ⟨hbodyB, hncB⟩ := splitClient_spec B0 preB g C0 hsc
  simp only [Bool.and_eq_true, List.all_eq_true] at hrest
  obtain ⟨⟨⟨hdict, hmethods⟩, hpool⟩, htwin⟩ := hrest
  refine ⟨pre, cm, post, B0, preB, g, C0, genFrame_of_split hsplit hB0 hpayload, List.all_eq_true.mp hpost, by simpa using hgql,
    hbodyB, hncB, ⟨fun kv hkv => isOkB_sound _ (hdict kv hkv), ?_, ?_, ?_, ?_, fun md hmd => by simpa using (hmethods md hmd).2, ?_⟩, ?_⟩
  · intro md hmd hsome
    obtain ⟨⟨h1, _⟩, _⟩ := hmethods md hmd
    cases hsf : singleFieldOf _ md with
    | none => rw [hsf] at hsome; cases hsome
    | some fa =>
      rw [hsf] at h1
      simp only [Bool.and_eq_true] at h1
      exact kindOKB_sound md h1.1
  · intro md hmd f ann hsf n hn
    obtain ⟨⟨h1, _⟩, _⟩ := hmethods md hmd
    rw [hsf] at h1
    simp only [Bool.and_eq_true, List.all_eq_true] at h1
    have h2 := h1.2 n hn
    simp only [Bool.or_eq_true, Bool.and_eq_true, List.contains_iff_mem] at h2
    rcases h2 with (⟨h3, h4⟩ | h3) | h3
    · exact .inl ⟨h3, h4⟩
    · exact .inr (.inl h3)
    · exact .inr (.inr h3)
  · intro md hmd s hs
    obtain ⟨⟨_, h2⟩, _⟩ := hmethods md hmd
    rw [hs] at h2
    simp only [Bool.and_eq_true, Bool.not_eq_true', List.contains_eq_mem, decide_eq_false_iff_not] at h2
    exact h2.1
  · intro md hmd s c hs hc
    obtain ⟨⟨_, h2⟩, _⟩ := hmethods md hmd
    rw [hs] at h2
    simp only [Bool.and_eq_true, hc, Bool.not_eq_true', List.contains_eq_mem, decide_eq_false_iff_not] at h2
    exact h2.2
  · intro n hn v hv hdot
    have := hpool n hn
    rw [hv] at this
    simp only [Bool.or_eq_true, Bool.not_eq_true', List.contains_iff_mem] at this
    rcases this with h | h
    · rw [hdot] at h; cases h
    · exact h
  · intro m hm
    have := htwin m hm
    split at this
    · exact ⟨_, by assumption, by simpa using this⟩
    · cases this

theorem shorterStep_ext (c : Call) (hc : c.hook ≠ "generate_client_module") (st : ShorterState) (x : Payload)
    (r : ShorterState × Payload) (h : shorterStep c st x = .ok r) : r.1.extendedImports = st.extendedImports := by
  unfold shorterStep at h
  split at h
  · simp only [pure_eq_ok, Except.ok.injEq] at h
    rw [← h]
    show (shorterResultTypesModule st _).extendedImports = st.extendedImports
    unfold shorterResultTypesModule
    apply foldl_keeps (g := fun (s : ShorterState) => s.extendedImports)
    intro b a
    split
    · split
      · apply foldl_keeps (g := fun (s : ShorterState) => s.extendedImports)
        intro b' a'; rfl
      · rfl
    · rfl
  · simp only [pure_eq_ok, Except.ok.injEq] at h
    rw [← h]
  · simp only [pure_eq_ok, Except.ok.injEq] at h
    rw [← h]
    show (shorterFragmentsModule st _).extendedImports = st.extendedImports
    unfold shorterFragmentsModule
    apply foldl_keeps (g := fun (s : ShorterState) => s.extendedImports)
    intro b a; rfl
  · exfalso; simp_all
  · simp only [pure_eq_ok, Except.ok.injEq] at h
    rw [← h]

theorem bookStep_ext (st : ShorterState) (e : Event) : (bookStep st e).extendedImports = st.extendedImports := by
  unfold bookStep
  by_cases hk : (e.call.hook == "generate_client_module") = true
  · simp only [hk, ↓reduceIte]
  · simp only [hk, Bool.false_eq_true, ↓reduceIte]
    cases hs : shorterStep e.call st e.payload with
    | error err => rfl
    | ok r => exact shorterStep_ext e.call (by simpa using hk) st e.payload r hs

theorem foldl_bookStep_ext (evs : List Event) : ∀ st : ShorterState,
    (evs.foldl bookStep st).extendedImports = st.extendedImports :=
  foldl_keeps bookStep (·.extendedImports) bookStep_ext evs

theorem bookStep_noop (st : ShorterState) (e : Event)
    (h : (e.call.hook != "generate_client_module" && !recordingHooks.contains e.call.hook) = true) : bookStep st e = st := by
  simp only [Bool.and_eq_true, bne_iff_ne, ne_eq, Bool.not_eq_true', recordingHooks, List.contains_eq_mem, List.mem_cons,
    List.not_mem_nil, or_false, decide_eq_false_iff_not, not_or] at h
  exact bookStep_idle (by simp [hooksOf, h])

theorem foldl_bookStep_noop (evs : List Event)
    (h : ∀ e ∈ evs, (e.call.hook != "generate_client_module" && !recordingHooks.contains e.call.hook) = true) :
    ∀ st : ShorterState, evs.foldl bookStep st = st := by
  induction evs with
  | nil => intro st; rfl
  | cons e rest ih =>
    intro st
    simp only [List.foldl_cons]
    rw [bookStep_noop st e (h e (by simp))]
    exact ih (fun e' he' => h e' (by simp [he'])) st

theorem bookStep_cm (st : ShorterState) (e : Event) (h : e.call.hook = "generate_client_module") : bookStep st e = st := by
  unfold bookStep
  simp [h]

theorem fresh_shorter (st : ShorterState) (h : PState.isFresh (.shorter st) = true) :
    st = { fragmentsModuleName := st.fragmentsModuleName } := by
  cases st
  simp only [PState.isFresh, Bool.and_eq_true, List.isEmpty_iff] at h
  obtain ⟨⟨h1, h2⟩, h3⟩ := h
  subst h1; subst h2; subst h3
  rfl

theorem any_shorter_mid (a b : List PState) (st : ShorterState) : (a ++ PState.shorter st :: b).any PState.isShorter = true := by
  simp [PState.isShorter]

theorem clash_insert (x : Input) (a b : List PState) (p : PState) (hp : p.isExtract = false) :
    trigOpsModuleClash { x with plugins := a ++ p :: b } = trigOpsModuleClash { x with plugins := a ++ b } := by
  unfold trigOpsModuleClash
  cases p <;> simp_all [List.any_append, List.any_cons, PState.isExtract]

theorem singleFieldOf_congr (st : ShorterState) (m m' : Method) (h : returnClassOf m = returnClassOf m') :
    singleFieldOf st m = singleFieldOf st m' := by
  unfold singleFieldOf; rw [h]

theorem outcome_map_map {α β γ : Type} (o : Outcome α) (f : α → β) (g : β → γ) : (o.map f).map g = o.map (fun a => g (f a)) := by
  cases o <;> rfl

/-- The run with the list `L` ends with client module `B0` (class `C0`), the run with `ps` does not raise and ends with `B1`
    (class `C1`), which is formatted and scoped and imports from existing modules, and the methods of the two classes are
    related one by one by `R`.  If `R` maps a method of shape `sL` to a method of a shape that sends the same request and
    handles every response alike up to the further projections `extra`, and the property prescribes exactly these further
    projections for `ps`, then the whole-pipeline statement carries over from `L` to `ps`. -/
theorem whole_of_refines (x : Input) (L ps : List PState) (B0 B1 : Module) (ops0 ops1 : Option (String × OpsFile))
    (C0 C1 : ClassDef) (R : Method → Method → Prop) (extra : Method → List String)
    (hB0 : (runWith L x).1.clientModule? = some B0) (hops0 : (runWith L x).1.opsFile? = ops0)
    (herr : (runWith ps x).2 = none)
    (hB1 : (runWith ps x).1.clientModule? = some B1) (hops1 : (runWith ps x).1.opsFile? = ops1)
    (hclash : trigOpsModuleClash { x with plugins := ps } = false)
    (hfmt : formatOkB B1 = true) (hann : annScopedB B1 = true) (hwell : wellScopedB { client := B1, ops := ops1 } = true)
    (himp : ∀ i ∈ topImports B1, ∀ q, relModule i = some q → q ∈ knownModules x ops1)
    (hfc0 : B0.firstClass? = some C0) (hfc1 : B1.firstClass? = some C1)
    (hitems : ItemsRel R C0.body C1.body) (hname : ∀ m m', R m m' → m'.name = m.name)
    (hexp : ∀ m ∈ baseMethods x.events, ∀ md, finalMethod L x m.name = some md →
      expectedProj ps x m = expectedProj L x m ++ extra md)
    (hR : ∀ md ∈ C0.methods, ∀ md', R md md' → ∀ sL, shapeOf md = some sL →
      ∃ s', shapeOf md' = some s' ∧ s'.proj = sL.proj ++ extra md ∧
        request { client := B1, ops := ops1 } s' = request { client := B0, ops := ops0 } sL ∧
        ∀ (PyV : Type) (validate : String × String → J → Except String PyV) (getattr : String → PyV → PyV) (d : J),
          respond validate getattr { client := B1, ops := ops1 } s' d =
            (respond validate getattr { client := B0, ops := ops0 } sL d).map (fun o => (extra md).foldl (fun o f => getattr f o) o))
    (hLproj : projOKB L x = true) (hLsame : SameBehaviour L x) :
    loadsB ps x = true ∧ projOKB ps x = true ∧ SameBehaviour ps x := by
  refine ⟨(loadsB_iff ps x).mpr ⟨herr, hclash, B1, hB1, hfmt, hann, by rw [hops1]; exact hwell,
    by rw [hops1, importsExistB_iff]; exact himp⟩, ?_⟩
  have hpkg0 : pkgOf L x = { client := B0, ops := ops0 } := by unfold pkgOf; rw [hB0, hops0]; rfl
  have hpkg1 : pkgOf ps x = { client := B1, ops := ops1 } := by unfold pkgOf; rw [hB1, hops1]; rfl
  have hfind : ∀ n : String, finalMethod L x n = none ∨
      ∃ md md', finalMethod L x n = some md ∧ finalMethod ps x n = some md' ∧ R md md' ∧ md ∈ C0.methods := by
    intro n
    unfold finalMethod
    rw [hB0, hB1]
    simp only [hfc0, hfc1, Option.map_some, Option.getD_some]
    rcases ItemsRel.find hname n hitems with ⟨h, _⟩ | h
    · exact .inl h
    · exact .inr h
  constructor
  · unfold projOKB at hLproj ⊢
    rw [List.all_eq_true] at hLproj ⊢
    intro m hm
    have h0 := hLproj m hm
    unfold finalShape at h0 ⊢
    rcases hfind m.name with hn0 | ⟨md, md', hf0, hf1, hrel, hmem⟩
    · rw [hn0] at h0; simp at h0
    · rw [hf0] at h0
      rw [hf1]
      simp only [Option.bind_some] at h0 ⊢
      cases hs : shapeOf md with
      | none => rw [hs] at h0; simp at h0
      | some sL =>
        rw [hs] at h0
        obtain ⟨s', hs', hproj, _, _⟩ := hR md hmem md' hrel sL hs
        rw [hs', hexp m hm md hf0]
        simp only [beq_iff_eq] at h0 ⊢
        rw [hproj, h0]
  · intro m hm s0 hs0
    obtain ⟨sL, hsL, hreqL, hrespL⟩ := hLsame m hm s0 hs0
    unfold finalShape at hsL ⊢
    rcases hfind m.name with hn0 | ⟨md, md', hf0, hf1, hrel, hmem⟩
    · rw [hn0] at hsL; simp at hsL
    · rw [hf0] at hsL
      simp only [Option.bind_some] at hsL
      obtain ⟨s', hs', _, hreq, hresp⟩ := hR md hmem md' hrel sL hsL
      rw [hpkg0] at hreqL hrespL
      refine ⟨s', by rw [hf1]; simpa using hs', by rw [hpkg1, hreq]; exact hreqL, ?_⟩
      intro PyV validate getattr d
      rw [hpkg1, hresp PyV validate getattr d, hrespL PyV validate getattr d, outcome_map_map, hexp m hm md hf0]
      simp only [List.foldl_append]

theorem expectedProj_no_shorter (ps : List PState) (x : Input) (m : Method) (h : ps.any PState.isShorter = false) :
    expectedProj ps x m = [] := by
  unfold expectedProj; simp [h]

theorem sameBehaviour_unplugged (x : Input) : SameBehaviour [] x := by
  intro m _ s0 hs0
  refine ⟨s0, hs0, rfl, fun PyV validate getattr d => ?_⟩
  rw [expectedProj_no_shorter [] x m rfl]
  exact (outcome_map_id _).symm

end Ariadne.C15
