/-
  Property C01, "plain selections" tier, part (2): the classes `plainClasses`
  accept every response a conformant executor can give for the selection set, and dump it back
  (up to the order of object members).
-/
import AriadneModel.Proofs.C01PlainGen
import AriadneModel.Proofs.C01Accepts


namespace Ariadne.C01Plain
open Ariadne Ariadne.Gql Ariadne.ResultTypes Ariadne.Pyd Ariadne.C01Accepts

/-- what part (2) says about one class, for executor fuel `ef`: the validation fuel of the tier is `vneed … + 1` -/
def ValSpec (env : ResultTypes.Env) (penv : Pyd.Env) (frags : List Fragment) (ef : Nat) : Prop :=
  ∀ (marks : List Nat) (cn tn : String) (sel : List Selection),
    setOK env sel = true → plainLocal env marks cn tn sel = true →
    (∀ c ∈ plainClasses env cn tn sel, penv.class? c.name = some c) →
    Accepts env.schema frags penv ef (vneed env tn sel + 1) cn tn sel

theorem mem_plainDecls {env : ResultTypes.Env} {cn tn : String} {sel : List Selection} {d : FieldDecl}
    (h : d ∈ plainDecls env cn tn sel) :
    ∃ alias name dirs sid sub, Selection.field alias name dirs sid sub ∈ sel ∧ d = fieldDecl env cn tn alias name dirs sub := by
  unfold plainDecls at h
  obtain ⟨x, hx, hd⟩ := List.mem_flatMap.mp h
  cases x with
  | field alias name dirs sid sub =>
    simp only [plainDecl1, List.mem_singleton] at hd
    exact ⟨alias, name, dirs, sid, sub, hx, hd⟩
  | spread n d' => simp [plainDecl1] at hd
  | inline on d' sid sub => simp [plainDecl1] at hd

theorem plainDecls_map (env : ResultTypes.Env) (cn tn : String) {β : Type} (φ : FieldDecl → β) (ψ : String → β)
    (hφ : ∀ alias name dirs sub, φ (fieldDecl env cn tn alias name dirs sub) = ψ (alias.getD name)) :
    ∀ (sel : List Selection), (∀ x ∈ sel, isField x = true) →
      (plainDecls env cn tn sel).map φ = (sel.map keyOf).map ψ := by
  intro sel
  induction sel with
  | nil => intro _; simp [plainDecls]
  | cons x rest ih =>
    intro h
    have hx := h x List.mem_cons_self
    cases x with
    | field alias name dirs sid sub =>
      rw [plainDecls_cons_field]
      simp only [List.map_cons, hφ, keyOf]
      rw [ih (fun y hy => h y (List.mem_cons_of_mem _ hy))]
    | spread n d => simp [isField] at hx
    | inline on d sid sub => simp [isField] at hx

theorem fieldDecl_alias (env : ResultTypes.Env) (cn tn : String) (alias : Option String) (name : String) (dirs : List Directive)
    (sub : List Selection) :
    (fieldDecl env cn tn alias name dirs sub).alias =
      if (fieldDecl env cn tn alias name dirs sub).py != alias.getD name then some (alias.getD name) else none := by
  simp only [fieldDecl]
  rfl

theorem fieldDecl_key (env : ResultTypes.Env) (cn tn : String) (alias : Option String) (name : String) (dirs : List Directive)
    (sub : List Selection) :
    (fieldDecl env cn tn alias name dirs sub).alias.getD (fieldDecl env cn tn alias name dirs sub).py = alias.getD name := by
  simp only [fieldDecl]
  by_cases h : pyFieldName env (alias.getD name) = alias.getD name
  · simp [h]
  · simp [h]

theorem mem_plainExtra {env : ResultTypes.Env} {cn tn : String} {x : Selection} {sel : List Selection} (hx : x ∈ sel) :
    ∀ c ∈ plainExtra1 env cn tn x, c ∈ plainExtra env cn tn sel := fun c hc => by
  rw [plainExtra_flatMap]
  exact List.mem_flatMap.mpr ⟨x, hx, hc⟩

theorem setOK_spec {env : ResultTypes.Env} {sel : List Selection} (h : setOK env sel = true) :
    (sel.map keyOf).Nodup ∧ ((sel.map keyOf).map (pyFieldName env)).Nodup ∧
    ∀ k ∈ sel.map keyOf, pyFieldName env k = k ∨ pyFieldName env k ∉ sel.map keyOf := by
  simp only [setOK, Bool.and_eq_true, nodupB_iff, List.all_eq_true, Bool.or_eq_true, beq_iff_eq,
    Bool.not_eq_true', List.contains_eq_mem, decide_eq_false_iff_not] at h
  exact ⟨h.1.1, h.1.2, h.2⟩

theorem vneed_mem (env : ResultTypes.Env) (tn : String) (sel : List Selection) (s : Selection) (h : s ∈ sel) :
    vneed1 env tn s ≤ vneed env tn sel := by
  induction sel with
  | nil => cases h
  | cons x rest ih =>
    simp only [vneed]
    rcases List.mem_cons.mp h with rfl | h
    · omega
    · have := ih h; omega

theorem class_rt (env : ResultTypes.Env) (penv : Pyd.Env) (frags : List Fragment) (ef : Nat)
    (ha : ResultLeaf.EnvAgrees env penv) (hbm : penv.class? "BaseModel" = none)
    (IH : ValSpec env penv frags ef) : ValSpec env penv frags (ef + 1) := by
  intro marks cn tn sel hset hloc hcls
  have hlocs := (plainLocal_iff env marks cn tn sel).mp hloc
  have hfields : ∀ x ∈ sel, isField x = true := fun x hx => plainLocal1_isField (hlocs x hx)
  obtain ⟨hkeys, hpys, hpk⟩ := setOK_spec hset
  have hG := collect_fields env.schema frags ef tn sel [] hfields hkeys (by simp)
  rw [List.nil_append] at hG
  have hc0 : penv.class? cn = some { name := cn, bases := ["BaseModel"], fields := plainDecls env cn tn sel } :=
    hcls ⟨cn, ["BaseModel"], plainDecls env cn tn sel⟩ (by simp [plainClasses])
  have hpyND : ((plainDecls env cn tn sel).map (·.py)).Nodup := by
    rw [plainDecls_map env cn tn (·.py) (pyFieldName env) (fun _ _ _ _ => rfl) sel hfields]
    exact hpys
  have hall : allFields penv penv.clsFuel cn = plainDecls env cn tn sel :=
    allFields_plain penv ⟨cn, ["BaseModel"], plainDecls env cn tn sel⟩ hc0 rfl hbm hpyND penv.classes.length
  refine class_fits env.schema frags penv ef (vneed env tn sel) cn tn sel (pyFieldName env) _ hc0
    (by rw [hall]; exact hpyND) ?_ ?_ ?_ ?_ <;> simp only [hall, hG]
  · intro d hd
    obtain ⟨alias, name, dirs, sid, sub, _, rfl⟩ := mem_plainDecls hd
    rw [fieldDecl_key]; rfl
  · intro d hd
    obtain ⟨alias, name, dirs, sid, sub, hx, rfl⟩ := mem_plainDecls hd
    rw [fieldDecl_key]
    refine (hpk _ (List.mem_map.mpr ⟨_, hx, rfl⟩)).imp id (fun h g hg e => h ?_)
    obtain ⟨y, hy, rfl⟩ := List.mem_map.mp hg
    rw [collOf_key (hfields y hy)] at e
    exact (show pyFieldName env (alias.getD name) = keyOf y from e.symm) ▸ List.mem_map.mpr ⟨y, hy, rfl⟩
  · intro g hg
    obtain ⟨y, hy, rfl⟩ := List.mem_map.mp hg
    cases y with
    | field alias name dirs sid sub =>
      exact ⟨_, List.mem_flatMap.mpr ⟨_, hy, List.mem_singleton.mpr rfl⟩, fieldDecl_key ..⟩
    | spread n d => have := hfields _ hy; simp [isField] at this
    | inline on d sid ss => have := hfields _ hy; simp [isField] at this
  · intro d hd
    obtain ⟨alias, name, dirs, sid, sub, hx, rfl⟩ := mem_plainDecls hd
    refine ⟨collOf (.field alias name dirs sid sub), List.mem_map.mpr ⟨_, hx, rfl⟩, (fieldDecl_key ..).symm, ?_⟩
    obtain ⟨hname, _, hfd, hleaf, hobj⟩ := plainLocal1_field (hlocs _ hx)
    obtain ⟨fd, hfd'⟩ := Option.isSome_iff_exists.mp hfd
    have hT : fieldT env tn name = fd.type := by simp [fieldT, hfd']
    have hvn := vneed_mem env tn sel _ hx
    simp only [vneed1] at hvn
    refine DeclFits.plainField env penv frags ha ef _ tn _ _ (fieldT env tn name) _ dirs (fieldDecl_alias ..) rfl rfl
      (fun h => by simpa [collOf, fieldDecl, Exec.isConditional, hasConditionalDirective] using h)
      (by simpa [collOf, typenameField] using hname) ⟨fd, hfd', hT.symm⟩ (fun hs => ?_) (fun hs => ?_)
    · have hs' : sub.isEmpty = true := hs
      simp only [hs', if_true] at hvn
      exact ⟨if_pos hs', hleaf hs', by omega⟩
    · have hs' : sub.isEmpty = false := hs
      obtain ⟨hkind, _, hsetS, hrec⟩ := hobj hs'
      simp only [hs', Bool.false_eq_true, if_false] at hvn
      refine ⟨subClass env cn alias name, vneed env (subType env tn name) sub + 1, if_neg (by simp [hs']), by omega, ?_⟩
      intro rt' hrt'
      rw [show (fieldT env tn name).base = subType env tn name from rfl, runtimeTypes_object hkind, List.mem_singleton] at hrt'
      subst hrt'
      exact IH marks _ _ sub hsetS hrec
        (fun c hc => hcls c (List.mem_cons_of_mem _ (mem_plainExtra hx c (by rw [plainExtra1_sub _ _ _ _ _ _ _ _ hs']; exact hc))))

theorem val_spec (env : ResultTypes.Env) (penv : Pyd.Env) (frags : List Fragment)
    (ha : ResultLeaf.EnvAgrees env penv) (hbm : penv.class? "BaseModel" = none) : ∀ ef, ValSpec env penv frags ef
  | 0 => fun _ _ _ _ _ _ _ => Accepts.zero _ _ _ _ _ _ _
  | ef + 1 => class_rt env penv frags ef ha hbm (val_spec env penv frags ha hbm ef)

end Ariadne.C01Plain
