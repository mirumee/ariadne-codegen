/-
  `_resolve_selection_set` (`ResultTypes.resolve`), taken apart once for every proof about it: the
  body of its loop under a name (`resolveBody`), a successful call as "the loop ran, then the names were recorded"
  (`resolve_ok_iff`), one successful iteration case by case (`ResolveStep`, `resolveBody_step`), and the part of the state it
  never touches (`Frame`).  C01, C02, C04, C05 and the other C08 files start from these.  Then what it does to the mixin
  set, the mixin-vs-unpack decision behind property C08 (`resolve_spec`, `resolve_spread_mem`).  Core Lean only.
-/
import AriadneModel.Proofs.C08Monad
import AriadneModel.Proofs.Util


namespace Ariadne.ResultTypes
open Ariadne.Gql Ariadne.Util

theorem findFragment_name {frags : List Fragment} {n : String} {f : Fragment} (h : findFragment? frags n = some f) : f.name = n := by
  unfold findFragment? at h
  have := List.find?_some h
  simpa using this

theorem findFragment_of_mem {frags : List Fragment} {n : String} (h : n ∈ frags.map (·.name)) : ∃ f, findFragment? frags n = some f :=
  Lists.find?_of_mem_map h

abbrev Acc := List RField × List String

/-- one iteration of `for selection in selection_set.selections` (the body of `resolve`, named) -/
def resolveBody (env : Env) (fuel : Nat) (root : String) (s : Selection) (acc : Acc) : M (ForInStep Acc) :=
  match s with
  | .field alias name dirs sid sub => pure (.yield (acc.1 ++ [⟨alias, name, dirs, sid, sub⟩], acc.2))
  | .spread n _ =>
    match findFragment? env.frags n with
    | none => err (.internal "KeyError")
    | some f =>
      if (env.schema.get? root).isNone then err (.internal "KeyError")
      else if (env.schema.get? f.on).isNone then err (.internal "KeyError")
      else if !unpackFragment env f (some root) then pure (.yield (acc.1, setAdd acc.2 n))
      else if f.on == root || (env.schema.isAbstract f.on && env.schema.isSubType f.on root) then do
        modify fun st => { st with unpacked := setAdd st.unpacked n }
        let x ← resolve env fuel f.sel root
        pure (.yield (acc.1 ++ x.1, setUnion acc.2 x.2))
      else do
        modify fun st => { st with dropped := st.dropped ++ [(f.on, root)] }
        pure (.yield (acc.1, acc.2))
  | .inline on _ _ sub =>
    match on with
    | none => err (.internal "AttributeError")
    | some cond =>
      match inlineFragmentRootType env cond root with
      | some rt => do
        let x ← resolve env fuel sub rt
        pure (.yield (acc.1 ++ x.1, setUnion acc.2 x.2))
      | none => do
        modify fun st => { st with dropped := st.dropped ++ [(cond, root)] }
        pure (.yield (acc.1, acc.2))

theorem resolve_succ (env : Env) (fuel : Nat) (sels : List Selection) (root : String) :
    resolve env (fuel + 1) sels root =
      (forIn sels (([], []) : Acc) (resolveBody env fuel root) >>= fun acc => do
        modify fun st => { st with mixins := setUnion st.mixins acc.2 }
        pure (acc.1, acc.2)) := rfl

theorem resolve_zero (env : Env) (sels : List Selection) (root : String) : resolve env 0 sels root = err .fuel := rfl

theorem resolve_ok_iff {env : Env} {fuel : Nat} {sels : List Selection} {root : String} {st : St} {r : Acc} {st' : St} :
    resolve env fuel sels root st = .ok (r, st') ↔
      ∃ fuel' s1, fuel = fuel' + 1 ∧ forIn sels (([], []) : Acc) (resolveBody env fuel' root) st = .ok (r, s1) ∧
        st' = { s1 with mixins := setUnion s1.mixins r.2 } := by
  cases fuel with
  | zero =>
    rw [resolve_zero]
    exact ⟨fun h => ((ok_err _ _ _).mp h).elim, fun ⟨_, _, h, _⟩ => by cases h⟩
  | succ fuel =>
    rw [resolve_succ]
    constructor
    · intro h
      obtain ⟨acc, s1, h1, h2⟩ := (ok_bind _ _ _ _ _).mp h
      obtain ⟨u, s2, h3, h4⟩ := (ok_bind _ _ _ _ _).mp h2
      have hs2 := (ok_modify _ _ _ _).mp h3
      obtain ⟨rfl, rfl⟩ := (ok_pure _ _ _ _).mp h4
      exact ⟨fuel, s1, rfl, h1, hs2⟩
    · rintro ⟨fuel', s1, hfu, h1, rfl⟩
      cases hfu
      exact (ok_bind _ _ _ _ _).mpr ⟨r, s1, h1, (ok_bind _ _ _ _ _).mpr ⟨⟨⟩, _, (ok_modify _ _ _ _).mpr rfl, (ok_pure _ _ _ _).mpr ⟨rfl, rfl⟩⟩⟩

/-- The only ways `resolveBody` returns, case by case.  Every proof about `resolve` goes through `resolveBody_step` and a
    `cases`. -/
inductive ResolveStep (env : Env) (fuel : Nat) (root : String) (b : Acc) (s : St) : Selection → Acc → St → Prop
  | field (alias : Option String) (name : String) (dirs : List Directive) (sid : Nat) (sub : List Selection) :
      ResolveStep env fuel root b s (.field alias name dirs sid sub) (b.1 ++ [⟨alias, name, dirs, sid, sub⟩], b.2) s
  | keep {n : String} {dirs : List Directive} {f : Fragment} :
      findFragment? env.frags n = some f → unpackFragment env f (some root) = false →
      ResolveStep env fuel root b s (.spread n dirs) (b.1, setAdd b.2 n) s
  | unpack {n : String} {dirs : List Directive} {f : Fragment} {x : Acc} {s' : St} :
      findFragment? env.frags n = some f → unpackFragment env f (some root) = true →
      (f.on == root || (env.schema.isAbstract f.on && env.schema.isSubType f.on root)) = true →
      resolve env fuel f.sel root { s with unpacked := setAdd s.unpacked n } = .ok (x, s') →
      ResolveStep env fuel root b s (.spread n dirs) (b.1 ++ x.1, setUnion b.2 x.2) s'
  | dropSpread {n : String} {dirs : List Directive} {f : Fragment} :
      findFragment? env.frags n = some f → unpackFragment env f (some root) = true →
      (f.on == root || (env.schema.isAbstract f.on && env.schema.isSubType f.on root)) = false →
      ResolveStep env fuel root b s (.spread n dirs) b { s with dropped := s.dropped ++ [(f.on, root)] }
  | inline {cond : String} {dirs : List Directive} {sid : Nat} {sub : List Selection} {rt : String} {x : Acc} {s' : St} :
      inlineFragmentRootType env cond root = some rt → resolve env fuel sub rt s = .ok (x, s') →
      ResolveStep env fuel root b s (.inline (some cond) dirs sid sub) (b.1 ++ x.1, setUnion b.2 x.2) s'
  | dropInline {cond : String} {dirs : List Directive} {sid : Nat} {sub : List Selection} :
      inlineFragmentRootType env cond root = none →
      ResolveStep env fuel root b s (.inline (some cond) dirs sid sub) b { s with dropped := s.dropped ++ [(cond, root)] }

theorem resolveBody_step {env : Env} {fuel : Nat} {root : String} {a : Selection} {b : Acc} {s : St}
    {r : ForInStep Acc} {s' : St} (h : resolveBody env fuel root a b s = .ok (r, s')) :
    ∃ b1, r = .yield b1 ∧ ResolveStep env fuel root b s a b1 s' := by
  cases a with
  | field alias name dirs sid sub =>
    simp only [resolveBody] at h
    obtain ⟨rfl, rfl⟩ := (ok_pure _ _ _ _).mp h
    exact ⟨_, rfl, .field ..⟩
  | spread n d =>
    cases hf : findFragment? env.frags n with
    | none =>
      simp only [resolveBody, hf] at h
      exact ((ok_err _ _ _).mp h).elim
    | some f =>
      simp only [resolveBody, hf] at h
      split at h
      · exact ((ok_err _ _ _).mp h).elim
      split at h
      · exact ((ok_err _ _ _).mp h).elim
      cases hun : unpackFragment env f (some root) with
      | false =>
        simp only [hun, Bool.not_false, if_true] at h
        obtain ⟨rfl, rfl⟩ := (ok_pure _ _ _ _).mp h
        exact ⟨_, rfl, .keep hf hun⟩
      | true =>
        simp only [hun, Bool.not_true, Bool.false_eq_true, if_false] at h
        split at h
        · rename_i happ
          obtain ⟨u, s1, h1, h2⟩ := (ok_bind _ _ _ _ _).mp h
          have hs1 := (ok_modify _ _ _ _).mp h1
          obtain ⟨x, s2, h3, h4⟩ := (ok_bind _ _ _ _ _).mp h2
          obtain ⟨rfl, rfl⟩ := (ok_pure _ _ _ _).mp h4
          subst hs1
          exact ⟨_, rfl, .unpack hf hun happ h3⟩
        · rename_i happ
          obtain ⟨u, s1, h1, h2⟩ := (ok_bind _ _ _ _ _).mp h
          have hs1 := (ok_modify _ _ _ _).mp h1
          obtain ⟨rfl, rfl⟩ := (ok_pure _ _ _ _).mp h2
          subst hs1
          exact ⟨_, rfl, .dropSpread hf hun (Bool.not_eq_true _ |>.mp happ)⟩
  | inline on d sid sub =>
    cases on with
    | none =>
      simp only [resolveBody] at h
      exact ((ok_err _ _ _).mp h).elim
    | some cond =>
      cases hrt : inlineFragmentRootType env cond root with
      | some rt =>
        simp only [resolveBody, hrt] at h
        obtain ⟨x, s2, h3, h4⟩ := (ok_bind _ _ _ _ _).mp h
        obtain ⟨rfl, rfl⟩ := (ok_pure _ _ _ _).mp h4
        exact ⟨_, rfl, .inline hrt h3⟩
      | none =>
        simp only [resolveBody, hrt] at h
        obtain ⟨u, s1, h1, h2⟩ := (ok_bind _ _ _ _ _).mp h
        have hs1 := (ok_modify _ _ _ _).mp h1
        obtain ⟨rfl, rfl⟩ := (ok_pure _ _ _ _).mp h2
        subst hs1
        exact ⟨_, rfl, .dropInline hrt⟩

theorem ResolveStep.mem_of_mem {env : Env} {fuel : Nat} {root : String} {b : Acc} {s : St} {a : Selection} {b1 : Acc} {s' : St}
    (step : ResolveStep env fuel root b s a b1 s') {n : String} (hn : n ∈ b.2) : n ∈ b1.2 := by
  cases step with
  | field => exact hn
  | keep => exact mem_setAdd.mpr (Or.inl hn)
  | unpack => exact mem_setUnion.mpr (Or.inl hn)
  | dropSpread => exact hn
  | inline => exact mem_setUnion.mpr (Or.inl hn)
  | dropInline => exact hn

theorem ResolveStep.of_kept {env : Env} {fuel : Nat} {root : String} {b : Acc} {s : St} {n : String} {dirs : List Directive}
    {b1 : Acc} {s' : St} (step : ResolveStep env fuel root b s (.spread n dirs) b1 s') {f : Fragment}
    (hf : findFragment? env.frags n = some f) (hun : unpackFragment env f (some root) = false) :
    b1 = (b.1, setAdd b.2 n) ∧ s' = s := by
  have other : ∀ f', findFragment? env.frags n = some f' → unpackFragment env f' (some root) = true → False := by
    intro f' hf' hun'
    rw [hf] at hf'
    cases hf'
    rw [hun] at hun'
    cases hun'
  cases step with
  | keep => exact ⟨rfl, rfl⟩
  | unpack hf' hun' => exact (other _ hf' hun').elim
  | dropSpread hf' hun' => exact (other _ hf' hun').elim

theorem ResolveStep.of_unpacked {env : Env} {fuel : Nat} {root : String} {b : Acc} {s : St} {n : String} {dirs : List Directive}
    {b1 : Acc} {s' : St} (step : ResolveStep env fuel root b s (.spread n dirs) b1 s') {f : Fragment}
    (hf : findFragment? env.frags n = some f) (hun : unpackFragment env f (some root) = true)
    (happ : (f.on == root || (env.schema.isAbstract f.on && env.schema.isSubType f.on root)) = true) :
    ∃ x, resolve env fuel f.sel root { s with unpacked := setAdd s.unpacked n } = .ok (x, s') ∧
      b1 = (b.1 ++ x.1, setUnion b.2 x.2) := by
  have same : ∀ f', findFragment? env.frags n = some f' → f' = f := fun f' hf' => by rw [hf] at hf'; cases hf'; rfl
  cases step with
  | keep hf' hun' => rw [same _ hf', hun] at hun'; cases hun'
  | unpack hf' _ _ hx => cases same _ hf'; exact ⟨_, hx, rfl⟩
  | dropSpread hf' _ happ' => cases same _ hf'; rw [happ] at happ'; cases happ'

/-- a fragment that may be inherited: it exists and `FragmentsGenerator` produces a class for it
    (`_unpack_fragment(fragment_def)` without root type is false) -/
def GoodMixin (env : Env) (n : String) : Prop :=
  ∃ f, findFragment? env.frags n = some f ∧ unpackFragment env f none = false

structure Frame (st st' : St) : Prop where
  publicNames : st'.publicNames = st.publicNames
  usedEnums : st'.usedEnums = st.usedEnums
  usedScalars : st'.usedScalars = st.usedScalars
  mixinImports : st'.mixinImports = st.mixinImports
  marks : st'.marks = st.marks

theorem Frame.refl (st : St) : Frame st st := ⟨rfl, rfl, rfl, rfl, rfl⟩

theorem Frame.trans {a b c : St} (h₁ : Frame a b) (h₂ : Frame b c) : Frame a c :=
  ⟨h₂.publicNames.trans h₁.publicNames, h₂.usedEnums.trans h₁.usedEnums, h₂.usedScalars.trans h₁.usedScalars,
   h₂.mixinImports.trans h₁.mixinImports, h₂.marks.trans h₁.marks⟩

structure RSpec (env : Env) (st : St) (r : Acc) (st' : St) : Prop where
  frame : Frame st st'
  good : ∀ n ∈ r.2, GoodMixin env n
  mixins : ∀ n, n ∈ st'.mixins ↔ n ∈ st.mixins ∨ n ∈ r.2

theorem unpack_none_of_root {env : Env} {f : Fragment} {root : String}
    (h : unpackFragment env f (some root) = false) : unpackFragment env f none = false := by
  unfold unpackFragment at h ⊢
  simp only [Bool.or_eq_false_iff] at h ⊢
  exact ⟨⟨h.1.1, by simp⟩, h.2⟩

/-- **specification of `_resolve_selection_set`** (any fuel, any state): only fragments that get a
    class of their own are returned as mixins, and `_fragments_used_as_mixins` grows by exactly them -/
theorem resolve_spec (env : Env) : ∀ (fuel : Nat) (sels : List Selection) (root : String) (st : St) (r : Acc) (st' : St),
    resolve env fuel sels root st = .ok (r, st') → RSpec env st r st'
  | 0, sels, root, st, r, st', h => by
    obtain ⟨_, _, h0, _⟩ := resolve_ok_iff.mp h
    cases h0
  | fuel + 1, sels, root, st, acc, st', h => by
    obtain ⟨_, s1, hfu, h1, rfl⟩ := resolve_ok_iff.mp h
    cases hfu
    -- loop invariant: the frame; what is collected is good; the recorded mixins are the old ones and collected ones
    obtain ⟨hf, hg, hm, hk⟩ := forIn_ok_inv
      (fun (b : Acc) (s : St) => Frame st s ∧ (∀ n ∈ b.2, GoodMixin env n) ∧ (∀ n ∈ s.mixins, n ∈ st.mixins ∨ n ∈ b.2)
        ∧ (∀ n ∈ st.mixins, n ∈ s.mixins))
      (resolveBody env fuel root) sels ([], []) st acc s1
      (by
        intro a _ b s r s' ⟨hf, hg, hm, hk⟩ hr
        obtain ⟨b1, rfl, step⟩ := resolveBody_step hr
        -- a nested `resolve`, started in a state `s0` that agrees with `s` on the frame and on the mixins
        have nested : ∀ {s0 : St} {x : Acc}, RSpec env s0 x s' → Frame s s0 → s0.mixins = s.mixins →
            Frame st s' ∧ (∀ n ∈ setUnion b.2 x.2, GoodMixin env n) ∧
            (∀ n ∈ s'.mixins, n ∈ st.mixins ∨ n ∈ setUnion b.2 x.2) ∧ (∀ n ∈ st.mixins, n ∈ s'.mixins) := by
          intro s0 x sp h0 hm0
          refine ⟨(hf.trans h0).trans sp.frame, ?_, ?_, fun n hn => (sp.mixins n).mpr (Or.inl (hm0 ▸ hk n hn))⟩
          · intro n hn
            exact (mem_setUnion.mp hn).elim (hg n) (sp.good n)
          · intro n hn
            rcases (sp.mixins n).mp hn with hn | hn
            · exact (hm n (hm0 ▸ hn)).imp_right fun h => mem_setUnion.mpr (Or.inl h)
            · exact Or.inr (mem_setUnion.mpr (Or.inr hn))
        cases step with
        | field => exact ⟨hf, hg, hm, hk⟩
        | keep hfind hun =>
          refine ⟨hf, ?_, fun n hn => (hm n hn).imp_right fun h => mem_setAdd.mpr (Or.inl h), hk⟩
          intro n hn
          rcases mem_setAdd.mp hn with hn | rfl
          · exact hg n hn
          · exact ⟨_, hfind, unpack_none_of_root hun⟩
        | unpack _ _ _ hx => exact nested (resolve_spec env fuel _ _ _ _ _ hx) ⟨rfl, rfl, rfl, rfl, rfl⟩ rfl
        | dropSpread => exact ⟨hf.trans ⟨rfl, rfl, rfl, rfl, rfl⟩, hg, hm, hk⟩
        | inline _ hx => exact nested (resolve_spec env fuel _ _ _ _ _ hx) (Frame.refl _) rfl
        | dropInline => exact ⟨hf.trans ⟨rfl, rfl, rfl, rfl, rfl⟩, hg, hm, hk⟩)
      ⟨Frame.refl _, fun n hn => absurd hn List.not_mem_nil, fun n hn => Or.inl hn, fun n hn => hn⟩ h1
    refine ⟨⟨hf.publicNames, hf.usedEnums, hf.usedScalars, hf.mixinImports, hf.marks⟩, hg, ?_⟩
    intro n
    show n ∈ setUnion s1.mixins acc.2 ↔ _
    rw [mem_setUnion]
    exact ⟨fun h => h.elim (hm n) Or.inr, fun h => h.imp_left (hk n)⟩

theorem resolve_established {env : Env} {fuel : Nat} {sels : List Selection} {root : String} {st : St} {r : Acc} {st' : St}
    {n : String} {a₀ : Selection} (hmem : a₀ ∈ sels)
    (hest : ∀ b s b1 s', ResolveStep env fuel root b s a₀ b1 s' → n ∈ b1.2)
    (h : resolve env (fuel + 1) sels root st = .ok (r, st')) : n ∈ r.2 := by
  obtain ⟨_, s1, hfu, h1, _⟩ := resolve_ok_iff.mp h
  cases hfu
  refine forIn_ok_established (fun (b : Acc) => n ∈ b.2) (resolveBody env fuel root) a₀ sels ([], []) st r s1 hmem ?_ ?_ h1
  · intro a _ b s r s' hr
    obtain ⟨b1, rfl, step⟩ := resolveBody_step hr
    exact ⟨b1, rfl, step.mem_of_mem⟩
  · intro b s r s' hr
    obtain ⟨b1, rfl, step⟩ := resolveBody_step hr
    exact hest b s b1 s' step

/-- **the mixin criterion on `_resolve_selection_set`**: a direct spread of a fragment that is not
    unpacked for this root type is returned among the fragments to inherit from -/
theorem resolve_spread_mem (env : Env) (fuel : Nat) (sels : List Selection) (root : String) (st : St) (r : Acc) (st' : St)
    (n : String) (dirs : List Directive) (f : Fragment)
    (hmem : Selection.spread n dirs ∈ sels) (hf : findFragment? env.frags n = some f)
    (hun : unpackFragment env f (some root) = false)
    (h : resolve env fuel sels root st = .ok (r, st')) : n ∈ r.2 ∧ n ∈ st'.mixins := by
  have sp := resolve_spec env fuel sels root st r st' h
  suffices n ∈ r.2 from ⟨this, (sp.mixins n).mpr (Or.inr this)⟩
  obtain ⟨fuel, _, rfl, _⟩ := resolve_ok_iff.mp h
  refine resolve_established hmem (fun b s b1 s' step => ?_) h
  rw [(step.of_kept hf hun).1]
  exact mem_setAdd.mpr (Or.inr rfl)

end Ariadne.ResultTypes
