/-
  Lemmas for C09 about the order of the steps of `PackageGenerator.generate`: what any run of steps
  that does not write enums.py does to the pruning state (`preEffect`).  Core Lean only.
-/
import AriadneModel.Model.Prune


namespace Ariadne.Prune

/-- the classes `_generate_input_types` writes when it runs in state `st` -/
def cdsOf (x : Input) (st : St) : Option (List InputDef) :=
  filterInputDefs x.inputs (if x.allInputs then none else some st.argInputs)

/-- what a step appends to `PackageGenerator._used_enums` -/
def contrib (x : Input) (st : St) : Step → List Name
  | .inputs => match cdsOf x st with
    | some cds => inputsUsedEnums x.inputs (names cds)
    | none => []
  | .results => []
  | .fragments => fragEnumsOf x
  | .client => st.argEnums
  | .enums => []

/-- Effect of a run of steps that does not write enums.py, relative to the state it started from: what the inputs step
    and the client step write is determined by the START state, whenever they run and however often. -/
structure PreEffect (x : Input) (pre : List Step) (st st' : St) : Prop where
  argInputs : st'.argInputs = st.argInputs
  argEnums : st'.argEnums = st.argEnums
  enumsModule : st'.enumsModule = st.enumsModule
  usedEnums : st'.usedEnums = st.usedEnums ++ pre.flatMap (contrib x st)
  inputs : (st'.inputsModule, st'.inputsEnumImport) =
    if Step.inputs ∈ pre then (cdsOf x st, contrib x st .inputs) else (st.inputsModule, st.inputsEnumImport)
  client : (st'.clientInputs, st'.clientEnums) =
    if Step.client ∈ pre then (st.argInputs, st.argEnums) else (st.clientInputs, st.clientEnums)

theorem stepEffect (x : Input) (s : Step) (st st1 : St) (hs : s ≠ .enums) (h : step x st s = some st1) :
    PreEffect x [s] st st1 := by
  cases s with
  | enums => exact absurd rfl hs
  | results =>
    simp [step] at h; subst h
    exact ⟨rfl, rfl, rfl, by simp [contrib], by simp, by simp⟩
  | fragments =>
    simp only [step] at h
    cases hf : x.fragEnums with
    | none =>
      simp [hf] at h; subst h
      exact ⟨rfl, rfl, rfl, by simp [contrib, fragEnumsOf, hf], by simp, by simp⟩
    | some es =>
      simp [hf] at h; subst h
      exact ⟨rfl, rfl, rfl, by simp [contrib, fragEnumsOf, hf], by simp, by simp⟩
  | client =>
    simp [step] at h; subst h
    exact ⟨rfl, rfl, rfl, by simp [contrib], by simp, by simp⟩
  | inputs =>
    simp only [step] at h
    cases hc : filterInputDefs x.inputs (if x.allInputs then none else some st.argInputs) with
    | none => simp [hc] at h
    | some cds =>
      simp [hc] at h; subst h
      exact ⟨rfl, rfl, rfl, by simp [contrib, cdsOf, hc, names], by simp [contrib, cdsOf, hc, names], by simp⟩

theorem contrib_congr (x : Input) (st st1 : St) (h1 : st1.argInputs = st.argInputs) (h2 : st1.argEnums = st.argEnums) :
    contrib x st1 = contrib x st := by
  funext s
  cases s <;> simp [contrib, cdsOf, h1, h2]

/-- a value written by step `t` from the start state: after `s :: pre` it is what it is after `pre`, started one step later -/
theorem written_cons {α : Type} (t s : Step) (pre : List Step) (a a1 b b1 c : α) (ha : a1 = a)
    (h1 : b1 = if t ∈ [s] then a else b) (h : c = if t ∈ pre then a1 else b1) : c = if t ∈ s :: pre then a else b := by
  subst ha h1 h
  by_cases hp : t ∈ pre <;> by_cases hs : t = s <;> simp [hp, hs]

theorem preEffect (x : Input) : ∀ (pre : List Step) (st st' : St), Step.enums ∉ pre →
    runSteps x pre st = some st' → PreEffect x pre st st'
  | [], st, st', _, h => by
    simp [runSteps] at h
    subst h
    exact ⟨rfl, rfl, rfl, by simp, by simp, by simp⟩
  | s :: pre, st, st', hne, h => by
    have hne' : Step.enums ∉ pre := fun hm => hne (List.mem_cons_of_mem _ hm)
    have hs : s ≠ Step.enums := fun he => hne (by simp [he])
    simp only [runSteps, List.foldlM_cons] at h
    cases h1 : step x st s with
    | none => simp [h1] at h
    | some st1 =>
      simp only [h1] at h
      have e := preEffect x pre st1 st' hne' h
      have e1 := stepEffect x s st st1 hs h1
      have hcg := contrib_congr x st st1 e1.argInputs e1.argEnums
      have hcd : cdsOf x st1 = cdsOf x st := by simp [cdsOf, e1.argInputs]
      refine ⟨e.argInputs.trans e1.argInputs, e.argEnums.trans e1.argEnums, e.enumsModule.trans e1.enumsModule, ?_, ?_, ?_⟩
      · rw [e.usedEnums, e1.usedEnums, hcg]; simp [List.append_assoc]
      · exact written_cons _ s pre _ _ _ _ _ (by rw [hcg, hcd]) e1.inputs e.inputs
      · exact written_cons _ s pre _ _ _ _ _ (by rw [e1.argInputs, e1.argEnums]) e1.client e.client

end Ariadne.Prune
