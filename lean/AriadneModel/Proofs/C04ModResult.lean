/-
  Proofs/C04ModResult.lean — the operation modules and `fragments.py`: imports resolve, class statements load,
  rebuild calls name classes of the module (`result_residual_parts`, `fragments_residual_parts`; the quoted forward
  references are Proofs/C04Fwd2.lean's).  On the way: a rank for the spread graph from the decidable acyclicity check
  (`spreadRank_of_acyclic`), what `FragmentsGenerator.generate` returns and that every generator's classes are in
  `fragments.py`, an inherited fragment is among those generated (`inherited_remaining`), the `@mixin` pairs of the
  document are importable (`mixOK_of_valid`).
-/
import AriadneModel.Proofs.C04ModResultParts
import AriadneModel.Proofs.C04Ops
import AriadneModel.Proofs.C08Acyclic


namespace Ariadne.C04Proofs
open Ariadne.Gql Ariadne.Util Ariadne.Package Ariadne.PackageValid Ariadne.Spec.PyScope
open Ariadne.ResultTypes (pascal ModuleOut GenSpec MixOK GoodPair GoodMixin)
open Ariadne.Fragments (DefGen FragmentsOut)

mutual
  theorem selSpreadNames_eq : ∀ s : Selection, selSpreadNames s = ResultTypes.selSpreads s
    | .field _ _ _ _ sub => by simp [selSpreadNames, ResultTypes.selSpreads, selsSpreadNames_eq sub]
    | .spread n _ => rfl
    | .inline _ _ _ sub => by simp [selSpreadNames, ResultTypes.selSpreads, selsSpreadNames_eq sub]
  theorem selsSpreadNames_eq : ∀ sels : List Selection, selsSpreadNames sels = ResultTypes.selsSpreads sels
    | [] => rfl
    | s :: rest => by simp [selsSpreadNames, ResultTypes.selsSpreads, selSpreadNames_eq s, selsSpreadNames_eq rest]
end

theorem spreadRank_of_acyclic {cfg : Config} {inp : Input} (h : fragsAcyclic inp = true) :
    ∃ rk, Fragments.SpreadRank (rtEnv cfg inp) rk := by
  refine ⟨fun n => (fragOrder inp.frags).idxOf n, ?_⟩
  intro n f hf m hm
  have hmem : f ∈ inp.frags := List.mem_of_find?_eq_some hf
  have hname : f.name = n := ResultTypes.findFragment_name hf
  unfold fragsAcyclic at h
  have h1 := List.all_eq_true.mp h f hmem
  rw [← selsSpreadNames_eq] at hm
  have h2 := List.all_eq_true.mp h1 m hm
  rw [hname] at h2
  simpa using h2

theorem fragments_described {e : Order.EnumOracle} {env : ResultTypes.Env} {fuel : Nat} {names : List String} {marks : List Nat}
    {fo : FragmentsOut} {gens : List DefGen} (hg : Fragments.genFragments env fuel names marks = .ok gens)
    (h : Fragments.generateFragments e env fuel names marks = .ok fo) : Fragments.Described e env fuel names gens fo := by
  obtain ⟨gens', hg', D⟩ := Fragments.generateFragments_described h
  cases hg.symm.trans hg'
  exact D

theorem gens_classes_in_module {env : ResultTypes.Env} {fuel : Nat} {excluded : List String} {marks : List Nat}
    {gens : List DefGen} {fo : FragmentsOut}
    (hg : Fragments.genFragments env fuel (Fragments.remaining env excluded) marks = .ok gens)
    (hf : Fragments.generateFragments id env fuel (Fragments.remaining env excluded) marks = .ok fo) :
    ∀ g ∈ gens, ∀ c ∈ g.out.classes, c ∈ fo.classes := by
  have D := fragments_described hg hf
  have hnd : (gens.map (·.name)).Nodup := by
    rw [D.genNames]
    unfold Fragments.remaining
    exact (nodup_dedup _).filter _
  intro g hgm c hc
  have hin : g.name ∈ fo.order := by
    refine Order.dfs_complete D.order g.name ((Order.mem_pySorted _ _).mpr ?_)
    show g.name ∈ Fragments.remaining env excluded
    rw [← D.genNames]
    exact List.mem_map.mpr ⟨g, hgm, rfl⟩
  rw [D.classes]
  exact Fragments.mem_classesOf gens (Fragments.lookupGen_of_nodup gens hnd g hgm) fo.order hin c hc

section
variable {cfg : Config} {inp : Input} {p : PackageIR} {st : St} {io : InputsOut}
  {fx : Option (Fragments.FragmentsOut × List Fragments.DefGen)}

/-- outside the trigger `unpackedAndInherited`, a fragment that has a class of its own and that an operation or a fragment
    inherits from was unpacked by no operation: it is among the fragments `_generate_fragments` generates -/
theorem inherited_remaining
    (hst : addOperations cfg inp Package.fuel {} inp.ops = .ok st)
    (htr : Fragments.trigUnpackedAndInherited id (rtEnv cfg inp) Package.fuel (inp.ops.map (·.op)) = false)
    {n : String} (hgood : GoodMixin (rtEnv cfg inp) n)
    (hinh : n ∈ Fragments.inheritedByOps (opsOut st) ∨ n ∈ Fragments.inheritedByFragments id (rtEnv cfg inp) Package.fuel (opsOut st)) :
    n ∈ Fragments.remaining (rtEnv cfg inp) st.unpacked :=
  Fragments.mem_remaining.mpr ⟨Fragments.goodMixin_mem_frags hgood,
    Fragments.not_unpacked_of_inherited (acc := opsOut st) (addOperations_bridge inp.ops {} st hst) htr hinh⟩

/-- the `@mixin` pairs a generator of the document records satisfy `GoodPair`: `mixinsOK` checked every directive -/
theorem mixOK_of_valid (hmx : mixinsOK cfg inp = true) {d : ResultTypes.Definition} {marks : List Nat}
    {out : ModuleOut} (hd : (∃ o ∈ inp.ops, d = .op o.op) ∨ (∃ f ∈ inp.frags, d = .frag f))
    (hgen : ResultTypes.generate (rtEnv cfg inp) Package.fuel d marks = .ok out) : MixOK (GoodPair cfg) out.st := by
  unfold mixinsOK at hmx
  simp only [Bool.and_eq_true] at hmx
  have hfrag : ∀ f ∈ inp.frags, ResultTypes.DirsGood (GoodPair cfg) f.dirs ∧ ResultTypes.SelsGood (GoodPair cfg) f.sel := by
    intro f hf
    have := List.all_eq_true.mp hmx.2 f hf
    simp only [Bool.and_eq_true] at this
    exact ⟨ResultTypes.dirsGood_of_ok this.1, ResultTypes.selsGood_of_ok _ this.2⟩
  have hfr : ∀ n f, findFragment? (rtEnv cfg inp).frags n = some f → ResultTypes.SelsGood (GoodPair cfg) f.sel :=
    fun n f hf => (hfrag f (List.mem_of_find?_eq_some hf)).2
  rcases hd with ⟨o, ho, rfl⟩ | ⟨f, hf, rfl⟩
  · have hop := List.all_eq_true.mp hmx.1 o ho
    simp only [Bool.and_eq_true] at hop
    exact ResultTypes.generate_good hfr _ (.op o.op) marks _
      (show ResultTypes.DirsGood (GoodPair cfg) o.op.dirs ∧ ResultTypes.SelsGood (GoodPair cfg) o.op.sel from
        ⟨ResultTypes.dirsGood_of_ok hop.1, ResultTypes.selsGood_of_ok _ hop.2⟩) hgen
  · exact ResultTypes.generate_good hfr _ (.frag f) marks _
      (show ResultTypes.DirsGood (GoodPair cfg) f.dirs ∧ ResultTypes.SelsGood (GoodPair cfg) f.sel from hfrag f hf) hgen

theorem Facts.frags_ran (F : Facts cfg inp p st io fx) {fo : FragmentsOut} {gens : List DefGen} (hfx : fx = some (fo, gens)) :
    Fragments.genFragments (rtEnv cfg inp) Package.fuel (Fragments.remaining (rtEnv cfg inp) st.unpacked) st.marks = .ok gens ∧
    Fragments.generateFragments id (rtEnv cfg inp) Package.fuel (Fragments.remaining (rtEnv cfg inp) st.unpacked) st.marks = .ok fo := by
  rcases F.frags with ⟨_, hnone⟩ | ⟨_, fo', gens', hfx', hg', hf'⟩
  · rw [hfx] at hnone; cases hnone
  · rw [hfx] at hfx'
    cases hfx'
    exact ⟨hg', hf'⟩

theorem mixin_class_emitted (F : Facts cfg inp p st io fx)
    (htr : Fragments.trigUnpackedAndInherited id (rtEnv cfg inp) Package.fuel (inp.ops.map (·.op)) = false)
    {g : DefGen} (hg : g ∈ st.outs) {n : String} (hn : n ∈ g.out.st.mixins) :
    ∃ fo gens, fx = some (fo, gens) ∧ pascal n ∈ fo.classes.map (·.name) := by
  obtain ⟨o, _, marks, _, hgen⟩ := (opsInv_of F.ops).gens g hg
  -- the mixin is a fragment with a class of its own that no operation unpacked
  have hgood : GoodMixin (rtEnv cfg inp) n := (ResultTypes.generate_spec _ _ _ marks _ hgen).1 n hn
  have hrem := inherited_remaining F.ops htr hgood
    (Or.inl (List.mem_flatMap.mpr ⟨g, hg, hn⟩))
  rcases F.frags with ⟨hemp, _⟩ | ⟨_, fo, gens, hfx, hgens, hfo⟩
  · rw [List.isEmpty_iff.mp hemp] at hrem
    cases hrem
  · exact ⟨fo, gens, hfx, Fragments.fragments_emitted id Order.enumOK_id _ _ _ st.marks fo hfo n hrem hgood⟩

/-- `m` carries the classes and the imports of the generators `gens`, each of which ran on a definition of the document:
    an operation's module is made of the operation's generator, `fragments.py` of the generators of the fragments -/
structure MadeOf (cfg : Config) (inp : Input) (m : ModuleIR) (gens : List DefGen) : Prop where
  from_ : ∀ g ∈ gens, ∃ d marks, ((∃ o ∈ inp.ops, d = .op o.op) ∨ (∃ f ∈ inp.frags, d = .frag f)) ∧
    ResultTypes.generate (rtEnv cfg inp) Package.fuel d marks = .ok g.out
  classes : ∀ c ∈ m.classes, ∃ g ∈ gens, ∃ cd ∈ g.out.classes, c = resultClassIR cd
  has : ∀ g ∈ gens, ∀ cd ∈ g.out.classes, resultClassIR cd ∈ m.classes
  imports : ∀ g ∈ gens, ∀ i ∈ generatorImports cfg false g.out.st, i ∈ m.imports
  noMethods : m.methods = []

section
variable {m : ModuleIR} {gens : List DefGen} (M : MadeOf cfg inp m gens)
include M

theorem MadeOf.spec {g : DefGen} (hg : g ∈ gens) : GenSpec (rtEnv cfg inp) g.out := by
  obtain ⟨d, marks, _, hgen⟩ := M.from_ g hg
  exact ResultTypes.generate_out _ _ _ marks _ hgen

theorem MadeOf.public_defined {g : DefGen} (hg : g ∈ gens) {n : String} (hn : n ∈ g.out.st.publicNames) : n ∈ m.defines := by
  obtain ⟨c, hc, rfl⟩ := List.mem_map.mp (((M.spec hg).pubClasses n).mp hn)
  exact class_mem_defines (M.has g hg c hc)

theorem MadeOf.imports_resolve (F : Facts cfg inp p st io fx) (hc : cfgOK cfg = true) (hmx : mixinsOK cfg inp = true)
    (henum : ∀ g ∈ gens, ∀ e ∈ g.out.st.usedEnums, e ∈ finalUsedEnums st io fx) :
    ∀ g ∈ gens, ∀ i ∈ generatorImports cfg false g.out.st, Resolves p (normImport i) := by
  intro g hg
  obtain ⟨d, marks, hd, hgen⟩ := M.from_ g hg
  exact generatorImports_resolve F hc (mixOK_of_valid hmx hd hgen) fun e he => ⟨(M.spec hg).enumsKind e he, henum g hg e he⟩

/-- the class statements load as soon as the bases are bound or defined earlier: what the annotations evaluate is bound -/
theorem MadeOf.classesLoad (hc : cfgOK cfg = true)
    (hb : ∀ pre c post, m.classes = pre ++ c :: post → ∀ b ∈ c.bases, Avail m b ∨ b ∈ pre.map (·.name)) : classesLoad m = true := by
  refine classesLoad_of (fun pre c post heq u hu => ?_) (fun f hf => by rw [M.noMethods] at hf; cases hf)
  rcases List.mem_append.mp hu with hu | hu
  · exact hb pre c post heq u hu
  · have hcm : c ∈ m.classes := by rw [heq]; simp
    obtain ⟨g, hg, cd, hcd, rfl⟩ := M.classes c hcm
    exact Or.inl (result_uses_bound hc (M.spec hg) (M.imports g hg) hcd u hu)

end

theorem madeOf_result (F : Facts cfg inp p st io fx) {fm : String × ModuleIR} (hfm : fm ∈ st.files) :
    ∃ g ∈ st.outs, fm.2 = resultModule cfg fm.1 g.out ∧ MadeOf cfg inp fm.2 [g] := by
  have I := opsInv_of F.ops
  obtain ⟨g, hg, _, hmod⟩ := I.files fm hfm
  obtain ⟨o, ho, marks, _, hgen⟩ := I.gens g hg
  refine ⟨g, hg, hmod, ⟨fun g' hg' => ?_, fun c hc => ?_, fun g' hg' cd hcd => ?_, fun g' hg' i hi => ?_, by rw [hmod]; rfl⟩⟩
  · rw [List.mem_singleton.mp hg']; exact ⟨_, marks, Or.inl ⟨o, ho, rfl⟩, hgen⟩
  · rw [hmod] at hc
    obtain ⟨cd, hcd, rfl⟩ := List.mem_map.mp hc
    exact ⟨g, List.mem_singleton.mpr rfl, cd, hcd, rfl⟩
  · rw [List.mem_singleton.mp hg'] at hcd; rw [hmod]; exact List.mem_map.mpr ⟨cd, hcd, rfl⟩
  · rw [List.mem_singleton.mp hg'] at hi; rw [hmod]; exact mem_generatorImports_true.mpr (Or.inl hi)

theorem madeOf_fragments (F : Facts cfg inp p st io fx) {fo : FragmentsOut} {gens : List DefGen} (hfx : fx = some (fo, gens)) :
    MadeOf cfg inp (fragmentsModuleIR cfg fo gens) gens := by
  obtain ⟨hgens, hfo⟩ := F.frags_ran hfx
  have D := fragments_described hgens hfo
  refine ⟨fun g hg => ?_, fun c hc => ?_, fun g hg cd hcd => ?_, fun g hg i hi => List.mem_flatMap.mpr ⟨g, hg, hi⟩, rfl⟩
  · obtain ⟨f, marks, hf, hgn⟩ := D.from_ g hg
    exact ⟨_, marks, Or.inr ⟨f, List.mem_of_find?_eq_some hf, rfl⟩, hgn⟩
  · obtain ⟨cd, hcd, rfl⟩ := List.mem_map.mp (show c ∈ fo.classes.map resultClassIR from hc)
    obtain ⟨g, hg, hcdg⟩ := Fragments.mem_classesOf_inv gens fo.order cd (D.classes ▸ hcd)
    exact ⟨g, hg, cd, hcdg, rfl⟩
  · exact List.mem_map.mpr ⟨cd, gens_classes_in_module hgens hfo g hg cd hcd, rfl⟩

/-- **an operation module** (all of `residualParts` except the quoted forward references) -/
theorem result_residual_parts (F : Facts cfg inp p st io fx) (hc : cfgOK cfg = true) (hmx : mixinsOK cfg inp = true)
    (htr : Fragments.trigUnpackedAndInherited id (rtEnv cfg inp) Package.fuel (inp.ops.map (·.op)) = false)
    {fm : String × ModuleIR} (hfm : fm ∈ st.files) :
    importsResolve p fm.2 = true ∧ classesLoad fm.2 = true ∧ (fm.2.rebuilds.all (fm.2.classes.map (·.name)).contains) = true := by
  obtain ⟨g, hg, hmod, M⟩ := madeOf_result F hfm
  have hin : g ∈ [g] := List.mem_singleton.mpr rfl
  obtain ⟨d, marks, _, hgen⟩ := M.from_ g hin
  have himpEq : fm.2.imports = generatorImports cfg true g.out.st := by rw [hmod]; rfl
  refine ⟨?_, ?_, ?_⟩
  · apply importsResolve_of
    intro i hi
    rw [himpEq] at hi
    rcases mem_generatorImports_true.mp hi with hi | ⟨hne, rfl⟩
    · refine M.imports_resolve F hc hmx (fun g' hg' e he => mem_finalUsedEnums (Or.inl ?_)) g hin i hi
      rw [(opsInv_of F.ops).usedEnums, List.mem_singleton.mp hg'] at *
      exact List.mem_flatMap.mpr ⟨g, hg, he⟩
    · -- some mixin exists: the fragments module is written, and it holds the class of every mixin
      obtain ⟨n0, hn0⟩ := List.exists_mem_of_ne_nil _ hne
      obtain ⟨fo, gens, hfx, _⟩ := mixin_class_emitted F htr hg hn0
      refine F.resolves_generated (fragments_mem_written hfx) rfl (cfgFacts hc).fragsDot rfl ?_
      intro nm hnm
      obtain ⟨n, hn, rfl⟩ := List.mem_map.mp hnm
      obtain ⟨fo', gens', hfx', hcl⟩ := mixin_class_emitted F htr hg hn
      rw [hfx] at hfx'
      cases hfx'
      refine className_mem_defines ?_
      simpa [fragmentsModuleIR, resultClassIR, Function.comp] using hcl
  · refine M.classesLoad hc fun pre c post heq b hb => Or.inl ?_
    have hcm : c ∈ fm.2.classes := by rw [heq]; simp
    obtain ⟨g', hg', cd, hcd, rfl⟩ := M.classes c hcm
    rw [List.mem_singleton.mp hg'] at hcd
    rcases (ResultTypes.generate_spec _ _ _ marks _ hgen).2 cd hcd b hb with h1 | ⟨n, hn, rfl⟩ | ⟨pr, hpr, rfl⟩
    · exact result_extbase_bound (M.imports g hin) (Or.inl h1)
    · exact .of_import (himpEq ▸ mem_generatorImports_true.mpr (Or.inr ⟨List.ne_nil_of_mem hn, rfl⟩)) (List.mem_map.mpr ⟨n, hn, rfl⟩)
    · exact result_extbase_bound (M.imports g hin) (Or.inr ⟨pr, hpr, rfl⟩)
  · refine rebuildsOK_of fun r hr => ?_
    rw [hmod] at hr ⊢
    obtain ⟨c, hc', rfl⟩ := List.mem_map.mp hr
    exact List.mem_map.mpr ⟨resultClassIR c, List.mem_map.mpr ⟨c, (List.mem_filter.mp hc').1, rfl⟩, rfl⟩

/-- **fragments.py** (all of `residualParts` except the quoted forward references) -/
theorem fragments_residual_parts (F : Facts cfg inp p st io fx) (hc : cfgOK cfg = true) (hmx : mixinsOK cfg inp = true)
    (hac : fragsAcyclic inp = true) {fo : FragmentsOut} {gens : List DefGen} (hfx : fx = some (fo, gens)) :
    importsResolve p (fragmentsModuleIR cfg fo gens) = true ∧ classesLoad (fragmentsModuleIR cfg fo gens) = true ∧
    ((fragmentsModuleIR cfg fo gens).rebuilds.all ((fragmentsModuleIR cfg fo gens).classes.map (·.name)).contains) = true := by
  obtain ⟨hgens, hfo⟩ := F.frags_ran hfx
  have D := fragments_described hgens hfo
  have M := madeOf_fragments F hfx
  refine ⟨?_, ?_, ?_⟩
  · apply importsResolve_of
    intro i hi
    obtain ⟨g, hg, hi⟩ := List.mem_flatMap.mp (show i ∈ gens.flatMap fun g => generatorImports cfg false g.out.st from hi)
    refine M.imports_resolve F hc hmx (fun g hg e he => mem_finalUsedEnums (Or.inr (Or.inr (Or.inl ?_)))) g hg i hi
    rw [hfx]
    simp only [fragOut, Option.map_some, fragmentEnums, D.usedEnums]
    exact List.mem_flatMap.mpr ⟨g, hg, he⟩
  · -- class statements, in the emitted order: a base is external or defined earlier
    obtain ⟨rk, hrk⟩ := spreadRank_of_acyclic (cfg := cfg) hac
    have hload := Fragments.fragments_load id Order.enumOK_id _ _ _ st.marks fo hfo rk
      (Fragments.deps_acyclic id _ rk hrk _ _ st.marks fo hfo)
    refine M.classesLoad hc fun pre c post heq b hb => ?_
    obtain ⟨l1, l2', e1, e2, h2⟩ := List.map_eq_append_iff.mp (show fo.classes.map resultClassIR = pre ++ c :: post from heq)
    obtain ⟨cd, l2, rfl, rfl, e4⟩ := List.map_eq_cons_iff.mp h2
    have hcm : resultClassIR cd ∈ (fragmentsModuleIR cfg fo gens).classes := by rw [heq]; simp
    obtain ⟨g, hg, _⟩ := M.classes _ hcm
    have hsplit : Fragments.classTable fo.classes = Fragments.classTable l1 ++ (cd.name, cd.bases) :: Fragments.classTable l2 := by
      rw [e1]; simp [Fragments.classTable]
    rcases Fragments.loadsFrom_split (Fragments.external fo) _ [] hload _ _ _ _ hsplit b hb with hext | hseen | hpre
    · left
      rcases hext with h1 | h1
      · exact result_extbase_bound (M.imports g hg) (Or.inl h1)
      · rw [D.mixinImports] at h1
        obtain ⟨pr, hpr, rfl⟩ := List.mem_map.mp h1
        obtain ⟨g', hg', hpr'⟩ := List.mem_flatMap.mp hpr
        exact result_extbase_bound (M.imports g' hg') (Or.inr ⟨pr, hpr', rfl⟩)
    · cases hseen
    · right
      rw [← e2]
      simpa [Fragments.classTable, resultClassIR, Function.comp] using hpre
  · refine rebuildsOK_of fun r hr => ?_
    simpa [fragmentsModuleIR, resultClassIR, Function.comp] using Order.rebuildCalls_mem D.rebuilds r hr

end

end Ariadne.C04Proofs
