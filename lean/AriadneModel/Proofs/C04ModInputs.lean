/-
  Proofs/C04ModInputs.lean — `input_types.py`: every import resolves, every name a class statement evaluates is a
  builtin or imported, every quoted forward reference names a class of the module (the dependency closure keeps it),
  every `model_rebuild()` names a class of the module (`inputs_residual`).
-/
import AriadneModel.Proofs.C04ModInputsParts


namespace Ariadne.C04Proofs
open Ariadne.Gql Ariadne.Package Ariadne.PackageTriggers Ariadne.PackageValid Ariadne.Spec.PyScope
open Ariadne.InputField (annOf mem_classes class_of_input findDef_mem)

theorem input_class_field {cfg : Config} {defs : List InputGen.TypeDef} {cd : InputField.ClassDecl}
    (hcd : cd ∈ InputField.classes (inputCfg cfg) defs) {fd : InputField.FieldDecl} (hfd : fd ∈ cd.fields.filterMap id) :
    ∃ fs f0, InputGen.TypeDef.input cd.name fs ∈ defs ∧ f0 ∈ fs ∧
      InputField.genField (inputCfg cfg) (InputField.kindOf (inputCfg cfg) defs) f0 = some fd := by
  obtain ⟨n, fs, hin, rfl⟩ := mem_classes hcd
  simp only [InputField.genClass] at hfd ⊢
  obtain ⟨o, ho, hid⟩ := List.mem_filterMap.mp hfd
  obtain ⟨f0, hf0, rfl⟩ := List.mem_map.mp ho
  exact ⟨fs, f0, hin, hf0, by simpa using hid⟩

theorem namesOK_type {inp : Input} (h : namesOK inp = true) {t : TypeDef} (ht : t ∈ inp.schema.types) : Names.GName t.name.toList := by
  unfold namesOK at h
  simp only [Bool.and_eq_true] at h
  have := List.all_eq_true.mp h.1.1 t ht
  simp only [Bool.and_eq_true] at this
  have h1 := this.1.1.1
  unfold gname at h1
  simpa using h1

section inputs
variable {cfg : Config} {inp : Input} {io : InputsOut} {kept : List Prune.InputDef}
  (hio : io = inputsOut cfg (pruneTable cfg inp.defs) (InputField.classes (inputCfg cfg) inp.defs) kept)
include hio

theorem inputs_class : ∀ c ∈ io.module.classes, ∃ cd ∈ InputField.classes (inputCfg cfg) inp.defs,
    (kept.map (·.name)).contains cd.name = true ∧ c = inputClassIR cd := by
  intro c hcm
  rw [hio] at hcm
  simp only [inputsOut, List.mem_map] at hcm
  obtain ⟨cd, hcd, rfl⟩ := hcm
  obtain ⟨h1, h2⟩ := List.mem_filter.mp hcd
  exact ⟨cd, h1, h2, rfl⟩

theorem inputs_imports : io.module.imports =
    [⟨0, "typing", ["Optional", "Any", "Union", "List", "Annotated"]⟩, ⟨0, "pydantic", ["Field", "PlainSerializer"]⟩,
     ⟨1, "base_model", ["BaseModel"]⟩, ⟨1, "base_model", [Tables.uploadClassName]⟩]
    ++ (if io.usedEnums.isEmpty then [] else [⟨1, cfg.enumsModule, io.usedEnums⟩])
    ++ scalarImportsOf cfg (inputUsedScalars (pruneTable cfg inp.defs)) := by
  rw [hio]; rfl

theorem inputs_usedEnums_kind (hdm : defsMatch inp = true) : ∀ e ∈ io.usedEnums, inp.schema.kindOf? e = some .enum := by
  have hue : io.usedEnums = Prune.inputsUsedEnums (pruneTable cfg inp.defs) (kept.map (·.name)) := by rw [hio]; rfl
  intro e he
  rw [hue] at he
  obtain ⟨c, _, d, hd, _, her⟩ := (Prune.mem_inputsUsedEnums _ kept e).mp he
  obtain ⟨n, fs, _, rfl⟩ := mem_pruneTable hd
  simp only [Prune.enumRefs, List.mem_filterMap] at her
  obtain ⟨r, hr, hre⟩ := her
  obtain ⟨f, _, hpf⟩ := hr
  cases r with
  | input m => simp at hre
  | scalar m => simp at hre
  | «enum» m =>
    simp only [Option.some.injEq] at hre
    subst hre
    unfold pruneRef at hpf
    simp only at hpf
    cases hfd : InputGen.findDef inp.defs f.type.base with
    | none => rw [hfd] at hpf; simp at hpf
    | some dd =>
      rw [hfd] at hpf
      cases dd with
      | input a b => simp at hpf
      | composite a => simp at hpf
      | scalar a =>
        simp only at hpf
        split at hpf <;> simp at hpf
      | «enum» a vs =>
        simp only [Option.some.injEq, Prune.Ref.enum.injEq] at hpf
        subst hpf
        have ha : a = f.type.base := (findDef_mem hfd).2
        subst ha
        exact defsMatch_enum hdm hfd

variable (kclosed : ∀ c ∈ kept, ∀ n ∈ Prune.depsOf (pruneTable cfg inp.defs) c.name, ∀ d ∈ pruneTable cfg inp.defs, d.name = n → d ∈ kept)

include kclosed in
theorem inputs_field :
    ∀ cd ∈ InputField.classes (inputCfg cfg) inp.defs, (kept.map (·.name)).contains cd.name = true →
      ∀ fd ∈ cd.fields.filterMap id, ∃ f0 a ft,
        annOf (InputField.kindOf (inputCfg cfg) inp.defs) f0.type true = some (a, ft) ∧ fd.ann = a ∧
        (∀ u ∈ valueUses fd.value, u = "Field" ∨ ∃ v, f0.default = some (.enum v) ∧ u = dottedHead (ft ++ "." ++ v)) ∧
        f0 ∈ inputFieldsOf inp ∧
        (InputField.kindOf (inputCfg cfg) inp.defs f0.type.base = .enum → f0.type.base ∈ io.usedEnums) ∧
        (∀ ty ser, InputField.kindOf (inputCfg cfg) inp.defs f0.type.base = .custom ty ser →
          f0.type.base ∈ inputUsedScalars (pruneTable cfg inp.defs)) ∧
        (InputField.kindOf (inputCfg cfg) inp.defs f0.type.base = .input → (kept.map (·.name)).contains f0.type.base = true ∧
          ∃ fs', InputGen.TypeDef.input f0.type.base fs' ∈ inp.defs) := by
  have hue : io.usedEnums = Prune.inputsUsedEnums (pruneTable cfg inp.defs) (kept.map (·.name)) := by rw [hio]; rfl
  have hkeptEntry : ∀ n, (kept.map (·.name)).contains n = true → ∃ k ∈ kept, k.name = n := by
    intro n hn'
    obtain ⟨k, hk, rfl⟩ := List.mem_map.mp (List.contains_iff_mem.mp hn')
    exact ⟨k, hk, rfl⟩
  intro cd hcd hk fd hfd
  obtain ⟨fs, f0, hin, hf0, hgen⟩ := input_class_field hcd hfd
  have hgen' := hgen
  simp only [InputField.genField] at hgen'
  cases ha : annOf (InputField.kindOf (inputCfg cfg) inp.defs) f0.type true with
  | none => rw [ha] at hgen'; simp at hgen'
  | some r =>
    obtain ⟨a, ft⟩ := r
    rw [ha] at hgen'
    simp only [Option.some.injEq] at hgen'
    have hann : fd.ann = a := by rw [← hgen']
    obtain ⟨pk1, pk2, pk3⟩ := pruneRef_of_kind cfg inp.defs f0.type
    have hentry := pruneTable_of_input (cfg := cfg) hin
    obtain ⟨k, hkk, hkn⟩ := hkeptEntry _ hk
    refine ⟨f0, a, ft, ha, hann, fun u hu => genField_value_eager _ _ f0 fd a ft ha hgen hu, ?_, ?_, ?_, ?_⟩
    · unfold inputFieldsOf
      exact List.mem_flatMap.mpr ⟨_, hin, by simpa using hf0⟩
    · intro hke
      rw [hue]
      refine (Prune.mem_inputsUsedEnums _ kept _).mpr ⟨k, hkk, _, hentry, by simp [hkn], ?_⟩
      simp only [Prune.enumRefs, List.mem_filterMap]
      exact ⟨.enum f0.type.base, ⟨f0, hf0, pk2 hke⟩, rfl⟩
    · intro ty ser hks
      unfold inputUsedScalars
      refine List.mem_flatMap.mpr ⟨_, hentry, ?_⟩
      simp only [List.mem_filterMap]
      exact ⟨.scalar f0.type.base, ⟨f0, hf0, pk3 ty ser hks⟩, rfl⟩
    · intro hki
      -- the referenced input type has a definition, a table entry, and the closure keeps it
      have hdef : ∃ fs', InputGen.TypeDef.input f0.type.base fs' ∈ inp.defs := InputField.kindOf_input hki
      obtain ⟨fs', hfs'⟩ := hdef
      refine ⟨?_, fs', hfs'⟩
      have hentry' := pruneTable_of_input (cfg := cfg) hfs'
      have hdep : f0.type.base ∈ Prune.depsOf (pruneTable cfg inp.defs) k.name := by
        refine (Prune.mem_depsOf _ _ _).mpr ⟨_, hentry, by simp [hkn], ?_⟩
        simp only [Prune.inputRefs, List.mem_filterMap]
        exact ⟨.input f0.type.base, ⟨f0, hf0, pk1 hki⟩, rfl⟩
      have := kclosed k hkk _ hdep _ hentry' rfl
      have : f0.type.base ∈ kept.map (·.name) := List.mem_map.mpr ⟨_, this, rfl⟩
      simpa using this

theorem inputs_importsResolve {p : PackageIR} {st : St} {fx : Option (Fragments.FragmentsOut × List Fragments.DefGen)}
    (F : Facts cfg inp p st io fx) (hc : cfgOK cfg = true) (hdm : defsMatch inp = true) : importsResolve p io.module = true := by
  apply importsResolve_of
  intro i hi
  rw [inputs_imports hio] at hi
  simp only [List.mem_append, List.mem_cons, List.mem_nil_iff, or_false] at hi
  rcases hi with (hi | hi) | hi
  · rcases hi with rfl | rfl | rfl | rfl
    · exact resolves_absolute typing_noDot
    · exact resolves_absolute pydantic_noDot
    · exact F.resolves_baseModel (by simp)
    · exact F.resolves_baseModel (by simp)
  · split at hi
    · cases hi
    · simp only [List.mem_singleton] at hi
      subst hi
      exact F.resolves_enums (cfgFacts hc) fun e he =>
        ⟨inputs_usedEnums_kind hio hdm e he, mem_finalUsedEnums (Or.inr (Or.inl he))⟩
  · exact F.resolves_scalarImports hc i hi

include kclosed in
theorem inputs_classesLoad (hc : cfgOK cfg = true) (hdm : defsMatch inp = true) (hn : namesOK inp = true)
    (htr : trigEnumDefaultNotEnum cfg inp = false) : classesLoad io.module = true := by
  have himports := inputs_imports hio
  have hmod : io.module = (inputsOut cfg (pruneTable cfg inp.defs) (InputField.classes (inputCfg cfg) inp.defs) kept).module := by rw [hio]
  have hclass := inputs_class hio
  have henumImp := inputs_usedEnums_kind hio hdm
  have hfield := inputs_field hio kclosed
  have hTyping : (⟨0, "typing", ["Optional", "Any", "Union", "List", "Annotated"]⟩ : Import) ∈ io.module.imports := by rw [himports]; simp
  have hPydantic : (⟨0, "pydantic", ["Field", "PlainSerializer"]⟩ : Import) ∈ io.module.imports := by rw [himports]; simp
  have hBaseModel : (⟨1, "base_model", ["BaseModel"]⟩ : Import) ∈ io.module.imports := by rw [himports]; simp
  have hUpload : (⟨1, "base_model", [Tables.uploadClassName]⟩ : Import) ∈ io.module.imports := by rw [himports]; simp
  have hEnums : io.usedEnums ≠ [] → (⟨1, cfg.enumsModule, io.usedEnums⟩ : Import) ∈ io.module.imports := by
    intro hne
    have : io.usedEnums.isEmpty = false := by simpa using hne
    rw [himports]; simp [this]
  apply classesLoad_of_avail
  · intro c hcm u hu
    obtain ⟨cd, hcd, hk, rfl⟩ := hclass c hcm
    simp only [inputClassIR, List.mem_append, List.mem_singleton, List.mem_flatMap] at hu
    rcases hu with rfl | ⟨fd, hfd, hu⟩
    · exact .of_import hBaseModel (by simp)
    · obtain ⟨f0, a, ft, ha, hann, hval, hf0in, hEn, hScal, _⟩ := hfield cd hcd hk fd hfd
      obtain ⟨s1, _, s3⟩ := annOf_spec _ f0.type true a ft ha
      rcases hu with hu | hu
      · rw [hann] at hu
        rcases s1 u hu with hw | hl
        · simp only [wrappers, List.mem_cons, List.mem_nil_iff, or_false] at hw
          rcases hw with rfl | rfl | rfl | rfl
          · exact .of_import hTyping (by simp)
          · exact .of_import hTyping (by simp)
          · exact .of_import hTyping (by simp)
          · exact .of_import hPydantic (by simp)
        · rcases leafUse_where hc hl hScal with hb | rfl | rfl | ⟨hkd, rfl⟩ | ⟨i, hi, hni, _⟩
          · exact Or.inl hb
          · exact .of_import hUpload (by simp)
          · exact .of_import hTyping (by simp)
          · exact .of_import (hEnums (List.ne_nil_of_mem (hEn hkd))) (hEn hkd)
          · exact .of_import (by rw [himports]; exact List.mem_append_right _ hi) hni
      · rcases hval u hu with rfl | ⟨v, hdv, rfl⟩
        · exact .of_import hPydantic (by simp)
        · -- the default IS an enum literal: outside the trigger the field is enum-typed
          have hk' : InputField.kindOf (inputCfg cfg) inp.defs f0.type.base = .enum := by
            unfold trigEnumDefaultNotEnum at htr
            have := C04Proofs.of_any_false htr hf0in
            rw [hdv] at this
            simp only [Lit.isEnumLit, Bool.true_or, Bool.and_true, bne_eq_false_iff_eq] at this
            exact this
          have hft := s3 hk'
          subst hft
          have hin := hEn hk'
          -- the enum's name is a GraphQL name: no dot
          obtain ⟨t, ht, htn, _⟩ := kindOf_mem_types (henumImp _ hin)
          have hg := namesOK_type hn ht
          rw [htn] at hg
          rw [dottedHead_enum (Names.gname_no_dot hg)]
          exact .of_import (hEnums (List.ne_nil_of_mem hin)) hin
  · intro f hf
    rw [hmod] at hf
    simp [inputsOut] at hf

include kclosed in
theorem inputs_forwardRefs : forwardRefsOK io.module = true := by
  have hmod : io.module = (inputsOut cfg (pruneTable cfg inp.defs) (InputField.classes (inputCfg cfg) inp.defs) kept).module := by rw [hio]
  have hclass := inputs_class hio
  have hfield := inputs_field hio kclosed
  refine forwardRefsOK_of ?_
  intro c hcm
  obtain ⟨cd, hcd, hk, rfl⟩ := hclass c hcm
  intro x hx
  simp only [inputClassIR, List.mem_flatMap] at hx
  obtain ⟨fd, hfd, hx⟩ := hx
  obtain ⟨f0, a, ft, ha, hann, _, _, _, _, hIn⟩ := hfield cd hcd hk fd hfd
  obtain ⟨_, s2, _⟩ := annOf_spec _ f0.type true a ft ha
  rw [hann] at hx
  obtain ⟨rfl, hki⟩ := s2 x hx
  obtain ⟨hkc, fs', hfs'⟩ := hIn hki
  have : f0.type.base ∈ io.module.defines := by
    refine className_mem_defines ?_
    rw [hmod]
    simp only [inputsOut, List.map_map]
    refine List.mem_map.mpr ⟨_, List.mem_filter.mpr ⟨class_of_input hfs', ?_⟩, rfl⟩
    simpa [InputField.genClass] using hkc
  exact this

theorem inputs_rebuilds : (io.module.rebuilds.all (io.module.classes.map (·.name)).contains) = true := by
  refine rebuildsOK_of fun r hr => ?_
  subst hio
  obtain ⟨c, hc', rfl⟩ := List.mem_map.mp hr
  exact List.mem_map.mpr ⟨c, (List.mem_filter.mp hc').1, rfl⟩

end inputs

/-- **input_types.py**: imports resolve, class statements load, forward references and rebuild calls name classes of the
    module — for every schema and configuration in `Valid`, outside the trigger `enumDefaultNotEnum` -/
theorem inputs_residual {cfg : Config} {inp : Input} {p : PackageIR} {st : St} {io : InputsOut}
    {fx : Option (Fragments.FragmentsOut × List Fragments.DefGen)} (F : Facts cfg inp p st io fx)
    (hc : cfgOK cfg = true) (hdm : defsMatch inp = true) (hn : namesOK inp = true)
    (htr : trigEnumDefaultNotEnum cfg inp = false) : residualParts p io.module = true := by
  obtain ⟨kept, hkept, hio⟩ := inputsModule_inv F.inputs
  obtain ⟨_, kclosed, _, _⟩ := Prune.filterInputDefs_spec hkept
  exact residualParts_of (inputs_importsResolve hio F hc hdm) (inputs_classesLoad hio kclosed hc hdm hn htr)
    (inputs_forwardRefs hio kclosed) (inputs_rebuilds hio)

end Ariadne.C04Proofs
