/-
  Proofs/C04WitnessD.lean — what is observed, by `decide +kernel` through the whole package model, on the finding witness F25 and the remaining non-vacuity examples of
  Properties/C04.lean.  For a witness whose run ends in a package, the observation is the one part of `moduleOK` that fails on
  a generated module and the one trigger that holds (evaluating `Holds` itself would check every part of every module
  written before the bad one).
-/
import AriadneModel.Proofs.C04Scope

namespace Ariadne.C04.Witness
open Ariadne.PackageTriggers Ariadne.PackageValid Ariadne.Spec.PyScope
open Ariadne.C04Proofs (partFails not_holds_of_part not_supported_of_mem)

/-- What the kernel evaluates on the concrete inputs of this file, in one declaration: every evaluation that converts a name decodes
    the keyword tables of `Model/Names.lean`, and the kernel shares work only inside one declaration.  The lemmas named after the
    inputs are its components. -/
theorem evaluatedD :
    (leafNamesOK W.leafAmbiguous = false ∧ Valid {} W.leafAmbiguous ∧ Supported_04 {} W.leafAmbiguous ∧ Proved_04 {} W.leafAmbiguous) ∧
    (Valid W.syncCfg W.okInput ∧ Supported_04 W.syncCfg W.okInput ∧ Proved_04 W.syncCfg W.okInput) ∧
    (W.anonymousRefused) ∧
    (leafNamesOK W.okInput = true) ∧
    (Valid {} W.danglingRef ∧ onIR {} W.danglingRef (partFails fun _ m => forwardRefsOK m) = true ∧
      onIR {} W.danglingRef trigForwardRefDangling = true ∧ leafNamesOK W.danglingRef = false) := by
  decide +kernel

theorem ex1 : leafNamesOK W.leafAmbiguous = false ∧ Valid {} W.leafAmbiguous ∧ Supported_04 {} W.leafAmbiguous ∧ Proved_04 {} W.leafAmbiguous := evaluatedD.1

theorem ex2 : Valid W.syncCfg W.okInput ∧ Supported_04 W.syncCfg W.okInput ∧ Proved_04 W.syncCfg W.okInput := evaluatedD.2.1

theorem ex3 : W.anonymousRefused := evaluatedD.2.2.1

theorem ex4 : leafNamesOK W.okInput = true := evaluatedD.2.2.2.1

theorem danglingRef_observed : Valid {} W.danglingRef ∧ onIR {} W.danglingRef (partFails fun _ m => forwardRefsOK m) = true ∧
    onIR {} W.danglingRef trigForwardRefDangling = true ∧ leafNamesOK W.danglingRef = false := evaluatedD.2.2.2.2

theorem F25_fails_in_model : Valid {} W.danglingRef ∧ ¬ Holds (modelRun {} W.danglingRef) ∧ ¬ Supported_04 {} W.danglingRef ∧
    leafNamesOK W.danglingRef = false :=
  ⟨danglingRef_observed.1, not_holds_of_part (n := "forwardRefsOK") (fun _ _ => by simp only [parts, List.mem_cons, true_or, or_true]) danglingRef_observed.2.1,
   not_supported_of_mem (n := "forwardRefDangling") (by trigger_mem) danglingRef_observed.2.2.1,
   danglingRef_observed.2.2.2⟩

end Ariadne.C04.Witness
