/-
  C16 — the reader of Spec/PyLiteral.lean inverts the printer of Model/PyRepr.lean:
  `run_reprPV` (by mutual structural recursion over the value tree, its element lists and its item lists;
  strings by induction over the characters, hex escapes by induction over the number of digits).  What the
  automaton does inside a string (`step_str`, `step_esc`, `stepEsc_*`) and at the punctuation of a display
  (`stepIdle_*`, `run_comma*`, `run_colon`) is stated once; bare words and hex digits unfold `step` where they stand.
  Used by Properties/C16.lean (`literal_roundtrip`).
-/
import AriadneModel.Spec.PyLiteral
import AriadneModel.Model.SchemaWF

namespace Ariadne.PyLiteralProofs
open Ariadne.Schema Ariadne.PyRepr Ariadne.PyLiteral Ariadne.SchemaWF

def andThen (o : Option St) (cs : List Char) : Option St :=
  match o with
  | none => none
  | some st => run st cs

@[simp] theorem andThen_none (cs : List Char) : andThen none cs = none := rfl
@[simp] theorem andThen_some (st : St) (cs : List Char) : andThen (some st) cs = run st cs := rfl

theorem run_cons (st : St) (c : Char) (cs : List Char) : run st (c :: cs) = andThen (step st c) cs := by
  simp only [run]
  cases step st c <;> rfl

theorem run_append (a b : List Char) : ∀ st : St, run st (a ++ b) = andThen (run st a) b := by
  induction a with
  | nil => intro st; rfl
  | cons c cs ih =>
    intro st
    simp only [List.cons_append, run_cons]
    cases step st c with
    | none => rfl
    | some st' => simp only [andThen_some]; exact ih st'

theorem step_idle (S : List Frame) (res : Option PyVal) (c : Char) : step ⟨S, res, .idle⟩ c = stepIdle S res c := rfl

theorem step_str (S : List Frame) (res : Option PyVal) (q : Char) (acc : List Char) (c : Char) :
    step ⟨S, res, .str q acc⟩ c =
      if c = q then deliver (.str (String.ofList acc.reverse)) S res
      else if c = '\\' then some ⟨S, res, .esc q acc⟩
      else if c = '\n' then none
      else some ⟨S, res, .str q (c :: acc)⟩ := rfl

theorem step_esc (S : List Frame) (res : Option PyVal) (q : Char) (acc : List Char) (c : Char) :
    step ⟨S, res, .esc q acc⟩ c = stepEsc S res q acc c := rfl

theorem hexVal_digitChar_fin : ∀ d : Fin 16, hexVal (Nat.digitChar d.val) = some d.val := by decide

theorem hexVal_digitChar (d : Nat) (h : d < 16) : hexVal (Nat.digitChar d) = some d :=
  hexVal_digitChar_fin ⟨d, h⟩

theorem run_hex (S : List Frame) (res : Option PyVal) (q : Char) (acc : List Char) :
    ∀ (k v n : Nat) (tail : List Char), n < 16 ^ (k + 1) → (v * 16 ^ (k + 1) + n).isValidChar →
      run ⟨S, res, .hex q acc (k + 1) v⟩ (hexN (k + 1) n ++ tail) =
        run ⟨S, res, .str q (Char.ofNat (v * 16 ^ (k + 1) + n) :: acc)⟩ tail := by
  intro k
  induction k with
  | zero =>
    intro v n tail hn hv
    have hn' : n < 16 := by simpa using hn
    have e : hexN 1 n = [Nat.digitChar n] := by simp [hexN]
    rw [e]
    simp only [List.cons_append, List.nil_append, run_cons, step, hexVal_digitChar n hn']
    have hv' : (v * 16 + n).isValidChar := by simpa using hv
    simp [hv']
  | succ k ih =>
    intro v n tail hn hv
    have hP : 0 < 16 ^ (k + 1) := Nat.pow_pos (by decide)
    have hd : n / 16 ^ (k + 1) < 16 := by
      apply Nat.div_lt_of_lt_mul
      have : 16 ^ (k + 1 + 1) = 16 ^ (k + 1) * 16 := by rw [Nat.pow_succ]
      omega
    have hr : n % 16 ^ (k + 1) < 16 ^ (k + 1) := Nat.mod_lt _ hP
    have e : hexN (k + 1 + 1) n = Nat.digitChar (n / 16 ^ (k + 1)) :: hexN (k + 1) (n % 16 ^ (k + 1)) := rfl
    rw [e]
    simp only [List.cons_append, run_cons, step, hexVal_digitChar _ hd, andThen_some]
    have key : (v * 16 + n / 16 ^ (k + 1)) * 16 ^ (k + 1) + n % 16 ^ (k + 1) = v * 16 ^ (k + 1 + 1) + n := by
      rw [Nat.add_mul, Nat.mul_assoc, Nat.pow_succ (m := k + 1), Nat.mul_comm (16 ^ (k + 1)) 16, Nat.add_assoc,
        Nat.mul_comm (n / 16 ^ (k + 1)), Nat.div_add_mod]
    have := ih (v * 16 + n / 16 ^ (k + 1)) (n % 16 ^ (k + 1)) tail hr (by rw [key]; exact hv)
    rw [key] at this
    exact this

theorem quoteFor_cases (s : List Char) : quoteFor s = '\'' ∨ quoteFor s = '"' := by
  unfold quoteFor
  split
  · exact Or.inr rfl
  · exact Or.inl rfl

theorem toNat_valid (c : Char) : c.toNat.isValidChar := c.valid

theorem run_backslash (S : List Frame) (res : Option PyVal) (q : Char) (acc : List Char) (hq : q = '\'' ∨ q = '"')
    (d : Char) (rest : List Char) :
    run ⟨S, res, .str q acc⟩ ('\\' :: d :: rest) = andThen (stepEsc S res q acc d) rest := by
  have hbq : ¬ ('\\' = q) := by rcases hq with h | h <;> subst h <;> decide
  rw [run_cons, step_str, if_neg hbq, if_pos rfl, andThen_some, run_cons, step_esc]

theorem stepEsc_n (S : List Frame) (res : Option PyVal) (q : Char) (acc : List Char) :
    stepEsc S res q acc 'n' = some ⟨S, res, .str q ('\n' :: acc)⟩ := rfl
theorem stepEsc_t (S : List Frame) (res : Option PyVal) (q : Char) (acc : List Char) :
    stepEsc S res q acc 't' = some ⟨S, res, .str q ('\t' :: acc)⟩ := rfl
theorem stepEsc_r (S : List Frame) (res : Option PyVal) (q : Char) (acc : List Char) :
    stepEsc S res q acc 'r' = some ⟨S, res, .str q ('\r' :: acc)⟩ := rfl
theorem stepEsc_x (S : List Frame) (res : Option PyVal) (q : Char) (acc : List Char) :
    stepEsc S res q acc 'x' = some ⟨S, res, .hex q acc 2 0⟩ := rfl
theorem stepEsc_u (S : List Frame) (res : Option PyVal) (q : Char) (acc : List Char) :
    stepEsc S res q acc 'u' = some ⟨S, res, .hex q acc 4 0⟩ := rfl
theorem stepEsc_U (S : List Frame) (res : Option PyVal) (q : Char) (acc : List Char) :
    stepEsc S res q acc 'U' = some ⟨S, res, .hex q acc 8 0⟩ := rfl
theorem stepEsc_self (S : List Frame) (res : Option PyVal) (q : Char) (acc : List Char) (c : Char)
    (h : c = '\\' ∨ c = '\'' ∨ c = '"') : stepEsc S res q acc c = some ⟨S, res, .str q (c :: acc)⟩ := by
  simp only [stepEsc, if_pos h]

/-- `\xHH`, `\uHHHH`, `\UHHHHHHHH` of a code point that fits read back as the character -/
theorem run_hexEscape (S : List Frame) (res : Option PyVal) (q : Char) (acc : List Char) (c : Char) (tail : List Char)
    (k : Nat) (hk : c.toNat < 16 ^ (k + 1)) :
    run ⟨S, res, .hex q acc (k + 1) 0⟩ (hexN (k + 1) c.toNat ++ tail) = run ⟨S, res, .str q (c :: acc)⟩ tail := by
  have h := run_hex S res q acc k 0 c.toNat tail hk (by simpa using toNat_valid c)
  simpa using h

theorem run_escape2 (S : List Frame) (res : Option PyVal) (q : Char) (acc : List Char) (hq : q = '\'' ∨ q = '"')
    (d c : Char) (tail : List Char) (h : stepEsc S res q acc d = some ⟨S, res, .str q (c :: acc)⟩) :
    run ⟨S, res, .str q acc⟩ (['\\', d] ++ tail) = run ⟨S, res, .str q (c :: acc)⟩ tail := by
  rw [List.cons_append, List.cons_append, List.nil_append, run_backslash S res q acc hq, h, andThen_some]

theorem run_escapeChar (p : Char → Bool) (S : List Frame) (res : Option PyVal) (q : Char) (acc : List Char)
    (c : Char) (tail : List Char) (hq : q = '\'' ∨ q = '"') :
    run ⟨S, res, .str q acc⟩ (escapeChar p q c ++ tail) = run ⟨S, res, .str q (c :: acc)⟩ tail := by
  have raw : c ≠ q → c ≠ '\\' → c ≠ '\n' →
      run ⟨S, res, .str q acc⟩ ([c] ++ tail) = run ⟨S, res, .str q (c :: acc)⟩ tail := by
    intro h1 h2 h3
    rw [List.singleton_append, run_cons, step_str, if_neg h1, if_neg h2, if_neg h3, andThen_some]
  have hex : ∀ (x : Char) (k : Nat), stepEsc S res q acc x = some ⟨S, res, .hex q acc (k + 1) 0⟩ →
      c.toNat < 16 ^ (k + 1) →
      run ⟨S, res, .str q acc⟩ (('\\' :: x :: hexN (k + 1) c.toNat) ++ tail) = run ⟨S, res, .str q (c :: acc)⟩ tail := by
    intro x k hx hlt
    rw [List.cons_append, List.cons_append, run_backslash S res q acc hq, hx, andThen_some]
    exact run_hexEscape S res q acc c tail k hlt
  -- `split` on the ten-way `if` of `escapeChar` is slow to elaborate: one `by_cases` per test instead
  unfold escapeChar
  by_cases h1 : c = q ∨ c = '\\'
  · have : c = '\\' ∨ c = '\'' ∨ c = '"' := by
      rcases h1 with h | h
      · rcases hq with h' | h' <;> subst h' <;> subst h <;> simp
      · exact Or.inl h
    rw [if_pos h1]
    exact run_escape2 S res q acc hq c c tail (stepEsc_self S res q acc c this)
  have hcq : c ≠ q := fun e => h1 (Or.inl e)
  have hcb : c ≠ '\\' := fun e => h1 (Or.inr e)
  rw [if_neg h1]
  by_cases h2 : c = '\t'
  · rw [if_pos h2, h2]
    exact run_escape2 S res q acc hq 't' '\t' tail (stepEsc_t S res q acc)
  rw [if_neg h2]
  by_cases h3 : c = '\n'
  · rw [if_pos h3, h3]
    exact run_escape2 S res q acc hq 'n' '\n' tail (stepEsc_n S res q acc)
  rw [if_neg h3]
  by_cases h4 : c = '\r'
  · rw [if_pos h4, h4]
    exact run_escape2 S res q acc hq 'r' '\r' tail (stepEsc_r S res q acc)
  rw [if_neg h4]
  by_cases h5 : c.toNat < 32 ∨ c.toNat = 127
  · rw [if_pos h5]
    exact hex 'x' 1 (stepEsc_x S res q acc) (by rcases h5 with h | h <;> omega)
  rw [if_neg h5]
  by_cases h6 : c.toNat < 127
  · rw [if_pos h6]; exact raw hcq hcb h3
  rw [if_neg h6]
  by_cases h7 : p c = true
  · rw [if_pos h7]; exact raw hcq hcb h3
  rw [if_neg h7]
  by_cases h8 : c.toNat < 256
  · rw [if_pos h8]; exact hex 'x' 1 (stepEsc_x S res q acc) h8
  rw [if_neg h8]
  by_cases h9 : c.toNat < 65536
  · rw [if_pos h9]; exact hex 'u' 3 (stepEsc_u S res q acc) h9
  rw [if_neg h9]
  refine hex 'U' 7 (stepEsc_U S res q acc) ?_
  have : c.toNat < 0x110000 := by
    rcases toNat_valid c with h | h
    · omega
    · exact h.2
  omega

theorem run_escBody (p : Char → Bool) (S : List Frame) (res : Option PyVal) (q : Char) (hq : q = '\'' ∨ q = '"') :
    ∀ (cs acc tail : List Char),
      run ⟨S, res, .str q acc⟩ (escBody p q cs ++ tail) =
        andThen (deliver (.str (String.ofList (acc.reverse ++ cs))) S res) tail := by
  intro cs
  induction cs with
  | nil =>
    intro acc tail
    simp only [escBody, List.cons_append, List.nil_append, run_cons, step, if_true, List.append_nil]
  | cons c cs ih =>
    intro acc tail
    simp only [escBody, List.append_assoc]
    rw [run_escapeChar p S res q acc c _ hq, ih (c :: acc) tail]
    simp

theorem stepIdle_quote (S : List Frame) (res : Option PyVal) (q : Char) (hq : q = '\'' ∨ q = '"') :
    stepIdle S res q = some ⟨S, res, .str q []⟩ := by
  rcases hq with h | h <;> subst h <;> simp [stepIdle, isSpace]

theorem run_reprString (p : Char → Bool) (S : List Frame) (res : Option PyVal) (s tail : List Char) :
    run ⟨S, res, .idle⟩ (reprString p s ++ tail) = andThen (deliver (.str (String.ofList s)) S res) tail := by
  have hq := quoteFor_cases s
  unfold reprString
  simp only [List.cons_append, run_cons, step, stepIdle_quote S res _ hq, andThen_some]
  rw [run_escBody p S res _ hq s [] tail]
  simp

theorem deliver_idle {v : PyVal} {S : List Frame} {res : Option PyVal} {st : St}
    (h : deliver v S res = some st) : st.mode = .idle := by
  unfold deliver at h
  split at h
  · split at h
    · cases h; rfl
    · cases h
  · cases h; rfl
  · split at h
    · cases h; rfl
    · cases h
  · cases h; rfl
  · cases h

theorem andThen_deliver_cons (v : PyVal) (S : List Frame) (res : Option PyVal) (d : Char) (tail : List Char) :
    andThen (deliver v S res) (d :: tail) =
      (match deliver v S res with
       | none => none
       | some st' => andThen (stepIdle st'.stack st'.res d) tail) := by
  cases h : deliver v S res with
  | none => rfl
  | some st' =>
    have hm := deliver_idle h
    simp only [andThen_some, run_cons]
    obtain ⟨stk, r, m⟩ := st'
    simp only at hm
    subst hm
    rfl

theorem atomChar_ne {c x : Char} (h : atomChar c = true) (hx : atomChar x = false) : ¬ c = x := by
  intro e
  subst e
  rw [h] at hx
  cases hx

theorem stepIdle_atom (S : List Frame) (res : Option PyVal) (c : Char) (h : atomChar c = true) :
    stepIdle S res c = some ⟨S, res, .atom [c]⟩ := by
  have h1 : ¬ c = ' ' := atomChar_ne h (by decide)
  have h2 : ¬ c = '\n' := atomChar_ne h (by decide)
  have h3 : ¬ c = '\t' := atomChar_ne h (by decide)
  have h4 : ¬ c = '\r' := atomChar_ne h (by decide)
  have h5 : ¬ c = '[' := atomChar_ne h (by decide)
  have h6 : ¬ c = '{' := atomChar_ne h (by decide)
  have h7 : ¬ c = ']' := atomChar_ne h (by decide)
  have h8 : ¬ c = '}' := atomChar_ne h (by decide)
  have h9 : ¬ c = ',' := atomChar_ne h (by decide)
  have h10 : ¬ c = ':' := atomChar_ne h (by decide)
  have h11 : ¬ c = '\'' := atomChar_ne h (by decide)
  have h12 : ¬ c = '"' := atomChar_ne h (by decide)
  simp [stepIdle, isSpace, h1, h2, h3, h4, h5, h6, h7, h8, h9, h10, h11, h12, h]

theorem run_atom_acc (S : List Frame) (res : Option PyVal) :
    ∀ (a acc : List Char) (d : Char) (tail : List Char), a.all atomChar = true → atomChar d = false →
      run ⟨S, res, .atom acc⟩ (a ++ d :: tail) =
        (match decodeAtom (acc.reverse ++ a) with
         | none => none
         | some v => andThen (deliver v S res) (d :: tail)) := by
  intro a
  induction a with
  | nil =>
    intro acc d tail _ hd
    simp only [List.nil_append, List.append_nil, run_cons, step, hd]
    cases hdec : decodeAtom acc.reverse with
    | none => simp
    | some v =>
      simp only [andThen_deliver_cons]
      cases hdel : deliver v S res with
      | none => simp
      | some st' => simp
  | cons c cs ih =>
    intro acc d tail ha hd
    have hc : atomChar c = true := by simp [List.all_cons] at ha; exact ha.1
    have hcs : cs.all atomChar = true := by simp [List.all_cons] at ha; simpa using ha.2
    simp only [List.cons_append, run_cons, step, hc, if_true, andThen_some]
    rw [ih (c :: acc) d tail hcs hd]
    simp

theorem run_atom (S : List Frame) (res : Option PyVal) (c : Char) (cs : List Char) (d : Char) (tail : List Char)
    (ha : (c :: cs).all atomChar = true) (hd : atomChar d = false) :
    run ⟨S, res, .idle⟩ ((c :: cs) ++ d :: tail) =
      (match decodeAtom (c :: cs) with
       | none => none
       | some v => andThen (deliver v S res) (d :: tail)) := by
  have hc : atomChar c = true := by simp [List.all_cons] at ha; exact ha.1
  have hcs : cs.all atomChar = true := by simp [List.all_cons] at ha; simpa using ha.2
  simp only [List.cons_append, run_cons, step, stepIdle_atom S res c hc, andThen_some]
  rw [run_atom_acc S res cs [c] d tail hcs hd]
  simp

theorem isDigit_atomChar {c : Char} (h : c.isDigit = true) : atomChar c = true := by
  simp [atomChar, Char.isAlphanum, h]

theorem all_atomChar_of_digits {cs : List Char} (h : ∀ c ∈ cs, c.isDigit = true) : cs.all atomChar = true := by
  simp only [List.all_eq_true]
  intro c hc
  exact isDigit_atomChar (h c hc)

theorem toDigits_digits (n : Nat) : ∀ c ∈ Nat.toDigits 10 n, c.isDigit = true :=
  fun c hc => Nat.isDigit_of_mem_toDigits (by decide) (by decide) hc

theorem toDigits_head_ne_zero : ∀ n : Nat, 0 < n → ∀ c cs, Nat.toDigits 10 n = c :: cs → c ≠ '0' := by
  intro n
  induction n using Nat.strongRecOn with
  | ind n ih =>
    intro hn c cs h
    by_cases hlt : n < 10
    · rw [Nat.toDigits_of_lt_base hlt] at h
      cases h
      intro e
      have := Nat.digitChar_eq_zero.mp e
      omega
    · have hge : 10 ≤ n := by omega
      rw [Nat.toDigits_of_base_le (by decide) hge] at h
      cases hd : Nat.toDigits 10 (n / 10) with
      | nil => exact absurd hd Nat.toDigits_ne_nil
      | cons c' cs' =>
        rw [hd] at h
        simp only [List.cons_append] at h
        cases h
        exact ih (n / 10) (by omega) (by omega) c cs' hd

theorem toDigits_leadingZeroOK (n : Nat) : leadingZeroOK (Nat.toDigits 10 n) = true := by
  by_cases hn : n = 0
  · subst hn; decide
  · cases hd : Nat.toDigits 10 n with
    | nil => rfl
    | cons c cs =>
      have hc := toDigits_head_ne_zero n (by omega) c cs hd
      unfold leadingZeroOK
      split
      · rename_i heq; cases heq; exact absurd rfl hc
      · rfl

theorem decodeNum_toDigits (n : Nat) : decodeNum (Nat.toDigits 10 n) = some (.int n) := by
  unfold decodeNum
  have h1 : Nat.toDigits 10 n ≠ [] := Nat.toDigits_ne_nil
  have h2 : (Nat.toDigits 10 n).all Char.isDigit = true := by
    simp only [List.all_eq_true]; exact toDigits_digits n
  simp [h1, h2, Nat.ofDigitChars_ten_toDigits, toDigits_leadingZeroOK]

theorem decodeAtom_reprInt (i : Int) : decodeAtom (reprInt i) = some (.int i) := by
  cases i with
  | ofNat n =>
    simp only [reprInt]
    cases hd : Nat.toDigits 10 n with
    | nil => exact absurd hd Nat.toDigits_ne_nil
    | cons c cs =>
      have hc : c.isDigit = true := toDigits_digits n c (by rw [hd]; simp)
      have hne : ¬ c = '-' := by intro e; subst e; revert hc; decide
      simp only [decodeAtom, hne, if_false]
      rw [← hd]
      simp [decodePos, decodeNum_toDigits]
  | negSucc n =>
    simp only [reprInt, decodeAtom, if_true, decodeNeg, decodeNum_toDigits]
    rfl

theorem reprInt_atom (i : Int) : (reprInt i).all atomChar = true := by
  cases i with
  | ofNat n => exact all_atomChar_of_digits (toDigits_digits n)
  | negSucc n =>
    simp only [reprInt, List.all_cons]
    rw [all_atomChar_of_digits (toDigits_digits (n + 1))]
    decide

theorem reprInt_ne_nil (i : Int) : reprInt i ≠ [] := by
  cases i with
  | ofNat n => exact Nat.toDigits_ne_nil
  | negSucc n => simp [reprInt]

theorem expDigits_atom : ∀ cs, expDigits cs = true → cs.all atomChar = true := by
  intro cs
  induction cs with
  | nil => intro _; rfl
  | cons c cs ih =>
    intro h
    simp only [expDigits, Bool.and_eq_true] at h
    simp [List.all_cons, isDigit_atomChar h.1, ih h.2]

theorem expDigits1_atom : ∀ cs, expDigits1 cs = true → cs.all atomChar = true := by
  intro cs
  cases cs with
  | nil => intro h; cases h
  | cons c cs =>
    intro h
    simp only [expDigits1, Bool.and_eq_true] at h
    simp [List.all_cons, isDigit_atomChar h.1, expDigits_atom cs h.2]

theorem expSign_atom : ∀ cs, expSign cs = true → cs.all atomChar = true := by
  intro cs
  cases cs with
  | nil => intro h; cases h
  | cons c cs =>
    intro h
    simp only [expSign] at h
    split at h
    · rename_i hc
      have : atomChar c = true := by rcases hc with e | e <;> subst e <;> decide
      simp [List.all_cons, this, expDigits1_atom cs h]
    · simp only [Bool.and_eq_true] at h
      simp [List.all_cons, isDigit_atomChar h.1, expDigits_atom cs h.2]

theorem afterDot_atom : ∀ cs, afterDot cs = true → cs.all atomChar = true := by
  intro cs
  induction cs with
  | nil => intro _; rfl
  | cons c cs ih =>
    intro h
    simp only [afterDot] at h
    split at h
    · rename_i hc
      simp [List.all_cons, isDigit_atomChar hc, ih h]
    · split at h
      · rename_i _ hc
        subst hc
        simp only [List.all_cons, expSign_atom cs h, Bool.and_true]
        decide
      · cases h

theorem afterInt_atom : ∀ cs, afterInt cs = true → cs.all atomChar = true := by
  intro cs
  induction cs with
  | nil => intro h; cases h
  | cons c cs ih =>
    intro h
    simp only [afterInt] at h
    split at h
    · rename_i hc
      simp [List.all_cons, isDigit_atomChar hc, ih h]
    · split at h
      · rename_i _ hc
        subst hc
        simp only [List.all_cons, afterDot_atom cs h, Bool.and_true]
        decide
      · split at h
        · rename_i _ _ hc
          subst hc
          simp only [List.all_cons, expSign_atom cs h, Bool.and_true]
          decide
        · cases h

theorem afterInt_not_digits : ∀ cs, afterInt cs = true → cs.all Char.isDigit = false := by
  intro cs
  induction cs with
  | nil => intro h; cases h
  | cons c cs ih =>
    intro h
    simp only [afterInt] at h
    split at h
    · rename_i hc
      simp [List.all_cons, hc, ih h]
    · rename_i hc
      simp [List.all_cons, hc]

theorem floatTok_atom (cs : List Char) (h : floatTok cs = true) : cs.all atomChar = true := by
  cases cs with
  | nil => cases h
  | cons c cs =>
    simp only [floatTok, Bool.and_eq_true] at h
    simp [List.all_cons, isDigit_atomChar h.1, afterInt_atom cs h.2]

theorem decodeNum_floatTok (cs : List Char) (h : floatTok cs = true) : decodeNum cs = some (.float cs) := by
  cases cs with
  | nil => cases h
  | cons c cs =>
    have h' := h
    simp only [floatTok, Bool.and_eq_true] at h'
    have : (c :: cs).all Char.isDigit = false := by simp [List.all_cons, afterInt_not_digits cs h'.2]
    unfold decodeNum
    simp [this, h]

theorem stripMinus_of_ne {c : Char} {cs : List Char} (hc : c ≠ '-') : stripMinus (c :: cs) = c :: cs := by
  unfold stripMinus
  split
  · rename_i heq; cases heq; exact absurd rfl hc
  · rfl

theorem floatText_spec (r : String) (h : floatText r = true) :
    ∃ c cs, r.toList = c :: cs ∧ (c :: cs).all atomChar = true ∧ decodeAtom (c :: cs) = some (.float r) := by
  unfold floatText at h
  cases hr : r.toList with
  | nil => rw [hr] at h; cases h
  | cons c cs =>
    rw [hr] at h
    refine ⟨c, cs, rfl, ?_, ?_⟩
    · by_cases hc : c = '-'
      · subst hc
        simp only [stripMinus] at h
        simp only [List.all_cons, floatTok_atom cs h, Bool.and_true]
        decide
      · rw [stripMinus_of_ne hc] at h
        exact floatTok_atom _ h
    · by_cases hc : c = '-'
      · subst hc
        simp only [stripMinus] at h
        simp only [decodeAtom, if_true, decodeNeg, decodeNum_floatTok cs h]
        rw [← hr, String.ofList_toList]
      · rw [stripMinus_of_ne hc] at h
        simp only [decodeAtom, hc, if_false, decodePos, decodeNum_floatTok _ h]
        rw [← hr, String.ofList_toList]

/-- what follows a value in a display or at the end of the text: not a token character -/
def delimStart : List Char → Prop
  | [] => False
  | d :: _ => atomChar d = false

theorem run_atom_value (S : List Frame) (res : Option PyVal) (a tail : List Char) (v : PyVal)
    (hne : a ≠ []) (ha : a.all atomChar = true) (hdec : decodeAtom a = some v) (hd : delimStart tail) :
    run ⟨S, res, .idle⟩ (a ++ tail) = andThen (deliver v S res) tail := by
  cases tail with
  | nil => cases hd
  | cons d t =>
    cases a with
    | nil => exact absurd rfl hne
    | cons c cs => rw [run_atom S res c cs d t ha hd, hdec]

theorem elemsTail_delim (p : Char → Bool) (xs : List PyVal) (tail : List Char) :
    delimStart (reprElemsTail p xs ++ tail) := by
  cases xs with
  | nil => simp only [reprElemsTail, List.cons_append]; show atomChar ']' = false; decide
  | cons x xs => simp only [reprElemsTail, List.cons_append]; show atomChar ',' = false; decide

theorem itemsTail_delim (p : Char → Bool) (kvs : List (String × PyVal)) (tail : List Char) :
    delimStart (reprItemsTail p kvs ++ tail) := by
  cases kvs with
  | nil => simp only [reprItemsTail, List.cons_append]; show atomChar '}' = false; decide
  | cons kv rest =>
    obtain ⟨k, v⟩ := kv
    simp only [reprItemsTail, List.cons_append]; show atomChar ',' = false; decide

theorem deliver_listV (v : PyVal) (acc : List PyVal) (S : List Frame) (res : Option PyVal) :
    deliver v (.listV acc :: S) res = some ⟨.listS (v :: acc) :: S, res, .idle⟩ := rfl

theorem deliver_dictK (k : String) (acc : List (String × PyVal)) (S : List Frame) (res : Option PyVal) :
    deliver (.str k) (.dictK acc :: S) res = some ⟨.dictC acc k :: S, res, .idle⟩ := rfl

theorem deliver_dictV (v : PyVal) (k : String) (acc : List (String × PyVal)) (S : List Frame) (res : Option PyVal) :
    deliver v (.dictV acc k :: S) res = some ⟨.dictS ((k, v) :: acc) :: S, res, .idle⟩ := rfl

theorem stepIdle_openList (S : List Frame) (res : Option PyVal) :
    stepIdle S res '[' = some ⟨.listV [] :: S, res, .idle⟩ := rfl
theorem stepIdle_openDict (S : List Frame) (res : Option PyVal) :
    stepIdle S res '{' = some ⟨.dictK [] :: S, res, .idle⟩ := rfl
theorem stepIdle_closeListV (acc : List PyVal) (S : List Frame) (res : Option PyVal) :
    stepIdle (.listV acc :: S) res ']' = deliver (.list acc.reverse) S res := rfl
theorem stepIdle_closeListS (acc : List PyVal) (S : List Frame) (res : Option PyVal) :
    stepIdle (.listS acc :: S) res ']' = deliver (.list acc.reverse) S res := rfl
theorem stepIdle_closeDictK (acc : List (String × PyVal)) (S : List Frame) (res : Option PyVal) :
    stepIdle (.dictK acc :: S) res '}' = deliver (.dict acc.reverse) S res := rfl
theorem stepIdle_closeDictS (acc : List (String × PyVal)) (S : List Frame) (res : Option PyVal) :
    stepIdle (.dictS acc :: S) res '}' = deliver (.dict acc.reverse) S res := rfl

theorem run_commaList (acc : List PyVal) (S : List Frame) (res : Option PyVal) (rest : List Char) :
    run ⟨.listS acc :: S, res, .idle⟩ (',' :: ' ' :: rest) = run ⟨.listV acc :: S, res, .idle⟩ rest := rfl

theorem run_commaDict (acc : List (String × PyVal)) (S : List Frame) (res : Option PyVal) (rest : List Char) :
    run ⟨.dictS acc :: S, res, .idle⟩ (',' :: ' ' :: rest) = run ⟨.dictK acc :: S, res, .idle⟩ rest := rfl

theorem run_colon (acc : List (String × PyVal)) (k : String) (S : List Frame) (res : Option PyVal) (rest : List Char) :
    run ⟨.dictC acc k :: S, res, .idle⟩ (':' :: ' ' :: rest) = run ⟨.dictV acc k :: S, res, .idle⟩ rest := rfl

mutual
  /-- **the reader inverts the printer**: the printed value, followed by anything that starts with a
      delimiter, is delivered as that value and reading goes on behind it -/
  theorem run_reprPV (p : Char → Bool) : ∀ (v : PyVal) (S : List Frame) (res : Option PyVal) (tail : List Char),
      finitePV v = true → delimStart tail →
      run ⟨S, res, .idle⟩ (reprPV p v ++ tail) = andThen (deliver v S res) tail
    | .none, S, res, tail, _, hd => by
        simp only [reprPV]
        exact run_atom_value S res _ tail .none (by simp) (by decide) (by rfl) hd
    | .bool true, S, res, tail, _, hd => by
        simp only [reprPV]
        exact run_atom_value S res _ tail (.bool true) (by simp) (by decide) (by rfl) hd
    | .bool false, S, res, tail, _, hd => by
        simp only [reprPV]
        exact run_atom_value S res _ tail (.bool false) (by simp) (by decide) (by rfl) hd
    | .int i, S, res, tail, _, hd => by
        simp only [reprPV]
        exact run_atom_value S res _ tail (.int i) (reprInt_ne_nil i) (reprInt_atom i) (decodeAtom_reprInt i) hd
    | .float r, S, res, tail, hf, hd => by
        simp only [reprPV]
        simp only [finitePV] at hf
        obtain ⟨c, cs, hr, ha, hdec⟩ := floatText_spec r hf
        rw [hr]
        exact run_atom_value S res _ tail (.float r) (by simp) ha hdec hd
    | .str s, S, res, tail, _, _ => by
        simp only [reprPV]
        rw [run_reprString p S res s.toList tail, String.ofList_toList]
    | .list xs, S, res, tail, hf, _ => by
        simp only [finitePV] at hf
        have := run_elems p xs [] S res tail hf
        simp only [reprPV, List.cons_append, run_cons, step_idle, stepIdle_openList, andThen_some]
        simpa using this
    | .dict kvs, S, res, tail, hf, _ => by
        simp only [finitePV] at hf
        have := run_items p kvs [] S res tail hf
        simp only [reprPV, List.cons_append, run_cons, step_idle, stepIdle_openDict, andThen_some]
        simpa using this
  termination_by structural v => v
  theorem run_elems (p : Char → Bool) : ∀ (xs acc : List PyVal) (S : List Frame) (res : Option PyVal) (tail : List Char),
      finiteList xs = true →
      run ⟨.listV acc :: S, res, .idle⟩ (reprElems p xs ++ tail) =
        andThen (deliver (.list (acc.reverse ++ xs)) S res) tail
    | [], acc, S, res, tail, _ => by
        simp only [reprElems, List.cons_append, List.nil_append, run_cons, step_idle, stepIdle_closeListV]
        simp
    | x :: xs, acc, S, res, tail, hf => by
        simp only [finiteList, Bool.and_eq_true] at hf
        simp only [reprElems, List.append_assoc]
        rw [run_reprPV p x (.listV acc :: S) res _ hf.1 (elemsTail_delim p xs tail)]
        simp only [deliver_listV, andThen_some]
        rw [run_elemsTail p xs (x :: acc) S res tail hf.2]
        simp
  termination_by structural xs => xs
  theorem run_elemsTail (p : Char → Bool) : ∀ (xs acc : List PyVal) (S : List Frame) (res : Option PyVal) (tail : List Char),
      finiteList xs = true →
      run ⟨.listS acc :: S, res, .idle⟩ (reprElemsTail p xs ++ tail) =
        andThen (deliver (.list (acc.reverse ++ xs)) S res) tail
    | [], acc, S, res, tail, _ => by
        simp only [reprElemsTail, List.cons_append, List.nil_append, run_cons, step_idle, stepIdle_closeListS]
        simp
    | x :: xs, acc, S, res, tail, hf => by
        simp only [finiteList, Bool.and_eq_true] at hf
        simp only [reprElemsTail, List.cons_append, List.append_assoc, run_commaList]
        rw [run_reprPV p x (.listV acc :: S) res _ hf.1 (elemsTail_delim p xs tail)]
        simp only [deliver_listV, andThen_some]
        rw [run_elemsTail p xs (x :: acc) S res tail hf.2]
        simp
  termination_by structural xs => xs
  theorem run_items (p : Char → Bool) : ∀ (kvs acc : List (String × PyVal)) (S : List Frame) (res : Option PyVal) (tail : List Char),
      finiteKvs kvs = true →
      run ⟨.dictK acc :: S, res, .idle⟩ (reprItems p kvs ++ tail) =
        andThen (deliver (.dict (acc.reverse ++ kvs)) S res) tail
    | [], acc, S, res, tail, _ => by
        simp only [reprItems, List.cons_append, List.nil_append, run_cons, step_idle, stepIdle_closeDictK]
        simp
    | (k, v) :: rest, acc, S, res, tail, hf => by
        simp only [finiteKvs, Bool.and_eq_true] at hf
        simp only [reprItems, List.cons_append, List.append_assoc]
        rw [run_reprString p (.dictK acc :: S) res k.toList _, String.ofList_toList]
        simp only [deliver_dictK, andThen_some, run_colon]
        rw [run_reprPV p v (.dictV acc k :: S) res _ hf.1 (itemsTail_delim p rest tail)]
        simp only [deliver_dictV, andThen_some]
        rw [run_itemsTail p rest ((k, v) :: acc) S res tail hf.2]
        simp
  termination_by structural kvs => kvs
  theorem run_itemsTail (p : Char → Bool) : ∀ (kvs acc : List (String × PyVal)) (S : List Frame) (res : Option PyVal) (tail : List Char),
      finiteKvs kvs = true →
      run ⟨.dictS acc :: S, res, .idle⟩ (reprItemsTail p kvs ++ tail) =
        andThen (deliver (.dict (acc.reverse ++ kvs)) S res) tail
    | [], acc, S, res, tail, _ => by
        simp only [reprItemsTail, List.cons_append, List.nil_append, run_cons, step_idle, stepIdle_closeDictS]
        simp
    | (k, v) :: rest, acc, S, res, tail, hf => by
        simp only [finiteKvs, Bool.and_eq_true] at hf
        simp only [reprItemsTail, List.cons_append, List.append_assoc, run_commaDict]
        rw [run_reprString p (.dictK acc :: S) res k.toList _, String.ofList_toList]
        simp only [deliver_dictK, andThen_some, run_colon]
        rw [run_reprPV p v (.dictV acc k :: S) res _ hf.1 (itemsTail_delim p rest tail)]
        simp only [deliver_dictV, andThen_some]
        rw [run_itemsTail p rest ((k, v) :: acc) S res tail hf.2]
        simp
  termination_by structural kvs => kvs
end

theorem readLiteral_reprPV (p : Char → Bool) (v : PyVal) (h : finitePV v = true) :
    readLiteral (reprPV p v) = some v := by
  unfold readLiteral
  have := run_reprPV p v [] none ['\n'] h (by show atomChar '\n' = false; decide)
  unfold init
  rw [this]
  simp [deliver, run, step, stepIdle, isSpace, finish]

end Ariadne.PyLiteralProofs
