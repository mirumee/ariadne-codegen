/-
  Proofs/OrderEmit.lean — the emission points of C10: isort's name ordering, import-block summaries,
  rebuild calls, directory loading, the DFS at top level (`dfs_complete`, `dfs_topo`), `FragmentsGenerator.generate`.
  Core Lean only.
-/
import AriadneModel.Proofs.Order
import AriadneModel.Model.OrderEmit
import AriadneModel.Proofs.Util


namespace Ariadne.Order
open List Ariadne.Isort

theorem TotalPreorder.comap {α β : Type} {le : β → β → Bool} (h : TotalPreorder le) (f : α → β) :
    TotalPreorder (fun a b => le (f a) (f b)) :=
  { total := fun a b => h.total (f a) (f b), trans := fun a b c => h.trans (f a) (f b) (f c) }

theorem nameLe_preorder : TotalPreorder nameLe :=
  (lexLe_order natBle_order).toTotalPreorder.comap nameKey

theorem pathLe_preorder : TotalPreorder pathLe :=
  (lexLe_order strLe_order).toTotalPreorder.comap Entry.path

theorem dedupFirst_eq : ∀ l : List Name, dedupFirst l = Util.dedup l
  | [] => rfl
  | x :: xs => by rw [dedupFirst, Util.dedup, dedupFirst_eq xs]

theorem mem_dedupFirst (l : List Name) (a : Name) : a ∈ dedupFirst l ↔ a ∈ l := dedupFirst_eq l ▸ Util.mem_dedup

theorem nodup_dedupFirst (l : List Name) : (dedupFirst l).Nodup := dedupFirst_eq l ▸ Util.nodup_dedup l

theorem dedupFirst_perm_of_mem {l₁ l₂ : List Name} (h : ∀ a, a ∈ l₁ ↔ a ∈ l₂) : (dedupFirst l₁).Perm (dedupFirst l₂) :=
  (List.perm_ext_iff_of_nodup (nodup_dedupFirst l₁) (nodup_dedupFirst l₂)).mpr
    (fun a => by rw [mem_dedupFirst, mem_dedupFirst]; exact h a)

/-- no two distinct members share isort's key -/
def NoTie (l : List Name) : Prop := ∀ a b, a ∈ l → b ∈ l → nameKey a = nameKey b → a = b

theorem noTie_of_nameTie_false {l : List Name} (h : nameTie l = false) : NoTie l := by
  intro a b ha hb hk
  simp only [nameTie, List.any_eq_false] at h
  have h1 := h a ha
  rw [Bool.not_eq_true, List.any_eq_false] at h1
  have h2 := h1 b hb
  by_cases hab : a = b
  · exact hab
  · have e1 : (a != b) = true := by simpa using hab
    have e2 : (nameKey a == nameKey b) = true := by simpa using hk
    simp [e1, e2] at h2

theorem NoTie.subset {l₁ l₂ : List Name} (h : NoTie l₂) (hs : ∀ a, a ∈ l₁ → a ∈ l₂) : NoTie l₁ :=
  fun a b ha hb => h a b (hs a ha) (hs b hb)

/-- isort's order of the names of one from-import depends only on the SET of names, unless two tie -/
theorem isortNames_eq_of_mem {l₁ l₂ : List Name} (nt : NoTie l₁) (h : ∀ a, a ∈ l₁ ↔ a ∈ l₂) :
    isortNames l₁ = isortNames l₂ := by
  unfold isortNames
  apply sortBy_eq_of_perm nameLe_preorder _ (dedupFirst_perm_of_mem h)
  intro a b ha hb hab hba
  have hk : nameKey a = nameKey b := lexLe_antisymm natBle_order _ _ hab hba
  exact nt a b ((mem_dedupFirst _ _).mp ha) ((mem_dedupFirst _ _).mp hb) hk

theorem isortNames_eq_of_perm {l₁ l₂ : List Name} (nt : NoTie l₁) (p : l₁.Perm l₂) : isortNames l₁ = isortNames l₂ :=
  isortNames_eq_of_mem nt (fun _ => p.mem_iff)

theorem mem_namesOf (m : String) (stmts : List ImportFrom) (a : Name) :
    a ∈ namesOf m stmts ↔ ∃ s, s ∈ stmts ∧ modStr s = m ∧ a ∈ s.names := by
  simp only [namesOf, List.mem_flatMap, List.mem_filter, beq_iff_eq]
  constructor
  · rintro ⟨s, ⟨hs, hm⟩, ha⟩; exact ⟨s, hs, hm, ha⟩
  · rintro ⟨s, hs, hm, ha⟩; exact ⟨s, ⟨hs, hm⟩, ha⟩

/-- two import blocks mention the same modules and import the same names from each -/
def BlockEquiv (s₁ s₂ : List ImportFrom) : Prop :=
  (∀ m, m ∈ s₁.map modStr ↔ m ∈ s₂.map modStr) ∧ ∀ m a, a ∈ namesOf m s₁ ↔ a ∈ namesOf m s₂

theorem BlockEquiv.of_mem {s₁ s₂ : List ImportFrom} (h : ∀ x, x ∈ s₁ ↔ x ∈ s₂) : BlockEquiv s₁ s₂ := by
  constructor
  · intro m; simp only [List.mem_map]
    constructor
    · rintro ⟨x, hx, rfl⟩; exact ⟨x, (h x).mp hx, rfl⟩
    · rintro ⟨x, hx, rfl⟩; exact ⟨x, (h x).mpr hx, rfl⟩
  · intro m a; simp only [mem_namesOf]
    constructor
    · rintro ⟨x, hx, r⟩; exact ⟨x, (h x).mp hx, r⟩
    · rintro ⟨x, hx, r⟩; exact ⟨x, (h x).mpr hx, r⟩

theorem BlockEquiv.of_perm {s₁ s₂ : List ImportFrom} (p : s₁.Perm s₂) : BlockEquiv s₁ s₂ :=
  BlockEquiv.of_mem (fun _ => p.mem_iff)

/-- the block has no tie inside any module group -/
def BlockNoTie (s : List ImportFrom) : Prop := ∀ m, NoTie (namesOf m s)

theorem blockNoTie_of_summaryTie_false {s : List ImportFrom} (h : summaryTie s = false) : BlockNoTie s := by
  intro m
  by_cases hm : m ∈ s.map modStr
  · simp only [summaryTie, List.any_eq_false] at h
    have := h m ((mem_dedupFirst _ _).mpr hm)
    exact noTie_of_nameTie_false (by simpa using this)
  · intro a b ha _ _
    obtain ⟨x, hx, hxm, _⟩ := (mem_namesOf m s a).mp ha
    exact absurd (List.mem_map.mpr ⟨x, hx, hxm⟩) hm

theorem BlockEquiv.symm {s₁ s₂ : List ImportFrom} (eq : BlockEquiv s₁ s₂) : BlockEquiv s₂ s₁ :=
  ⟨fun m => (eq.1 m).symm, fun m a => (eq.2 m a).symm⟩

theorem BlockEquiv.trans {s₁ s₂ s₃ : List ImportFrom} (a : BlockEquiv s₁ s₂) (b : BlockEquiv s₂ s₃) : BlockEquiv s₁ s₃ :=
  ⟨fun m => (a.1 m).trans (b.1 m), fun m x => (a.2 m x).trans (b.2 m x)⟩

theorem BlockEquiv.refl (s : List ImportFrom) : BlockEquiv s s := ⟨fun _ => Iff.rfl, fun _ _ => Iff.rfl⟩

/-- what the formatter sees of an import block is the same for equivalent blocks: per module, the names are the same
    list, or the same set without a tie -/
theorem summary_eq_of_equiv' (keep : Name → Bool) {s₁ s₂ : List ImportFrom} (eq : BlockEquiv s₁ s₂)
    (nt : ∀ m, namesOf m s₁ = namesOf m s₂ ∨ NoTie (namesOf m s₁)) : summary keep s₁ = summary keep s₂ := by
  unfold summary
  have hm : pySorted (dedupFirst (s₁.map modStr)) = pySorted (dedupFirst (s₂.map modStr)) :=
    pySorted_eq_of_perm (dedupFirst_perm_of_mem eq.1)
  simp only [hm]
  apply List.map_congr_left
  intro m _
  congr 1
  rcases nt m with h | h
  · rw [h]
  · apply isortNames_eq_of_mem
    · exact h.subset (fun a ha => (List.mem_filter.mp ha).1)
    · intro a
      simp only [List.mem_filter]
      rw [eq.2 m a]

theorem summary_eq_of_equiv (keep : Name → Bool) {s₁ s₂ : List ImportFrom} (eq : BlockEquiv s₁ s₂) (nt : BlockNoTie s₁) :
    summary keep s₁ = summary keep s₂ :=
  summary_eq_of_equiv' keep eq fun m => Or.inr (nt m)

/-- **an import block fed from sets**: when under every enumeration it is equivalent to the block the canonical listing
    (`id`: every set in dictionary order) gives, and that one has no tie, the formatter sees the same under any two -/
theorem summary_indep (keep : Name → Bool) (site : EnumOracle → List ImportFrom)
    (heq : ∀ e, EnumOK e → BlockEquiv (site id) (site e)) (ht : summaryTie (site id) = false)
    (e₁ e₂ : EnumOracle) (he₁ : EnumOK e₁) (he₂ : EnumOK e₂) : summary keep (site e₁) = summary keep (site e₂) :=
  (summary_eq_of_equiv keep (heq e₁ he₁) (blockNoTie_of_summaryTie_false ht)).symm.trans
    (summary_eq_of_equiv keep (heq e₂ he₂) (blockNoTie_of_summaryTie_false ht))

theorem idxOf_inj {l : List Name} {a b : Name} (ha : a ∈ l) (h : l.idxOf a = l.idxOf b) : a = b := by
  have hb : b ∈ l := List.idxOf_lt_length_iff.mp (h ▸ List.idxOf_lt_length_iff.mpr ha)
  rw [← List.getElem_idxOf (List.idxOf_lt_length_iff.mpr ha), ← List.getElem_idxOf (List.idxOf_lt_length_iff.mpr hb)]
  simp only [h]

theorem idxLe_preorder (cn : List Name) : TotalPreorder (fun a b : Name => decide (cn.idxOf a ≤ cn.idxOf b)) :=
  { total := by intro a b; simp; omega
    trans := by intro a b c; simp; omega }

/-- `sorted(top_level, key=class_names.index)` does not depend on the order of `top_level` -/
theorem rebuildCalls_eq_of_perm {t₁ t₂ cn : List Name} (p : t₁.Perm t₂) (hall : ∀ t, t ∈ t₁ → t ∈ cn) :
    rebuildCalls t₁ cn = rebuildCalls t₂ cn := by
  have n1 : t₁.find? (fun t => !cn.contains t) = none := by
    rw [List.find?_eq_none]; intro t ht; simp [hall t ht]
  have n2 : t₂.find? (fun t => !cn.contains t) = none := by
    rw [List.find?_eq_none]; intro t ht; simp [hall t (p.mem_iff.mpr ht)]
  simp only [rebuildCalls, n1, n2]
  congr 1
  apply sortBy_eq_of_perm (idxLe_preorder cn) _ p
  intro a b ha hb hab hba
  simp at hab hba
  exact idxOf_inj (hall a ha) (by omega)

theorem rebuildCalls_mem {top cn rebuilds : List Name} (h : rebuildCalls top cn = .ok rebuilds) :
    ∀ r ∈ rebuilds, r ∈ cn := by
  unfold rebuildCalls at h
  cases hf : top.find? (fun t => !cn.contains t) with
  | some t => rw [hf] at h; cases h
  | none =>
    rw [hf] at h
    simp only [Except.ok.injEq] at h
    subst h
    intro r hr
    have hr' := (mem_sortBy _ _ _).mp hr
    have := List.find?_eq_none.mp hf r hr'
    simpa using this

/-- `class_names.index(t)` finds every `t` that is among the class names -/
theorem rebuildCalls_ok {top cn : List Name} (h : ∀ t ∈ top, t ∈ cn) : ∃ r, rebuildCalls top cn = .ok r := by
  have : top.find? (fun t => !cn.contains t) = none := List.find?_eq_none.mpr fun t ht => by simpa using h t ht
  exact ⟨_, by simp only [rebuildCalls, this]; rfl⟩

def PathsDistinct (entries : List Entry) : Prop := ∀ a b, a ∈ entries → b ∈ entries → a.path = b.path → a = b

theorem loadGraphqlFiles_eq_of_perm {dl₁ dl₂ : List Entry → List Entry} (entries : List Entry)
    (h₁ : (dl₁ entries).Perm entries) (h₂ : (dl₂ entries).Perm entries) (hd : PathsDistinct entries) :
    loadGraphqlFiles dl₁ entries = loadGraphqlFiles dl₂ entries := by
  have hs : sortBy pathLe ((dl₁ entries).filter isGraphqlFile) = sortBy pathLe ((dl₂ entries).filter isGraphqlFile) := by
    apply sortBy_eq_of_perm pathLe_preorder _ ((h₁.trans h₂.symm).filter _)
    intro a b ha hb hab hba
    have hp : a.path = b.path := lexLe_antisymm strLe_order _ _ hab hba
    exact hd a b (h₁.mem_iff.mp (List.mem_filter.mp ha).1) (h₁.mem_iff.mp (List.mem_filter.mp hb).1) hp
  simp only [loadGraphqlFiles, hs]

theorem dfs_ok {ord : List Name → List Name} {d : Deps} {roots out : List Name} (h : dfs ord d roots = .ok out) :
    ∃ st', roots.foldlM (fun s x => visit ord d (d.length + 1) x s) ⟨[], []⟩ = .ok st' ∧ st'.out = out := by
  unfold dfs at h
  cases hf : roots.foldlM (fun s x => visit ord d (d.length + 1) x s) (⟨[], []⟩ : St) with
  | error e => rw [hf] at h; cases h
  | ok st' =>
    rw [hf] at h
    simp [Except.map] at h
    exact ⟨st', rfl, h⟩

theorem inv_init : Inv ⟨[], []⟩ := by intro a ha; cases ha

theorem dfs_complete {ord : List Name → List Name} {d : Deps} {roots out : List Name} (h : dfs ord d roots = .ok out) :
    ∀ r, r ∈ roots → r ∈ out := by
  obtain ⟨st', hf, rfl⟩ := dfs_ok h
  obtain ⟨p, hall⟩ := fold_spec ord d _ (visit_spec ord d _) roots _ st' inv_init hf
  intro r hr
  by_cases hro : r ∈ st'.out
  · exact hro
  · have : Grey ⟨[], []⟩ r := (p.grey r).mp ⟨hall r hr, hro⟩
    cases this.1

/-- for an acyclic dictionary every fragment comes after its dependencies, whatever the iteration order -/
theorem dfs_topo {ord : List Name → List Name} {d : Deps} {roots out : List Name}
    (hord : ∀ ds x, x ∈ ord ds ↔ x ∈ ds) (rk : Name → Nat)
    (hrk : ∀ n ds m, lookup d n = some ds → m ∈ ds → rk m < rk n)
    (h : dfs ord d roots = .ok out) : TopoOK d out := by
  obtain ⟨st', hf, rfl⟩ := dfs_ok h
  refine (fold_topo ord d rk _ (visit_topo ord d rk hrk hord _) roots _ st' inv_init (topoOK_nil d) ?_ hf).1
  intro x _ a ha
  cases ha.1

theorem lookup_map_mk {β : Type} (f : Name → β) (names : List Name) (n : Name) :
    lookup (names.map (fun x => (x, f x))) n = if n ∈ names then some (f n) else none := by
  induction names with
  | nil => simp [lookup]
  | cons x xs ih =>
    simp only [List.map_cons, lookup, ih, List.mem_cons]
    by_cases hx : x = n
    · subst hx; simp
    · have : ¬ n = x := fun e => hx e.symm
      simp [hx, this]

theorem lookup_isSome_of_mem {β : Type} (d : List (Name × β)) (n : Name) (h : n ∈ d.map (·.1)) : ∃ v, lookup d n = some v :=
  Option.isSome_iff_exists.mp (lookup_eq d n ▸ Lists.lookup_isSome_iff.mpr h)

/-- the generator `FragmentsGenerator.generate` builds for fragment `n`: the expression inside `liveGens` (Model/OrderEmit.lean), named -/
def genOf (defs : List (Name × DefGen)) (n : Name) : DefGen := (lookup defs n).getD default

theorem fragGens_eq (defs : List (Name × DefGen)) (names : List Name) (h : ∀ n, n ∈ names → n ∈ defs.map (·.1)) :
    fragGens defs names = .ok (names.map (fun n => (n, genOf defs n))) := by
  unfold fragGens
  induction names with
  | nil => rfl
  | cons x xs ih =>
    obtain ⟨v, hv⟩ := lookup_isSome_of_mem defs x (h x List.mem_cons_self)
    have ih' := ih (fun n hn => h n (List.mem_cons_of_mem _ hn))
    simp only [List.mapM_cons, hv, ih', bind, Except.bind, pure, Except.pure, List.map_cons, genOf, Option.getD_some]

theorem filterEnums_eq_of_mem (schemaEnums : List Name) {u₁ u₂ : List Name} (h : ∀ a, a ∈ u₁ ↔ a ∈ u₂) :
    filterEnums schemaEnums (some u₁) = filterEnums schemaEnums (some u₂) := by
  simp only [filterEnums]
  apply List.filter_congr
  intro x _
  have := h x
  by_cases h1 : x ∈ u₁
  · simp [h1, this.mp h1]
  · have h2 : x ∉ u₂ := fun h' => h1 (this.mpr h')
    simp [h1, h2]

/-- two outcomes of `FragmentsGenerator.generate` that differ only by the order in which the loop met the fragments -/
def FragOutEquiv (o₁ o₂ : FragOut) : Prop :=
  o₁.module.imports.Perm o₂.module.imports ∧ o₁.module.classes = o₂.module.classes ∧ o₁.module.rebuilds = o₂.module.rebuilds
  ∧ o₁.publicNames.Perm o₂.publicNames ∧ o₁.usedEnums.Perm o₂.usedEnums

/-- same exception, or two related values -/
def ExceptRel {α : Type} (R : α → α → Prop) : Except Err α → Except Err α → Prop
  | .ok a, .ok b => R a b
  | .error e₁, .error e₂ => e₁ = e₂
  | _, _ => False

theorem ExceptRel.map_eq {α β : Type} {R : α → α → Prop} {f g : α → β} {a b : Except Err α} (h : ExceptRel R a b)
    (hfg : ∀ x y, a = .ok x → b = .ok y → R x y → f x = g y) : a.map f = b.map g := by
  cases a <;> cases b <;> simp only [ExceptRel] at h
  · rw [h]; rfl
  · exact congrArg Except.ok (hfg _ _ rfl rfl h)

theorem generateFromGens_rel (e₁ e₂ : EnumOracle) (he₁ : EnumOK e₁) (he₂ : EnumOK e₂)
    (G : Name → DefGen) {names₁ names₂ : List Name} (p : names₁.Perm names₂) :
    ExceptRel FragOutEquiv (generateFromGens e₁ names₁ (names₁.map (fun n => (n, G n))))
      (generateFromGens e₂ names₂ (names₂.map (fun n => (n, G n)))) := by
  have pg : (names₁.map (fun n => (n, G n))).Perm (names₂.map (fun n => (n, G n))) := p.map _
  -- the dependency dictionary and class_defs_dict answer alike
  have hdeps : ∀ n, lookup ((names₁.map (fun n => (n, G n))).map (fun p => (p.1, p.2.mixins))) n
      = lookup ((names₂.map (fun n => (n, G n))).map (fun p => (p.1, p.2.mixins))) n := by
    intro n
    simp only [List.map_map, Function.comp_def]
    rw [lookup_map_mk (fun x => (G x).mixins), lookup_map_mk (fun x => (G x).mixins)]
    simp [p.mem_iff]
  have hgens : ∀ n, lookup (names₁.map (fun n => (n, G n))) n = lookup (names₂.map (fun n => (n, G n))) n := by
    intro n
    rw [lookup_map_mk G, lookup_map_mk G]
    simp [p.mem_iff]
  have hord := pySorted_enum e₁ e₂ he₁ he₂
  have hroots : pySorted (e₁ names₁) = pySorted (e₂ names₂) :=
    pySorted_eq_of_perm ((he₁ _).trans (p.trans (he₂ _).symm))
  have hsn : sortedFragmentsNames e₁ names₁ ((names₁.map (fun n => (n, G n))).map (fun p => (p.1, p.2.mixins)))
      = sortedFragmentsNames e₂ names₂ ((names₂.map (fun n => (n, G n))).map (fun p => (p.1, p.2.mixins))) := by
    unfold sortedFragmentsNames
    rw [hord, hroots]
    exact dfs_congr _ (fun n => by rw [hdeps n]) (by simp [p.length_eq]) _
  have hcls : classesOf (names₁.map (fun n => (n, G n))) = classesOf (names₂.map (fun n => (n, G n))) := by
    funext n; simp only [classesOf, hgens n]
  unfold generateFromGens
  simp only [bind, Except.bind]
  rw [← hsn]
  cases hs : sortedFragmentsNames e₁ names₁ ((names₁.map (fun n => (n, G n))).map (fun p => (p.1, p.2.mixins))) with
  | error err => simp [ExceptRel]
  | ok sn =>
    simp only
    rw [← hcls]
    cases hc : sn.mapM (classesOf (names₁.map (fun n => (n, G n)))) with
    | error err => simp [ExceptRel]
    | ok cls =>
      simp only
      -- every top-level class is among the sorted classes
      have hall : ∀ t, t ∈ (names₁.map (fun n => (n, G n))).filterMap (fun p => p.2.classes.head?) → t ∈ cls.flatten := by
        intro t ht
        obtain ⟨q, hq, hhead⟩ := List.mem_filterMap.mp ht
        obtain ⟨n, hn, rfl⟩ := List.mem_map.mp hq
        have hnsn : n ∈ sn := by
          apply dfs_complete hs
          exact (mem_pySorted _ _).mpr ((he₁ _).mem_iff.mpr hn)
        obtain ⟨y, hy, hfy⟩ := Lists.mapM_ok_mem hc hnsn
        simp only [classesOf] at hfy
        rw [lookup_map_mk G] at hfy
        simp [hn] at hfy
        subst hfy
        exact List.mem_flatten.mpr ⟨_, hy, List.mem_of_mem_head? hhead⟩
      rw [← rebuildCalls_eq_of_perm (pg.filterMap _) hall]
      cases hr : rebuildCalls ((names₁.map (fun n => (n, G n))).filterMap (fun p => p.2.classes.head?)) cls.flatten with
      | error err => simp [ExceptRel]
      | ok rb =>
        simp only [ExceptRel, pure, Except.pure, FragOutEquiv]
        exact ⟨pg.flatMap_right _, trivial, trivial, pg.flatMap_right _, pg.flatMap_right _⟩

theorem fmtFrag_eq_of_equiv (keep : Name → Bool) (schemaEnums : List Name) {o₁ o₂ : FragOut} (h : FragOutEquiv o₁ o₂)
    (nt₁ : BlockNoTie o₁.module.imports) (nt₂ : NoTie o₁.publicNames) :
    fmtFrag keep schemaEnums o₁ = fmtFrag keep schemaEnums o₂ := by
  obtain ⟨hi, hc, hr, hp, hu⟩ := h
  simp only [fmtFrag, hc, hr]
  rw [summary_eq_of_equiv keep (BlockEquiv.of_perm hi) nt₁, isortNames_eq_of_perm nt₂ hp,
    filterEnums_eq_of_mem schemaEnums (fun _ => hu.mem_iff)]

theorem filter_contains_congr {ex₁ ex₂ : List Name} (h : ∀ a, a ∈ ex₁ ↔ a ∈ ex₂) (l : List Name) :
    l.filter (fun n => !ex₁.contains n) = l.filter (fun n => !ex₂.contains n) :=
  List.filter_congr fun x _ => by simp only [List.contains_eq_mem, h x]

theorem filter_subset_keys (defs : List (Name × DefGen)) (ex : List Name) (e : EnumOracle) (he : EnumOK e) :
    ∀ n, n ∈ e ((defs.map (·.1)).filter (fun n => !ex.contains n)) → n ∈ defs.map (·.1) :=
  fun _ hn => (List.mem_filter.mp ((he _).mem_iff.mp hn)).1

/-- `generate` under two enumeration oracles and two listings of the excluded set -/
theorem generateFragments_rel (e₁ e₂ : EnumOracle) (he₁ : EnumOK e₁) (he₂ : EnumOK e₂)
    (defs : List (Name × DefGen)) {ex₁ ex₂ : List Name} (hex : ∀ a, a ∈ ex₁ ↔ a ∈ ex₂) :
    ExceptRel FragOutEquiv (generateFragments e₁ defs ex₁) (generateFragments e₂ defs ex₂) := by
  unfold generateFragments
  simp only [bind, Except.bind]
  rw [fragGens_eq defs _ (filter_subset_keys defs ex₁ e₁ he₁), fragGens_eq defs _ (filter_subset_keys defs ex₂ e₂ he₂)]
  simp only
  apply generateFromGens_rel e₁ e₂ he₁ he₂ (genOf defs)
  rw [filter_contains_congr hex]
  exact (he₁ _).trans (he₂ _).symm

end Ariadne.Order
