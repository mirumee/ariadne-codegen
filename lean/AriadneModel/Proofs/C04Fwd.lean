/-
  Proofs/C04Fwd.lean — the quoted forward references of the classes a `ResultTypesGenerator` produces name classes it
  produces, for every input inside `PackageValid.leafNamesOK` (no field name selected as a leaf names a composite-typed
  field of any type): there a field selected without sub-selection has a leaf type whatever type its selection set is
  evaluated for, so every class an annotation refers to is generated by the recursion.
-/
import AriadneModel.Proofs.C04Result


namespace Ariadne.ResultTypes
open Ariadne.Gql Ariadne.Package

theorem parseType_related (env : Env) (fuel : Nat) (sel : List Selection) (t : TypeRef) (nullable : Bool) (cn : String) (add : Bool)
    (ctx : Ctx) (a : Ann) (ctx' : Ctx) (hc : Validate.isComposite env.schema t.base = false)
    (h : parseType env fuel sel t nullable cn add ctx = .ok (a, ctx')) : ctx'.related = ctx.related := by
  obtain ⟨L, hn, _⟩ := parseType_ok h
  -- the named type: the composite kinds are excluded by `hc`, an input type by `hn`; every other case leaves `related` alone
  simp only [Validate.isComposite] at hc
  simp only [namedT, parseType] at hn
  split at hn
  · rename_i hk; rw [hk] at hc; cases hc
  · rename_i hk; rw [hk] at hc; cases hc
  · cases hn; rfl
  · rename_i hk; rw [hk] at hc; cases hc
  · cases hn
  · split at hn
    · cases hn; rfl
    · split at hn <;> cases hn <;> rfl

theorem parseOperationField_leaf (env : Env) (fuel : Nat) (name : String) (dirs : List Directive) (sub : List Selection)
    (t : TypeRef) (cn : String) (tv : List String) (a : Ann) (dflt : Bool) (ctx : Ctx)
    (hc : Validate.isComposite env.schema t.base = false)
    (h : parseOperationField env fuel name dirs sub t cn tv = .ok (a, dflt, ctx)) : annFwd a = [] := by
  have fs := parseOperationField_spec env fuel name dirs sub t cn tv a dflt ctx h
  unfold parseOperationField at h
  split at h
  · simp only [pure, Except.pure, Except.ok.injEq, Prod.mk.injEq] at h
    rw [← h.1]
    rfl
  · cases hp : parseType env fuel sub t true cn false {} with
    | error e => rw [hp] at h; simp [bind, Except.bind] at h
    | ok r =>
      obtain ⟨a0, c0⟩ := r
      rw [hp] at h
      simp only [bind, Except.bind, pure, Except.pure, Except.ok.injEq, Prod.mk.injEq] at h
      obtain ⟨_, _, rfl⟩ := h
      have hrel := parseType_related env fuel sub t true cn false {} a0 c0 hc hp
      cases hf : annFwd a with
      | nil => rfl
      | cons x rest =>
        have := fs.fwd x (by rw [hf]; exact List.mem_cons_self)
        rw [hrel] at this
        simp at this

/-- the leaf discipline the region `leafNamesOK` gives for every field node: selected without sub-selection, its name
    names no composite-typed field of any type -/
def LeafP (env : Env) (f : RField) : Prop :=
  f.sub = [] → ∀ tn fd, env.schema.fieldOf? tn f.name = some fd → Validate.isComposite env.schema fd.type.base = false

def FwdOK (s : St) (cs : List ClassDecl) : Prop := ∀ c ∈ cs, ∀ f ∈ c.fields, ∀ x ∈ annFwd f.ann, x ∈ s.publicNames

theorem FwdOK.mono {s s' : St} (h : Sub s s') {cs : List ClassDecl} (hc : FwdOK s cs) : FwdOK s' cs :=
  fun c hcm f hf x hx => h.pub x (hc c hcm f hf x hx)

theorem FwdOK.append {s : St} {a b : List ClassDecl} (ha : FwdOK s a) (hb : FwdOK s b) : FwdOK s (a ++ b) := by
  intro c hc
  rcases List.mem_append.mp hc with h | h
  · exact ha c h
  · exact hb c h

/-- which public names a call leaves behind for sure: its class; the classes its fields quote; the related classes -/
def Call.named (st' : St) : Call → Prop
  | .type cn _ _ _ _ _ _ => cn ∈ st'.publicNames
  | .fields _ _ _ _ fds => ∀ fd ∈ fds, ∀ x ∈ annFwd fd.ann, x ∈ st'.publicNames
  | .set _ sel ctx _ => sel ≠ [] → ∀ rc ∈ ctx.related, rc.1 ∈ st'.publicNames
  | .related _ _ _ _ rcs => ∀ rc ∈ rcs, rc.1 ∈ st'.publicNames

section
variable {env : Env} (hstr : Validate.isComposite env.schema "String" = false)
  (htn : ∀ tn fd, env.schema.fieldOf? tn typenameField = some fd → Validate.isComposite env.schema fd.type.base = false)
  (hfr : ∀ n f, findFragment? env.frags n = some f → SelsAll (LeafP env) f.sel)

include hstr in
theorem leaf_type {tn : String} {f : RField} {t : TypeRef} (hl : LeafP env f) (hsub : f.sub = [])
    (ht : fieldTypeFromSchema env tn f.name = .ok t) : Validate.isComposite env.schema t.base = false := by
  unfold fieldTypeFromSchema at ht
  cases hfo : env.schema.fieldOf? tn f.name with
  | some fdd => rw [hfo] at ht; cases ht; exact hl hsub tn fdd hfo
  | none =>
    rw [hfo] at ht
    simp only at ht
    split at ht
    · cases ht; exact hstr
    · cases ht

include hstr htn hfr in
/-- **forward references resolve**: every class name an annotation quotes is a public name of the generator when the call
    returns — any call, any state -/
theorem runs_fwd {c : Call} {st : St} {cs : List ClassDecl} {st' : St} (h : Runs env c st cs st') :
    c.all (LeafP env) → FwdOK st' cs ∧ c.named st' := by
  have none : ∀ s, FwdOK s [] := fun _ _ h => nomatch h
  induction h with
  | seen hseen => exact fun _ => ⟨none _, List.contains_iff_mem.mp hseen⟩
  | @fresh cn tn sid sel a eb tv st x st1 fds more st' fuel hseen hres hr ih =>
    intro hsel
    obtain ⟨i2, i1⟩ := ih (all_resolved hfr (fun _ tn' fd hfd => htn tn' fd hfd) hsel hres _ _)
    refine ⟨fun c hc => ?_, (runs_out (.fresh (eb := eb) hseen hres hr)).1.clsPub _ List.mem_cons_self⟩
    rcases List.mem_cons.mp hc with rfl | hc
    · exact i1
    · exact i2 c hc
  | fieldsNil => exact fun _ => ⟨none _, fun _ h => nomatch h⟩
  | @fieldsCons cn tn tv f rest fds s t a dflt ctx more s1 more' s' fuel ht hx _ h₂ ih₁ ih₂ =>
    intro hall
    obtain ⟨hleaf, hsub⟩ := hall f List.mem_cons_self
    obtain ⟨q1, q2⟩ := ih₁ hsub
    obtain ⟨r1, r2⟩ := ih₂ fun g hg => hall g (List.mem_cons_of_mem _ hg)
    -- the public names of `s1` are still there when the rest of the loop has run
    have keep : ∀ y ∈ s1.publicNames, y ∈ s'.publicNames := (runs_out h₂).1.sub.pub
    refine ⟨FwdOK.append (fun c hc g hg y hy => keep y (q1 c hc g hg y hy)) r1, fun fd hfd y hy => ?_⟩
    rcases List.mem_cons.mp hfd with rfl | hfd
    · -- the new field: a leaf quotes nothing, otherwise it quotes the related classes
      replace hy : y ∈ annFwd a := hy
      by_cases hs : f.sub = []
      · rw [parseOperationField_leaf env _ _ _ _ _ _ _ a dflt ctx (leaf_type hstr hleaf hs ht) hx] at hy
        cases hy
      · obtain ⟨rc, hrc, rfl⟩ := List.mem_map.mp ((parseOperationField_spec env _ _ _ _ _ _ _ a dflt ctx hx).fwd y hy)
        exact keep _ (q2 hs rc hrc)
    · exact r2 fd hfd y hy
  | setEmpty hemp => exact fun _ => ⟨none _, fun hne => absurd (List.isEmpty_iff.mp hemp) hne⟩
  | setRun _ _ ih => exact fun hsel => ⟨(ih hsel).1, fun _ => (ih hsel).2⟩
  | relNil => exact fun _ => ⟨none _, fun _ h => nomatch h⟩
  | relCons _ h₂ ih₁ ih₂ =>
    intro hsel
    obtain ⟨p2, p1⟩ := ih₁ hsel
    obtain ⟨r1, r2⟩ := ih₂ hsel
    have o2 := (runs_out h₂).1
    refine ⟨(p2.mono o2.sub).append r1, fun rc' hrc' => ?_⟩
    rcases List.mem_cons.mp hrc' with rfl | hrc'
    · exact o2.sub.pub _ p1
    · exact r2 rc' hrc'

end

end Ariadne.ResultTypes
