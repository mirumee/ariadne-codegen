/-
  Property C01, "abstract positions" tier (inline fragments on abstract types, and spreads of mixin
  fragments), part (2): the classes `aClass` accept every response a conformant executor can give for the selection set AS SENT
  (with the automatic `__typename` fields), and dump it back.
-/
import AriadneModel.Proofs.C01AbsGen
import AriadneModel.Proofs.C01PlainVal
import AriadneModel.Proofs.C01MixVal
import AriadneModel.Proofs.C01Fold


namespace Ariadne.C01Abs
open Ariadne Ariadne.Gql Ariadne.ResultTypes Ariadne.Util Ariadne.Pyd Ariadne.C01Plain Ariadne.C01Ann Ariadne.C01Accepts

/-- the selection set of a class as the executor sees it -/
def sent (a : Bool) (M : List Nat) (sel : List Selection) : List Selection :=
  (if autoTn a sel then [Marks.typenameSel] else []) ++ Marks.applySels M sel

theorem applySels_map (M : List Nat) : ∀ sel : List Selection, Marks.applySels M sel = sel.map (Marks.applySel M)
  | [] => by simp [Marks.applySels]
  | s :: rest => by simp [Marks.applySels, applySels_map M rest]

theorem applySel_field (M : List Nat) (alias : Option String) (name : String) (dirs : List Directive) (sid : Nat)
    (sub : List Selection) :
    Marks.applySel M (.field alias name dirs sid sub) =
      .field alias name dirs sid (if M.contains sid && !sub.isEmpty then Marks.typenameSel :: Marks.applySels M sub
                                  else Marks.applySels M sub) := by
  simp [Marks.applySel]

theorem applySel_inline (M : List Nat) (on : Option String) (dirs : List Directive) (sid : Nat) (ss : List Selection) :
    Marks.applySel M (.inline on dirs sid ss) = .inline on dirs sid (Marks.applySels M ss) := by
  simp [Marks.applySel]

theorem applySel_tn (M : List Nat) : Marks.applySel M Marks.typenameSel = Marks.typenameSel := by
  simp [Marks.typenameSel, Marks.applySel, Marks.applySels]

theorem keyOf_applySel (M : List Nat) (x : Selection) (h : isField x = true) : keyOf (Marks.applySel M x) = keyOf x := by
  cases x <;> simp [isField] at h
  simp [applySel_field, keyOf]

theorem isField_applySel (M : List Nat) (x : Selection) (h : isField x = true) : isField (Marks.applySel M x) = true := by
  cases x <;> simp [isField] at h
  simp [applySel_field, isField]

theorem isConditional_eq (dirs : List Directive) : Exec.isConditional dirs = hasConditionalDirective dirs := rfl

/-! the executor's view of the field nodes of a class: own nodes with the marks applied, inherited nodes as written.  As `c0`/`c1`/`cnodes`
    (Proofs/C01AbsDefs.lean): `xs1` is one selection of the class and looks into an inline fragment merged into it, `xs0` one selection there or at the top -/

def xs0 (env : ResultTypes.Env) (M : List Nat) : Selection → List Selection
  | .field a n d s sub => [Marks.applySel M (.field a n d s sub)]
  | .spread g _ => (inhOf env (C01Mix.fragDepth env) g).map (·.2)
  | _ => []

def xs1 (env : ResultTypes.Env) (tn : String) (M : List Nat) : Selection → List Selection
  | .inline (some c) _ _ ss => if incl env c tn then ss.flatMap (xs0 env M) else []
  | s => xs0 env M s

/-- the field nodes of a class as the executor sees them -/
def sentNodes (a : Bool) (M : List Nat) (env : ResultTypes.Env) (tn : String) (sel : List Selection) : List Selection :=
  (if autoTn a sel then [Marks.typenameSel] else []) ++ sel.flatMap (xs1 env tn M)

theorem inhOf_spec (env : ResultTypes.Env) (K : Nat) (hfr : C01Mix.FragsOK env K) {g : String} {f : Fragment}
    (hf : findFragment? env.frags g = some f) :
    (∀ e, K ≤ e → C01Mix.mflat env e (pascal f.name) f.sel = inhOf env (C01Mix.fragDepth env) g) ∧
    (∀ p ∈ inhOf env (C01Mix.fragDepth env) g, isField p.2 = true ∧ C01Mix.mLocal1 env K p.1 f.on p.2 = true ∧
      ((p.1 = pascal f.name ∧ p.2 ∈ f.sel) ∨ (∃ f' ∈ env.frags, p.1 = pascal f'.name ∧ p.2 ∈ f'.sel ∧ f'.on = f.on))) := by
  obtain ⟨_, _, _, hloc, hfull, hfullS⟩ := C01Mix.fragOK_spec (hfr f (C01Mix.find_mem hf).1)
  have hK : C01Mix.mflat env (C01Mix.fragDepth env) (pascal f.name) f.sel = C01Mix.mflat env K (pascal f.name) f.sel :=
    C01Mix.mflat_eq_both env _ _ _ _ hfullS (C01Mix.mfullS_of_mfull env K f.on f.sel hfull)
  have hi : inhOf env (C01Mix.fragDepth env) g = C01Mix.mflat env K (pascal f.name) f.sel := by
    simp only [inhOf, hf]; exact hK
  refine ⟨fun e he => ?_, fun p hp => ?_⟩
  · rw [hi]; exact C01Mix.mflat_eq_of_leS env K e _ f.sel (C01Mix.mfullS_of_mfull env K f.on f.sel hfull) he
  · rw [hi] at hp
    exact C01Mix.mflat_mem env K hfr K (pascal f.name) f.on f.sel hloc p.1 p.2 hp

theorem xs0_keys (env : ResultTypes.Env) (M : List Nat) (s : Selection) :
    (xs0 env M s).map keyOf = (c0 env s).map keyOf := by
  cases s with
  | field a n d sid sub => simp [xs0, c0, applySel_field, keyOf]
  | spread g d => rfl
  | inline on d sid ss => rfl

theorem sentNodes_items (a : Bool) (M : List Nat) (env : ResultTypes.Env) (tn : String) (sel : List Selection) :
    sentNodes a M env tn sel =
      (if autoTn a sel then [Marks.typenameSel] else []) ++ (items env tn sel).flatMap (xs0 env M) := by
  unfold sentNodes
  congr 1
  exact flatMap_items env tn (xs0 env M) (xs1 env tn M) (fun _ _ _ _ => rfl) (fun _ _ _ => rfl) (fun _ _ _ _ _ => rfl) (fun _ _ => rfl) sel

theorem cnodes_items (a : Bool) (env : ResultTypes.Env) (tn : String) (sel : List Selection) :
    cnodes a env tn sel = (if autoTn a sel then [Marks.typenameSel] else []) ++ (items env tn sel).flatMap (c0 env) := by
  unfold cnodes
  congr 1
  exact flatMap_items env tn (c0 env) (c1 env tn) (fun _ _ _ _ => rfl) (fun _ _ _ => rfl) (fun _ _ _ _ _ => rfl) (fun _ _ => rfl) sel

theorem sentNodes_keys (a : Bool) (M : List Nat) (env : ResultTypes.Env) (tn : String) (sel : List Selection) :
    (sentNodes a M env tn sel).map keyOf = (cnodes a env tn sel).map keyOf := by
  rw [sentNodes_items, cnodes_items, List.map_append, List.map_append, List.map_flatMap, List.map_flatMap]
  congr 1
  exact Lists.flatMap_congr _ _ _ (fun y _ => xs0_keys env M y)

theorem foldl_flatMap_append {α β : Type} (f : β → α → β) (l1 l2 : List α) (acc : β) :
    (l1 ++ l2).foldl f acc = l2.foldl f (l1.foldl f acc) := List.foldl_append

theorem entries_frag (env : ResultTypes.Env) (K : Nat) (hfr : C01Mix.FragsOK env K) (e : Nat) (hKe : K ≤ e)
    {g : String} {f : Fragment} (hf : findFragment? env.frags g = some f) :
    entries env.schema env.frags e f.on false f.sel = ((inhOf env (C01Mix.fragDepth env) g).map (·.2)).map collOf := by
  obtain ⟨_, _, _, hloc, _, _⟩ := C01Mix.fragOK_spec (hfr f (C01Mix.find_mem hf).1)
  rw [C01Mix.entries_mix env K hfr f.on e (pascal f.name) f.sel hloc, (inhOf_spec env K hfr hf).1 e hKe, List.map_map]
  rfl

theorem entryStep_content (env : ResultTypes.Env) (K : Nat) (hfr : C01Mix.FragsOK env K) (e : Nat) (hKe : K ≤ e) (rt : String)
    (M : List Nat) {cn tn : String} {rts : List String} (hrt : rt ∈ rts) {x : Selection}
    (hx : aSel1 env M.contains cn tn rts x = true) (hshape : isField x = true ∨ isSpreadSel x = true) :
    entryStep env.schema env.frags e rt false (Marks.applySel M x) = (xs0 env M x).map collOf := by
  cases x with
  | inline on d sid ss' => simp [isField, isSpreadSel] at hshape
  | field alias name dirs sid sub =>
    simp only [xs0, List.map_cons, List.map_nil]
    rw [applySel_field]
    rfl
  | spread g d =>
    obtain ⟨hcond, _, hall, f, hf, hon⟩ := aSel1_spread hx
    have hrt' : rt = tn := hall rt hrt
    have happ : Exec.applies env.schema (some f.on) rt = true := by simp [Exec.applies, hon, hrt']
    have e1 : Marks.applySel M (.spread g d) = .spread g d := by simp [Marks.applySel]
    rw [e1]
    simp only [entryStep, hf, happ, if_true, isConditional_eq, hcond, Bool.or_false, xs0]
    have := entries_frag env K hfr e hKe hf
    rw [hon, ← hrt'] at this
    exact this

theorem entries_abs (env : ResultTypes.Env) (K : Nat) (hfr : C01Mix.FragsOK env K) (k : Nat) (hKk : K ≤ k) (rt : String)
    (M : List Nat) {cn tn : String} {rts : List String} (hrt : rt ∈ rts) (sels : List Selection)
    (h : ∀ x ∈ sels, aSel1 env M.contains cn tn rts x = true) :
    entries env.schema env.frags (k + 2) rt false (sels.map (Marks.applySel M)) = (sels.flatMap (xs1 env tn M)).map collOf := by
  rw [entries_succ, List.flatMap_map, List.map_flatMap]
  refine Lists.flatMap_congr _ _ _ (fun x hx => ?_)
  have hx1 := h x hx
  cases x with
  | field alias name dirs sid sub => exact entryStep_content env K hfr (k + 1) (by omega) rt M hrt hx1 (Or.inl rfl)
  | spread g d => exact entryStep_content env K hfr (k + 1) (by omega) rt M hrt hx1 (Or.inr rfl)
  | inline on d sid ss =>
    cases on with
    | none => simp [aSel1] at hx1
    | some c =>
      have hx' := hx1
      simp only [aSel1, Bool.and_eq_true, Bool.not_eq_true', List.all_eq_true, beq_iff_eq] at hx'
      obtain ⟨⟨hcond, hagree⟩, _⟩ := hx'
      have happ : Exec.applies env.schema (some c) rt = incl env c tn := (hagree rt hrt).symm
      simp only [applySel_inline, entryStep, happ, isConditional_eq, hcond, Bool.or_false, xs1]
      by_cases hi : incl env c tn = true
      · obtain ⟨_, hcont, hss⟩ := aSel1_inline hx1 hi
        have hssl := (aSels_iff _ _ _ _ _ _).mp hss
        simp only [hi, if_true]
        rw [applySels_map, entries_succ, List.flatMap_map, List.map_flatMap]
        refine Lists.flatMap_congr _ _ _ (fun y hy => ?_)
        exact entryStep_content env K hfr k hKk rt M hrt (hssl y hy)
          ((hcont y hy).imp notTnField_isField (fun h1 => h1.1))
      · have hi' : incl env c tn = false := by simpa using hi
        simp [hi']

theorem rflat_isField {env : ResultTypes.Env} {mk : Nat → Bool} {cn tn : String} {rts : List String} {sel : List Selection} (a : Bool)
    (h : aSels env mk cn tn rts sel = true) : ∀ x ∈ rflat a env tn sel, isField x = true :=
  fun x hx => (rflat_spec a h x hx).1

theorem entries_sent (env : ResultTypes.Env) (K : Nat) (hfr : C01Mix.FragsOK env K) (k : Nat) (hKk : K ≤ k) (rt : String)
    (M : List Nat) {cn tn : String}
    {rts : List String} (hrt : rt ∈ rts) (a : Bool) (sel : List Selection)
    (hloc : aSels env M.contains cn tn rts sel = true) :
    entries env.schema env.frags (k + 2) rt false (sent a M sel) = (sentNodes a M env tn sel).map collOf := by
  have hlocs := (aSels_iff env M.contains cn tn rts sel).mp hloc
  unfold sent sentNodes
  rw [applySels_map, List.map_append, ← entries_abs env K hfr k hKk rt M hrt sel hlocs]
  split
  · rw [entries_succ, entries_succ, List.flatMap_append]
    rfl
  · rfl

/-! ### the field nodes of a class, tagged with where they are declared (`none` = in the class itself); `t0`/`t1`/`tnodes` as `c0`/`c1`/`cnodes` -/

abbrev TNode := Option String × Selection

def t0 (env : ResultTypes.Env) : Selection → List TNode
  | .field a n d s sub => [(none, .field a n d s sub)]
  | .spread g _ => (inhOf env (C01Mix.fragDepth env) g).map (fun p => (some p.1, p.2))
  | _ => []

def t1 (env : ResultTypes.Env) (tn : String) : Selection → List TNode
  | .inline (some c) _ _ ss => if incl env c tn then ss.flatMap (t0 env) else []
  | s => t0 env s

def tnodes (a : Bool) (env : ResultTypes.Env) (tn : String) (sel : List Selection) : List TNode :=
  (if autoTn a sel then [(none, Marks.typenameSel)] else []) ++ sel.flatMap (t1 env tn)

/-- the node as the executor sees it -/
def sentOf (M : List Nat) (t : TNode) : Selection :=
  match t.1 with
  | none => Marks.applySel M t.2
  | some _ => t.2

theorem t0_snd (env : ResultTypes.Env) (s : Selection) : (t0 env s).map (·.2) = c0 env s := by
  cases s with
  | field a n d sid sub => rfl
  | spread g d => simp [t0, c0, List.map_map, Function.comp_def]
  | inline on d sid ss => rfl

theorem tnodes_items (a : Bool) (env : ResultTypes.Env) (tn : String) (sel : List Selection) :
    tnodes a env tn sel = (if autoTn a sel then [(none, Marks.typenameSel)] else []) ++ (items env tn sel).flatMap (t0 env) := by
  unfold tnodes
  congr 1
  exact flatMap_items env tn (t0 env) (t1 env tn) (fun _ _ _ _ => rfl) (fun _ _ _ => rfl) (fun _ _ _ _ _ => rfl) (fun _ _ => rfl) sel

theorem tnodes_snd (a : Bool) (env : ResultTypes.Env) (tn : String) (sel : List Selection) :
    (tnodes a env tn sel).map (·.2) = cnodes a env tn sel := by
  rw [tnodes_items, cnodes_items, List.map_append, List.map_flatMap]
  congr 1
  · split <;> rfl
  · exact Lists.flatMap_congr _ _ _ (fun y _ => t0_snd env y)

theorem tnodes_cnodes (a : Bool) (env : ResultTypes.Env) (tn : String) (sel : List Selection) :
    ∀ t ∈ tnodes a env tn sel, t.2 ∈ cnodes a env tn sel :=
  fun t ht => by rw [← tnodes_snd]; exact List.mem_map.mpr ⟨t, ht, rfl⟩

theorem t0_sent (env : ResultTypes.Env) (M : List Nat) (s : Selection) : (t0 env s).map (sentOf M) = xs0 env M s := by
  cases s with
  | field a n d sid sub => rfl
  | spread g d => simp [t0, xs0, List.map_map, Function.comp_def, sentOf]
  | inline on d sid ss => rfl

theorem tnodes_sent (a : Bool) (M : List Nat) (env : ResultTypes.Env) (tn : String) (sel : List Selection) :
    (tnodes a env tn sel).map (sentOf M) = sentNodes a M env tn sel := by
  rw [tnodes_items, sentNodes_items, List.map_append, List.map_flatMap]
  congr 1
  · split
    · simp [sentOf, applySel_tn]
    · rfl
  · exact Lists.flatMap_congr _ _ _ (fun y _ => t0_sent env M y)

/-- the fragment `g` is spread in the class on `tn`: directly, or inside a merged inline fragment -/
def occurs (env : ResultTypes.Env) (tn : String) (sel : List Selection) (g : String) : Prop :=
  ∃ d, Selection.spread g d ∈ items env tn sel

theorem mem_gSpreads_fold (env : ResultTypes.Env) (tn g : String) : ∀ (sel : List Selection) (acc : List String),
    g ∈ sel.foldl (gSpreadStep env tn) acc ↔ g ∈ acc ∨ occurs env tn sel g
  | [], acc => by simp [occurs, items]
  | s :: rest, acc => by
    have hocc : occurs env tn (s :: rest) g ↔ (∃ d, Selection.spread g d ∈ item1 env tn s) ∨ occurs env tn rest g := by
      simp only [occurs, items, List.flatMap_cons, List.mem_append, exists_or]
    rw [List.foldl_cons, mem_gSpreads_fold env tn g rest, hocc, ← or_assoc]
    refine or_congr_left ?_
    cases s with
    | field a n d sid sub => simp [gSpreadStep, item1]
    | spread g' d => simp [gSpreadStep, item1, mem_setAdd, eq_comm]
    | inline on d sid ss =>
      cases on with
      | none => simp [gSpreadStep, item1]
      | some c =>
        simp only [gSpreadStep, item1]
        split
        · rw [mem_setUnion, C01Mix.mem_spreadNames]
        · simp

theorem mem_gSpreads (env : ResultTypes.Env) (tn : String) (sel : List Selection) (g : String) :
    g ∈ gSpreads env tn sel ↔ occurs env tn sel g := by
  unfold gSpreads
  rw [mem_gSpreads_fold]
  simp

theorem occurs_spec {env : ResultTypes.Env} {mk : Nat → Bool} {cn tn : String} {rts : List String} {sel : List Selection}
    (hloc : aSels env mk cn tn rts sel = true) {g : String} (h : occurs env tn sel g) :
    env.schema.kindOf? tn = some .object ∧ (∀ rt ∈ rts, rt = tn) ∧ ∃ f, findFragment? env.frags g = some f ∧ f.on = tn := by
  obtain ⟨d, hd⟩ := h
  obtain ⟨_, h2, h3, h4⟩ := aSel1_spread (items_spec hloc _ hd).1
  exact ⟨h2, h3, h4⟩

theorem rflat_items (a : Bool) (env : ResultTypes.Env) (tn : String) (sel : List Selection) :
    rflat a env tn sel = (if autoTn a sel then [Marks.typenameSel] else []) ++ (items env tn sel).filter isField := by
  rw [rflat, flatG_items]

theorem tnodes_own (a : Bool) (env : ResultTypes.Env) (tn : String) (sel : List Selection) (x : Selection) :
    (none, x) ∈ tnodes a env tn sel ↔ x ∈ rflat a env tn sel := by
  have h0 : ∀ z : Selection, (none, x) ∈ t0 env z ↔ z = x ∧ isField x = true := by
    intro z
    cases z with
    | field a' n d sid sub =>
      simp only [t0, List.mem_singleton, Prod.mk.injEq, true_and]
      exact ⟨fun h => ⟨h.symm, h ▸ rfl⟩, fun h => h.1.symm⟩
    | spread g d => simp [t0]; rintro rfl; simp [isField]
    | inline on d sid ss => simp [t0]; rintro rfl; simp [isField]
  rw [tnodes_items, rflat_items, List.mem_append, List.mem_append, List.mem_flatMap, List.mem_filter]
  refine or_congr ?_ ?_
  · split <;> simp [Marks.typenameSel]
  · constructor
    · rintro ⟨z, hz, hxz⟩
      obtain ⟨rfl, hf⟩ := (h0 z).mp hxz
      exact ⟨hz, hf⟩
    · rintro ⟨hx, hf⟩
      exact ⟨x, hx, (h0 x).mpr ⟨rfl, hf⟩⟩

theorem tnodes_inh (a : Bool) (env : ResultTypes.Env) (tn : String) (sel : List Selection) (o : String) (y : Selection) :
    (some o, y) ∈ tnodes a env tn sel ↔ ∃ g, occurs env tn sel g ∧ (o, y) ∈ inhOf env (C01Mix.fragDepth env) g := by
  have h0 : ∀ z : Selection, (some o, y) ∈ t0 env z ↔ ∃ g d, z = Selection.spread g d ∧ (o, y) ∈ inhOf env (C01Mix.fragDepth env) g := by
    intro z
    cases z with
    | field a' n d sid sub => simp [t0]
    | inline on d sid ss => simp [t0]
    | spread g d =>
      simp only [t0, List.mem_map, Selection.spread.injEq]
      constructor
      · rintro ⟨p, hp, he⟩
        simp only [Prod.mk.injEq, Option.some.injEq] at he
        refine ⟨g, d, ⟨rfl, rfl⟩, ?_⟩
        rw [← he.1, ← he.2]; exact hp
      · rintro ⟨g', d', ⟨rfl, rfl⟩, hp⟩
        exact ⟨(o, y), hp, rfl⟩
  rw [tnodes_items, List.mem_append, List.mem_flatMap]
  constructor
  · rintro (h | ⟨z, hz, hxz⟩)
    · split at h
      · simp at h
      · cases h
    · obtain ⟨g, d, rfl, hp⟩ := (h0 z).mp hxz
      exact ⟨g, ⟨d, hz⟩, hp⟩
  · rintro ⟨g, ⟨d, hd⟩, hp⟩
    exact Or.inr ⟨_, hd, (h0 _).mpr ⟨g, d, rfl, hp⟩⟩

theorem tnodes_isField (env : ResultTypes.Env) (K : Nat) (hfr : C01Mix.FragsOK env K) {mk : Nat → Bool}
    {cn tn : String} {rts : List String} {sel : List Selection} (a : Bool)
    (h : aSels env mk cn tn rts sel = true) : ∀ t ∈ tnodes a env tn sel, isField t.2 = true := by
  intro t ht
  obtain ⟨o, y⟩ := t
  cases o with
  | none => exact rflat_isField a h y ((tnodes_own _ _ _ _ _).mp ht)
  | some o' =>
    obtain ⟨g, hocc, hp⟩ := (tnodes_inh _ _ _ _ _ _).mp ht
    obtain ⟨_, _, f, hf, _⟩ := occurs_spec h hocc
    exact ((inhOf_spec env K hfr hf).2 _ hp).1


theorem pyFieldName_tn (env : ResultTypes.Env) : pyFieldName env typenameField = typenameAlias := by
  simp [pyFieldName, Names.pyName, Names.typenameField, typenameField, Names.typenameAlias, typenameAlias]

theorem typenameLiteral_class (penv : Pyd.Env) (c : ClassDecl) (hc : penv.class? c.name = some c)
    (hb : c.bases = ["BaseModel"]) (hbm : penv.class? "BaseModel" = none) (hnd : (c.fields.map (·.py)).Nodup)
    (d : FieldDecl) (hd : d ∈ c.fields) (hpy : d.py = typenameAlias) (vs : List String) (hann : d.ann = .literal vs) :
    typenameLiteral penv penv.clsFuel c.name = some vs := by
  have e : allFields penv penv.clsFuel c.name = c.fields := allFields_plain penv c hc hb hbm hnd _
  exact typenameLiteral_of_mem penv c.name (e ▸ hnd) d (e ▸ hd) hpy vs hann

theorem aDecl_py (env : ResultTypes.Env) (cn tn : String) (tv : List String) (alias : Option String) (name : String)
    (dirs : List Directive) (sub : List Selection) :
    (aDecl env cn tn tv alias name dirs sub).py = pyFieldName env (alias.getD name) := by
  unfold aDecl; split <;> rfl

theorem aDecl_alias (env : ResultTypes.Env) (cn tn : String) (tv : List String) (alias : Option String) (name : String)
    (dirs : List Directive) (sub : List Selection) :
    (aDecl env cn tn tv alias name dirs sub).alias =
      if pyFieldName env (alias.getD name) != alias.getD name then some (alias.getD name) else none := by
  unfold aDecl; split <;> simp only []

theorem aDecl_key (env : ResultTypes.Env) (cn tn : String) (tv : List String) (alias : Option String) (name : String)
    (dirs : List Directive) (sub : List Selection) :
    (aDecl env cn tn tv alias name dirs sub).alias.getD (aDecl env cn tn tv alias name dirs sub).py = alias.getD name := by
  rw [aDecl_alias, aDecl_py]
  by_cases h : pyFieldName env (alias.getD name) = alias.getD name
  · simp [h]
  · simp [h]

theorem mem_decls {env : ResultTypes.Env} {cn tn : String} {tv : List String} {fl : List Selection} {d : FieldDecl}
    (h : d ∈ fl.flatMap (aDecl1 env cn tn tv)) :
    ∃ alias name dirs sid sub, Selection.field alias name dirs sid sub ∈ fl ∧ d = aDecl env cn tn tv alias name dirs sub := by
  obtain ⟨x, hx, hd⟩ := List.mem_flatMap.mp h
  cases x with
  | field alias name dirs sid sub =>
    simp only [aDecl1, List.mem_singleton] at hd
    exact ⟨alias, name, dirs, sid, sub, hx, hd⟩
  | spread n d' => simp [aDecl1] at hd
  | inline on d' sid sub => simp [aDecl1] at hd

theorem decls_map (env : ResultTypes.Env) (cn tn : String) (tv : List String) {β : Type} (φ : FieldDecl → β) (ψ : String → β)
    (hφ : ∀ alias name dirs sub, φ (aDecl env cn tn tv alias name dirs sub) = ψ (alias.getD name)) :
    ∀ (fl : List Selection), (∀ x ∈ fl, isField x = true) →
      (fl.flatMap (aDecl1 env cn tn tv)).map φ = (fl.map keyOf).map ψ := by
  intro fl
  induction fl with
  | nil => intro _; simp
  | cons x rest ih =>
    intro h
    have hx := h x List.mem_cons_self
    cases x with
    | field alias name dirs sid sub =>
      simp only [List.flatMap_cons, aDecl1, List.singleton_append, List.map_cons, hφ, keyOf]
      rw [ih (fun y hy => h y (List.mem_cons_of_mem _ hy))]
    | spread n d => simp [isField] at hx
    | inline on d sid sub => simp [isField] at hx

theorem cs_facts (M : List Nat) (t : TNode) (h : isField t.2 = true) :
    (collOf (sentOf M t)).key = keyOf t.2 ∧ (collOf (sentOf M t)).name = nameOf t.2 ∧
    (collOf (sentOf M t)).conditional = hasConditionalDirective (dirsOf t.2) ∧
    ((subOf t.2).isEmpty = true → (collOf (sentOf M t)).subs = []) := by
  obtain ⟨o, y⟩ := t
  cases y with
  | spread g d => simp [isField] at h
  | inline on d sid ss => simp [isField] at h
  | field al n d sid sub =>
    cases o with
    | some o' =>
      refine ⟨rfl, rfl, by simp [sentOf, collOf, isConditional_eq, dirsOf], fun he => ?_⟩
      have : sub = [] := by simpa [subOf] using he
      subst this; rfl
    | none =>
      refine ⟨by simp [sentOf, applySel_field, collOf, keyOf], by simp [sentOf, applySel_field, collOf, nameOf],
        by simp [sentOf, applySel_field, collOf, dirsOf, isConditional_eq], fun he => ?_⟩
      have : sub = [] := by simpa [subOf] using he
      subst this
      simp [sentOf, applySel_field, collOf, Marks.applySels]

theorem eq_singleton_of_length_le_one {α : Type} {l : List α} {x : α} (h : l.length ≤ 1) (hx : x ∈ l) : l = [x] := by
  cases l with
  | nil => cases hx
  | cons y ys =>
    cases ys with
    | nil => simp at hx; rw [hx]
    | cons z zs => simp at h

theorem dupOK_spec {env : ResultTypes.Env} {l : List Selection} (h : dupOK env l = true) :
    (∀ x ∈ l, l.filter (fun y => keyOf y == keyOf x) = [x] ∨
      (∀ y ∈ l, keyOf y = keyOf x → plainLeaf y = true ∧ nameOf y = nameOf x)) ∧
    (∀ x ∈ l, ∀ y ∈ l, pyFieldName env (keyOf x) = pyFieldName env (keyOf y) → keyOf x = keyOf y) ∧
    (∀ x ∈ l, pyFieldName env (keyOf x) = keyOf x ∨ pyFieldName env (keyOf x) ∉ l.map keyOf) := by
  simp only [dupOK, Bool.and_eq_true, List.all_eq_true, Bool.or_eq_true, decide_eq_true_eq, nodupB_iff, beq_iff_eq,
    Bool.not_eq_true', List.contains_eq_mem, decide_eq_false_iff_not] at h
  obtain ⟨⟨h1, h2⟩, h3⟩ := h
  refine ⟨fun x hx => ?_, fun x hx y hy e => ?_, fun x hx => ?_⟩
  · rcases h1 x hx with h | h
    · exact Or.inl (eq_singleton_of_length_le_one h (List.mem_filter.mpr ⟨hx, by simp⟩))
    · right
      intro y hy hk
      have := h y (List.mem_filter.mpr ⟨hy, by simp [hk]⟩)
      simpa using this
  · have hx' : keyOf x ∈ dedup (l.map keyOf) := mem_dedup.mpr (List.mem_map.mpr ⟨x, hx, rfl⟩)
    have hy' : keyOf y ∈ dedup (l.map keyOf) := mem_dedup.mpr (List.mem_map.mpr ⟨y, hy, rfl⟩)
    exact Lists.eq_of_nodup_map h2 hx' hy' e
  · have hx' : keyOf x ∈ dedup (l.map keyOf) := mem_dedup.mpr (List.mem_map.mpr ⟨x, hx, rfl⟩)
    rcases h3 _ hx' with h | h
    · exact Or.inl h
    · exact Or.inr (fun hm => h (mem_dedup.mpr hm))

theorem owns_key {env : ResultTypes.Env} {l : List Selection} (h : dupOK env l = true) {x : Selection} (hx : x ∈ l)
    (hpl : plainLeaf x = false) : l.filter (fun y => keyOf y == keyOf x) = [x] := by
  rcases (dupOK_spec h).1 x hx with hu | hs
  · exact hu
  · have := (hs x hx rfl).1
    rw [hpl] at this; cases this

theorem same_key_spec {env : ResultTypes.Env} {l : List Selection} (h : dupOK env l = true) {x y : Selection} (hx : x ∈ l)
    (hy : y ∈ l) (hk : keyOf y = keyOf x) : nameOf y = nameOf x ∧ plainLeaf y = plainLeaf x := by
  rcases (dupOK_spec h).1 x hx with hu | hs
  · have : y ∈ l.filter (fun z => keyOf z == keyOf x) := List.mem_filter.mpr ⟨hy, by simp [hk]⟩
    rw [hu] at this
    rw [List.mem_singleton.mp this]
    exact ⟨rfl, rfl⟩
  · exact ⟨(hs y hy hk).2, by rw [(hs y hy hk).1, (hs x hx rfl).1]⟩

theorem tnodes_filter_snd (a : Bool) (env : ResultTypes.Env) (tn : String) (sel : List Selection) (κ : String) :
    ((tnodes a env tn sel).filter (fun t => keyOf t.2 == κ)).map (·.2) = (cnodes a env tn sel).filter (fun y => keyOf y == κ) := by
  rw [← tnodes_snd, List.filter_map]; rfl

theorem tnodes_filter_unique {a : Bool} {env : ResultTypes.Env} {tn : String} {sel : List Selection} {t : TNode}
    (hu : (cnodes a env tn sel).filter (fun y => keyOf y == keyOf t.2) = [t.2]) (ht : t ∈ tnodes a env tn sel) :
    (tnodes a env tn sel).filter (fun x => keyOf x.2 == keyOf t.2) = [t] := by
  have hlen : ((tnodes a env tn sel).filter (fun x => keyOf x.2 == keyOf t.2)).length ≤ 1 := by
    have hl := congrArg List.length (tnodes_filter_snd a env tn sel (keyOf t.2))
    rw [hu] at hl
    simp at hl
    omega
  exact eq_singleton_of_length_le_one hlen (List.mem_filter.mpr ⟨ht, by simp⟩)

theorem unique_tnode {a : Bool} {env : ResultTypes.Env} {tn : String} {sel : List Selection} {t t' : TNode}
    (hu : (cnodes a env tn sel).filter (fun y => keyOf y == keyOf t.2) = [t.2])
    (ht : t ∈ tnodes a env tn sel) (ht' : t' ∈ tnodes a env tn sel) (hk : keyOf t'.2 = keyOf t.2) : t' = t := by
  have h2 : t' ∈ (tnodes a env tn sel).filter (fun x => keyOf x.2 == keyOf t.2) := List.mem_filter.mpr ⟨ht', by simp [hk]⟩
  rw [tnodes_filter_unique hu ht] at h2
  exact List.mem_singleton.mp h2

/-- **the groups CollectFields makes of the field nodes of a class** (selections of the same response key are merged: `g` is the
    merged entry of the node's key) -/
theorem group_facts (env : ResultTypes.Env) (K : Nat) (hfr : C01Mix.FragsOK env K) (M : List Nat) {cn tn : String}
    {rts : List String}
    (rt : String) (hrt : rt ∈ rts) (a : Bool) (sel : List Selection)
    (hloc : aSels env M.contains cn tn rts sel = true) (hdup : dupOK env (cnodes a env tn sel) = true)
    (k : Nat) (hKk : K ≤ k) :
    (∀ g ∈ Exec.collect env.schema env.frags (k + 2) rt false (sent a M sel) [], ∃ t ∈ tnodes a env tn sel, keyOf t.2 = g.key) ∧
    (∀ t ∈ tnodes a env tn sel, ∃ g ∈ Exec.collect env.schema env.frags (k + 2) rt false (sent a M sel) [],
      g.key = keyOf t.2 ∧ g.name = nameOf t.2 ∧
      (g.conditional = true → ∀ t' ∈ tnodes a env tn sel, keyOf t'.2 = keyOf t.2 →
        hasConditionalDirective (dirsOf t'.2) = true) ∧
      (plainLeaf t.2 = true → g.subs = []) ∧
      (plainLeaf t.2 = false → g = collOf (sentOf M t))) := by
  rw [collect_eq_fold, entries_sent env K hfr k hKk rt M hrt a sel hloc, ← tnodes_sent]
  have hTf' := tnodes_isField env K hfr a hloc
  have hcn := tnodes_cnodes a env tn sel
  obtain ⟨_, hF2, hF3⟩ := C01Fold.fold_spec (((tnodes a env tn sel).map (sentOf M)).map collOf) [] (by simp)
  have hfilter : ∀ κ : String, ((((tnodes a env tn sel).map (sentOf M)).map collOf).filter (·.key == κ)) =
      (((tnodes a env tn sel).filter (fun t => keyOf t.2 == κ)).map (sentOf M)).map collOf := by
    intro κ
    rw [List.map_map, List.filter_map, List.map_map]
    congr 1
    apply List.filter_congr
    intro t ht
    simp only [Function.comp, (cs_facts M t (hTf' t ht)).1]
  constructor
  · intro g hg
    rcases hF2 g hg with ⟨a', ha', _⟩ | ⟨_, c, rest, hf, hge⟩
    · cases ha'
    · have hc : c ∈ (((tnodes a env tn sel).map (sentOf M)).map collOf).filter (·.key == g.key) := by rw [hf]; exact List.mem_cons_self
      rw [hfilter] at hc
      obtain ⟨y, hy, rfl⟩ := List.mem_map.mp hc
      obtain ⟨t, ht, rfl⟩ := List.mem_map.mp hy
      obtain ⟨htm, htk⟩ := List.mem_filter.mp ht
      exact ⟨t, htm, by simpa using htk⟩
  · intro t ht
    obtain ⟨g, hg, hgk⟩ := hF3 (collOf (sentOf M t)) (by
      simp only [List.nil_append]
      exact List.mem_map.mpr ⟨_, List.mem_map.mpr ⟨t, ht, rfl⟩, rfl⟩)
    rw [(cs_facts M t (hTf' t ht)).1] at hgk
    rcases hF2 g hg with ⟨a', ha', _⟩ | ⟨_, c, rest, hf, hge⟩
    · cases ha'
    · rw [hgk, hfilter] at hf
      obtain ⟨hmk, hmn, hms, hmc⟩ := C01Fold.mergeC_key c rest
      have hall : ∀ x ∈ c :: rest, ∃ t' ∈ tnodes a env tn sel, keyOf t'.2 = keyOf t.2 ∧ x = collOf (sentOf M t') := by
        intro x hx
        rw [← hf] at hx
        obtain ⟨y, hy, rfl⟩ := List.mem_map.mp hx
        obtain ⟨t', ht', rfl⟩ := List.mem_map.mp hy
        obtain ⟨h1, h2⟩ := List.mem_filter.mp ht'
        exact ⟨t', h1, by simpa using h2, rfl⟩
      have hmem : ∀ t' ∈ tnodes a env tn sel, keyOf t'.2 = keyOf t.2 → collOf (sentOf M t') ∈ c :: rest := by
        intro t' ht' hk'
        rw [← hf]
        exact List.mem_map.mpr ⟨_, List.mem_map.mpr ⟨t', List.mem_filter.mpr ⟨ht', by simp [hk']⟩, rfl⟩, rfl⟩
      have htc := hcn t ht
      refine ⟨g, hg, hgk, ?_, ?_, ?_, ?_⟩
      · rw [hge, hmn]
        obtain ⟨t', ht', hk', rfl⟩ := hall c List.mem_cons_self
        rw [(cs_facts M t' (hTf' t' ht')).2.1]
        exact (same_key_spec hdup htc (hcn t' ht') hk').1
      · intro hc t' ht' hk'
        rw [hge, hmc, Bool.and_eq_true, List.all_eq_true] at hc
        have := hmem t' ht' hk'
        rw [← (cs_facts M t' (hTf' t' ht')).2.2.1]
        rcases List.mem_cons.mp this with h1 | h1
        · rw [h1]; exact hc.1
        · exact hc.2 _ h1
      · -- a shared key: leaves only
        intro hpl
        rw [hge, hms]
        have hsubs : ∀ x ∈ c :: rest, x.subs = [] := by
          intro x hx
          obtain ⟨t', ht', hk', rfl⟩ := hall x hx
          have hpl' : plainLeaf t'.2 = true := by rw [(same_key_spec hdup htc (hcn t' ht') hk').2]; exact hpl
          simp only [plainLeaf, Bool.and_eq_true] at hpl'
          exact (cs_facts M t' (hTf' t' ht')).2.2.2 hpl'.1
        rw [hsubs c List.mem_cons_self]
        simp only [List.nil_append, List.flatMap_eq_nil_iff]
        exact fun x hx => hsubs x (List.mem_cons_of_mem _ hx)
      · -- a composite field or `__typename` owns its key
        intro hpl
        rw [tnodes_filter_unique (owns_key hdup htc hpl) ht] at hf
        simp only [List.map_cons, List.map_nil, List.cons.injEq] at hf
        rw [hge, ← hf.1, ← hf.2]
        simp [C01Fold.mergeC]

/-- … and what a conformant answer therefore says about them -/
theorem resp_facts (env : ResultTypes.Env) (K : Nat) (hfr : C01Mix.FragsOK env K) (M : List Nat) {cn tn : String}
    {rts : List String}
    (rt : String) (hrt : rt ∈ rts) (a : Bool) (sel : List Selection)
    (hloc : aSels env M.contains cn tn rts sel = true) (hdup : dupOK env (cnodes a env tn sel) = true)
    (k : Nat) (hKk : K ≤ k) (kvs : List (String × J))
    (hresp : Exec.respOK env.schema env.frags (k + 2) rt (sent a M sel) (.obj kvs) = true) :
    (∀ p ∈ kvs, ∃ t ∈ tnodes a env tn sel, keyOf t.2 = p.1) ∧
    (∀ t ∈ tnodes a env tn sel, ∃ g : Exec.Collected, g.key = keyOf t.2 ∧ g.name = nameOf t.2 ∧
      groupOK env.schema env.frags (k + 1) rt kvs g = true ∧
      (g.conditional = true → ∀ t' ∈ tnodes a env tn sel, keyOf t'.2 = keyOf t.2 →
        hasConditionalDirective (dirsOf t'.2) = true) ∧
      (plainLeaf t.2 = true → g.subs = []) ∧
      (plainLeaf t.2 = false → g = collOf (sentOf M t))) := by
  obtain ⟨h1, h2⟩ := group_facts env K hfr M rt hrt a sel hloc hdup k hKk
  rw [respOK_groups, Bool.and_eq_true] at hresp
  refine ⟨fun p hp => ?_, fun t ht => ?_⟩
  · obtain ⟨g, hg, he⟩ := List.any_eq_true.mp (List.all_eq_true.mp hresp.1 p hp)
    obtain ⟨t, ht, hk⟩ := h1 g hg
    exact ⟨t, ht, hk.trans (by simpa using he)⟩
  · obtain ⟨g, hg, a1, a2, a3, a4, a5⟩ := h2 t ht
    exact ⟨g, a1, a2, List.all_eq_true.mp hresp.2 g hg, a3, a4, a5⟩

/-- a class generated with `add_typename` has a `__typename` field node (automatic or explicit), un-aliased and
    unconditional -/
theorem exists_tn {env : ResultTypes.Env} {mk : Nat → Bool} {cn tn : String} {rts : List String} {sel : List Selection}
    (h : aSels env mk cn tn rts sel = true) :
    ∃ dirs sid sub0, Selection.field none typenameField dirs sid sub0 ∈ rflat true env tn sel ∧
      hasConditionalDirective dirs = false := by
  by_cases hauto : autoTn true sel = true
  · refine ⟨[], 0, [], ?_, rfl⟩
    simp [rflat, hauto, Marks.typenameSel]
  · have hexp : explicitTn sel = true := by simpa [autoTn] using hauto
    obtain ⟨x, hx, hxt⟩ := List.any_eq_true.mp hexp
    have hx1 := (aSels_iff _ _ _ _ _ _).mp h x hx
    cases x with
    | spread n d => simp [isTnSel] at hxt
    | inline on d sid ss => simp [isTnSel] at hxt
    | field alias name dirs sid sub0 =>
      have hn : name = typenameField := by simpa [isTnSel] using hxt
      subst hn
      simp only [aSel1, beq_self_eq_true, if_true, Bool.and_eq_true, Option.isNone_iff_eq_none, Bool.not_eq_true'] at hx1
      obtain ⟨_, ⟨⟨ha, hc⟩, _⟩⟩ := hx1
      subst ha
      refine ⟨dirs, sid, sub0, ?_, hc⟩
      unfold rflat
      apply List.mem_append_right
      exact List.mem_flatMap.mpr ⟨_, hx, by simp [flat1]⟩

theorem resp_typename (env : ResultTypes.Env) (K : Nat) (hfr : C01Mix.FragsOK env K) (M : List Nat) {cn tn : String}
    {rts : List String}
    (rt : String) (hrt : rt ∈ rts) (sel : List Selection)
    (hloc : aSels env M.contains cn tn rts sel = true) (hkeys : dupOK env (cnodes true env tn sel) = true)
    (k : Nat) (hKk : K ≤ k) (kvs : List (String × J))
    (hresp : Exec.respOK env.schema env.frags (k + 2) rt (sent true M sel) (.obj kvs) = true) :
    J.lookup typenameField kvs = some (.str rt) := by
  obtain ⟨dirs, sid, sub0, hx, hc⟩ := exists_tn hloc
  obtain ⟨g, _, _, hgok, _, _, hgu⟩ := (resp_facts env K hfr M rt hrt true sel hloc hkeys k hKk kvs hresp).2 _
    ((tnodes_own _ _ _ _ _).mpr hx)
  have this := hgok
  rw [hgu (by simp [plainLeaf, nameOf])] at this
  simp only [sentOf] at this
  rw [applySel_field] at this
  simp only [groupOK, valueOK, collOf, Option.getD_none, isConditional_eq, hc, Bool.or_false] at this
  cases hl : J.lookup typenameField kvs with
  | none => rw [hl] at this; cases this
  | some v =>
    rw [hl] at this
    have hn : (typenameField == Tables.typenameFieldName) = true := by simp [typenameField]
    simp only [hn, if_true] at this
    cases v <;> simp at this
    subst this
    rfl

theorem isMulti_abs {env : ResultTypes.Env} {n : String} {sub : List Selection} (h : isMulti env n sub = true) :
    env.schema.isAbstract n = true := by
  unfold isMulti at h
  unfold Schema.isAbstract
  cases hk : env.schema.kindOf? n with
  | none => simp [hk] at h
  | some k => cases k <;> simp_all

theorem relatedOf_single {env : ResultTypes.Env} {C n : String} {sub : List Selection} (h : isMulti env n sub = false) :
    relatedOf env C n sub = [(C, n)] := by
  unfold isMulti at h
  unfold relatedOf
  cases hk : env.schema.kindOf? n with
  | none => rfl
  | some k => cases k <;> simp_all

/-- the global hypotheses of part (2): the fragment definitions are fit to be mixins (`FragsOK`), the pydantic environment
    agrees with the schema on enums, has no class `BaseModel`, knows the classes of every fragment definition, its inheritance
    fuel covers the nesting of fragments, and `F` bounds the validation fuel any fragment class needs -/
structure GH (env : ResultTypes.Env) (penv : Pyd.Env) (K F : Nat) : Prop where
  hfr : C01Mix.FragsOK env K
  ha : ResultLeaf.EnvAgrees env penv
  hbm : penv.class? "BaseModel" = none
  frags : C01Mix.FragsIn env penv
  depth : C01Mix.fragDepth env + 1 ≤ penv.clsFuel
  need : ∀ f ∈ env.frags, C01Mix.mneed env K f.on f.sel + 1 ≤ F

/-- what part (2) says about one class, for executor fuel `ef`: the class on `tn` with typename values `tv`, standing for the
    runtime types `rts`, accepts the selection set as sent; the validation fuel of the tier is `avneed … + 4 + F` -/
def ValSpec (env : ResultTypes.Env) (penv : Pyd.Env) (M : List Nat) (K F : Nat) (ef : Nat) : Prop :=
  ∀ (cn tn rt : String) (rts : List String) (sel : List Selection) (tv : List String) (a : Bool),
    rt ∈ rts → classHead env tn rts tv a sel = true → aSels env M.contains cn tn rts sel = true →
    (∀ c ∈ aClass env cn tn tv a sel, penv.class? c.name = some c) →
    agfuel sel + K ≤ ef →
    Accepts env.schema env.frags penv ef (avneed env cn tn sel + 4 + F) cn rt (sent a M sel)

theorem classHead_spec {env : ResultTypes.Env} {tn : String} {rts tv : List String} {a : Bool} {sel : List Selection}
    (h : classHead env tn rts tv a sel = true) :
    dupOK env (cnodes a env tn sel) = true ∧
    ((rflat a env tn sel).any isTnSel = true →
      (tv.isEmpty = true → rootTnOK env tn = true) ∧ (tv.isEmpty = false → ∀ rt ∈ rts, rt ∈ tv)) := by
  simp only [classHead, Bool.and_eq_true, Bool.or_eq_true, Bool.not_eq_true'] at h
  refine ⟨h.1, fun hany => ?_⟩
  rcases h.2 with h2 | h2
  · rw [hany] at h2; cases h2
  · constructor
    · intro hte; simpa [hte] using h2
    · intro hte rt hrt
      simp only [hte, Bool.false_eq_true, if_false, List.all_eq_true] at h2
      simpa using h2 rt hrt

theorem filter_sublist_c0 (env : ResultTypes.Env) : ∀ ss : List Selection, (ss.filter isField).Sublist (ss.flatMap (c0 env))
  | [] => List.Sublist.slnil
  | z :: rest => by
    have ih := filter_sublist_c0 env rest
    cases z with
    | field a n d sid sub =>
      simp only [List.filter_cons, isField, if_true, List.flatMap_cons, c0, List.singleton_append]
      exact List.Sublist.cons_cons _ ih
    | spread g d =>
      simp only [List.filter_cons, isField, Bool.false_eq_true, if_false, List.flatMap_cons]
      exact ih.trans (List.sublist_append_right _ _)
    | inline on d sid ss' =>
      simp only [List.filter_cons, isField, Bool.false_eq_true, if_false, List.flatMap_cons, c0, List.nil_append]
      exact ih

theorem rflat_sublist (a : Bool) (env : ResultTypes.Env) (tn : String) (sel : List Selection) :
    (rflat a env tn sel).Sublist (cnodes a env tn sel) := by
  rw [rflat_items, cnodes_items]
  exact List.Sublist.append (List.Sublist.refl _) (filter_sublist_c0 env _)

theorem nodup_map_of_inj {α β : Type} (g : α → β) : ∀ l : List α, l.Nodup →
    (∀ a ∈ l, ∀ b ∈ l, g a = g b → a = b) → (l.map g).Nodup :=
  fun l hl h => Lists.nodup_map_of_inj g l hl h

def dummyDecl : FieldDecl := { py := "", ann := .name "", alias := none, discriminator := false, defaultNone := false }

def declOf (env : ResultTypes.Env) (cn tn : String) (tv : List String) : TNode → FieldDecl
  | (none, .field al n d _ sub) => aDecl env cn tn tv al n d sub
  | (some o, .field al n d _ sub) => fieldDecl env o tn al n d sub
  | _ => dummyDecl

theorem declOf_py (env : ResultTypes.Env) (cn tn : String) (tv : List String) (t : TNode) (h : isField t.2 = true) :
    (declOf env cn tn tv t).py = pyFieldName env (keyOf t.2) := by
  obtain ⟨o, y⟩ := t
  cases y with
  | spread g d => simp [isField] at h
  | inline on d sid ss => simp [isField] at h
  | field al n d sid sub =>
    cases o with
    | none => simp only [declOf, aDecl_py, keyOf]
    | some o' => rfl

theorem declOf_key (env : ResultTypes.Env) (cn tn : String) (tv : List String) (t : TNode) (h : isField t.2 = true) :
    (declOf env cn tn tv t).alias.getD (declOf env cn tn tv t).py = keyOf t.2 := by
  obtain ⟨o, y⟩ := t
  cases y with
  | spread g d => simp [isField] at h
  | inline on d sid ss => simp [isField] at h
  | field al n d sid sub =>
    cases o with
    | none => simp only [declOf, aDecl_key, keyOf]
    | some o' => simp only [declOf, fieldDecl_key, keyOf]

theorem aBases_eq (env : ResultTypes.Env) (tn : String) (sel : List Selection) :
    aBases env tn sel = classBases (gSpreads env tn sel) [] := by
  simp [aBases, classBases]

theorem mem_decls_own {env : ResultTypes.Env} {cn tn : String} {tv : List String} {a : Bool} {sel : List Selection} {d : FieldDecl}
    (h : d ∈ (rflat a env tn sel).flatMap (aDecl1 env cn tn tv)) :
    ∃ t ∈ tnodes a env tn sel, isField t.2 = true ∧ d = declOf env cn tn tv t := by
  obtain ⟨al, n, ds, sid, sub, hx, hd⟩ := mem_decls h
  exact ⟨(none, .field al n ds sid sub), (tnodes_own _ _ _ _ _).mpr hx, rfl, hd⟩

/-- the declaration of a plain leaf node: the same for an own and an inherited node -/
theorem declOf_plainLeaf (env : ResultTypes.Env) (cn tn : String) (tv : List String) (t : TNode) (hf : isField t.2 = true)
    (hpl : plainLeaf t.2 = true) :
    declOf env cn tn tv t =
      { py := pyFieldName env (keyOf t.2),
        ann := condAnn (wrapAnn (ResultLeaf.leafBase env (fieldT env tn (nameOf t.2)).base) true (fieldT env tn (nameOf t.2))) (dirsOf t.2),
        alias := if pyFieldName env (keyOf t.2) != keyOf t.2 then some (keyOf t.2) else none,
        discriminator := false, defaultNone := hasConditionalDirective (dirsOf t.2) } := by
  obtain ⟨o, y⟩ := t
  cases y with
  | spread g d => simp [isField] at hf
  | inline on d sid ss => simp [isField] at hf
  | field al n d sid sub =>
    simp only [plainLeaf, subOf, nameOf, Bool.and_eq_true, bne_iff_ne, ne_eq] at hpl
    obtain ⟨hsub, hn⟩ := hpl
    have hn' : (n == typenameField) = false := by simpa using hn
    cases o with
    | none =>
      simp only [declOf, aDecl_leaf env cn tn tv al n d sub hn' hsub, fieldDecl, hsub, if_true, keyOf, nameOf, dirsOf]
      rfl
    | some o' =>
      simp only [declOf, fieldDecl, hsub, if_true, keyOf, nameOf, dirsOf]
      rfl

theorem py_mstep_foldl (p : String) : ∀ (bfs : List (List FieldDecl)) (acc : List FieldDecl),
    ((∃ d ∈ acc, d.py = p) ∨ ∃ bf ∈ bfs, ∃ d ∈ bf, d.py = p) → ∃ d ∈ bfs.foldl C01Mix.mstep acc, d.py = p
  | [], acc, h => by
    rcases h with h | ⟨bf, hb, _⟩
    · exact h
    · cases hb
  | bf :: rest, acc, h => by
    rw [List.foldl_cons]
    apply py_mstep_foldl p rest
    rcases h with ⟨d, hd, hp⟩ | ⟨bf', hb, d, hd, hp⟩
    · by_cases hc : (bf.any (·.py == d.py)) = true
      · obtain ⟨d', hd', he⟩ := List.any_eq_true.mp hc
        exact Or.inl ⟨d', List.mem_append_right _ hd', by rw [← hp]; simpa using he⟩
      · exact Or.inl ⟨d, List.mem_append_left _ (List.mem_filter.mpr ⟨hd, by simpa using hc⟩), hp⟩
    · rcases List.mem_cons.mp hb with rfl | hb
      · exact Or.inl ⟨d, List.mem_append_right _ hd, hp⟩
      · exact Or.inr ⟨bf', hb, d, hd, hp⟩

theorem length_filter_sublist {α : Type} {l l' : List α} (h : l.Sublist l') (p : α → Bool) :
    (l.filter p).length ≤ (l'.filter p).length := (h.filter p).length_le

/-- what a declaration of the class says about the field nodes of one response key -/
def DeclFor (env : ResultTypes.Env) (cn tn : String) (tv : List String) (T : List TNode) (d : FieldDecl) (t : TNode) : Prop :=
  isField t.2 = true ∧ d.py = pyFieldName env (keyOf t.2) ∧
  ((plainLeaf t.2 = false ∧ d = declOf env cn tn tv t) ∨
   (plainLeaf t.2 = true ∧
    d.alias = (if pyFieldName env (keyOf t.2) != keyOf t.2 then some (keyOf t.2) else none) ∧
    d.discriminator = false ∧
    (∃ t' ∈ T, keyOf t'.2 = keyOf t.2 ∧ d.ann = (declOf env cn tn tv t').ann) ∧
    (d.defaultNone = false → ∃ t' ∈ T, keyOf t'.2 = keyOf t.2 ∧ hasConditionalDirective (dirsOf t'.2) = false)))

theorem declFor_self (env : ResultTypes.Env) (cn tn : String) (tv : List String) (T : List TNode) (t : TNode) (ht : t ∈ T)
    (hf : isField t.2 = true) : DeclFor env cn tn tv T (declOf env cn tn tv t) t := by
  refine ⟨hf, declOf_py env cn tn tv t hf, ?_⟩
  cases hpl : plainLeaf t.2 with
  | false => exact Or.inl ⟨rfl, rfl⟩
  | true =>
    right
    rw [declOf_plainLeaf env cn tn tv t hf hpl]
    exact ⟨rfl, by simp only [], rfl, ⟨t, ht, rfl, by rw [declOf_plainLeaf env cn tn tv t hf hpl]⟩, fun h => ⟨t, ht, rfl, h⟩⟩

/-- a fragment spread in a class of the tier: its class's fields, as pydantic gathers them, are the declarations of the nodes the
    class inherits from it (through `allFields_mix` of the mixin tier) -/
theorem spread_fields (env : ResultTypes.Env) (penv : Pyd.Env) (K F : Nat) (G : GH env penv K F)
    {mk : Nat → Bool} {cn tn : String} {rts : List String} {sel : List Selection}
    (hloc : aSels env mk cn tn rts sel = true) :
    ∀ g, occurs env tn sel g → ∃ f, findFragment? env.frags g = some f ∧ f.on = tn ∧ f.name = g ∧
      inhOf env (C01Mix.fragDepth env) g = C01Mix.mflat env (C01Mix.fragDepth env) (pascal f.name) f.sel ∧
      (∀ d ∈ allFields penv penv.classes.length (pascal f.name), ∃ o al n dirs sid sub,
        (o, Selection.field al n dirs sid sub) ∈ C01Mix.mflat env (C01Mix.fragDepth env) (pascal f.name) f.sel ∧
        d = fieldDecl env o f.on al n dirs sub) ∧
      ((allFields penv penv.classes.length (pascal f.name)).map (·.py)).Nodup ∧
      (∀ o al n dirs sid sub, (o, Selection.field al n dirs sid sub) ∈ C01Mix.mflat env (C01Mix.fragDepth env) (pascal f.name) f.sel →
        fieldDecl env o f.on al n dirs sub ∈ allFields penv penv.classes.length (pascal f.name)) := by
  have hdepth : C01Mix.fragDepth env ≤ penv.classes.length := by
    have := G.depth; have : penv.clsFuel = penv.classes.length + 1 := rfl; omega
  intro g hocc
  obtain ⟨_, _, f, hf, hon⟩ := occurs_spec hloc hocc
  obtain ⟨hfm, hfn⟩ := C01Mix.find_mem hf
  obtain ⟨_, _, hmset, hlocf, _, hfullS⟩ := C01Mix.fragOK_spec (G.hfr f hfm)
  have hinh : inhOf env (C01Mix.fragDepth env) g = C01Mix.mflat env (C01Mix.fragDepth env) (pascal f.name) f.sel := by
    simp [inhOf, hf]
  -- within ONE fragment the Python names are distinct (`msetOK` of the mixin tier)
  have hndf : ((C01Mix.mflat env (C01Mix.fragDepth env) (pascal f.name) f.sel).map (C01Mix.pyKey env)).Nodup := by
    unfold C01Mix.msetOK at hmset
    have hk := (setOK_spec hmset).2.1
    rw [(inhOf_spec env K G.hfr hf).1 K (Nat.le_refl K), hinh, List.map_map, List.map_map] at hk
    exact hk
  obtain ⟨h1, h2, h3⟩ := C01Mix.allFields_mix env penv K G.hfr (C01Mix.headClassesIn_of env penv G.frags) G.hbm
    (C01Mix.fragDepth env) (pascal f.name) f.on f.sel hfullS hlocf
    (C01Mix.headClassesIn_of env penv G.frags f hfm) hndf penv.classes.length hdepth
  exact ⟨f, hf, hon, hfn, hinh, h1, h2, h3⟩

/-- the declarations Python keeps of the class's own (`mergeDup`): one per response key, "for" its nodes -/
theorem own_declFor (env : ResultTypes.Env) {mk : Nat → Bool} (cn tn : String) (rts tv : List String) (a : Bool) (sel : List Selection)
    (hloc : aSels env mk cn tn rts sel = true) (hset : dupOK env (cnodes a env tn sel) = true) :
    ∀ d ∈ mergeDup ((rflat a env tn sel).flatMap (aDecl1 env cn tn tv)),
      ∃ t ∈ tnodes a env tn sel, DeclFor env cn tn tv (tnodes a env tn sel) d t := by
  obtain ⟨_, hD2, _⟩ := dupOK_spec hset
  have hcn := tnodes_cnodes a env tn sel
  intro d hd
  obtain ⟨_, hM2, _⟩ := C01Fold.mergeDup_spec ((rflat a env tn sel).flatMap (aDecl1 env cn tn tv))
  obtain ⟨c, rest, hfil, hde⟩ := hM2 d hd
  have hcm : c ∈ (rflat a env tn sel).flatMap (aDecl1 env cn tn tv) :=
    (List.mem_filter.mp (by rw [hfil]; exact List.mem_cons_self)).1
  obtain ⟨tc, htc, htcf, rfl⟩ := mem_decls_own hcm
  have hdpy : d.py = pyFieldName env (keyOf tc.2) := by
    rw [hde, C01Fold.mergeD_py, declOf_py _ _ _ _ _ htcf]
  have hall : ∀ g ∈ declOf env cn tn tv tc :: rest, ∃ t ∈ tnodes a env tn sel, isField t.2 = true ∧
      keyOf t.2 = keyOf tc.2 ∧ g = declOf env cn tn tv t := by
    intro g hg
    rw [← hfil] at hg
    obtain ⟨hgm, hgp⟩ := List.mem_filter.mp hg
    obtain ⟨t, ht, htf, rfl⟩ := mem_decls_own hgm
    refine ⟨t, ht, htf, ?_, rfl⟩
    have : pyFieldName env (keyOf t.2) = pyFieldName env (keyOf tc.2) := by
      have := (by simpa using hgp : (declOf env cn tn tv t).py = d.py)
      rw [declOf_py _ _ _ _ _ htf, hdpy] at this
      exact this
    exact hD2 _ (hcn t ht) _ (hcn tc htc) this
  refine ⟨tc, htc, htcf, hdpy, ?_⟩
  cases hpl : plainLeaf tc.2 with
  | false =>
    left
    refine ⟨rfl, ?_⟩
    -- the node owns its key: no later declaration of the name
    have hu := owns_key hset (hcn tc htc) hpl
    have hrest : rest = [] := by
      -- own declarations of the name = own nodes of the key ≤ all nodes of the key = 1
      have h1 := congrArg (List.countP (· == d.py)) (decls_map env cn tn tv (·.py) (pyFieldName env)
        (fun _ _ _ _ => aDecl_py ..) _ (rflat_isField a hloc))
      rw [List.countP_map, List.map_map, List.countP_map, List.countP_eq_length_filter, List.countP_eq_length_filter] at h1
      have h2 : ((rflat a env tn sel).filter (fun x => pyFieldName env (keyOf x) == d.py)).length ≤ 1 := by
        have hsub : ((rflat a env tn sel).filter (fun x => pyFieldName env (keyOf x) == d.py)).Sublist
            ((cnodes a env tn sel).filter (fun x => pyFieldName env (keyOf x) == d.py)) := (rflat_sublist a env tn sel).filter _
        have heq : (cnodes a env tn sel).filter (fun x => pyFieldName env (keyOf x) == d.py) =
            (cnodes a env tn sel).filter (fun y => keyOf y == keyOf tc.2) := by
          apply List.filter_congr
          intro y hy
          rw [hdpy]
          cases hk : (keyOf y == keyOf tc.2) with
          | true => simp [(by simpa using hk : keyOf y = keyOf tc.2)]
          | false =>
            cases hp : (pyFieldName env (keyOf y) == pyFieldName env (keyOf tc.2)) with
            | false => rfl
            | true =>
              have := hD2 y hy tc.2 (hcn tc htc) (by simpa using hp)
              simp [this] at hk
        have := hsub.length_le
        rw [heq, hu] at this
        simpa using this
      have h3 : (((rflat a env tn sel).flatMap (aDecl1 env cn tn tv)).filter (·.py == d.py)).length ≤ 1 := h1 ▸ h2
      rw [hfil] at h3
      cases rest with
      | nil => rfl
      | cons r rs => simp at h3
    rw [hde, hrest]
    rfl
  | true =>
    right
    have hprops : ∀ g ∈ declOf env cn tn tv tc :: rest,
        g.alias = (if pyFieldName env (keyOf tc.2) != keyOf tc.2 then some (keyOf tc.2) else none) ∧ g.discriminator = false := by
      intro g hg
      obtain ⟨t, ht, htf, hk, rfl⟩ := hall g hg
      have hplt : plainLeaf t.2 = true := by rw [(same_key_spec hset (hcn tc htc) (hcn t ht) hk).2]; exact hpl
      rw [declOf_plainLeaf env cn tn tv t htf hplt, hk]
      exact ⟨rfl, rfl⟩
    obtain ⟨i1, i2, ⟨x, hx, i3⟩, i4⟩ := C01Fold.mergeD_props _ rest (declOf env cn tn tv tc)
      (hprops _ List.mem_cons_self).1 (hprops _ List.mem_cons_self).2
      (fun g hg => hprops g (List.mem_cons_of_mem _ hg))
    rw [← hde] at i1 i2 i3 i4
    refine ⟨rfl, i1, i2, ?_, ?_⟩
    · obtain ⟨t, ht, _, hk, rfl⟩ := hall x hx
      exact ⟨t, ht, hk, i3⟩
    · intro hdn
      obtain ⟨y, hy, hyd⟩ := i4 hdn
      obtain ⟨t, ht, htf, hk, rfl⟩ := hall y hy
      have hplt : plainLeaf t.2 = true := by rw [(same_key_spec hset (hcn tc htc) (hcn t ht) hk).2]; exact hpl
      rw [declOf_plainLeaf env cn tn tv t htf hplt] at hyd
      exact ⟨t, ht, hk, hyd⟩

/-- **the fields pydantic sees for a class of the tier**: one declaration per response key — the declaration of the node that owns
    the key, or, for a key reached by several leaf selections, the merge Python / pydantic make of their declarations -/
theorem class_members (env : ResultTypes.Env) (penv : Pyd.Env) (K F : Nat) (G : GH env penv K F)
    {mk : Nat → Bool} (cn tn : String) (rts tv : List String) (a : Bool) (sel : List Selection)
    (hloc : aSels env mk cn tn rts sel = true) (hset : dupOK env (cnodes a env tn sel) = true)
    (hc : penv.class? cn = some { name := cn, bases := aBases env tn sel, fields := (rflat a env tn sel).flatMap (aDecl1 env cn tn tv) }) :
    ((allFields penv penv.clsFuel cn).map (·.py)).Nodup ∧
    (∀ d ∈ allFields penv penv.clsFuel cn, ∃ t ∈ tnodes a env tn sel, DeclFor env cn tn tv (tnodes a env tn sel) d t) ∧
    (∀ t ∈ tnodes a env tn sel, ∃ d ∈ allFields penv penv.clsFuel cn, d.py = pyFieldName env (keyOf t.2)) ∧
    (∀ t ∈ tnodes a env tn sel, plainLeaf t.2 = false → declOf env cn tn tv t ∈ allFields penv penv.clsFuel cn) := by
  have hTf := tnodes_isField env K G.hfr a hloc
  obtain ⟨_, hD2, _⟩ := dupOK_spec hset
  have hcn := tnodes_cnodes a env tn sel
  have hfuel : penv.clsFuel = penv.classes.length + 1 := rfl
  rw [hfuel, C01Mix.allFields_succ penv penv.classes.length cn _ hc]
  simp only []
  have hfrag := spread_fields env penv K F G hloc
  have hbase : ∀ b ∈ aBases env tn sel,
      (∀ d ∈ allFields penv penv.classes.length b, ∃ t ∈ tnodes a env tn sel, DeclFor env cn tn tv (tnodes a env tn sel) d t) ∧
      ((allFields penv penv.classes.length b).map (·.py)).Nodup := by
    intro b hb
    rcases mem_classBases (aBases_eq env tn sel ▸ hb) with rfl | ⟨g, hg, rfl⟩ | h
    · rw [allFields_none penv "BaseModel" G.hbm]
      exact ⟨fun d hd => (by cases hd), by simp⟩
    · have hocc := (mem_gSpreads env tn sel g).mp hg
      obtain ⟨f, hf, hon, hfn, hinh, h1, h2, _⟩ := hfrag g hocc
      rw [← hfn]
      refine ⟨fun d' hd' => ?_, h2⟩
      obtain ⟨o, al, n, dirs, sid, sub, hm, he⟩ := h1 d' hd'
      rw [← hinh] at hm
      have ht : (some o, Selection.field al n dirs sid sub) ∈ tnodes a env tn sel := (tnodes_inh _ _ _ _ _ _).mpr ⟨g, hocc, hm⟩
      refine ⟨_, ht, ?_⟩
      have : d' = declOf env cn tn tv (some o, Selection.field al n dirs sid sub) := by rw [he, hon]; rfl
      rw [this]
      exact declFor_self env cn tn tv _ _ ht rfl
    · cases h
  have hown := own_declFor env cn tn rts tv a sel hloc hset
  have hall : ∀ bf ∈ (aBases env tn sel).map (allFields penv penv.classes.length) ++ [mergeDup ((rflat a env tn sel).flatMap (aDecl1 env cn tn tv))],
      ∀ d ∈ bf, ∃ t ∈ tnodes a env tn sel, DeclFor env cn tn tv (tnodes a env tn sel) d t := by
    intro bf hbf d hd
    rcases List.mem_append.mp hbf with h | h
    · obtain ⟨b, hb, rfl⟩ := List.mem_map.mp h
      exact (hbase b hb).1 d hd
    · have : bf = mergeDup ((rflat a env tn sel).flatMap (aDecl1 env cn tn tv)) := by simpa using h
      subst this
      exact hown d hd
  have hpyIn : ∀ t ∈ tnodes a env tn sel, ∃ bf ∈ (aBases env tn sel).map (allFields penv penv.classes.length) ++
      [mergeDup ((rflat a env tn sel).flatMap (aDecl1 env cn tn tv))], ∃ d ∈ bf, d.py = pyFieldName env (keyOf t.2) ∧
        (plainLeaf t.2 = false → d = declOf env cn tn tv t) := by
    intro t ht
    obtain ⟨o, y⟩ := t
    have hyf := hTf _ ht
    cases o with
    | none =>
      have hx := (tnodes_own _ _ _ _ _).mp ht
      have hdm : declOf env cn tn tv (none, y) ∈ (rflat a env tn sel).flatMap (aDecl1 env cn tn tv) := by
        cases y with
        | spread g d => simp [isField] at hyf
        | inline on d sid ss => simp [isField] at hyf
        | field al n d sid sub => exact List.mem_flatMap.mpr ⟨_, hx, by simp [aDecl1, declOf]⟩
      obtain ⟨_, _, hM3⟩ := C01Fold.mergeDup_spec ((rflat a env tn sel).flatMap (aDecl1 env cn tn tv))
      obtain ⟨d, hd, hdp⟩ := hM3 _ hdm
      refine ⟨_, by simp, d, hd, by rw [hdp, declOf_py _ _ _ _ _ hyf], fun hpl => ?_⟩
      -- the node owns its key
      obtain ⟨t', ht', hfor⟩ := hown d hd
      obtain ⟨_, hpy', hform⟩ := hfor
      have hk' : keyOf t'.2 = keyOf y := by
        apply hD2 _ (hcn t' ht') _ (hcn _ ht)
        rw [← hpy', hdp, declOf_py _ _ _ _ _ hyf]
      have hu := owns_key hset (hcn _ ht) hpl
      have hte := unique_tnode (t := (none, y)) hu ht ht' hk'
      rw [hte] at hform
      rcases hform with ⟨_, h⟩ | ⟨h, _⟩
      · exact h
      · rw [hpl] at h; cases h
    | some o' =>
      obtain ⟨g, hocc, hp⟩ := (tnodes_inh _ _ _ _ _ _).mp ht
      obtain ⟨f, hf, hon, hfn, hinh, _, _, h3⟩ := hfrag g hocc
      refine ⟨allFields penv penv.classes.length (pascal g), ?_, declOf env cn tn tv (some o', y), ?_, declOf_py _ _ _ _ _ hyf, fun _ => rfl⟩
      · exact List.mem_append_left _ (List.mem_map.mpr ⟨pascal g, aBases_eq env tn sel ▸ pascal_mem_classBases ((mem_gSpreads env tn sel g).mpr hocc), rfl⟩)
      · cases y with
        | spread g' d => simp [isField] at hyf
        | inline on d sid ss => simp [isField] at hyf
        | field al n d sid sub =>
          rw [hinh] at hp
          have := h3 o' al n d sid sub hp
          rw [hfn, hon] at this
          exact this
  refine ⟨?_, ?_, ?_, ?_⟩
  · apply C01Mix.nodup_mstep_foldl _ _ (by simp)
    intro bf hbf
    rcases List.mem_append.mp hbf with h | h
    · obtain ⟨b, hb, rfl⟩ := List.mem_map.mp h
      exact (hbase b hb).2
    · have : bf = mergeDup ((rflat a env tn sel).flatMap (aDecl1 env cn tn tv)) := by simpa using h
      subst this
      exact (C01Fold.mergeDup_spec _).1
  · intro d hd
    rcases C01Mix.mem_mstep_foldl d _ _ hd with h | ⟨bf, hbf, hdbf⟩
    · cases h
    · exact hall bf hbf d hdbf
  · intro t ht
    obtain ⟨bf, hbf, d, hd, hdp, _⟩ := hpyIn t ht
    exact py_mstep_foldl _ _ _ (Or.inr ⟨bf, hbf, d, hd, hdp⟩)
  · intro t ht hpl
    obtain ⟨bf, hbf, d, hd, hdp, hde⟩ := hpyIn t ht
    rw [← hde hpl]
    apply C01Mix.mem_mstep_foldl_of _ _ _ (Or.inr ⟨bf, hbf, hd⟩)
    -- a declaration of the same name is the declaration of the same node: the node owns its key
    intro bf' hbf' d' hd' hpy
    obtain ⟨t', ht', _, hpy', hform⟩ := hall bf' hbf' d' hd'
    have hk' : keyOf t'.2 = keyOf t.2 := by
      apply hD2 _ (hcn t' ht') _ (hcn t ht)
      rw [← hpy', hpy, hdp]
    have hu := owns_key hset (hcn t ht) hpl
    have hte := unique_tnode hu ht ht' hk'
    rw [hte] at hform
    rcases hform with ⟨_, h⟩ | ⟨h, _⟩
    · rw [h, hde hpl]
    · rw [hpl] at h; cases h

theorem variant_literal (env : ResultTypes.Env) (penv : Pyd.Env) (K F : Nat) (G : GH env penv K F)
    {mk : Nat → Bool} (cn tn : String) (rts tv : List String) (sel : List Selection)
    (hloc : aSels env mk cn tn rts sel = true) (hset : dupOK env (cnodes true env tn sel) = true) (htvne : tv.isEmpty = false)
    (hc : penv.class? cn = some { name := cn, bases := aBases env tn sel, fields := (rflat true env tn sel).flatMap (aDecl1 env cn tn tv) }) :
    typenameLiteral penv penv.clsFuel cn = some (sortStr tv) := by
  obtain ⟨dirs, sid, sub0, hx, _⟩ := exists_tn hloc
  obtain ⟨hnd, _, _, hC⟩ := class_members env penv K F G cn tn rts tv true sel hloc hset hc
  have hd := hC _ ((tnodes_own _ _ _ _ _).mpr hx) (by simp [plainLeaf, nameOf])
  refine typenameLiteral_of_mem penv cn hnd _ hd ?_ (sortStr tv) ?_
  · simp only [declOf]; rw [aDecl_py]; exact pyFieldName_tn env
  · simp [declOf, aDecl, htvne]

theorem typenameAlias_ne : (typenameAlias != typenameField) = true := by decide

/-- a variant class whose literal does not contain the runtime type rejects the answer -/
theorem variant_rejects (env : ResultTypes.Env) (penv : Pyd.Env) (K F : Nat) (G : GH env penv K F)
    {mk : Nat → Bool} (cn tn : String) (rts tv : List String) (sel : List Selection)
    (hloc : aSels env mk cn tn rts sel = true) (hset : dupOK env (cnodes true env tn sel) = true) (htvne : tv.isEmpty = false)
    (hc : penv.class? cn = some { name := cn, bases := aBases env tn sel, fields := (rflat true env tn sel).flatMap (aDecl1 env cn tn tv) })
    (kvs : List (String × J)) (tag : String) (htag : J.lookup typenameField kvs = some (.str tag)) (hnot : tag ∉ tv)
    (g : Nat) : ∃ e, validate penv g (.cls cn) (.obj kvs) = .error e := by
  cases g with
  | zero => exact ⟨_, rfl⟩
  | succ g =>
    obtain ⟨dirs, sid, sub0, hx, _⟩ := exists_tn hloc
    obtain ⟨_, _, _, hC⟩ := class_members env penv K F G cn tn rts tv true sel hloc hset hc
    have hd : aDecl env cn tn tv none typenameField dirs sub0 ∈ allFields penv penv.clsFuel cn := by
      have := hC _ ((tnodes_own _ _ _ _ _).mpr hx) (by simp [plainLeaf, nameOf])
      simpa [declOf] using this
    have hfw : ∃ e, fieldWith penv penv.clsFuel (validate penv g) kvs (aDecl env cn tn tv none typenameField dirs sub0) = .error e := by
      obtain ⟨e, he⟩ := ResultLeaf.validate_literal_err penv g (sortStr tv) (.str tag)
        (fun s hs e => hnot (mem_sortStr.mp (J.str.inj e ▸ hs)))
      refine ⟨e, ?_⟩
      have hal : (aDecl env cn tn tv none typenameField dirs sub0).alias = some typenameField := by
        rw [aDecl_alias]
        simp only [Option.getD_none, pyFieldName_tn, typenameAlias_ne, if_true]
      have hann : (aDecl env cn tn tv none typenameField dirs sub0).ann = .literal (sortStr tv) := by simp [aDecl, htvne]
      have hdi : (aDecl env cn tn tv none typenameField dirs sub0).discriminator = false := by simp [aDecl, htvne]
      unfold fieldWith
      simp only [hal, htag, hdi, Bool.false_eq_true, if_false, hann, he]
    obtain ⟨e, he⟩ := mapE_error_of_mem _ _ _ hd hfw
    refine ⟨e, ?_⟩
    rw [validate_cls_succ]
    unfold modelWith
    simp only [hc, he]

theorem sent_eq (abs : Bool) (M : List Nat) (sid : Nat) (sub : List Selection) (hmk : M.contains sid = autoTn abs sub)
    (hsub : sub.isEmpty = false) :
    (if M.contains sid && !sub.isEmpty then Marks.typenameSel :: Marks.applySels M sub else Marks.applySels M sub)
      = sent abs M sub := by
  unfold sent
  rw [hmk, hsub]
  cases autoTn abs sub <;> simp

theorem sent_nonempty (abs : Bool) (M : List Nat) (sub : List Selection) (hsub : sub.isEmpty = false) :
    (sent abs M sub).isEmpty = false := by
  unfold sent
  rw [applySels_map]
  cases sub with
  | nil => simp at hsub
  | cons x xs => simp

theorem avneed_variant (env : ResultTypes.Env) (rel : List (String × String)) (sub : List Selection)
    (p : String × String) (hp : p ∈ rel) :
    avneed env p.1 p.2 sub ≤ (rel.map fun p => avneed env p.1 p.2 sub).foldl max 0 :=
  Lists.le_foldl_max id _ 0 _ (Or.inr ⟨_, List.mem_map.mpr ⟨p, hp, rfl⟩, Nat.le_refl _⟩)

theorem field_on_rt {env : ResultTypes.Env} {mk : Nat → Bool} {cn tn : String} {rts : List String} {alias : Option String}
    {name : String} {dirs : List Directive} {sid : Nat} {sub : List Selection}
    (hl : aSel1 env mk cn tn rts (.field alias name dirs sid sub) = true) (hn : (name == typenameField) = false)
    {rt : String} (hrt : rt ∈ rts) : ∃ fd, env.schema.fieldOf? rt name = some fd ∧ fd.type = fieldT env tn name := by
  obtain ⟨_, hfd, htypes, _⟩ := aSel1_field hl hn
  obtain ⟨fd, hfd'⟩ := Option.isSome_iff_exists.mp hfd
  have hT : fieldT env tn name = fd.type := by simp [fieldT, hfd']
  have hrtfd := htypes rt hrt
  rw [hfd'] at hrtfd
  cases hfr : env.schema.fieldOf? rt name with
  | none => rw [hfr] at hrtfd; simp at hrtfd
  | some fd2 =>
    rw [hfr] at hrtfd
    exact ⟨fd2, rfl, by rw [hT]; simpa using hrtfd⟩

/-- **the variant classes of a composite position** (classes prefixed `C`, named type `n`, sub-selection `sub` as sent): every
    variant accepts the runtime types in its literal (the induction hypothesis); and at an abstract position every variant
    knows its `__typename` literal, a conformant answer carries the runtime type under `__typename`, and a variant whose literal
    does not contain it rejects the answer -/
theorem variants_fit (env : ResultTypes.Env) (penv : Pyd.Env) (M : List Nat) (K F : Nat) (G : GH env penv K F) (k : Nat)
    (IH : ValSpec env penv M K F (k + 2)) (C n : String) (sid : Nat) (sub : List Selection)
    (h : CompositeOK env M.contains C n sid sub)
    (hcls : ∀ c ∈ variantClasses env (relatedOf env C n sub) (env.schema.isAbstract n) sub (relatedOf env C n sub),
      penv.class? c.name = some c)
    (hagf : agfuel sub + K ≤ k + 2) :
    (∀ p ∈ relatedOf env C n sub, ∀ rt' ∈ Exec.runtimeTypes env.schema n, rt' ∈ tvOf env (relatedOf env C n sub) p.2 →
      Accepts env.schema env.frags penv (k + 2) (((relatedOf env C n sub).map fun p => avneed env p.1 p.2 sub).foldl max 0 + 4 + F)
        p.1 rt' (sent (env.schema.isAbstract n) M sub)) ∧
    (env.schema.isAbstract n = true →
      (∀ p ∈ relatedOf env C n sub, typenameLiteral penv penv.clsFuel p.1 = some (sortStr (tvOf env (relatedOf env C n sub) p.2))) ∧
      (∀ rt' ∈ Exec.runtimeTypes env.schema n, ∀ kvs,
        Exec.respOK env.schema env.frags (k + 2) rt' (sent true M sub) (.obj kvs) = true →
        J.lookup typenameField kvs = some (.str rt')) ∧
      (∀ p ∈ relatedOf env C n sub, ∀ tag kvs, J.lookup typenameField kvs = some (.str tag) →
        tag ∉ tvOf env (relatedOf env C n sub) p.2 → ∀ m, ∃ err, validate penv m (.cls p.1) (.obj kvs) = .error err)) := by
  have hvars := h.variant
  have hcov := h.cover
  unfold variantClasses at hcls
  generalize relatedOf env C n sub = rel at hvars hcov hcls ⊢
  refine ⟨fun p hp rt' hrt1 hrt2 => ?_, fun habs => ?_⟩
  · obtain ⟨_, hhead, hloc⟩ := hvars p hp
    refine (IH p.1 p.2 rt' _ sub _ _ (List.mem_filter.mpr ⟨hrt1, by simpa using hrt2⟩) hhead hloc
      (fun c hc => hcls c (List.mem_flatMap.mpr ⟨p, hp, hc⟩)) hagf).mono ?_
    have := avneed_variant env _ sub p hp
    omega
  · rw [habs] at hvars hcls
    have hge := agfuel_ge sub
    have hclsv : ∀ p ∈ rel, penv.class? p.1 =
        some (⟨p.1, aBases env p.2 sub, (rflat true env p.2 sub).flatMap (aDecl1 env p.1 p.2 (tvOf env rel p.2))⟩ : ClassDecl) :=
      fun p hp => hcls _ (List.mem_flatMap.mpr ⟨p, hp, List.mem_cons_self ..⟩)
    refine ⟨fun p hp => ?_, fun rt' hrt1 kvs hresp => ?_, fun p hp tag kvs htag hnot m => ?_⟩
    · exact variant_literal env penv K F G p.1 p.2 _ _ sub (hvars p hp).2.2 (classHead_spec (hvars p hp).2.1).1 (hvars p hp).1 (hclsv p hp)
    · obtain ⟨p, hp, hpc⟩ := hcov rt' hrt1
      exact resp_typename env K G.hfr M rt' (List.mem_filter.mpr ⟨hrt1, by simpa using hpc⟩) sub (hvars p hp).2.2
        (classHead_spec (hvars p hp).2.1).1 k (by omega) kvs hresp
    · exact variant_rejects env penv K F G p.1 p.2 _ _ sub (hvars p hp).2.2 (classHead_spec (hvars p hp).2.1).1 (hvars p hp).1
        (hclsv p hp) kvs tag htag hnot m

/-- **a field node of the class itself** (not `__typename`) **serves the entry CollectFields makes of it in the document as sent**:
    a leaf; one class; or one class per variant — the discriminated union where the annotation has a wrapper or no
    `@skip/@include`, the smart-mode union `Optional[Union[..]]` otherwise -/
theorem field_fits (env : ResultTypes.Env) (penv : Pyd.Env) (M : List Nat) (K F : Nat) (e : Nat)
    (G : GH env penv K F) (IH : ValSpec env penv M K F e)
    (cn tn rt : String) (rts tv : List String) (hrt : rt ∈ rts)
    (alias : Option String) (name : String) (dirs : List Directive) (sid : Nat) (sub : List Selection)
    (hname : (name == typenameField) = false)
    (hl : aSel1 env M.contains cn tn rts (.field alias name dirs sid sub) = true)
    (hcls : ∀ c ∈ aExtra1 env cn tn (.field alias name dirs sid sub), penv.class? c.name = some c)
    (hfu : agfuel1 (.field alias name dirs sid sub) + K ≤ e + 1) :
    DeclFits env.schema env.frags penv e (avneed1 env cn tn (.field alias name dirs sid sub) + F) rt
      (collOf (Marks.applySel M (.field alias name dirs sid sub))) (aDecl env cn tn tv alias name dirs sub) := by
  obtain ⟨fd2, hfr, hty⟩ := field_on_rt hl hname hrt
  have hname2 : (name == Tables.typenameFieldName) = false := hname
  obtain ⟨_, _, _, hleaf, hcomp⟩ := aSel1_field hl hname
  have hn : avneed1 env cn tn (.field alias name dirs sid sub) = wneed (fieldT env tn name) + 3 +
      (if sub.isEmpty then 0 else ((relatedOf env (subClass env cn alias name) (subType env tn name) sub).map
        fun p => avneed env p.1 p.2 sub).foldl max 0 + 4) := by simp only [avneed1, hname, Bool.or_false]
  rw [applySel_field, hn]
  have hdflt : (false || Exec.isConditional dirs) = true → (aDecl env cn tn tv alias name dirs sub).defaultNone = true := by
    intro h
    simp only [aDecl, hname, Bool.false_and, Bool.false_eq_true, if_false]
    simpa [isConditional_eq] using h
  by_cases hsub : sub.isEmpty = true
  · have hsubs : (if M.contains sid && !sub.isEmpty then Marks.typenameSel :: Marks.applySels M sub
            else Marks.applySels M sub) = [] := by
      have : sub = [] := by simpa using hsub
      subst this
      simp [Marks.applySels]
    rw [hsubs, aDecl_leaf env cn tn tv alias name dirs sub hname hsub, if_pos hsub]
    exact DeclFits.plainField env penv env.frags G.ha e _ rt _ _ (fieldT env tn name) _ dirs (fieldDecl_alias ..) rfl rfl
      (fun h => by simpa [collOf, fieldDecl, Exec.isConditional, hasConditionalDirective] using h) hname2 ⟨fd2, hfr, hty⟩
      (fun _ => ⟨if_pos hsub, hleaf hsub, by omega⟩) (fun h => by simp [collOf] at h)
  · have hsub' : sub.isEmpty = false := by simpa using hsub
    have hC := hcomp hsub'
    have hge := agfuel_ge sub
    obtain ⟨k, rfl⟩ : ∃ k, e = k + 2 := ⟨e - 2, by simp only [agfuel1, hsub', Bool.false_eq_true, if_false] at hfu; omega⟩
    have hagf : agfuel sub + K ≤ k + 2 := by simp only [agfuel1, hsub', Bool.false_eq_true, if_false] at hfu; omega
    rw [if_neg hsub, sent_eq (env.schema.isAbstract (subType env tn name)) M sid sub hC.mark hsub']
    rw [aExtra1_field _ _ _ _ _ _ _ _ hsub' hname] at hcls
    obtain ⟨hacc, hAbs⟩ := variants_fit env penv M K F G k IH _ _ sid sub hC hcls hagf
    by_cases hmulti : isMulti env (subType env tn name) sub = true
    · -- several variants: `Union[...]`
      have habs := isMulti_abs hmulti
      obtain ⟨hlits, htagk, hrej⟩ := hAbs habs
      rw [habs] at hacc ⊢
      have hdecl : (aDecl env cn tn tv alias name dirs sub).ann =
          condAnn (annotateTop (wrapAnn (.union ((relatedOf env (subClass env cn alias name) (subType env tn name) sub).map
            fun p => Ann.cls p.1)) true (fieldT env tn name))) dirs ∧
          (aDecl env cn tn tv alias name dirs sub).discriminator = isUnionAnn (aDecl env cn tn tv alias name dirs sub).ann := by
        have hbase : baseAnnOf env (subClass env cn alias name) (fieldT env tn name).base sub =
            .union ((relatedOf env (subClass env cn alias name) (subType env tn name) sub).map fun p => Ann.cls p.1) := by
          show baseAnnOf env (subClass env cn alias name) (subType env tn name) sub = _
          simp [baseAnnOf, hmulti]
        simp only [aDecl, hname, hsub', Bool.false_and, Bool.false_eq_true, if_false, hbase, and_self]
      exact DeclFits.unionField env.schema env.frags penv (k + 2) _ _ rt _ _ (fieldT env tn name) dirs _
        (fun p => tvOf env (relatedOf env (subClass env cn alias name) (subType env tn name) sub) p.2)
        (by rw [aDecl_alias, aDecl_py]; rfl) hdflt hdecl.1 hdecl.2 hname2 ⟨fd2, hfr, hty⟩ (sent_nonempty _ M sub hsub')
        (by omega) hlits hC.cover hacc htagk hrej
    · -- one variant: a class
      have hmulti' : isMulti env (subType env tn name) sub = false := by simpa using hmulti
      have hrel := relatedOf_single (C := subClass env cn alias name) hmulti'
      have hdecl : aDecl env cn tn tv alias name dirs sub =
          { py := pyFieldName env (alias.getD name),
            ann := condAnn (wrapAnn (.cls (subClass env cn alias name)) true (fieldT env tn name)) dirs,
            alias := if pyFieldName env (alias.getD name) != alias.getD name then some (alias.getD name) else none,
            discriminator := false, defaultNone := hasConditionalDirective dirs } := by
        have hb : baseAnnOf env (subClass env cn alias name) (fieldT env tn name).base sub = .cls (subClass env cn alias name) := by
          show baseAnnOf env (subClass env cn alias name) (subType env tn name) sub = _
          simp [baseAnnOf, hmulti']
        simp only [aDecl, hname, hsub', Bool.false_and, Bool.false_eq_true, if_false, hb, annotateTop_wrapAnn _ (Or.inr ⟨_, rfl⟩)]
        rw [isUnionAnn_fieldAnn _ (Or.inr ⟨_, rfl⟩)]
      have hp0 : (subClass env cn alias name, subType env tn name) ∈
          relatedOf env (subClass env cn alias name) (subType env tn name) sub := by rw [hrel]; simp
      rw [hdecl]
      refine DeclFits.plainField env penv env.frags G.ha (k + 2) _ rt _ _ (fieldT env tn name) (.cls (subClass env cn alias name)) dirs
        rfl rfl rfl (fun h => by simpa [collOf, isConditional_eq] using h) hname2 ⟨fd2, hfr, hty⟩
        (fun h => by rw [show (collOf _).subs = sent _ M sub from rfl, sent_nonempty _ M sub hsub'] at h; cases h)
        (fun _ => ⟨_, ((relatedOf env (subClass env cn alias name) (subType env tn name) sub).map
          fun p => avneed env p.1 p.2 sub).foldl max 0 + 4 + F, rfl, by omega, fun rt' hrt' => ?_⟩)
      obtain ⟨p, hp, hpc⟩ := hC.cover rt' hrt'
      have hpe : p = (subClass env cn alias name, subType env tn name) := by rw [hrel] at hp; simpa using hp
      subst hpe
      exact hacc _ hp0 rt' hrt' hpc

theorem conforms_string (env : ResultTypes.Env)
    (h : env.schema.kindOf? "String" = none ∨ env.schema.kindOf? "String" = some .scalar) (s : String) :
    Exec.conforms env.schema true tnT (.str s) = true := by
  unfold tnT
  simp only [Exec.conforms, Exec.leafOk]
  unfold Schema.kindOf? at h
  cases hg : env.schema.get? "String" with
  | none => simp
  | some t =>
    rw [hg] at h
    have hk : t.kind = .scalar := by
      rcases h with h | h
      · simp at h
      · simpa using h
    simp [hk]

theorem avneed_mem (env : ResultTypes.Env) (cn tn : String) (sel : List Selection) (s : Selection) (h : s ∈ sel) :
    avneed1 env cn tn s ≤ avneed env cn tn sel := by
  induction sel with
  | nil => cases h
  | cons x rest ih =>
    simp only [avneed]
    rcases List.mem_cons.mp h with rfl | h
    · omega
    · have := ih h; omega

theorem avneed_flat (env : ResultTypes.Env) (cn tn : String) (sel : List Selection) (x : Selection)
    (h : x ∈ flatG env tn sel) : avneed1 env cn tn x ≤ avneed env cn tn sel := by
  obtain ⟨s, hs, hxs⟩ := List.mem_flatMap.mp h
  have h1 := avneed_mem env cn tn sel s hs
  cases s with
  | field a n d sid sub =>
    simp only [flat1, List.mem_singleton] at hxs
    subst hxs; exact h1
  | spread n d => simp [flat1] at hxs
  | inline on d sid ss =>
    cases on with
    | none => simp [flat1] at hxs
    | some c =>
      simp only [flat1] at hxs
      by_cases hi : incl env c tn = true
      · simp only [hi, if_true] at hxs
        have := avneed_mem env cn tn ss x (List.mem_filter.mp hxs).1
        simp only [avneed1, hi, if_true] at h1
        omega
      · simp [hi] at hxs

theorem mem_rflat_notTn {a : Bool} {env : ResultTypes.Env} {tn : String} {sel : List Selection}
    {alias : Option String} {name : String} {dirs : List Directive} {sid : Nat} {sub : List Selection}
    (h : Selection.field alias name dirs sid sub ∈ rflat a env tn sel) (hn : (name == typenameField) = false) :
    Selection.field alias name dirs sid sub ∈ flatG env tn sel := by
  unfold rflat at h
  rcases List.mem_append.mp h with h1 | h1
  · split at h1
    · have : Selection.field alias name dirs sid sub = Marks.typenameSel := by simpa using h1
      simp only [Marks.typenameSel, Selection.field.injEq] at this
      rw [this.2.1] at hn
      simp at hn
    · cases h1
  · exact h1

theorem inherited_node (env : ResultTypes.Env) (penv : Pyd.Env) (K F : Nat) (G : GH env penv K F) {mk : Nat → Bool}
    {cn tn : String} {rts : List String} {sel : List Selection} {a : Bool} (hloc : aSels env mk cn tn rts sel = true)
    {o' : String} {y : Selection} (ht : (some o', y) ∈ tnodes a env tn sel) :
    (∀ rt ∈ rts, rt = tn) ∧ ∃ f ∈ env.frags, f.on = tn ∧ C01Mix.mLocal1 env K o' tn y = true ∧
      (o', y) ∈ C01Mix.mflat env K (pascal f.name) f.sel ∧
      C01Mix.mLocal env K (pascal f.name) tn f.sel = true ∧ C01Mix.mfull env K tn f.sel = true ∧
      C01Mix.mneed env K tn f.sel + 1 ≤ F ∧
      ((o' = pascal f.name ∧ y ∈ f.sel) ∨ ∃ f' ∈ env.frags, o' = pascal f'.name ∧ y ∈ f'.sel ∧ f'.on = tn) := by
  obtain ⟨g0, hocc, hp⟩ := (tnodes_inh _ _ _ _ _ _).mp ht
  obtain ⟨_, hall, f, hf, hon⟩ := occurs_spec hloc hocc
  obtain ⟨hfm, _⟩ := C01Mix.find_mem hf
  obtain ⟨_, _, _, hlocf, hfull, _⟩ := C01Mix.fragOK_spec (G.hfr f hfm)
  obtain ⟨hstab, hspec⟩ := inhOf_spec env K G.hfr hf
  obtain ⟨_, hlx, horig⟩ := hspec _ hp
  have hm : (o', y) ∈ C01Mix.mflat env K (pascal f.name) f.sel := by rw [hstab K (Nat.le_refl K)]; exact hp
  have hFb := G.need f hfm
  simp only at hlx horig
  rw [hon] at hlx hlocf hfull hFb
  refine ⟨hall, f, hfm, hon, hlx, hm, hlocf, hfull, hFb, ?_⟩
  rcases horig with h | ⟨f', hf', h1, h2, h3⟩
  · exact Or.inl h
  · exact Or.inr ⟨f', hf', h1, h2, h3.trans hon⟩

/-- **what the validator does with each field node of a class**: the node's own declaration serves the entry CollectFields makes of
    the node as sent — `__typename` (root: `str`; variant: the literal), a field of the class itself (`field_fits`), a field
    inherited from a mixin fragment (the mixin tier's `node_fits`) -/
theorem tnode_fits (env : ResultTypes.Env) (penv : Pyd.Env) (M : List Nat) (K F : Nat) (G : GH env penv K F) (k : Nat)
    (IH : ValSpec env penv M K F (k + 1)) (cn tn rt : String) (rts : List String) (sel : List Selection) (tv : List String) (a : Bool)
    (hrt : rt ∈ rts) (hhead : classHead env tn rts tv a sel = true) (hloc : aSels env M.contains cn tn rts sel = true)
    (hcls : ∀ c ∈ aClass env cn tn tv a sel, penv.class? c.name = some c) (hfuel : agfuel sel + K ≤ k + 1 + 1)
    (t : TNode) (ht : t ∈ tnodes a env tn sel) :
    DeclFits env.schema env.frags penv (k + 1) (avneed env cn tn sel + 3 + F) rt (collOf (sentOf M t)) (declOf env cn tn tv t) := by
  have htvc := (classHead_spec hhead).2
  have htf := tnodes_isField env K G.hfr a hloc t ht
  have hfl := rflat_spec a hloc
  have hcont := aSels_contentOK hloc
  obtain ⟨o, y⟩ := t
  cases y with
  | spread g' d' => simp [isField] at htf
  | inline on d' sid' ss' => simp [isField] at htf
  | field alias name dirs sid sub =>
      cases o with
      | none =>
        have hx : Selection.field alias name dirs sid sub ∈ rflat a env tn sel := (tnodes_own _ _ _ _ _).mp ht
        obtain ⟨_, hlx⟩ := hfl _ hx
        simp only [declOf, sentOf]
        by_cases hname : (name == typenameField) = true
        · -- `__typename`: required; `str` in the root class, else the literal of the runtime types the class stands for
          have hlx' := hlx
          simp only [aSel1, hname, if_true, Bool.and_eq_true, Bool.not_eq_true'] at hlx'
          obtain ⟨_, ⟨⟨_, hcond⟩, hsubE⟩⟩ := hlx'
          rw [applySel_field]
          refine ⟨by rw [aDecl_alias, aDecl_py]; rfl, fun hc => ?_, fun v hnd hv m hm => ?_⟩
          · simp only [collOf, isConditional_eq, Bool.false_or, hcond] at hc
            cases hc
          · have hany : (rflat a env tn sel).any isTnSel = true :=
              List.any_eq_true.mpr ⟨_, hx, by simpa [isTnSel] using hname⟩
            obtain ⟨hroot, hrts⟩ := htvc hany
            have hname2 : (name == Tables.typenameFieldName) = true := hname
            simp only [valueOK, collOf, hname2, if_true] at hv
            cases v <;> simp at hv
            have hs := hv.symm
            subst hs
            by_cases hte : tv.isEmpty = true
            · obtain ⟨_, hleaf, hkS⟩ := rootTnOK_spec (hroot hte)
              have hdecl : aDecl env cn tn tv alias name dirs sub =
                  { py := pyFieldName env (alias.getD name),
                    ann := condAnn (wrapAnn (ResultLeaf.leafBase env tnT.base) true tnT) dirs,
                    alias := if pyFieldName env (alias.getD name) != alias.getD name then some (alias.getD name) else none,
                    discriminator := false, defaultNone := hasConditionalDirective dirs } := by
                simp only [aDecl, hname, hte, Bool.not_true, Bool.and_false, Bool.false_eq_true, if_false, if_true, hsubE,
                  aDecl_leaf_ann]
                rw [isUnionAnn_fieldAnn _ (simpleBase_leaf env _)]
              rw [hdecl, fieldRec_plain _ _ _ _ _ rfl]
              exact leaf_rt env penv G.ha tnT hleaf dirs (.str rt) (by simp [nodupKeys])
                (conforms_string env hkS rt) m (by simp [tnT, wneed]; omega)
            · have hte' : tv.isEmpty = false := by simpa using hte
              obtain ⟨g', rfl⟩ : ∃ g', m = g' + 1 := ⟨m - 1, by omega⟩
              refine ⟨.str rt, ?_, by simp [dump, J.eqv]⟩
              simp only [fieldRec, aDecl, hname, hte', Bool.not_false, Bool.and_self, if_true, Bool.false_eq_true, if_false]
              rw [ResultLeaf.validate_literal_succ]
              exact if_pos (by simpa using mem_sortStr.mpr (hrts hte' rt hrt))
        · have hname' : (name == typenameField) = false := by simpa using hname
          have hxf := mem_rflat_notTn hx hname'
          refine (field_fits env penv M K F (k + 1) G IH cn tn rt rts tv hrt alias name dirs sid sub hname' hlx
            (fun c hc => hcls c (by
              simp only [aClass]
              apply List.mem_cons_of_mem
              rw [← rflat_extra env cn tn a sel hcont]
              exact List.mem_flatMap.mpr ⟨_, hx, hc⟩))
            (by have := agfuel_rflat a env tn sel _ hx; omega)).mono ?_
          have := avneed_flat env cn tn sel _ hxf
          omega
      | some o' =>
        -- a field node inherited from a mixin fragment: the mixin tier's lemma, at the fragment's class
        obtain ⟨hall, f, hfm, hon, _, hm', hlocf, hfull, hFb, _⟩ := inherited_node env penv K F G hloc ht
        have hrt' : rt = tn := hall rt hrt
        subst hrt'
        simp only [declOf, sentOf]
        have hmixIH := C01Mix.val_spec env penv K G.hfr G.ha G.hbm G.frags (by have := G.depth; omega) (k + 1)
        exact (C01Mix.node_fits env penv K G.hfr G.ha G.frags (k + 1) hmixIH K (pascal f.name) rt f.sel (by omega) (Nat.le_refl K)
          hfull hlocf (hon ▸ G.frags f hfm) o' alias name dirs sid sub hm').mono (by omega)

theorem class_rt (env : ResultTypes.Env) (penv : Pyd.Env) (M : List Nat) (K F : Nat) (G : GH env penv K F) (e : Nat)
    (IH : ValSpec env penv M K F e) : ValSpec env penv M K F (e + 1) := by
  intro cn tn rt rts sel tv a hrt hhead hloc hcls hfuel
  have hge := agfuel_ge sel
  obtain ⟨k, rfl⟩ : ∃ k, e = k + 1 := ⟨e - 1, by omega⟩
  have hset := (classHead_spec hhead).1
  obtain ⟨_, hD2, hD3⟩ := dupOK_spec hset
  have hKk : K ≤ k := by omega
  obtain ⟨hg1, hg2⟩ := group_facts env K G.hfr M rt hrt a sel hloc hset k hKk
  have hTf := tnodes_isField env K G.hfr a hloc
  have hcn := tnodes_cnodes a env tn sel
  have hc0 : penv.class? cn = some { name := cn, bases := aBases env tn sel, fields := (rflat a env tn sel).flatMap (aDecl1 env cn tn tv) } :=
    hcls ⟨cn, aBases env tn sel, (rflat a env tn sel).flatMap (aDecl1 env cn tn tv)⟩ (by simp [aClass])
  obtain ⟨hA2, hA1, hA3, _⟩ := class_members env penv K F G cn tn rts tv a sel hloc hset hc0
  have hdk : ∀ d t, DeclFor env cn tn tv (tnodes a env tn sel) d t → d.alias.getD d.py = keyOf t.2 := by
    rintro d t ⟨htf, hpy, hform⟩
    rcases hform with ⟨_, rfl⟩ | ⟨_, hal, _⟩
    · exact declOf_key _ _ _ _ _ htf
    · rw [hal, hpy]
      by_cases h : pyFieldName env (keyOf t.2) = keyOf t.2
      · simp [h]
      · simp [h]
  refine (class_fits env.schema env.frags penv (k + 1) (avneed env cn tn sel + 3 + F) cn rt (sent a M sel) (pyFieldName env) _ hc0
    hA2 ?_ ?_ ?_ ?_).mono (by omega)
  · intro d hd
    obtain ⟨t, _, hfor⟩ := hA1 d hd
    rw [hdk d t hfor, hfor.2.1]
  · intro d hd
    obtain ⟨t, ht, hfor⟩ := hA1 d hd
    rw [hdk d t hfor, hfor.2.1]
    refine (hD3 _ (hcn t ht)).imp id (fun h g hg he => h ?_)
    obtain ⟨t', ht', hk'⟩ := hg1 g hg
    rw [← he, ← hk']
    exact List.mem_map.mpr ⟨t'.2, hcn t' ht', rfl⟩
  · intro g hg
    obtain ⟨t, ht, htk⟩ := hg1 g hg
    obtain ⟨d, hd, hdp⟩ := hA3 t ht
    obtain ⟨t2, ht2, hfor⟩ := hA1 d hd
    refine ⟨d, hd, ?_⟩
    rw [hdk d t2 hfor, ← htk]
    exact hD2 _ (hcn t2 ht2) _ (hcn t ht) (by rw [← hfor.2.1, hdp])
  · intro d hd
    obtain ⟨t, ht, hfor⟩ := hA1 d hd
    have hkey := hdk d t hfor
    obtain ⟨htf, hpy, hform⟩ := hfor
    obtain ⟨gr, hgr, hgk, hgn, hgc, hgl, hgu⟩ := hg2 t ht
    refine ⟨gr, hgr, hgk.trans hkey.symm, ?_⟩
    rcases hform with ⟨hpl, rfl⟩ | ⟨hpl, hal, hdisc, ⟨t', ht', hk', hann⟩, hdn⟩
    · -- the node owns its key: its group is its own entry
      rw [hgu hpl]
      exact tnode_fits env penv M K F G k IH cn tn rt rts sel tv a hrt hhead hloc hcls hfuel t ht
    · -- a key reached by leaf selections (one or several): the merged declaration has the annotation of one of them
      have hpl' : plainLeaf t'.2 = true := by rw [(same_key_spec hset (hcn t ht) (hcn t' ht') hk').2]; exact hpl
      have hnm : nameOf t'.2 = nameOf t.2 := (same_key_spec hset (hcn t ht) (hcn t' ht') hk').1
      obtain ⟨c1, c2, _, c4⟩ := cs_facts M t' (hTf t' ht')
      refine (tnode_fits env penv M K F G k IH cn tn rt rts sel tv a hrt hhead hloc hcls hfuel t' ht').of_value
        (by rw [hgn, c2, hnm]) (by rw [hgl hpl, c4 (by simp only [plainLeaf, Bool.and_eq_true] at hpl'; exact hpl'.1)]) hann
        (by rw [hdisc, declOf_plainLeaf env cn tn tv t' (hTf t' ht') hpl']) (by rw [hal, hpy, hgk]) (fun hc => ?_)
      cases hdv : d.defaultNone with
      | true => rfl
      | false =>
        obtain ⟨t2, ht2, hk2, hc2⟩ := hdn hdv
        rw [hgc hc t2 ht2 hk2] at hc2
        cases hc2

theorem val_spec (env : ResultTypes.Env) (penv : Pyd.Env) (M : List Nat) (K F : Nat) (G : GH env penv K F) :
    ∀ ef, ValSpec env penv M K F ef
  | 0 => fun _ _ _ _ _ _ _ _ _ _ _ _ => Accepts.zero _ _ _ _ _ _ _
  | ef + 1 => class_rt env penv M K F G ef (val_spec env penv M K F G ef)

end Ariadne.C01Abs
