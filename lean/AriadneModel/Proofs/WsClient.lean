/-
  Helper lemmas for C13: what `_handle_ws_message` (model `handle`, over the protocol's message
  types) does with each letter of the alphabet, and how the streaming loop decomposes; the OpenTelemetry copies
  of the functions equal the plain ones; `dict.update` on association lists (the header merge); which `variables`
  `json.dumps` without `default=` can serialise.
-/
import AriadneModel.Model.WsClient
import AriadneModel.Model.WsClientOT
import AriadneModel.Spec.GraphqlTransportWs
import AriadneModel.Proofs.Json
import AriadneModel.Proofs.GetData

namespace Ariadne.WsProofs
open Ariadne.WsClient Ariadne.GqlWs

/-- what `GraphQLClientGraphQLError.from_dict` builds from a spec-shaped error object -/
def errOfJ : J → GetData.GqlErr
  | .obj kvs =>
    { message := J.getD "message" kvs, locations := J.getD "locations" kvs, path := J.getD "path" kvs,
      extensions := J.getD "extensions" kvs, original := .obj kvs }
  | j => { message := .null, locations := .null, path := .null, extensions := .null, original := j }

/-- the decoded message (`message_dict`) of a frame -/
def msgOf : Frame → J
  | .json j => j
  | _ => .null

theorem fromDict_ok_iff (e : J) (b : GetData.GqlErr) : GetData.fromDict e = .ok b ↔ errShaped e = true ∧ errOfJ e = b := by
  cases e with
  | obj kvs =>
    rcases hm : J.lookup "message" kvs with _ | m <;> simp [GetData.fromDict, errShaped, errOfJ, J.getD, hm]
  | _ => simp [GetData.fromDict, errShaped]

theorem fromDicts_shaped (es : List J) (h : es.all errShaped = true) :
    GetData.fromDicts es = .ok (es.map errOfJ) := by
  rw [GetData.fromDicts_eq_mapM]
  obtain ⟨r, hr⟩ := Lists.mapM_isOk_iff.mpr fun x hx =>
    ⟨errOfJ x, (fromDict_ok_iff x _).mpr ⟨List.all_eq_true.mp h x hx, rfl⟩⟩
  rw [hr, Lists.mapM_ok_map errOfJ id (fun x b hb => ((fromDict_ok_iff x b).mp hb).2) hr, List.map_id]

theorem fromDicts_unshaped (es : List J) (h : es.all errShaped = false) :
    ∃ x, GetData.fromDicts es = .error x := by
  rw [GetData.fromDicts_eq_mapM]
  cases hr : es.mapM GetData.fromDict with
  | error x => exact ⟨x, rfl⟩
  | ok r =>
    have hall := Lists.mapM_isOk_iff.mp ⟨r, hr⟩
    rw [List.all_eq_true.mpr fun x hx => ((fromDict_ok_iff x _).mp (hall x hx).choose_spec).1] at h
    cases h

/-- What the streaming loop's call `_handle_ws_message(message, websocket)` does, letter by letter. -/
def HandleSpec (f : Frame) : Prop :=
  match letter f with
  | .ack => handle proto none f = .ret none
  | .pong => handle proto none f = .ret none
  | .clientMsg => handle proto none f = .ret none
  | .next d => handle proto none f = .ret (some d)
  | .ping => handle proto none f = .retPong
  | .complete => handle proto none f = .retClose
  | .error es => handle proto none f = .raise (.multiError (es.map errOfJ) (msgOf f))
  | .nonJson =>
    handle proto none f =
      .raise (if isBadBytes f then .internal "UnicodeDecodeError" else .invalidMessage .message)
  | .unknownType => handle proto none f = .raise (.invalidMessage .message)
  | .missingType => handle proto none f = .raise (.invalidMessage .message)
  | .nextNoData => handle proto none f = .raise (.invalidMessage .message)
  | .outside => ∃ o, handle proto none f = .raise o


/-- What the first call `_handle_ws_message(await websocket.recv(), websocket,
    expected_type=CONNECTION_ACK)` does, letter by letter. -/
def FirstSpec (f : Frame) : Prop :=
  match letter f with
  | .ack => handle proto (some "connection_ack") f = .ret none
  | .pong => handle proto (some "connection_ack") f = .raise (.invalidMessage (.expected "connection_ack"))
  | .clientMsg => handle proto (some "connection_ack") f = .raise (.invalidMessage (.expected "connection_ack"))
  | .next _ => handle proto (some "connection_ack") f = .raise (.invalidMessage (.expected "connection_ack"))
  | .ping => handle proto (some "connection_ack") f = .raise (.invalidMessage (.expected "connection_ack"))
  | .complete => handle proto (some "connection_ack") f = .raise (.invalidMessage (.expected "connection_ack"))
  | .error _ => handle proto (some "connection_ack") f = .raise (.invalidMessage (.expected "connection_ack"))
  | .nextNoData => handle proto (some "connection_ack") f = .raise (.invalidMessage (.expected "connection_ack"))
  | .nonJson =>
    handle proto (some "connection_ack") f =
      .raise (if isBadBytes f then .internal "UnicodeDecodeError" else .invalidMessage .message)
  | .unknownType => handle proto (some "connection_ack") f = .raise (.invalidMessage .message)
  | .missingType => handle proto (some "connection_ack") f = .raise (.invalidMessage .message)
  | .outside => ∃ o, handle proto (some "connection_ack") f = .raise o

/-! ### frames whose `type` is a string: `handle.dispatch`, `handle` and `letter` as one chain of tests on it -/

theorem dispatch_proto (ty : String) (kvs : List (String × J)) :
    handle.dispatch proto ty kvs =
      if ty = "next" then nextOf ((J.lookup "payload" kvs).getD (.obj []))
      else if ty = "complete" then .retClose
      else if ty = "ping" then .retPong
      else if ty = "error" then errorOf ((J.lookup "payload" kvs).getD (.obj [])) (.obj kvs)
      else .ret none := rfl

theorem handle_typed {kvs : List (String × J)} {s : String} (ht : J.lookup "type" kvs = some (.str s))
    (hs : s ∈ proto.values) :
    handle proto none (.json (.obj kvs)) = handle.dispatch proto s kvs ∧
    handle proto (some "connection_ack") (.json (.obj kvs)) =
      if s = "connection_ack" then handle.dispatch proto s kvs
      else .raise (.invalidMessage (.expected "connection_ack")) := by
  have hne : s ≠ "" := by rintro rfl; simp [proto] at hs
  have htc : typeCheck proto (some (.str s)) = .ok s := by simp [typeCheck, hne, hs]
  constructor
  · simp only [handle, ht, htc]
  · simp only [handle, ht, htc]
    by_cases h : s = "connection_ack"
    · simp [h]
    · have h' : ¬ "connection_ack" = s := fun e => h e.symm
      simp [h, h']

theorem letter_typed {kvs : List (String × J)} {s : String} (ht : J.lookup "type" kvs = some (.str s)) :
    letter (.json (.obj kvs)) =
      if s = "connection_ack" then .ack
      else if s = "next" then
        match J.lookup "payload" kvs with
        | none => .nextNoData
        | some (.obj pk) =>
          match J.lookup "data" pk with
          | some d => .next d
          | none => .nextNoData
        | some _ => .outside
      else if s = "ping" then .ping
      else if s = "pong" then .pong
      else if s = "complete" then .complete
      else if s = "error" then
        match J.lookup "payload" kvs with
        | some (.arr es) => if es.all errShaped then .error es else .outside
        | none => .error []
        | _ => .outside
      else if s = "connection_init" then .clientMsg
      else if s = "subscribe" then .clientMsg
      else .unknownType := by
  simp only [letter, ht]
  rfl
theorem nextOf_raises {p : J} (h : ∀ kvs, p ≠ .obj kvs) : ∃ o, nextOf p = .raise o := by
  cases p with
  | obj kvs => exact absurd rfl (h kvs)
  | str t => simp only [nextOf]; split <;> exact ⟨_, rfl⟩
  | arr xs => simp only [nextOf]; split <;> exact ⟨_, rfl⟩
  | null => exact ⟨_, rfl⟩
  | bool _ => exact ⟨_, rfl⟩
  | num _ _ => exact ⟨_, rfl⟩

theorem errorOf_raises (payload msg : J) : ∃ o, errorOf payload msg = .raise o := by
  cases payload with
  | arr es => simp only [errorOf]; split <;> exact ⟨_, rfl⟩
  | obj pk => cases pk <;> exact ⟨_, rfl⟩
  | str t => simp only [errorOf]; split <;> exact ⟨_, rfl⟩
  | null => exact ⟨_, rfl⟩
  | bool _ => exact ⟨_, rfl⟩
  | num _ _ => exact ⟨_, rfl⟩

/-- both calls of `_handle_ws_message`, letter by letter: one pass over the shapes of a frame -/
theorem handle_specs (f : Frame) : HandleSpec f ∧ FirstSpec f := by
  cases f with
  | text s => simp [HandleSpec, FirstSpec, letter, handle, isBadBytes]
  | badBytes => simp [HandleSpec, FirstSpec, letter, handle, isBadBytes]
  | json j =>
    cases j with
    | null => exact ⟨⟨_, rfl⟩, ⟨_, rfl⟩⟩
    | bool _ => exact ⟨⟨_, rfl⟩, ⟨_, rfl⟩⟩
    | num _ _ => exact ⟨⟨_, rfl⟩, ⟨_, rfl⟩⟩
    | str _ => exact ⟨⟨_, rfl⟩, ⟨_, rfl⟩⟩
    | arr _ => exact ⟨⟨_, rfl⟩, ⟨_, rfl⟩⟩
    | obj kvs =>
      rcases ht : J.lookup "type" kvs with _ | ty
      · simp [HandleSpec, FirstSpec, letter, handle, typeCheck, ht]
      · cases ty with
        | null => simp [HandleSpec, FirstSpec, letter, handle, typeCheck, ht]
        | bool _ => simp [HandleSpec, FirstSpec, letter, handle, typeCheck, ht]
        | num _ _ => simp [HandleSpec, FirstSpec, letter, handle, typeCheck, ht]
        | arr xs => cases xs <;> simp [HandleSpec, FirstSpec, letter, handle, typeCheck, ht]
        | obj xs => cases xs <;> simp [HandleSpec, FirstSpec, letter, handle, typeCheck, ht]
        | str s =>
          by_cases hs : s ∈ proto.values
          · obtain ⟨hn, hf⟩ := handle_typed ht hs
            unfold HandleSpec FirstSpec
            rw [hn, hf, letter_typed ht, dispatch_proto]
            simp only [proto, List.mem_cons, List.not_mem_nil, or_false] at hs
            rcases hs with rfl | rfl | rfl | rfl | rfl | rfl | rfl | rfl
            · simp
            · simp
            · simp
            · simp
            · simp
            · rcases hp : J.lookup "payload" kvs with _ | p
              · simp [nextOf, J.lookup]
              · cases p with
                | obj pk => rcases hd : J.lookup "data" pk with _ | d <;> simp [nextOf, hd]
                | str t => simpa using nextOf_raises (p := .str t) (by simp)
                | arr xs => simpa using nextOf_raises (p := .arr xs) (by simp)
                | _ => simp [nextOf]
            · rcases hp : J.lookup "payload" kvs with _ | p
              · simp [errorOf, msgOf]
              · cases p with
                | arr es =>
                  by_cases hsh : es.all errShaped = true
                  · simp [hsh, errorOf, fromDicts_shaped es hsh, msgOf]
                  · have hs' : es.all errShaped = false := by simpa using hsh
                    obtain ⟨x, hx⟩ := fromDicts_unshaped es hs'
                    simp [hs', errorOf, hx]
                | obj pk => cases pk <;> simp [errorOf]
                | str t => simpa using errorOf_raises (.str t) (.obj kvs)
                | _ => simp [errorOf]
            · simp
          · have h : (¬ s = "connection_ack") ∧ (¬ s = "next") ∧ (¬ s = "ping") ∧ (¬ s = "pong") ∧ (¬ s = "complete") ∧
                (¬ s = "error") ∧ (¬ s = "connection_init") ∧ (¬ s = "subscribe") := by
              simp only [proto, List.mem_cons, List.not_mem_nil, or_false, not_or] at hs
              exact ⟨hs.2.1, hs.2.2.2.2.2.1, hs.2.2.1, hs.2.2.2.1, hs.2.2.2.2.2.2.2, hs.2.2.2.2.2.2.1, hs.1, hs.2.2.2.2.1⟩
            by_cases he : s = "" <;>
              simp [HandleSpec, FirstSpec, letter_typed ht, handle, typeCheck, ht, h, hs, he]

theorem handle_of_letter (f : Frame) : HandleSpec f := (handle_specs f).1

theorem handle_first_of_letter (f : Frame) : FirstSpec f := (handle_specs f).2

/-- the loop's events for a frame that leaves the subscription running -/
def contEvents (f : Frame) : List Ev :=
  match letter f with
  | .next d => if d.truthy then [.recv f, .yield d] else [.recv f]
  | .ping => [.recv f, .send .pong]
  | _ => [.recv f]

theorem stream_cont (f : Frame) (fs : List Frame) (h : continuesF f = true) :
    stream proto (f :: fs) = (contEvents f ++ (stream proto fs).1, (stream proto fs).2) := by
  have hs := handle_of_letter f
  unfold HandleSpec at hs
  cases hl : letter f <;> simp only [hl] at hs
  case next d => simp only [stream, hs, contEvents, hl]; split <;> simp
  case ack | ping | pong | clientMsg => simp [stream, hs, contEvents, hl]
  -- every other letter ends the subscription
  all_goals simp [continuesF, hl, Letter.continues] at h

theorem stream_term (f : Frame) (fs : List Frame) (h : continuesF f = false) :
    stream proto (f :: fs) = stream proto [f] := by
  have hs := handle_of_letter f
  unfold HandleSpec at hs
  cases hl : letter f <;> simp only [hl] at hs
  case outside => obtain ⟨o, ho⟩ := hs; simp only [stream, ho]
  case ack | next | ping | pong | clientMsg => simp [continuesF, hl, Letter.continues] at h
  -- `complete` closes, the remaining letters raise: nothing after the frame is looked at
  all_goals simp only [stream, hs]

theorem terminal_complete (f : Frame) (h : letter f = .complete) :
    stream proto [f] = ([.recv f, .close], .completed) := by
  have hs := handle_of_letter f
  simp only [HandleSpec, h] at hs
  simp [stream, hs]

theorem terminal_error (f : Frame) (es : List J) (h : letter f = .error es) :
    stream proto [f] = ([.recv f], .multiError (es.map errOfJ) (msgOf f)) := by
  have hs := handle_of_letter f
  simp only [HandleSpec, h] at hs
  simp [stream, hs]

/-- the four invalid letters of the alphabet (a non-JSON frame that is not a bad binary frame) -/
def InvalidLetter (f : Frame) : Prop :=
  (letter f = .nonJson ∧ isBadBytes f = false) ∨ letter f = .unknownType ∨ letter f = .missingType ∨
    letter f = .nextNoData

theorem terminal_invalid (f : Frame) (h : InvalidLetter f) :
    stream proto [f] = ([.recv f], .invalidMessage .message) := by
  have hs := handle_of_letter f
  rcases h with ⟨h, hb⟩ | h | h | h <;> simp only [HandleSpec, h] at hs
  · simp [stream, hs, hb]
  all_goals simp [stream, hs]

theorem terminal_badBytes :
    stream proto [Frame.badBytes] = ([.recv .badBytes], .internal "UnicodeDecodeError") := by
  simp [stream, handle]

theorem terminal_outside (f : Frame) (h : letter f = .outside) :
    ∃ o, stream proto [f] = ([.recv f], o) := by
  have hs := handle_of_letter f
  simp only [HandleSpec, h] at hs
  obtain ⟨o, ho⟩ := hs
  exact ⟨o, by simp [stream, ho]⟩

theorem terminal_events (f : Frame) (h : continuesF f = false) :
    (stream proto [f]).1 = [.recv f] ∨ ((stream proto [f]).1 = [.recv f, .close] ∧ letter f = .complete) := by
  have hs := handle_of_letter f
  unfold HandleSpec at hs
  cases hl : letter f <;> simp only [hl] at hs
  case outside => obtain ⟨o, ho⟩ := hs; simp [stream, ho]
  all_goals first
    | (simp [continuesF, hl, Letter.continues] at h; done)
    | (simp [stream, hs])

theorem stream_prefix (pre rest : List Frame) (h : ∀ f ∈ pre, continuesF f = true) :
    stream proto (pre ++ rest) = (pre.flatMap contEvents ++ (stream proto rest).1, (stream proto rest).2) := by
  induction pre with
  | nil => simp
  | cons f pre ih =>
    have hf := h f (by simp)
    have ih' := ih (fun g hg => h g (by simp [hg]))
    simp only [List.cons_append, stream_cont f (pre ++ rest) hf, ih', List.flatMap_cons, List.append_assoc]

theorem stream_split (fs : List Frame) :
    stream proto fs =
      match firstTerminal fs with
      | some x => ((prefixUntilTerminal fs).flatMap contEvents ++ (stream proto [x]).1, (stream proto [x]).2)
      | none => ((prefixUntilTerminal fs).flatMap contEvents, .exhausted) := by
  induction fs with
  | nil => simp [firstTerminal, prefixUntilTerminal, stream]
  | cons f fs ih =>
    by_cases hf : continuesF f = true
    · rw [stream_cont f fs hf, ih]
      simp only [firstTerminal, prefixUntilTerminal, List.dropWhile_cons, List.takeWhile_cons, hf, if_true]
      cases hft : (List.dropWhile continuesF fs).head? <;> simp [List.flatMap_cons]
    · have hf' : continuesF f = false := by simpa using hf
      rw [stream_term f fs hf']
      simp [firstTerminal, prefixUntilTerminal, hf']

abbrev Vars := Option (List (String × PV))

theorem first_ack (f : Frame) (h : (letter f).isAck = true) :
    handle proto (some proto.ack) f = .ret none := by
  have hs := handle_first_of_letter f
  unfold FirstSpec at hs
  cases hl : letter f <;> simp [hl, Letter.isAck] at h
  simpa [hl, proto] using hs

theorem first_not_ack (f : Frame) (h : (letter f).isAck = false) :
    ∃ o, handle proto (some proto.ack) f = .raise o ∧
      (¬ letter f = .outside → isBadBytes f = false → ∃ a, o = .invalidMessage a) := by
  have hs := handle_first_of_letter f
  unfold FirstSpec at hs
  cases hl : letter f <;> simp only [hl] at hs
  case ack => simp [hl, Letter.isAck] at h
  case outside =>
    obtain ⟨o, ho⟩ := hs
    exact ⟨o, by simpa [proto] using ho, fun hne => absurd rfl hne⟩
  case nonJson =>
    refine ⟨_, by simpa [proto] using hs, ?_⟩
    intro _ hb; exact ⟨.message, by simp [hb]⟩
  all_goals exact ⟨_, by simpa [proto] using hs, fun _ _ => ⟨_, rfl⟩⟩

theorem sent_contEvents (f : Frame) :
    (contEvents f).filterMap Ev.sent? = if pingF f then [Msg.pong] else [] := by
  unfold contEvents pingF
  cases hl : letter f <;> simp only <;>
    first | rfl | (rename_i d; cases hd : d.truthy <;> simp <;> rfl)

theorem yielded_contEvents (f : Frame) :
    (contEvents f).filterMap Ev.yielded? = ((letter f).truthyNextData).toList := by
  unfold contEvents
  cases hl : letter f <;> simp only [Letter.truthyNextData] <;>
    first | rfl | (rename_i d; cases hd : d.truthy <;> simp <;> rfl)

theorem recv_contEvents (f : Frame) : (contEvents f).filterMap Ev.recv? = [f] := by
  unfold contEvents
  cases hl : letter f <;> simp only <;>
    first | rfl | (rename_i d; cases hd : d.truthy <;> simp <;> rfl)

theorem io_contEvents (f : Frame) : (contEvents f).filter Ev.isIO = ioOf f := by
  unfold contEvents ioOf pingF
  cases hl : letter f <;> simp only <;>
    first | rfl | (rename_i d; cases hd : d.truthy <;> simp <;> rfl)

theorem flatMap_toList {α β : Type} (f : α → Option β) (l : List α) : (l.flatMap fun a => (f a).toList) = l.filterMap f := by
  induction l with
  | nil => rfl
  | cons a l ih => cases h : f a <;> simp [List.flatMap_cons, h, ih]

theorem flatMap_ite_singleton {α β : Type} (p : α → Bool) (x : β) (l : List α) :
    (l.flatMap fun a => if p a then [x] else []) = List.replicate (l.countP p) x := by
  induction l with
  | nil => rfl
  | cons a l ih => cases h : p a <;> simp [List.flatMap_cons, h, ih, List.replicate_succ]

theorem sent_prefix (pre : List Frame) :
    (pre.flatMap contEvents).filterMap Ev.sent? = List.replicate (pre.countP pingF) Msg.pong := by
  simp only [List.filterMap_flatMap, sent_contEvents, flatMap_ite_singleton]

theorem yielded_prefix (pre : List Frame) :
    (pre.flatMap contEvents).filterMap Ev.yielded? =
      pre.filterMap (fun f => (letter f).truthyNextData) := by
  simp only [List.filterMap_flatMap, yielded_contEvents, flatMap_toList]

theorem recv_prefix (pre : List Frame) : (pre.flatMap contEvents).filterMap Ev.recv? = pre := by
  simp only [List.filterMap_flatMap, recv_contEvents, List.flatMap_singleton']

theorem io_prefix (pre : List Frame) :
    (pre.flatMap contEvents).filter Ev.isIO = pre.flatMap ioOf := by
  simp only [List.filter_flatMap, io_contEvents]

theorem firstTerminal_not_continues (fs : List Frame) (x : Frame) (h : firstTerminal fs = some x) :
    continuesF x = false := by
  induction fs with
  | nil => simp [firstTerminal] at h
  | cons f fs ih =>
    by_cases hf : continuesF f = true
    · simp only [firstTerminal, List.dropWhile_cons, hf, if_true] at h
      exact ih (by simpa [firstTerminal] using h)
    · have hf' : continuesF f = false := by simpa using hf
      simp [firstTerminal, hf'] at h
      subst h; exact hf'

theorem terminal_projections (x : Frame) (hx : continuesF x = false) :
    (stream proto [x]).1.filterMap Ev.sent? = [] ∧ (stream proto [x]).1.filterMap Ev.yielded? = [] ∧
    (stream proto [x]).1.filterMap Ev.recv? = [x] ∧ (stream proto [x]).1.filter Ev.isIO = [.recv x] := by
  rcases terminal_events x hx with he | ⟨he, -⟩ <;> rw [he] <;> exact ⟨rfl, rfl, rfl, rfl⟩

theorem stream_projections (fs : List Frame) :
    (stream proto fs).1.filterMap Ev.sent? = List.replicate (pingCount fs) Msg.pong ∧
    (stream proto fs).1.filterMap Ev.yielded? =
      (prefixUntilTerminal fs).filterMap (fun f => (letter f).truthyNextData) ∧
    (stream proto fs).1.filterMap Ev.recv? = consumed fs ∧
    (stream proto fs).1.filter Ev.isIO = (consumed fs).flatMap ioOf := by
  rw [stream_split fs]
  cases hft : firstTerminal fs with
  | none =>
    simp [sent_prefix, yielded_prefix, recv_prefix, io_prefix, pingCount, consumed, hft]
  | some x =>
    have hx := firstTerminal_not_continues fs x hft
    have hnp : pingF x = false := by
      unfold continuesF at hx
      unfold pingF
      cases hl : letter x <;> simp [hl, Letter.continues, Letter.isPing] at hx ⊢
    obtain ⟨t1, t2, t3, t4⟩ := terminal_projections x hx
    have hio : ioOf x = [.recv x] := by simp [ioOf, hnp]
    simp [t1, t2, t3, t4, hio, sent_prefix, yielded_prefix, recv_prefix, io_prefix, pingCount, consumed, hft,
      List.filterMap_append, List.filter_append]

theorem stream_outcome (fs : List Frame) :
    (stream proto fs).2 =
      match firstTerminal fs with
      | none => .exhausted
      | some x => (stream proto [x]).2 := by
  rw [stream_split fs]
  cases firstTerminal fs <;> rfl

theorem Letter.truthy_of_not_falsy : ∀ l : Letter, l.falsyNext = false → l.truthyNextData = l.nextData
  | .next d, h => by
    simp only [Letter.falsyNext, Bool.not_eq_false'] at h
    simp [Letter.truthyNextData, Letter.nextData, h]
  | .ack, _ | .ping, _ | .pong, _ | .complete, _ | .error _, _ | .nonJson, _ | .unknownType, _
  | .missingType, _ | .nextNoData, _ | .clientMsg, _ | .outside, _ => rfl

theorem truthy_eq_all_of_no_falsy (pre : List Frame) (h : pre.any (fun f => (letter f).falsyNext) = false) :
    pre.filterMap (fun f => (letter f).truthyNextData) = pre.filterMap (fun f => (letter f).nextData) := by
  induction pre with
  | nil => rfl
  | cons f pre ih =>
    simp only [List.any_cons, Bool.or_eq_false_iff] at h
    simp only [List.filterMap_cons, Letter.truthy_of_not_falsy _ h.1, ih h.2]

theorem split_at_terminal (pre rest : List Frame) (x : Frame) (hpre : ∀ f ∈ pre, continuesF f = true)
    (hx : continuesF x = false) :
    prefixUntilTerminal (pre ++ x :: rest) = pre ∧ firstTerminal (pre ++ x :: rest) = some x := by
  induction pre with
  | nil => simp [prefixUntilTerminal, firstTerminal, hx]
  | cons f pre ih =>
    have hf := hpre f (by simp)
    have ih' := ih (fun g hg => hpre g (by simp [hg]))
    simp only [prefixUntilTerminal, firstTerminal] at ih' ⊢
    simp [hf, ih'.1, ih'.2]

theorem handleTel_eq (t : Types) (e : Option String) (f : Frame) :
    WsClientOT.handleTel t e f = handle t e f := by
  cases f with
  | text s => rfl
  | badBytes => rfl
  | json j =>
    cases j with
    | obj kvs =>
      simp only [WsClientOT.handleTel, WsClientOT.withSpan, handle, handle.dispatch]
      cases typeCheck t (J.lookup "type" kvs) <;> cases e <;> rfl
    | null => rfl
    | bool _ => rfl
    | num _ _ => rfl
    | str _ => rfl
    | arr _ => rfl

theorem streamTel_eq (t : Types) (fs : List Frame) : WsClientOT.streamTel t fs = stream t fs := by
  induction fs with
  | nil => rfl
  | cons f fs ih =>
    simp only [WsClientOT.streamTel, stream, handleTel_eq, ih]
    cases handle t none f with
    | ret d => cases d <;> rfl
    | retClose => rfl
    | retPong => rfl
    | raise o => rfl

theorem afterAckTel_eq (t : Types) (cfg : Cfg) (vars : Vars) (c : Bool) (fs : List Frame) :
    WsClientOT.afterAckTel t cfg vars c fs = afterAck t cfg vars c fs := by
  simp only [WsClientOT.afterAckTel, WsClientOT.withSpan, afterAck, streamTel_eq]
  cases serialise vars <;> rfl

theorem runTel_eq (t : Types) (sp : String) (cfg : Cfg) (vars : Vars) (fs : List Frame) :
    WsClientOT.runTel t sp cfg vars fs = runT t sp cfg vars fs := by
  simp only [WsClientOT.runTel, WsClientOT.withSpan, runT]
  split
  · rfl
  · cases fs with
    | nil => rfl
    | cons f fs =>
      simp only [handleTel_eq, afterAckTel_eq]
      cases handle t (some t.ack) f <;> rfl

theorem received_of_shape (c i s : Ev) (a : Frame) (mid tail : List Ev)
    (hc : Ev.recv? c = none) (hi : Ev.recv? i = none) (hs : Ev.recv? s = none) :
    List.filterMap Ev.recv? ([c, i, .recv a, s] ++ mid ++ tail) =
      a :: (mid.filterMap Ev.recv? ++ tail.filterMap Ev.recv?) := by
  have ha : Ev.recv? (Ev.recv a) = some a := rfl
  simp [List.filterMap_append, hc, hi, hs, ha]


theorem dictSet_lookup (k' : String) (v' : J) (a : List (String × J)) (k : String) :
    J.lookup k (dictSet k' v' a) = if k' = k then some v' else J.lookup k a := by
  rw [J.lookup_eq, J.lookup_eq]
  exact Lists.lookup_set_of_eqns dictSet (fun _ _ => rfl) (fun _ _ _ _ _ => rfl) k' v' k a

theorem dictUpdate_lookup_none (a b : List (String × J)) (k : String) (h : J.lookup k b = none) :
    J.lookup k (dictUpdate a b) = J.lookup k a := by
  induction b generalizing a with
  | nil => rfl
  | cons p b ih =>
    obtain ⟨k', v'⟩ := p
    by_cases hk : k' = k
    · simp [J.lookup, hk] at h
    · simp only [J.lookup, hk, if_false] at h
      simp only [dictUpdate]
      rw [ih _ h, dictSet_lookup]
      simp [hk]

theorem dictUpdate_lookup_some (a b : List (String × J)) (k : String) (v : J)
    (hn : (b.map (·.1)).Nodup) (h : J.lookup k b = some v) :
    J.lookup k (dictUpdate a b) = some v := by
  induction b generalizing a with
  | nil => simp [J.lookup] at h
  | cons p b ih =>
    obtain ⟨k', v'⟩ := p
    simp only [List.map_cons, List.nodup_cons] at hn
    by_cases hk : k' = k
    · subst hk
      simp [J.lookup] at h
      subst h
      simp only [dictUpdate]
      rw [dictUpdate_lookup_none _ _ _ ((J.lookup_none_iff k' b).mpr hn.1), dictSet_lookup]
      simp
    · simp only [J.lookup, hk, if_false] at h
      simp only [dictUpdate]
      exact ih _ hn.2 h

theorem dictUpdate_lookup (a b : List (String × J)) (k : String) (hn : (b.map (·.1)).Nodup) :
    J.lookup k (dictUpdate a b) = match J.lookup k b with
      | some v => some v
      | none => J.lookup k a := by
  cases hb : J.lookup k b with
  | none => exact dictUpdate_lookup_none a b k hb
  | some v => exact dictUpdate_lookup_some a b k v hn hb

theorem runT_session (t : Types) (sp : String) (cfg : Cfg) (vars : Vars) (fs : List Frame) :
    runT t sp cfg vars fs =
      if J.hasKey "subprotocols" cfg.kwargs then ⟨[], .internal "TypeError"⟩
      else ⟨.connect (connectArgs sp cfg) :: (session t cfg vars fs).1, (session t cfg vars fs).2⟩ := by
  unfold runT session
  split
  · rfl
  · cases fs with
    | nil => rfl
    | cons f fs => cases hh : handle t (some t.ack) f <;> simp [hh]

theorem map_isSome {α β : Type} (f : α → β) (o : Option α) : (o.map f).isSome = o.isSome :=
  Option.isSome_map

mutual
  theorem rawJson_plain : ∀ (v : PV), plainPF v = true → hasForeign v = false → (rawJson v).isSome = true
    | .null, _, _ => rfl
    | .bool _, _, _ => rfl
    | .num _ _, _, _ => rfl
    | .str _, _, _ => rfl
    | .foreign _, _, hf => by simp [hasForeign] at hf
    | .unset, hp, _ => by simp [plainPF] at hp
    | .model _, hp, _ => by simp [plainPF] at hp
    | .modelPy _, hp, _ => by simp [plainPF] at hp
    | .list xs, hp, hf => by
      have := rawJsonList_plain xs (by simpa [plainPF] using hp) (by simpa [hasForeign] using hf)
      simpa [rawJson, map_isSome] using this
    | .dict kvs, hp, hf => by
      have := rawJsonKvs_plain kvs (by simpa [plainPF] using hp) (by simpa [hasForeign] using hf)
      simpa [rawJson, map_isSome] using this
  theorem rawJsonList_plain : ∀ (xs : List PV), plainPFList xs = true → hasForeignList xs = false →
      (rawJsonList xs).isSome = true
    | [], _, _ => rfl
    | x :: xs, hp, hf => by
      simp only [plainPFList, Bool.and_eq_true] at hp
      simp only [hasForeignList, Bool.or_eq_false_iff] at hf
      obtain ⟨j, hj⟩ := Option.isSome_iff_exists.mp (rawJson_plain x hp.1 hf.1)
      obtain ⟨js, hjs⟩ := Option.isSome_iff_exists.mp (rawJsonList_plain xs hp.2 hf.2)
      simp [rawJsonList, hj, hjs]
  theorem rawJsonKvs_plain : ∀ (kvs : List (String × PV)), plainPFKvs kvs = true → hasForeignKvs kvs = false →
      (rawJsonKvs kvs).isSome = true
    | [], _, _ => rfl
    | (k, x) :: xs, hp, hf => by
      simp only [plainPFKvs, Bool.and_eq_true] at hp
      simp only [hasForeignKvs, Bool.or_eq_false_iff] at hf
      obtain ⟨j, hj⟩ := Option.isSome_iff_exists.mp (rawJson_plain x hp.1 hf.1)
      obtain ⟨js, hjs⟩ := Option.isSome_iff_exists.mp (rawJsonKvs_plain xs hp.2 hf.2)
      simp [rawJsonKvs, hj, hjs]
end

mutual
  theorem convJson_readable : ∀ (v : PV), readable v = true → hasForeign v = false → (convJson v).isSome = true
    | .null, _, _ => rfl
    | .bool _, _, _ => rfl
    | .num _ _, _, _ => rfl
    | .str _, _, _ => rfl
    | .model _, _, _ => rfl
    | .foreign _, _, hf => by simp [hasForeign] at hf
    | .unset, hp, _ => by simp [readable] at hp
    | .modelPy kvs, hp, hf => by
      have := rawJsonKvs_plain kvs (by simpa [readable] using hp) (by simpa [hasForeign] using hf)
      simpa [convJson, map_isSome] using this
    | .dict kvs, hp, hf => by
      have := rawJsonKvs_plain kvs (by simpa [readable] using hp) (by simpa [hasForeign] using hf)
      simpa [convJson, map_isSome] using this
    | .list xs, hp, hf => by
      have := convJsonList_readable xs (by simpa [readable] using hp) (by simpa [hasForeign] using hf)
      simpa [convJson, map_isSome] using this
  theorem convJsonList_readable : ∀ (xs : List PV), readableList xs = true → hasForeignList xs = false →
      (convJsonList xs).isSome = true
    | [], _, _ => rfl
    | x :: xs, hp, hf => by
      simp only [readableList, Bool.and_eq_true] at hp
      simp only [hasForeignList, Bool.or_eq_false_iff] at hf
      obtain ⟨j, hj⟩ := Option.isSome_iff_exists.mp (convJson_readable x hp.1 hf.1)
      obtain ⟨js, hjs⟩ := Option.isSome_iff_exists.mp (convJsonList_readable xs hp.2 hf.2)
      simp [convJsonList, hj, hjs]
end

theorem convDict_cons (k : String) (v : PV) (rest : List (String × PV)) (hu : v ≠ .unset) :
    convDict ((k, v) :: rest) =
      match convJson v, convDict rest with
      | some j, some r => some ((k, j) :: r)
      | _, _ => none := by
  cases v <;> first | exact absurd rfl hu | rfl

theorem convDict_readable (kvs : List (String × PV)) (hp : readableTop kvs = true) (hf : hasForeignKvs kvs = false) :
    (convDict kvs).isSome = true := by
  induction kvs with
  | nil => rfl
  | cons kv rest ih =>
    obtain ⟨k, v⟩ := kv
    simp only [hasForeignKvs, Bool.or_eq_false_iff] at hf
    by_cases hu : v = .unset
    · subst hu
      simp only [readableTop] at hp
      simpa [convDict] using ih hp hf.2
    · have hp' : readable v = true ∧ readableTop rest = true := by
        cases v <;> first | exact absurd rfl hu | simpa [readableTop] using hp
      obtain ⟨j, hj⟩ := Option.isSome_iff_exists.mp (convJson_readable v hp'.1 hf.1)
      obtain ⟨r, hr⟩ := Option.isSome_iff_exists.mp (ih hp'.2 hf.2)
      simp [convDict_cons k v rest hu, hj, hr]

mutual
  theorem rawJson_foreign : ∀ (v : PV), hasForeign v = true → rawJson v = none
    | .foreign _, _ => rfl
    | .modelPy _, _ => rfl
    | .null, h => by simp [hasForeign] at h
    | .bool _, h => by simp [hasForeign] at h
    | .num _ _, h => by simp [hasForeign] at h
    | .str _, h => by simp [hasForeign] at h
    | .unset, h => by simp [hasForeign] at h
    | .model _, h => by simp [hasForeign] at h
    | .list xs, h => by simp [rawJson, rawJsonList_foreign xs (by simpa [hasForeign] using h)]
    | .dict kvs, h => by simp [rawJson, rawJsonKvs_foreign kvs (by simpa [hasForeign] using h)]
  theorem rawJsonList_foreign : ∀ (xs : List PV), hasForeignList xs = true → rawJsonList xs = none
    | [], h => by simp [hasForeignList] at h
    | x :: xs, h => by
      simp only [hasForeignList, Bool.or_eq_true] at h
      rcases h with h | h
      · simp [rawJsonList, rawJson_foreign x h]
      · have := rawJsonList_foreign xs h
        cases hx : rawJson x <;> simp [rawJsonList, hx, this]
  theorem rawJsonKvs_foreign : ∀ (kvs : List (String × PV)), hasForeignKvs kvs = true → rawJsonKvs kvs = none
    | [], h => by simp [hasForeignKvs] at h
    | (k, x) :: xs, h => by
      simp only [hasForeignKvs, Bool.or_eq_true] at h
      rcases h with h | h
      · simp [rawJsonKvs, rawJson_foreign x h]
      · have := rawJsonKvs_foreign xs h
        cases hx : rawJson x <;> simp [rawJsonKvs, hx, this]
end

mutual
  theorem convJson_foreign : ∀ (v : PV), hasForeign v = true → convJson v = none
    | .foreign _, _ => rfl
    | .modelPy kvs, h => by simp [convJson, rawJsonKvs_foreign kvs (by simpa [hasForeign] using h)]
    | .dict kvs, h => by simp [convJson, rawJsonKvs_foreign kvs (by simpa [hasForeign] using h)]
    | .list xs, h => by simp [convJson, convJsonList_foreign xs (by simpa [hasForeign] using h)]
    | .null, h => by simp [hasForeign] at h
    | .bool _, h => by simp [hasForeign] at h
    | .num _ _, h => by simp [hasForeign] at h
    | .str _, h => by simp [hasForeign] at h
    | .unset, h => by simp [hasForeign] at h
    | .model _, h => by simp [hasForeign] at h
  theorem convJsonList_foreign : ∀ (xs : List PV), hasForeignList xs = true → convJsonList xs = none
    | [], h => by simp [hasForeignList] at h
    | x :: xs, h => by
      simp only [hasForeignList, Bool.or_eq_true] at h
      rcases h with h | h
      · simp [convJsonList, convJson_foreign x h]
      · have := convJsonList_foreign xs h
        cases hx : convJson x <;> simp [convJsonList, hx, this]
end

theorem convDict_foreign (kvs : List (String × PV)) (h : hasForeignKvs kvs = true) : convDict kvs = none := by
  induction kvs with
  | nil => simp [hasForeignKvs] at h
  | cons kv rest ih =>
    obtain ⟨k, v⟩ := kv
    simp only [hasForeignKvs, Bool.or_eq_true] at h
    by_cases hu : v = .unset
    · subst hu
      simpa [convDict] using ih (h.resolve_left (by simp [hasForeign]))
    · rw [convDict_cons k v rest hu]
      rcases h with h | h
      · simp [convJson_foreign v h]
      · cases convJson v <;> simp [ih h]

end Ariadne.WsProofs
