/-
  C15: `ClientForwardRefsPlugin._update_imports` on the assembled client module — the loop of `_update_existing_imports`
  (`scanStep`), which import statements survive it (`keepTop`, on import statements `keepImp`), where it says the last
  import statement stands, what the module binds afterwards, and where a surviving name resolves to.
-/
import AriadneModel.Proofs.C15FwdModule
import AriadneModel.Proofs.C15ShorterModule


namespace Ariadne.C15
open Ariadne.Py Ariadne.Plugins Ariadne.ClientSem

/-- one iteration of the loop of `_update_existing_imports` -/
def scanStep (drop : List String) (acc : List Top × Nat) (i : Nat) (t : Top) : List Top × Nat :=
  match t with
  | .simple (.import_ _) => (acc.1 ++ [t], i)
  | .simple (.importFrom imp) =>
    if (imp.names.filter (fun n => !drop.contains n.1)).isEmpty then (acc.1, i)
    else (acc.1 ++ [.simple (.importFrom { imp with names := imp.names.filter (fun n => !drop.contains n.1) })], i)
  | _ => acc

theorem scan_cons (drop : List String) (t : Top) (rest : List Top) (i : Nat) (acc : List Top × Nat) :
    fwdScanImports drop (t :: rest) i acc = fwdScanImports drop rest (i + 1) (scanStep drop acc i t) := by
  obtain ⟨kept, last⟩ := acc
  cases t with
  | simple sm =>
    cases sm <;> simp only [fwdScanImports, scanStep]
    split <;> rfl
  | classDef _ => simp only [fwdScanImports, scanStep]
  | funcDef _ => simp only [fwdScanImports, scanStep]
  | ifStmt _ _ _ => simp only [fwdScanImports, scanStep]

theorem isImp_cases {t : Top} (h : isImp t = true) : (∃ imp, t = .simple (.importFrom imp)) ∨ ∃ d, t = .simple (.import_ d) := by
  cases t with
  | simple sm => cases sm <;> simp_all [isImp]
  | _ => simp [isImp] at h

theorem scanStep_nonimp (drop : List String) (acc : List Top × Nat) (i : Nat) (t : Top) (h : isImp t = false) :
    scanStep drop acc i t = acc := by
  cases t with
  | simple sm => cases sm <;> simp_all [isImp, scanStep]
  | classDef _ => rfl
  | funcDef _ => rfl
  | ifStmt _ _ _ => rfl

theorem scanStep_imp (drop : List String) (acc : List Top × Nat) (i : Nat) (t : Top) (h : isImp t = true) :
    (scanStep drop acc i t).2 = i := by
  rcases isImp_cases h with ⟨imp, rfl⟩ | ⟨d, rfl⟩
  · simp only [scanStep]; split <;> rfl
  · rfl

theorem scan_nonimp (drop : List String) : ∀ (ys : List Top) (i : Nat) (acc : List Top × Nat),
    (∀ t ∈ ys, isImp t = false) → fwdScanImports drop ys i acc = acc := by
  intro ys
  induction ys with
  | nil => intro i acc _; obtain ⟨k, l⟩ := acc; simp [fwdScanImports]
  | cons t rest ih =>
    intro i acc h
    rw [scan_cons, scanStep_nonimp drop acc i t (h t (by simp))]
    exact ih (i + 1) acc (fun u hu => h u (by simp [hu]))

theorem scan_append (drop : List String) : ∀ (xs ys : List Top) (i : Nat) (acc : List Top × Nat),
    fwdScanImports drop (xs ++ ys) i acc = fwdScanImports drop ys (i + xs.length) (fwdScanImports drop xs i acc) := by
  intro xs
  induction xs with
  | nil => intro ys i acc; obtain ⟨k, l⟩ := acc; simp [fwdScanImports]
  | cons t rest ih =>
    intro ys i acc
    rw [List.cons_append, scan_cons, scan_cons, ih]
    simp [Nat.add_assoc, Nat.add_comm 1]

/-- what `_update_existing_imports` keeps of one statement -/
def keepTop (drop : List String) : Top → Option Top
  | .simple (.import_ d) => some (.simple (.import_ d))
  | .simple (.importFrom imp) =>
    if (imp.names.filter (fun n => !drop.contains n.1)).isEmpty then none
    else some (.simple (.importFrom { imp with names := imp.names.filter (fun n => !drop.contains n.1) }))
  | _ => none

theorem keepTop_eq_some {drop : List String} {t t' : Top} (h : keepTop drop t = some t') :
    (∃ d, t = .simple (.import_ d) ∧ t' = t) ∨
    ∃ imp, t = .simple (.importFrom imp) ∧
      t' = .simple (.importFrom { imp with names := imp.names.filter (fun n => !drop.contains n.1) }) := by
  unfold keepTop at h
  split at h
  · cases h; exact .inl ⟨_, rfl, rfl⟩
  · split at h
    · cases h
    · cases h; exact .inr ⟨_, rfl, rfl⟩
  · cases h

theorem scanStep_keep (drop : List String) (acc : List Top × Nat) (i : Nat) (t : Top) :
    (scanStep drop acc i t).1 = acc.1 ++ (match keepTop drop t with | some t' => [t'] | none => []) := by
  unfold scanStep keepTop
  split
  · simp
  · split
    · simp only [List.append_nil]
    · rfl
  · simp

theorem scan_filterMap (drop : List String) : ∀ (xs : List Top) (i : Nat) (acc : List Top × Nat),
    (fwdScanImports drop xs i acc).1 = acc.1 ++ xs.filterMap (keepTop drop) := by
  intro xs
  induction xs with
  | nil => intro i acc; obtain ⟨k, l⟩ := acc; simp [fwdScanImports]
  | cons t rest ih =>
    intro i acc
    rw [scan_cons, ih, scanStep_keep]
    cases hk : keepTop drop t with
    | none => simp [hk]
    | some t' => simp [hk, List.append_assoc]

theorem exists_last_imp : ∀ {xs : List Top}, HasImp xs →
    ∃ a t b, xs = a ++ t :: b ∧ isImp t = true ∧ ∀ u ∈ b, isImp u = false
  | [], ⟨_, hu, _⟩ => by cases hu
  | t :: rest, ⟨u, hu, hiu⟩ => by
    by_cases hr : HasImp rest
    · obtain ⟨a, t', b, rfl, h1, h2⟩ := exists_last_imp hr
      exact ⟨t :: a, t', b, rfl, h1, h2⟩
    · refine ⟨[], t, rest, rfl, ?_, fun v hv => ?_⟩
      · rcases List.mem_cons.mp hu with rfl | hu'
        · exact hiu
        · exact absurd ⟨u, hu', hiu⟩ hr
      · cases hv' : isImp v
        · rfl
        · exact absurd ⟨v, hv, hv'⟩ hr

theorem scan_snd_last (drop : List String) (a : List Top) (t : Top) (b : List Top) (i : Nat) (acc : List Top × Nat)
    (ht : isImp t = true) (hb : ∀ u ∈ b, isImp u = false) :
    (fwdScanImports drop (a ++ t :: b) i acc).2 = i + a.length := by
  rw [scan_append, scan_cons, scan_nonimp drop b _ _ hb, scanStep_imp drop _ _ t ht]

def AllImp (pre : List Top) : Prop := ∀ t ∈ pre, isImp t = true

theorem scan_last (drop : List String) (xs : List Top) (i : Nat) (acc : List Top × Nat) (hall : AllImp xs) (hne : xs ≠ []) :
    (fwdScanImports drop xs i acc).2 + 1 = i + xs.length := by
  have hx := List.dropLast_concat_getLast hne
  rw [← hx, scan_snd_last drop _ _ [] i acc (hall _ (List.getLast_mem hne)) (fun _ h => by cases h)]
  simp only [List.length_append, List.length_cons, List.length_nil]
  omega

def NoAs (pre : List Top) : Prop := ∀ t ∈ pre, ∀ i, t = Top.simple (.importFrom i) → ∀ nm ∈ i.names, nm.2 = none

def keepImp (drop : List String) (imp : ImportFrom) : Option ImportFrom :=
  if (imp.names.filter (fun n => !drop.contains n.1)).isEmpty then none
  else some { imp with names := imp.names.filter (fun n => !drop.contains n.1) }

theorem keepTop_importFrom (drop : List String) (t : Top) :
    (keepTop drop t).bind Top.importFrom? = t.importFrom?.bind (keepImp drop) := by
  cases t with
  | simple sm =>
    cases sm with
    | importFrom imp => simp only [keepTop, keepImp, Top.importFrom?, Option.bind_some]; split <;> rfl
    | _ => rfl
  | _ => rfl

theorem keep_imports (drop : List String) (pre : List Top) :
    importsOfTops (pre.filterMap (keepTop drop)) = (importsOfTops pre).filterMap (keepImp drop) := by
  unfold importsOfTops
  rw [List.filterMap_filterMap, List.filterMap_filterMap]
  exact congrArg (fun f => List.filterMap f pre) (funext (keepTop_importFrom drop))

theorem mem_importsOfTops {pre : List Top} {i : ImportFrom} : i ∈ importsOfTops pre ↔ Top.simple (.importFrom i) ∈ pre := by
  unfold importsOfTops
  rw [List.mem_filterMap]
  constructor
  · rintro ⟨t, ht, hi⟩
    cases t with
    | simple sm => cases sm <;> simp_all [Top.importFrom?]
    | _ => simp [Top.importFrom?] at hi
  · exact fun h => ⟨_, h, rfl⟩

theorem keepImp_eq_some {drop : List String} {i i' : ImportFrom} (h : keepImp drop i = some i') :
    i' = { i with names := i.names.filter (fun n => !drop.contains n.1) } := by
  unfold keepImp at h
  split at h
  · cases h
  · cases h; rfl

theorem keep_names (drop : List String) (pre : List Top) (hall : AllImp pre) (hno : NoAs pre) (n : String)
    (hn : n ∈ namesOfTops pre) (hnd : n ∉ drop) : n ∈ namesOfTops (pre.filterMap (keepTop drop)) := by
  simp only [namesOfTops, moduleNames, List.mem_flatMap] at hn ⊢
  obtain ⟨t, ht, hnt⟩ := hn
  rcases isImp_cases (hall t ht) with ⟨imp, rfl⟩ | ⟨d, rfl⟩
  · obtain ⟨nm, hnm, hbound⟩ := List.mem_map.mp hnt
    have hnone := hno _ ht imp rfl nm hnm
    rw [hnone] at hbound
    simp only [Option.getD_none] at hbound
    have hkeep : nm ∈ imp.names.filter (fun n => !drop.contains n.1) :=
      List.mem_filter.mpr ⟨hnm, by rw [hbound]; simpa using hnd⟩
    have hne : (imp.names.filter (fun n => !drop.contains n.1)).isEmpty = false := by
      cases hf : imp.names.filter (fun n => !drop.contains n.1) with
      | nil => rw [hf] at hkeep; cases hkeep
      | cons _ _ => rfl
    refine ⟨.simple (.importFrom { imp with names := imp.names.filter (fun n => !drop.contains n.1) }),
      List.mem_filterMap.mpr ⟨_, ht, by simp only [keepTop, hne, Bool.false_eq_true, ↓reduceIte]⟩, ?_⟩
    exact List.mem_map.mpr ⟨nm, hkeep, by rw [hnone]; exact hbound⟩
  · cases hnt

theorem keep_bindings (drop : List String) (pre : List Top) (hno : NoAs pre) (n : String) (hnd : n ∉ drop) :
    alookup n (importBindings (importsOfTops (pre.filterMap (keepTop drop)))) = alookup n (importBindings (importsOfTops pre)) := by
  rw [keep_imports]
  have hno' : ∀ i ∈ importsOfTops pre, ∀ nm ∈ i.names, nm.2 = none :=
    fun i hi => hno _ (mem_importsOfTops.mp hi) i rfl
  generalize importsOfTops pre = is at hno' ⊢
  induction is with
  | nil => rfl
  | cons imp rest ih =>
    have e0 : ∀ l : List ImportFrom, importBindings (imp :: l) = importBindings [imp] ++ importBindings l :=
      fun l => importBindings_append [imp] l
    have ihr := ih (fun i hi => hno' i (by simp [hi]))
    have hent : ∀ (names : List (String × Option String)), (∀ nm ∈ names, nm.2 = none) →
        alookup n (importBindings [({ imp with names := names.filter (fun n => !drop.contains n.1) } : ImportFrom)]) =
          alookup n (importBindings [({ imp with names := names } : ImportFrom)]) := by
      intro names hnm
      simp only [importBindings, List.flatMap_cons, List.flatMap_nil, List.append_nil]
      cases hm : imp.module with
      | none => rfl
      | some mname =>
        simp only
        induction names with
        | nil => rfl
        | cons a as iha =>
          have ha := hnm a (by simp)
          have has : ∀ nm ∈ as, nm.2 = none := fun nm h => hnm nm (by simp [h])
          by_cases hd : drop.contains a.1 = true
          · have hne : a.1 ≠ n := by
              intro hc; rw [hc] at hd; exact hnd (by simpa using hd)
            simp only [List.filter_cons, hd, Bool.not_true, Bool.false_eq_true, ↓reduceIte, List.map_cons, alookup, ha,
              Option.getD_none, hne]
            exact iha has
          · simp only [List.filter_cons, hd, Bool.not_false, ↓reduceIte, List.map_cons, alookup, ha, Option.getD_none]
            by_cases hk : a.1 = n
            · simp [hk]
            · simp only [hk, ↓reduceIte]; exact iha has
    have hnames := hno' imp (by simp)
    rw [e0, alookup_append, ← hent imp.names hnames, ← ihr]
    simp only [List.filterMap_cons]
    cases hk : keepImp drop imp with
    | none =>
      -- nothing of the statement survives: it bound no name that is not taken out
      have hnil : imp.names.filter (fun n => !drop.contains n.1) = [] := by
        unfold keepImp at hk
        split at hk
        · rename_i h; simpa using h
        · cases hk
      rw [hnil]
      have h0 : alookup n (importBindings [({ imp with names := [] } : ImportFrom)]) = none := by
        simp only [importBindings, List.flatMap_cons, List.flatMap_nil, List.append_nil]
        cases imp.module <;> rfl
      rw [h0]
    | some i' =>
      simp only
      rw [show importBindings (i' :: rest.filterMap (keepImp drop)) = importBindings [i'] ++ importBindings (rest.filterMap (keepImp drop))
        from importBindings_append [i'] _, alookup_append, keepImp_eq_some hk]

theorem keep_provenance (drop : List String) (pre : List Top) (i' : ImportFrom)
    (h : i' ∈ importsOfTops (pre.filterMap (keepTop drop))) : ∃ i ∈ importsOfTops pre, i'.module = i.module ∧ i'.level = i.level := by
  rw [keep_imports, List.mem_filterMap] at h
  obtain ⟨i, hi, hk⟩ := h
  rw [keepImp_eq_some hk]
  exact ⟨i, hi, rfl, rfl⟩

theorem keep_isImp (drop : List String) (pre : List Top) (t' : Top) (h : t' ∈ pre.filterMap (keepTop drop)) : isImp t' = true := by
  simp only [List.mem_filterMap] at h
  obtain ⟨t, _, hkt⟩ := h
  rcases keepTop_eq_some hkt with ⟨d, rfl, rfl⟩ | ⟨imp, rfl, rfl⟩ <;> rfl

end Ariadne.C15
