/-
  Property C01: the abstract-positions tier (Proofs/C01Abs.lean) carried to the pipeline
  statement `claimB`:   ValidInput inp → AbsInput inp → nodupKeys j → claimB inp k j = true.
  Here: the selection sets an operation marks (`opNeed`), the threaded region predicate position by position (`absOpsOK_get`),
  and a concrete input of the region; the theorem itself (`claimB_abs`) is the case without fragment definitions of
  `claimB_absOps`, Proofs/C01BridgeMA.lean.

  `AbsInput` (decidable, Proofs/C01Regions.lean): no fragment definitions, `schemaOK`, `NoCondTypename` (named separately: it is
  the trigger of finding C01-F10, conditional `__typename`; `AbsOK` implies it for the operations, and the proof does not use
  it), and the operations IN ORDER with the marks threaded as `PackageGenerator` does (`absOpsOK`): operation `i` is `absOpOK`
  in the generator state whose marks are those left by operations `0..i-1` (`needSids` of each).
  The document of operation `k` is sent with the marks accumulated up to and including operation `k`.
-/
import AriadneModel.Proofs.C01Abs
import AriadneModel.Proofs.C01BridgePlain


namespace Ariadne.C01
open Ariadne Ariadne.Gql Ariadne.ResultTypes Ariadne.Triggers01 Ariadne.C01Plain Ariadne.C01Abs

theorem contains_congr {ms ms' : List Nat} (h : ∀ m, m ∈ ms ↔ m ∈ ms') : ms.contains = ms'.contains := by
  funext m
  cases hc : ms'.contains m with
  | true => simpa using (h m).mpr (by simpa using hc)
  | false =>
    have : m ∉ ms' := by simpa using hc
    simpa using fun hm => this ((h m).mp hm)

theorem AbsOK_congr (env : ResultTypes.Env) (cn tn : String) (sid : Nat) (sel : List Selection) (ms ms' : List Nat)
    (h : ∀ m, m ∈ ms ↔ m ∈ ms') :
    AbsOK env cn tn sid sel { marks := ms } = AbsOK env cn tn sid sel { marks := ms' } := by
  have : (ms ++ needSids env cn tn sel).contains = (ms' ++ needSids env cn tn sel).contains :=
    contains_congr (fun m => by simp [List.mem_append, h m])
  have e2 : (ms ++ needSids env cn tn sel).contains sid = (ms' ++ needSids env cn tn sel).contains sid := congrFun this sid
  simp only [AbsOK, this, e2]

theorem absOpOK_congr (env : ResultTypes.Env) (K F : Nat) (o : Operation) (ms ms' : List Nat) (h : ∀ m, m ∈ ms ↔ m ∈ ms') :
    absOpOK env K F o ms = absOpOK env K F o ms' := by
  unfold absOpOK
  cases o.name with
  | none => rfl
  | some n =>
    cases Validate.rootOf env.schema o with
    | none => rfl
    | some tn => simp only [AbsOK_congr env (pascal n) tn o.sid o.sel ms ms' h]

def opNeed (env : ResultTypes.Env) (o : Operation) : List Nat :=
  match o.name, Validate.rootOf env.schema o with
  | some n, some tn => needSids env (pascal n) tn o.sel
  | _, _ => []

theorem opMarks_eq (env : ResultTypes.Env) (o : Operation) (ms : List Nat) : opMarks env o ms = ms ++ opNeed env o := by
  unfold opMarks opNeed
  cases o.name <;> cases Validate.rootOf env.schema o <;> simp

theorem absOpOK_spec {env : ResultTypes.Env} {K F : Nat} {o : Operation} {ms : List Nat} (h : absOpOK env K F o ms = true) :
    ∃ n tn, o.name = some n ∧ Validate.rootOf env.schema o = some tn ∧
      (o.dirs.any (·.name == Tables.mixinName)) = false ∧
      AbsOK env (pascal n) tn o.sid o.sel { marks := ms } = true ∧
      "BaseModel" ∉ (aClass env (pascal n) tn [] false o.sel).map (·.name) ∧
      agfuel o.sel ≤ Triggers01.fuel ∧ agfuel o.sel + K ≤ execFuel ∧ avneed env (pascal n) tn o.sel + 4 + F ≤ execFuel ∧
      opNeed env o = needSids env (pascal n) tn o.sel := by
  unfold absOpOK at h
  cases hn : o.name with
  | none => simp [hn] at h
  | some n =>
    cases hr : Validate.rootOf env.schema o with
    | none => simp [hn, hr] at h
    | some tn =>
      simp only [hn, hr, Bool.and_eq_true, Bool.not_eq_true', decide_eq_true_eq] at h
      obtain ⟨⟨⟨⟨⟨h1, h2⟩, h3⟩, h4⟩, h5⟩, h6⟩ := h
      exact ⟨n, tn, rfl, rfl, h1, h2, NoShadowedImport_baseModel h3, h4, h5, h6, by simp [opNeed, hn, hr]⟩

theorem generate_abs (env : ResultTypes.Env) (K : Nat) (hfr : C01Mix.FragsOK env K) (o : Operation) (n tn : String) (ms : List Nat)
    (hn : o.name = some n) (hroot : Validate.rootOf env.schema o = some tn)
    (hmix : (o.dirs.any (·.name == Tables.mixinName)) = false)
    (hok : AbsOK env (pascal n) tn o.sid o.sel { marks := ms } = true) (fuel : Nat) (hf : agfuel o.sel ≤ fuel) :
    ∃ out, generate env fuel (.op o) ms = .ok out ∧
      (∀ m, m ∈ out.st.marks ↔ m ∈ ms ++ needSids env (pascal n) tn o.sel) ∧
      out.classes = aClass env (pascal n) tn [] false o.sel ∧ out.st.unpacked = [] := by
  obtain ⟨st', hgen, _, hmk, hup⟩ := abs_generation env K hfr (pascal n) tn o.sid o.sel { marks := ms } hok fuel hf
  exact ⟨_, generate_of_parse env fuel o n tn ms hn hroot hmix hgen, hmk, rfl, hup⟩

/-- the threaded region predicate, position by position: operation `i` is `absOpOK` with any list of the marks
    (`ms` and) its predecessors leave -/
theorem absOpsOK_get {env : ResultTypes.Env} {K F : Nat} : ∀ {ops : List Operation} {ms : List Nat},
    absOpsOK env K F ops ms = true → ∀ i o, ops[i]? = some o →
      ∀ ms', (∀ m, m ∈ ms' ↔ m ∈ ms ∨ m ∈ (ops.take i).flatMap (opNeed env)) → absOpOK env K F o ms' = true
  | [], _, _, i, o, hi, _, _ => by simp at hi
  | o0 :: rest, ms, h, i, o, hi, ms', hms' => by
    simp only [absOpsOK, Bool.and_eq_true] at h
    cases i with
    | zero =>
      cases (by simpa using hi : o0 = o)
      rw [absOpOK_congr env K F o0 ms' ms (fun m => by simpa using hms' m)]
      exact h.1
    | succ i =>
      refine absOpsOK_get h.2 i o (by simpa using hi) ms' (fun m => ?_)
      rw [hms' m, opMarks_eq]
      simp [or_assoc]

theorem mem_finalMarks (env : ResultTypes.Env) (m : Nat) : ∀ (ops : List Operation) (ms : List Nat),
    m ∈ finalMarks env ops ms ↔ m ∈ ms ∨ m ∈ ops.flatMap (opNeed env)
  | [], ms => by simp [finalMarks]
  | o :: rest, ms => by
    rw [finalMarks, mem_finalMarks env m rest, opMarks_eq]
    simp [or_assoc]

theorem absOpsOK_congr (env : ResultTypes.Env) (K F : Nat) : ∀ (ops : List Operation) (ms ms' : List Nat), (∀ m, m ∈ ms ↔ m ∈ ms') →
    absOpsOK env K F ops ms = absOpsOK env K F ops ms'
  | [], _, _, _ => rfl
  | o :: rest, ms, ms', h => by
    simp only [absOpsOK, absOpOK_congr env K F o ms ms' h,
      absOpsOK_congr env K F rest (opMarks env o ms) (opMarks env o ms') (fun m => by simp [opMarks_eq, h m])]

theorem finalMarks_congr (env : ResultTypes.Env) : ∀ (ops : List Operation) (ms ms' : List Nat), (∀ m, m ∈ ms ↔ m ∈ ms') →
    ∀ m, m ∈ finalMarks env ops ms ↔ m ∈ finalMarks env ops ms' :=
  fun ops ms ms' h m => by rw [mem_finalMarks, mem_finalMarks, h m]

/-- non-vacuity: two operations, both with abstract positions (interface with inline fragments, list of union, interface below an
    object below an interface); the answer of the first is the one of Proofs/C01Abs.lean, conformant for the document as sent -/
def abInp : Input :=
  { env := C01Abs.axEnv,
    ops := [{ kind := .query, name := some "Q", sid := 1, sel := C01Abs.axSel },
            { kind := .query, name := some "Other", sid := 20,
              sel := [.field none "search" [] 21 [.inline (some "Post") [] 22 [.field none "author" [] 23 [.field none "pet" [] 24
                [.field none "id" [] 0 []]]]]] }] }
theorem abInp_nonvacuous : ValidInput abInp ∧ AbsInput abInp ∧ nodupKeys C01Abs.axResp = true
    ∧ marksAfter ((run abInp).ops.take 1) = [2, 7] ∧ marksAfter ((run abInp).ops.take 2) = [2, 7, 21, 24]
    ∧ Exec.respOK abInp.env.schema [] execFuel "Query" (Marks.applySels [2, 7] C01Abs.axSel) C01Abs.axResp = true
    ∧ claimB abInp 0 C01Abs.axResp = true := by decide +kernel



end Ariadne.C01
