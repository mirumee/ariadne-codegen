/-
  Lemmas about Model/NameScopes.lean (C18): the scope of a generated client method and the scope of a result class.
  Method: the helper locals are renamed around the parameters and stay distinct (`rename_cases`, `locals_distinct`;
  the same two facts about the copy of `get_variable_names` in Model/ClientMethod.lean, which C13 uses, are in
  Proofs/SubscriptionMethod.lean).  The body is put in closed form once (`runBody_eq`: five decision points, each a
  lookup in the environment a call starts with, `env0`); from it, exactly when a call hands `execute` what the property
  demands (`runBody_ok_iff`) and that no read hits an unbound name (`runBody_no_nameError`).
  Class: where no fragment becomes a base class the class carries the keys that were resolved
  (`effectiveSels_of_no_bases`), and where the generator's type tests agree with GraphQL those are the keys GraphQL
  collects (`effectiveSels_eq_collect`).
-/
import AriadneModel.Model.NameScopes

namespace Ariadne.NameScopes
open Ariadne.Names

theorem docParams_eq_scopeNames (sn : Bool) (vars : List Var) :
    docParams sn vars = scopeNames sn .variable (vars.map (·.name)) := by
  simp [docParams, scopeNames, paramOf, List.map_map, Function.comp_def]

theorem mem_params (sn : Bool) (vars : List Var) (p : Name) : p ∈ params sn vars ↔ p ∈ docParams sn vars := by
  simp only [params, docParams, List.mem_append, List.mem_map, List.mem_filter]
  constructor
  · rintro (⟨v, ⟨hv, _⟩, rfl⟩ | ⟨v, ⟨hv, _⟩, rfl⟩) <;> exact ⟨v, hv, rfl⟩
  · rintro ⟨v, hv, rfl⟩
    cases hr : v.required
    · exact Or.inr ⟨v, ⟨hv, by simp [hr]⟩, rfl⟩
    · exact Or.inl ⟨v, ⟨hv, hr⟩, rfl⟩

theorem mem_argNames (sn : Bool) (vars : List Var) (p : Name) :
    p ∈ argNames sn vars ↔ p = selfName ∨ p ∈ docParams sn vars := by
  simp [argNames, mem_params]

theorem contains_false {l : List Name} {x : Name} (h : l.contains x = false) : x ∉ l :=
  fun hm => Bool.false_ne_true (h ▸ List.contains_iff_mem.mpr hm)

theorem contains_true {l : List Name} {x : Name} (h : x ∈ l) : l.contains x = true := by simpa using h

theorem rename_cases (args : List Name) (h : Name) :
    (h ∈ args ∧ rename args h = '_' :: h) ∨ (h ∉ args ∧ rename args h = h) := by
  unfold rename
  by_cases hc : h ∈ args
  · left; simp [hc]
  · right; simp [hc]

theorem rename_eq_or (args : List Name) (h : Name) : rename args h = h ∨ rename args h = '_' :: h := by
  rcases rename_cases args h with ⟨_, e⟩ | ⟨_, e⟩ <;> simp [e]

theorem rename_query_ne (args : List Name) :
    rename args queryLocal ≠ selfName ∧ serName ≠ rename args queryLocal := by
  have table : ∀ h ∈ [queryLocal, '_' :: queryLocal], h ≠ selfName ∧ serName ≠ h := by decide
  rcases rename_eq_or args queryLocal with e | e <;> rw [e] <;> exact table _ (by simp)

theorem locals_distinct (args : List Name) :
    let L := getVariableNames args
    L.v ≠ L.q ∧ L.r ≠ L.q ∧ L.r ≠ L.v ∧ L.d ≠ L.q ∧ L.d ≠ L.v ∧ L.d ≠ L.r := by
  -- one evaluation over both spellings of the four locals
  have table : ∀ q ∈ [queryLocal, '_' :: queryLocal], ∀ v ∈ [variablesLocal, '_' :: variablesLocal],
      ∀ r ∈ [responseLocal, '_' :: responseLocal], ∀ d ∈ [dataLocal, '_' :: dataLocal],
      v ≠ q ∧ r ≠ q ∧ r ≠ v ∧ d ≠ q ∧ d ≠ v ∧ d ≠ r := by decide
  have mem : ∀ h, rename args h ∈ [h, '_' :: h] := fun h => by
    rcases rename_eq_or args h with e | e <;> simp [e]
  exact table _ (mem _) _ (mem _) _ (mem _) _ (mem _)

theorem lookupVal_head (k : Name) (v : Val) (env : Env) : lookupVal ((k, v) :: env) k = .ok v := by
  simp [lookupVal, List.lookup]

theorem lookup_cons_ne (k n : Name) (v : Val) (env : Env) (h : n ≠ k) :
    (((k, v) :: env : Env)).lookup n = env.lookup n := by
  have : (n == k) = false := by simpa using h
  simp [List.lookup, this]

theorem lookupVal_skip (k n : Name) (v : Val) (env : Env) (h : n ≠ k) :
    lookupVal ((k, v) :: env) n = lookupVal env n := by
  simp only [lookupVal, lookup_cons_ne k n v env h]

theorem lookup_append_none (pre rest : Env) (n : Name) (h : pre.lookup n = none) :
    (pre ++ rest).lookup n = rest.lookup n := by
  rw [List.lookup_append, h]; rfl

theorem readAll_cons_ok (env : Env) (p : Name) (ps : List Name) (v : Val) (vs : List Val)
    (h1 : lookupVal env p = .ok v) (h2 : readAll env ps = .ok vs) : readAll env (p :: ps) = .ok (v :: vs) := by
  simp [readAll, h1, h2]

theorem readAll_bindArgs (post : Env) : ∀ (ps : List Name) (pre : Env) (k : Nat),
    (∀ p ∈ ps, pre.lookup p = none) → ps.Nodup →
    readAll (pre ++ (bindArgs k ps ++ post)) ps = .ok (argVals k ps.length)
  | [], pre, k, _, _ => rfl
  | p :: ps, pre, k, hpre, hnd => by
    have hp : pre.lookup p = none := hpre p (by simp)
    have h1 : lookupVal (pre ++ (bindArgs k (p :: ps) ++ post)) p = .ok (.arg k) := by
      simp [lookupVal, lookup_append_none pre _ p hp, bindArgs, List.lookup]
    have hnd' := List.nodup_cons.mp hnd
    have hpre' : ∀ p' ∈ ps, (pre ++ [(p, Val.arg k)]).lookup p' = none := by
      intro p' hp'
      rw [lookup_append_none pre _ p' (hpre p' (by simp [hp']))]
      rw [lookup_cons_ne p p' _ _ fun e => hnd'.1 (e ▸ hp')]; rfl
    have ih := readAll_bindArgs post ps (pre ++ [(p, Val.arg k)]) (k + 1) hpre' hnd'.2
    have e : pre ++ (bindArgs k (p :: ps) ++ post) = (pre ++ [(p, Val.arg k)]) ++ (bindArgs (k + 1) ps ++ post) := by
      simp [bindArgs]
    rw [e] at h1 ⊢
    exact readAll_cons_ok _ p ps _ _ h1 ih

theorem mem_argVals {v : Val} : ∀ (n k : Nat), v ∈ argVals k n → ∃ i, v = .arg i
  | 0, _, h => by simp [argVals] at h
  | n + 1, k, h => by
    rcases List.mem_cons.mp h with e | h'
    · exact ⟨k, e⟩
    · exact mem_argVals n (k + 1) h'

theorem text_not_mem_argVals (n k : Nat) : Val.text ∉ argVals k n := fun h => by
  obtain ⟨i, e⟩ := mem_argVals n k h
  cases e

theorem readAll_mem (env : Env) (p : Name) (v : Val) (hv : env.lookup p = some v) :
    ∀ (ps : List Name) (vals : List Val), readAll env ps = .ok vals → p ∈ ps → v ∈ vals
  | [], _, _, hp => by simp at hp
  | p' :: ps, vals, h, hp => by
    simp only [readAll] at h
    cases h1 : lookupVal env p' with
    | error e => simp [h1] at h
    | ok v' =>
      cases h2 : readAll env ps with
      | error e => simp [h1, h2] at h
      | ok vs =>
        simp only [h1, h2, Except.ok.injEq] at h
        subst h
        rcases List.mem_cons.mp hp with e | hp'
        · subst e
          have : v' = v := by
            simp only [lookupVal, hv, Except.ok.injEq] at h1
            exact h1.symm
          simp [this]
        · exact List.mem_cons_of_mem _ (readAll_mem env p v hv ps vs h2 hp')

theorem lookup_bindArgs_none (n : Name) : ∀ (ps : List Name) (k : Nat), n ∉ ps → (bindArgs k ps).lookup n = none
  | [], _, _ => rfl
  | p :: ps, k, h => by
    have h1 : n ≠ p := fun e => h (e ▸ List.mem_cons_self)
    have h2 : n ∉ ps := fun hm => h (List.mem_cons_of_mem _ hm)
    rw [bindArgs, lookup_cons_ne _ _ _ _ h1]
    exact lookup_bindArgs_none n ps (k + 1) h2

theorem lookup_bindArgs_some (n : Name) : ∀ (ps : List Name) (k : Nat), n ∈ ps → ∃ v, (bindArgs k ps).lookup n = some v
  | [], _, h => by simp at h
  | p :: ps, k, h => by
    by_cases e : n = p
    · subst e; exact ⟨.arg k, by simp [bindArgs]⟩
    · have hm : n ∈ ps := by
        rcases List.mem_cons.mp h with h | h
        · exact absurd h e
        · exact h
      obtain ⟨v, hv⟩ := lookup_bindArgs_some n ps (k + 1) hm
      exact ⟨v, by rw [bindArgs, lookup_cons_ne _ _ _ _ e]; exact hv⟩

/-- the environment a call starts with -/
def env0 (ps : List Name) : Env := (selfName, .selfV) :: (bindArgs 0 ps ++ [(kwargsName, .kwargsV)])

theorem env0_lookup_none (n : Name) (ps : List Name) (h1 : n ≠ selfName) (h2 : n ≠ kwargsName) (h3 : n ∉ ps) :
    (env0 ps).lookup n = none := by
  rw [env0, lookup_cons_ne _ _ _ _ h1, lookup_append_none _ _ _ (lookup_bindArgs_none n ps 0 h3),
    lookup_cons_ne _ _ _ _ h2]; rfl

theorem lookup_append_some (pre rest : Env) (n : Name) (v : Val) (h : pre.lookup n = some v) :
    (pre ++ rest).lookup n = some v := by
  rw [List.lookup_append, h]; rfl

theorem env0_lookup_some (n : Name) (ps : List Name) (h1 : n ≠ selfName) (h3 : n ∈ ps) :
    ∃ v, (env0 ps).lookup n = some v := by
  obtain ⟨v, hv⟩ := lookup_bindArgs_some n ps 0 h3
  exact ⟨v, by rw [env0, lookup_cons_ne _ _ _ _ h1]; exact lookup_append_some _ _ _ _ hv⟩

theorem applySer_length : ∀ (fs : List Bool) (vs : List Val), (applySer fs vs).length = vs.length
  | _, [] => by simp [applySer]
  | [], v :: vs => by simp [applySer, applySer_length [] vs]
  | f :: fs, v :: vs => by simp [applySer, applySer_length fs vs]

theorem applySer_inj : ∀ (fs : List Bool) (a b : List Val), applySer fs a = applySer fs b → a = b
  | _, [], [], _ => rfl
  | fs, [], y :: b, h => by cases fs <;> simp [applySer] at h
  | fs, x :: a, [], h => by cases fs <;> simp [applySer] at h
  | [], x :: a, y :: b, h => by
    simp only [applySer, List.cons.injEq] at h
    rw [h.1, applySer_inj [] a b h.2]
  | f :: fs, x :: a, y :: b, h => by
    simp only [applySer, List.cons.injEq] at h
    have hx : x = y := by
      cases f
      · simpa using h.1
      · simpa using h.1
    rw [hx, applySer_inj fs a b h.2]

theorem mem_applySer_cases {v : Val} : ∀ (fs : List Bool) (vs : List Val), v ∈ applySer fs vs → ∃ x ∈ vs, v = x ∨ v = .ser x
  | _, [], h => by simp [applySer] at h
  | [], x :: vs, h => by
    rcases List.mem_cons.mp h with e | h'
    · exact ⟨x, by simp, Or.inl e⟩
    · obtain ⟨y, hy, e⟩ := mem_applySer_cases [] vs h'
      exact ⟨y, by simp [hy], e⟩
  | f :: fs, x :: vs, h => by
    rcases List.mem_cons.mp h with e | h'
    · exact ⟨x, by simp, by cases f <;> simp [e]⟩
    · obtain ⟨y, hy, e⟩ := mem_applySer_cases fs vs h'
      exact ⟨y, by simp [hy], e⟩

theorem text_not_mem_applySer_argVals : ∀ (fs : List Bool) (n k : Nat), Val.text ∉ applySer fs (argVals k n) := by
  intro fs n k h
  obtain ⟨x, hx, e⟩ := mem_applySer_cases fs _ h
  obtain ⟨i, rfl⟩ := mem_argVals n k hx
  rcases e with e | e <;> cases e

theorem mem_applySer (v : Val) : ∀ (fs : List Bool) (vs : List Val), v ∈ vs → v ∈ applySer fs vs ∨ Val.ser v ∈ applySer fs vs
  | _, [], h => by simp at h
  | [], x :: vs, h => by
    rcases List.mem_cons.mp h with e | h'
    · left; simp [applySer, e]
    · rcases mem_applySer v [] vs h' with h2 | h2
      · left; simp [applySer, h2]
      · right; simp [applySer, h2]
  | f :: fs, x :: vs, h => by
    rcases List.mem_cons.mp h with e | h'
    · cases f
      · left; simp [applySer, e]
      · right; simp [applySer, e]
    · rcases mem_applySer v fs vs h' with h2 | h2
      · left; simp [applySer, h2]
      · right; simp [applySer, h2]

theorem ser_text_not_mem_applySer_argVals : ∀ (fs : List Bool) (n k : Nat), Val.ser Val.text ∉ applySer fs (argVals k n) := by
  intro fs n k h
  obtain ⟨x, hx, e⟩ := mem_applySer_cases fs _ h
  obtain ⟨i, rfl⟩ := mem_argVals n k hx
  rcases e with e | e <;> cases e

theorem readAll_ok_of_bound (env : Env) : ∀ (ps : List Name), (∀ p ∈ ps, ∃ v, env.lookup p = some v) → ∃ vals, readAll env ps = .ok vals
  | [], _ => ⟨[], rfl⟩
  | p :: ps, h => by
    obtain ⟨v, hv⟩ := h p (by simp)
    obtain ⟨vs, hvs⟩ := readAll_ok_of_bound env ps (fun q hq => h q (by simp [hq]))
    exact ⟨v :: vs, by simp [readAll, lookupVal, hv, hvs]⟩

theorem lookup_cons_isSome (k n : Name) (v : Val) (env : Env) :
    ((((k, v) :: env : Env)).lookup n).isSome = true ↔ n = k ∨ (env.lookup n).isSome = true := by
  by_cases e : n = k
  · rw [e, List.lookup_cons_self]; exact iff_of_true rfl (Or.inl rfl)
  · rw [lookup_cons_ne _ _ _ _ e]; exact (or_iff_right e).symm

theorem validateWith_eq (env : Env) (ret : Name) (d : Val) :
    validateWith env ret d = if (env.lookup ret).isSome then .error (.noAttribute ret) else .ok (.parsed d) := by
  unfold validateWith
  cases env.lookup ret <;> rfl

theorem lookupVal_second (x : Val) (a b : Name) (env : Env) :
    lookupVal ((a, x) :: (b, Val.text) :: env) b = .ok (if b = a then x else .text) := by
  by_cases e : b = a
  · rw [if_pos e, e]; exact lookupVal_head _ _ _
  · rw [if_neg e, lookupVal_skip _ _ _ _ e]; exact lookupVal_head _ _ _

theorem ite_error_ok {ε α : Type} {c : Prop} [Decidable c] {e : ε} {b : Except ε α} {s : α}
    (h : (if c then .error e else b) = .ok s) : ¬c ∧ b = .ok s := by
  split at h
  · cases h
  · exact ⟨‹_›, h⟩

theorem ite_ne {α : Type} {c : Prop} [Decidable c] {a b x : α} (ha : a ≠ x) (hb : b ≠ x) : (if c then a else b) ≠ x := by
  split <;> assumption

theorem eq_ite_of {α : Type} {c : Prop} [Decidable c] {x a b : α} (h1 : c → x = a) (h2 : ¬c → x = b) : x = if c then a else b := by
  split <;> simp [*]

theorem globals_ne_own : gqlName ≠ selfName ∧ gqlName ≠ kwargsName ∧ serName ≠ selfName ∧ serName ≠ kwargsName := by
  decide

theorem env0_lookup_isSome (n : Name) (ps : List Name) (h1 : n ≠ selfName) (h2 : n ≠ kwargsName) :
    ((env0 ps).lookup n).isSome = true ↔ n ∈ ps := by
  constructor
  · intro h
    apply Classical.byContradiction
    intro hn
    rw [env0_lookup_none n ps h1 h2 hn] at h
    cases h
  · exact fun h => Option.isSome_iff_exists.mpr (env0_lookup_some n ps h1 h)

/-- the body in closed form: its only decision points are whether `gql` is shadowed, whether the dict reads
    succeed, whether the serialize function is shadowed when needed, whether the `query` local is the
    `variables` local, and whether the result class is bound in the function -/
theorem runBody_eq (sub : Bool) (L : Locals) (ret : Name) (wires : List Name) (flags : List Bool) (reads ps : List Name) :
    runBody sub L ret wires flags reads ps =
      if ((env0 ps).lookup gqlName).isSome then .error (.notCallable gqlName)
      else match readAll ((L.q, Val.text) :: env0 ps) reads with
        | .error e => .error e
        | .ok vals0 =>
          if flags.any id && (((L.q, Val.text) :: env0 ps : Env).lookup serName).isSome then .error (.notCallable serName)
          else
            let v := Val.dict wires (applySer flags vals0)
            let q := if L.q = L.v then v else Val.text
            if ret = L.d ∨ (sub = false ∧ ret = L.r) ∨ ret = L.v ∨ ret = L.q ∨ ((env0 ps).lookup ret).isSome
            then .error (.noAttribute ret)
            else .ok ⟨q, v, .parsed (.data (.resp q v))⟩ := by
  unfold runBody
  dsimp only
  rw [← env0]
  cases (env0 ps).lookup gqlName with
  | some x => rfl
  | none =>
  dsimp only [Option.isSome_none]
  rw [if_neg Bool.false_ne_true]
  cases readAll ((L.q, Val.text) :: env0 ps) reads with
  | error e => rfl
  | ok vals =>
    cases (flags.any id && (((L.q, Val.text) :: env0 ps : Env).lookup serName).isSome) with
    | true => rfl
    | false =>
      simp only [lookupVal_head, lookupVal_second, validateWith_eq, lookup_cons_isSome]
      cases sub <;>
        simp only [Bool.false_eq_true, Bool.true_eq_false, eq_self, if_true, if_false, true_and, false_and, false_or] <;>
        refine eq_ite_of (fun h => ?_) (fun h => ?_) <;> first | rw [if_pos h] | rw [if_neg h]

theorem runMethod_of_not_compiles (sn sub : Bool) (ret : Name) (vars : List Var) (h : defCompiles sn vars = false) :
    runMethod sn sub ret vars = .error .syntaxError := by
  simp [runMethod, h]

theorem runBody_ok_iff (sub : Bool) (L : Locals) (ret : Name) (wires : List Name) (flags : List Bool) (ps : List Name)
    (hself : selfName ∉ ps) (hnd : ps.Nodup) (hvq : L.v ≠ L.q)
    (hr1 : ret ≠ selfName) (hr2 : ret ≠ kwargsName)
    (hrq : ret ≠ L.q) (hrv : ret ≠ L.v) (hrr : ret ≠ L.r) (hrd : ret ≠ L.d) (hsq : serName ≠ L.q) :
    runBody sub L ret wires flags ps ps = .ok
      ⟨.text, .dict wires (applySer flags (argVals 0 ps.length)),
       .parsed (.data (.resp .text (.dict wires (applySer flags (argVals 0 ps.length)))))⟩ ↔
      (gqlName ∉ ps ∧ L.q ∉ ps ∧ (flags.any id = true → serName ∉ ps) ∧ ret ∉ ps) := by
  have hgql := env0_lookup_isSome gqlName ps globals_ne_own.1 globals_ne_own.2.1
  have hser : (((L.q, Val.text) :: env0 ps : Env).lookup serName).isSome = true ↔ serName ∈ ps := by
    rw [lookup_cons_ne _ _ _ _ hsq]; exact env0_lookup_isSome serName ps globals_ne_own.2.2.1 globals_ne_own.2.2.2
  have hret := env0_lookup_isSome ret ps hr1 hr2
  have hretc : (ret = L.d ∨ (sub = false ∧ ret = L.r) ∨ ret = L.v ∨ ret = L.q ∨ ((env0 ps).lookup ret).isSome = true) ↔ ret ∈ ps := by
    simp only [hrd, hrr, hrv, hrq, and_false, false_or, hret]
  have hread : L.q ∉ ps → readAll ((L.q, Val.text) :: env0 ps) ps = .ok (argVals 0 ps.length) := by
    intro hq
    refine readAll_bindArgs [(kwargsName, Val.kwargsV)] ps [(L.q, Val.text), (selfName, Val.selfV)] 0 (fun p hp => ?_) hnd
    rw [lookup_cons_ne _ _ _ _ (fun e : p = L.q => hq (e ▸ hp)),
      lookup_cons_ne _ _ _ _ (fun e : p = selfName => hself (e ▸ hp))]; rfl
  rw [runBody_eq]
  constructor
  · intro h
    obtain ⟨hg, h⟩ := ite_error_ok h
    cases hvals : readAll ((L.q, Val.text) :: env0 ps) ps with
    | error e => rw [hvals] at h; cases h
    | ok vals =>
      rw [hvals] at h
      obtain ⟨hS, h⟩ := ite_error_ok h
      obtain ⟨hC, h⟩ := ite_error_ok h
      simp only [Except.ok.injEq, Sent.mk.injEq, Val.dict.injEq, true_and] at h
      refine ⟨fun hm => hg (hgql.mpr hm), fun hq => ?_, fun hany hm => hS ?_, fun hm => hC (hretc.mpr hm)⟩
      · have hmem : Val.text ∈ vals := readAll_mem _ L.q .text (by simp [List.lookup]) _ vals hvals hq
        rw [applySer_inj _ _ _ h.2.1] at hmem
        exact text_not_mem_argVals _ _ hmem
      · rw [hany, hser.mpr hm]; rfl
  · rintro ⟨hg, hq, hs, hr⟩
    rw [if_neg (fun h => hg (hgql.mp h)), hread hq]
    have hS : ¬ (flags.any id && (((L.q, Val.text) :: env0 ps : Env).lookup serName).isSome) = true := by
      intro h
      rw [Bool.and_eq_true] at h
      exact hs h.1 (hser.mp h.2)
    simp only [if_neg hS, if_neg (fun h => hr (hretc.mp h)), if_neg (Ne.symm hvq)]

/-- the direction of `runBody_ok_iff` the partial theorem uses -/
theorem runBody_ok (sub : Bool) (L : Locals) (ret : Name) (wires : List Name) (flags : List Bool) (ps : List Name)
    (hq : L.q ∉ ps) (hself : selfName ∉ ps) (hnd : ps.Nodup)
    (hvq : L.v ≠ L.q) (hg : gqlName ∉ ps)
    (hr : ret ∉ ps) (hr1 : ret ≠ selfName) (hr2 : ret ≠ kwargsName)
    (hrq : ret ≠ L.q) (hrv : ret ≠ L.v) (hrr : ret ≠ L.r) (hrd : ret ≠ L.d)
    (hser : flags.any id = false ∨ serName ∉ ps) (hsq : serName ≠ L.q) :
    runBody sub L ret wires flags ps ps = .ok
      ⟨.text, .dict wires (applySer flags (argVals 0 ps.length)),
       .parsed (.data (.resp .text (.dict wires (applySer flags (argVals 0 ps.length)))))⟩ :=
  (runBody_ok_iff sub L ret wires flags ps hself hnd hvq hr1 hr2 hrq hrv hrr hrd hsq).mpr
    ⟨hg, hq, fun h => hser.resolve_left (by rw [h]; exact Bool.noConfusion), hr⟩

/-- behind `method_reads_bound` of Properties/C18.lean: when every name the dict values read is a parameter, no read of the body can hit an
    unbound name - the body never raises NameError, in or outside the finding regions -/
theorem runBody_no_nameError (sub : Bool) (L : Locals) (ret : Name) (wires : List Name) (flags : List Bool) (reads ps : List Name)
    (hsub : ∀ p ∈ reads, p ∈ ps) (n : Name) :
    runBody sub L ret wires flags reads ps ≠ .error (.nameError n) := by
  have hb : ∀ p ∈ reads, ∃ v, ((L.q, Val.text) :: env0 ps : Env).lookup p = some v := by
    intro p hp
    refine Option.isSome_iff_exists.mp ((lookup_cons_isSome _ _ _ _).mpr ?_)
    by_cases e2 : p = selfName
    · exact .inr ((lookup_cons_isSome _ _ _ _).mpr (.inl e2))
    · exact .inr (Option.isSome_iff_exists.mpr (env0_lookup_some p ps e2 (hsub p hp)))
  obtain ⟨vals, hvals⟩ := readAll_ok_of_bound _ reads hb
  rw [runBody_eq, hvals]
  exact ite_ne nofun (ite_ne nofun (ite_ne nofun nofun))

theorem itemKeys_append (a b : List Item) : itemKeys (a ++ b) = itemKeys a ++ itemKeys b := by
  induction a with
  | nil => rfl
  | cons x a ih => cases x <;> simp [itemKeys, ih]

theorem itemBases_append (a b : List Item) : itemBases (a ++ b) = itemBases a ++ itemBases b := by
  induction a with
  | nil => rfl
  | cons x a ih => cases x <;> simp [itemBases, ih]

theorem itemFieldNames_append (a b : List Item) : itemFieldNames (a ++ b) = itemFieldNames a ++ itemFieldNames b := by
  induction a with
  | nil => rfl
  | cons x a ih => cases x <;> simp [itemFieldNames, ih]

mutual
  theorem effectiveSel_of_no_bases (e : TypeEnv) : ∀ (root : Name) (s : Sel) (items : List Item),
      resolveSel e root s = .ok items → itemBases items = [] → effectiveSel e root s = .ok (itemKeys items)
    | root, .field a n, items, h, _ => by
      simp only [resolveSel, Except.ok.injEq] at h
      subst h; simp [effectiveSel, itemKeys]
    | root, .inline cond sub, items, h, hb => by
      simp only [resolveSel] at h
      simp only [effectiveSel]
      cases hr : inlineRoot e cond root with
      | none => simp only [hr, Except.ok.injEq] at h; subst h; simp [itemKeys]
      | some rt => simp only [hr] at h; exact effectiveSels_of_no_bases e rt sub items h hb
    | root, .spread f cond sub, items, h, hb => by
      simp only [resolveSel] at h
      simp only [effectiveSel]
      cases hk1 : e.known root <;> simp only [hk1, Bool.not_true, Bool.not_false, if_true, Bool.false_eq_true, if_false] at h ⊢
      · exact absurd h (by simp)
      cases hk2 : e.known cond <;> simp only [hk2, Bool.not_true, Bool.not_false, if_true, Bool.false_eq_true, if_false] at h ⊢
      · exact absurd h (by simp)
      cases h3 : unpackFragment e cond sub root <;> simp only [h3, Bool.not_true, Bool.not_false, if_true, Bool.false_eq_true, if_false] at h ⊢
      · simp only [Except.ok.injEq] at h
        subst h; simp [itemBases] at hb
      cases h4 : spreadTaken e cond root <;> simp only [h4, if_true, Bool.false_eq_true, if_false] at h ⊢
      · simp only [Except.ok.injEq] at h
        subst h; simp [itemKeys]
      · exact effectiveSels_of_no_bases e root sub items h hb
  theorem effectiveSels_of_no_bases (e : TypeEnv) : ∀ (root : Name) (ss : List Sel) (items : List Item),
      resolveSels e root ss = .ok items → itemBases items = [] → effectiveSels e root ss = .ok (itemKeys items)
    | root, [], items, h, _ => by
      simp only [resolveSels, Except.ok.injEq] at h
      subst h; simp [effectiveSels, itemKeys]
    | root, s :: ss, items, h, hb => by
      simp only [resolveSels] at h
      cases h1 : resolveSel e root s with
      | error x => simp [h1] at h
      | ok a =>
        cases h2 : resolveSels e root ss with
        | error x => simp [h1, h2] at h
        | ok b =>
          simp only [h1, h2, Except.ok.injEq] at h
          subst h
          rw [itemBases_append, List.append_eq_nil_iff] at hb
          simp [effectiveSels, effectiveSel_of_no_bases e root s a h1 hb.1,
            effectiveSels_of_no_bases e root ss b h2 hb.2, itemKeys_append]
end

mutual
  theorem effectiveSel_eq_collect (e : TypeEnv) (T : Name) : ∀ (root : Name) (s : Sel),
      noDropSel e T root s = true → effectiveSel e root s = .ok (collectSel e T s)
    | root, .field a n, _ => by simp [effectiveSel, collectSel]
    | root, .inline cond sub, h => by
      simp only [noDropSel] at h
      simp only [effectiveSel, collectSel]
      cases hr : inlineRoot e cond root with
      | none =>
        simp only [hr, Bool.not_eq_true'] at h
        simp [h]
      | some rt =>
        simp only [hr, Bool.and_eq_true] at h
        simp [h.1, effectiveSels_eq_collect e T rt sub h.2]
    | root, .spread f cond sub, h => by
      simp only [noDropSel, Bool.and_eq_true] at h
      obtain ⟨⟨hk1, hk2⟩, h⟩ := h
      simp only [effectiveSel, collectSel, hk1, hk2, Bool.not_true, Bool.false_eq_true, if_false]
      cases h3 : unpackFragment e cond sub root <;> simp only [h3, Bool.not_true, Bool.not_false, if_true, Bool.false_eq_true, if_false] at h ⊢
      · simp only [Bool.and_eq_true] at h
        simp [h.1, effectiveSels_eq_collect e T cond sub h.2]
      cases h4 : spreadTaken e cond root <;> simp only [h4, if_true, Bool.false_eq_true, if_false] at h ⊢
      · simp only [Bool.not_eq_true'] at h
        simp [h]
      · simp only [Bool.and_eq_true] at h
        simp [h.1, effectiveSels_eq_collect e T root sub h.2]
  theorem effectiveSels_eq_collect (e : TypeEnv) (T : Name) : ∀ (root : Name) (ss : List Sel),
      noDropSels e T root ss = true → effectiveSels e root ss = .ok (collectSels e T ss)
    | root, [], _ => by simp [effectiveSels, collectSels]
    | root, s :: ss, h => by
      simp only [noDropSels, Bool.and_eq_true] at h
      simp [effectiveSels, collectSels, effectiveSel_eq_collect e T root s h.1,
        effectiveSels_eq_collect e T root ss h.2]
end

end Ariadne.NameScopes
