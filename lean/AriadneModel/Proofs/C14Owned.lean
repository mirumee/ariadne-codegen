/-
  C14: objects that OUTLIVE an operation (class-level objects, objects kept in python
  variables - Model/BuilderLet.lean) and are rendered again.

  `to_ast` never reads `formatted_variables` (`_collect_all_variables` starts from `{}`), so what earlier
  renderings left in the objects cannot influence a later document:

    * `eraseN` / `eraseL` forget `formatted` everywhere; `to_ast` preserves the erased store and node
      (`toAst_erase`), i.e. rendering changes nothing but `formatted`;
    * two runs of `to_ast` from configurations that agree up to `formatted` produce the same selection, the
      same used-names, the SAME rendered node, and stores that agree - `formatted` included - on a set of
      object ids closed under references that contains everything the rendered node refers to (`toAst_sim`);
      the second run may be given `k` more recursion budget: a result that was reached does not depend on the
      budget, only a run that raised may get further (`k = 0`: the same exception) - this is what lets
      `runOp_frame` (Proofs/C14Frame.lean) compare a run under `opFuel st` with one under `opFuel initStore`;
    * `get_formatted_variables` only looks at such a set (`getFormatted_agree`);
  hence `execOp_formatted_irrelevant`: the document of one client call does not depend on the `formatted`
  fields it finds.
-/
import AriadneModel.Proofs.C14Store

namespace Ariadne.C14
open Ariadne.Builder

mutual
  def eraseN : Node → Node
    | .obj r subs frags => .obj { r with formatted := [] } (eraseL subs) (eraseF frags)
    | .ref id => .ref id
  def eraseL : List Node → List Node
    | [] => []
    | n :: ns => eraseN n :: eraseL ns
  def eraseF : List Frag → List Frag
    | [] => []
    | .mk ty ns :: fs => .mk ty (eraseL ns) :: eraseF fs
end

theorem eraseL_eq_map : ∀ l : List Node, eraseL l = l.map eraseN
  | [] => rfl
  | n :: ns => by simp [eraseL, eraseL_eq_map ns]

theorem eraseL_length (l : List Node) : (eraseL l).length = l.length := by
  simp [eraseL_eq_map]

theorem eraseL_getElem? (l : List Node) (i : Nat) : (eraseL l)[i]? = (l[i]?).map eraseN := by
  simp [eraseL_eq_map]

theorem eraseL_set (l : List Node) (i : Nat) (n : Node) : eraseL (l.set i n) = (eraseL l).set i (eraseN n) := by
  simp [eraseL_eq_map, List.map_set]

theorem eraseL_append (a b : List Node) : eraseL (a ++ b) = eraseL a ++ eraseL b := by
  simp [eraseL_eq_map]

theorem erase_lookup {st1 st2 : Store} (h : eraseL st1 = eraseL st2) (id : Nat) :
    (st1[id]?).map eraseN = (st2[id]?).map eraseN := by
  rw [← eraseL_getElem?, ← eraseL_getElem?, h]

theorem erase_length {st1 st2 : Store} (h : eraseL st1 = eraseL st2) : st1.length = st2.length := by
  rw [← eraseL_length st1, ← eraseL_length st2, h]

mutual
  theorem size_erase : ∀ n : Node, Node.size (eraseN n) = Node.size n
    | .obj r subs frags => by simp [eraseN, Node.size, sizeList_erase subs, sizeFrags_erase frags]
    | .ref id => rfl
  theorem sizeList_erase : ∀ l : List Node, Node.sizeList (eraseL l) = Node.sizeList l
    | [] => rfl
    | n :: ns => by simp [eraseL, Node.sizeList, size_erase n, sizeList_erase ns]
  theorem sizeFrags_erase : ∀ l : List Frag, Frag.sizeList (eraseF l) = Frag.sizeList l
    | [] => rfl
    | .mk ty ns :: fs => by simp [eraseF, Frag.sizeList, sizeList_erase ns, sizeFrags_erase fs]
end

theorem sizeList_congr {a b : List Node} (h : eraseL a = eraseL b) : Node.sizeList a = Node.sizeList b := by
  rw [← sizeList_erase a, ← sizeList_erase b, h]

theorem opFuel_congr {st1 st2 : Store} {ns1 ns2 : List Node} (h : eraseL st1 = eraseL st2) (hn : eraseL ns1 = eraseL ns2) :
    opFuel st1 ns1 = opFuel st2 ns2 := by
  simp [opFuel, sizeList_congr h, sizeList_congr hn]

theorem rec_of_erase {r1 r2 : Rec} {s1 s2 : List Node} {f1 f2 : List Frag}
    (h : eraseN (.obj r1 s1 f1) = eraseN (.obj r2 s2 f2)) :
    r1.cls = r2.cls ∧ r1.fieldName = r2.fieldName ∧ r1.gqlName = r2.gqlName ∧ r1.vars = r2.vars ∧ r1.alias = r2.alias
      ∧ eraseL s1 = eraseL s2 ∧ eraseF f1 = eraseF f2 := by
  simp only [eraseN, Node.obj.injEq, Rec.mk.injEq] at h
  obtain ⟨⟨a, b, c, d, -, e⟩, f, g⟩ := h
  exact ⟨a, b, c, d, e, f, g⟩

theorem eraseL_isEmpty {a b : List Node} (h : eraseL a = eraseL b) : a.isEmpty = b.isEmpty := by
  have := congrArg List.length h
  rw [eraseL_length, eraseL_length] at this
  cases a <;> cases b <;> simp_all

theorem eraseF_isEmpty {a b : List Frag} (h : eraseF a = eraseF b) : a.isEmpty = b.isEmpty := by
  cases a with
  | nil => cases b with
    | nil => rfl
    | cons y ys => cases y; simp [eraseF] at h
  | cons x xs => cases b with
    | nil => cases x; simp [eraseF] at h
    | cons y ys => rfl

def SameErased (n : Node) (_ : Sel) (n' : Node) : Prop := eraseN n' = eraseN n

theorem along_erase : Along Always (fun a _ b => eraseL b.1 = eraseL a.1) := .free (fun _ => rfl) (fun h1 h2 => h2.trans h1)

theorem all3_erase : ∀ {ns ss ns'}, All3 SameErased ns ss ns' → eraseL ns' = eraseL ns := by
  intro ns ss ns' h
  induction h with
  | nil => rfl
  | cons q _ ih => simp only [eraseL, ih, show eraseN _ = eraseN _ from q]

theorem allF_erase : ∀ {fs ss fs'}, AllF SameErased fs ss fs' → eraseF fs' = eraseF fs := by
  intro fs ss fs' h
  induction h with
  | nil => rfl
  | cons q _ ih => simp only [eraseF, ih, all3_erase q]

theorem toAst_erase (idx : Nat) : ∀ fuel, VisitLaw Always (fun a _ b => eraseL b.1 = eraseL a.1) SameErased (toAst fuel idx) := by
  intro fuel
  induction fuel with
  | zero => intro st used n s n' st' used' _ h; exact (toAst_zero_inv h).elim
  | succ f ih =>
    intro st used n s n' st' used' _ h
    cases n with
    | obj r subs frags =>
      obtain ⟨fv, u1, ss, subs', st1, u2, fs, frags', st2, u3, h1, h2, h3, hr⟩ := toAst_obj_inv h
      cases hr
      obtain ⟨a1, a2⟩ := mapAcc_law along_erase ih _ _ _ _ _ _ _ trivial h2
      obtain ⟨b1, b2⟩ := mapFrags_law along_erase ih _ _ _ _ _ _ _ trivial h3
      exact ⟨b1.trans a1, by simp [SameErased, eraseN, all3_erase a2, allF_erase b2]⟩
    | ref id =>
      obtain ⟨n0, s1, n1, st1, u1, hn, h1, hr⟩ := toAst_ref_inv h
      cases hr
      obtain ⟨c1, c2⟩ := ih _ _ _ _ _ _ _ trivial h1
      refine ⟨?_, rfl⟩
      show eraseL (st1.set id n1) = eraseL st
      rw [eraseL_set, c1, c2]
      exact set_self _ _ _ (by rw [eraseL_getElem?, hn]; rfl)

theorem buildSelections_erase (fuel : Nat) (ns : List Node) (idx : Nat) (st : Store) sels ns' st'
    (h : buildSelections fuel idx st ns = .ok (sels, ns', st')) : eraseL st' = eraseL st ∧ eraseL ns' = eraseL ns := by
  obtain ⟨j, q⟩ := buildSelections_law (P := fun _ => True) (J := fun a b => eraseL b = eraseL a) (fun _ => rfl)
    (fun h1 h2 => h2.trans h1) (fun _ _ => trivial)
    (fun idx _ _ _ _ _ _ _ h => toAst_erase idx fuel _ _ _ _ _ _ _ trivial h) ns idx st sels ns' st' trivial h
  exact ⟨j, all3_erase q⟩

theorem execOp_erase {ty nm : String} {st : Store} {nodes : List Node} {d : Doc} {st' : Store}
    (h : execOp ty nm st nodes = .ok (d, st')) : eraseL st' = eraseL st := by
  obtain ⟨sels, nodes', fv, hb, -, -⟩ := execOp_inv h
  exact (buildSelections_erase _ _ _ _ _ _ _ hb).1

mutual
  def RefsIn (A : Nat → Prop) : Node → Prop
    | .obj _ subs frags => RefsInL A subs ∧ RefsInF A frags
    | .ref id => A id
  def RefsInL (A : Nat → Prop) : List Node → Prop
    | [] => True
    | n :: ns => RefsIn A n ∧ RefsInL A ns
  def RefsInF (A : Nat → Prop) : List Frag → Prop
    | [] => True
    | .mk _ ns :: fs => RefsInL A ns ∧ RefsInF A fs
end

mutual
  theorem refsIn_mono {A B : Nat → Prop} (h : ∀ i, A i → B i) : ∀ n, RefsIn A n → RefsIn B n
    | .obj r subs frags, hr => by
      simp only [RefsIn] at hr ⊢
      exact ⟨refsInL_mono h subs hr.1, refsInF_mono h frags hr.2⟩
    | .ref id, hr => by
      simp only [RefsIn] at hr ⊢
      exact h id hr
  theorem refsInL_mono {A B : Nat → Prop} (h : ∀ i, A i → B i) : ∀ ns, RefsInL A ns → RefsInL B ns
    | [], _ => by simp only [RefsInL]
    | n :: ns, hr => by
      simp only [RefsInL] at hr ⊢
      exact ⟨refsIn_mono h n hr.1, refsInL_mono h ns hr.2⟩
  theorem refsInF_mono {A B : Nat → Prop} (h : ∀ i, A i → B i) : ∀ fs, RefsInF A fs → RefsInF B fs
    | [], _ => by simp only [RefsInF]
    | .mk ty ns :: fs, hr => by
      simp only [RefsInF] at hr ⊢
      exact ⟨refsInL_mono h ns hr.1, refsInF_mono h fs hr.2⟩
end

/-- the two stores are IDENTICAL (`formatted` included) on the set `A` of object ids, and `A` is closed under
    the references found in its objects -/
structure Good (A : Nat → Prop) (st1 st2 : Store) : Prop where
  same : ∀ id, A id → st1[id]? = st2[id]?
  closed : ∀ id m, A id → st1[id]? = some m → RefsIn A m

theorem good_empty (st1 st2 : Store) : Good (fun _ => False) st1 st2 :=
  ⟨fun _ h => h.elim, fun _ _ h => h.elim⟩

mutual
  theorem refsIn_eraseN (F : Nat → Prop) : ∀ n, RefsIn F (eraseN n) ↔ RefsIn F n
    | .obj r subs frags => by
      simp only [eraseN, RefsIn, refsInL_eraseL F subs, refsInF_eraseF F frags]
    | .ref id => by simp only [eraseN]
  theorem refsInL_eraseL (F : Nat → Prop) : ∀ ns, RefsInL F (eraseL ns) ↔ RefsInL F ns
    | [] => by simp only [eraseL]
    | n :: ns => by simp only [eraseL, RefsInL, refsIn_eraseN F n, refsInL_eraseL F ns]
  theorem refsInF_eraseF (F : Nat → Prop) : ∀ fs, RefsInF F (eraseF fs) ↔ RefsInF F fs
    | [] => by simp only [eraseF]
    | .mk ty ns :: fs => by simp only [eraseF, RefsInF, refsInL_eraseL F ns, refsInF_eraseF F fs]
end

theorem refsIn_of_erase {F : Nat → Prop} {n m : Node} (h : eraseN n = eraseN m) (hr : RefsIn F n) : RefsIn F m := by
  rw [← refsIn_eraseN, ← h, refsIn_eraseN]; exact hr

theorem refsInL_of_erase {F : Nat → Prop} {n m : List Node} (h : eraseL n = eraseL m) (hr : RefsInL F n) : RefsInL F m := by
  rw [← refsInL_eraseL, ← h, refsInL_eraseL]; exact hr

theorem refsInF_of_erase {F : Nat → Prop} {n m : List Frag} (h : eraseF n = eraseF m) (hr : RefsInF F n) : RefsInF F m := by
  rw [← refsInF_eraseF, ← h, refsInF_eraseF]; exact hr

mutual
  theorem refsIn_true : ∀ n, RefsIn (fun _ => True) n
    | .obj r subs frags => by simp only [RefsIn]; exact ⟨refsInL_true subs, refsInF_true frags⟩
    | .ref id => by simp only [RefsIn]
  theorem refsInL_true : ∀ ns, RefsInL (fun _ => True) ns
    | [] => by simp only [RefsInL]
    | n :: ns => by simp only [RefsInL]; exact ⟨refsIn_true n, refsInL_true ns⟩
  theorem refsInF_true : ∀ fs, RefsInF (fun _ => True) fs
    | [] => by simp only [RefsInF]
    | .mk ty ns :: fs => by simp only [RefsInF]; exact ⟨refsInL_true ns, refsInF_true fs⟩
end

/-- FRAME: the two stores agree up to `formatted` on the set `F` of object ids, and `F` is closed under the
    references found in its objects (outside `F` the stores may differ arbitrarily: nothing that starts inside `F`
    ever looks there) -/
structure EraseAgree (F : Nat → Prop) (st1 st2 : Store) : Prop where
  len : st1.length = st2.length
  look : ∀ id, F id → (st1[id]?).map eraseN = (st2[id]?).map eraseN
  closed : ∀ id m, F id → st1[id]? = some m → RefsIn F m

theorem eraseAgree_of_eq {st1 st2 : Store} (h : eraseL st1 = eraseL st2) : EraseAgree (fun _ => True) st1 st2 :=
  ⟨erase_length h, fun id _ => erase_lookup h id, fun _ m _ _ => refsIn_true m⟩

theorem EraseAgree.set {F : Nat → Prop} {t1 t2 : Store} (h : EraseAgree F t1 t2) (id : Nat) {n : Node}
    (hn : RefsIn F n) : EraseAgree F (t1.set id n) (t2.set id n) := by
  refine ⟨by simp [h.len], ?_, ?_⟩
  · intro j hj
    by_cases hji : id = j
    · subst hji
      simp [List.getElem?_set, h.len]
    · rw [List.getElem?_set_ne hji, List.getElem?_set_ne hji]
      exact h.look j hj
  · intro j m hj hm
    by_cases hji : id = j
    · subst hji
      rw [List.getElem?_set] at hm
      simp at hm
      obtain ⟨-, rfl⟩ := hm
      exact hn
    · rw [List.getElem?_set_ne hji] at hm
      exact h.closed j m hj hm

theorem Good.set {A : Nat → Prop} {t1 t2 : Store} (h : Good A t1 t2) (hlen : t1.length = t2.length) (id : Nat) {n : Node}
    (hn : RefsIn A n) : Good (fun j => j = id ∨ A j) (t1.set id n) (t2.set id n) := by
  constructor
  · intro j hj
    by_cases hji : id = j
    · subst hji
      simp [List.getElem?_set, hlen]
    · rcases hj with rfl | hj
      · exact absurd rfl hji
      · rw [List.getElem?_set_ne hji, List.getElem?_set_ne hji]
        exact h.same j hj
  · intro j m hj hm
    by_cases hji : id = j
    · subst hji
      rw [List.getElem?_set] at hm
      simp at hm
      obtain ⟨-, rfl⟩ := hm
      exact refsIn_mono (fun i h => Or.inr h) _ hn
    · rcases hj with rfl | hj
      · exact absurd rfl hji
      · rw [List.getElem?_set_ne hji] at hm
        exact refsIn_mono (fun i h => Or.inr h) _ (h.closed j m hj hm)

/-- outcome of the same visit in two runs, the second with `k` more recursion budget.  If the first raised, so did
    the second provided `k = 0` (with more budget it may get further).  Otherwise both give the same selection /
    rendered node / used names, the stores agree again up to `formatted` on `F`, and are identical on a closed set
    (grown from `A`) containing everything the rendered node refers to. -/
def Sim (k : Nat) {σ ν : Type} (P : (Nat → Prop) → ν → Prop) (F A : Nat → Prop)
    (r1 r2 : Except Err (σ × ν × Store × List String)) : Prop :=
  (∃ e, r1 = .error e ∧ (k = 0 → r2 = .error e)) ∨
  (∃ s n t1 t2 u, ∃ A' : Nat → Prop, r1 = .ok (s, n, t1, u) ∧ r2 = .ok (s, n, t2, u) ∧
      EraseAgree F t1 t2 ∧ (∀ i, A i → A' i) ∧ Good A' t1 t2 ∧ P A' n)

theorem Sim.error {k : Nat} {σ ν : Type} {P : (Nat → Prop) → ν → Prop} {F A : Nat → Prop} {e : Err}
    {r2 : Except Err (σ × ν × Store × List String)} (h : k = 0 → r2 = .error e) :
    Sim k P F A (.error e) r2 := Or.inl ⟨e, rfl, h⟩

theorem Sim.ok {k : Nat} {σ ν : Type} {P : (Nat → Prop) → ν → Prop} {F A A' : Nat → Prop} {s : σ} {n : ν}
    {t1 t2 : Store} {u : List String} (hs : EraseAgree F t1 t2) (hA : ∀ i, A i → A' i) (hg : Good A' t1 t2)
    (hp : P A' n) : Sim k P F A (.ok (s, n, t1, u)) (.ok (s, n, t2, u)) :=
  Or.inr ⟨s, n, t1, t2, u, A', rfl, rfl, hs, hA, hg, hp⟩

def VisitSim (k : Nat) (f g : Visit) : Prop :=
  ∀ (F A : Nat → Prop) (st1 st2 : Store) (used : List String) (n1 n2 : Node),
    EraseAgree F st1 st2 → eraseN n1 = eraseN n2 → RefsIn F n1 → Good A st1 st2 →
    Sim k RefsIn F A (f st1 used n1) (g st2 used n2)

theorem mapAcc_sim {k : Nat} {f g : Visit} (hf : VisitSim k f g) :
    ∀ (ns1 ns2 : List Node) (F A : Nat → Prop) (st1 st2 : Store) (used : List String),
      EraseAgree F st1 st2 → eraseL ns1 = eraseL ns2 → RefsInL F ns1 → Good A st1 st2 →
      Sim k RefsInL F A (mapAcc f st1 used ns1) (mapAcc g st2 used ns2) := by
  intro ns1
  induction ns1 with
  | nil =>
    intro ns2 F A st1 st2 used hs hn hF hg
    cases ns2 with
    | nil =>
      simp only [mapAcc]
      exact Sim.ok hs (fun _ h => h) hg trivial
    | cons y ys => simp [eraseL] at hn
  | cons n1 ns1 ih =>
    intro ns2 F A st1 st2 used hs hn hF hg
    cases ns2 with
    | nil => simp [eraseL] at hn
    | cons n2 ns2 =>
      simp only [eraseL, List.cons.injEq] at hn
      obtain ⟨hn1, hn2⟩ := hn
      simp only [RefsInL] at hF
      simp only [mapAcc]
      rcases hf F A st1 st2 used n1 n2 hs hn1 hF.1 hg with ⟨e, h1, h2⟩ | ⟨s, m, t1, t2, u, A1, h1, h2, hs1, hA1, hg1, hr1⟩
      · rw [h1]; exact Sim.error (fun hk => by rw [h2 hk])
      · rw [h1, h2]
        dsimp only
        rcases ih ns2 F A1 t1 t2 u hs1 hn2 hF.2 hg1 with
          ⟨e, h3, h4⟩ | ⟨ss, ms, t1', t2', u', A2, h3, h4, hs2, hA2, hg2, hr2⟩
        · rw [h3]; exact Sim.error (fun hk => by rw [h4 hk])
        · rw [h3, h4]
          exact Sim.ok hs2 (fun i h => hA2 i (hA1 i h)) hg2 ⟨refsIn_mono hA2 m hr1, hr2⟩

theorem mapFrags_sim {k : Nat} {f g : Visit} (hf : VisitSim k f g) :
    ∀ (fs1 fs2 : List Frag) (F A : Nat → Prop) (st1 st2 : Store) (used : List String),
      EraseAgree F st1 st2 → eraseF fs1 = eraseF fs2 → RefsInF F fs1 → Good A st1 st2 →
      Sim k RefsInF F A (mapFrags f st1 used fs1) (mapFrags g st2 used fs2) := by
  intro fs1
  induction fs1 with
  | nil =>
    intro fs2 F A st1 st2 used hs hn hF hg
    cases fs2 with
    | nil =>
      simp only [mapFrags]
      exact Sim.ok hs (fun _ h => h) hg trivial
    | cons y ys => cases y; simp [eraseF] at hn
  | cons x fs1 ih =>
    intro fs2 F A st1 st2 used hs hn hF hg
    cases x with
    | mk ty1 ns1 =>
      cases fs2 with
      | nil => simp [eraseF] at hn
      | cons y fs2 =>
        cases y with
        | mk ty2 ns2 =>
          simp only [eraseF, List.cons.injEq, Frag.mk.injEq] at hn
          obtain ⟨⟨rfl, hn1⟩, hn2⟩ := hn
          simp only [RefsInF] at hF
          simp only [mapFrags]
          rcases mapAcc_sim hf ns1 ns2 F A st1 st2 used hs hn1 hF.1 hg with
            ⟨e, h1, h2⟩ | ⟨ss, ms, t1, t2, u, A1, h1, h2, hs1, hA1, hg1, hr1⟩
          · rw [h1]; exact Sim.error (fun hk => by rw [h2 hk])
          · rw [h1, h2]
            dsimp only
            rcases ih fs2 F A1 t1 t2 u hs1 hn2 hF.2 hg1 with
              ⟨e, h3, h4⟩ | ⟨rest, fs', t1', t2', u', A2, h3, h4, hs2, hA2, hg2, hr2⟩
            · rw [h3]; exact Sim.error (fun hk => by rw [h4 hk])
            · rw [h3, h4]
              exact Sim.ok hs2 (fun i h => hA2 i (hA1 i h)) hg2 ⟨refsInL_mono hA2 ms hr1, hr2⟩

theorem toAst_sim (idx k : Nat) : ∀ fuel, VisitSim k (toAst fuel idx) (toAst (fuel + k) idx) := by
  intro fuel
  induction fuel with
  | zero =>
    intro F A st1 st2 used n1 n2 hs hn hF hg
    exact Sim.error (fun hk => by subst hk; simp only [toAst])
  | succ f ih =>
    intro F A st1 st2 used n1 n2 hs hn hF hg
    have hk : f + 1 + k = (f + k) + 1 := by omega
    rw [hk]
    cases n1 with
    | obj r1 s1 f1 =>
      cases n2 with
      | ref id => simp [eraseN] at hn
      | obj r2 s2 f2 =>
        obtain ⟨hc, hfn, hgn, hv, hal, hsub, hfr⟩ := rec_of_erase hn
        obtain ⟨c1, fn1, g1, v1, fm1, al1⟩ := r1
        obtain ⟨c2, fn2, g2, v2, fm2, al2⟩ := r2
        simp only at hc hfn hgn hv hal
        subst hc hfn hgn hv hal
        simp only [RefsIn] at hF
        simp only [toAst]
        cases hcv : collectVars idx v1 used with
        | error e => exact Sim.error (fun _ => rfl)
        | ok x =>
          obtain ⟨fv, u1⟩ := x
          dsimp only
          rcases mapAcc_sim ih s1 s2 F A st1 st2 u1 hs hsub hF.1 hg with
            ⟨e, h1, h2⟩ | ⟨ss, subs', t1, t2, u2, A1, h1, h2, hs1, hA1, hg1, hr1⟩
          · rw [h1]; exact Sim.error (fun hk => by rw [h2 hk])
          · rw [h1, h2]
            dsimp only
            rcases mapFrags_sim ih f1 f2 F A1 t1 t2 u2 hs1 hfr hF.2 hg1 with
              ⟨e, h3, h4⟩ | ⟨fsel, frags', t1', t2', u3, A2, h3, h4, hs2, hA2, hg2, hr2⟩
            · rw [h3]; exact Sim.error (fun hk => by rw [h4 hk])
            · rw [h3, h4]
              dsimp only
              rw [eraseL_isEmpty hsub, eraseF_isEmpty hfr]
              exact Sim.ok hs2 (fun i h => hA2 i (hA1 i h)) hg2 ⟨refsInL_mono hA2 subs' hr1, hr2⟩
    | ref id =>
      cases n2 with
      | obj r2 s2 f2 => simp [eraseN] at hn
      | ref id2 =>
        simp only [eraseN, Node.ref.injEq] at hn
        subst hn
        simp only [RefsIn] at hF
        simp only [toAst]
        have hl := hs.look id hF
        cases hm1 : st1[id]? with
        | none =>
          rw [hm1] at hl
          cases hm2 : st2[id]? with
          | none => exact Sim.error (fun _ => rfl)
          | some m2 => rw [hm2] at hl; simp at hl
        | some m1 =>
          rw [hm1] at hl
          cases hm2 : st2[id]? with
          | none => rw [hm2] at hl; simp at hl
          | some m2 =>
            rw [hm2] at hl
            simp at hl
            dsimp only
            rcases ih F A st1 st2 used m1 m2 hs hl (hs.closed id m1 hF hm1) hg with
              ⟨e, h1, h2⟩ | ⟨s, n', t1, t2, u1, A1, h1, h2, hs1, hA1, hg1, hr1⟩
            · rw [h1]; exact Sim.error (fun hk => by rw [h2 hk])
            · rw [h1, h2]
              dsimp only
              -- the object written back is the one read, up to `formatted`: its references stay inside `F`
              have hF' : RefsIn F n' :=
                refsIn_of_erase (toAst_erase idx f _ _ _ _ _ _ _ trivial h1).2.symm (hs.closed id m1 hF hm1)
              exact Sim.ok (hs1.set id hF') (fun i h => Or.inr (hA1 i h)) (hg1.set hs1.len id hr1) (Or.inl rfl)

def Agree (k : Nat) {α : Type} (r1 r2 : Except Err α) : Prop := r1 = r2 ∨ (k ≠ 0 ∧ ∃ e, r1 = .error e)

theorem gfvList_agree {k : Nat} {f g : GVisit} {A : Nat → Prop} (h : ∀ n, RefsIn A n → Agree k (f n) (g n)) :
    ∀ (ns : List Node) (d : List FVar), RefsInL A ns → Agree k (gfvList f d ns) (gfvList g d ns)
  | [], d, _ => Or.inl rfl
  | n :: ns, d, hr => by
    simp only [RefsInL] at hr
    simp only [gfvList]
    rcases h n hr.1 with he | ⟨hk, e, he⟩
    · rw [he]
      cases g n with
      | error e => exact Or.inl rfl
      | ok x => exact gfvList_agree h ns _ hr.2
    · rw [he]; exact Or.inr ⟨hk, e, rfl⟩

theorem gfvFrags_agree {k : Nat} {f g : GVisit} {A : Nat → Prop} (h : ∀ n, RefsIn A n → Agree k (f n) (g n)) :
    ∀ (fs : List Frag) (d : List FVar), RefsInF A fs → Agree k (gfvFrags f d fs) (gfvFrags g d fs)
  | [], d, _ => Or.inl rfl
  | .mk ty ns :: fs, d, hr => by
    simp only [RefsInF] at hr
    simp only [gfvFrags]
    rcases gfvList_agree h ns d hr.1 with he | ⟨hk, e, he⟩
    · rw [he]
      cases gfvList g d ns with
      | error e => exact Or.inl rfl
      | ok d1 => exact gfvFrags_agree h fs _ hr.2
    · rw [he]; exact Or.inr ⟨hk, e, rfl⟩

theorem getFormatted_agree {A : Nat → Prop} {st1 st2 : Store} (hg : Good A st1 st2) (k : Nat) :
    ∀ (fuel : Nat) (n : Node), RefsIn A n → Agree k (getFormatted fuel st1 n) (getFormatted (fuel + k) st2 n) := by
  intro fuel
  induction fuel with
  | zero =>
    intro n _
    cases k with
    | zero => exact Or.inl rfl
    | succ k => exact Or.inr ⟨by simp, _, rfl⟩
  | succ f ih =>
    intro n hr
    have hk : f + 1 + k = (f + k) + 1 := by omega
    rw [hk]
    cases n with
    | obj r subs frags =>
      simp only [RefsIn] at hr
      simp only [getFormatted]
      rcases gfvList_agree ih subs r.formatted hr.1 with he | ⟨hk, e, he⟩
      · rw [he]
        cases gfvList (getFormatted (f + k) st2) r.formatted subs with
        | error e => exact Or.inl rfl
        | ok d1 => exact gfvFrags_agree ih frags d1 hr.2
      · rw [he]; exact Or.inr ⟨hk, e, rfl⟩
    | ref id =>
      simp only [RefsIn] at hr
      simp only [getFormatted]
      rw [← hg.same id hr]
      cases hm : st1[id]? with
      | none => exact Or.inl rfl
      | some m => exact ih m (hg.closed id m hr hm)

theorem combine_agree_budget {A : Nat → Prop} {st1 st2 : Store} (hg : Good A st1 st2) (fuel k : Nat) (ns : List Node)
    (hr : RefsInL A ns) : Agree k (combine fuel st1 ns) (combine (fuel + k) st2 ns) :=
  gfvList_agree (getFormatted_agree hg k fuel) ns [] hr

theorem combine_agree {A : Nat → Prop} {st1 st2 : Store} (hg : Good A st1 st2) (fuel : Nat) (ns : List Node)
    (hr : RefsInL A ns) : combine fuel st1 ns = combine fuel st2 ns :=
  (combine_agree_budget hg fuel 0 ns hr).resolve_right fun h => h.1 rfl


theorem buildSelections_sim_budget (fuel k : Nat) :
    ∀ (ns1 ns2 : List Node) (idx : Nat) (F A : Nat → Prop) (st1 st2 : Store),
      EraseAgree F st1 st2 → eraseL ns1 = eraseL ns2 → RefsInL F ns1 → Good A st1 st2 →
      (∃ e, buildSelections fuel idx st1 ns1 = .error e ∧ (k = 0 → buildSelections (fuel + k) idx st2 ns2 = .error e)) ∨
      (∃ sels ns' t1 t2, ∃ A' : Nat → Prop, buildSelections fuel idx st1 ns1 = .ok (sels, ns', t1) ∧
          buildSelections (fuel + k) idx st2 ns2 = .ok (sels, ns', t2) ∧ (∀ i, A i → A' i) ∧ Good A' t1 t2 ∧
          RefsInL A' ns') := by
  intro ns1
  induction ns1 with
  | nil =>
    intro ns2 idx F A st1 st2 hs hn hF hg
    cases ns2 with
    | nil => exact Or.inr ⟨[], [], st1, st2, A, rfl, rfl, fun _ h => h, hg, trivial⟩
    | cons y ys => simp [eraseL] at hn
  | cons n1 ns1 ih =>
    intro ns2 idx F A st1 st2 hs hn hF hg
    cases ns2 with
    | nil => simp [eraseL] at hn
    | cons n2 ns2 =>
      simp only [eraseL, List.cons.injEq] at hn
      obtain ⟨hn1, hn2⟩ := hn
      simp only [RefsInL] at hF
      simp only [buildSelections]
      rcases toAst_sim idx k fuel F A st1 st2 [] n1 n2 hs hn1 hF.1 hg with
        ⟨e, h1, h2⟩ | ⟨s, m, t1, t2, u, A1, h1, h2, hs1, hA1, hg1, hr1⟩
      · rw [h1]; exact Or.inl ⟨e, rfl, fun hk => by rw [h2 hk]⟩
      · rw [h1, h2]
        dsimp only
        rcases ih ns2 (idx + 1) F A1 t1 t2 hs1 hn2 hF.2 hg1 with
          ⟨e, h3, h4⟩ | ⟨sels, ns', t1', t2', A2, h3, h4, hA2, hg2, hr2⟩
        · rw [h3]; exact Or.inl ⟨e, rfl, fun hk => by rw [h4 hk]⟩
        · rw [h3, h4]
          exact Or.inr ⟨s :: sels, m :: ns', t1', t2', A2, rfl, rfl, fun i h => hA2 i (hA1 i h), hg2,
            refsIn_mono hA2 m hr1, hr2⟩


theorem buildSelections_sim (fuel : Nat) :
    ∀ (ns1 ns2 : List Node) (idx : Nat) (F A : Nat → Prop) (st1 st2 : Store),
      EraseAgree F st1 st2 → eraseL ns1 = eraseL ns2 → RefsInL F ns1 → Good A st1 st2 →
      (∃ e, buildSelections fuel idx st1 ns1 = .error e ∧ buildSelections fuel idx st2 ns2 = .error e) ∨
      (∃ sels ns' t1 t2, ∃ A' : Nat → Prop, buildSelections fuel idx st1 ns1 = .ok (sels, ns', t1) ∧
          buildSelections fuel idx st2 ns2 = .ok (sels, ns', t2) ∧ (∀ i, A i → A' i) ∧ Good A' t1 t2 ∧
          RefsInL A' ns') := by
  intro ns1 ns2 idx F A st1 st2 hs hn hF hg
  rcases buildSelections_sim_budget fuel 0 ns1 ns2 idx F A st1 st2 hs hn hF hg with ⟨e, h1, h2⟩ | h
  · exact Or.inl ⟨e, h1, h2 rfl⟩
  · exact Or.inr h

def ExecAgree (r1 r2 : Except Err (Doc × Store)) : Prop :=
  (∃ e, r1 = .error e ∧ r2 = .error e) ∨
  (∃ d t1 t2, r1 = .ok (d, t1) ∧ r2 = .ok (d, t2) ∧ eraseL t1 = eraseL t2)

theorem execOp_formatted_irrelevant (ty nm : String) {st1 st2 : Store} {ns1 ns2 : List Node}
    (hs : eraseL st1 = eraseL st2) (hn : eraseL ns1 = eraseL ns2) :
    ExecAgree (execOp ty nm st1 ns1) (execOp ty nm st2 ns2) := by
  unfold execOp
  rw [opFuel_congr hs hn]
  rcases buildSelections_sim (opFuel st2 ns2) ns1 ns2 0 _ _ st1 st2 (eraseAgree_of_eq hs) hn (refsInL_true ns1)
      (good_empty st1 st2) with
    ⟨e, h1, h2⟩ | ⟨sels, ns', t1, t2, A', h1, h2, -, hg, hr⟩
  · rw [h1, h2]; exact Or.inl ⟨e, rfl, rfl⟩
  · rw [h1, h2]
    dsimp only
    rw [combine_agree hg _ _ hr]
    cases combine (opFuel st2 ns2) t2 ns' with
    | error e => exact Or.inl ⟨e, rfl, rfl⟩
    | ok fv =>
      refine Or.inr ⟨_, t1, t2, rfl, rfl, ?_⟩
      rw [(buildSelections_erase _ _ _ _ _ _ _ h1).1, (buildSelections_erase _ _ _ _ _ _ _ h2).1, hs]

end Ariadne.C14
