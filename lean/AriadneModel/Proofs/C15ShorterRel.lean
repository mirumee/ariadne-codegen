/-
  C15: ShorterResults on a client module of the generated form, inside a FRAME: the module ShorterResults is handed
  (`M0`) may be followed by further import statements that later plugins put in front (`fr`, ExtractOperations'
  import), and the package may have an operations module (`ops`).  What is assumed of the package WITHOUT
  ShorterResults (`fr ++ M0`, `ops`) carries over to the package WITH it (`fr ++ M1`, `ops`): it still loads, every
  method is projected on exactly its single field or left alone, every other name resolves as before.
-/
import AriadneModel.Proofs.C15ShorterMain


namespace Ariadne.C15
open Ariadne.Py Ariadne.Plugins Ariadne.ClientSem

def ImportsOnly (fr : List Top) : Prop := ∀ t ∈ fr, ∃ i, t = Top.simple (.importFrom i)

theorem importsOnly_noClass {fr : List Top} (h : ImportsOnly fr) : NoClass fr := by
  intro t ht
  obtain ⟨i, rfl⟩ := h t ht
  rfl

theorem firstClass_frame (fr : List Top) (h : ImportsOnly fr) (M : Module) :
    ({ body := fr ++ M.body } : Module).firstClass? = M.firstClass? := by
  unfold Module.firstClass?
  simp only [List.findSome?_append]
  have : fr.findSome? Top.classDef? = none := by
    rw [List.findSome?_eq_none_iff]
    intro t ht
    exact importsOnly_noClass h t ht
  rw [this]
  rfl

theorem ModuleFacts.frame {E : List (String × List String)} {M M' : Module} {c c' : ClassDef} (F : ModuleFacts E M M' c c')
    (fr : List Top) (hfr : ImportsOnly fr) :
    ModuleFacts E { body := fr ++ M.body } { body := fr ++ M'.body } c c' := by
  refine ⟨?_, ?_, ?_, ?_, ?_, ?_⟩
  · rw [firstClass_frame fr hfr]; exact F.firstClass
  · intro n hn
    rw [moduleNames_eq, namesOfTops_append] at hn ⊢
    rcases List.mem_append.mp hn with h | h
    · exact List.mem_append_left _ h
    · exact List.mem_append_right _ (F.names_mono n h)
  · intro cl hcl
    rw [moduleNames_eq, namesOfTops_append]
    exact List.mem_append_right _ (F.covered cl hcl)
  · intro n hn
    rw [topImports_eq, topImports_eq, importsOfTops_append, importsOfTops_append, importBindings_append, importBindings_append,
      alookup_append, alookup_append]
    have := F.bindings n hn
    rw [topImports_eq, topImports_eq] at this
    rw [this]
  · intro i' hi'
    rw [topImports_eq, importsOfTops_append] at hi'
    rw [topImports_eq, importsOfTops_append]
    rcases List.mem_append.mp hi' with h | h
    · exact .inl ⟨i', List.mem_append_left _ h, rfl, rfl⟩
    · rcases F.provenance i' h with ⟨i, hi, h1, h2⟩ | hx
      · exact .inl ⟨i, List.mem_append_right _ hi, h1, h2⟩
      · exact .inr hx
  · intro t' ht'
    rcases List.mem_append.mp ht' with h | h
    · exact .inr (.inl (List.mem_append_left _ h))
    · rcases F.tops t' h with h1 | h1 | h1
      · exact .inl h1
      · exact .inr (.inl (List.mem_append_right _ h1))
      · exact .inr (.inr h1)

/-- what `genShapedSR` asks of the methods of the client class `C0` of the module `B0`, for the classes `st` that
    ShorterResults has recorded (`genShapedSR_spec`, C15ShorterPipeline) -/
structure ShorterGen (known : List String) (st : ShorterState) (B0 : Module) (C0 : ClassDef) : Prop where
  dictOK : ∀ kv ∈ st.classDict, ∃ r, nodeAndClass st.classDict kv.1 = .ok r
  kind : ∀ md ∈ C0.methods, (singleFieldOf st md).isSome = true → KindOK md
  ann : ∀ md ∈ C0.methods, ∀ f ann, singleFieldOf st md = some (f, ann) → ∀ n ∈ exNames (newReturns md ann),
    (n ∈ leavesOf ann ∧ (ahas n st.importedTypes = true ∨ ahas n st.classDict = true)) ∨ n ∈ moduleNames B0 ∨ n ∈ builtinNames
  ret : ∀ md ∈ C0.methods, ∀ s, shapeOf md = some s → s.retClass ∉ leafPool st C0.methods
  const : ∀ md ∈ C0.methods, ∀ s c, shapeOf md = some s → s.op = .const c → c ∉ leafPool st C0.methods
  names : ∀ md ∈ C0.methods, startsWithDot md.name = false
  srcs : ∀ n ∈ leafPool st C0.methods, ∀ v, alookup n st.importedTypes = some v → startsWithDot v = true → v ∈ known

/-- `…R`: relative to a frame of other plugins' work — the import statements `fr` later plugins put in front of the module ShorterResults
    is handed (`M0`) and the operations module `ops`; the hypotheses speak of the package without ShorterResults, `fr ++ M0` and `ops` -/
structure ShorterHypsR (known : List String) (st : ShorterState) (fr : List Top) (ops : Option (String × OpsFile))
    (M0 : Module) (pre0 : List Top) (g : Method) (C0 : ClassDef) : Prop where
  frame : ImportsOnly fr
  body : M0.body = pre0 ++ [.funcDef g, .classDef C0]
  noclass : NoClass pre0
  extEmpty : st.extendedImports = []
  gen : ShorterGen known st { body := fr ++ M0.body } C0
  fmt0 : formatOkB ({ body := fr ++ M0.body } : Module) = true
  ann0 : annScopedB ({ body := fr ++ M0.body } : Module) = true
  well0 : wellScopedB { client := ({ body := fr ++ M0.body } : Module), ops := ops } = true
  imp0 : ∀ i ∈ topImports ({ body := fr ++ M0.body } : Module), ∀ q, relModule i = some q → q ∈ known

structure ShorterConclR (known : List String) (st : ShorterState) (ops : Option (String × OpsFile)) (B0 B1 : Module) (C0 : ClassDef) : Prop where
  fmt : formatOkB B1 = true
  ann : annScopedB B1 = true
  well : wellScopedB { client := B1, ops := ops } = true
  imp : ∀ i ∈ topImports B1, ∀ q, relModule i = some q → q ∈ known
  names_mono : ∀ n ∈ moduleNames B0, n ∈ moduleNames B1
  cls : ∃ C1, B1.firstClass? = some C1 ∧ ItemsRel (PerMethod st) C0.body C1.body
  bindings : ∀ md ∈ C0.methods, ∀ s, shapeOf md = some s →
    alookup s.retClass (importBindings (topImports B1)) = alookup s.retClass (importBindings (topImports B0))
  const_bindings : ∀ md ∈ C0.methods, ∀ s c, shapeOf md = some s → s.op = .const c →
    alookup c (importBindings (topImports B1)) = alookup c (importBindings (topImports B0))

/-- what the walk made of a method (`MethodOutcome`) and what the plugin makes of it alone (`AloneGives`) are the same thing, so the
    method is projected exactly when the trigger vocabulary (`singleFieldOf`) says its result class has a single field -/
theorem perMethod_of_outcome {st : ShorterState} {ext : List (String × List String)} {md md' : Method}
    (hmo : MethodOutcome st.classDict st.importedTypes ext md md') (hal : AloneGives st.classDict md md')
    (hk : (singleFieldOf st md).isSome = true → KindOK md) : PerMethod st md md' := by
  have hname : md'.name = md.name := by
    rcases hmo with rfl | ⟨_, _, _, _, _, _, hrw, _⟩
    · rfl
    · exact hrw.name
  have hargs : md'.args = md.args := by
    rcases hmo with rfl | ⟨_, _, _, _, _, _, hrw, _⟩
    · rfl
    · exact hrw.args
  refine ⟨hname, hargs, ?_⟩
  intro s0 hs0
  cases hsf : singleFieldOf st md with
  | none =>
    simp only
    rcases hmo with hmo | ⟨cls, node, classes, f, hr, hn, _, _⟩
    · exact hmo
    · obtain ⟨ann, hs, _, _⟩ := nodeAndClass_single st md cls f node classes hr hn
      rw [hsf] at hs; cases hs
  | some fa =>
    obtain ⟨f, ann⟩ := fa
    simp only
    rcases hmo with hmo | ⟨cls, node, classes, f', hr, hn, hrw, _⟩
    · -- "untouched" is impossible: alone, the plugin rewrites this method
      exfalso
      obtain ⟨s, hsh, _, hkind⟩ := hk (by rw [hsf]; rfl)
      have hb := shapeOf_sound md s hsh
      obtain ⟨cls, hrc, hsingle⟩ := singleFieldOf_some st md f ann hsf
      have h0 := hal st rfl
      cases hsm : shorterModifyMethod st md with
      | error e => rw [hsm] at h0; cases h0
      | ok r0 =>
        rw [hsm] at h0
        have hr0 : r0.2 = md := by rw [← hmo]; simpa [Except.map] using h0
        rcases hkind with ⟨aw, r, d, cls', ht, hret'⟩ | ⟨d, o, a', cls', ht, hret'⟩
        · have hcls : cls' = cls := by simp [returnClassOf, hret'] at hrc; exact hrc
          subst hcls
          have := (shorter_call_iff st r0.1 md r0.2 s aw r d cls' hb ht hret' (by rw [hsm])).2
          rw [hr0] at this
          exact (this.mp rfl) f ann hsingle
        · have hcls : cls' = cls := by simp [returnClassOf, hret'] at hrc; exact hrc
          subst hcls
          have := (shorter_sub_iff st r0.1 md r0.2 s d cls' o a' hb ht hret' (by rw [hsm])).2
          rw [hr0] at this
          exact (this.mp rfl) f ann hsingle
    · obtain ⟨ann', hs', _, _⟩ := nodeAndClass_single st md cls f' node classes hr hn
      rw [hsf] at hs'
      simp only [Option.some.injEq, Prod.mk.injEq] at hs'
      obtain ⟨rfl, _⟩ := hs'
      exact shapeOf_bodyOf md' _ (hrw.body s0 (shapeOf_sound md s0 hs0))

theorem shorter_no_crash_rel (known : List String) (st : ShorterState) (fr : List Top) (ops : Option (String × OpsFile))
    (M0 : Module) (pre0 : List Top) (g : Method) (C0 : ClassDef)
    (H : ShorterHypsR known st fr ops M0 pre0 g C0) : ∃ r, shorterClientModule st M0 = .ok r := by
  obtain ⟨r, hr⟩ := shorter_no_crash_methods st.classDict C0.body st rfl H.gen.dictOK H.gen.kind
  unfold shorterClientModule
  rw [firstClass_of_body M0 pre0 g C0 H.body H.noclass]
  simp only
  rw [H.body, mapFirstClassM_pre _ g C0 pre0 st H.noclass, hr]
  simp only [bind_ok, pure_eq_ok]
  split
  · exact ⟨_, rfl⟩
  · exact ⟨_, rfl⟩

theorem shorter_concl_rel (known : List String) (st st' : ShorterState) (fr : List Top) (ops : Option (String × OpsFile))
    (M0 M1 : Module) (pre0 : List Top) (g : Method) (C0 : ClassDef)
    (H : ShorterHypsR known st fr ops M0 pre0 g C0) (h : shorterClientModule st M0 = .ok (st', M1)) :
    ShorterConclR known st ops { body := fr ++ M0.body } { body := fr ++ M1.body } C0 := by
  obtain ⟨st1, items1, hmm, hbody1⟩ := shorterClientModule_form st st' M0 M1 pre0 g C0 H.body H.noclass h
  have F0 := module_facts st1.extendedImports M0 M1 pre0 g C0 { C0 with body := items1 } H.body H.noclass rfl hbody1
  have F := F0.frame fr H.frame
  obtain ⟨_, hout, hwithin⟩ := shorter_methods_spec C0.body st st1 items1 hmm
  obtain ⟨_, halone⟩ := shorter_methods_history_free C0.body st st1 items1 hmm
  have hfc0 : ({ body := fr ++ M0.body } : Module).firstClass? = some C0 := by
    rw [firstClass_frame fr H.frame]; exact firstClass_of_body M0 pre0 g C0 H.body H.noclass
  -- the imports collected: keys are method names or recorded sources of pool classes, names are pool classes
  have hE : ExtWithin (C0.methods.map (·.name) ++ (leafPool st C0.methods).filterMap (fun n => alookup n st.importedTypes))
      (leafPool st C0.methods) st1.extendedImports := by
    apply hwithin
    · intro m hm; exact List.mem_append_left _ (List.mem_map.mpr ⟨m, hm, rfl⟩)
    · intro c hc v hv
      apply List.mem_append_right
      rw [List.mem_filterMap]
      exact ⟨c, hc, hv⟩
    · intro m hm cls node classes f hr hn cl hcl
      obtain ⟨ann, hs, _, rfl⟩ := nodeAndClass_single st m cls f node classes hr hn
      exact leafPool_mem st C0.methods m hm f ann hs cl hcl
    · rw [H.extEmpty]; intro x hx; simp at hx
  have hadded : ∀ n ∈ addedNames st1.extendedImports, n ∈ leafPool st C0.methods := by
    intro n hn
    unfold addedNames at hn
    rw [List.mem_flatMap] at hn
    obtain ⟨x, hx, hnx⟩ := hn
    exact (hE x hx).2 n hnx
  have hboth := ItemsRel.and hout halone
  have hper : ItemsRel (PerMethod st) C0.body items1 :=
    ItemsRel.mono (fun md md' ⟨⟨hmo, hal⟩, hmem⟩ => perMethod_of_outcome hmo hal (H.gen.kind md hmem))
      (ItemsRel.and hboth (ItemsRel.with_mem hboth))
  have hC1methods : ∀ md' ∈ ({ C0 with body := items1 } : ClassDef).methods, ∃ md ∈ C0.methods,
      MethodOutcome st.classDict st.importedTypes st1.extendedImports md md' :=
    fun md' hmd' => ItemsRel.mem_right hout md' hmd'
  refine ⟨?_, ?_, ?_, ?_, F.names_mono, ⟨_, F.firstClass, hper⟩, ?_, ?_⟩
  · have h0 := (formatOkB_iff _).mp H.fmt0
    rw [formatOkB_iff]
    intro t' ht'
    rcases F.tops t' ht' with ⟨i, rfl⟩ | h | rfl
    · intro e o hc; cases hc
    · exact h0 t' h
    · intro e o hc; cases hc
  · have h0 := (annScopedB_iff _ C0 hfc0).mp H.ann0
    rw [annScopedB_iff _ _ F.firstClass]
    intro md' hmd' n hn
    obtain ⟨md, hmd, hmo⟩ := hC1methods md' hmd'
    rcases hmo with rfl | ⟨cls, node, classes, f, hr, hnc, hrw, hcov⟩
    · rcases h0 md' hmd n hn with h | h
      · exact .inl (F.names_mono n h)
      · exact .inr h
    · obtain ⟨ann, hs, hnode, hclasses⟩ := nodeAndClass_single st md cls f node classes hr hnc
      unfold defTimeNames at hn
      rw [hrw.args, hrw.rest] at hn
      simp only [List.mem_append] at hn
      rcases hn with (hn | hn) | hn
      · rcases h0 md hmd n (by unfold defTimeNames; simp only [List.mem_append]; exact .inl (.inl hn)) with h | h
        · exact .inl (F.names_mono n h)
        · exact .inr h
      · rcases h0 md hmd n (by unfold defTimeNames; simp only [List.mem_append]; exact .inl (.inr hn)) with h | h
        · exact .inl (F.names_mono n h)
        · exact .inr h
      · have hnew : n ∈ exNames (newReturns md ann) := by
          unfold newReturns
          rcases hrw.returns with ⟨c0, hm0, hm1⟩ | ⟨a, c0, hm0, hm1⟩
          · rw [hm1] at hn; rw [hm0]; simp only; rw [← hnode]; exact hn
          · rw [hm1] at hn; rw [hm0]; simp only; rw [← hnode]; exact hn
        rcases H.gen.ann md hmd f ann hs n hnew with ⟨hleaf, hah⟩ | h | h
        · exact .inl (F.covered n (hcov n (by rw [hclasses]; exact hleaf) hah))
        · exact .inl (F.names_mono n h)
        · exact .inr h
  · have h0 := (wellScopedB_iff _ C0 hfc0).mp H.well0
    rw [wellScopedB_iff _ _ F.firstClass]
    intro md' hmd'
    obtain ⟨md, hmd, hmo⟩ := hC1methods md' hmd'
    -- an operation constant keeps its binding: it is not one of the added names
    have h1 : runtimeUnresolved { client := ({ body := fr ++ M1.body } : Module), ops := ops } md = [] := by
      refine runtimeUnresolved_mono F.names_mono (fun v c hv hc hsome => ?_) (h0 md hmd)
      have hb := F.bindings c (fun hcc => H.gen.const md hmd v c hv hc (hadded _ hcc))
      unfold constValue resolveRuntime at hsome ⊢
      simp only at hb hsome ⊢
      rw [hb]
      exact hsome
    rcases hmo with rfl | ⟨cls, node, classes, f, hr, hnc, hrw, hcov⟩
    · exact h1
    · obtain ⟨ann, hs, _, _⟩ := nodeAndClass_single st md cls f node classes hr hnc
      obtain ⟨s, hsh, _, _⟩ := H.gen.kind md hmd (by rw [hs]; rfl)
      have hsh' : shapeOf md' = some (shorterShape s f) := shapeOf_bodyOf md' _ (hrw.body s (shapeOf_sound md s hsh))
      exact (runtimeUnresolved_congr hsh hsh' rfl rfl rfl rfl (by rw [hrw.args])).mpr h1
  ·
    intro i' hi' q hq
    rcases F.provenance i' hi' with ⟨i, hi, hm, hl⟩ | ⟨x, hx, rfl⟩
    · rw [relModule_congr i i' hm hl] at hq
      exact H.imp0 i hi q hq
    · unfold relModule at hq
      simp only [bne_self_eq_false, Bool.false_or] at hq
      split at hq
      · rename_i hdot
        simp only [Option.some.injEq] at hq
        rw [dotted_zero] at hq
        subst hq
        have hkey := (hE x hx).1
        rcases List.mem_append.mp hkey with hk | hk
        · obtain ⟨m, hm, hmn⟩ := List.mem_map.mp hk
          have := H.gen.names m hm
          rw [hmn] at this
          rw [this] at hdot
          cases hdot
        · rw [List.mem_filterMap] at hk
          obtain ⟨n, hn, hv⟩ := hk
          exact H.gen.srcs n hn x.1 hv hdot
      · cases hq
  ·
    intro md hmd s hs
    apply F.bindings
    intro hc
    exact H.gen.ret md hmd s hs (hadded _ hc)
  ·
    intro md hmd s c hs hc
    apply F.bindings
    intro hcc
    exact H.gen.const md hmd s c hs hc (hadded _ hcc)

end Ariadne.C15
