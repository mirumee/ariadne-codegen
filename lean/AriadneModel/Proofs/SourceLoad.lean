/-
  Lemmas about `Model/SourceLoad.lean` (C17): the sorted walk visits exactly the graphql files of the
  tree (`InNode`/`InList`, a specification that does not mention the walk), reading them one by one succeeds
  exactly when every file is text that parses on its own and otherwise fails at the first that does not, and
  `loadText` fails exactly as that reading fails.  For every tree, every `parses`.  (The refusal iff of the loader
  itself, `loadSource_refuses_iff`, is in Proofs/Pipeline.lean.)
-/
import AriadneModel.Model.SourceLoad
import AriadneModel.Proofs.Order
import AriadneModel.Proofs.ListLemmas

namespace Ariadne.SourceLoad

/-! ### `sorted` keeps the set of entries: `sortEntries` is the stable insertion sort of Model/Order.lean -/

theorem sortEntries_eq (l : List Entry) :
    sortEntries l = Order.sortBy (fun a b => !partsLt b.parts a.parts) l := by
  have step : insertEntry = Order.insertBy (fun a b => !partsLt b.parts a.parts) := by
    funext e l
    induction l with
    | nil => rfl
    | cons x xs ih =>
      simp only [insertEntry, Order.insertBy, ih]
      by_cases h : partsLt x.parts e.parts = true <;> simp [h]
  rw [sortEntries, step]; rfl

theorem mem_sortEntries (x : Entry) (l : List Entry) : x ∈ sortEntries l ↔ x ∈ l :=
  sortEntries_eq l ▸ Order.mem_sortBy _ l x

theorem length_sortEntries (l : List Entry) : (sortEntries l).length = l.length :=
  sortEntries_eq l ▸ (Order.sortBy_perm _ l).length_eq

mutual
  theorem mem_walkNode (pre : List String) : ∀ (n : FsNode) (e : Entry),
      e ∈ walkNode pre n ↔ InNode pre n e.parts e.content
    | .file name c, e => by
      simp only [walkNode]
      constructor
      · intro h
        by_cases hs : hasGraphqlSuffix name = true
        · simp only [hs, if_true, List.mem_singleton] at h
          subst h
          exact InNode.file pre name c hs
        · simp [hs] at h
      · intro h
        obtain ⟨parts, content⟩ := e
        cases h with
        | file _ _ _ hs => simp [hs]
    | .dir name cs, e => by
      simp only [walkNode, List.mem_append]
      constructor
      · rintro (h | h)
        · by_cases hs : hasGraphqlSuffix name = true
          · simp only [hs, if_true, List.mem_singleton] at h
            subst h
            exact InNode.dirItself pre name cs hs
          · simp [hs] at h
        · exact InNode.inside pre name cs _ _ ((mem_walkList (pre ++ [name]) cs e).mp h)
      · intro h
        obtain ⟨parts, content⟩ := e
        cases h with
        | dirItself _ _ _ hs => left; simp [hs]
        | inside _ _ _ _ _ hin => exact Or.inr ((mem_walkList (pre ++ [name]) cs ⟨parts, content⟩).mpr hin)
  theorem mem_walkList (pre : List String) : ∀ (ns : List FsNode) (e : Entry),
      e ∈ walkList pre ns ↔ InList pre ns e.parts e.content
    | [], e => by
      simp only [walkList, List.not_mem_nil, false_iff]
      intro h
      cases h
    | x :: xs, e => by
      simp only [walkList, List.mem_append]
      constructor
      · rintro (h | h)
        · exact InList.head pre x xs _ _ ((mem_walkNode pre x e).mp h)
        · exact InList.tail pre x xs _ _ ((mem_walkList pre xs e).mp h)
      · intro h
        cases h with
        | head _ _ _ _ _ hin => exact Or.inl ((mem_walkNode pre x e).mpr hin)
        | tail _ _ _ _ _ hin => exact Or.inr ((mem_walkList pre xs e).mpr hin)
end

theorem mem_filesRead_iff (r : Root) (p : String) (c : Content) : (p, c) ∈ filesRead r ↔ HasFile r p c := by
  cases r with
  | file resolved c0 =>
    simp only [filesRead, HasFile, List.mem_singleton, Prod.mk.injEq]
  | dir path cs =>
    simp only [filesRead, HasFile, List.mem_map, Prod.mk.injEq]
    constructor
    · rintro ⟨e, he, hp, hc⟩
      have hin := (mem_walkList [] cs e).mp ((mem_sortEntries e _).mp he)
      refine ⟨e.parts, ?_, ?_⟩
      · rw [← hc]; exact hin
      · rw [← hp, ← hc]
    · rintro ⟨parts, hin, hp⟩
      refine ⟨⟨parts, c⟩, ?_, hp.symm, rfl⟩
      exact (mem_sortEntries _ _).mpr ((mem_walkList [] cs ⟨parts, c⟩).mpr hin)

theorem readFile_ok_iff (parses : String → Bool) (p : String) (c : Content) :
    (∃ t, readFile parses p c = .ok t) ↔ ∃ s, c = .text s ∧ parses s = true := by
  cases c with
  | unreadable exc => simp [readFile]
  | text s => by_cases h : parses s = true <;> simp [readFile, h]

theorem readFile_ok_eq (parses : String → Bool) (p : String) (c : Content) (t : String)
    (h : readFile parses p c = .ok t) : c = .text t ∧ parses t = true := by
  cases c with
  | unreadable exc => simp [readFile] at h
  | text s =>
    by_cases hp : parses s = true
    · simp [readFile, hp] at h; subst h; exact ⟨rfl, hp⟩
    · simp [readFile, hp] at h

theorem readFile_invalid (parses : String → Bool) (p : String) (c : Content) (f : String)
    (h : readFile parses p c = .error (.invalidSyntax f)) : f = p ∧ ∃ s, c = .text s ∧ parses s = false := by
  cases c with
  | unreadable exc => simp [readFile] at h
  | text s =>
    by_cases hp : parses s = true
    · simp [readFile, hp] at h
    · simp [readFile, hp] at h
      exact ⟨h.symm, s, rfl, by simpa using hp⟩

theorem readFile_raw (parses : String → Bool) (p : String) (c : Content) (cls : String)
    (h : readFile parses p c = .error (.raw cls)) : c = .unreadable cls := by
  cases c with
  | unreadable exc => simp [readFile] at h; rw [h]
  | text s => by_cases hp : parses s = true <;> simp [readFile, hp] at h

theorem readAll_eq (parses : String → Bool) : ∀ fs, readAll parses fs = fs.mapM (fun pc => readFile parses pc.1 pc.2)
  | [] => rfl
  | (p, c) :: rest => by
    rw [List.mapM_cons, ← readAll_eq parses rest, readAll]
    cases readFile parses p c <;> cases readAll parses rest <;> rfl

theorem readAll_ok_iff (parses : String → Bool) (fs : List (String × Content)) :
    (∃ ss, readAll parses fs = .ok ss) ↔ ∀ pc ∈ fs, ∃ s, pc.2 = .text s ∧ parses s = true := by
  simp only [readAll_eq, Lists.mapM_isOk_iff, readFile_ok_iff]

theorem readAll_ok_texts (parses : String → Bool) (fs : List (String × Content)) (ss : List String)
    (h : readAll parses fs = .ok ss) : fs.map (·.2) = ss.map Content.text :=
  Lists.mapM_ok_map _ _ (fun pc t ht => (readFile_ok_eq parses pc.1 pc.2 t ht).1) (readAll_eq parses fs ▸ h)

theorem readAll_invalid_split (parses : String → Bool) (fs : List (String × Content)) (f : String)
    (h : readAll parses fs = .error (.invalidSyntax f)) :
    ∃ pre s post, fs = pre ++ (f, .text s) :: post ∧ parses s = false ∧
      ∀ pc ∈ pre, ∃ t, pc.2 = .text t ∧ parses t = true := by
  obtain ⟨pre, ⟨p, c⟩, post, rfl, hpre, hx⟩ := Lists.mapM_eq_error_iff.mp (readAll_eq parses fs ▸ h)
  obtain ⟨rfl, s, rfl, hs⟩ := readFile_invalid parses p c f hx
  exact ⟨pre, s, post, rfl, hs, fun pc hpc => (readFile_ok_iff parses pc.1 pc.2).mp (hpre pc hpc)⟩

theorem readAll_raw (parses : String → Bool) (fs : List (String × Content)) (cls : String)
    (h : readAll parses fs = .error (.raw cls)) : ∃ pc ∈ fs, pc.2 = .unreadable cls := by
  obtain ⟨pre, pc, post, rfl, _, hx⟩ := Lists.mapM_eq_error_iff.mp (readAll_eq parses fs ▸ h)
  exact ⟨pc, by simp, readFile_raw parses pc.1 pc.2 cls hx⟩

theorem readAll_refuses (parses : String → Bool) (fs : List (String × Content))
    (hread : ∀ pc ∈ fs, ∃ s, pc.2 = .text s) (hbad : ∃ pc ∈ fs, ∃ s, pc.2 = .text s ∧ parses s = false) :
    ∃ f, readAll parses fs = .error (.invalidSyntax f) := by
  cases hr : readAll parses fs with
  | ok ss =>
    obtain ⟨pc, hm, s, hs, hp⟩ := hbad
    obtain ⟨t, ht, hpt⟩ := (readAll_ok_iff parses fs).mp ⟨ss, hr⟩ pc hm
    rw [hs] at ht
    injection ht with ht
    subst ht
    rw [hp] at hpt
    cases hpt
  | error e =>
    cases e with
    | invalidSyntax f => exact ⟨f, rfl⟩
    | raw cls =>
      obtain ⟨pc, hm, hu⟩ := readAll_raw parses fs cls hr
      obtain ⟨s, hs⟩ := hread pc hm
      rw [hs] at hu
      cases hu

theorem loadText_error_iff (parses : String → Bool) (r : Root) (e : LoadErr) :
    loadText parses r = .error e ↔ readAll parses (filesRead r) = .error e := by
  cases r with
  | file resolved c =>
    simp only [loadText, filesRead, readAll]
    cases readFile parses resolved c <;> simp
  | dir path cs =>
    simp only [loadText]
    cases readAll parses (filesRead (.dir path cs)) <;> simp

theorem loadText_ok_iff (parses : String → Bool) (r : Root) :
    (∃ t, loadText parses r = .ok t) ↔ ∀ p c, HasFile r p c → ∃ s, c = .text s ∧ parses s = true := by
  have key : (∃ t, loadText parses r = .ok t) ↔ ∃ ss, readAll parses (filesRead r) = .ok ss := by
    cases r with
    | file resolved c =>
      simp only [loadText, filesRead, readAll]
      cases hf : readFile parses resolved c <;> simp
    | dir path cs =>
      simp only [loadText]
      cases hr : readAll parses (filesRead (.dir path cs)) <;> simp
  rw [key, readAll_ok_iff]
  constructor
  · intro h p c hf
    exact h (p, c) ((mem_filesRead_iff r p c).mpr hf)
  · intro h pc hm
    exact h pc.1 pc.2 ((mem_filesRead_iff r pc.1 pc.2).mp hm)

theorem readable_file (p t : String) : AllReadable (.file p (.text t)) := by
  intro p' c h
  simp only [HasFile] at h
  exact ⟨t, h.2⟩

theorem readable_texts (path : String) (ns : List (String × String)) :
    AllReadable (.dir path (ns.map fun nt => FsNode.file nt.1 (.text nt.2))) := by
  intro p c h
  obtain ⟨parts, hin, _⟩ := h
  have hm := (mem_walkList [] _ ⟨parts, c⟩).mpr hin
  clear hin
  induction ns with
  | nil => simp [walkList] at hm
  | cons nt rest ih =>
    simp only [List.map_cons, walkList, List.mem_append, walkNode] at hm
    rcases hm with hm | hm
    · split at hm
      · simp at hm; exact ⟨nt.2, hm.2⟩
      · simp at hm
    · exact ih hm

end Ariadne.SourceLoad
