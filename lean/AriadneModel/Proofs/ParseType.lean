/-
  `parse_operation_field_type` (`ResultTypes.parseType`) in closed form: the annotation of a type is
  the annotation of its NAMED type inside the type's `Optional[…]` / `List[…]` wrappers, and the field context it returns is
  the named type's.  What a proof needs to know about the six cases of the named type it reads off `parseType … (.named n)`;
  the wrappers are `wrapT`.  `namedT` has no lemmas of its own: a client unfolds `namedT parseType` at the case of the named
  type it is about (`ResultLeaf.namedT_leaf`, `ResultLeaf.namedT_skel` do).  Core Lean only.
-/
import AriadneModel.Model.ResultTypes

namespace Ariadne.ResultTypes
open Ariadne.Gql

def wrapT : Bool → TypeRef → Ann → Ann
  | nl, .named _, L => optionalIf nl L
  | nl, .list t, L => optionalIf nl (.list (wrapT true t L))
  | _, .nonNull t, L => wrapT false t L

/-- `add_type_name` reaches the named type only when nothing wraps it -/
def topNamed : TypeRef → Bool
  | .named _ => true
  | _ => false

/-- what the named type contributes: its annotation (taken at a non-null position, so without `Optional`) and the context -/
def namedT (env : Env) (fuel : Nat) (sel : List Selection) (n cn : String) (add : Bool) (ctx : Ctx) : Except GenErr (Ann × Ctx) :=
  parseType env fuel sel (.named n) false cn add ctx

theorem parseType_eq (env : Env) (fuel : Nat) (sel : List Selection) : ∀ (T : TypeRef) (nl : Bool) (cn : String) (add : Bool) (ctx : Ctx),
    parseType env fuel sel T nl cn add ctx =
      (namedT env fuel sel T.base cn (add && topNamed T) ctx).map fun p => (wrapT nl T p.1, p.2)
  | .nonNull t, nl, cn, add, ctx => by
    simp only [parseType, parseType_eq env fuel sel t false cn false ctx, TypeRef.base, topNamed, Bool.and_false, Bool.false_and, wrapT]
  | .list t, nl, cn, add, ctx => by
    simp only [parseType, parseType_eq env fuel sel t true cn false ctx, TypeRef.base, topNamed, Bool.and_false, Bool.false_and, wrapT]
    cases namedT env fuel sel t.base cn false ctx <;> rfl
  | .named n, nl, cn, add, ctx => by
    -- every case of the named type returns `optionalIf nullable L` with `L` and the context independent of `nullable`
    simp only [TypeRef.base, topNamed, Bool.and_true, wrapT, namedT]
    unfold parseType
    split
    · simp only [bind, Except.bind]
      cases inlineFragmentConds env.frags fuel sel with
      | error e => rfl
      | ok inl =>
        cases fragmentsOnSubtype env sel n with
        | error e => rfl
        | ok subs =>
          simp only
          split
          · split <;> rfl
          · rfl
    · rfl
    · rfl
    · rfl
    · rfl
    · split
      · rfl
      · split <;> rfl

theorem parseType_ok {env : Env} {fuel : Nat} {sel : List Selection} {T : TypeRef} {nl : Bool} {cn : String} {add : Bool} {ctx ctx' : Ctx}
    {a : Ann} (h : parseType env fuel sel T nl cn add ctx = .ok (a, ctx')) :
    ∃ L, namedT env fuel sel T.base cn (add && topNamed T) ctx = .ok (L, ctx') ∧ a = wrapT nl T L := by
  rw [parseType_eq] at h
  cases hn : namedT env fuel sel T.base cn (add && topNamed T) ctx with
  | error e => rw [hn] at h; cases h
  | ok p => rw [hn] at h; cases h; exact ⟨p.1, rfl, rfl⟩

end Ariadne.ResultTypes
