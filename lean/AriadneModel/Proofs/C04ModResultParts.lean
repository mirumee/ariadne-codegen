/-
  Proofs/C04ModResultParts.lean — what the modules `ResultTypesGenerator` produces (one per operation; `fragments.py`) are
  built from: the import list of a generator (`mem_generatorImports_true`) and how its members resolve
  (`generatorImports_resolve`), where every name an annotation evaluates is bound (`result_uses_bound`: a builtin or imported),
  and where a base class that is no class of the module is bound (`result_extbase_bound`).  The module theorems are in
  Proofs/C04ModResult.lean.
-/
import AriadneModel.Proofs.C04ModShared
import AriadneModel.Proofs.C04Result


namespace Ariadne.C04Proofs
open Ariadne.Package Ariadne.PackageValid Ariadne.Spec.PyScope
open Ariadne.ResultTypes (pascal ModuleOut GenSpec fixedNames MixOK GoodPair)

theorem rtEnv_scalar {cfg : Config} {inp : Input} {n : String} {sc : ResultTypes.ScalarCfg}
    (h : ResultTypes.scalarCfg? (rtEnv cfg inp) n = some sc) :
    ∃ d, Scalars.lookupScalar cfg.scalars n = some d ∧ sc.typeName = d.typeName ∧ sc.parseName = d.parseName := by
  obtain ⟨k, d, hd, rfl⟩ := find?_map_scalars cfg.scalars (fun nd => (⟨nd.1, nd.2.typeName, nd.2.parseName⟩ : ResultTypes.ScalarCfg))
    ResultTypes.ScalarCfg.name (fun _ => rfl) h
  exact ⟨d, hd, rfl, rfl⟩

/-- what an operation's generator imports beyond a fragment's: `from .fragments import …` when it inherits from fragments -/
theorem mem_generatorImports_true {cfg : Config} {st : ResultTypes.St} {i : Import} :
    i ∈ generatorImports cfg true st ↔
      i ∈ generatorImports cfg false st ∨ (st.mixins ≠ [] ∧ i = ⟨1, cfg.fragmentsModule, st.mixins.map pascal⟩) := by
  unfold generatorImports
  cases hm : st.mixins with
  | nil => simp
  | cons a l => simp [or_assoc]

def iTypingR : Import := ⟨0, "typing", ["Optional", "Union", "Any", "List", "Literal", "Annotated"]⟩
def iPydanticR : Import := ⟨0, "pydantic", ["Field", "BeforeValidator"]⟩
def iBaseModelR : Import := ⟨1, "base_model", ["BaseModel"]⟩

theorem base_mem_generatorImports (cfg : Config) (b : Bool) (st : ResultTypes.St) :
    iTypingR ∈ generatorImports cfg b st ∧ iPydanticR ∈ generatorImports cfg b st ∧ iBaseModelR ∈ generatorImports cfg b st := by
  unfold generatorImports resultBaseImports iTypingR iPydanticR iBaseModelR
  simp

theorem fixedNames_bound : ∀ u ∈ fixedNames, u ∈ iTypingR.names ∨ u ∈ iPydanticR.names ∨ builtins.contains u = true := by
  decide +kernel

section
variable {cfg : Config} {inp : Input} {p : PackageIR} {st : St} {io : InputsOut}
  {fx : Option (Fragments.FragmentsOut × List Fragments.DefGen)}

theorem generatorImports_resolve (F : Facts cfg inp p st io fx) (hc : cfgOK cfg = true) {gst : ResultTypes.St}
    (hmix : MixOK (GoodPair cfg) gst)
    (henum : ∀ e ∈ gst.usedEnums, inp.schema.kindOf? e = some .enum ∧ e ∈ finalUsedEnums st io fx) :
    ∀ i ∈ generatorImports cfg false gst, Resolves p (normImport i) := by
  intro i hi
  unfold generatorImports at hi
  simp only [Bool.false_and, Bool.false_eq_true, if_false, List.append_nil, List.mem_append] at hi
  rcases hi with ((hi | hi) | hi) | hi
  · simp only [resultBaseImports, List.mem_cons, List.mem_nil_iff, or_false] at hi
    rcases hi with rfl | rfl | rfl
    · exact resolves_absolute typing_noDot
    · exact resolves_absolute pydantic_noDot
    · exact F.resolves_baseModel (by simp)
  · obtain ⟨pr, hpr, rfl⟩ := List.mem_map.mp hi
    exact resolves_userImport F (hmix pr hpr)
  · split at hi
    · cases hi
    · rw [List.mem_singleton.mp hi]
      exact F.resolves_enums (cfgFacts hc) henum
  · exact F.resolves_scalarImports hc i hi

end

theorem result_uses_bound {cfg : Config} {inp : Input} (hc : cfgOK cfg = true) {m : ModuleIR} {out : ModuleOut}
    (gs : GenSpec (rtEnv cfg inp) out) (himp : ∀ i ∈ generatorImports cfg false out.st, i ∈ m.imports)
    {cd : ResultTypes.ClassDecl} (hcd : cd ∈ out.classes) : ∀ u ∈ (resultClassIR cd).uses, Avail m u := by
  intro u hu
  simp only [resultClassIR, List.mem_flatMap] at hu
  obtain ⟨f, hf, hu⟩ := hu
  obtain ⟨b1, b2, b3⟩ := base_mem_generatorImports cfg false out.st
  rcases gs.uses cd hcd f hf u hu with hfix | henum | ⟨n, sc, hn, hsc, hcase⟩
  · rcases fixedNames_bound u hfix with h | h | h
    · exact .of_import (himp _ b1) h
    · exact .of_import (himp _ b2) h
    · exact Or.inl h
  · have hne : out.st.usedEnums.isEmpty = false := List.isEmpty_eq_false_iff.mpr (List.ne_nil_of_mem henum)
    refine .of_import (i := ⟨1, cfg.enumsModule, out.st.usedEnums⟩) (himp _ ?_) henum
    unfold generatorImports
    simp [hne]
  · obtain ⟨d, hd, h1, h2⟩ := rtEnv_scalar hsc
    have hcase' : u = d.typeName ∨ some u = d.parseName ∨ some u = d.serializeName :=
      hcase.elim (fun h => Or.inl (by rw [h, h1])) (fun h => Or.inr (Or.inl (by rw [← h2, h])))
    rcases scalar_name_where hc hd hcase' hn with hb | rfl | ⟨i, hi, hni, _⟩
    · exact Or.inl hb
    · exact .of_import (himp _ b1) (by simp [iTypingR])
    · refine .of_import (himp i ?_) hni
      unfold generatorImports
      exact List.mem_append_left _ (List.mem_append_right _ hi)

theorem result_extbase_bound {cfg : Config} {m : ModuleIR} {gst : ResultTypes.St}
    (himp : ∀ i ∈ generatorImports cfg false gst, i ∈ m.imports) {b : String}
    (hb : b = "BaseModel" ∨ ∃ pr ∈ gst.mixinImports, b = pr.2) : Avail m b := by
  obtain ⟨_, _, b3⟩ := base_mem_generatorImports cfg false gst
  rcases hb with rfl | ⟨pr, hpr, rfl⟩
  · exact .of_import (himp _ b3) (by simp [iBaseModelR])
  · refine .of_import (i := ⟨0, pr.1, [pr.2]⟩) (himp _ ?_) (by simp)
    unfold generatorImports
    refine List.mem_append_left _ (List.mem_append_left _ (List.mem_append_left _ (List.mem_append_right _ ?_)))
    exact List.mem_map.mpr ⟨pr, hpr, rfl⟩

end Ariadne.C04Proofs
