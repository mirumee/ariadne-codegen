/-
  C06: required fields are enforced, a field that is not provided is not dumped (`exclude_unset`) and is completed by
  the server with the schema default (lemmas about the second passes `PydInput.finish` / `CoerceInput.finish`).
-/
import AriadneModel.Proofs.InputRel


namespace Ariadne.C06Defaults
open Ariadne.InputGen (TypeRef)
open Ariadne.CoerceInput Ariadne.PydInput Ariadne.InputRel

theorem validateKvs_keys (env : Env) (specs : List FieldSpec) (all : List (String × J)) :
    ∀ (rest : List (String × J)) (vals : List (String × PV)), validateKvs env specs all rest = .ok vals →
      ∀ p ∈ vals.map (·.1), ∃ sp ∈ specs, sp.py = p ∧ (sp.key ∈ rest.map (·.1) ∨ sp.py ∈ rest.map (·.1)) := by
  intro rest
  induction rest with
  | nil => intro vals h p hp; simp [validateKvs] at h; subst h; simp at hp
  | cons kv rest ih =>
    intro vals h p hp
    obtain ⟨k, v⟩ := kv
    have lift : (∃ sp ∈ specs, sp.py = p ∧ (sp.key ∈ rest.map (·.1) ∨ sp.py ∈ rest.map (·.1))) →
        ∃ sp ∈ specs, sp.py = p ∧ (sp.key ∈ ((k, v) :: rest).map (·.1) ∨ sp.py ∈ ((k, v) :: rest).map (·.1)) := by
      rintro ⟨sp, hsp, hpy, hor⟩
      refine ⟨sp, hsp, hpy, ?_⟩
      rcases hor with h' | h'
      · exact Or.inl (List.mem_cons_of_mem _ h')
      · exact Or.inr (List.mem_cons_of_mem _ h')
    simp only [validateKvs] at h
    cases hk : findByKey specs k with
    | some f =>
      simp only [hk] at h
      cases hv : validate env f.ann v with
      | error e => simp [hv] at h
      | ok pv =>
        simp only [hv] at h
        cases hr : validateKvs env specs all rest with
        | error e => simp [hr] at h
        | ok out =>
          simp only [hr, Except.ok.injEq] at h
          subst h
          simp only [List.map, List.mem_cons] at hp
          rcases hp with rfl | hp
          · obtain ⟨hm, hkey⟩ := findByKey_mem hk
            exact ⟨f, hm, rfl, Or.inl (by simp [hkey])⟩
          · exact lift (ih out hr p hp)
    | none =>
      simp only [hk] at h
      cases hn : findByName specs k with
      | none =>
        simp only [hn] at h
        exact lift (ih vals h p hp)
      | some f =>
        simp only [hn] at h
        by_cases hh : J.hasKey f.key all = true
        · simp only [hh, if_true] at h
          exact lift (ih vals h p hp)
        · have hh' : J.hasKey f.key all = false := by simpa using hh
          simp only [hh', Bool.false_eq_true, if_false] at h
          cases hv : validate env f.ann v with
          | error e => simp [hv] at h
          | ok pv =>
            simp only [hv] at h
            cases hr : validateKvs env specs all rest with
            | error e => simp [hr] at h
            | ok out =>
              simp only [hr, Except.ok.injEq] at h
              subst h
              simp only [List.map, List.mem_cons] at hp
              rcases hp with rfl | hp
              · unfold findByName at hn
                have hm := List.mem_of_find?_eq_some hn
                have hpy : f.py = k := by simpa using List.find?_some hn
                exact ⟨f, hm, rfl, Or.inr (by simp [hpy])⟩
              · exact lift (ih out hr p hp)

theorem lookupPV_none_of_absent (env : Env) (specs : List FieldSpec) (hn : namesOK specs = true) (sp : FieldSpec)
    (hsp : sp ∈ specs) (kvs : List (String × J)) (h1 : sp.key ∉ kvs.map (·.1)) (h2 : sp.py ∉ kvs.map (·.1))
    (vals : List (String × PV)) (hv : validateKvs env specs kvs kvs = .ok vals) : lookupPV sp.py vals = none := by
  rw [lookupPV_eq]
  refine Lists.lookup_none_iff.mpr fun hmem => ?_
  obtain ⟨sp', hsp', hpy, hor⟩ := validateKvs_keys env specs kvs kvs vals hv sp.py hmem
  obtain ⟨_, hpd, _⟩ := namesOK_parts hn
  have : sp' = sp := strDistinct_inj (fun (x : FieldSpec) => x.py) specs hpd sp' hsp' sp hsp hpy
  subst this
  rcases hor with h | h
  · exact h1 h
  · exact h2 h

theorem construct_inv {env : Env} {cls : String} {c : ClassSpec} (hc : env.class? cls = some c) {kvs : List (String × J)}
    {m : PV} (hm : construct env cls (.obj kvs) = .ok m) :
    ∃ vals fields, validateKvs env c.fields kvs kvs = .ok vals ∧ PydInput.finish c.fields vals = .ok fields ∧
      m = .model cls fields (vals.map (·.1)) := by
  unfold construct at hm
  by_cases hb : env.broken = true
  · simp [hb] at hm
  · simp only [hb, Bool.false_eq_true, if_false, validate, core, hc] at hm
    cases hdf : defaultFailure c.fields kvs with
    | some e => simp [hdf] at hm
    | none =>
    simp only [hdf] at hm
    cases hv : validateKvs env c.fields kvs kvs with
    | error e => simp [hv] at hm
    | ok vals =>
      simp only [hv] at hm
      cases hf : PydInput.finish c.fields vals with
      | error e => simp [hf] at hm
      | ok fields => simp only [hf, Except.ok.injEq] at hm; exact ⟨vals, fields, rfl, hf, hm.symm⟩

theorem finish_missing : ∀ (specs : List FieldSpec) (vals : List (String × PV)) (sp : FieldSpec), sp ∈ specs →
    sp.default = none → lookupPV sp.py vals = none → ∃ e, PydInput.finish specs vals = .error e := by
  intro specs
  induction specs with
  | nil => intro vals sp h; cases h
  | cons f specs ih =>
    intro vals sp hsp hd hl
    simp only [PydInput.finish]
    cases hf : PydInput.finish specs vals with
    | error e => exact ⟨e, rfl⟩
    | ok rest =>
      rcases List.mem_cons.mp hsp with rfl | hsp'
      · simp only [hl, hd]; exact ⟨_, rfl⟩
      · obtain ⟨e, he⟩ := ih vals sp hsp' hd hl
        rw [he] at hf
        cases hf

theorem missing_required_refused (env : Env) (cls : String) (c : ClassSpec) (hc : env.class? cls = some c)
    (hn : namesOK c.fields = true) (sp : FieldSpec) (hsp : sp ∈ c.fields) (hreq : sp.default = none)
    (kvs : List (String × J)) (h1 : sp.key ∉ kvs.map (·.1)) (h2 : sp.py ∉ kvs.map (·.1)) :
    ∃ e, construct env cls (.obj kvs) = .error e := by
  cases hm : construct env cls (.obj kvs) with
  | error e => exact ⟨e, rfl⟩
  | ok m =>
    obtain ⟨vals, fields, hv, hf, _⟩ := construct_inv hc hm
    obtain ⟨e, he⟩ := finish_missing c.fields vals sp hsp hreq (lookupPV_none_of_absent env c.fields hn sp hsp kvs h1 h2 vals hv)
    rw [he] at hf; cases hf

theorem finish_names : ∀ (fs : List CField) (cs out : List (String × J)), CoerceInput.finish fs cs = .ok out →
    ∀ k ∈ out.map (·.1), k ∈ fs.map (·.name) := by
  intro fs
  induction fs with
  | nil => intro cs out h k hk; simp [CoerceInput.finish] at h; subst h; simp at hk
  | cons f fs ih =>
    intro cs out h k hk
    obtain ⟨rest, hr, hcase⟩ := finish_cons_inv h
    have tail : k ∈ rest.map (·.1) → k ∈ (f :: fs).map (·.name) := fun hk' => List.mem_cons_of_mem _ (ih cs rest hr k hk')
    rcases hcase with ⟨c, _, rfl⟩ | ⟨_, d, _, rfl⟩ | ⟨_, _, _, rfl⟩
    · rcases List.mem_cons.mp hk with rfl | hk
      · simp
      · exact tail hk
    · rcases List.mem_cons.mp hk with rfl | hk
      · simp
      · exact tail hk
    · exact tail hk

theorem finish_default : ∀ (fs : List CField) (cs out : List (String × J)) (cf : CField) (d : J),
    strDistinct (fs.map (·.name)) = true → cf ∈ fs → cf.default = some (.ok d) → J.lookup cf.name cs = none →
    CoerceInput.finish fs cs = .ok out → J.lookup cf.name out = some d := by
  intro fs
  induction fs with
  | nil => intro cs out cf d _ h; cases h
  | cons f fs ih =>
    intro cs out cf d hdist hcf hdef hnone h
    simp only [List.map, strDistinct, Bool.and_eq_true, Bool.not_eq_true', List.contains_eq_mem, decide_eq_false_iff_not] at hdist
    obtain ⟨hnotin, hdist'⟩ := hdist
    obtain ⟨rest, hr, hcase⟩ := finish_cons_inv h
    rcases List.mem_cons.mp hcf with rfl | hcf'
    · rcases hcase with ⟨c, hc, _⟩ | ⟨_, d', hd', rfl⟩ | ⟨_, hd', _⟩
      · rw [hnone] at hc; cases hc
      · rw [hdef] at hd'; cases hd'; exact J.lookup_cons_eq
      · rw [hdef] at hd'; cases hd'
    · have hne : f.name ≠ cf.name := fun e => hnotin (e ▸ List.mem_map.mpr ⟨cf, hcf', rfl⟩)
      have htail := ih cs rest cf d hdist' hcf' hdef hnone hr
      rcases hcase with ⟨c, _, rfl⟩ | ⟨_, d', _, rfl⟩ | ⟨_, _, _, rfl⟩
      · rw [J.lookup_cons_ne hne]; exact htail
      · rw [J.lookup_cons_ne hne]; exact htail
      · exact htail

theorem server_applies_default (S : CSchema) (n : String) (fs : List CField) (hin : S.find? n = some (.input n fs))
    (hdist : strDistinct (fs.map (·.name)) = true) (cf : CField) (hcf : cf ∈ fs) (d : J) (hdef : cf.default = some (.ok d))
    (kvs : List (String × J)) (hk : cf.name ∉ kvs.map (·.1)) (c : J) (hc : coerce S (.named n) (.obj kvs) = .ok c) :
    ∃ out, c = .obj out ∧ J.lookup cf.name out = some d := by
  simp only [coerce, listDepth, nestE_zero, InputGen.TypeRef.base, hin] at hc
  cases hkv : coerceKvs S fs kvs with
  | error e => simp [hkv] at hc
  | ok cs =>
    simp only [hkv] at hc
    cases hfin : CoerceInput.finish fs cs with
    | error e => simp [hfin] at hc
    | ok out =>
      simp only [hfin, Except.ok.injEq] at hc
      refine ⟨out, hc.symm, ?_⟩
      apply finish_default fs cs out cf d hdist hcf hdef _ hfin
      rw [J.lookup_none_iff, coerceKvs_keys fs kvs cs hkv]
      exact hk

theorem pyd_finish_cons_inv {f : FieldSpec} {specs : List FieldSpec} {vals out : List (String × PV)}
    (h : PydInput.finish (f :: specs) vals = .ok out) :
    ∃ rest v, PydInput.finish specs vals = .ok rest ∧ out = (f.py, v) :: rest ∧
      (lookupPV f.py vals = some v ∨ (lookupPV f.py vals = none ∧ f.default = some (.ok v))) := by
  simp only [PydInput.finish] at h
  cases hf : PydInput.finish specs vals with
  | error e => simp [hf] at h
  | ok rest =>
    simp only [hf] at h
    cases hl : lookupPV f.py vals with
    | some pv => simp only [hl, Except.ok.injEq] at h; exact ⟨rest, pv, rfl, h.symm, .inl rfl⟩
    | none =>
      simp only [hl] at h
      cases hd : f.default with
      | none => simp [hd] at h
      | some r =>
        cases r with
        | error e => simp [hd] at h
        | ok d => simp only [hd, Except.ok.injEq] at h; exact ⟨rest, d, rfl, h.symm, .inr ⟨rfl, rfl⟩⟩

theorem finish_pys : ∀ (specs : List FieldSpec) (vals fields : List (String × PV)), PydInput.finish specs vals = .ok fields →
    fields.map (·.1) = specs.map (·.py) := by
  intro specs
  induction specs with
  | nil => intro vals fields h; simp [PydInput.finish] at h; subst h; rfl
  | cons f specs ih =>
    intro vals fields h
    obtain ⟨rest, v, hr, rfl, _⟩ := pyd_finish_cons_inv h
    simp [ih vals rest hr]

theorem dumpFields_keys (env : Env) (cls : String) (set : List String) : ∀ (fields : List (String × PV)) (k : String),
    k ∈ (dumpFields env cls set fields).map (·.1) → ∃ py ∈ fields.map (·.1), py ∈ set ∧ k = aliasOf env cls py := by
  intro fields
  induction fields with
  | nil => intro k h; simp [dumpFields] at h
  | cons f fields ih =>
    intro k h
    obtain ⟨py, v⟩ := f
    simp only [dumpFields] at h
    by_cases hs : set.contains py = true
    · simp only [hs, if_true, List.map, List.mem_cons] at h
      rcases h with rfl | h
      · exact ⟨py, by simp, by simpa using hs, rfl⟩
      · obtain ⟨py', h1, h2, h3⟩ := ih k h
        exact ⟨py', List.mem_cons_of_mem _ h1, h2, h3⟩
    · simp only [hs] at h
      obtain ⟨py', h1, h2, h3⟩ := ih k h
      exact ⟨py', List.mem_cons_of_mem _ h1, h2, h3⟩

theorem unset_not_dumped (env : Env) (cls : String) (c : ClassSpec) (hc : env.class? cls = some c)
    (hn : namesOK c.fields = true) (sp : FieldSpec) (hsp : sp ∈ c.fields)
    (kvs : List (String × J)) (h1 : sp.key ∉ kvs.map (·.1)) (h2 : sp.py ∉ kvs.map (·.1))
    (m : PV) (hm : construct env cls (.obj kvs) = .ok m) :
    ∃ out, dump env m = .obj out ∧ sp.key ∉ out.map (·.1) := by
  obtain ⟨vals, fields, hv, hf, rfl⟩ := construct_inv hc hm
  refine ⟨dumpFields env cls (vals.map (·.1)) fields, by simp [dump], ?_⟩
  intro hmem
  obtain ⟨py, hpy, hset, hk⟩ := dumpFields_keys env cls _ fields sp.key hmem
  obtain ⟨hkd, hpd, _⟩ := namesOK_parts hn
  rw [finish_pys c.fields vals fields hf] at hpy
  obtain ⟨sp', hsp', rfl⟩ := List.mem_map.mp hpy
  have hfind : c.fields.find? (fun f => f.py == sp'.py) = some sp' :=
    find_of_distinct (fun (x : FieldSpec) => x.py) c.fields hpd sp' hsp'
  have hal : aliasOf env cls sp'.py = sp'.key := by simp [aliasOf, hc, hfind]
  rw [hal] at hk
  have : sp = sp' := strDistinct_inj (fun (x : FieldSpec) => x.key) c.fields hkd sp hsp sp' hsp' hk
  subst this
  -- a dumped field was set by the first pass, so the dict mentioned it
  have hnone := lookupPV_none_of_absent env c.fields hn sp hsp kvs h1 h2 vals hv
  have hsome := lookupPV_isSome_of_mem vals sp.py hset
  simp [hnone] at hsome

end Ariadne.C06Defaults
