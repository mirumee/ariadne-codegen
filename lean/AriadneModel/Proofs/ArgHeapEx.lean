/-
  The two-call program of Properties/C03.lean and what is evaluated on it (only the model is needed
  for that): the base client of /repo sends the caller's CURRENT values on the second call; the
  write-where-you-walk variant of `_convert_value` (`convertValueIP`, not the code) sends the first
  call's snapshot.
-/
import AriadneModel.Model.ArgHeap
import AriadneModel.Proofs.ArgConstructEx


namespace Ariadne.ArgHeap.Ex
open Ariadne.ArgValues Ariadne.ArgSend Ariadne.ArgProofs.F9

def fkLimit : FieldKey := fieldKeyOf f9Cfg ⟨"limit", .named "Int" true, some (.num 10 0)⟩
def fkName : FieldKey := fieldKeyOf f9Cfg ⟨"name", .named "String" false, none⟩

/-- `p = P(limit=3); ps = [p]` -/
def store0 : CStore := [.inst "P" [(fkLimit, .imm (.int 3)), (fkName, .imm .unset)], .list [.ref 0]]

def psDefs : List VarDecl := [⟨"ps", .nonNull (.list (.nonNull (.named "P"))), none⟩]
def callQ : CallStep := ⟨"Q", "query Q", psDefs, [.ref 1]⟩

/-- `client.q(ps=ps); p.limit = 4; client.q(ps=ps)` -/
def prog : List Step := [.call callQ, .setField 0 0 (.imm (.int 4)), .call callQ]

def exFns : UserFns := { ser := fun _ j => j, other := fun _ v => .ok v }

def varsOf : Option (Except SendErr Request) → List (String × J)
  | some (.ok r) => r.variables
  | _ => []

def sentBy (conv : CVal → CStore → Option (PVal × CStore)) : List (List (String × J)) :=
  (runWith conv (envOf f9Cfg) exFns true 3 store0 prog).map varsOf

def limitIs (n : Int) : List (String × J) := [("ps", .arr [.obj [("limit", .num n 0)]])]

def sameVars : List (List (String × J)) → List (List (String × J)) → Bool
  | [], [] => true
  | a :: as, b :: bs => J.beqKvs a b && sameVars as bs
  | _, _ => false

/-- the program run three ways in one evaluation: with the client's conversion, with the in-place
    variant, and with calls that touch nothing -/
theorem prog_facts :
    sameVars (sentBy (convertValueC exFns 3)) [limitIs 3, limitIs 4] = true
    ∧ sameVars (sentBy (convertValueIP exFns 2)) [limitIs 3, limitIs 3] = true
    ∧ ∀ r ∈ runIdeal (envOf f9Cfg) exFns true 3 store0 prog, r.isSome = true := by decide +kernel

theorem real_client_sends_current : sameVars (sentBy (convertValueC exFns 3)) [limitIs 3, limitIs 4] = true := prog_facts.1
theorem in_place_variant_sends_stale : sameVars (sentBy (convertValueIP exFns 2)) [limitIs 3, limitIs 3] = true := prog_facts.2.1
theorem ideal_defined : ∀ r ∈ runIdeal (envOf f9Cfg) exFns true 3 store0 prog, r.isSome = true := prog_facts.2.2

end Ariadne.ArgHeap.Ex
