/-
  Property C01, "plain selections" tier, part (1): on plain input the generator
  succeeds and returns exactly `plainClasses`.
-/
import AriadneModel.Proofs.C01Ann
import AriadneModel.Proofs.C01GenRules
import AriadneModel.Proofs.ParseType


namespace Ariadne.C01Plain
open Ariadne Ariadne.Gql Ariadne.ResultTypes Ariadne.Util Ariadne.C01Ann Ariadne.C01GenRules

theorem run_lift {α : Type} (a : α) (s : St) : ResultTypes.liftExcept (.ok a) s = .ok (a, s) := rfl

theorem get_isNone_of_kind {S : Schema} {n : String} {kd : Kind} (h : S.kindOf? n = some kd) : (S.get? n).isNone = false := by
  obtain ⟨t, hg, _⟩ := ResultLeaf.kindOf_get _ _ _ h
  rw [hg]; rfl

theorem nodupB_iff (l : List String) : nodupB l = true ↔ l.Nodup :=
  Lists.nodupB_iff_of_eqns nodupB rfl (fun _ _ => rfl) l

theorem plainLocal_iff (env : Env) (marks : List Nat) (cn tn : String) (sel : List Selection) :
    plainLocal env marks cn tn sel = true ↔ ∀ s ∈ sel, plainLocal1 env marks cn tn s = true := by
  induction sel with
  | nil => simp [plainLocal]
  | cons s rest ih => simp [plainLocal, ih]

theorem gfuel_ge (sel : List Selection) : 2 ≤ gfuel sel := by
  induction sel with
  | nil => simp [gfuel]
  | cons s rest ih => simp only [gfuel]; omega

theorem gfuel_mem (sel : List Selection) (s : Selection) (h : s ∈ sel) : gfuel1 s ≤ gfuel sel := by
  induction sel with
  | nil => cases h
  | cons x rest ih =>
    simp only [gfuel]
    rcases List.mem_cons.mp h with rfl | h
    · omega
    · have := ih h; omega

theorem plainLocal1_isField {env : Env} {marks : List Nat} {cn tn : String} {s : Selection}
    (h : plainLocal1 env marks cn tn s = true) : isField s = true := by
  cases s <;> simp [plainLocal1, isField] at h ⊢

theorem plainLocal1_field {env : Env} {marks : List Nat} {cn tn : String} {alias : Option String} {name : String}
    {dirs : List Directive} {sid : Nat} {sub : List Selection}
    (h : plainLocal1 env marks cn tn (.field alias name dirs sid sub) = true) :
    (name != typenameField) = true ∧ (dirs.any (·.name == Tables.mixinName)) = false ∧
    (env.schema.fieldOf? tn name).isSome = true ∧
    (sub.isEmpty = true → isLeafName env (subType env tn name) = true) ∧
    (sub.isEmpty = false → env.schema.kindOf? (subType env tn name) = some .object ∧ marks.contains sid = false ∧
      setOK env sub = true ∧ plainLocal env marks (subClass env cn alias name) (subType env tn name) sub = true) := by
  simp only [plainLocal1, Bool.and_eq_true] at h
  obtain ⟨⟨⟨hname, hmix⟩, hfd⟩, hcase⟩ := h
  refine ⟨hname, by simpa using hmix, hfd, fun hs => by rw [if_pos hs] at hcase; exact hcase, fun hs => ?_⟩
  rw [if_neg (by simp [hs])] at hcase
  simp only [Bool.and_eq_true, beq_iff_eq, Bool.not_eq_true'] at hcase
  exact ⟨hcase.1.1.1, hcase.1.1.2, hcase.1.2, hcase.2⟩

theorem resolveLoop_fields (env : Env) (fuel : Nat) (root : String) :
    ∀ (sels : List Selection) (acc : Acc) (s : St), (∀ x ∈ sels, isField x = true) →
      forIn sels acc (resolveBody env fuel root) s = .ok ((acc.1 ++ sels.map toR, acc.2), s) := by
  intro sels
  induction sels with
  | nil => intro acc s _; simp [List.forIn_nil]; rfl
  | cons x rest ih =>
    intro acc s h
    rw [List.forIn_cons]
    cases x with
    | field alias name dirs sid sub =>
      refine run_bind (a := .yield (acc.1 ++ [⟨alias, name, dirs, sid, sub⟩], acc.2)) (s' := s) rfl ?_
      simp only []
      rw [ih _ _ (fun y hy => h y (List.mem_cons_of_mem _ hy))]
      simp [toR, List.append_assoc]
    | spread n d => have := h _ List.mem_cons_self; simp [isField] at this
    | inline on d sid sub => have := h _ List.mem_cons_self; simp [isField] at this

theorem resolve_fields (env : Env) (fuel : Nat) (root : String) (sels : List Selection) (st : St)
    (h : ∀ x ∈ sels, isField x = true) :
    resolve env (fuel + 1) sels root st = .ok ((sels.map toR, []), st) := by
  rw [resolve_succ]
  refine run_bind (resolveLoop_fields env fuel root sels ([], []) st h) ?_
  refine run_bind (run_modify _ _) ?_
  simp [run_pure, setUnion]

theorem parseType_obj (env : Env) (fuel : Nat) (sel : List Selection) (T : TypeRef)
    (hk : env.schema.kindOf? T.base = some .object) (nullable : Bool) (cn : String) (ctx : Ctx) :
    parseType env fuel sel T nullable cn false ctx =
      .ok (wrapAnn (.cls cn) nullable T, { ctx with related := ctx.related ++ [(cn, T.base)] }) := by
  rw [parseType_eq, ← ResultLeaf.wrapT_eq_wrapAnn]
  simp only [namedT, Bool.false_and]
  unfold parseType
  simp [hk, optionalIf, Except.map, pure, Except.pure]

/-- `h0`: the `__typename` shortcut of `parse_operation_field` does not apply -/
theorem parseOperationField_leaf (env : Env) (fuel : Nat) (name : String) (dirs : List Directive) (sub : List Selection)
    (T : TypeRef) (cn : String) (tv : List String) (h0 : (name == typenameField && !tv.isEmpty) = false)
    (hl : isLeafName env T.base = true) :
    ∃ ctx, parseOperationField env fuel name dirs sub T cn tv =
      .ok (condAnn (wrapAnn (ResultLeaf.leafBase env T.base) true T) dirs, hasConditionalDirective dirs, ctx) := by
  obtain ⟨ctx, h⟩ := ResultLeaf.parseType_leaf env fuel sub T (isLeafName_spec hl) true cn false {}
  refine ⟨ctx, ?_⟩
  unfold parseOperationField
  simp only [h0, Bool.false_eq_true, if_false, h, bind, Except.bind, parseDirectives_eq,
    ResultLeaf.leafAnn_eq_wrapAnn, pure, Except.pure]
  rw [annotateTop_wrapAnn _ (simpleBase_leaf env _)]

theorem parseOperationField_obj (env : Env) (fuel : Nat) (name : String) (dirs : List Directive) (sub : List Selection)
    (T : TypeRef) (cn : String) (tv : List String) (hn : (name != typenameField) = true)
    (hk : env.schema.kindOf? T.base = some .object) :
    parseOperationField env fuel name dirs sub T cn tv =
      .ok (condAnn (wrapAnn (.cls cn) true T) dirs, hasConditionalDirective dirs,
           { related := [(cn, T.base)] }) := by
  have hn' : (name == typenameField) = false := by simpa using hn
  unfold parseOperationField
  simp only [hn', Bool.false_and, Bool.false_eq_true, if_false, parseType_obj env fuel sub T hk, bind, Except.bind,
    parseDirectives_eq, pure, Except.pure]
  rw [annotateTop_wrapAnn _ (Or.inr ⟨_, rfl⟩)]
  rfl

/-- what part (1) says about one call of `_parse_type_definition`, for generation fuel `f` -/
def GenSpec (env : Env) (f : Nat) : Prop :=
  ∀ (cn tn : String) (sid : Nat) (sel : List Selection) (tv : List String) (st : St),
    gfuel sel ≤ f → st.marks.contains sid = false → plainLocal env st.marks cn tn sel = true →
    ((plainClasses env cn tn sel).map (·.name)).Nodup →
    (∀ n ∈ (plainClasses env cn tn sel).map (·.name), n ∉ st.publicNames) →
    ∃ st', parseTypeDefinition env f cn tn sid sel false [] tv st = .ok (plainClasses env cn tn sel, st') ∧
      st'.publicNames = st.publicNames ++ (plainClasses env cn tn sel).map (·.name) ∧ st'.marks = st.marks

theorem fieldTypeFromSchema_some (env : Env) (tn name : String) (h : (env.schema.fieldOf? tn name).isSome = true) :
    fieldTypeFromSchema env tn name = .ok (fieldT env tn name) := by
  unfold fieldTypeFromSchema fieldT
  cases hf : env.schema.fieldOf? tn name with
  | none => simp [hf] at h
  | some fd => rfl

theorem plainExtra1_sub (env : Env) (cn tn : String) (alias : Option String) (name : String) (dirs : List Directive)
    (sid : Nat) (sub : List Selection) (h : sub.isEmpty = false) :
    plainExtra1 env cn tn (.field alias name dirs sid sub) =
      plainClasses env (subClass env cn alias name) (subType env tn name) sub := by
  simp [plainExtra1, h, plainClasses]

theorem plainExtra1_leaf (env : Env) (cn tn : String) (alias : Option String) (name : String) (dirs : List Directive)
    (sid : Nat) (sub : List Selection) (h : sub.isEmpty = true) :
    plainExtra1 env cn tn (.field alias name dirs sid sub) = [] := by
  simp [plainExtra1, h]

/-- `cs`, `s1`: whatever the call for the sub-selection returns (nothing, for a leaf); every tier puts in its own -/
theorem fieldBody_field (env : Env) (f : Nat) (cn tn : String) (tv : List String)
    (alias : Option String) (name : String) (dirs : List Directive) (sid : Nat) (sub : List Selection)
    (acc : FAcc) (s : St) (hname : (name != typenameField) = true)
    (hmix : (dirs.any (·.name == Tables.mixinName)) = false) (hfd : (env.schema.fieldOf? tn name).isSome = true)
    (cs : List ClassDecl) (s1 : St)
    (hleaf : sub.isEmpty = true → isLeafName env (subType env tn name) = true ∧ cs = [] ∧ s = s1)
    (hobj : sub.isEmpty = false → env.schema.kindOf? (subType env tn name) = some .object ∧
      parseTypeDefinition env f (subClass env cn alias name) (subType env tn name) sid sub false []
        (((typenameValues env [(subClass env cn alias name, subType env tn name)]).find?
          (·.1 == subType env tn name)).map (·.2) |>.getD []) s = .ok (cs, s1)) :
    ∃ ctx, fieldBody env (f + 1) cn tn tv ⟨alias, name, dirs, sid, sub⟩ acc s =
      .ok (.yield (acc.1 ++ [fieldDecl env cn tn alias name dirs sub], acc.2 ++ cs), bump s1 ctx) := by
  have hT := fieldTypeFromSchema_some env tn name hfd
  by_cases hsub : sub.isEmpty = true
  · obtain ⟨hl, rfl, rfl⟩ := hleaf hsub
    obtain ⟨ctx, hpo⟩ := parseOperationField_leaf env (f + 1 + 1) name dirs sub (fieldT env tn name)
      (subClass env cn alias name) tv (by rw [(by simpa using hname : (name == typenameField) = false)]; rfl) hl
    refine ⟨ctx, ?_⟩
    rw [fieldBody_intro env (f + 1) cn tn tv ⟨alias, name, dirs, sid, sub⟩ acc s s _ _ _ ctx [] hT hpo hmix
      (by rw [parseFieldSelectionSetTypes_succ, if_pos hsub]; rfl)]
    simp only [fieldDecl, hsub, if_true, RField.key, isUnionAnn_fieldAnn _ (simpleBase_leaf env _), List.append_nil]
    rfl
  · have hsub' : sub.isEmpty = false := by simpa using hsub
    obtain ⟨hkind, hrun⟩ := hobj hsub'
    have hpo := parseOperationField_obj env (f + 1 + 1) name dirs sub (fieldT env tn name)
      (subClass env cn alias name) tv hname hkind
    refine ⟨{ related := [(subClass env cn alias name, subType env tn name)] }, ?_⟩
    rw [fieldBody_intro env (f + 1) cn tn tv ⟨alias, name, dirs, sid, sub⟩ acc s s1 _ _ _ _ cs hT hpo hmix
      (subTypes_single env f sid sub _ _ false s s1 cs hsub' hrun)]
    simp only [fieldDecl, hsub', RField.key, isUnionAnn_fieldAnn _ (Or.inr ⟨_, rfl⟩)]
    rfl

theorem fieldBody_plain (env : Env) (f : Nat) (IH : GenSpec env f) (cn tn : String) (tv : List String)
    (alias : Option String) (name : String) (dirs : List Directive) (sid : Nat) (sub : List Selection)
    (acc : FAcc) (s : St)
    (hl : plainLocal1 env s.marks cn tn (.field alias name dirs sid sub) = true)
    (hfuel : gfuel1 (.field alias name dirs sid sub) ≤ f + 2)
    (hnd : ((plainExtra1 env cn tn (.field alias name dirs sid sub)).map (·.name)).Nodup)
    (hfresh : ∀ n ∈ (plainExtra1 env cn tn (.field alias name dirs sid sub)).map (·.name), n ∉ s.publicNames) :
    ∃ s', fieldBody env (f + 1) cn tn tv ⟨alias, name, dirs, sid, sub⟩ acc s =
        .ok (.yield (acc.1 ++ [fieldDecl env cn tn alias name dirs sub],
                     acc.2 ++ plainExtra1 env cn tn (.field alias name dirs sid sub)), s') ∧
      s'.publicNames = s.publicNames ++ (plainExtra1 env cn tn (.field alias name dirs sid sub)).map (·.name) ∧
      s'.marks = s.marks := by
  obtain ⟨hname, hmix', hfd, hleaf, hobj⟩ := plainLocal1_field hl
  by_cases hsub : sub.isEmpty = true
  · rw [plainExtra1_leaf _ _ _ _ _ _ _ _ hsub]
    obtain ⟨ctx, h⟩ := fieldBody_field env f cn tn tv alias name dirs sid sub acc s hname hmix' hfd [] s
      (fun _ => ⟨hleaf hsub, rfl, rfl⟩) (fun h => by rw [hsub] at h; cases h)
    exact ⟨bump s ctx, h, by simp [bump], rfl⟩
  · have hsub' : sub.isEmpty = false := by simpa using hsub
    obtain ⟨hkind, hmark, _, hrec⟩ := hobj hsub'
    rw [plainExtra1_sub _ _ _ _ _ _ _ _ hsub'] at hnd hfresh ⊢
    obtain ⟨s1, hrun, hpn, hmk⟩ := IH (subClass env cn alias name) (subType env tn name) sid sub _ s
      (by simp only [gfuel1] at hfuel; omega) hmark hrec hnd hfresh
    obtain ⟨ctx, h⟩ := fieldBody_field env f cn tn tv alias name dirs sid sub acc s hname hmix' hfd _ s1
      (fun h => by rw [hsub'] at h; cases h) (fun _ => ⟨hkind, hrun⟩)
    exact ⟨bump s1 ctx, h, hpn, hmk⟩

theorem plainDecls_cons_field (env : Env) (cn tn : String) (alias : Option String) (name : String) (dirs : List Directive)
    (sid : Nat) (sub rest : List Selection) :
    plainDecls env cn tn (.field alias name dirs sid sub :: rest) =
      fieldDecl env cn tn alias name dirs sub :: plainDecls env cn tn rest := by
  simp [plainDecls, List.flatMap_cons, plainDecl1]

theorem plainExtra_flatMap (env : Env) (cn tn : String) (sel : List Selection) :
    plainExtra env cn tn sel = sel.flatMap (plainExtra1 env cn tn) := by
  induction sel with
  | nil => simp [plainExtra]
  | cons x rest ih => simp [plainExtra, ih]

theorem gen_spec (env : Env) : ∀ f : Nat, GenSpec env f
  | 0 => by
    intro cn tn sid sel tv st hfu; have := gfuel_ge sel; omega
  | 1 => by
    intro cn tn sid sel tv st hfu; have := gfuel_ge sel; omega
  | f + 2 => by
    intro cn tn sid sel tv st hfu hmark hloc hnd hfresh
    have hlocs := (plainLocal_iff env st.marks cn tn sel).mp hloc
    have hfields : ∀ x ∈ sel, isField x = true := fun x hx => plainLocal1_isField (hlocs x hx)
    obtain ⟨hcn, hnd', hfresh'⟩ := fresh_cons hnd hfresh
    rw [plainExtra_flatMap] at hnd' hfresh'
    -- the field loop: every step leaves the marks alone
    obtain ⟨s', hloop, hpn, hmk, _⟩ := fieldLoop_fresh env (f + 1) cn tn tv (plainDecl1 env cn tn) (plainExtra1 env cn tn)
      (fun s s' => s'.marks = s.marks) (fun _ => rfl) (fun _ _ _ h1 h2 => h2.trans h1) (fun _ _ => True)
      (fun _ _ _ _ _ => trivial) sel ([], []) { st with publicNames := st.publicNames ++ [cn] } hfields
      (fun alias name dirs sid sub hx acc s1 hR hnd1 hfr1 => by
        obtain ⟨s', h, hpn, hmk⟩ := fieldBody_plain env f (gen_spec env f) cn tn tv alias name dirs sid sub acc s1
          (by rw [hR]; exact hlocs _ hx) (Nat.le_trans (gfuel_mem sel _ hx) hfu) hnd1 hfr1
        exact ⟨s', h, hpn, hmk, trivial⟩) hnd' hfresh'
    refine ⟨s', ?_, ?_, hmk⟩
    · rw [parseTypeDefinition_intro env (f + 1) cn tn sid sel false [] tv st _ s' _
        (plainDecls env cn tn sel, sel.flatMap (plainExtra1 env cn tn)) hcn
        (resolve_fields env (f + 1) tn sel _ hfields)
        (by simp only [hmark, afterTypename_false, Bool.false_eq_true, if_false]; exact hloop)]
      simp [classBases, plainClasses, plainExtra_flatMap]
    · rw [hpn]; simp [plainClasses, plainExtra_flatMap, List.append_assoc]

end Ariadne.C01Plain
