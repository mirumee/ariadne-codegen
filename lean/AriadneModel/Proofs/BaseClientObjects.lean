/- Lemmas for the object-level model of the variables side (Model/BaseClientObjects.lean):

   * `separate_files` under an arbitrary `==` of Upload objects (`sepG`, laws in Proofs/BaseClient.lean): `files_list`
      is the left-to-right de-duplication under `==`, in which two objects that `==` equates are never both kept.
   * the functions on a store of list/dict objects refine the value-level ones and write only objects
      they allocated themselves: every address that existed before holds what it held (any aliasing).
   * `executeO` refines `execute` and returns the caller's objects as they were.

   The frame of a store — it only grows, and every address that existed holds what it held — is carried here as the two
   conjuncts `s.length ≤ s'.length`, `∀ a, a < s.length → s'[a]? = s[a]?`.  Proofs/ArgHeap.lean (C03) develops `_convert_value`
   on a store once more, for the argument side's own fixed model, with the same frame as the relation `Keeps`. -/
import AriadneModel.Model.BaseClientObjects
import AriadneModel.Proofs.BaseClientHeap

set_option linter.unusedVariables false

namespace Ariadne.BaseClient

def NoEq (eqv : Nat → Nat → Bool) (l : List Nat) : Prop := l.Pairwise (fun e x => eqv e x = false)

theorem keepG_noEq (eqv : Nat → Nat → Bool) (kept : List Nat) (x : Nat) (h : NoEq eqv kept) : NoEq eqv (keepG eqv kept x) := by
  unfold keepG
  by_cases ha : kept.any (fun e => eqv e x) = true
  · simp [ha]; exact h
  · have ha' : kept.any (fun e => eqv e x) = false := by simpa using ha
    simp only [ha', Bool.false_eq_true, if_false]
    unfold NoEq
    rw [List.pairwise_append]
    refine ⟨h, by simp, ?_⟩
    intro a hm b hb
    simp only [List.mem_singleton] at hb
    subst hb
    simp only [List.any_eq_false] at ha'
    simpa using ha' a hm

theorem dedupG_noEq (eqv : Nat → Nat → Bool) (xs kept : List Nat) (h : NoEq eqv kept) : NoEq eqv (dedupG eqv kept xs) := by
  induction xs generalizing kept with
  | nil => exact h
  | cons x rest ih => exact ih _ (keepG_noEq eqv kept x h)

theorem noEq_not_both (eqv : Nat → Nat → Bool) (a b : Nat) (hab : eqv a b = true) (hba : eqv b a = true) (hne : a ≠ b)
    (l : List Nat) (h : NoEq eqv l) : ¬ (a ∈ l ∧ b ∈ l) := by
  induction l with
  | nil => simp
  | cons x t ih =>
    unfold NoEq at h
    rw [List.pairwise_cons] at h
    rintro ⟨ha, hb⟩
    simp only [List.mem_cons] at ha hb
    rcases ha with ha | ha <;> rcases hb with hb | hb
    · exact hne (ha.trans hb.symm)
    · subst ha; have := h.1 b hb; rw [hab] at this; cases this
    · subst hb; have := h.1 a ha; rw [hba] at this; cases this
    · exact ih h.2 ⟨ha, hb⟩

theorem derefList_mono {g g' : Val → Option PV} (h : ∀ x pv, g x = some pv → g' x = some pv) :
    ∀ (xs : List Val) (l : List PV), derefList g xs = some l → derefList g' xs = some l := by
  intro xs
  induction xs with
  | nil => intro l hl; simpa [derefList] using hl
  | cons x xs ih =>
    intro l hl
    simp only [derefList] at hl ⊢
    cases hx : g x with
    | none => simp [hx] at hl
    | some v =>
      cases hxs : derefList g xs with
      | none => simp [hx, hxs] at hl
      | some vs =>
        simp only [hx, hxs, Option.some.injEq] at hl
        simp [h x v hx, ih vs hxs, hl]

theorem derefKvs_mono {g g' : Val → Option PV} (h : ∀ x pv, g x = some pv → g' x = some pv) :
    ∀ (kvs : List (String × Val)) (l : List (String × PV)), derefKvs g kvs = some l → derefKvs g' kvs = some l := by
  intro kvs
  induction kvs with
  | nil => intro l hl; simpa [derefKvs] using hl
  | cons kv rest ih =>
    obtain ⟨k, x⟩ := kv
    intro l hl
    simp only [derefKvs] at hl ⊢
    cases hx : g x with
    | none => simp [hx] at hl
    | some v =>
      cases hxs : derefKvs g rest with
      | none => simp [hx, hxs] at hl
      | some vs =>
        simp only [hx, hxs, Option.some.injEq] at hl
        simp [h x v hx, ih vs hxs, hl]

theorem derefList_cons_some {g : Val → Option PV} {x : Val} {xs : List Val} {l : List PV}
    (h : derefList g (x :: xs) = some l) : ∃ v vs, g x = some v ∧ derefList g xs = some vs ∧ l = v :: vs := by
  simp only [derefList] at h
  cases hx : g x with
  | none => simp [hx] at h
  | some v =>
    cases hxs : derefList g xs with
    | none => simp [hx, hxs] at h
    | some vs =>
      simp only [hx, hxs, Option.some.injEq] at h
      exact ⟨v, vs, rfl, rfl, h.symm⟩

theorem derefKvs_cons_some {g : Val → Option PV} {k : String} {x : Val} {rest : List (String × Val)} {l : List (String × PV)}
    (h : derefKvs g ((k, x) :: rest) = some l) : ∃ v vs, g x = some v ∧ derefKvs g rest = some vs ∧ l = (k, v) :: vs := by
  simp only [derefKvs] at h
  cases hx : g x with
  | none => simp [hx] at h
  | some v =>
    cases hxs : derefKvs g rest with
    | none => simp [hx, hxs] at h
    | some vs =>
      simp only [hx, hxs, Option.some.injEq] at h
      exact ⟨v, vs, rfl, rfl, h.symm⟩

theorem derefList_append {g : Val → Option PV} {l₁ l₂ : List Val} {p₁ p₂ : List PV}
    (h₁ : derefList g l₁ = some p₁) (h₂ : derefList g l₂ = some p₂) : derefList g (l₁ ++ l₂) = some (p₁ ++ p₂) := by
  induction l₁ generalizing p₁ with
  | nil => simp only [derefList, Option.some.injEq] at h₁; subst h₁; simpa using h₂
  | cons x xs ih =>
    obtain ⟨v, vs, hx, hxs, rfl⟩ := derefList_cons_some h₁
    simp [derefList, hx, ih hxs]

theorem derefKvs_append {g : Val → Option PV} {l₁ l₂ : List (String × Val)} {p₁ p₂ : List (String × PV)}
    (h₁ : derefKvs g l₁ = some p₁) (h₂ : derefKvs g l₂ = some p₂) : derefKvs g (l₁ ++ l₂) = some (p₁ ++ p₂) := by
  induction l₁ generalizing p₁ with
  | nil => simp only [derefKvs, Option.some.injEq] at h₁; subst h₁; simpa using h₂
  | cons kv rest ih =>
    obtain ⟨k, x⟩ := kv
    obtain ⟨v, vs, hx, hxs, rfl⟩ := derefKvs_cons_some h₁
    simp [derefKvs, hx, ih hxs]

/-- Reading succeeds only through addresses that exist, so a store that holds at every address of `s`
    what `s` holds reads the same tree. -/
theorem derefV_keeps (s s' : OStore) (hk : ∀ a, a < s.length → s'[a]? = s[a]?) :
    ∀ (f : Nat) (v : Val) (pv : PV), derefV s f v = some pv → derefV s' f v = some pv := by
  intro f
  induction f with
  | zero =>
    intro v pv h
    cases v with
    | imm x => simpa [derefV] using h
    | ref a => simp [derefV] at h
  | succ f ih =>
    intro v pv h
    cases v with
    | imm x => simpa [derefV] using h
    | ref a =>
      simp only [derefV] at h ⊢
      cases ha : s[a]? with
      | none => simp [ha] at h
      | some o =>
        have hlt : a < s.length := (List.getElem?_eq_some_iff.mp ha).1
        rw [hk a hlt, ha]
        rw [ha] at h
        cases o with
        | list xs =>
          simp only [Option.map_eq_some_iff] at h ⊢
          obtain ⟨l, hl, rfl⟩ := h
          exact ⟨l, derefList_mono ih xs l hl, rfl⟩
        | dict kvs =>
          simp only [Option.map_eq_some_iff] at h ⊢
          obtain ⟨l, hl, rfl⟩ := h
          exact ⟨l, derefKvs_mono ih kvs l hl, rfl⟩

theorem keeps_append (s t : OStore) : ∀ a, a < s.length → (s ++ t)[a]? = s[a]? := by
  intro a ha; exact List.getElem?_append_left ha

/-- what `_convert_value` does on objects, for trees of depth ≤ `f` -/
def ConvSpec (f : Nat) : Prop :=
  ∀ (v : Val) (s : OStore) (pv : PV), derefV s f v = some pv →
    ∃ r s', convertValueS f v s = some (r, s') ∧ s.length ≤ s'.length ∧ (∀ a, a < s.length → s'[a]? = s[a]?) ∧
      derefV s' f r = some (convertValue pv)

theorem convertItemsS_spec (f : Nat) (ih : ConvSpec f) :
    ∀ (xs : List Val) (s : OStore) (pvs : List PV), derefList (derefV s f) xs = some pvs →
      ∃ ys s', convertItemsS (convertValueS f) xs s = some (ys, s') ∧ s.length ≤ s'.length ∧
        (∀ a, a < s.length → s'[a]? = s[a]?) ∧ derefList (derefV s' f) ys = some (convertList pvs) := by
  intro xs
  induction xs with
  | nil =>
    intro s pvs h
    simp only [derefList, Option.some.injEq] at h; subst h
    exact ⟨[], s, rfl, Nat.le_refl _, fun _ _ => rfl, by simp [derefList, convertList]⟩
  | cons x xs ihx =>
    intro s pvs h
    obtain ⟨pv, pvs', hx, hxs, rfl⟩ := derefList_cons_some h
    obtain ⟨r, s1, hr, hl1, hk1, hd1⟩ := ih x s pv hx
    have hxs1 : derefList (derefV s1 f) xs = some pvs' := derefList_mono (derefV_keeps s s1 hk1 f) xs pvs' hxs
    obtain ⟨ys, s2, hys, hl2, hk2, hd2⟩ := ihx s1 pvs' hxs1
    refine ⟨r :: ys, s2, by simp [convertItemsS, hr, hys], Nat.le_trans hl1 hl2, ?_, ?_⟩
    · intro a ha; rw [hk2 a (Nat.lt_of_lt_of_le ha hl1), hk1 a ha]
    · simp [derefList, convertList, derefV_keeps s1 s2 hk2 f r _ hd1, hd2]

theorem convertValueS_spec : ∀ f, ConvSpec f := by
  intro f
  induction f with
  | zero =>
    intro v s pv h
    cases v with
    | imm x =>
      simp only [derefV, Option.some.injEq] at h; subst h
      exact ⟨.imm (convertValue x), s, rfl, Nat.le_refl _, fun _ _ => rfl, rfl⟩
    | ref a => simp [derefV] at h
  | succ f ih =>
    intro v s pv h
    cases v with
    | imm x =>
      simp only [derefV, Option.some.injEq] at h; subst h
      exact ⟨.imm (convertValue x), s, rfl, Nat.le_refl _, fun _ _ => rfl, rfl⟩
    | ref a =>
      simp only [derefV] at h
      cases ha : s[a]? with
      | none => simp [ha] at h
      | some o =>
        rw [ha] at h
        cases o with
        | list xs =>
          simp only [Option.map_eq_some_iff] at h
          obtain ⟨l, hl, rfl⟩ := h
          obtain ⟨ys, s1, hys, hl1, hk1, hd1⟩ := convertItemsS_spec f ih xs s l hl
          refine ⟨.ref s1.length, s1 ++ [.list ys], by simp [convertValueS, ha, hys], by simp; omega, ?_, ?_⟩
          · intro b hb; rw [keeps_append s1 _ b (Nat.lt_of_lt_of_le hb hl1), hk1 b hb]
          · simp only [derefV, List.getElem?_concat_length, convertValue]
            simp only [Option.map_eq_some_iff]
            exact ⟨_, derefList_mono (derefV_keeps s1 _ (keeps_append s1 _) f) ys _ hd1, rfl⟩
        | dict kvs =>
          simp only [Option.map_eq_some_iff] at h
          obtain ⟨l, hl, rfl⟩ := h
          refine ⟨.ref a, s, by simp [convertValueS, ha], Nat.le_refl _, fun _ _ => rfl, ?_⟩
          simp [derefV, ha, hl, convertValue]

theorem isUnset_of_deref {s : OStore} {f : Nat} {x : Val} {pv : PV} (h : derefV s f x = some pv) : x.isUnset = pv.isUnset := by
  cases x with
  | imm v =>
    have : pv = v := by cases f <;> simpa [derefV] using h.symm
    subst this
    cases pv <;> rfl
  | ref a =>
    cases f with
    | zero => simp [derefV] at h
    | succ f =>
      simp only [derefV] at h
      cases ha : s[a]? with
      | none => simp [ha] at h
      | some o =>
        rw [ha] at h
        cases o <;> simp only [Option.map_eq_some_iff] at h <;> obtain ⟨l, _, rfl⟩ := h <;> rfl

theorem convertDictItemsS_spec (f : Nat) :
    ∀ (kvs : List (String × Val)) (s : OStore) (pkvs : List (String × PV)), derefKvs (derefV s f) kvs = some pkvs →
      ∃ ys s', convertDictItemsS (convertValueS f) kvs s = some (ys, s') ∧ s.length ≤ s'.length ∧
        (∀ a, a < s.length → s'[a]? = s[a]?) ∧ derefKvs (derefV s' f) ys = some (convertDict pkvs) := by
  intro kvs
  induction kvs with
  | nil =>
    intro s pkvs h
    simp only [derefKvs, Option.some.injEq] at h; subst h
    exact ⟨[], s, rfl, Nat.le_refl _, fun _ _ => rfl, by simp [derefKvs, convertDict]⟩
  | cons kv rest ihx =>
    obtain ⟨k, x⟩ := kv
    intro s pkvs h
    obtain ⟨pv, pvs', hx, hxs, rfl⟩ := derefKvs_cons_some h
    have hu := isUnset_of_deref hx
    by_cases hun : x.isUnset = true
    · obtain ⟨ys, s2, hys, hl2, hk2, hd2⟩ := ihx s pvs' hxs
      have hpu : pv.isUnset = true := by rw [← hu]; exact hun
      exact ⟨ys, s2, by simp [convertDictItemsS, hun, hys], hl2, hk2, by simp [convertDict, hpu, hd2]⟩
    · have hun' : x.isUnset = false := by simpa using hun
      have hpu : pv.isUnset = false := by rw [← hu]; exact hun'
      obtain ⟨r, s1, hr, hl1, hk1, hd1⟩ := convertValueS_spec f x s pv hx
      have hxs1 : derefKvs (derefV s1 f) rest = some pvs' := derefKvs_mono (derefV_keeps s s1 hk1 f) rest pvs' hxs
      obtain ⟨ys, s2, hys, hl2, hk2, hd2⟩ := ihx s1 pvs' hxs1
      refine ⟨(k, r) :: ys, s2, by simp [convertDictItemsS, hun', hr, hys], Nat.le_trans hl1 hl2, ?_, ?_⟩
      · intro a ha; rw [hk2 a (Nat.lt_of_lt_of_le ha hl1), hk1 a ha]
      · simp [derefKvs, convertDict, hpu, derefV_keeps s1 s2 hk2 f r _ hd1, hd2]

/-! The loop of `separate_files` holds its result object at `own` and writes there after every item.  Seen from a
    store `s` in which `own` exists, after a recursive call took `s` to `s1` (every object of `s` kept): -/

/-- the write leaves every other object of `s` as it was -/
theorem set_own_keeps {s s1 : OStore} {own : Nat} (hk1 : ∀ a, a < s.length → s1[a]? = s[a]?) (o : Obj) {a : Nat}
    (ha : a < s.length) (hne : a ≠ own) : (s1.set own o)[a]? = s[a]? := by
  rw [List.getElem?_set_ne (fun e => hne e.symm), hk1 a ha]

/-- a store that agrees with the written one above `own` agrees with `s` above `own`, and with `s1` on everything the
    recursive call allocated -/
theorem agree_after_write {s s1 s'' : OStore} {own : Nat} {o : Obj} (hos : own < s.length) (hl1 : s.length ≤ s1.length)
    (hk1 : ∀ a, a < s.length → s1[a]? = s[a]?)
    (hs'' : ∀ a, own < a → a < (s1.set own o).length → s''[a]? = (s1.set own o)[a]?) :
    (∀ a, own < a → a < s.length → s''[a]? = s[a]?) ∧ (∀ a, s.length ≤ a → a < s1.length → s''[a]? = s1[a]?) :=
  ⟨fun a h1 h2 => by rw [hs'' a h1 (by simp; omega), set_own_keeps hk1 o h2 (by omega)],
   fun a h1 h2 => by rw [hs'' a (by omega) (by simpa using h2), List.getElem?_set_ne (by omega)]⟩

/-- What `separate_files` does on objects, for trees of depth ≤ `f`.  Last conjunct: the returned tree is made of
    objects allocated by this call only (it reads the same in every store that agrees on those). -/
def SepSpec (eqv : Nat → Nat → Bool) (f : Nat) : Prop :=
  ∀ (path : String) (v : Val) (s : OStore) (es : List Entry) (pv : PV), derefV s f v = some pv →
    ∃ r s', sepS eqv f path v (s, es) = some (r, (s', (sepG eqv path pv es).2)) ∧
      s.length ≤ s'.length ∧ (∀ a, a < s.length → s'[a]? = s[a]?) ∧
      ∀ s'' : OStore, (∀ a, s.length ≤ a → a < s'.length → s''[a]? = s'[a]?) →
        derefV s'' f r = some (sepG eqv path pv es).1

theorem sepLoopList_spec (eqv : Nat → Nat → Bool) (f : Nat) (ih : SepSpec eqv f) (path : String) (b : OStore) (own : Nat)
    (hbo : b.length ≤ own) :
    ∀ (xs : List Val) (pvs : List PV) (i : Nat) (s : OStore) (es : List Entry) (acc : List Val) (accPv : List PV),
      derefList (derefV b f) xs = some pvs →
      own < s.length →
      (∀ a, a < b.length → s[a]? = b[a]?) →
      s[own]? = some (.list acc) →
      (∀ s'' : OStore, (∀ a, own < a → a < s.length → s''[a]? = s[a]?) → derefList (derefV s'' f) acc = some accPv) →
      ∃ s' rs, sepLoopList (sepS eqv f) path own i xs (s, es) = some (s', (sepListG eqv path i pvs es).2) ∧
        s.length ≤ s'.length ∧ (∀ a, a < s.length → a ≠ own → s'[a]? = s[a]?) ∧
        s'[own]? = some (.list rs) ∧
        (∀ s'' : OStore, (∀ a, own < a → a < s'.length → s''[a]? = s'[a]?) →
          derefList (derefV s'' f) rs = some (accPv ++ (sepListG eqv path i pvs es).1)) := by
  intro xs
  induction xs with
  | nil =>
    intro pvs i s es acc accPv h hos hkb hown hacc
    simp only [derefList, Option.some.injEq] at h; subst h
    exact ⟨s, acc, rfl, Nat.le_refl _, fun _ _ _ => rfl, hown, by simpa [sepListG] using hacc⟩
  | cons x xs ihx =>
    intro pvs i s es acc accPv h hos hkb hown hacc
    obtain ⟨pv, pvs', hx, hxs, rfl⟩ := derefList_cons_some h
    have hxs' : derefV s f x = some pv := derefV_keeps b s hkb f x pv hx
    obtain ⟨r, s1, hr, hl1, hk1, hfoot⟩ := ih (path ++ "." ++ toString i) x s es pv hxs'
    have hown1 : s1[own]? = some (.list acc) := by rw [hk1 own hos]; exact hown
    have hos1 : own < s1.length := Nat.lt_of_lt_of_le hos hl1
    have happ : appendAt own r s1 = some (s1.set own (.list (acc ++ [r]))) := by simp [appendAt, hown1]
    obtain ⟨s', rs, hloop, hl', hk', hown', hfoot'⟩ :=
      ihx pvs' (i + 1) (s1.set own (.list (acc ++ [r]))) (sepG eqv (path ++ "." ++ toString i) pv es).2 (acc ++ [r])
        (accPv ++ [(sepG eqv (path ++ "." ++ toString i) pv es).1]) hxs
        (by simpa using hos1)
        (fun a ha => by rw [set_own_keeps hk1 _ (by omega) (by omega), hkb a ha])
        (by simp [List.getElem?_set_self hos1])
        (by
          intro s'' hs''
          apply derefList_append
          · exact hacc s'' (agree_after_write hos hl1 hk1 hs'').1
          · have : derefV s'' f r = some (sepG eqv (path ++ "." ++ toString i) pv es).1 :=
              hfoot s'' (agree_after_write hos hl1 hk1 hs'').2
            simp [derefList, this])
    refine ⟨s', rs, ?_, ?_, ?_, hown', ?_⟩
    · simp only [sepLoopList, hr, happ, sepListG]
      exact hloop
    · have : (s1.set own (.list (acc ++ [r]))).length = s1.length := by simp
      omega
    · intro a ha hne
      rw [hk' a (by simp; omega) hne, set_own_keeps hk1 _ ha hne]
    · intro s'' hs''
      have := hfoot' s'' hs''
      simpa [sepListG, List.append_assoc] using this

theorem sepLoopDict_spec (eqv : Nat → Nat → Bool) (f : Nat) (ih : SepSpec eqv f) (path : String) (b : OStore) (own : Nat)
    (hbo : b.length ≤ own) :
    ∀ (kvs : List (String × Val)) (pkvs : List (String × PV)) (s : OStore) (es : List Entry)
      (acc : List (String × Val)) (accPv : List (String × PV)),
      derefKvs (derefV b f) kvs = some pkvs →
      own < s.length →
      (∀ a, a < b.length → s[a]? = b[a]?) →
      s[own]? = some (.dict acc) →
      (∀ s'' : OStore, (∀ a, own < a → a < s.length → s''[a]? = s[a]?) → derefKvs (derefV s'' f) acc = some accPv) →
      ∃ s' rs, sepLoopDict (sepS eqv f) path own kvs (s, es) = some (s', (sepDictG eqv path pkvs es).2) ∧
        s.length ≤ s'.length ∧ (∀ a, a < s.length → a ≠ own → s'[a]? = s[a]?) ∧
        s'[own]? = some (.dict rs) ∧
        (∀ s'' : OStore, (∀ a, own < a → a < s'.length → s''[a]? = s'[a]?) →
          derefKvs (derefV s'' f) rs = some (accPv ++ (sepDictG eqv path pkvs es).1)) := by
  intro kvs
  induction kvs with
  | nil =>
    intro pkvs s es acc accPv h hos hkb hown hacc
    simp only [derefKvs, Option.some.injEq] at h; subst h
    exact ⟨s, acc, rfl, Nat.le_refl _, fun _ _ _ => rfl, hown, by simpa [sepDictG] using hacc⟩
  | cons kv rest ihx =>
    obtain ⟨k, x⟩ := kv
    intro pkvs s es acc accPv h hos hkb hown hacc
    obtain ⟨pv, pvs', hx, hxs, rfl⟩ := derefKvs_cons_some h
    have hxs' : derefV s f x = some pv := derefV_keeps b s hkb f x pv hx
    obtain ⟨r, s1, hr, hl1, hk1, hfoot⟩ := ih (path ++ "." ++ k) x s es pv hxs'
    have hown1 : s1[own]? = some (.dict acc) := by rw [hk1 own hos]; exact hown
    have hos1 : own < s1.length := Nat.lt_of_lt_of_le hos hl1
    have happ : insertAt own k r s1 = some (s1.set own (.dict (acc ++ [(k, r)]))) := by simp [insertAt, hown1]
    obtain ⟨s', rs, hloop, hl', hk', hown', hfoot'⟩ :=
      ihx pvs' (s1.set own (.dict (acc ++ [(k, r)]))) (sepG eqv (path ++ "." ++ k) pv es).2 (acc ++ [(k, r)])
        (accPv ++ [(k, (sepG eqv (path ++ "." ++ k) pv es).1)]) hxs
        (by simpa using hos1)
        (fun a ha => by rw [set_own_keeps hk1 _ (by omega) (by omega), hkb a ha])
        (by simp [List.getElem?_set_self hos1])
        (by
          intro s'' hs''
          apply derefKvs_append
          · exact hacc s'' (agree_after_write hos hl1 hk1 hs'').1
          · have : derefV s'' f r = some (sepG eqv (path ++ "." ++ k) pv es).1 :=
              hfoot s'' (agree_after_write hos hl1 hk1 hs'').2
            simp [derefKvs, this])
    refine ⟨s', rs, ?_, ?_, ?_, hown', ?_⟩
    · simp only [sepLoopDict, hr, happ, sepDictG]
      exact hloop
    · have : (s1.set own (.dict (acc ++ [(k, r)]))).length = s1.length := by simp
      omega
    · intro a ha hne
      rw [hk' a (by simp; omega) hne, set_own_keeps hk1 _ ha hne]
    · intro s'' hs''
      have := hfoot' s'' hs''
      simpa [sepDictG, List.append_assoc] using this

theorem sepS_spec (eqv : Nat → Nat → Bool) : ∀ f, SepSpec eqv f := by
  intro f
  induction f with
  | zero =>
    intro path v s es pv h
    cases v with
    | imm x =>
      simp only [derefV, Option.some.injEq] at h; subst h
      exact ⟨.imm (sepG eqv path x es).1, s, rfl, Nat.le_refl _, fun _ _ => rfl, fun _ _ => rfl⟩
    | ref a => simp [derefV] at h
  | succ f ih =>
    intro path v s es pv h
    cases v with
    | imm x =>
      simp only [derefV, Option.some.injEq] at h; subst h
      exact ⟨.imm (sepG eqv path x es).1, s, rfl, Nat.le_refl _, fun _ _ => rfl, fun _ _ => rfl⟩
    | ref a =>
      simp only [derefV] at h
      cases ha : s[a]? with
      | none => simp [ha] at h
      | some o =>
        rw [ha] at h
        cases o with
        | list xs =>
          simp only [Option.map_eq_some_iff] at h
          obtain ⟨l, hl, rfl⟩ := h
          obtain ⟨s', rs, hloop, hl', hk', hown', hfoot'⟩ :=
            sepLoopList_spec eqv f ih path s s.length (Nat.le_refl _) xs l 0 (s ++ [.list []]) es [] [] hl
              (by simp) (keeps_append s _) (by simp) (fun _ _ => rfl)
          refine ⟨.ref s.length, s', ?_, ?_, ?_, ?_⟩
          · simp only [sepS, ha, hloop, Option.map_some, sepG]
          · simp at hl'; omega
          · intro b hb
            rw [hk' b (by simp; omega) (by omega), keeps_append s _ b hb]
          · intro s'' hs''
            have hlt : s.length < s'.length := by simp at hl'; omega
            simp only [derefV, hs'' s.length (Nat.le_refl _) hlt, hown', sepG, Option.map_eq_some_iff]
            refine ⟨_, ?_, rfl⟩
            simpa using hfoot' s'' (fun a h1 h2 => hs'' a (by omega) h2)
        | dict kvs =>
          simp only [Option.map_eq_some_iff] at h
          obtain ⟨l, hl, rfl⟩ := h
          obtain ⟨s', rs, hloop, hl', hk', hown', hfoot'⟩ :=
            sepLoopDict_spec eqv f ih path s s.length (Nat.le_refl _) kvs l (s ++ [.dict []]) es [] [] hl
              (by simp) (keeps_append s _) (by simp) (fun _ _ => rfl)
          refine ⟨.ref s.length, s', ?_, ?_, ?_, ?_⟩
          · simp only [sepS, ha, hloop, Option.map_some, sepG]
          · simp at hl'; omega
          · intro b hb
            rw [hk' b (by simp; omega) (by omega), keeps_append s _ b hb]
          · intro s'' hs''
            have hlt : s.length < s'.length := by simp at hl'; omega
            simp only [derefV, hs'' s.length (Nat.le_refl _) hlt, hown', sepG, Option.map_eq_some_iff]
            refine ⟨_, ?_, rfl⟩
            simpa using hfoot' s'' (fun a h1 h2 => hs'' a (by omega) h2)

theorem processVariablesS_some (eqv : Nat → Nat → Bool) (fuel : Nat) (s : OStore) (a : Nat) (pkvs : List (String × PV))
    (h : derefV s (fuel + 1) (.ref a) = some (.dict pkvs)) :
    ∃ s', processVariablesS eqv fuel s (some a) =
        some ((processVariablesG eqv (some pkvs)).1, s', (processVariablesG eqv (some pkvs)).2) ∧
      s.length ≤ s'.length ∧ ∀ b, b < s.length → s'[b]? = s[b]? := by
  simp only [derefV] at h
  cases ha : s[a]? with
  | none => simp [ha] at h
  | some o =>
    rw [ha] at h
    cases o with
    | list xs => simp at h
    | dict kvs =>
      simp only [Option.map_eq_some_iff, PV.dict.injEq] at h
      obtain ⟨l, hl, rfl⟩ := h
      cases kvs with
      | nil =>
        simp only [derefKvs, Option.some.injEq] at hl; subst hl
        exact ⟨s, by simp [processVariablesS, ha, processVariablesG], Nat.le_refl _, fun _ _ => rfl⟩
      | cons kv rest =>
        obtain ⟨k, x⟩ := kv
        obtain ⟨pv, pvs', hx, hxs, hlc⟩ := derefKvs_cons_some hl
        obtain ⟨kvs1, s1, hconv, hl1, hk1, hd1⟩ := convertDictItemsS_spec fuel ((k, x) :: rest) s l hl
        have hroot : derefV (s1 ++ [Obj.dict kvs1]) (fuel + 1) (.ref s1.length) = some (.dict (convertDict l)) := by
          simp only [derefV, List.getElem?_concat_length, Option.map_eq_some_iff]
          exact ⟨_, derefKvs_mono (derefV_keeps s1 _ (keeps_append s1 _) fuel) kvs1 _ hd1, rfl⟩
        obtain ⟨r, s2, hsep, hl2, hk2, hfoot⟩ :=
          sepS_spec eqv (fuel + 1) "variables" (.ref s1.length) (s1 ++ [Obj.dict kvs1]) [] (.dict (convertDict l)) hroot
        have hr : derefV s2 (fuel + 1) r = some (.dict (sepDictG eqv "variables" (convertDict l) []).1) := by
          have := hfoot s2 (fun _ _ _ => rfl)
          simpa [sepG] using this
        refine ⟨s2, ?_, ?_, ?_⟩
        · subst hlc
          simp only [processVariablesS, ha, hconv, hsep, hr, processVariablesG, sepG]
        · simp at hl2; omega
        · intro b hb
          rw [hk2 b (by simp; omega), keeps_append s1 _ b (by omega), hk1 b hb]

theorem take_of_keeps {s s' : OStore} (hl : s.length ≤ s'.length) (hk : ∀ a, a < s.length → s'[a]? = s[a]?) :
    s'.take s.length = s := by
  apply List.ext_getElem?
  intro i
  rw [List.getElem?_take]
  by_cases hi : i < s.length
  · simp [hi, hk i hi]
  · simp only [hi, if_false]
    exact (List.getElem?_eq_none (by omega)).symm

theorem processVariablesS_of_variables? (eqv : Nat → Nat → Bool) (h : OHeap) (fuel : Nat) (c : HCall)
    (v : Option (List (String × PV))) (hv : h.variables? fuel c = some v) :
    ∃ s', processVariablesS eqv fuel h.objs c.variables =
        some ((processVariablesG eqv v).1, s', (processVariablesG eqv v).2) ∧ s'.take h.objs.length = h.objs := by
  unfold OHeap.variables? at hv
  cases hcv : c.variables with
  | none =>
    simp only [hcv, Option.some.injEq] at hv; subst hv
    exact ⟨h.objs, rfl, by simp⟩
  | some a =>
    simp only [hcv] at hv
    cases hd : derefV h.objs (fuel + 1) (.ref a) with
    | none => simp [hd] at hv
    | some pv =>
      rw [hd] at hv
      cases pv with
      | dict kvs =>
        simp only [Option.some.injEq] at hv; subst hv
        obtain ⟨s', hs', hl, hk⟩ := processVariablesS_some eqv fuel h.objs a kvs hd
        exact ⟨s', hs', take_of_keeps hl hk⟩
      | _ => simp at hv

theorem ocall?_parts {h : OHeap} {fuel : Nat} {c : HCall} {call : Call} (hc : h.call? fuel c = some call) :
    h.variables? fuel c = some call.variables ∧ h.headers? c = some call.headers ∧
      call.query = c.query ∧ call.opName = c.opName ∧ call.kwargs = c.kwargs := by
  unfold OHeap.call? at hc
  cases hv : h.variables? fuel c with
  | none => simp [hv] at hc
  | some v =>
    cases hh : h.headers? c with
    | none => simp [hv, hh] at hc
    | some hd =>
      simp only [hv, hh, Option.some.injEq] at hc
      subst hc
      exact ⟨rfl, rfl, rfl, rfl, rfl⟩

theorem executeJson_congr (cl : Client) (c₁ c₂ : Call) (vars : List (String × PV)) (hq : c₁.query = c₂.query)
    (ho : c₁.opName = c₂.opName) (hh : c₁.headers = c₂.headers) (hk : c₁.kwargs = c₂.kwargs) :
    executeJson cl c₁ vars = executeJson cl c₂ vars := by
  simp [executeJson, body, opJ, hq, ho, hh, hk]

theorem executeMultipart_congr (cl : Client) (c₁ c₂ : Call) (vars : List (String × PV)) (es : List Entry)
    (hq : c₁.query = c₂.query) (ho : c₁.opName = c₂.opName) (hh : c₁.headers = c₂.headers) (hk : c₁.kwargs = c₂.kwargs) :
    executeMultipart cl c₁ vars es = executeMultipart cl c₂ vars es := by
  simp [executeMultipart, body, opJ, hq, ho, hh, hk]

/-- the `files=` argument of the value-level call, with the attributes of the heap's Upload objects -/
def filesOfCall (ups : List UploadObj) (cl : Client) (call : Call) : List (String × Option (String × Nat × String)) :=
  filesFor ups (processVariables call.variables).2 (execute cl call).2

theorem filesFor_json (ups : List UploadObj) (es : List Entry) (cl : Client) (c : Call) (vars : List (String × PV)) :
    filesFor ups es (executeJson cl c vars) = [] := by
  unfold executeJson
  cases body c vars <;> rfl

/-- `executeO` refines `execute`: on well-formed references (any aliasing among the container objects,
    nesting no deeper than the fuel) it leaves the client and EVERY object of the heap as they were, and
    sends the request of the value-level model on the trees the objects denote at call time. -/
theorem executeO_eq (fuel : Nat) (cl : Client) (h : OHeap) (c : HCall) (call : Call) (hc : h.call? fuel c = some call) :
    executeO fuel cl h c = .ok cl h (execute cl call).2 (filesOfCall h.ups cl call) := by
  obtain ⟨hv, hh, hq, ho, hkw⟩ := ocall?_parts hc
  obtain ⟨s', hs', htake⟩ := processVariablesS_of_variables? uploadEq h fuel c call.variables hv
  rw [processVariablesG_identity] at hs'
  have hcd : callerDict h.hdrs c.headers = some call.headers := by
    unfold OHeap.headers? at hh
    unfold callerDict
    cases hch : c.headers <;> simpa [hch] using hh
  have hj := fun vars => executeJsonH_eq cl h.hdrs c.headers call.headers
    { query := c.query, opName := c.opName, variables := none, headers := call.headers, kwargs := c.kwargs } vars hcd rfl
  have hsame : ({ h with objs := h.objs } : OHeap) = h := rfl
  have hsame2 : ({ h with hdrs := h.hdrs, objs := h.objs } : OHeap) = h := rfl
  unfold filesOfCall
  rw [execute_snd]
  unfold executeO
  simp only [hc, hh, hs', finishO, htake]
  by_cases ht : (cl.kind.isOT && cl.tracer && (toJsonKvs (processVariables call.variables).1).isNone) = true
  · simp only [ht, if_true]
    have hn : toJsonKvs (processVariables call.variables).1 = none := by
      simp only [Bool.and_eq_true, Option.isNone_iff_eq_none] at ht; exact ht.2
    rw [executePlain_unserialisable cl call hn]
    simp [filesFor]
  · simp only [ht, if_false, Bool.false_eq_true]
    unfold executePlain
    by_cases he : (processVariables call.variables).2.isEmpty = true
    · simp only [he, if_true, hj]
      rw [executeJson_congr cl { query := c.query, opName := c.opName, variables := none, headers := call.headers, kwargs := c.kwargs } call _ hq.symm ho.symm rfl hkw.symm, filesFor_json]
    · simp only [he, if_false, Bool.false_eq_true]
      rw [executeMultipart_congr cl { query := c.query, opName := c.opName, variables := none, headers := call.headers, kwargs := c.kwargs } call _ _ hq.symm ho.symm rfl hkw.symm]

theorem executeO_illFormed (fuel : Nat) (cl : Client) (h : OHeap) (c : HCall) (hc : h.call? fuel c = none) :
    executeO fuel cl h c = .illFormed := by
  unfold executeO; simp [hc]

def derefStepsO (fuel : Nat) (h : OHeap) (steps : List (Client × HCall)) : List (Option Request) :=
  steps.map fun st => (h.call? fuel st.2).map fun call => (execute st.1 call).2

theorem runSeqO_eq (fuel : Nat) (h : OHeap) (steps : List (Client × HCall)) :
    runSeqO fuel h steps = (h, derefStepsO fuel h steps) := by
  induction steps with
  | nil => rfl
  | cons st rest ih =>
    obtain ⟨cl, c⟩ := st
    cases hc : h.call? fuel c with
    | none => simp [runSeqO, derefStepsO, executeO_illFormed fuel cl h c hc, hc, ih]
    | some call => simp [runSeqO, derefStepsO, executeO_eq fuel cl h c call hc, hc, ih]

theorem filesDict_get (ups : List UploadObj) (i n : Nat) (st : List Entry) :
    (filesDict ups i st)[n]? =
      st[n]?.map (fun e => (toString (i + n), (ups[e.id]?).map fun u => (u.filename, u.stream, u.contentType))) :=
  enum_get _ (filesDict ups) (fun _ => rfl) (fun _ _ _ => rfl) i n st

theorem filesDict_length (ups : List UploadObj) (i : Nat) (st : List Entry) : (filesDict ups i st).length = st.length :=
  enum_length (filesDict ups) (fun _ => rfl) (fun _ _ _ => rfl) i st

end Ariadne.BaseClient
