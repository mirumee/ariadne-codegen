/-
  C06: `InputRel.related` (the hypothesis `Proved_06` of the acceptance theorem) is ESTABLISHED BY THE
  GENERATOR for every schema in the decidable class `wf06`: names are unique, every field type
  resolves, no definition is called like a specified scalar / a Python builtin the annotations use,
  enum members do not collide, no finding trigger fires, and every default literal is `plainLit`
  (no object literal; a list literal only at a list type).  So for those schemas `Proved_06` is a
  theorem, not a measured hypothesis; what is left unproved is the region of object-literal defaults
  (and structured literals on custom scalars).
-/
import AriadneModel.Proofs.C06Accept
import AriadneModel.Proofs.C06Readback
import AriadneModel.Model.InputWf
import AriadneModel.Proofs.C06Source


namespace Ariadne.C06Related
open Ariadne.InputGen (TypeRef Lit PyExpr InputField TypeDef constValue constValues)
open Ariadne.InputField Ariadne.CoerceInput Ariadne.PydInput Ariadne.InputRel Ariadne.InputWf
open Ariadne.C06Readback (plainLit plainLits EnumOk)

theorem find_filterMap {α β : Type} (g : α → Option β) (ka : α → String) (kb : β → String)
    (hk : ∀ a b, g a = some b → kb b = ka a) : ∀ (l : List α), strDistinct (l.map ka) = true →
    ∀ a ∈ l, ∀ b, g a = some b → (l.filterMap g).find? (fun y => kb y == ka a) = some b := by
  intro l
  induction l with
  | nil => intro _ a ha; cases ha
  | cons z l ih =>
    intro hd a ha b hg
    have hinj := InputRel.strDistinct_inj ka (z :: l) hd
    have hd' : strDistinct (l.map ka) = true := by
      simp only [List.map, strDistinct, Bool.and_eq_true] at hd
      exact hd.2
    by_cases hza : z = a
    · subst hza
      simp [hg, hk z b hg]
    · have ha' : a ∈ l := by
        rcases List.mem_cons.mp ha with h | h
        · exact absurd h.symm hza
        · exact h
      cases hz : g z with
      | none => simpa [List.filterMap_cons, hz] using ih hd' a ha' b hg
      | some bz =>
        have hne : ¬ ka z = ka a := fun h => hza (hinj z (List.mem_cons_self ..) a ha h)
        have hb : (kb bz == ka a) = false := by rw [hk z bz hz]; simpa using hne
        simp only [List.filterMap_cons, hz, List.find?_cons, hb]
        exact ih hd' a ha' b hg

theorem find_filterMap_none {α β : Type} (g : α → Option β) (ka : α → String) (kb : β → String)
    (hk : ∀ a b, g a = some b → kb b = ka a) (n : String) : ∀ (l : List α), (∀ a ∈ l, ka a ≠ n) →
    (l.filterMap g).find? (fun y => kb y == n) = none := by
  intro l h
  rw [List.find?_eq_none]
  intro b hb
  obtain ⟨a, ha, hg⟩ := List.mem_filterMap.mp hb
  have := h a ha
  rw [← hk a b hg] at this
  simpa using this

def defNames (defs : List TypeDef) : List String := defs.map TypeDef.name

theorem findDef_of_mem (defs : List TypeDef) (hd : strDistinct (defNames defs) = true) (d : TypeDef) (h : d ∈ defs) :
    InputGen.findDef defs d.name = some d := by
  unfold InputGen.findDef
  exact InputRel.find_of_distinct TypeDef.name defs hd d h

theorem findDef_none (defs : List TypeDef) (n : String) (h : ∀ d ∈ defs, d.name ≠ n) : InputGen.findDef defs n = none := by
  unfold InputGen.findDef
  rw [List.find?_eq_none]
  intro d hd
  simpa using h d hd

theorem kindOf_of_mem_input (cfg : Cfg) (defs : List TypeDef) (hd : strDistinct (defNames defs) = true) (n : String)
    (fs : List InputField) (h : TypeDef.input n fs ∈ defs) : kindOf cfg defs n = .input := by
  have := findDef_of_mem defs hd _ h
  simp only [TypeDef.name] at this
  simp [kindOf, this]

theorem kindOf_of_mem_enum (cfg : Cfg) (defs : List TypeDef) (hd : strDistinct (defNames defs) = true) (n : String)
    (vs : List String) (h : TypeDef.enum n vs ∈ defs) : kindOf cfg defs n = .enum := by
  have := findDef_of_mem defs hd _ h
  simp only [TypeDef.name] at this
  simp [kindOf, this]

theorem kindOf_of_mem_scalar (cfg : Cfg) (defs : List TypeDef) (hd : strDistinct (defNames defs) = true) (n : String)
    (h : TypeDef.scalar n ∈ defs) : kindOf cfg defs n = scalarKind cfg n := by
  have := findDef_of_mem defs hd _ h
  simp only [TypeDef.name] at this
  simp [kindOf, this]

section
variable (cfg : Cfg) (defs : List TypeDef) (acc : String → J → Bool) (lax : Lax)

/-- the environment of the previous round, against which the last round's `default_factory`s run -/
def prevEnv : Env := iterEnv acc lax (classes cfg defs) (enumsOf defs) (defs.length + 1)
/-- the last round, before `broken` is computed -/
def lastEnv : Env := iterEnv acc lax (classes cfg defs) (enumsOf defs) (defs.length + 2)
def prevSchema : CSchema := iterSchema defs (defs.length + 1)

theorem mkEnv_classes : (mkEnv cfg defs acc lax).classes = (classes cfg defs).map (classSpecOf (prevEnv cfg defs acc lax)) := rfl
theorem lastEnv_classes : (lastEnv cfg defs acc lax).classes = (classes cfg defs).map (classSpecOf (prevEnv cfg defs acc lax)) := rfl
theorem mkEnv_enums : (mkEnv cfg defs acc lax).enums = enumsOf defs := rfl
theorem lastEnv_enums : (lastEnv cfg defs acc lax).enums = enumsOf defs := rfl
theorem prevEnv_enums : (prevEnv cfg defs acc lax).enums = enumsOf defs := rfl
theorem mkEnv_lax : (mkEnv cfg defs acc lax).lax = lax := rfl
theorem mkSchema_types : (mkSchema defs).types = defs.filterMap (stepType (prevSchema defs)) := rfl

theorem mkEnv_enum? (n : String) : (mkEnv cfg defs acc lax).enum? n = ((enumsOf defs).find? (·.1 == n)).map (·.2) := rfl
theorem lastEnv_enum? (n : String) : (lastEnv cfg defs acc lax).enum? n = ((enumsOf defs).find? (·.1 == n)).map (·.2) := rfl
theorem prevEnv_enum? (n : String) : (prevEnv cfg defs acc lax).enum? n = ((enumsOf defs).find? (·.1 == n)).map (·.2) := rfl

theorem classOf_name (K : String → Kind) (d : TypeDef) (c : ClassDecl) (h : classOf cfg K d = some c) : c.name = d.name := by
  cases d <;> simp [classOf, genClass] at h
  subst h; rfl

theorem mkEnv_class? (hd : strDistinct (defNames defs) = true) (n : String) (fs : List InputField)
    (h : TypeDef.input n fs ∈ defs) :
    (mkEnv cfg defs acc lax).class? n
      = some (classSpecOf (prevEnv cfg defs acc lax) (genClass cfg (kindOf cfg defs) n fs)) := by
  unfold Env.class?
  rw [mkEnv_classes]
  unfold classes
  rw [List.map_filterMap]
  exact find_filterMap (fun d => (classOf cfg (kindOf cfg defs) d).map (classSpecOf (prevEnv cfg defs acc lax)))
    TypeDef.name (·.name)
    (by
      intro a b hab
      cases hc : classOf cfg (kindOf cfg defs) a with
      | none => simp [hc] at hab
      | some c =>
        simp only [hc, Option.map_some, Option.some.injEq] at hab
        subst hab
        exact classOf_name cfg _ a c hc)
    defs hd (.input n fs) h _ rfl

theorem enumOf_name (d : TypeDef) (e : String × List (String × String))
    (h : (match d with | .enum n vs => some ((InputGen.genEnum n vs).name, (InputGen.genEnum n vs).members) | _ => none) = some e) :
    e.1 = d.name := by
  cases d <;> simp at h
  subst h; rfl

theorem enumsOf_eq : enumsOf defs = defs.filterMap (fun d => match d with
    | .enum n vs => some ((InputGen.genEnum n vs).name, (InputGen.genEnum n vs).members) | _ => none) := by
  unfold enumsOf InputGen.enumResults
  rw [List.map_filterMap]
  congr 1
  funext d
  cases d <;> rfl

theorem enums_find (hd : strDistinct (defNames defs) = true) (n : String) (vs : List String)
    (h : TypeDef.enum n vs ∈ defs) :
    ((enumsOf defs).find? (·.1 == n)).map (·.2) = some (InputGen.genEnum n vs).members := by
  rw [enumsOf_eq]
  have := find_filterMap (fun d => match d with
      | .enum n vs => some ((InputGen.genEnum n vs).name, (InputGen.genEnum n vs).members) | _ => none)
    TypeDef.name (fun (e : String × List (String × String)) => e.1) (fun a b hab => enumOf_name a b hab) defs hd (.enum n vs) h _ rfl
  simp only [TypeDef.name] at this
  rw [this]
  rfl

theorem enums_find_none (n : String) (h : ∀ d ∈ defs, d.name ≠ n) : ((enumsOf defs).find? (·.1 == n)).map (·.2) = none := by
  rw [enumsOf_eq]
  rw [find_filterMap_none _ TypeDef.name (fun (e : String × List (String × String)) => e.1) (fun a b hab => enumOf_name a b hab) n defs h]
  rfl

theorem stepType_name (prev : CSchema) (d : TypeDef) (ct : CType) (h : stepType prev d = some ct) : ct.name = d.name := by
  cases d <;> simp [stepType] at h <;> subst h <;> rfl

theorem mkSchema_find (hd : strDistinct (defNames defs) = true) (d : TypeDef) (h : d ∈ defs) (ct : CType)
    (hs : stepType (prevSchema defs) d = some ct) : (mkSchema defs).find? d.name = some ct := by
  unfold CSchema.find?
  rw [mkSchema_types]
  exact find_filterMap (stepType (prevSchema defs)) TypeDef.name CType.name (stepType_name _) defs hd d h ct hs

theorem mkSchema_find_none (n : String) (h : ∀ d ∈ defs, d.name ≠ n) : (mkSchema defs).find? n = none := by
  unfold CSchema.find?
  rw [mkSchema_types]
  exact find_filterMap_none (stepType (prevSchema defs)) TypeDef.name CType.name (stepType_name _) n defs h

end

/-! ### plain literals coerce the same in every round of `iterSchema` -/

def simT : Option CType → Option CType → Prop
  | some (.scalar _), some (.scalar _) => True
  | some (.enum _ va), some (.enum _ vb) => va = vb
  | some (.input _ _), some (.input _ _) => True
  | none, none => True
  | _, _ => False

theorem stepSchema_sim (p1 p2 : CSchema) (n : String) : ∀ (defs : List TypeDef),
    simT ((stepSchema p1 defs).find? n) ((stepSchema p2 defs).find? n) := by
  intro defs
  unfold CSchema.find? stepSchema
  induction defs with
  | nil => simp [simT]
  | cons d ds ih =>
    cases d with
    | composite m => simpa [List.filterMap_cons, stepType] using ih
    | enum m vs =>
      simp only [List.filterMap_cons, stepType, List.find?_cons, CType.name]
      cases (m == n) with
      | true => simp [simT]
      | false => exact ih
    | scalar m =>
      simp only [List.filterMap_cons, stepType, List.find?_cons, CType.name]
      cases (m == n) with
      | true => simp [simT]
      | false => exact ih
    | input m fs =>
      simp only [List.filterMap_cons, stepType, List.find?_cons, CType.name]
      cases (m == n) with
      | true => simp [simT]
      | false => exact ih

theorem litLeaf_sim (s1 s2 : CSchema) (n : String) (l : Lit) (h : simT (s1.find? n) (s2.find? n)) :
    litLeaf s1 n l = litLeaf s2 n l := by
  unfold litLeaf
  cases litBuiltin n l with
  | some r => rfl
  | none =>
    simp only
    cases h1 : s1.find? n with
    | none =>
      cases h2 : s2.find? n with
      | none => rfl
      | some c2 => rw [h1, h2] at h; cases c2 <;> simp [simT] at h
    | some c1 =>
      cases h2 : s2.find? n with
      | none => rw [h1, h2] at h; cases c1 <;> simp [simT] at h
      | some c2 =>
        rw [h1, h2] at h
        cases c1 <;> cases c2 <;> simp [simT] at h <;> first | rfl | (subst h; rfl)

mutual
  theorem coerceLit_sim (s1 s2 s : CSchema) (ft : String) (hs : ∀ n, simT (s1.find? n) (s2.find? n)) :
      ∀ (l : Lit) (t : TypeRef), plainLit s ft t l = true → coerceLit s1 t l = coerceLit s2 t l
    | .null, t, _ => by simp [coerceLit]
    | .int v, t, _ => by simp only [coerceLit, litLeaf_sim s1 s2 _ _ (hs _)]
    | .float v, t, _ => by simp only [coerceLit, litLeaf_sim s1 s2 _ _ (hs _)]
    | .str v, t, _ => by simp only [coerceLit, litLeaf_sim s1 s2 _ _ (hs _)]
    | .bool v, t, _ => by simp only [coerceLit, litLeaf_sim s1 s2 _ _ (hs _)]
    | .enum v, t, _ => by simp only [coerceLit, litLeaf_sim s1 s2 _ _ (hs _)]
    | .obj kvs, t, hp => by simp [plainLit] at hp
    | .list xs, t, hp => by
      obtain ⟨it, hu, hp⟩ := C06Readback.plainLit_list hp
      simp only [coerceLit, hu, coerceLits_sim s1 s2 s ft hs xs it hp]
  theorem coerceLits_sim (s1 s2 s : CSchema) (ft : String) (hs : ∀ n, simT (s1.find? n) (s2.find? n)) :
      ∀ (xs : List Lit) (t : TypeRef), plainLits s ft t xs = true → coerceLits s1 t xs = coerceLits s2 t xs
    | [], _, _ => by simp [coerceLits]
    | x :: xs, t, hp => by
      simp only [plainLits, Bool.and_eq_true] at hp
      simp only [coerceLits, coerceLit_sim s1 s2 s ft hs x t hp.1, coerceLits_sim s1 s2 s ft hs xs t hp.2]
end

theorem coerceLit_prev (defs : List TypeDef) (s : CSchema) (ft : String) (l : Lit) (t : TypeRef) (hp : plainLit s ft t l = true) :
    coerceLit (prevSchema defs) t l = coerceLit (mkSchema defs) t l :=
  coerceLit_sim _ _ s ft (fun n => stepSchema_sim _ _ n defs) l t hp

section
variable (cfg : Cfg) (defs : List TypeDef) (acc : String → J → Bool) (lax : Lax)

/-- the schema is one graphql-core builds: type names and field names unique, every default literal valid for
    its type (`C06.validDefs` is this definition, `C06.validDefs_eq`) -/
def validDefs' (defs : List TypeDef) : Bool :=
  strDistinct (defs.map TypeDef.name) &&
  defs.all fun
    | .input _ fs =>
      strDistinct (fs.map (·.name)) &&
        fs.all (fun f => match f.default with
          | some lit => isOk (coerceLit (mkSchema defs) f.type lit)
          | none => true)
    | _ => true

structure FieldFacts (f : InputField) : Prop where
  ann : ∃ a ft, annOf (kindOf cfg defs) f.type true = some (a, ft) ∧
    ∀ lit, f.default = some lit → plainLit (mkSchema defs) ft f.type lit = true ∧ ∃ d, coerceLit (mkSchema defs) f.type lit = .ok d
  f1 : trigNullableListItem f.type = false

theorem fieldFacts (hv : validDefs' defs = true) (hw : wf06 cfg defs = true) (hs : supported cfg defs = true)
    (n : String) (fs : List InputField) (h : TypeDef.input n fs ∈ defs) (f : InputField) (hf : f ∈ fs) :
    FieldFacts cfg defs f := by
  simp only [validDefs', Bool.and_eq_true, List.all_eq_true] at hv
  simp only [wf06, Bool.and_eq_true, List.all_eq_true] at hw
  simp only [supported, List.all_eq_true] at hs
  have hv1 := hv.2 _ h
  have hw1 := hw.2 _ h
  have hs1 := hs _ h
  simp only [Bool.and_eq_true, List.all_eq_true] at hv1 hw1 hs1
  have hvf := hv1.2 f hf
  have hwf := hw1 f hf
  have hsf := hs1.2 f hf
  constructor
  · unfold fieldPlain at hwf
    cases ha : annOf (kindOf cfg defs) f.type true with
    | none => simp [ha] at hwf
    | some p =>
      obtain ⟨a, ft⟩ := p
      refine ⟨a, ft, rfl, ?_⟩
      intro lit hl
      simp only [ha, hl] at hwf
      simp only [hl] at hvf
      refine ⟨hwf, ?_⟩
      cases hc : coerceLit (mkSchema defs) f.type lit with
      | ok d => exact ⟨d, rfl⟩
      | error e => simp [hc, isOk] at hvf
  · simp only [fieldSupported, fieldTriggers, List.all_cons, Bool.and_eq_true, Bool.not_eq_true'] at hsf
    exact hsf.1

theorem enum_def_of_find (n : String) (vals : List String) (h : (mkSchema defs).find? n = some (.enum n vals)) :
    TypeDef.enum n vals ∈ defs := by
  unfold CSchema.find? at h
  rw [mkSchema_types] at h
  have hm := List.mem_of_find?_eq_some h
  obtain ⟨d, hd, hst⟩ := List.mem_filterMap.mp hm
  cases d <;> simp [stepType] at hst
  obtain ⟨rfl, rfl⟩ := hst
  exact hd

theorem enumOk_of_wf (hd : strDistinct (defNames defs) = true) (hw : wf06 cfg defs = true) (env : Env)
    (henv : ∀ n, env.enum? n = ((enumsOf defs).find? (·.1 == n)).map (·.2))
    (ft : String) (vals : List String) (h : (mkSchema defs).find? ft = some (.enum ft vals)) : EnumOk env ft vals := by
  have hmem := enum_def_of_find defs ft vals h
  refine ⟨(InputGen.genEnum ft vals).members, by rw [henv, enums_find defs hd ft vals hmem], ?_⟩
  intro x hx hkw
  simp only [wf06, Bool.and_eq_true, List.all_eq_true] at hw
  have := hw.2 _ hmem
  simp only [enumMembersOk, List.all_eq_true] at this
  have := this x hx
  have hkw' : ¬ x ∈ Tables.kwlist := by simpa using hkw
  simpa [hkw, hkw'] using this

theorem nameSyntaxError_plain (ft x : String) (hne : ft ≠ "") (hkw : Tables.kwlist.contains x = false)
    (hdot : ∀ c ∈ x.toList, c ≠ '.') : nameSyntaxError (ft ++ "." ++ x) = false := by
  have hs := C06Readback.splitName_concat ft x hdot
  have hne' : (ft == "") = false := by simpa using hne
  have hkw' : ¬ x ∈ Tables.kwlist := by simpa using hkw
  simp [nameSyntaxError, hs, hne', hkw']

mutual
  theorem noSyntaxError_plain (s : CSchema) (ft : String) : ∀ (l : Lit) (t : TypeRef) (nl no : Bool),
      plainLit s ft t l = true → hasSyntaxError (constValue ft l nl no) = false
    | .null, _, _, _, _ => by simp [constValue, hasSyntaxError]
    | .int _, _, _, _, _ => by simp [constValue, hasSyntaxError]
    | .float _, _, _, _, _ => by simp [constValue, hasSyntaxError]
    | .str _, _, _, _, _ => by simp [constValue, hasSyntaxError]
    | .bool _, _, _, _, _ => by simp [constValue, hasSyntaxError]
    | .enum x, t, _, _, hp => by
      simp only [plainLit, Bool.and_eq_true, beq_iff_eq, bne_iff_ne, ne_eq, Bool.not_eq_true', List.all_eq_true] at hp
      obtain ⟨⟨⟨⟨⟨⟨_, _⟩, hne⟩, hkw⟩, hdot⟩, _⟩, _⟩ := hp
      simp only [constValue, hasSyntaxError]
      exact nameSyntaxError_plain ft x hne hkw (fun c hc => by simpa using hdot c hc)
    | .obj kvs, _, _, _, hp => by simp [plainLit] at hp
    | .list xs, t, nl, no, hp => by
      obtain ⟨it, _, hp⟩ := C06Readback.plainLit_list hp
      have := noSyntaxError_plains s ft xs it no hp
      cases nl <;> simp [constValue, hasSyntaxError, this]
  theorem noSyntaxError_plains (s : CSchema) (ft : String) : ∀ (xs : List Lit) (t : TypeRef) (no : Bool),
      plainLits s ft t xs = true → anySyntaxError (constValues ft xs no) = false
    | [], _, _, _ => by simp [constValues, anySyntaxError]
    | x :: xs, t, no, hp => by
      simp only [plainLits, Bool.and_eq_true] at hp
      simp [constValues, anySyntaxError, noSyntaxError_plain s ft x t true no hp.1, noSyntaxError_plains s ft xs t no hp.2]
end

/-- a default that is no syntax error and evaluates does not break the class body: a `default_factory` is
    not run there, anything else is the expression itself -/
theorem declBroken_of_evalDefault (env : Env) (d : FieldDecl) (e : PyExpr) (pv : PV) (hd : d.value.default = some e)
    (hs : hasSyntaxError e = false) (he : evalDefault env e = .ok pv) : declBroken env d = false := by
  unfold declBroken plainDefault?
  rw [hd]
  cases e <;> simp_all [evalDefault]

theorem field_gen (hd : strDistinct (defNames defs) = true) (hw : wf06 cfg defs = true)
    (f : InputField) (hf : FieldFacts cfg defs f) :
    ∃ d, genField cfg (kindOf cfg defs) f = some d ∧
      fieldRel (kindOf cfg defs) (stepField (prevSchema defs) f) (specOf (prevEnv cfg defs acc lax) d) = true ∧
      declBroken (lastEnv cfg defs acc lax) d = false := by
  obtain ⟨⟨a, ft, ha, hlit⟩, hf1⟩ := hf
  obtain ⟨d, hd'⟩ : ∃ d, genField cfg (kindOf cfg defs) f = some d := by simp [genField, ha]
  obtain ⟨a', ft', ha', hann, hpy, hdef, hal⟩ := genField_default cfg _ f d hd'
  rw [ha] at ha'
  simp only [Option.some.injEq, Prod.mk.injEq] at ha'
  obtain ⟨rfl, rfl⟩ := ha'
  have hkey : (specOf (prevEnv cfg defs acc lax) d).key = f.name := by
    simp only [FieldSpec.key, specOf, hal, hpy]
    by_cases hp : (pyName cfg.snake f.name != f.name) = true
    · simp [hp]
    · have : pyName cfg.snake f.name = f.name := by simpa using hp
      simp [this]
  have hsp : (specOf (prevEnv cfg defs acc lax) d).default
      = (InputGen.fieldDefault .sdl ft f).map (evalDefault (prevEnv cfg defs acc lax)) := by
    simp [specOf, hdef]
  have hname : (stepField (prevSchema defs) f).name = f.name := rfl
  have htype : (stepField (prevSchema defs) f).type = f.type := rfl
  refine ⟨d, hd', ?_⟩
  cases hfd : f.default with
  | none =>
    have hcf : (stepField (prevSchema defs) f).default = none := by simp [stepField, hfd]
    constructor
    · unfold fieldRel
      simp only [hname, htype, hkey, ha, hf1, hsp, hcf, InputGen.fieldDefault, hfd]
      cases f.type.isNonNull <;> simp [specOf, hann, evalDefault, evalExpr]
    · unfold declBroken plainDefault?
      simp only [hdef, InputGen.fieldDefault, hfd]
      cases f.type.isNonNull <;> simp [hasSyntaxError, evalExpr]
  | some lit =>
    obtain ⟨hpl, dv, hco⟩ := hlit lit hfd
    -- the emitted constant evaluates in every round: each has the module's enum classes
    have hev : ∀ env : Env, (∀ n, env.enum? n = ((enumsOf defs).find? (·.1 == n)).map (·.2)) →
        ∃ pv, evalDefault env (constValue ft lit false false) = .ok pv := fun env henv =>
      (C06Readback.default_readback (mkSchema defs) env ft
        (fun vals hfind => enumOk_of_wf cfg defs hd hw env henv _ vals hfind) lit f.type dv hpl hco).imp fun _ h => h.1
    have hcf : (stepField (prevSchema defs) f).default = some (.ok dv) := by
      simp only [stepField, hfd, coerceLit_prev defs _ _ lit f.type hpl, hco]
    constructor
    · obtain ⟨pv, hpv⟩ := hev _ (prevEnv_enum? cfg defs acc lax)
      unfold fieldRel
      simp only [hname, htype, hkey, ha, hf1, hsp, hcf, InputGen.fieldDefault, hfd]
      simp [specOf, hann, hpv]
    · obtain ⟨pv, hpv⟩ := hev _ (lastEnv_enum? cfg defs acc lax)
      exact declBroken_of_evalDefault _ d _ pv (by rw [hdef]; simp [InputGen.fieldDefault, hfd])
        (noSyntaxError_plain (mkSchema defs) ft lit f.type false false hpl) hpv

theorem namesDistinct_eq : ∀ (l : List String), namesDistinct l = strDistinct l
  | [] => rfl
  | x :: xs => by simp [namesDistinct, strDistinct, namesDistinct_eq xs]

theorem class_fields (hd : strDistinct (defNames defs) = true) (hw : wf06 cfg defs = true) :
    ∀ (fs : List InputField), (∀ f ∈ fs, FieldFacts cfg defs f) →
    ∃ ds, (fs.map (genField cfg (kindOf cfg defs))).filterMap id = ds
      ∧ (fs.map (genField cfg (kindOf cfg defs))).any Option.isNone = false
      ∧ all2 (fieldRel (kindOf cfg defs)) (fs.map (stepField (prevSchema defs))) (ds.map (specOf (prevEnv cfg defs acc lax))) = true
      ∧ (ds.map (specOf (prevEnv cfg defs acc lax))).map (·.key) = fs.map (·.name)
      ∧ (ds.map (specOf (prevEnv cfg defs acc lax))).map (·.py) = fs.map (fun f => pyName cfg.snake f.name)
      ∧ (∀ sp ∈ ds.map (specOf (prevEnv cfg defs acc lax)), sp.py = pyName cfg.snake sp.key)
      ∧ ds.any (declBroken (lastEnv cfg defs acc lax)) = false := by
  intro fs
  induction fs with
  | nil => intro _; exact ⟨[], rfl, rfl, rfl, rfl, rfl, fun _ h => (nomatch h), rfl⟩
  | cons f fs ih =>
    intro hall
    obtain ⟨ds, hds, hany, hall2, hkeys, hpys, hpos, hbr⟩ := ih (fun g hg => hall g (List.mem_cons_of_mem _ hg))
    obtain ⟨d, hgen, hrel, hbr0⟩ := field_gen cfg defs acc lax hd hw f (hall f (List.mem_cons_self ..))
    obtain ⟨_, _, _, _, hpy, _, _⟩ := genField_default cfg _ f d hgen
    have hkey := (fieldRel_parts hrel).1
    have hpy' : (specOf (prevEnv cfg defs acc lax) d).py = pyName cfg.snake f.name := hpy
    refine ⟨d :: ds, by simp [hgen, hds], by simp [hgen, hany], ?_, ?_, ?_, ?_, by simp [hbr0, hbr]⟩
    · simp only [List.map_cons, all2, hrel, hall2, Bool.and_self]
    · simp only [List.map_cons, hkeys, hkey]
      rfl
    · simp only [List.map_cons, hpys, hpy']
    · intro sp hsp
      rcases List.mem_cons.mp hsp with rfl | hsp
      · rw [hpy', hkey]; rfl
      · exact hpos sp hsp

theorem namesOK_of_trig (snake : Bool) (fs : List InputField) (specs : List FieldSpec)
    (hkeys : specs.map (·.key) = fs.map (·.name)) (hpys : specs.map (·.py) = fs.map (fun f => pyName snake f.name))
    (hpos : ∀ sp ∈ specs, sp.py = pyName snake sp.key)
    (hdist : strDistinct (fs.map (·.name)) = true) (htrig : trigNameDefect snake fs = false) : namesOK specs = true := by
  simp only [trigNameDefect, Bool.or_eq_false_iff, Bool.not_eq_false', List.any_eq_false, 
    List.map_map] at htrig
  obtain ⟨⟨hnd, _⟩, hcross⟩ := htrig
  rw [namesDistinct_eq] at hnd
  simp only [namesOK, Bool.and_eq_true, List.all_eq_true, Bool.or_eq_true, bne_iff_ne, ne_eq, beq_iff_eq]
  refine ⟨⟨by rw [hkeys]; exact hdist, by rw [hpys]; exact hnd⟩, ?_⟩
  intro sp hsp sp' hsp'
  by_cases hk : sp'.key = sp.py
  · right
    have hpyf : sp.py ∈ fs.map (fun f => pyName snake f.name) := by rw [← hpys]; exact List.mem_map.mpr ⟨sp, hsp, rfl⟩
    obtain ⟨f, hf, hfpy⟩ := List.mem_map.mp hpyf
    have hkg : sp'.key ∈ fs.map (·.name) := by rw [← hkeys]; exact List.mem_map.mpr ⟨sp', hsp', rfl⟩
    obtain ⟨g, hg, hgk⟩ := List.mem_map.mp hkg
    have hgf : g.name = f.name := by
      by_cases hne : g.name = f.name
      · exact hne
      · exfalso
        apply hcross f hf
        simp only [List.any_eq_true, Bool.and_eq_true, bne_iff_ne, ne_eq, beq_iff_eq]
        exact ⟨g, hg, hne, by rw [hfpy, ← hk, hgk]⟩
    rw [hpos sp' hsp', ← hgk, hgf, hfpy]
  · left; exact hk

/-- table fact (re-checked against the regenerated tables): every name `INPUT_SCALARS_MAP` knows is a
    specified scalar, or is `Upload` -/
theorem inputScalars_table : Tables.inputScalarsMap.all (fun p => InputGen.specifiedScalars.contains p.1 || p.2 == "Upload") = true := by
  decide +kernel

theorem not_reserved (hw : wf06 cfg defs = true) (d : TypeDef) (h : d ∈ defs) : reservedNames.contains d.name = false := by
  simp only [wf06, Bool.and_eq_true, List.all_eq_true, Bool.not_eq_true'] at hw
  exact hw.1 d h

theorem name_ne_of_reserved (hw : wf06 cfg defs = true) (n : String) (hn : reservedNames.contains n = true) :
    ∀ d ∈ defs, d.name ≠ n := by
  intro d hd he
  have := not_reserved cfg defs hw d hd
  rw [he, hn] at this
  cases this

theorem kindOf_reserved (hw : wf06 cfg defs = true) (n py : String) (hn : reservedNames.contains n = true)
    (hs : InputGen.specifiedScalars.contains n = true) (hl : Tables.inputScalarsMap.lookup n = some py) :
    kindOf cfg defs n = .builtin py := by
  have hnone := findDef_none defs n (name_ne_of_reserved cfg defs hw n hn)
  have hs' : n ∈ InputGen.specifiedScalars := by simpa using hs
  simp [kindOf, hnone, hs', scalarKind, hl]

/-- table fact: the names `builtinsOK` speaks of are reserved, and `INPUT_SCALARS_MAP` sends each specified
    scalar to the builtin `builtinNames` lists for it -/
theorem builtinNames_table :
    builtinNames.all (fun p => reservedNames.contains p.1 && InputGen.specifiedScalars.contains p.1
      && Tables.inputScalarsMap.lookup p.1 == some p.2) = true
    ∧ ["int", "float", "str", "bool", "Any"].all reservedNames.contains = true := by
  decide +kernel

theorem builtinsOK_gen (hw : wf06 cfg defs = true) (S : CSchema)
    (hS : ∀ n, reservedNames.contains n = true → (S.find? n).isNone = true) :
    builtinsOK (kindOf cfg defs) (mkEnv cfg defs acc lax) S = true := by
  obtain ⟨h1, h2⟩ := builtinNames_table
  simp only [builtinsOK, Bool.and_eq_true, List.all_eq_true, beq_iff_eq] at h1 h2 ⊢
  refine ⟨fun p hp => ?_, fun n hn => ?_⟩
  · obtain ⟨⟨hr, hsp⟩, hl⟩ := h1 p hp
    exact ⟨kindOf_reserved cfg defs hw p.1 p.2 hr hsp hl, hS p.1 hr⟩
  · rw [mkEnv_enum?, enums_find_none defs n (name_ne_of_reserved cfg defs hw n (h2 n hn))]
    rfl

theorem mkEnv_broken : (mkEnv cfg defs acc lax).broken
    = ((classes cfg defs).any (fun c => c.fields.any Option.isNone)
        || (classes cfg defs).any (fun c => (c.fields.filterMap id).any (declBroken (lastEnv cfg defs acc lax)))) := rfl

theorem not_broken (hv : validDefs' defs = true) (hw : wf06 cfg defs = true) (hs : supported cfg defs = true) :
    (mkEnv cfg defs acc lax).broken = false := by
  have hv' := hv
  simp only [validDefs', Bool.and_eq_true, List.all_eq_true] at hv'
  have hd : strDistinct (defNames defs) = true := hv'.1
  have hcls : ∀ c ∈ classes cfg defs, c.fields.any Option.isNone = false
      ∧ (c.fields.filterMap id).any (declBroken (lastEnv cfg defs acc lax)) = false := by
    intro c hc
    obtain ⟨n, fs, hdm, rfl⟩ := mem_classes hc
    have hfacts : ∀ f ∈ fs, FieldFacts cfg defs f := fun f hf => fieldFacts cfg defs hv hw hs n fs hdm f hf
    obtain ⟨ds, hds, hany, _, _, _, _, hbr⟩ := class_fields cfg defs acc lax hd hw fs hfacts
    exact ⟨by simpa [genClass] using hany, by simpa [genClass, hds] using hbr⟩
  rw [mkEnv_broken, Bool.or_eq_false_iff, List.any_eq_false, List.any_eq_false]
  exact ⟨fun c hc => by simp [(hcls c hc).1], fun c hc => by simp [(hcls c hc).2]⟩

end

/-! ### the generator establishes `related`, for either schema source

  What coercion sees is `visibleDefs m defs` (on the introspection path with the defaults `build_client_schema`
  restores), what the generator sees and what the module is generated from is `viewOf m defs` (without them).
  The two differ in one place only: a field whose default the generator did not see.  With C06-F8's trigger off
  that default is `= null` on a nullable type, which `fieldRel` cannot tell from no default (`fieldRel_view`). -/

section
open Ariadne.InputSource
open Ariadne.InputGen (Mode)
variable (cfg : Cfg) (defs : List TypeDef) (acc : String → J → Bool) (lax : Lax)

theorem all2_map_congr {α β γ : Type} (R : β → γ → Bool) (h1 h2 : α → β) : ∀ (fs : List α) (specs : List γ),
    (∀ f ∈ fs, ∀ sp, R (h1 f) sp = R (h2 f) sp) → all2 R (fs.map h1) specs = all2 R (fs.map h2) specs := by
  intro fs
  induction fs with
  | nil => intro specs _; rfl
  | cons f fs ih =>
    intro specs h
    cases specs with
    | nil => rfl
    | cons sp specs =>
      simp only [List.map_cons, all2, h f (List.mem_cons_self ..) sp,
        ih specs (fun g hg => h g (List.mem_cons_of_mem _ hg))]

theorem no_effective_cases (f : InputField) (h : InputGen.effectiveDefault f = false) :
    f.default = none ∨ (f.default = some .null ∧ f.type.isNonNull = false) := by
  unfold InputGen.effectiveDefault at h
  cases hd : f.default with
  | none => exact .inl rfl
  | some l =>
    cases l <;> simp [hd] at h
    exact .inr ⟨rfl, h⟩

/-- the schema field as coercion sees it and the schema field the generator saw are indistinguishable for
    `fieldRel` (`p1`, `p2`: the previous rounds of the two schemas, the same one for SDL) -/
theorem fieldRel_view (K : String → Kind) (p1 p2 : CSchema) (m : Mode) (hp : m = .sdl → p1 = p2) (f : InputField)
    (h : trigDefaultLostIntro m f = false) (sp : FieldSpec) :
    fieldRel K (stepField p1 f) sp = fieldRel K (stepField p2 (viewField m f)) sp := by
  cases m with
  | sdl => rw [hp rfl]; rfl
  | intro b =>
    rcases no_effective_cases f h with hd | ⟨hd, hnn⟩
    · simp [fieldRel, stepField, viewField, hd]
    · simp [fieldRel, stepField, viewField, hd, coerceLit, hnn]

theorem visibleDef_name (m : Mode) (d : TypeDef) : (visibleDef m d).name = d.name := by cases d <;> rfl

theorem reserved_not_type (m : Mode) (hw : wf06 cfg (viewOf m defs) = true) (n : String)
    (hn : reservedNames.contains n = true) : ((mkSchema (visibleDefs m defs)).find? n).isNone = true := by
  rw [mkSchema_find_none (visibleDefs m defs) n]; · rfl
  intro d' hd'
  obtain ⟨d, hd, rfl⟩ := List.mem_map.mp hd'
  rw [visibleDef_name, ← C06Source.viewDef_name m d]
  exact name_ne_of_reserved cfg (viewOf m defs) hw n hn _ (List.mem_map.mpr ⟨d, hd, rfl⟩)

theorem typeRel_src (m : Mode)
    (hv : validDefs' (viewOf m defs) = true) (hw : wf06 cfg (viewOf m defs) = true) (hs : supported cfg (viewOf m defs) = true)
    (hne : ∀ n fs, TypeDef.input n fs ∈ defs → ∀ f ∈ InputGen.visibleFields m fs, trigDefaultLostIntro m f = false) :
    (mkSchema (visibleDefs m defs)).types.all
      (typeRel (kindOf cfg (viewOf m defs)) (mkEnv cfg (viewOf m defs) acc lax)) = true := by
  have hv' := hv
  simp only [validDefs', Bool.and_eq_true, List.all_eq_true] at hv'
  have hd : strDistinct (defNames (viewOf m defs)) = true := hv'.1
  rw [List.all_eq_true]
  intro ct hct
  rw [mkSchema_types] at hct
  obtain ⟨d', hdm', hst⟩ := List.mem_filterMap.mp hct
  obtain ⟨d, hdm0, rfl⟩ := List.mem_map.mp hdm'
  have hdm : viewDef m d ∈ viewOf m defs := List.mem_map.mpr ⟨d, hdm0, rfl⟩
  cases d with
  | composite n => simp [visibleDef, stepType] at hst
  | enum n vs =>
    simp only [visibleDef, stepType, Option.some.injEq] at hst
    subst hst
    simp only [typeRel, kindOf_of_mem_enum cfg _ hd n vs hdm, beq_self_eq_true, Bool.true_and, mkEnv_enum?,
      enums_find _ hd n vs hdm, List.all_eq_true, List.any_eq_true, beq_iff_eq]
    intro v hvv
    refine ⟨(if Tables.kwlist.contains v then v ++ "_" else v, v), ?_, rfl⟩
    simp only [InputGen.genEnum]
    exact List.mem_map.mpr ⟨v, hvv, rfl⟩
  | scalar n =>
    simp only [visibleDef, stepType, Option.some.injEq] at hst
    subst hst
    simp only [typeRel, kindOf_of_mem_scalar cfg _ hd n hdm]
    unfold scalarKind
    cases hl : Tables.inputScalarsMap.lookup n with
    | none => cases cfg.scalar? n <;> rfl
    | some py =>
      simp only
      have hmem := Lists.lookup_mem hl
      have htab := inputScalars_table
      rw [List.all_eq_true] at htab
      have := htab _ hmem
      simp only [Bool.or_eq_true, beq_iff_eq] at this
      rcases this with hspec | hup
      · have hres : reservedNames.contains n = true := by
          simp only [reservedNames, List.contains_eq_mem, List.mem_append, decide_eq_true_eq] at hspec ⊢
          exact .inl hspec
        have := not_reserved cfg _ hw _ hdm
        simp only [viewDef, TypeDef.name] at this
        rw [hres] at this
        cases this
      · simpa using hup
  | input n fs =>
    simp only [visibleDef, stepType, Option.some.injEq] at hst
    subst hst
    have hdm : TypeDef.input n (viewFields m fs) ∈ viewOf m defs := hdm
    have hfacts : ∀ f ∈ viewFields m fs, FieldFacts cfg (viewOf m defs) f :=
      fun f hf => fieldFacts cfg _ hv hw hs n _ hdm f hf
    obtain ⟨ds, hds, _, hall2, hkeys, hpys, hpos, _⟩ := class_fields cfg (viewOf m defs) acc lax hd hw _ hfacts
    have hvf := hv'.2 _ hdm
    simp only [Bool.and_eq_true] at hvf
    have hsf : trigNameDefect cfg.snake (viewFields m fs) = false := by
      simp only [supported, List.all_eq_true] at hs
      have := hs _ hdm
      simp only [Bool.and_eq_true, Bool.not_eq_true'] at this
      exact this.1
    have hnames := namesOK_of_trig cfg.snake _ _ hkeys hpys hpos hvf.1 hsf
    -- the fields of the schema's type are `fieldRel` to the class's like the fields the generator saw
    have hall2' : all2 (fieldRel (kindOf cfg (viewOf m defs)))
        ((InputGen.visibleFields m fs).map (stepField (prevSchema (visibleDefs m defs))))
        (ds.map (specOf (prevEnv cfg (viewOf m defs) acc lax))) = true := by
      rw [all2_map_congr (fieldRel _) (stepField (prevSchema (visibleDefs m defs)))
        (stepField (prevSchema (viewOf m defs)) ∘ viewField m) _ _
        (fun f hf sp => fieldRel_view _ _ _ m
          (fun e => by subst e; rw [C06Source.visibleDefs_sdl, C06Source.viewOf_sdl]) f (hne n fs hdm0 f hf) sp),
        ← List.map_map]
      exact hall2
    simp only [typeRel, kindOf_of_mem_input cfg _ hd n _ hdm, beq_self_eq_true,
      mkEnv_class? cfg _ acc lax hd n _ hdm, classSpecOf, genClass, hds, hall2', hnames, Bool.and_self]

/-- THE GENERATOR ESTABLISHES `related` between the schema as coercion sees it and the module generated from
    it, for a schema of either source: when what the generator sees is valid, supported and in `wf06`, whatever
    its size, and (introspection) no field has a default the path would lose (C06-F8's trigger off) -/
theorem related_src_of_wf (m : Mode)
    (hv : validDefs' (viewOf m defs) = true) (hw : wf06 cfg (viewOf m defs) = true) (hs : supported cfg (viewOf m defs) = true)
    (hne : ∀ n fs, TypeDef.input n fs ∈ defs → ∀ f ∈ InputGen.visibleFields m fs, trigDefaultLostIntro m f = false) :
    related (kindOf cfg defs) (mkSchema (visibleDefs m defs)) (mkEnvSrc m cfg defs acc lax) = true := by
  rw [← C06Source.kindOf_view m]
  simp only [related, Bool.and_eq_true, Bool.not_eq_true']
  exact ⟨⟨typeRel_src cfg defs acc lax m hv hw hs hne,
    builtinsOK_gen cfg _ acc lax hw _ (reserved_not_type cfg defs m hw)⟩, not_broken cfg _ acc lax hv hw hs⟩

theorem related_of_wf (hv : validDefs' defs = true) (hw : wf06 cfg defs = true) (hs : supported cfg defs = true) :
    related (kindOf cfg defs) (mkSchema defs) (mkEnv cfg defs acc lax) = true := by
  have h := related_src_of_wf cfg defs acc lax .sdl (by rwa [C06Source.viewOf_sdl]) (by rwa [C06Source.viewOf_sdl])
    (by rwa [C06Source.viewOf_sdl]) (fun _ _ _ _ _ => rfl)
  rwa [C06Source.visibleDefs_sdl, C06Source.mkEnvSrc_sdl] at h

theorem related_intro_of_wf (b : Bool)
    (hv : validDefs' (viewOf (.intro b) defs) = true) (hw : wf06 cfg (viewOf (.intro b) defs) = true)
    (hs : supported cfg (viewOf (.intro b) defs) = true)
    (hne : ∀ n fs, TypeDef.input n fs ∈ defs → ∀ f ∈ InputGen.visibleFields (.intro b) fs, InputGen.effectiveDefault f = false) :
    related (kindOf cfg defs) (mkSchema (visibleDefs (.intro b) defs)) (mkEnvSrc (.intro b) cfg defs acc lax) = true :=
  related_src_of_wf cfg defs acc lax (.intro b) hv hw hs hne

theorem trigNameDefect_names (snake : Bool) (fs gs : List InputField) (h : fs.map (·.name) = gs.map (·.name)) :
    trigNameDefect snake fs = trigNameDefect snake gs := by
  have h3 : ∀ (l : List InputField), (l.any fun f => l.any fun g => g.name != f.name && pyName snake f.name == g.name)
      = ((l.map (·.name)).any fun a => (l.map (·.name)).any fun c => c != a && pyName snake a == c) := by
    intro l
    simp only [List.any_map]
    rfl
  simp only [trigNameDefect, h3, h]

theorem fieldSupported_no_default (X : List TypeDef) (f : InputField) (h : f.default = none) :
    fieldSupported cfg X f = !trigNullableListItem f.type := by
  simp [fieldSupported, fieldTriggers, trigEnumInObjectDefault, trigKeywordEnumDefault, trigObjectInListDefault,
    trigCoercingDefault, trigObjectDefaultOnScalar, h]

theorem strDistinct_filter {α : Type} (k : α → String) (p : α → Bool) (l : List α)
    (h : strDistinct (l.map k) = true) : strDistinct ((l.filter p).map k) = true :=
  (strDistinct_iff _).mpr (((strDistinct_iff _).mp h).sublist (List.filter_sublist.map k))

theorem viewFields_names (b : Bool) (fs : List InputField) :
    (viewFields (.intro b) fs).map (·.name) = (InputGen.visibleFields (.intro b) fs).map (·.name) := by
  simp [viewFields, List.map_map, Function.comp, viewField]

theorem visibleFields_distinct (b : Bool) (fs : List InputField) (h : strDistinct (fs.map (·.name)) = true) :
    strDistinct ((InputGen.visibleFields (.intro b) fs).map (·.name)) = true := by
  cases b with
  | true => exact h
  | false => exact strDistinct_filter (·.name) _ fs h

theorem viewField_default_intro (b : Bool) (f : InputField) : (viewField (.intro b) f).default = none := rfl

theorem validDefs_view (b : Bool) (hv : validDefs' defs = true) : validDefs' (viewOf (.intro b) defs) = true := by
  simp only [validDefs', Bool.and_eq_true, List.all_eq_true] at hv ⊢
  refine ⟨?_, ?_⟩
  · have : (viewOf (.intro b) defs).map TypeDef.name = defs.map TypeDef.name := by
      simp [viewOf, List.map_map, Function.comp, C06Source.viewDef_name]
    rw [this]; exact hv.1
  · intro d' hd'
    obtain ⟨d, hd, rfl⟩ := List.mem_map.mp hd'
    cases d with
    | input n fs =>
      have := hv.2 _ hd
      simp only [Bool.and_eq_true] at this
      simp only [viewDef, Bool.and_eq_true, List.all_eq_true]
      refine ⟨by rw [viewFields_names]; exact visibleFields_distinct b fs this.1, ?_⟩
      intro f hf
      obtain ⟨g, _, rfl⟩ := List.mem_map.mp hf
      rfl
    | enum n vs => rfl
    | scalar n => rfl
    | composite n => rfl

theorem supported_view_of_src (b : Bool) (h : supportedSrc (.intro b) cfg defs = true) :
    supported cfg (viewOf (.intro b) defs) = true
    ∧ (∀ n fs, TypeDef.input n fs ∈ defs → ∀ f ∈ InputGen.visibleFields (.intro b) fs, InputGen.effectiveDefault f = false) := by
  simp only [supportedSrc, List.all_eq_true] at h
  refine ⟨?_, ?_⟩
  · simp only [supported, List.all_eq_true]
    intro d' hd'
    obtain ⟨d, hd, rfl⟩ := List.mem_map.mp hd'
    cases d with
    | input n fs =>
      have := h _ hd
      simp only [Bool.and_eq_true, Bool.not_eq_true', List.all_eq_true] at this
      simp only [viewDef, Bool.and_eq_true, Bool.not_eq_true', List.all_eq_true]
      refine ⟨by rw [trigNameDefect_names cfg.snake _ _ (viewFields_names b fs)]; exact this.1, ?_⟩
      intro f' hf'
      obtain ⟨f, hf, rfl⟩ := List.mem_map.mp hf'
      have hsf := this.2 f hf
      rw [fieldSupported_no_default cfg _ _ (viewField_default_intro b f)]
      simp only [fieldSupportedSrc, fieldTriggersSrc, List.all_append, Bool.and_eq_true] at hsf
      have h1 := hsf.1
      change fieldSupported cfg defs (viewField (.intro b) f) = true at h1
      rw [fieldSupported_no_default cfg _ _ (viewField_default_intro b f)] at h1
      exact h1
    | enum n vs => rfl
    | scalar n => rfl
    | composite n => rfl
  · intro n fs hd f hf
    have := h _ hd
    simp only [Bool.and_eq_true, Bool.not_eq_true', List.all_eq_true] at this
    have hsf := this.2 f hf
    simp only [fieldSupportedSrc, fieldTriggersSrc, List.all_append, Bool.and_eq_true, List.all_cons, List.all_nil,
      Bool.and_true, Bool.not_eq_true', trigDefaultLostIntro] at hsf
    exact hsf.2

theorem supportedSrc_sdl : supportedSrc .sdl cfg defs = supported cfg defs := by
  unfold supportedSrc supported
  congr 1

theorem view_hyps (m : Mode) (hv : validDefs' defs = true) (hs : supportedSrc m cfg defs = true) :
    validDefs' (viewOf m defs) = true ∧ supported cfg (viewOf m defs) = true
    ∧ ∀ n fs, TypeDef.input n fs ∈ defs → ∀ f ∈ InputGen.visibleFields m fs, trigDefaultLostIntro m f = false := by
  cases m with
  | sdl =>
    rw [C06Source.viewOf_sdl]
    exact ⟨hv, supportedSrc_sdl cfg defs ▸ hs, fun _ _ _ _ _ => rfl⟩
  | intro b => exact ⟨validDefs_view defs b hv, supported_view_of_src cfg defs b hs⟩

end

end Ariadne.C06Related

