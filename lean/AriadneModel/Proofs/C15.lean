/-
  C15, the basis of Properties/C15.lean: `Except` plumbing, the manager loop `applyAll` (its equations and three induction
  principles) and association lists.
-/
import AriadneModel.Model.PluginFindings
import AriadneModel.Model.PluginManager
import AriadneModel.Proofs.Util


namespace Ariadne.C15
open Ariadne.Py Ariadne.Plugins
open Ariadne.Lists (bind_eq_ok)

theorem bind_ok {ε α β} (a : α) (f : α → Except ε β) : (Except.ok a >>= f) = f a := rfl
theorem bind_error {ε α β} (e : ε) (f : α → Except ε β) : (Except.error e >>= f : Except ε β) = Except.error e := rfl
theorem pure_eq_ok {ε α} (a : α) : (pure a : Except ε α) = Except.ok a := rfl

/-- body of the `for plugin in self.plugins` loop -/
def loopBody {σ : Type} (step : Call → σ → Payload → M (σ × Payload)) (c : Call)
    (acc : List σ × Payload) (p : σ) : M (List σ × Payload) := do
  let (p', y) ← step c p acc.2
  pure (acc.1 ++ [p'], y)

theorem applyAll_eq_foldlM {σ : Type} (step : Call → σ → Payload → M (σ × Payload)) (c : Call)
    (ps : List σ) (x : Payload) : applyAll step c ps x = ps.foldlM (loopBody step c) ([], x) := rfl

theorem loop_prefix {σ : Type} (step : Call → σ → Payload → M (σ × Payload)) (c : Call)
    (ps : List σ) : ∀ (d : List σ) (x : Payload),
    ps.foldlM (loopBody step c) (d, x) =
      (ps.foldlM (loopBody step c) ([], x) >>= fun r => pure (d ++ r.1, r.2)) := by
  induction ps with
  | nil => intro d x; simp [List.foldlM, pure_eq_ok, bind_ok]
  | cons p ps ih =>
    intro d x
    simp only [List.foldlM_cons, loopBody]
    cases hs : step c p x with
    | error e => simp [bind, Except.bind]
    | ok r =>
      obtain ⟨p', y⟩ := r
      simp only [bind_ok, pure_eq_ok, List.nil_append]
      rw [ih (d ++ [p']) y, ih [p'] y]
      cases hf : List.foldlM (loopBody step c) ([], y) ps with
      | error e => simp [bind, Except.bind]
      | ok r' => simp [bind_ok, pure_eq_ok, List.append_assoc]

theorem applyAll_cons {σ : Type} (step : Call → σ → Payload → M (σ × Payload)) (c : Call)
    (p : σ) (ps : List σ) (x : Payload) :
    applyAll step c (p :: ps) x =
      (step c p x >>= fun r => applyAll step c ps r.2 >>= fun r' => pure (r.1 :: r'.1, r'.2)) := by
  simp only [applyAll_eq_foldlM, List.foldlM_cons, loopBody]
  cases hs : step c p x with
  | error e => simp [bind, Except.bind]
  | ok r =>
    obtain ⟨p', y⟩ := r
    simp only [bind_ok, pure_eq_ok, List.nil_append]
    rw [loop_prefix step c ps [p'] y]
    cases hf : List.foldlM (loopBody step c) ([], y) ps with
    | error e => simp [bind, Except.bind]
    | ok r' => simp [bind_ok, pure_eq_ok]

theorem applyAll_append {σ : Type} (step : Call → σ → Payload → M (σ × Payload)) (c : Call)
    (ps qs : List σ) (x : Payload) :
    applyAll step c (ps ++ qs) x =
      (applyAll step c ps x >>= fun r => applyAll step c qs r.2 >>= fun r' => pure (r.1 ++ r'.1, r'.2)) := by
  induction ps generalizing x with
  | nil =>
    simp only [List.nil_append]
    show _ = (Except.ok ([], x) >>= _)
    rw [bind_ok]
    cases applyAll step c qs x with
    | error e => rfl
    | ok r => rfl
  | cons p ps ih =>
    rw [List.cons_append, applyAll_cons, applyAll_cons]
    cases hs : step c p x with
    | error e => rfl
    | ok r =>
      simp only [bind_ok]
      rw [ih r.2]
      cases applyAll step c ps r.2 with
      | error e => rfl
      | ok r1 =>
        simp only [bind_ok, pure_eq_ok]
        cases applyAll step c qs r1.2 with
        | error e => rfl
        | ok r2 => simp [bind_ok]


theorem applyAll_nil_ok {σ : Type} {step : Call → σ → Payload → M (σ × Payload)} {c : Call} {x y : Payload} {l : List σ}
    (h : applyAll step c [] x = .ok (l, y)) : l = [] ∧ y = x := by
  cases h; exact ⟨rfl, rfl⟩

theorem applyAll_cons_ok {σ : Type} {step : Call → σ → Payload → M (σ × Payload)} {c : Call} {p : σ} {ps l : List σ}
    {x y : Payload} (h : applyAll step c (p :: ps) x = .ok (l, y)) :
    ∃ p' x' l', step c p x = .ok (p', x') ∧ applyAll step c ps x' = .ok (l', y) ∧ l = p' :: l' := by
  rw [applyAll_cons] at h
  obtain ⟨r, hs, h⟩ := bind_eq_ok.mp h
  obtain ⟨r', hr, h⟩ := bind_eq_ok.mp h
  cases h
  exact ⟨r.1, r.2, r'.1, hs, hr, rfl⟩

theorem applyAll_invariant {σ : Type} {step : Call → σ → Payload → M (σ × Payload)} {c : Call} (P : Payload → Prop)
    (hP : ∀ p x p' y, P x → step c p x = .ok (p', y) → P y) :
    ∀ (ps l : List σ) (x y : Payload), P x → applyAll step c ps x = .ok (l, y) → P y := by
  intro ps
  induction ps with
  | nil => intro l x y hx h; rw [(applyAll_nil_ok h).2]; exact hx
  | cons p rest ih =>
    intro l x y hx h
    obtain ⟨p', x', l', hs, hr, _⟩ := applyAll_cons_ok h
    exact ih l' x' y (hP p x p' x' hx hs) hr

theorem applyAll_id {σ : Type} {step : Call → σ → Payload → M (σ × Payload)} {c : Call} {x : Payload} :
    ∀ (ps : List σ), (∀ p ∈ ps, step c p x = .ok (p, x)) → applyAll step c ps x = .ok (ps, x) := by
  intro ps
  induction ps with
  | nil => intro _; rfl
  | cons p rest ih =>
    intro h
    rw [applyAll_cons, h p (by simp)]
    simp only [bind_ok]
    rw [ih (fun q hq => h q (by simp [hq]))]
    rfl

theorem applyAll_map_eq {σ β : Type} {step : Call → σ → Payload → M (σ × Payload)} {c : Call} (f : σ → β)
    (hf : ∀ p x p' y, step c p x = .ok (p', y) → f p' = f p) :
    ∀ (ps l : List σ) (x y : Payload), applyAll step c ps x = .ok (l, y) → l.map f = ps.map f := by
  intro ps
  induction ps with
  | nil => intro l x y h; rw [(applyAll_nil_ok h).1]
  | cons p rest ih =>
    intro l x y h
    obtain ⟨p', x', l', hs, hr, rfl⟩ := applyAll_cons_ok h
    rw [List.map_cons, List.map_cons, hf p x p' x' hs, ih l' x' y hr]

theorem alookup_eq {β} (k : String) (d : List (String × β)) : alookup k d = d.lookup k :=
  Lists.eq_lookup_of_eqns alookup (fun _ => rfl) (fun _ _ _ _ => rfl) k d

theorem alookup_aset {β} (k k' : String) (v : β) (d : List (String × β)) :
    alookup k' (aset k v d) = if k = k' then some v else alookup k' d := by
  rw [alookup_eq, alookup_eq]
  exact Lists.lookup_set_of_eqns aset (fun _ _ => rfl) (fun _ _ _ _ _ => rfl) k v k' d

theorem alookup_aset_self {β} (k : String) (v : β) (d : List (String × β)) : alookup k (aset k v d) = some v := by
  rw [alookup_aset, if_pos rfl]

theorem alookup_aset_other {β} (k k' : String) (v : β) (d : List (String × β)) (h : k ≠ k') :
    alookup k' (aset k v d) = alookup k' d := by
  rw [alookup_aset, if_neg h]

theorem mem_of_alookup {β} (k : String) (v : β) (d : List (String × β)) (h : alookup k d = some v) : (k, v) ∈ d :=
  Lists.lookup_mem (alookup_eq k d ▸ h)

theorem alookup_of_mem_nodup {β} (k : String) (v : β) (d : List (String × β)) (hm : (k, v) ∈ d)
    (hn : (d.map Prod.fst).Nodup) : alookup k d = some v :=
  alookup_eq k d ▸ Lists.lookup_of_mem_nodup hn hm

theorem mem_sadd (x y : String) (s : List String) : y ∈ sadd x s ↔ y ∈ s ∨ y = x := Util.mem_setAdd

theorem getPluginsTypes_eq_flatMap {α : Type} (es : List (PluginRef α)) :
    getPluginsTypes es = es.flatMap PluginRef.classes :=
  List.flatMap_eq_foldl.symm

end Ariadne.C15
