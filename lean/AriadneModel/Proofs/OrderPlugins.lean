/-
  Proofs/OrderPlugins.lean — the two bundled plugins that feed import statements from sets
  (ClientForwardRefsPlugin, ShorterResultsPlugin).  Core Lean only.
-/
import AriadneModel.Proofs.OrderEmit


namespace Ariadne.Order
open List Ariadne.Isort

/-! ### ClientForwardRefsPlugin._add_forward_ref_imports -/

/-- how an absolute import of module `m` is spelt in a block -/
def mod0 (m : String) : String := modStr ⟨0, m, []⟩

/-- a block as `_add_forward_ref_imports` builds it: absolute imports, none without names -/
def Groups (gs : List ImportFrom) : Prop := ∀ g, g ∈ gs → g.level = 0 ∧ g.names ≠ []

/-- some statement of the block spelt `m` imports `a` -/
def PairIn (gs : List ImportFrom) (m : String) (a : Name) : Prop := ∃ s, s ∈ gs ∧ modStr s = m ∧ a ∈ s.names

theorem modStr_lvl0 (g : ImportFrom) (h : g.level = 0) : modStr g = mod0 g.module := by
  simp [modStr, mod0, h]

theorem addToGroup_spec (m : String) (c : Name) : ∀ gs : List ImportFrom, Groups gs →
    Groups (addToGroup m c gs) ∧ ∀ m' a, PairIn (addToGroup m c gs) m' a ↔ PairIn gs m' a ∨ (m' = mod0 m ∧ a = c) := by
  intro gs
  induction gs with
  | nil =>
    intro _
    refine ⟨?_, ?_⟩
    · intro g hg; simp [addToGroup] at hg; subst hg; exact ⟨rfl, by simp⟩
    · intro m' a
      simp only [addToGroup, PairIn, List.mem_singleton]
      constructor
      · rintro ⟨s, rfl, h1, h2⟩
        right; simp at h2; exact ⟨h1.symm, h2⟩
      · rintro (⟨s, hs, _⟩ | ⟨h1, h2⟩)
        · cases hs
        · exact ⟨_, rfl, h1.symm, by simp [h2]⟩
  | cons g gs ih =>
    intro hl
    have hg0 : g.level = 0 := (hl g List.mem_cons_self).1
    have hl' : Groups gs := fun x hx => hl x (List.mem_cons_of_mem _ hx)
    unfold addToGroup
    split
    · rename_i hgm
      refine ⟨?_, ?_⟩
      · intro x hx
        rcases List.mem_cons.mp hx with rfl | hx
        · exact ⟨hg0, by simp⟩
        · exact hl' x hx
      · intro m' a
        simp only [PairIn, List.mem_cons]
        constructor
        · rintro ⟨s, rfl | hs, h1, h2⟩
          · simp only [List.mem_append, List.mem_singleton] at h2
            rcases h2 with h2 | h2
            · left; exact ⟨g, Or.inl rfl, h1, h2⟩
            · right
              refine ⟨?_, h2⟩
              rw [← h1, ← hgm]; exact modStr_lvl0 _ hg0
          · left; exact ⟨s, Or.inr hs, h1, h2⟩
        · rintro (⟨s, rfl | hs, h1, h2⟩ | ⟨h1, h2⟩)
          · exact ⟨_, Or.inl rfl, h1, by simp [h2]⟩
          · exact ⟨s, Or.inr hs, h1, h2⟩
          · refine ⟨_, Or.inl rfl, ?_, by simp [h2]⟩
            rw [h1, ← hgm]; exact modStr_lvl0 g hg0
    · obtain ⟨i1, i2⟩ := ih hl'
      refine ⟨?_, ?_⟩
      · intro x hx
        rcases List.mem_cons.mp hx with rfl | hx
        · exact hl x List.mem_cons_self
        · exact i1 x hx
      · intro m' a
        have := i2 m' a
        simp only [PairIn, List.mem_cons] at this ⊢
        constructor
        · rintro ⟨s, rfl | hs, h1, h2⟩
          · left; exact ⟨_, Or.inl rfl, h1, h2⟩
          · rcases this.mp ⟨s, hs, h1, h2⟩ with ⟨s', hs', r⟩ | r
            · left; exact ⟨s', Or.inr hs', r⟩
            · right; exact r
        · rintro (⟨s, rfl | hs, h1, h2⟩ | r)
          · exact ⟨_, Or.inl rfl, h1, h2⟩
          · obtain ⟨s', hs', r⟩ := this.mpr (Or.inl ⟨s, hs, h1, h2⟩)
            exact ⟨s', Or.inr hs', r⟩
          · obtain ⟨s', hs', r⟩ := this.mpr (Or.inr r)
            exact ⟨s', Or.inr hs', r⟩

theorem fwd_fold_spec (imp : List (Name × String)) : ∀ (ts : List Name) (acc : List ImportFrom), Groups acc →
    (∀ c, c ∈ ts → ∃ m, lookup imp c = some m) →
    ∃ r, ts.foldlM (fwdStep imp) acc = .ok r ∧ Groups r
      ∧ (∀ m' a, PairIn r m' a ↔ PairIn acc m' a ∨ ∃ c m, c ∈ ts ∧ lookup imp c = some m ∧ m' = mod0 m ∧ a = c) := by
  intro ts
  induction ts with
  | nil =>
    intro acc hl _
    exact ⟨acc, rfl, hl, by simp⟩
  | cons t ts ih =>
    intro acc hl hall
    obtain ⟨m, hm⟩ := hall t List.mem_cons_self
    obtain ⟨s1, s2⟩ := addToGroup_spec m t acc hl
    obtain ⟨r, hr, hl', p⟩ := ih (addToGroup m t acc) s1 (fun c hc => hall c (List.mem_cons_of_mem _ hc))
    refine ⟨r, ?_, hl', ?_⟩
    · simp only [List.foldlM_cons, fwdStep, hm, bind, Except.bind]
      exact hr
    · intro m' a
      rw [p m' a, s2 m' a]
      constructor
      · rintro ((h | ⟨h1, h2⟩) | ⟨c, mm, hc, r⟩)
        · exact Or.inl h
        · exact Or.inr ⟨t, m, List.mem_cons_self, hm, h1, h2⟩
        · exact Or.inr ⟨c, mm, List.mem_cons_of_mem _ hc, r⟩
      · rintro (h | ⟨c, mm, hc, h1, h2, h3⟩)
        · exact Or.inl (Or.inl h)
        · rcases List.mem_cons.mp hc with rfl | hc
          · rw [hm] at h1; cases h1
            exact Or.inl (Or.inr ⟨h2, h3⟩)
          · exact Or.inr ⟨c, mm, hc, h1, h2, h3⟩

/-- no group is without names: the modules of the block are the modules of its pairs -/
theorem Groups.modules {gs : List ImportFrom} (h : Groups gs) (m : String) : m ∈ gs.map modStr ↔ ∃ a, PairIn gs m a := by
  simp only [List.mem_map, PairIn]
  constructor
  · rintro ⟨s, hs, rfl⟩
    obtain ⟨a, ha⟩ := List.exists_mem_of_ne_nil _ (h s hs).2
    exact ⟨a, s, hs, rfl, ha⟩
  · rintro ⟨_, s, hs, hm, _⟩; exact ⟨s, hs, hm⟩

theorem blockEquiv_of_pairs {s₁ s₂ : List ImportFrom} (h₁ : Groups s₁) (h₂ : Groups s₂)
    (hp : ∀ m a, PairIn s₁ m a ↔ PairIn s₂ m a) : BlockEquiv s₁ s₂ :=
  ⟨fun m => by rw [h₁.modules, h₂.modules]; exact exists_congr (hp m),
    fun m a => by rw [mem_namesOf, mem_namesOf]; exact hp m a⟩

theorem forwardRefImports_equiv (e₁ e₂ : EnumOracle) (he₁ : EnumOK e₁) (he₂ : EnumOK e₂) (types : List Name)
    (imp : List (Name × String)) (hall : ∀ c, c ∈ types → ∃ m, lookup imp c = some m) :
    ∃ r₁ r₂, forwardRefImports e₁ types imp = .ok r₁ ∧ forwardRefImports e₂ types imp = .ok r₂ ∧ BlockEquiv r₁ r₂ := by
  have l0 : Groups [] := fun g hg => by cases hg
  obtain ⟨r₁, h1, g1, p1⟩ := fwd_fold_spec imp (e₁ types) [] l0 (fun c hc => hall c ((he₁ _).mem_iff.mp hc))
  obtain ⟨r₂, h2, g2, p2⟩ := fwd_fold_spec imp (e₂ types) [] l0 (fun c hc => hall c ((he₂ _).mem_iff.mp hc))
  refine ⟨r₁, r₂, h1, h2, blockEquiv_of_pairs g1 g2 fun m a => ?_⟩
  rw [p1 m a, p2 m a]
  simp only [(he₁ types).mem_iff, (he₂ types).mem_iff]


/-! ### ShorterResultsPlugin.generate_client_module -/

def StmtRel (a b : ImportFrom) : Prop := a.level = b.level ∧ a.module = b.module ∧ a.names.Perm b.names

/-- statement by statement: same module, names permuted -/
inductive StmtsRel : List ImportFrom → List ImportFrom → Prop
  | nil : StmtsRel [] []
  | cons {a b : ImportFrom} {l₁ l₂ : List ImportFrom} : StmtRel a b → StmtsRel l₁ l₂ → StmtsRel (a :: l₁) (b :: l₂)

theorem StmtsRel.blockEquiv : ∀ {l₁ l₂ : List ImportFrom}, StmtsRel l₁ l₂ → BlockEquiv l₁ l₂
  | _, _, .nil => BlockEquiv.refl _
  | _, _, .cons (a := a) (b := b) (l₁ := l₁) (l₂ := l₂) hab hrest => by
    have ih := StmtsRel.blockEquiv hrest
    have hmod : modStr a = modStr b := by simp [modStr, hab.1, hab.2.1]
    constructor
    · intro m
      simp only [List.map_cons, List.mem_cons, hmod]
      rw [ih.1 m]
    · intro m x
      have := ih.2 m x
      simp only [mem_namesOf, List.mem_cons] at this ⊢
      constructor
      · rintro ⟨s, rfl | hs, h1, h2⟩
        · exact ⟨b, Or.inl rfl, hmod ▸ h1, hab.2.2.mem_iff.mp h2⟩
        · obtain ⟨s', hs', r⟩ := this.mp ⟨s, hs, h1, h2⟩
          exact ⟨s', Or.inr hs', r⟩
      · rintro ⟨s, rfl | hs, h1, h2⟩
        · exact ⟨a, Or.inl rfl, hmod ▸ h1, hab.2.2.mem_iff.mpr h2⟩
        · obtain ⟨s', hs', r⟩ := this.mpr ⟨s, hs, h1, h2⟩
          exact ⟨s', Or.inr hs', r⟩

theorem extGo_rel (e₁ e₂ : EnumOracle) (he₁ : EnumOK e₁) (he₂ : EnumOK e₂) :
    ∀ (stmts : List ImportFrom) (ext : List (String × List Name)),
      (extGo e₁ stmts ext).2 = (extGo e₂ stmts ext).2 ∧ StmtsRel (extGo e₁ stmts ext).1 (extGo e₂ stmts ext).1 := by
  intro stmts
  induction stmts with
  | nil => intro ext; exact ⟨rfl, .nil⟩
  | cons s rest ih =>
    intro ext
    simp only [extGo]
    cases hl : lookup ext s.module with
    | none =>
      obtain ⟨i1, i2⟩ := ih ext
      exact ⟨i1, .cons ⟨rfl, rfl, Perm.refl _⟩ i2⟩
    | some add =>
      obtain ⟨i1, i2⟩ := ih (ext.filter (fun p => p.1 != s.module))
      exact ⟨i1, .cons ⟨rfl, rfl, Perm.append_left _ ((he₁ add).trans (he₂ add).symm)⟩ i2⟩

theorem StmtsRel.append : ∀ {a₁ a₂ b₁ b₂ : List ImportFrom},
    StmtsRel a₁ a₂ → StmtsRel b₁ b₂ → StmtsRel (a₁ ++ b₁) (a₂ ++ b₂)
  | _, _, _, _, .nil, h => h
  | _, _, _, _, .cons h t, h' => .cons h (StmtsRel.append t h')

theorem extendImports_equiv (e₁ e₂ : EnumOracle) (he₁ : EnumOK e₁) (he₂ : EnumOK e₂)
    (stmts : List ImportFrom) (ext : List (String × List Name)) :
    BlockEquiv (extendImports e₁ stmts ext) (extendImports e₂ stmts ext) := by
  obtain ⟨h1, h2⟩ := extGo_rel e₁ e₂ he₁ he₂ stmts ext
  apply StmtsRel.blockEquiv
  unfold extendImports
  simp only
  rw [h1]
  apply StmtsRel.append _ h2
  generalize (extGo e₂ stmts ext).2.reverse = l
  induction l with
  | nil => exact .nil
  | cons p ps ih => exact .cons ⟨rfl, rfl, (he₁ p.2).trans (he₂ p.2).symm⟩ ih

end Ariadne.Order
