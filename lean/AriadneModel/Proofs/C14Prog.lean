/-
  C14: builder PROGRAMS with python variables (Model/BuilderLet.lean).

    * `alias`/`fields`/`on` as one step, as for tree expressions (`PMutator`, `pexprMutInd`; cf. Proofs/C14Expr.lean);
    * evaluation of an expression commutes with forgetting `formatted` (`evalP_erase`): no accessor, no
      `alias`/`fields`/`on` ever reads `formatted_variables`;
    * an expression that applies no mutator to an object that outlives it (class-level object, variable) leaves the
      store untouched (`evalP_noMut_both`);
    * hence `runPOp_sim` (one operation from two processes that agree up to `formatted`), `runPOp_letsOnly` (an
      operation whose CALL ARGUMENTS mutate nothing leaves the process where its assignments alone leave it, up to
      `formatted`) and `runProgFrom_last` (history-freedom for programs);
    * `evalP_toP`: on variable-free expressions `evalP` is `evalExpr` (`runProgFrom_toP`: the model with variables
      is conservative over the tree model).
-/
import AriadneModel.Proofs.C14Owned
import AriadneModel.Model.BuilderLet

namespace Ariadne.C14
open Ariadne.Builder

theorem eraseN_setAlias (al : String) (n : Node) : eraseN (setAlias al n) = setAlias al (eraseN n) := by
  cases n <;> rfl

theorem eraseN_extendSubs (cs : List Node) (n : Node) :
    eraseN (extendSubs cs n) = extendSubs (eraseL cs) (eraseN n) := by
  cases n with
  | obj r s f => simp [extendSubs, eraseN, eraseL_append]
  | ref id => rfl

theorem eraseF_setFragList (ty : String) (cs : List Node) :
    ∀ fs : List Frag, eraseF (setFragList ty cs fs) = setFragList ty (eraseL cs) (eraseF fs)
  | [] => rfl
  | .mk t ns :: fs => by
    simp only [setFragList, eraseF]
    split
    · simp [eraseF]
    · simp [eraseF, eraseF_setFragList ty cs fs]

theorem eraseN_setFrag (ty : String) (cs : List Node) (n : Node) :
    eraseN (setFrag ty cs n) = setFrag ty (eraseL cs) (eraseN n) := by
  cases n with
  | obj r s f => simp [setFrag, eraseN, eraseF_setFragList]
  | ref id => rfl

theorem nodeCls_erase (st : Store) (n : Node) : nodeCls (eraseL st) (eraseN n) = nodeCls st n := by
  cases n with
  | obj r s f => rfl
  | ref id =>
    simp only [eraseN, nodeCls, eraseL_getElem?]
    cases st[id]? with
    | none => rfl
    | some m => cases m <;> rfl

theorem mutate_erase {f g : Node → Node} (hfg : ∀ m, eraseN (f m) = g (eraseN m)) (n : Node) (st : Store) :
    mutate g (eraseN n) (eraseL st) = (eraseN (mutate f n st).1, eraseL (mutate f n st).2) := by
  cases n with
  | obj r s fr =>
    have h1 : mutate g (eraseN (.obj r s fr)) (eraseL st) = (g (eraseN (.obj r s fr)), eraseL st) := rfl
    rw [h1, ← hfg]
    rfl
  | ref id =>
    simp only [eraseN, mutate, eraseL_getElem?]
    cases st[id]? with
    | none => rfl
    | some o => simp [eraseL_set, hfg, eraseN]

def eraseR (r : Except Err Node × Store) : Except Err Node × Store :=
  (match r.1 with
   | .ok n => .ok (eraseN n)
   | .error e => .error e, eraseL r.2)

def eraseRL (r : Except Err (List Node) × Store) : Except Err (List Node) × Store :=
  (match r.1 with
   | .ok ns => .ok (eraseL ns)
   | .error e => .error e, eraseL r.2)

inductive PMutator : PExpr → PExpr → List PExpr → (ClassDef → Bool) → (List Node → Node → Node) → Prop
  | alias (e : PExpr) (al : String) : PMutator (.alias e al) e [] (·.hasAlias) (fun _ => setAlias al)
  | fields (e : PExpr) (cs : List PExpr) : PMutator (.fields e cs) e cs (·.hasFields) extendSubs
  | on (e : PExpr) (ty : String) (cs : List PExpr) : PMutator (.on e ty cs) e cs (·.hasOn) (setFrag ty)

namespace PMutator
variable {p : Package} {env : Env} {e' e : PExpr} {cs : List PExpr} {has : ClassDef → Bool} {f : List Node → Node → Node}

theorem eval (h : PMutator e' e cs has f) (st : Store) :
    evalP p env e' st =
      match evalP p env e st with
      | (.error x, st1) => (.error x, st1)
      | (.ok n, st1) =>
        if classHas p has (nodeCls st1 n) then
          match evalPList p env cs st1 with
          | (.error x, st2) => (.error x, st2)
          | (.ok ns, st2) => (.ok (mutate (f ns) n st2).1, (mutate (f ns) n st2).2)
        else (.error .attribute, st1) := by
  cases h <;> simp only [evalP, evalPList] <;> rfl

theorem base (h : PMutator e' e cs has f) : pexprBase e' = pexprBase e := by
  cases h <;> rfl

theorem mutates (h : PMutator e' e cs has f) :
    pMutates e' = (pexprIsRef (pexprBase e) || pMutates e || pMutatesList cs) := by
  cases h <;> simp [pMutates, pMutatesList]

theorem isObj (h : PMutator e' e cs has f) (ns : List Node) {n : Node} (hn : IsObj n) : IsObj (f ns n) := by
  cases h
  · exact setAlias_isObj hn
  · exact extendSubs_isObj hn
  · exact setFrag_isObj hn

theorem erase (h : PMutator e' e cs has f) (ns : List Node) (m : Node) : eraseN (f ns m) = f (eraseL ns) (eraseN m) := by
  cases h
  · exact eraseN_setAlias _ m
  · exact eraseN_extendSubs ns m
  · exact eraseN_setFrag _ ns m

end PMutator

theorem Mutator.toP {e' e : Expr} {cs : List Expr} {has : ClassDef → Bool} {f : List Node → Node → Node}
    (h : Mutator e' e cs has f) : PMutator (Expr.toP e') (Expr.toP e) (Expr.toPList cs) has f := by
  cases h
  · exact .alias _ _
  · exact .fields _ _
  · exact .on _ _ _

theorem pexprMutInd {P : PExpr → Prop} {PL : List PExpr → Prop}
    (var : ∀ x, P (.var x)) (attr : ∀ c a, P (.attr c a)) (call : ∀ c a kw, P (.call c a kw))
    (step : ∀ e' e cs has f, PMutator e' e cs has f → P e → PL cs → P e')
    (nil : PL []) (cons : ∀ e es, P e → PL es → PL (e :: es)) : (∀ e, P e) ∧ (∀ es, PL es) :=
  ⟨go, goL⟩
where
  go : ∀ e, P e
    | .var x => var x
    | .attr c a => attr c a
    | .call c a kw => call c a kw
    | .alias e al => step _ _ _ _ _ (.alias e al) (go e) nil
    | .fields e cs => step _ _ _ _ _ (.fields e cs) (go e) (goL cs)
    | .on e ty cs => step _ _ _ _ _ (.on e ty cs) (go e) (goL cs)
  goL : ∀ es, PL es
    | [] => nil
    | e :: es => cons e es (go e) (goL es)

theorem evalAccessor_erase (p : Package) (st : Store) :
    (∀ cls a, evalExpr p (.attr cls a) (eraseL st) = eraseR (evalExpr p (.attr cls a) st)) ∧
    (∀ cls a kw, evalExpr p (.call cls a kw) (eraseL st) = eraseR (evalExpr p (.call cls a kw) st)) := by
  constructor
  · intro cls a
    rw [evalExpr_attr, evalExpr_attr]
    cases h : attrResult p cls a with
    | error x => rfl
    | ok n => obtain ⟨id, rfl, -⟩ := attrResult_ok h; rfl
  · intro cls a kw
    rw [evalExpr_call, evalExpr_call]
    cases h : callResult p cls a kw with
    | error x => rfl
    | ok n => obtain ⟨_, acc, vars, -, -, -, rfl⟩ := callResult_ok h; rfl

theorem evalP_erase_both (p : Package) (env : Env) :
    (∀ (e : PExpr) (st : Store), evalP p env e (eraseL st) = eraseR (evalP p env e st)) ∧
    (∀ (es : List PExpr) (st : Store), evalPList p env es (eraseL st) = eraseRL (evalPList p env es st)) := by
  refine pexprMutInd ?_ ?_ ?_ ?_ ?_ ?_
  · intro x st
    simp only [evalP]
    split <;> rfl
  · intro cls a st
    simp only [evalP]
    exact (evalAccessor_erase p st).1 cls a
  · intro cls a kw st
    simp only [evalP]
    exact (evalAccessor_erase p st).2 cls a kw
  · intro e' e cs has f hm ihe ihcs st
    rw [hm.eval, hm.eval, ihe st]
    rcases hh : evalP p env e st with ⟨r, st1⟩
    cases r with
    | error x => rfl
    | ok n =>
      simp only [eraseR]
      rw [nodeCls_erase]
      split
      · rw [ihcs st1]
        rcases hl : evalPList p env cs st1 with ⟨rl, st2⟩
        cases rl with
        | error x => rfl
        | ok ns =>
          simp only [eraseRL]
          rw [mutate_erase (hm.erase ns)]
      · rfl
  · intro st; rfl
  · intro e es ihe ihes st
    simp only [evalPList]
    rw [ihe st]
    rcases hh : evalP p env e st with ⟨r, st1⟩
    cases r with
    | error x => rfl
    | ok n =>
      simp only [eraseR]
      rw [ihes st1]
      rcases hl : evalPList p env es st1 with ⟨rl, st2⟩
      cases rl <;> rfl

theorem evalP_erase (p : Package) (env : Env) (e : PExpr) (st : Store) :
    evalP p env e (eraseL st) = eraseR (evalP p env e st) := (evalP_erase_both p env).1 e st

theorem evalPList_erase (p : Package) (env : Env) (es : List PExpr) (st : Store) :
    evalPList p env es (eraseL st) = eraseRL (evalPList p env es st) := (evalP_erase_both p env).2 es st

theorem evalP_noMut_both (p : Package) (env : Env) :
    (∀ (e : PExpr) (st : Store), pMutates e = false →
      (evalP p env e st).2 = st ∧
      (pexprIsRef (pexprBase e) = false → ∀ n, (evalP p env e st).1 = .ok n → IsObj n)) ∧
    (∀ (es : List PExpr) (st : Store), pMutatesList es = false → (evalPList p env es st).2 = st) := by
  refine pexprMutInd ?_ ?_ ?_ ?_ ?_ ?_
  · intro x st _
    refine ⟨?_, fun h => by simp [pexprBase, pexprIsRef] at h⟩
    simp only [evalP]
    split <;> rfl
  · intro cls a st _
    exact ⟨by rw [evalP, evalExpr_attr], fun h => by simp [pexprBase, pexprIsRef] at h⟩
  · intro cls a kw st _
    exact ⟨by rw [evalP, evalExpr_call], fun _ => (evalExpr_noMut p (.call cls a kw) st rfl).2 rfl⟩
  · intro e' e cs has f hm ihe ihcs st h
    rw [hm.mutates] at h
    simp only [Bool.or_eq_false_iff] at h
    obtain ⟨⟨hb, he⟩, hcs⟩ := h
    obtain ⟨i1, i2⟩ := ihe st he
    rw [hm.eval, hm.base]
    rcases hh : evalP p env e st with ⟨r, st1⟩
    rw [hh] at i1 i2
    obtain rfl : st1 = st := i1
    cases r with
    | error x => exact ⟨rfl, fun _ n hn => by simp at hn⟩
    | ok n =>
      obtain ⟨r0, s0, f0, rfl⟩ := i2 hb n rfl
      have il := ihcs st1 hcs
      rcases hl : evalPList p env cs st1 with ⟨rl, st2⟩
      rw [hl] at il
      obtain rfl : st2 = st1 := il
      by_cases hc : classHas p has (nodeCls st2 (.obj r0 s0 f0)) = true
      · cases rl with
        | error x => simp [hc, hl]
        | ok ns =>
          simp only [hc, hl, if_true, mutate_obj, true_and, Except.ok.injEq]
          intro _ n hn
          exact hn ▸ hm.isObj ns ⟨_, _, _, rfl⟩
      · simp [hc]
  · intro st _; rfl
  · intro e es ihe ihes st h
    simp only [pMutatesList, Bool.or_eq_false_iff] at h
    have i1 := (ihe st h.1).1
    simp only [evalPList]
    rcases hh : evalP p env e st with ⟨r, st1⟩
    rw [hh] at i1
    obtain rfl : st1 = st := i1
    cases r with
    | error x => rfl
    | ok n =>
      have i2 := ihes st1 h.2
      rcases hl : evalPList p env es st1 with ⟨rl, st2⟩
      rw [hl] at i2
      obtain rfl : st2 = st1 := i2
      cases rl <;> simp [hl]

theorem evalPList_noMut (p : Package) (env : Env) (es : List PExpr) (st : Store) (h : pMutatesList es = false) :
    (evalPList p env es st).2 = st := (evalP_noMut_both p env).2 es st h

def eraseT (r : Option Err × Env × Store) : Option Err × Env × Store := (r.1, r.2.1, eraseL r.2.2)

theorem bindVar_erase (p : Package) (x : String) (e : PExpr) (env : Env) (st : Store) :
    bindVar p x e env (eraseL st) = eraseT (bindVar p x e env st) := by
  simp only [bindVar]
  rw [evalP_erase]
  rcases hh : evalP p env e st with ⟨r, st1⟩
  cases r with
  | error err => rfl
  | ok n =>
    cases n with
    | ref id => rfl
    | obj r subs frags => simp [eraseR, eraseT, eraseN, eraseL_length, eraseL_append, eraseL]

theorem runLets_erase (p : Package) : ∀ (lets : List (String × PExpr)) (env : Env) (st : Store),
    runLets p lets env (eraseL st) = eraseT (runLets p lets env st)
  | [], env, st => rfl
  | (x, e) :: rest, env, st => by
    simp only [runLets]
    rw [bindVar_erase]
    rcases hb : bindVar p x e env st with ⟨o, env1, st1⟩
    cases o with
    | some err => rfl
    | none =>
      simp only [eraseT]
      exact runLets_erase p rest env1 st1

theorem runLets_sim (p : Package) (lets : List (String × PExpr)) (env : Env) {st1 st2 : Store}
    (hs : eraseL st1 = eraseL st2) :
    (runLets p lets env st1).1 = (runLets p lets env st2).1 ∧ (runLets p lets env st1).2.1 = (runLets p lets env st2).2.1 ∧
    eraseL (runLets p lets env st1).2.2 = eraseL (runLets p lets env st2).2.2 := by
  have h : eraseT (runLets p lets env st1) = eraseT (runLets p lets env st2) := by
    rw [← runLets_erase, ← runLets_erase, hs]
  simp only [eraseT, Prod.mk.injEq] at h
  exact h

theorem runPOp_sim (p : Package) (op : POp) (env : Env) {st1 st2 : Store} (hs : eraseL st1 = eraseL st2) :
    (runPOp p op env st1).1 = (runPOp p op env st2).1 ∧ (runPOp p op env st1).2.1 = (runPOp p op env st2).2.1 ∧
    eraseL (runPOp p op env st1).2.2 = eraseL (runPOp p op env st2).2.2 := by
  obtain ⟨l1, l2, l3⟩ := runLets_sim p op.lets env hs
  unfold runPOp
  rcases h1 : runLets p op.lets env st1 with ⟨o1, env1, t1⟩
  rcases h2 : runLets p op.lets env st2 with ⟨o2, env2, t2⟩
  rw [h1, h2] at l1 l2 l3
  simp only at l1 l2 l3
  subst l1 l2
  cases o1 with
  | some err => exact ⟨rfl, rfl, l3⟩
  | none =>
    simp only []
    have hf : eraseRL (evalPList p env1 op.fields t1) = eraseRL (evalPList p env1 op.fields t2) := by
      rw [← evalPList_erase, ← evalPList_erase, l3]
    rcases h3 : evalPList p env1 op.fields t1 with ⟨r1, u1⟩
    rcases h4 : evalPList p env1 op.fields t2 with ⟨r2, u2⟩
    rw [h3, h4] at hf
    simp only [eraseRL, Prod.mk.injEq] at hf
    obtain ⟨hr, hu⟩ := hf
    cases r1 with
    | error x1 =>
      cases r2 with
      | error x2 => simp at hr; subst hr; exact ⟨rfl, rfl, hu⟩
      | ok ns2 => simp at hr
    | ok ns1 =>
      cases r2 with
      | error x2 => simp at hr
      | ok ns2 =>
        simp at hr
        simp only []
        rcases execOp_formatted_irrelevant op.opType op.name hu hr with ⟨e, e1, e2⟩ | ⟨d, w1, w2, e1, e2, hw⟩
        · rw [e1, e2]; exact ⟨rfl, rfl, hu⟩
        · rw [e1, e2]; exact ⟨rfl, rfl, hw⟩

theorem runLetsOnly_sim (p : Package) (op : POp) (env : Env) {st1 st2 : Store} (hs : eraseL st1 = eraseL st2) :
    (runLetsOnly p op env st1).1 = (runLetsOnly p op env st2).1 ∧
    eraseL (runLetsOnly p op env st1).2 = eraseL (runLetsOnly p op env st2).2 := by
  obtain ⟨-, l2, l3⟩ := runLets_sim p op.lets env hs
  exact ⟨l2, l3⟩

theorem runPOp_letsOnly (p : Package) (op : POp) (env : Env) (st : Store) (h : pMutatesList op.fields = false) :
    (runPOp p op env st).2.1 = (runLetsOnly p op env st).1 ∧
    eraseL (runPOp p op env st).2.2 = eraseL (runLetsOnly p op env st).2 := by
  unfold runPOp runLetsOnly
  rcases h1 : runLets p op.lets env st with ⟨o, env1, t1⟩
  cases o with
  | some err => exact ⟨rfl, rfl⟩
  | none =>
    simp only []
    have i := evalPList_noMut p env1 op.fields t1 h
    rcases h3 : evalPList p env1 op.fields t1 with ⟨r, u⟩
    rw [h3] at i
    simp at i
    subst i
    cases r with
    | error x => exact ⟨rfl, rfl⟩
    | ok nodes =>
      simp only []
      cases he : execOp op.opType op.name u nodes with
      | error x => exact ⟨rfl, rfl⟩
      | ok ds =>
        obtain ⟨d, st3⟩ := ds
        exact ⟨rfl, execOp_erase he⟩

theorem runProgFrom_last (p : Package) (E : POp) : ∀ (H : List POp) (env : Env) (st1 st2 : Store),
    eraseL st1 = eraseL st2 → (∀ op ∈ H, pMutatesList op.fields = false) →
    (runProgFrom p (H ++ [E]) env st1).getLast? =
      some (runPOp p E (letsOnlyFrom p H env st2).1 (letsOnlyFrom p H env st2).2).1
  | [], env, st1, st2, hs, _ => by
    simp only [List.nil_append, runProgFrom, letsOnlyFrom]
    rw [(runPOp_sim p E env hs).1]
    rfl
  | op :: H, env, st1, st2, hs, hH => by
    have hop := hH op (by simp)
    obtain ⟨a1, a2⟩ := runPOp_letsOnly p op env st1 hop
    obtain ⟨b1, b2⟩ := runLetsOnly_sim p op env hs
    simp only [List.cons_append, runProgFrom, letsOnlyFrom]
    rw [List.getLast?_cons, runProgFrom_last p E H (runPOp p op env st1).2.1 (runPOp p op env st1).2.2
          (runLetsOnly p op env st2).2 (a2.trans b2) (fun o ho => hH o (by simp [ho]))]
    rw [a1, b1]
    rfl

theorem letsOnlyFrom_congr (p : Package) : ∀ (H1 H2 : List POp) {env : Env} {st : Store},
    H1.map (·.lets) = H2.map (·.lets) → letsOnlyFrom p H1 env st = letsOnlyFrom p H2 env st
  | [], [], _, _, _ => rfl
  | [], _ :: _, _, _, h => by simp at h
  | _ :: _, [], _, _, h => by simp at h
  | a :: H1, b :: H2, env, st, h => by
    simp only [List.map_cons, List.cons.injEq] at h
    simp only [letsOnlyFrom, runLetsOnly]
    rw [h.1]
    exact letsOnlyFrom_congr p H1 H2 h.2

theorem evalP_toP_both (p : Package) (env : Env) :
    (∀ (e : Expr) (st : Store), evalP p env (Expr.toP e) st = evalExpr p e st) ∧
    (∀ (es : List Expr) (st : Store), evalPList p env (Expr.toPList es) st = evalList p es st) := by
  refine exprMutInd ?_ ?_ ?_ ?_ ?_
  · intro c a st; rfl
  · intro c a kw st; rfl
  · intro e' e cs has f hm ihe ihcs st
    rw [hm.toP.eval, hm.eval, ihe st]
    rcases evalExpr p e st with ⟨r, st1⟩
    cases r with
    | error x => rfl
    | ok n => simp only [ihcs st1]; rfl
  · intro st; rfl
  · intro e es ihe ihes st
    simp only [Expr.toPList, evalPList, evalList, ihe st]
    rcases evalExpr p e st with ⟨r, st1⟩
    cases r with
    | error x => rfl
    | ok n => simp only [ihes st1]; rfl

theorem evalP_toP (p : Package) (env : Env) : ∀ (e : Expr) (st : Store), evalP p env (Expr.toP e) st = evalExpr p e st :=
  (evalP_toP_both p env).1

theorem evalPList_toP (p : Package) (env : Env) (es : List Expr) (st : Store) :
    evalPList p env (Expr.toPList es) st = evalList p es st := (evalP_toP_both p env).2 es st

theorem runPOp_toP (p : Package) (op : Op) (env : Env) (st : Store) :
    runPOp p (Op.toP op) env st = ((runOp p op st).1, env, (runOp p op st).2) := by
  simp only [runPOp, Op.toP, runLets, runOp]
  rw [evalPList_toP]
  rcases evalList p op.fields st with ⟨rl, st1⟩
  cases rl with
  | error x => rfl
  | ok nodes =>
    simp only []
    cases execOp op.opType op.name st1 nodes with
    | error x => rfl
    | ok ds => rfl

theorem runProgFrom_toP (p : Package) : ∀ (ops : List Op) (env : Env) (st : Store),
    runProgFrom p (ops.map Op.toP) env st = runOpsFrom p ops st
  | [], env, st => rfl
  | op :: ops, env, st => by
    simp only [List.map_cons, runProgFrom, runOpsFrom]
    rw [runPOp_toP]
    simp only []
    rw [runProgFrom_toP p ops env]

end Ariadne.C14
