/-
  Proofs/OrderResult.lean — lemmas behind section 8/9 of Properties/C10.lean: the set-fed emission points
  inside a result module (class bases, `Literal[...]` of `__typename`, fragments of the operation string)
  and the order of plugin classes / plugin hooks.  Core Lean only.
-/
import AriadneModel.Model.OrderResult
import AriadneModel.Proofs.OrderEmit


namespace Ariadne.Order
open List Ariadne.Isort

theorem classBases_eq_of_perm (e₁ e₂ : EnumOracle) (he₁ : EnumOK e₁) (he₂ : EnumOK e₂) (pascal : Name → Name)
    (baseModel : Name) {f₁ f₂ : List Name} (p : f₁.Perm f₂) (extra : List Name) :
    classBases e₁ pascal baseModel f₁ extra = classBases e₂ pascal baseModel f₂ extra := by
  unfold classBases
  rw [p.isEmpty_eq, pySorted_eq_of_perm (((he₁ f₁).trans p).trans (he₂ f₂).symm)]

theorem classBases_perm (e : EnumOracle) (he : EnumOK e) (pascal : Name → Name) (baseModel : Name)
    (f extra : List Name) (hne : f ≠ []) :
    (classBases e pascal baseModel f extra).Perm (f.map pascal ++ extra) := by
  unfold classBases
  have : f.isEmpty = false := by cases f <;> simp_all
  simp only [this]
  exact Perm.append_right _ (((sortBy_perm _ _).trans (he f)).map pascal)

theorem typesWithoutClass_perm (e₁ e₂ : EnumOracle) (he₁ : EnumOK e₁) (he₂ : EnumOK e₂) (possible typesNames : List Name) :
    (typesWithoutClass e₁ possible typesNames).Perm (typesWithoutClass e₂ possible typesNames) :=
  (he₁ _).trans (he₂ _).symm

theorem typenameLiterals_eq (e₁ e₂ : EnumOracle) (he₁ : EnumOK e₁) (he₂ : EnumOK e₂) (typesNames : List Name)
    (abstract : Option Name) (possible : List Name) :
    typenameLiterals e₁ typesNames abstract possible = typenameLiterals e₂ typesNames abstract possible := by
  unfold typenameLiterals typenameValues
  simp only [List.map_map]
  apply List.map_congr_left
  intro n _
  simp only [Function.comp]
  congr 1
  split
  · exact pySorted_eq_of_perm (Perm.cons n (typesWithoutClass_perm e₁ e₂ he₁ he₂ possible typesNames))
  · rfl

theorem mem_typesWithoutClass (e : EnumOracle) (he : EnumOK e) (possible typesNames : List Name) (a : Name) :
    a ∈ typesWithoutClass e possible typesNames ↔ a ∈ possible ∧ a ∉ typesNames := by
  unfold typesWithoutClass
  rw [(he _).mem_iff]
  simp [mem_dedupFirst]

theorem nodup_typesWithoutClass (e : EnumOracle) (he : EnumOK e) (possible typesNames : List Name) :
    (typesWithoutClass e possible typesNames).Nodup :=
  (he _).nodup_iff.mpr ((nodup_dedupFirst possible).filter _)

def closureD (closure : Name → Option (List Name)) (f : Name) : List Name := (closure f).getD []

theorem mapM_closure (closure : Name → Option (List Name)) : ∀ (l : List Name), (∀ f, f ∈ l → (closure f).isSome) →
    l.mapM (closureOf closure) = .ok (l.map (closureD closure)) := by
  intro l
  induction l with
  | nil => intro _; rfl
  | cons x xs ih =>
    intro h
    have hx := h x List.mem_cons_self
    have ih' := ih (fun f hf => h f (List.mem_cons_of_mem _ hf))
    simp only [List.mapM_cons, ih']
    cases hc : closure x with
    | none => rw [hc] at hx; cases hx
    | some ns => simp [closureOf, closureD, hc, bind, Except.bind, pure, Except.pure]

theorem relatedFragments_ok (e : EnumOracle) (he : EnumOK e) (mixins unpacked : List Name) (closure : Name → Option (List Name))
    (hdef : ∀ f, f ∈ mixins → (closure f).isSome) :
    relatedFragments e mixins unpacked closure
      = .ok (e (dedupFirst (mixins ++ ((e mixins).map (closureD closure)).flatten ++ unpacked))) := by
  unfold relatedFragments
  rw [mapM_closure closure (e mixins) (fun f hf => hdef f ((he mixins).mem_iff.mp hf))]
  rfl

theorem mem_related (e : EnumOracle) (he : EnumOK e) (mixins unpacked : List Name) (closure : Name → Option (List Name)) (a : Name) :
    a ∈ mixins ++ ((e mixins).map (closureD closure)).flatten ++ unpacked
      ↔ a ∈ mixins ∨ (∃ f, f ∈ mixins ∧ a ∈ closureD closure f) ∨ a ∈ unpacked := by
  simp only [List.mem_append, List.mem_flatten, List.mem_map]
  constructor
  · rintro ((h | ⟨l, ⟨f, hf, rfl⟩, ha⟩) | h)
    · exact Or.inl h
    · exact Or.inr (Or.inl ⟨f, (he mixins).mem_iff.mp hf, ha⟩)
    · exact Or.inr (Or.inr h)
  · rintro (h | ⟨f, hf, ha⟩ | h)
    · exact Or.inl (Or.inl h)
    · exact Or.inl (Or.inr ⟨_, ⟨f, (he mixins).mem_iff.mpr hf, rfl⟩, ha⟩)
    · exact Or.inr h

theorem operationFragments_eq (e₁ e₂ : EnumOracle) (he₁ : EnumOK e₁) (he₂ : EnumOK e₂) (mixins unpacked : List Name)
    (closure : Name → Option (List Name)) (hdef : ∀ f, f ∈ mixins → (closure f).isSome) :
    operationFragments e₁ mixins unpacked closure = operationFragments e₂ mixins unpacked closure := by
  unfold operationFragments
  split
  · rfl
  · rw [relatedFragments_ok e₁ he₁ _ _ _ hdef, relatedFragments_ok e₂ he₂ _ _ _ hdef]
    simp only [Except.map]
    congr 1
    apply pySorted_eq_of_perm
    refine ((he₁ _).trans ?_).trans (he₂ _).symm
    apply dedupFirst_perm_of_mem
    intro a
    rw [mem_related e₁ he₁, mem_related e₂ he₂]

theorem operationFragments_ok (e : EnumOracle) (he : EnumOK e) (mixins unpacked : List Name)
    (closure : Name → Option (List Name)) (hdef : ∀ f, f ∈ mixins → (closure f).isSome) :
    ∃ out, operationFragments e mixins unpacked closure = .ok out := by
  unfold operationFragments
  split
  · exact ⟨[], rfl⟩
  · rw [relatedFragments_ok e he _ _ _ hdef]
    exact ⟨_, rfl⟩

/-! ### plugin classes of a module: `inspect.getmembers` sorts by attribute name -/

def AttrsDistinct (ms : List (Name × Cls)) : Prop := ∀ a b, a ∈ ms → b ∈ ms → a.1 = b.1 → a = b

theorem memberLe_preorder : TotalPreorder memberLe :=
  strLe_order.toTotalPreorder.comap (fun p : Name × Cls => p.1)

theorem pluginsFromModule_eq_of_perm {ns₁ ns₂ : List (Name × Cls) → List (Name × Cls)} (ms : List (Name × Cls))
    (h₁ : (ns₁ ms).Perm ms) (h₂ : (ns₂ ms).Perm ms) (hd : AttrsDistinct ms) :
    pluginsFromModule ns₁ ms = pluginsFromModule ns₂ ms := by
  unfold pluginsFromModule
  congr 1
  apply sortBy_eq_of_perm memberLe_preorder _ (h₁.trans h₂.symm)
  intro a b ha hb hab hba
  exact hd a b (h₁.mem_iff.mp ha) (h₁.mem_iff.mp hb) (strLe_order.antisymm _ _ hab hba)

theorem getPluginsTypes_eq_of_perm {ns₁ ns₂ : List (Name × Cls) → List (Name × Cls)} (resolve : String → PluginTarget)
    (h₁ : ∀ ms, (ns₁ ms).Perm ms) (h₂ : ∀ ms, (ns₂ ms).Perm ms)
    (hd : ∀ s ms, resolve s = .module ms → AttrsDistinct ms) :
    ∀ strs, getPluginsTypes ns₁ resolve strs = getPluginsTypes ns₂ resolve strs := by
  intro strs
  induction strs with
  | nil => rfl
  | cons s rest ih =>
    unfold getPluginsTypes
    cases hr : resolve s with
    | refused msg => rfl
    | cls c => simp only [ih]
    | module ms => simp only [ih, pluginsFromModule_eq_of_perm ms (h₁ ms) (h₂ ms) (hd s ms hr)]

theorem getPluginsTypes_append (ns : List (Name × Cls) → List (Name × Cls)) (resolve : String → PluginTarget) (a b : List String) :
    getPluginsTypes ns resolve (a ++ b)
      = match getPluginsTypes ns resolve a with
        | .error m => .error m
        | .ok x => (getPluginsTypes ns resolve b).map (x ++ ·) := by
  induction a with
  | nil =>
    simp only [List.nil_append, getPluginsTypes]
    cases getPluginsTypes ns resolve b <;> simp [Except.map]
  | cons s rest ih =>
    simp only [List.cons_append, getPluginsTypes]
    cases hr : resolve s with
    | refused msg => rfl
    | cls c =>
      simp only [ih]
      cases getPluginsTypes ns resolve rest with
      | error m => rfl
      | ok x => cases getPluginsTypes ns resolve b <;> simp [Except.map]
    | module ms =>
      simp only [ih]
      cases getPluginsTypes ns resolve rest with
      | error m => rfl
      | ok x => cases getPluginsTypes ns resolve b <;> simp [Except.map, List.append_assoc]

theorem applyHooks_append {α : Type} (hookOf : Cls → α → α) (p q : List Cls) (x : α) :
    applyHooks hookOf (p ++ q) x = applyHooks hookOf q (applyHooks hookOf p x) := by
  simp [applyHooks, List.foldl_append]

end Ariadne.Order
