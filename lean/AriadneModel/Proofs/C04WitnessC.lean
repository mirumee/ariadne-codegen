/-
  Proofs/C04WitnessC.lean — what is observed, by `decide +kernel` through the whole package model, on two finding witnesses, the fragment refused after writes, and the non-vacuity example for the default configuration of
  Properties/C04.lean.  For a witness whose run ends in a package, the observation is the one part of `moduleOK` that fails on
  a generated module and the one trigger that holds (evaluating `Holds` itself would check every part of every module
  written before the bad one).
-/
import AriadneModel.Proofs.C04Scope

namespace Ariadne.C04.Witness
open Ariadne.PackageTriggers Ariadne.Spec.PyScope
open Ariadne.C04Proofs (partFails)

/-- What the kernel evaluates on the concrete inputs of this file, in one declaration: every evaluation that converts a name decodes
    the keyword tables of `Model/Names.lean`, and the kernel shares work only inside one declaration.  The lemmas named after the
    inputs are its components. -/
theorem evaluatedC :
    (Valid {} W.opsOverwritten ∧ onIR {} W.opsOverwritten (partFails importsResolve) = true ∧
      trigOperationModuleOverwritten {} W.opsOverwritten = true) ∧
    (Valid {} W.enumDefault ∧ onIR {} W.enumDefault (partFails fun _ m => classesLoad m) = true ∧
      trigEnumDefaultNotEnum {} W.enumDefault = true) ∧
    ((modelRun {} W.mixinOnFragment).written = ["input_types.py", "q.py"] ∧ (modelRun {} W.mixinOnFragment).mkdir = true ∧
      Holds (modelRun {} W.mixinOnFragment)) ∧
    (W.okNontrivial) := by
  decide +kernel

theorem opsOverwritten_observed : Valid {} W.opsOverwritten ∧ onIR {} W.opsOverwritten (partFails importsResolve) = true ∧
    trigOperationModuleOverwritten {} W.opsOverwritten = true := evaluatedC.1

theorem enumDefault_observed : Valid {} W.enumDefault ∧ onIR {} W.enumDefault (partFails fun _ m => classesLoad m) = true ∧
    trigEnumDefaultNotEnum {} W.enumDefault = true := evaluatedC.2.1

theorem mixin_on_fragment_refused_after_writes :
    (modelRun {} W.mixinOnFragment).written = ["input_types.py", "q.py"] ∧ (modelRun {} W.mixinOnFragment).mkdir = true ∧
    Holds (modelRun {} W.mixinOnFragment) := evaluatedC.2.2.1

theorem ex5 : W.okNontrivial := evaluatedC.2.2.2

end Ariadne.C04.Witness
