/-
  C15: the walk of `ShorterResultsPlugin.generate_client_module` over the methods of the client class: what each method
  becomes (untouched, or projected on the single field of its result class) and which names `_update_imports` collects
  in `extended_imports` on the way.
-/
import AriadneModel.Proofs.C15History


namespace Ariadne.C15
open Ariadne.Py Ariadne.Plugins Ariadne.ClientSem

theorem dropLast_append_of_bodyOf (s : Shape) : (bodyOf s).dropLast = bodyPre s := bodyOf_dropLast s

/-- `extended_imports` lists the class `cl` under some module: ShorterResults will import it -/
def Covered (ext : List (String × List String)) (cl : String) : Prop :=
  ∃ src names, alookup src ext = some names ∧ cl ∈ names

/-- `extended_imports` holds only modules of `srcs`, each with names of `pool`: what the walk over the methods keeps -/
def ExtWithin (srcs pool : List String) (ext : List (String × List String)) : Prop :=
  ∀ x ∈ ext, x.1 ∈ srcs ∧ ∀ n ∈ x.2, n ∈ pool

theorem mem_aset {β} (k : String) (v : β) (d : List (String × β)) (x : String × β) (h : x ∈ aset k v d) :
    x = (k, v) ∨ x ∈ d := by
  induction d with
  | nil => simp [aset] at h; exact .inl h
  | cons kv rest ih =>
    obtain ⟨k2, v2⟩ := kv
    by_cases h2 : k2 = k
    · simp [aset, h2] at h
      rcases h with h | h
      · exact .inl h
      · exact .inr (by simp [h])
    · simp [aset, h2] at h
      rcases h with h | h
      · exact .inr (by simp [h])
      · rcases ih h with h' | h'
        · exact .inl h'
        · exact .inr (by simp [h'])

/-- one class name handed to `_update_imports` -/
def updOne (st : ShorterState) (methodName : String) (c : String) : ShorterState :=
  let src? : Option String :=
    match alookup c st.importedTypes with
    | some f => some f
    | none => if ahas c st.classDict then some methodName else none
  match src? with
  | none => st
  | some src =>
    let cur := (alookup src st.extendedImports).getD []
    { st with extendedImports := aset src (sadd c cur) st.extendedImports }

theorem shorterUpdateImports_eq (st : ShorterState) (n : String) (classes : List String) :
    shorterUpdateImports st n classes = classes.foldl (fun st c => updOne st n c) st := rfl

theorem updOne_readOnly (st : ShorterState) (n c : String) : (updOne st n c).readOnly = st.readOnly := by
  unfold updOne
  simp only
  split <;> rfl

theorem updOne_covered_mono (st : ShorterState) (n c cl : String) (h : Covered st.extendedImports cl) :
    Covered (updOne st n c).extendedImports cl := by
  unfold updOne
  simp only
  split
  · exact h
  · rename_i src _
    obtain ⟨s0, names, hl, hcl⟩ := h
    by_cases hs : src = s0
    · subst hs
      refine ⟨src, _, alookup_aset_self src _ _, ?_⟩
      rw [hl]
      simp only [Option.getD_some]
      exact (mem_sadd c cl names).mpr (.inl hcl)
    · exact ⟨s0, names, by rw [alookup_aset_other src s0 _ _ hs]; exact hl, hcl⟩

theorem updOne_covers (st : ShorterState) (n c : String)
    (h : ahas c st.importedTypes = true ∨ ahas c st.classDict = true) : Covered (updOne st n c).extendedImports c := by
  unfold updOne
  simp only
  have hsome : ∃ src, (match alookup c st.importedTypes with
      | some f => some f
      | none => if ahas c st.classDict then some n else none) = some src := by
    cases hl : alookup c st.importedTypes with
    | some f => exact ⟨f, rfl⟩
    | none =>
      rcases h with h | h
      · simp [ahas, hl] at h
      · exact ⟨n, by simp [h]⟩
  obtain ⟨src, hsrc⟩ := hsome
  rw [hsrc]
  simp only
  exact ⟨src, _, alookup_aset_self src _ _, (mem_sadd c c _).mpr (.inr rfl)⟩

theorem updOne_within (srcs pool : List String) (st : ShorterState) (n c : String)
    (hn : n ∈ srcs) (hit : ∀ v, alookup c st.importedTypes = some v → v ∈ srcs) (hc : c ∈ pool)
    (h : ExtWithin srcs pool st.extendedImports) : ExtWithin srcs pool (updOne st n c).extendedImports := by
  unfold updOne
  simp only
  split
  · exact h
  · rename_i src hsrc
    have hsrcs : src ∈ srcs := by
      cases hl : alookup c st.importedTypes with
      | some f => rw [hl] at hsrc; simp at hsrc; subst hsrc; exact hit f hl
      | none =>
        rw [hl] at hsrc
        simp only at hsrc
        split at hsrc
        · simp at hsrc; subst hsrc; exact hn
        · cases hsrc
    intro x hx
    rcases mem_aset src _ _ x hx with rfl | hx'
    · refine ⟨hsrcs, ?_⟩
      intro a ha
      rcases (mem_sadd c a _).mp ha with ha' | rfl
      · cases hl : alookup src st.extendedImports with
        | none => rw [hl] at ha'; simp at ha'
        | some names =>
          rw [hl] at ha'
          simp only [Option.getD_some] at ha'
          exact (h (src, names) (mem_of_alookup src names _ hl)).2 a ha'
      · exact hc
    · exact h x hx'

theorem foldl_updOne (n : String) : ∀ (classes : List String) (st : ShorterState),
    (∀ cl, Covered st.extendedImports cl → Covered (classes.foldl (fun st c => updOne st n c) st).extendedImports cl) ∧
    (∀ c ∈ classes, (ahas c st.importedTypes = true ∨ ahas c st.classDict = true) →
      Covered (classes.foldl (fun st c => updOne st n c) st).extendedImports c) ∧
    (∀ srcs pool, n ∈ srcs → (∀ c ∈ pool, ∀ v, alookup c st.importedTypes = some v → v ∈ srcs) → (∀ c ∈ classes, c ∈ pool) →
      ExtWithin srcs pool st.extendedImports →
      ExtWithin srcs pool (classes.foldl (fun st c => updOne st n c) st).extendedImports) := by
  intro classes
  induction classes with
  | nil => intro st; exact ⟨fun _ h => h, fun c hc => by simp at hc, fun _ _ _ _ _ h => h⟩
  | cons c rest ih =>
    intro st
    simp only [List.foldl_cons]
    obtain ⟨i2, i3, i4⟩ := ih (updOne st n c)
    have hro := updOne_readOnly st n c
    have hit : (updOne st n c).importedTypes = st.importedTypes := congrArg (fun t => t.2.2) hro
    have hcd : (updOne st n c).classDict = st.classDict := congrArg (fun t => t.2.1) hro
    refine ⟨fun cl h => i2 cl (updOne_covered_mono st n c cl h), ?_, ?_⟩
    · intro c' hc' hah
      rcases List.mem_cons.mp hc' with rfl | hr
      · exact i2 _ (updOne_covers st n c' hah)
      · exact i3 c' hr (by rw [hit, hcd]; exact hah)
    · intro srcs pool hn hv hp hw
      exact i4 srcs pool hn (by rw [hit]; exact hv) (fun c' hc' => hp c' (by simp [hc']))
        (updOne_within srcs pool st n c hn (hv c (hp c (by simp))) (hp c (by simp)) hw)

/-- what the walk leaves of one method, relative to the plugin state when the walk started (`dict`,
    `importedTypes`) and to the imports collected when it ended (`ext1`) -/
def MethodOutcome (dict : List (String × ClassDef)) (it : List (String × String)) (ext1 : List (String × List String))
    (m m' : Method) : Prop :=
  m' = m ∨
  ∃ cls node classes f, returnClassOf m = some cls ∧ nodeAndClass dict cls = .ok (some (node, classes, f)) ∧
    Rewritten m m' node f ∧
    ∀ cl ∈ classes, (ahas cl it = true ∨ ahas cl dict = true) → Covered ext1 cl

theorem MethodOutcome.mono {dict it ext1 ext2 m m'} (h : MethodOutcome dict it ext1 m m')
    (hm : ∀ cl, Covered ext1 cl → Covered ext2 cl) : MethodOutcome dict it ext2 m m' := by
  rcases h with h | ⟨cls, node, classes, f, h1, h2, h3, h4⟩
  · exact .inl h
  · exact .inr ⟨cls, node, classes, f, h1, h2, h3, fun cl hcl hah => hm cl (h4 cl hcl hah)⟩

theorem shorter_methods_spec : ∀ (items : List ClassItem) (st st1 : ShorterState) (items1 : List ClassItem),
    mapMethodsM shorterModifyMethod st items = .ok (st1, items1) →
    (∀ cl, Covered st.extendedImports cl → Covered st1.extendedImports cl) ∧
    ItemsRel (MethodOutcome st.classDict st.importedTypes st1.extendedImports) items items1 ∧
    (∀ srcs pool, (∀ m ∈ items.filterMap ClassItem.method?, m.name ∈ srcs) →
      (∀ c ∈ pool, ∀ v, alookup c st.importedTypes = some v → v ∈ srcs) →
      (∀ m ∈ items.filterMap ClassItem.method?, ∀ cls node classes f, returnClassOf m = some cls →
        nodeAndClass st.classDict cls = .ok (some (node, classes, f)) → ∀ cl ∈ classes, cl ∈ pool) →
      ExtWithin srcs pool st.extendedImports → ExtWithin srcs pool st1.extendedImports) := by
  intro items
  induction items with
  | nil =>
    intro st st1 items1 h
    obtain ⟨rfl, rfl⟩ := mapMethodsM_nil_ok h
    exact ⟨fun _ h => h, .nil, fun _ _ _ _ _ h => h⟩
  | cons it0 rest ih =>
    intro st st1 items1 h
    cases it0 with
    | method m =>
      obtain ⟨st2, m', rest', hfm, hrest, rfl⟩ := mapMethodsM_method_ok h
      obtain ⟨j2, j3, j4⟩ := ih st2 st1 rest' hrest
      have hro : st2.readOnly = st.readOnly := shorterModifyMethod_readOnly st st2 m m' hfm
      have hcd : st2.classDict = st.classDict := congrArg (fun t => t.2.1) hro
      have hit : st2.importedTypes = st.importedTypes := congrArg (fun t => t.2.2) hro
      rw [hcd, hit] at j3 j4
      rcases shorterModifyMethod_cases st st2 m m' hfm with ⟨e1, e2⟩ | ⟨cls, node, classes, f, c1, c2, c3, c4⟩
      · refine ⟨?_, .method (.inl e2) j3, ?_⟩
        · intro cl hcl; apply j2; rw [e1]; exact hcl
        · intro srcs pool hn hv hp hw
          apply j4 srcs pool (fun m0 hm0 => hn m0 (by simp [ClassItem.method?, hm0])) hv
            (fun m0 hm0 => hp m0 (by simp [ClassItem.method?, hm0]))
          rw [e1]; exact hw
      · obtain ⟨k2, k3, k4⟩ := foldl_updOne m.name classes st
        rw [← shorterUpdateImports_eq, ← c3] at k2 k3 k4
        refine ⟨fun cl hcl => j2 cl (k2 cl hcl),
          .method (.inr ⟨cls, node, classes, f, c1, c2, c4, fun cl hcl hah => j2 cl (k3 cl hcl hah)⟩) j3, ?_⟩
        intro srcs pool hn hv hp hw
        apply j4 srcs pool (fun m0 hm0 => hn m0 (by simp [ClassItem.method?, hm0])) hv
          (fun m0 hm0 => hp m0 (by simp [ClassItem.method?, hm0]))
        exact k4 srcs pool (hn m (by simp [ClassItem.method?])) hv
          (hp m (by simp [ClassItem.method?]) cls node classes f c1 c2) hw
    | stmt s =>
      obtain ⟨rest', hrest, rfl⟩ := mapMethodsM_stmt_ok h
      obtain ⟨j2, j3, j4⟩ := ih st st1 rest' hrest
      exact ⟨j2, .other j3, fun srcs pool hn hv hp hw =>
        j4 srcs pool (fun m0 hm0 => hn m0 (by simpa [ClassItem.method?] using hm0)) hv
          (fun m0 hm0 => hp m0 (by simpa [ClassItem.method?] using hm0)) hw⟩

end Ariadne.C15
