/-
  Proofs/C04Resolve.lean — the facts about a package that every per-module theorem of C04 starts from:
  `Facts` (the run behind the model's package: operations added, unique-name check passed, the steps returned, every
  written module on disk exactly once), what the copied files provide, and how the imports the generator writes resolve:
  against a module it wrote itself (`Facts.resolves_generated`), against a copied file (`Facts.resolves_copied`), or being
  absolute (`resolves_absolute`).
-/
import AriadneModel.Model.Package
import AriadneModel.Model.PackageTriggers
import AriadneModel.Model.PackageValid
import AriadneModel.Spec.PyScope
import AriadneModel.Proofs.C04Lists
import AriadneModel.Proofs.C04Errors
import AriadneModel.Proofs.C04Scope
import AriadneModel.Proofs.C04Disk
import AriadneModel.Proofs.C04Bound


namespace Ariadne.C04Proofs
open Ariadne.Package Ariadne.PackageTriggers Ariadne.PackageValid Ariadne.Spec.PyScope

theorem dots_noDot : ∀ cs : List Char, (cs.head? == some '.') = false →
    cs.takeWhile (· == '.') = [] ∧ cs.dropWhile (· == '.') = cs
  | [], _ => ⟨rfl, rfl⟩
  | c :: cs, h => by
    have hc : (c == '.') = false := by
      cases hcc : c == '.' with
      | false => rfl
      | true =>
        have : c = '.' := by simpa using hcc
        subst this; simp at h
    simp [hc]

theorem normImport_noDot (l : Nat) (m : String) (ns : List String) (h : leadingDot m = false) :
    normImport ⟨l, m, ns⟩ = ⟨l, m, ns⟩ := by
  unfold leadingDot at h
  obtain ⟨h1, h2⟩ := dots_noDot m.toList h
  unfold normImport
  simp only [h1, h2]
  simp

theorem exported_generated {m : ModuleIR} (h : generated m = true) : exported m = some m.defines := by
  unfold generated at h
  unfold exported
  have h1 : (m.kind == .copied) = false := by
    cases hk : m.kind <;> simp_all
  have h2 : (m.kind == .custom) = false := by
    cases hk : m.kind <;> simp_all
  simp [h1, h2]

theorem className_mem_defines {m : ModuleIR} {n : String} (h : n ∈ m.classes.map (·.name)) : n ∈ m.defines := by
  unfold ModuleIR.defines
  exact List.mem_append_right _ h

theorem class_mem_defines {m : ModuleIR} {c : ClassIR} (h : c ∈ m.classes) : c.name ∈ m.defines :=
  className_mem_defines (List.mem_map.mpr ⟨c, h, rfl⟩)

/-- the run behind the model's package, with what `generate()` left on disk -/
structure Facts (cfg : Config) (inp : Input) (p : PackageIR) (st : St) (io : InputsOut)
    (fx : Option (Fragments.FragmentsOut × List Fragments.DefGen)) : Prop where
  ops : addOperations cfg inp Package.fuel {} inp.ops = .ok st
  unique : hasDup (checkedFileNames cfg (st.files.map (·.1))) = false
  inputs : inputsModule cfg inp.defs st.argSt.usedInputs = .ok io
  frags : FragRan id cfg inp Package.fuel st fx
  nodup : (p.modules.map (·.file)).Nodup
  has : ∀ m ∈ written cfg inp st io fx, m ∈ p.modules
  only : ∀ m ∈ p.modules, m ∈ written cfg inp st io fx

theorem facts_of_model {cfg : Config} {inp : Input} {p : PackageIR} (hp : modelIR cfg inp = some p)
    (hw : trigFileWrittenTwice p = false) : ∃ st io fx, Facts cfg inp p st io fx := by
  obtain ⟨st, g, ha, hd, hg, rfl, _⟩ := run_ok (C04.modelIR_generate hp)
  obtain ⟨io, fx, hio, hfx, hnd, honly, hall⟩ := package_described hg
  have hhas := hall ((hasDup_eq_false_iff _).mp hw)
  exact ⟨st, io, fx, ha, hd, hio, hfx, hnd, hhas, honly⟩

theorem Facts.resolves {cfg : Config} {inp : Input} {p : PackageIR} {st : St} {io : InputsOut}
    {fx : Option (Fragments.FragmentsOut × List Fragments.DefGen)} (F : Facts cfg inp p st io fx)
    {m' : ModuleIR} (hm' : m' ∈ written cfg inp st io fx) {j : Import} (hl : j.level = 1) (hf : m'.file = pyFile j.module)
    (hx : ∀ ns, exported m' = some ns → ∀ n ∈ j.names, n ∈ ns) : Resolves p j :=
  Or.inr ⟨hl, m', findModule_of_mem F.nodup (F.has _ hm') hf, hx⟩

section written
variable {cfg : Config} {inp : Input} {st : St} {io : InputsOut} {fx : Option (Fragments.FragmentsOut × List Fragments.DefGen)}

theorem inputs_mem_written : io.module ∈ written cfg inp st io fx := by simp [written]

theorem result_mem_written {fm : String × ModuleIR} (h : fm ∈ st.files) : fm.2 ∈ written cfg inp st io fx := by
  unfold written
  simp only [List.mem_append, List.mem_map]
  exact Or.inl (Or.inl (Or.inl (Or.inl (Or.inl (Or.inl (Or.inr ⟨fm, h, rfl⟩))))))

theorem fragments_mem_written {fo : Fragments.FragmentsOut} {gens : List Fragments.DefGen} (h : fx = some (fo, gens)) :
    fragmentsModuleIR cfg fo gens ∈ written cfg inp st io fx := by
  subst h
  simp [written, fragModules]

theorem copied_mem_written {f : String} (h : f ∈ copiedList cfg) : copiedModule cfg f ∈ written cfg inp st io fx := by
  unfold written
  simp only [List.mem_append, List.mem_map]
  exact Or.inl (Or.inl (Or.inl (Or.inl (Or.inr ⟨f, h, rfl⟩))))

theorem client_mem_written : clientModule cfg inp.schema st.entries st.argSt ∈ written cfg inp st io fx := by simp [written]

theorem enums_mem_written : enumsModule cfg inp.schema (finalUsedEnums st io fx) ∈ written cfg inp st io fx := by simp [written]

theorem init_mem_written : initModule (finalInit cfg inp st io (fragOut fx)) ∈ written cfg inp st io fx := by simp [written]

theorem written_cases {m : ModuleIR} (h : m ∈ written cfg inp st io fx) :
    m = io.module ∨ (∃ fm ∈ st.files, m = fm.2) ∨ (∃ fo gens, fx = some (fo, gens) ∧ m = fragmentsModuleIR cfg fo gens) ∨
    m.kind = .copied ∨ m.kind = .custom ∨ m = clientModule cfg inp.schema st.entries st.argSt ∨
    m = enumsModule cfg inp.schema (finalUsedEnums st io fx) ∨ m = initModule (finalInit cfg inp st io (fragOut fx)) := by
  unfold written at h
  simp only [List.mem_append, List.mem_map, List.mem_singleton] at h
  rcases h with ((((((h | h) | h) | h) | h) | h) | h) | h
  · exact Or.inl h
  · obtain ⟨fm, hfm, rfl⟩ := h
    exact Or.inr (Or.inl ⟨fm, hfm, rfl⟩)
  · cases fx with
    | none => simp [fragModules] at h
    | some x =>
      obtain ⟨fo, gens⟩ := x
      simp only [fragModules, List.mem_singleton] at h
      exact Or.inr (Or.inr (Or.inl ⟨fo, gens, rfl, h⟩))
  · obtain ⟨f, _, rfl⟩ := h
    exact Or.inr (Or.inr (Or.inr (Or.inl rfl)))
  · obtain ⟨f, _, rfl⟩ := h
    exact Or.inr (Or.inr (Or.inr (Or.inr (Or.inl rfl))))
  · exact Or.inr (Or.inr (Or.inr (Or.inr (Or.inr (Or.inl h)))))
  · exact Or.inr (Or.inr (Or.inr (Or.inr (Or.inr (Or.inr (Or.inl h))))))
  · exact Or.inr (Or.inr (Or.inr (Or.inr (Or.inr (Or.inr (Or.inr h))))))

end written

theorem inputsModule_kind {cfg : Config} {defs : List InputGen.TypeDef} {used : List String} {io : InputsOut}
    (h : inputsModule cfg defs used = .ok io) : io.module.kind = .inputs := by
  obtain ⟨kept, _, rfl⟩ := inputsModule_inv h
  rfl

theorem inputsModule_file {cfg : Config} {defs : List InputGen.TypeDef} {used : List String} {io : InputsOut}
    (h : inputsModule cfg defs used = .ok io) : io.module.file = pyFile cfg.inputsModule := by
  obtain ⟨kept, _, rfl⟩ := inputsModule_inv h
  rfl

theorem inputsModule_generated {cfg : Config} {defs : List InputGen.TypeDef} {used : List String} {io : InputsOut}
    (h : inputsModule cfg defs used = .ok io) : generated io.module = true := by
  obtain ⟨kept, _, rfl⟩ := inputsModule_inv h
  rfl

theorem Facts.cases {cfg : Config} {inp : Input} {p : PackageIR} {st : St} {io : InputsOut}
    {fx : Option (Fragments.FragmentsOut × List Fragments.DefGen)} (F : Facts cfg inp p st io fx) {m : ModuleIR} (hm : m ∈ p.modules) :
    (m = io.module ∧ m.kind = .inputs) ∨ (∃ fm ∈ st.files, m = fm.2 ∧ m.kind = .result) ∨
    (∃ fo gens, fx = some (fo, gens) ∧ m = fragmentsModuleIR cfg fo gens ∧ m.kind = .fragments) ∨
    m.kind = .copied ∨ m.kind = .custom ∨ (m = clientModule cfg inp.schema st.entries st.argSt ∧ m.kind = .client) ∨
    (m = enumsModule cfg inp.schema (finalUsedEnums st io fx) ∧ m.kind = .enums) ∨
    (m = initModule (finalInit cfg inp st io (fragOut fx)) ∧ m.kind = .init) := by
  rcases written_cases (F.only m hm) with rfl | ⟨fm, hfm, rfl⟩ | ⟨fo, gens, hfx, rfl⟩ | h | h | rfl | rfl | rfl
  · exact Or.inl ⟨rfl, inputsModule_kind F.inputs⟩
  · exact Or.inr (Or.inl ⟨fm, hfm, rfl, addOperations_files_kind F.ops fm hfm⟩)
  · exact Or.inr (Or.inr (Or.inl ⟨fo, gens, hfx, rfl, rfl⟩))
  · exact Or.inr (Or.inr (Or.inr (Or.inl h)))
  · exact Or.inr (Or.inr (Or.inr (Or.inr (Or.inl h))))
  · exact Or.inr (Or.inr (Or.inr (Or.inr (Or.inr (Or.inl ⟨rfl, rfl⟩)))))
  · exact Or.inr (Or.inr (Or.inr (Or.inr (Or.inr (Or.inr (Or.inl ⟨rfl, rfl⟩))))))
  · exact Or.inr (Or.inr (Or.inr (Or.inr (Or.inr (Or.inr (Or.inr ⟨rfl, rfl⟩))))))

theorem baseModel_mem_copied (cfg : Config) : baseModelFile ∈ copiedList cfg := by simp [copiedList]

theorem baseClient_mem_copied (cfg : Config) : cfg.baseClientFile ∈ copiedList cfg := by simp [copiedList]

theorem exceptions_mem_copied {cfg : Config} (h : cfg.defaultBaseClient = true) : exceptionsFile ∈ copiedList cfg := by
  simp [copiedList, filesToCopy, h]

theorem baseOperation_mem_copied {cfg : Config} (h : cfg.customOps = true) : baseOperationFile ∈ copiedList cfg := by
  simp [copiedList, filesToCopy, h]

theorem exported_copied (cfg : Config) (f : String) : exported (copiedModule cfg f) = (copiedModule cfg f).provides := by
  simp [exported, copiedModule]

theorem provides_baseModel (cfg : Config) :
    (copiedModule cfg baseModelFile).provides = some ["BaseModel", Tables.uploadClassName, Tables.unsetName, "UnsetType"] := by
  simp [copiedModule]

theorem provides_exceptions (cfg : Config) : (copiedModule cfg exceptionsFile).provides = some Tables.exceptionsNames := by
  have : (exceptionsFile == baseModelFile) = false := by decide
  simp [copiedModule, this]

theorem provides_baseOperation (cfg : Config) : (copiedModule cfg baseOperationFile).provides = some ["GraphQLField"] := by
  have h1 : (baseOperationFile == baseModelFile) = false := by decide
  have h2 : (baseOperationFile == exceptionsFile) = false := by decide
  simp [copiedModule, h1, h2]

theorem resolves_absolute {p : PackageIR} {m : String} {ns : List String} (h : leadingDot m = false) :
    Resolves p (normImport ⟨0, m, ns⟩) := by
  rw [normImport_noDot _ _ _ h]
  exact Or.inl rfl

theorem typing_noDot : leadingDot "typing" = false := by decide +kernel
theorem pydantic_noDot : leadingDot "pydantic" = false := by decide +kernel
theorem baseModel_noDot : leadingDot "base_model" = false := by decide +kernel

section
variable {cfg : Config} {inp : Input} {p : PackageIR} {st : St} {io : InputsOut}
  {fx : Option (Fragments.FragmentsOut × List Fragments.DefGen)}

theorem Facts.resolves_generated (F : Facts cfg inp p st io fx) {m' : ModuleIR} (hw : m' ∈ written cfg inp st io fx)
    (hg : generated m' = true) {m : String} {ns : List String} (hd : leadingDot m = false) (hf : m'.file = pyFile m)
    (hns : ∀ n ∈ ns, n ∈ m'.defines) : Resolves p (normImport ⟨1, m, ns⟩) := by
  rw [normImport_noDot _ _ _ hd]
  refine F.resolves hw rfl hf ?_
  intro ds hds
  rw [exported_generated hg] at hds
  cases hds
  exact hns

theorem Facts.resolves_copied (F : Facts cfg inp p st io fx) {f : String} (hc : f ∈ copiedList cfg) {m : String} {ns provided : List String}
    (hf : f = pyFile m) (hd : leadingDot m = false) (hp : (copiedModule cfg f).provides = some provided)
    (hns : ∀ n ∈ ns, n ∈ provided) : Resolves p (normImport ⟨1, m, ns⟩) := by
  rw [normImport_noDot _ _ _ hd]
  refine F.resolves (copied_mem_written hc) rfl hf ?_
  intro ds hds
  rw [exported_copied, hp] at hds
  cases hds
  exact hns

theorem Facts.resolves_baseModel (F : Facts cfg inp p st io fx) {ns : List String}
    (hns : ∀ n ∈ ns, n ∈ ["BaseModel", Tables.uploadClassName, Tables.unsetName, "UnsetType"]) :
    Resolves p (normImport ⟨1, "base_model", ns⟩) :=
  F.resolves_copied (baseModel_mem_copied cfg) rfl baseModel_noDot (provides_baseModel cfg) hns

theorem mem_finalUsedEnums {n : String}
    (h : n ∈ st.usedEnums ∨ n ∈ io.usedEnums ∨ n ∈ fragmentEnums (fragOut fx) ∨ n ∈ st.argSt.usedEnums) :
    n ∈ finalUsedEnums st io fx := by
  simp only [finalUsedEnums, List.mem_append]
  rcases h with h | h | h | h
  · exact Or.inl (Or.inl (Or.inl h))
  · exact Or.inl (Or.inl (Or.inr h))
  · exact Or.inl (Or.inr h)
  · exact Or.inr h

end

end Ariadne.C04Proofs
