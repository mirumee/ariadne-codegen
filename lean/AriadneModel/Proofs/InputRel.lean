/-
  Lemmas about the vocabulary of Model/InputRel.lean and the lookups of Spec/PydInput.lean that the C06
  proofs share.
-/
import AriadneModel.Model.InputRel
import AriadneModel.Proofs.CoerceInput
import AriadneModel.Proofs.Json
import AriadneModel.Proofs.ListLemmas

namespace Ariadne.InputRel
open Ariadne.CoerceInput Ariadne.PydInput
open Ariadne.InputField (Kind annOf)

theorem strDistinct_iff (l : List String) : strDistinct l = true ↔ l.Nodup :=
  Lists.nodupB_iff_of_eqns strDistinct rfl (fun _ _ => rfl) l

theorem strDistinct_inj {α : Type} (f : α → String) (l : List α) (h : strDistinct (l.map f) = true) :
    ∀ x ∈ l, ∀ y ∈ l, f x = f y → x = y :=
  fun _ hx _ hy hxy => Lists.eq_of_nodup_map ((strDistinct_iff _).mp h) hx hy hxy

theorem find_of_distinct {α : Type} (f : α → String) (l : List α) (h : strDistinct (l.map f) = true) (x : α) (hx : x ∈ l) :
    l.find? (fun y => f y == f x) = some x :=
  Lists.find?_of_nodup_map ((strDistinct_iff _).mp h) hx rfl

theorem exists_ok_of_isOk {ε α : Type} {r : Except ε α} (h : isOk r = true) : ∃ a, r = .ok a := by
  cases r with
  | ok a => exact ⟨a, rfl⟩
  | error e => simp [isOk] at h

theorem _root_.Ariadne.PydInput.lookupPV_eq (k : String) (vals : List (String × PV)) : lookupPV k vals = vals.lookup k :=
  Lists.eq_lookup_of_eqns lookupPV (fun _ => rfl) (fun _ _ _ _ => rfl) k vals

theorem lookupPV_isSome_of_mem (vals : List (String × PV)) (k : String) (h : k ∈ vals.map (·.1)) :
    (lookupPV k vals).isSome = true := by
  rw [lookupPV_eq]; exact Lists.lookup_isSome_iff.mpr h

theorem namesOK_parts {specs : List FieldSpec} (h : namesOK specs = true) :
    strDistinct (specs.map (·.key)) = true ∧ strDistinct (specs.map (·.py)) = true ∧
    ∀ sp ∈ specs, ∀ sp' ∈ specs, sp'.key = sp.py → sp'.py = sp.py := by
  simp only [namesOK, Bool.and_eq_true, List.all_eq_true, Bool.or_eq_true, bne_iff_ne, ne_eq, beq_iff_eq] at h
  refine ⟨h.1.1, h.1.2, ?_⟩
  intro sp hsp sp' hsp' hk
  rcases h.2 sp hsp sp' hsp' with h' | h'
  · exact absurd hk h'
  · exact h'

theorem findByKey_mem {specs : List FieldSpec} {k : String} {sp : FieldSpec} (h : findByKey specs k = some sp) :
    sp ∈ specs ∧ sp.key = k := by
  unfold findByKey at h
  exact ⟨List.mem_of_find?_eq_some h, by simpa using List.find?_some h⟩

theorem all2_mem {α β : Type} (r : α → β → Bool) : ∀ (as : List α) (bs : List β), all2 r as bs = true →
    ∀ a ∈ as, ∃ b ∈ bs, r a b = true := by
  intro as
  induction as with
  | nil => intro bs _ a ha; cases ha
  | cons a0 as ih =>
    intro bs h a ha
    cases bs with
    | nil => simp [all2] at h
    | cons b0 bs =>
      simp only [all2, Bool.and_eq_true] at h
      rcases List.mem_cons.mp ha with rfl | ha'
      · exact ⟨b0, List.mem_cons_self .., h.1⟩
      · obtain ⟨b, hb, hr⟩ := ih bs h.2 a ha'
        exact ⟨b, List.mem_cons_of_mem _ hb, hr⟩

section
variable {kinds : String → Kind} {S : CSchema} {env : Env}

theorem related_type (h : related kinds S env = true) (n : String) (ct : CType) (hf : S.find? n = some ct) :
    typeRel kinds env ct = true ∧ ct.name = n := by
  unfold CSchema.find? at hf
  have hm := List.mem_of_find?_eq_some hf
  have hp := List.find?_some hf
  simp only [related, Bool.and_eq_true, List.all_eq_true] at h
  exact ⟨h.1.1 ct hm, by simpa using hp⟩

theorem related_not_broken (h : related kinds S env = true) : env.broken = false := by
  simp only [related, Bool.and_eq_true] at h
  simpa using h.2

theorem related_builtin (h : related kinds S env = true) {n py : String} (hm : (n, py) ∈ builtinNames) :
    kinds n = .builtin py := by
  simp only [related, builtinsOK, Bool.and_eq_true, List.all_eq_true, beq_iff_eq] at h
  exact (h.1.2.1 (n, py) hm).1

theorem related_noEnum (h : related kinds S env = true) {py : String} (hm : py ∈ ["int", "float", "str", "bool", "Any"]) :
    env.enum? py = none := by
  simp only [related, builtinsOK, Bool.and_eq_true, List.all_eq_true, Option.isNone_iff_eq_none] at h
  exact h.1.2.2 py hm

theorem typeRel_input {n : String} {fs : List CField} (h : typeRel kinds env (.input n fs) = true) :
    kinds n = .input ∧ ∃ c, env.class? n = some c ∧ all2 (fieldRel kinds) fs c.fields = true ∧ namesOK c.fields = true := by
  simp only [typeRel, Bool.and_eq_true, beq_iff_eq] at h
  cases hc : env.class? n with
  | none => simp [hc] at h
  | some c => exact ⟨h.1, c, rfl, by simpa [hc] using h.2⟩

theorem fieldRel_parts {cf : CField} {sp : FieldSpec} (h : fieldRel kinds cf sp = true) :
    sp.key = cf.name ∧ (∃ ft, annOf kinds cf.type true = some (sp.ann, ft))
    ∧ InputField.trigNullableListItem cf.type = false
    ∧ (sp.default = none ↔ (cf.default = none ∧ cf.type.isNonNull = true))
    ∧ ∀ e, sp.default ≠ some (.error e) := by
  simp only [fieldRel, Bool.and_eq_true, beq_iff_eq, Bool.not_eq_true'] at h
  obtain ⟨⟨⟨⟨hkey, ha⟩, ht⟩, hreq⟩, hev⟩ := h
  refine ⟨hkey, ?_, ht, ?_, fun e he => by simp [he] at hev⟩
  · cases hann : annOf kinds cf.type true with
    | none => simp [hann] at ha
    | some p => simp only [hann, beq_iff_eq] at ha; exact ⟨p.2, by rw [ha]⟩
  · rw [← Option.isNone_iff_eq_none, hreq]; simp [Option.isNone_iff_eq_none]

end

end Ariadne.InputRel
