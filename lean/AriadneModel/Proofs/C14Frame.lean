/-
  C14: what a history can do to a LATER operation (tree expressions, class-level objects).

    * `to_ast` gives a class-level object that nobody mutated back as it found it (`toAst_keepsP`);
    * evaluating an expression changes the store only at the class-level objects it applies `alias`/`fields`/`on`
      to (`evalExpr_frame`, Proofs/C14Expr.lean): every other object is left alone;
    * an expression that applies no mutator to a class-level object evaluates to the same tree in every store, and
      that tree refers only to the class-level objects the expression names (`evalList_indep`, Proofs/C14Fresh.lean);
  hence `runOp_frame`: if every class-level object an operation `E` names is still as it was after import, `E`
  (applying no mutator itself, well-formed) sends what it sends in a fresh process - whatever else the history did;
  and `history_free_unmutated`: that is the case after every history outside the F4 trigger.
-/
import AriadneModel.Proofs.C14Total
import AriadneModel.Proofs.C14Owned

namespace Ariadne.C14
open Ariadne.Builder Ariadne.BuilderDoc

/-- one client call with an explicit recursion budget (`execOp` = `execOpF` with `opFuel`) -/
def execOpF (fuel : Nat) (opType name : String) (st : Store) (nodes : List Node) : Except Err (Doc × Store) :=
  match buildSelections fuel 0 st nodes with
  | .error e => .error e
  | .ok (sels, nodes', st') =>
    match combine fuel st' nodes' with
    | .error e => .error e
    | .ok fv =>
      .ok ({ opType := opType, name := name, varDefs := fv.map fun v => (v.uname, v.ty), sels := sels,
             values := fv.map fun v => (v.uname, v.value) }, st')

theorem execOp_eq_execOpF (ty nm : String) (st : Store) (nodes : List Node) :
    execOp ty nm st nodes = execOpF (opFuel st nodes) ty nm st nodes := rfl

def KeepsPristine (a b : Store) : Prop := ∀ (id : Nat) (m : Node), a[id]? = some m → PristineNode m → b[id]? = some m

theorem KeepsPristine.refl (a : Store) : KeepsPristine a a := fun _ _ h _ => h

theorem KeepsPristine.trans {a b c : Store} (h1 : KeepsPristine a b) (h2 : KeepsPristine b c) : KeepsPristine a c :=
  fun id m hm hp => h2 id m (h1 id m hm hp) hp

theorem along_keepsP : Along Always (fun a _ b => KeepsPristine a.1 b.1) := .free (fun _ => .refl _) .trans

theorem toAst_keepsP (idx : Nat) : ∀ fuel, VisitLaw Always (fun a _ b => KeepsPristine a.1 b.1) (fun _ _ _ => True) (toAst fuel idx) := by
  intro fuel
  induction fuel with
  | zero => intro st used n s n' st' used' _ h; exact (toAst_zero_inv h).elim
  | succ f ih =>
    intro st used n s n' st' used' _ h
    refine ⟨?_, trivial⟩
    cases n with
    | obj r subs frags =>
      obtain ⟨fv, u1, ss, subs', st1, u2, fs, frags', st2, u3, h1, h2, h3, hr⟩ := toAst_obj_inv h
      cases hr
      exact along_keepsP.trans (x := []) (y := []) (mapAcc_law along_keepsP ih _ _ _ _ _ _ _ trivial h2).1
        (mapFrags_law along_keepsP ih _ _ _ _ _ _ _ trivial h3).1
    | ref id' =>
      obtain ⟨n0, s1, n1, st1, u1, hn, h1, hr⟩ := toAst_ref_inv h
      cases hr
      intro id m hm hp
      have e1 := (ih _ _ _ _ _ _ _ trivial h1).1 id m hm hp
      show (st1.set id' n1)[id]? = some m
      by_cases hid : id' = id
      · subst hid
        rw [hm] at hn
        cases hn
        obtain ⟨rfl, -⟩ := toAst_pristine_leaf hp h1
        rw [set_self _ _ _ e1]
        exact e1
      · rw [List.getElem?_set_ne hid]
        exact e1

theorem execOp_keepsP {ty nm : String} {st : Store} {nodes : List Node} {d : Doc} {st' : Store}
    (h : execOp ty nm st nodes = .ok (d, st')) : KeepsPristine st st' := by
  obtain ⟨sels, nodes', fv, hb, -, -⟩ := execOp_inv h
  exact (buildSelections_law (P := fun _ => True) KeepsPristine.refl KeepsPristine.trans (fun _ _ => trivial)
    (fun idx _ _ _ _ _ _ _ h => toAst_keepsP idx _ _ _ _ _ _ _ _ trivial h) _ _ _ _ _ _ trivial hb).1

theorem node_size_pos : ∀ n : Node, 1 ≤ Node.size n
  | .obj _ _ _ => by simp [Node.size]; omega
  | .ref _ => by simp [Node.size]

theorem sizeList_ge_length : ∀ l : List Node, l.length ≤ Node.sizeList l
  | [] => by simp [Node.sizeList]
  | n :: l => by
    have := node_size_pos n
    have := sizeList_ge_length l
    simp [Node.sizeList]
    omega

theorem sizeList_leaves {α : Type} (g : α → Rec) : ∀ l : List α, Node.sizeList (l.map fun x => Node.obj (g x) [] []) = l.length
  | [] => by simp [Node.sizeList]
  | x :: l => by simp [Node.sizeList, Node.size, Frag.sizeList, sizeList_leaves g l]; omega

theorem sizeList_init (p : Package) : Node.sizeList p.initStore = p.initStore.length := by
  unfold Package.initStore
  rw [sizeList_leaves]
  simp

theorem execOpF_frame (fuel k : Nat) (ty nm : String) {F : Nat → Prop} {st1 st2 : Store} {ns : List Node}
    (hs : EraseAgree F st1 st2) (hF : RefsInL F ns) :
    (∃ e, execOpF fuel ty nm st1 ns = .error e ∧ (k = 0 → execOpF (fuel + k) ty nm st2 ns = .error e)) ∨
    (∃ d t1 t2, execOpF fuel ty nm st1 ns = .ok (d, t1) ∧ execOpF (fuel + k) ty nm st2 ns = .ok (d, t2)) := by
  unfold execOpF
  rcases buildSelections_sim_budget fuel k ns ns 0 F _ st1 st2 hs rfl hF (good_empty st1 st2) with
    ⟨e, h1, h2⟩ | ⟨sels, ns', t1, t2, A', h1, h2, -, hg, hr⟩
  · rw [h1]; exact Or.inl ⟨e, rfl, fun hk => by rw [h2 hk]⟩
  · rw [h1, h2]
    dsimp only
    rcases combine_agree_budget hg fuel k ns' hr with he | ⟨hk, e, he⟩
    · rw [he]
      cases combine (fuel + k) t2 ns' with
      | error e => exact Or.inl ⟨e, rfl, fun _ => rfl⟩
      | ok fv => exact Or.inr ⟨_, t1, t2, rfl, rfl⟩
    · rw [he]; exact Or.inl ⟨e, rfl, fun h0 => absurd h0 hk⟩

theorem runOp_frame (p : Package) (E : Op) (st : Store) (hE : opMutatesShared E = false)
    (hI : (Intended p E).isSome = true) (hlen : st.length = p.initStore.length)
    (hst : ∀ id, OccAt p (sharedOccsList E.fields) id → st[id]? = p.initStore[id]?) :
    (runOp p E st).1 = (runOp p E p.initStore).1 := by
  obtain ⟨d, hd⟩ := runOp_sends p E hE hI
  obtain ⟨i1, i2⟩ := evalList_indep p E.fields hE
  rw [hd]
  unfold runOp at hd ⊢
  rw [i1 p.initStore] at hd
  rw [i1 st]
  cases hr : (evalList p E.fields []).1 with
  | error x => rw [hr] at hd; simp at hd
  | ok nodes =>
    rw [hr] at hd
    simp only [] at hd ⊢
    have hs : EraseAgree (OccAt p (sharedOccsList E.fields)) p.initStore st := by
      refine ⟨hlen.symm, fun id hid => by rw [hst id hid], ?_⟩
      intro id m hid hm
      obtain ⟨r, rfl, -, -⟩ := initStore_pristine p id m hm
      simp [RefsIn, RefsInL, RefsInF]
    -- the store after import is all leaves, the smallest of its length: the call on `st` has the fresh call's budget and more
    have hge : Node.sizeList p.initStore ≤ Node.sizeList st := by
      rw [sizeList_init, ← hlen]; exact sizeList_ge_length st
    have hk : opFuel st nodes = opFuel p.initStore nodes + (Node.sizeList st - Node.sizeList p.initStore) := by
      unfold opFuel; omega
    rw [execOp_eq_execOpF, hk]
    rw [execOp_eq_execOpF] at hd
    rcases execOpF_frame (opFuel p.initStore nodes) (Node.sizeList st - Node.sizeList p.initStore) E.opType E.name hs
        (i2 nodes hr) with ⟨e, h1, -⟩ | ⟨d', t1, t2, h1, h2⟩
    · rw [h1] at hd; simp at hd
    · rw [h1] at hd
      rw [h2]
      simpa using hd

theorem runOp_length (p : Package) (op : Op) (st : Store) : (runOp p op st).2.length = st.length := by
  rcases runOp_cases p op st with ⟨x, st1, hl, hr⟩ | ⟨nodes, st1, x, hl, -, hr⟩ | ⟨nodes, st1, d, st2, hl, he, hr⟩ <;>
    rw [hr] <;> obtain ⟨l1, -⟩ := evalList_frame p op.fields st _ st1 hl
  · exact l1
  · exact l1
  · exact (erase_length (execOp_erase he)).trans l1

theorem runOp_keeps_unmutated (p : Package) (op : Op) (st : Store) (id : Nat)
    (hno : ¬ MutAt p (sharedOccsList op.fields) id) {m : Node} (hm : st[id]? = some m) (hp : PristineNode m) :
    (runOp p op st).2[id]? = some m := by
  rcases runOp_cases p op st with ⟨x, st1, hl, hr⟩ | ⟨nodes, st1, x, hl, -, hr⟩ | ⟨nodes, st1, d, st2, hl, he, hr⟩ <;>
    rw [hr] <;> obtain ⟨-, f1⟩ := evalList_frame p op.fields st _ st1 hl <;>
    have h1 : st1[id]? = some m := by rw [f1 id hno]; exact hm
  · exact h1
  · exact h1
  · exact execOp_keepsP he id m h1 hp

theorem fold_length (p : Package) : ∀ (H : List Op) (st : Store),
    (H.foldl (fun s o => (runOp p o s).2) st).length = st.length
  | [], st => rfl
  | o :: H, st => by
    simp only [List.foldl_cons]
    rw [fold_length p H, runOp_length]

theorem fold_keeps_unmutated (p : Package) (id : Nat) {m : Node} (hp : PristineNode m) :
    ∀ (H : List Op) (st : Store), (∀ op ∈ H, ¬ MutAt p (sharedOccsList op.fields) id) → st[id]? = some m →
      (H.foldl (fun s o => (runOp p o s).2) st)[id]? = some m
  | [], st, _, hm => hm
  | o :: H, st, h, hm => by
    simp only [List.foldl_cons]
    exact fold_keeps_unmutated p id hp H _ (fun op hop => h op (by simp [hop]))
      (runOp_keeps_unmutated p o st id (h o (by simp)) hm hp)

theorem sharedId_inj (p : Package) {c a c' a' : String} {id : Nat} (h : p.sharedId c a = some id)
    (h' : p.sharedId c' a' = some id) : c = c' ∧ a = a' := by
  obtain ⟨ca, e1, rfl, rfl⟩ := sharedId_spec p h
  obtain ⟨ca', e2, rfl, rfl⟩ := sharedId_spec p h'
  rw [e1] at e2
  simp at e2
  subst e2
  exact ⟨rfl, rfl⟩

theorem mem_zipIdx_of_mem {α : Type} (l : List α) (x : α) (h : x ∈ l) : ∃ i, (x, i) ∈ l.zipIdx := by
  obtain ⟨i, hi⟩ := List.getElem?_of_mem h
  exact ⟨i, List.mem_zipIdx_iff_getElem?.mpr hi⟩

theorem hist_unmutated_of_trig (p : Package) (H : List Op) (E : Op) (h : trigSharedMut H E = false) :
    ∀ id, OccAt p (sharedOccsList E.fields) id → ∀ op ∈ H, ¬ MutAt p (sharedOccsList op.fields) id := by
  intro id ⟨c, a, m, hmem, hs⟩ op hop ⟨c', a', hmem', hs'⟩
  obtain ⟨rfl, rfl⟩ := sharedId_inj p hs hs'
  unfold trigSharedMut at h
  simp only [] at h
  rw [List.any_eq_false] at h
  obtain ⟨i, hi⟩ := mem_zipIdx_of_mem _ _ hmem
  have := h _ hi
  simp only [Bool.or_eq_true, not_or, Bool.not_eq_true] at this
  have h1 := this.1
  rw [List.any_eq_false] at h1
  have hin : (c, a, true) ∈ List.flatMap (fun o => sharedOccsList o.fields) H :=
    List.mem_flatMap.mpr ⟨op, hop, hmem'⟩
  have := h1 _ hin
  simp at this

theorem history_free_unmutated (p : Package) (H : List Op) (E : Op) (hE : opMutatesShared E = false)
    (hI : (Intended p E).isSome = true) (hT : trigSharedMut H E = false) :
    (runOps p (H ++ [E])).getLast? = (runOps p [E]).getLast? := by
  have hfr : (runOp p E (H.foldl (fun s o => (runOp p o s).2) p.initStore)).1 = (runOp p E p.initStore).1 := by
    apply runOp_frame p E _ hE hI (fold_length p H _)
    intro id hocc
    have ⟨c, a, _, _, hs⟩ := hocc
    obtain ⟨n, hn⟩ := sharedId_get p c a id hs
    rw [hn]
    exact fold_keeps_unmutated p id (initStore_pristine p id n hn) H _
      (hist_unmutated_of_trig p H E hT id hocc) hn
  unfold runOps
  rw [runOpsFrom_append]
  simp [runOpsFrom, hfr]

theorem runOp_name_kind (p : Package) (E : Op) (st : Store) (d : Doc) (h : (runOp p E st).1 = .ok d) :
    d.opType = E.opType ∧ d.name = E.name ∧ d.request.operationName = E.name ∧ d.request.variables = d.values := by
  obtain ⟨nodes, st1, st2, -, he, -⟩ := runOp_inv h
  obtain ⟨sels, nodes', fv, -, -, rfl⟩ := execOp_inv he
  exact ⟨rfl, rfl, rfl, rfl⟩

end Ariadne.C14
