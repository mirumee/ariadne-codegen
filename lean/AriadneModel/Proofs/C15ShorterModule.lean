/-
  C15: what `ShorterResultsPlugin.generate_client_module` does to the import statements of the client module
  (`extended_imports`: names appended to an existing `from <module> import …`, the rest imported by fresh
  statements inserted at the top), in terms of what the module binds afterwards:

    * every name bound before is still bound, every collected name is bound afterwards;
    * a name that was NOT collected resolves to the same (module, name) as before;
    * an extended statement imports from the module it imported from before; a fresh one from a collected key.

  `ExtendSpec` holds these for the pass over the existing statements, with the form of what it returns (only import statements
  change, no class appears, the length stays, what is left for fresh statements was collected); `shorterExtend_spec` proves all
  its fields in one induction, statement by statement.
-/
import AriadneModel.Proofs.C15History


namespace Ariadne.C15
open Ariadne.Py Ariadne.Plugins Ariadne.ClientSem

def namesOfTops (l : List Top) : List String := moduleNames { body := l }
def importsOfTops (l : List Top) : List ImportFrom := l.filterMap Top.importFrom?
def addedNames (ext : List (String × List String)) : List String := ext.flatMap (·.2)

theorem namesOfTops_append (a b : List Top) : namesOfTops (a ++ b) = namesOfTops a ++ namesOfTops b := by
  simp [namesOfTops, moduleNames, List.flatMap_append]

theorem namesOfTops_cons (t : Top) (l : List Top) : namesOfTops (t :: l) = namesOfTops [t] ++ namesOfTops l :=
  namesOfTops_append [t] l

theorem importsOfTops_append (a b : List Top) : importsOfTops (a ++ b) = importsOfTops a ++ importsOfTops b := by
  simp [importsOfTops, List.filterMap_append]

theorem importBindings_append (a b : List ImportFrom) : importBindings (a ++ b) = importBindings a ++ importBindings b := by
  simp [importBindings, List.flatMap_append]

theorem alookup_append {β} (k : String) (a b : List (String × β)) :
    alookup k (a ++ b) = (match alookup k a with | some v => some v | none => alookup k b) := by
  simp only [alookup_eq, List.lookup_append]
  cases List.lookup k a <;> rfl

theorem alookup_none_of_not_key {β} (k : String) (a : List (String × β)) (h : ∀ kv ∈ a, kv.1 ≠ k) : alookup k a = none := by
  rw [alookup_eq, List.lookup_eq_none_iff]
  exact fun kv hkv => bne_iff_ne.mpr (Ne.symm (h kv hkv))

theorem alookup_aerase_other {β} (k k' : String) (d : List (String × β)) (h : k ≠ k') :
    alookup k' (aerase k d) = alookup k' d := by
  induction d with
  | nil => rfl
  | cons kv rest ih =>
    obtain ⟨k2, v2⟩ := kv
    by_cases h2 : k2 = k
    · subst h2; simp [aerase, alookup, h]
    · by_cases h3 : k2 = k'
      · subst h3; simp [aerase, alookup, h2]
      · simp [aerase, alookup, h2, h3, ih]

theorem mem_of_mem_aerase {β} (k : String) (d : List (String × β)) (p : String × β) (h : p ∈ aerase k d) : p ∈ d := by
  induction d with
  | nil => simp [aerase] at h
  | cons kv rest ih =>
    obtain ⟨k2, v2⟩ := kv
    by_cases h2 : k2 = k
    · simp [aerase, h2] at h; simp [h]
    · simp [aerase, h2] at h
      rcases h with h | h
      · simp [h]
      · simp [ih h]

theorem addedNames_mem {ext : List (String × List String)} {src : String} {names : List String} {n : String}
    (h : (src, names) ∈ ext) (hn : n ∈ names) : n ∈ addedNames ext := by
  unfold addedNames
  rw [List.mem_flatMap]
  exact ⟨(src, names), h, hn⟩

/-- an existing `from <m> import …` whose module is a collected key: the collected names are appended -/
def extendImport (i : ImportFrom) (extra : List String) : ImportFrom :=
  { i with names := i.names ++ extra.map (fun n => (n, none)) }

def ExtendsHere (ext : List (String × List String)) (t : Top) : Prop :=
  ∃ i m extra, t = .simple (.importFrom i) ∧ i.module = some m ∧ alookup m ext = some extra

theorem sx_cons_extend (ext : List (String × List String)) (i : ImportFrom) (rest : List Top) (m : String) (extra : List String)
    (hm : i.module = some m) (hl : alookup m ext = some extra) :
    shorterExtendExisting ext (.simple (.importFrom i) :: rest) =
      ((shorterExtendExisting (aerase m ext) rest).1,
       .simple (.importFrom (extendImport i extra)) :: (shorterExtendExisting (aerase m ext) rest).2) := by
  simp only [shorterExtendExisting, hm, hl, extendImport]

theorem sx_cons_keep (ext : List (String × List String)) (t : Top) (rest : List Top) (h : ¬ ExtendsHere ext t) :
    shorterExtendExisting ext (t :: rest) =
      ((shorterExtendExisting ext rest).1, t :: (shorterExtendExisting ext rest).2) := by
  cases t with
  | classDef c => simp only [shorterExtendExisting]
  | funcDef f => simp only [shorterExtendExisting]
  | ifStmt a b o => simp only [shorterExtendExisting]
  | simple sm =>
    cases sm with
    | importFrom i =>
      simp only [shorterExtendExisting]
      cases hm : i.module with
      | none => rfl
      | some m =>
        simp only
        cases hl : alookup m ext with
        | none => rfl
        | some extra => exact absurd ⟨i, m, extra, rfl, hm, hl⟩ h
    | import_ d => simp only [shorterExtendExisting]
    | assign a b => simp only [shorterExtendExisting]
    | assignList a b => simp only [shorterExtendExisting]
    | annAssign a b v => simp only [shorterExtendExisting]
    | ret v => simp only [shorterExtendExisting]
    | expr v => simp only [shorterExtendExisting]
    | other a b => simp only [shorterExtendExisting]

/-- of `shorterExtendExisting ext l = (ext', l')` -/
structure ExtendSpec (ext : List (String × List String)) (l : List Top) (ext' : List (String × List String)) (l' : List Top) : Prop where
  names_mono : ∀ n ∈ namesOfTops l, n ∈ namesOfTops l'
  covered : ∀ src names n, alookup src ext = some names → n ∈ names → n ∈ namesOfTops l' ∨ alookup src ext' = some names
  leftover : ∀ p ∈ ext', p ∈ ext
  bindings : ∀ n, n ∉ addedNames ext →
    alookup n (importBindings (importsOfTops l')) = alookup n (importBindings (importsOfTops l))
  provenance : ∀ i' ∈ importsOfTops l', ∃ i ∈ importsOfTops l, i'.module = i.module ∧ i'.level = i.level
  tops : ∀ t' ∈ l', (∃ i, t' = .simple (.importFrom i)) ∨ t' ∈ l
  noclass : NoClass l → NoClass l'
  length_eq : l'.length = l.length

theorem namesOf_import (i : ImportFrom) : namesOfTops [.simple (.importFrom i)] = i.names.map (fun n => n.2.getD n.1) := by
  simp [namesOfTops, moduleNames]

theorem importBindings_extend (i : ImportFrom) (extra : List String) (m : String) (hm : i.module = some m) :
    importBindings [extendImport i extra] =
      importBindings [i] ++ extra.map (fun n => (n, (dotted i.level m, n))) := by
  simp [importBindings, extendImport, hm, List.map_append, Function.comp_def]

theorem shorterExtend_spec : ∀ (l : List Top) (ext : List (String × List String)),
    ExtendSpec ext l (shorterExtendExisting ext l).1 (shorterExtendExisting ext l).2 := by
  intro l
  induction l with
  | nil =>
    intro ext
    simp only [shorterExtendExisting]
    exact ⟨fun n h => h, fun src names n h _ => .inr h, fun p h => h, fun n _ => rfl, fun i h => by simp [importsOfTops] at h,
      fun t h => by simp at h, fun h => h, rfl⟩
  | cons t rest ih =>
    intro ext
    by_cases hx : ExtendsHere ext t
    · obtain ⟨i, m, extra, rfl, hm, hl⟩ := hx
      rw [sx_cons_extend ext i rest m extra hm hl]
      have s := ih (aerase m ext)
      have hmem : (m, extra) ∈ ext := mem_of_alookup m extra ext hl
      refine ⟨?_, ?_, ?_, ?_, ?_, ?_, ?_, ?_⟩
      · intro n hn
        rw [namesOfTops_cons] at hn ⊢
        rcases List.mem_append.mp hn with h | h
        · apply List.mem_append_left
          rw [namesOf_import] at h ⊢
          simp only [extendImport, List.map_append, List.mem_append]
          exact .inl h
        · exact List.mem_append_right _ (s.names_mono n h)
      · intro src names n hsrc hn
        by_cases hsm : m = src
        · subst hsm
          rw [hl] at hsrc
          cases hsrc
          left
          rw [namesOfTops_cons]
          apply List.mem_append_left
          rw [namesOf_import]
          simp only [extendImport, List.map_append, List.map_map, List.mem_append, List.mem_map]
          exact .inr ⟨n, hn, rfl⟩
        · have h2 : alookup src (aerase m ext) = some names := by rw [alookup_aerase_other m src ext hsm]; exact hsrc
          rcases s.covered src names n h2 hn with h | h
          · left; rw [namesOfTops_cons]; exact List.mem_append_right _ h
          · right; exact h
      · intro p hp
        exact mem_of_mem_aerase m ext p (s.leftover p hp)
      · intro n hn
        have hn2 : n ∉ addedNames (aerase m ext) := by
          intro hc
          apply hn
          unfold addedNames at hc ⊢
          rw [List.mem_flatMap] at hc ⊢
          obtain ⟨p, hp, hnp⟩ := hc
          exact ⟨p, mem_of_mem_aerase m ext p hp, hnp⟩
        have hnx : n ∉ extra := fun hc => hn (addedNames_mem hmem hc)
        have e1 : importsOfTops (.simple (.importFrom (extendImport i extra)) :: (shorterExtendExisting (aerase m ext) rest).2) =
            [extendImport i extra] ++ importsOfTops (shorterExtendExisting (aerase m ext) rest).2 := by
          simp [importsOfTops, Top.importFrom?]
        have e2 : importsOfTops (.simple (.importFrom i) :: rest) = [i] ++ importsOfTops rest := by
          simp [importsOfTops, Top.importFrom?]
        rw [e1, e2, importBindings_append, importBindings_append, importBindings_extend i extra m hm,
          alookup_append, alookup_append, alookup_append]
        have hx : alookup n (extra.map (fun n => (n, (dotted i.level m, n)))) = none := by
          apply alookup_none_of_not_key
          intro kv hkv
          simp only [List.mem_map] at hkv
          obtain ⟨a, ha, rfl⟩ := hkv
          intro hc
          exact hnx (hc ▸ ha)
        rw [hx, s.bindings n hn2]
        cases alookup n (importBindings [i]) <;> rfl
      · intro i' hi'
        have e1 : importsOfTops (.simple (.importFrom (extendImport i extra)) :: (shorterExtendExisting (aerase m ext) rest).2) =
            extendImport i extra :: importsOfTops (shorterExtendExisting (aerase m ext) rest).2 := by
          simp [importsOfTops, Top.importFrom?]
        have e2 : importsOfTops (.simple (.importFrom i) :: rest) = i :: importsOfTops rest := by
          simp [importsOfTops, Top.importFrom?]
        rw [e1] at hi'
        rw [e2]
        rcases List.mem_cons.mp hi' with rfl | h
        · exact ⟨i, by simp, rfl, rfl⟩
        · obtain ⟨i0, hi0, h1, h2⟩ := s.provenance i' h
          exact ⟨i0, by simp [hi0], h1, h2⟩
      · intro t' ht'
        rcases List.mem_cons.mp ht' with rfl | h
        · exact .inl ⟨_, rfl⟩
        · rcases s.tops t' h with h | h
          · exact .inl h
          · exact .inr (by simp [h])
      · intro hnc u hu
        obtain ⟨h1, h2⟩ := List.forall_mem_cons.mp hnc
        rcases List.mem_cons.mp hu with rfl | h
        · rfl
        · exact s.noclass h2 u h
      · simp [s.length_eq]
    · rw [sx_cons_keep ext t rest hx]
      have s := ih ext
      refine ⟨?_, ?_, s.leftover, ?_, ?_, ?_, ?_, ?_⟩
      · intro n hn
        rw [namesOfTops_cons] at hn ⊢
        rcases List.mem_append.mp hn with h | h
        · exact List.mem_append_left _ h
        · exact List.mem_append_right _ (s.names_mono n h)
      · intro src names n hsrc hn
        rcases s.covered src names n hsrc hn with h | h
        · left; rw [namesOfTops_cons]; exact List.mem_append_right _ h
        · right; exact h
      · intro n hn
        have e1 : ∀ r : List Top, importsOfTops (t :: r) = importsOfTops [t] ++ importsOfTops r := fun r => importsOfTops_append [t] r
        rw [e1 (shorterExtendExisting ext rest).2, e1 rest, importBindings_append, importBindings_append, alookup_append,
          alookup_append, s.bindings n hn]
      · intro i' hi'
        have e1 : ∀ r : List Top, importsOfTops (t :: r) = importsOfTops [t] ++ importsOfTops r := fun r => importsOfTops_append [t] r
        rw [e1 (shorterExtendExisting ext rest).2] at hi'
        rw [e1 rest]
        rcases List.mem_append.mp hi' with h | h
        · exact ⟨i', List.mem_append_left _ h, rfl, rfl⟩
        · obtain ⟨i0, hi0, h1, h2⟩ := s.provenance i' h
          exact ⟨i0, List.mem_append_right _ hi0, h1, h2⟩
      · intro t' ht'
        rcases List.mem_cons.mp ht' with rfl | h
        · exact .inr (by simp)
        · rcases s.tops t' h with h | h
          · exact .inl h
          · exact .inr (by simp [h])
      · intro hnc u hu
        obtain ⟨h1, h2⟩ := List.forall_mem_cons.mp hnc
        rcases List.mem_cons.mp hu with rfl | h
        · exact h1
        · exact s.noclass h2 u h
      · simp [s.length_eq]

theorem shorterExtend_tail (g : Method) (c : ClassDef) : ∀ (pre : List Top) (ext : List (String × List String)),
    shorterExtendExisting ext (pre ++ [.funcDef g, .classDef c]) =
      ((shorterExtendExisting ext pre).1, (shorterExtendExisting ext pre).2 ++ [.funcDef g, .classDef c]) := by
  intro pre
  induction pre with
  | nil => intro ext; simp [shorterExtendExisting]
  | cons t rest ih =>
    intro ext
    by_cases hx : ExtendsHere ext t
    · obtain ⟨i, m, extra, rfl, hm, hl⟩ := hx
      simp only [List.cons_append]
      rw [sx_cons_extend ext i _ m extra hm hl, sx_cons_extend ext i _ m extra hm hl, ih]
      rfl
    · simp only [List.cons_append]
      rw [sx_cons_keep ext t _ hx, sx_cons_keep ext t _ hx, ih]
      rfl

theorem shorterExtend_hasImp : ∀ (l : List Top) (ext : List (String × List String)),
    HasImp l → HasImp (shorterExtendExisting ext l).2 := by
  intro l
  induction l with
  | nil => intro ext ⟨t, ht, _⟩; cases ht
  | cons t rest ih =>
    intro ext ⟨u, hu, hiu⟩
    by_cases hx : ExtendsHere ext t
    · obtain ⟨i, m, extra, rfl, hm, hl⟩ := hx
      rw [sx_cons_extend ext i rest m extra hm hl]
      exact ⟨_, List.mem_cons_self, rfl⟩
    · rw [sx_cons_keep ext t rest hx]
      rcases List.mem_cons.mp hu with rfl | hu'
      · exact ⟨u, List.mem_cons_self, hiu⟩
      · obtain ⟨w, hw, hiw⟩ := ih ext ⟨u, hu', hiu⟩
        exact ⟨w, List.mem_cons_of_mem _ hw, hiw⟩

def freshImports (ext : List (String × List String)) : List Top :=
  (ext.map (fun (x : String × List String) =>
    Top.simple (.importFrom { module := some x.1, names := x.2.map (fun n => (n, none)), level := 0 }))).reverse

theorem freshImports_names (ext : List (String × List String)) (n : String) :
    n ∈ namesOfTops (freshImports ext) ↔ n ∈ addedNames ext := by
  unfold freshImports namesOfTops moduleNames addedNames
  simp only [List.mem_flatMap, List.mem_reverse, List.mem_map]
  constructor
  · rintro ⟨t, ⟨x, hx, rfl⟩, hn⟩
    simp only [List.map_map, List.mem_map, Function.comp_apply] at hn
    obtain ⟨a, ha, rfl⟩ := hn
    exact ⟨x, hx, ha⟩
  · rintro ⟨x, hx, hn⟩
    refine ⟨_, ⟨x, hx, rfl⟩, ?_⟩
    simp only [List.map_map, List.mem_map, Function.comp_apply]
    exact ⟨n, hn, rfl⟩

theorem freshImports_imports (ext : List (String × List String)) (i : ImportFrom) (h : i ∈ importsOfTops (freshImports ext)) :
    ∃ x ∈ ext, i = { module := some x.1, names := x.2.map (fun n => (n, none)), level := 0 } := by
  unfold freshImports importsOfTops at h
  simp only [List.mem_filterMap, List.mem_reverse, List.mem_map] at h
  obtain ⟨t, ⟨x, hx, rfl⟩, hi⟩ := h
  simp [Top.importFrom?] at hi
  exact ⟨x, hx, hi.symm⟩

theorem freshImports_binding_keys (ext : List (String × List String)) (kv : String × String × String)
    (h : kv ∈ importBindings (importsOfTops (freshImports ext))) : kv.1 ∈ addedNames ext := by
  unfold importBindings at h
  rw [List.mem_flatMap] at h
  obtain ⟨i, hi, hkv⟩ := h
  obtain ⟨x, hx, rfl⟩ := freshImports_imports ext i hi
  simp only [List.map_map, List.mem_map, Function.comp_apply] at hkv
  obtain ⟨a, ha, rfl⟩ := hkv
  exact addedNames_mem (src := x.1) (names := x.2) hx ha

theorem freshImports_noclass (ext : List (String × List String)) : NoClass (freshImports ext) := by
  intro t ht
  unfold freshImports at ht
  simp only [List.mem_reverse, List.mem_map] at ht
  obtain ⟨x, _, rfl⟩ := ht
  rfl

end Ariadne.C15
