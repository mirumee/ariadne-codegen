/-
  Outside the trigger of finding C08-F1 `FragmentsGenerator.generate` never dies
  with `KeyError`: every dependency of a generated fragment is itself generated, so `dependencies_dict[dep]`,
  `fragments_definitions[name]` and `class_defs_dict[name]` all find their key.  And for a document without fragment
  cycles nothing fails after the generator loop (`generateFragments_total`: the sort is total, `Order.dfs_total`; the class
  lookup and `class_names.index` find what they look for), so every exception of the step is the exception of the
  result-type generator of one of the fragments (`generateFragments_error`).  Core Lean only.
-/
import AriadneModel.Proofs.C08Acyclic


namespace Ariadne.Order

section
variable (ord : List Name → List Name) (d : Deps)

theorem visit_out_keys (fuel : Nat) (n : Name) (st st' : St)
    (h : visit ord d fuel n st = .ok st') (hk : ∀ x ∈ st.out, HasKey d x) : ∀ x ∈ st'.out, HasKey d x := by
  fun_induction visit ord d fuel n st generalizing st' with
  | case1 | case3 => cases h; exact hk
  | case2 | case4 => cases h
  | case5 fuel n st hv ds hds ih =>
    simp only [bind, Except.bind] at h
    split at h
    · cases h
    · rename_i st'' hf
      cases h
      have h2 := foldlM_inv (s := { st with visited := n :: st.visited }) (fun s : St => ∀ x ∈ s.out, HasKey d x)
        (fun x _ s s' hs hv => ih s x s' hv hs) hk hf
      intro x hx
      rcases List.mem_append.mp hx with hx | hx
      · exact h2 x hx
      · rw [List.mem_singleton.mp hx]; exact ⟨ds, hds⟩
end

theorem dfs_out_keys (ord : List Name → List Name) (d : Deps) (roots out : List Name) (h : dfs ord d roots = .ok out) :
    ∀ x ∈ out, HasKey d x := by
  obtain ⟨st', hf, rfl⟩ := dfs_ok h
  exact foldlM_inv (fun s : St => ∀ x ∈ s.out, HasKey d x)
    (fun x _ s s' hs hv => visit_out_keys ord d _ x s s' hv hs) (fun x hx => by cases hx) hf

end Ariadne.Order

namespace Ariadne.Fragments
open Ariadne.Gql Ariadne.ResultTypes

theorem genFragments_error (env : Env) (fuel : Nat) : ∀ (names : List String) (marks : List Nat) (err : Err),
    genFragments env fuel names marks = .error err →
      (∃ f mk e, f ∈ env.frags ∧ generate env fuel (.frag f) mk = .error e ∧ err = .gen e) ∨
      ∃ k ∈ names, findFragment? env.frags k = none ∧ err = .order (.keyError k)
  | [], _, err, h => by simp [genFragments] at h
  | n :: rest, marks, err, h => by
    unfold genFragments at h
    cases hf : findFragment? env.frags n with
    | none =>
      rw [hf] at h
      simp only [Except.error.injEq] at h
      exact Or.inr ⟨n, List.mem_cons_self, hf, h.symm⟩
    | some f =>
      rw [hf] at h
      simp only at h
      cases hg : generate env fuel (.frag f) marks with
      | error e =>
        rw [hg] at h
        simp only [Except.error.injEq] at h
        exact Or.inl ⟨f, marks, e, List.mem_of_find?_eq_some hf, hg, h.symm⟩
      | ok out =>
        rw [hg] at h
        simp only at h
        cases hr : genFragments env fuel rest out.st.marks with
        | error e =>
          rw [hr] at h
          simp only [Except.error.injEq] at h
          subst h
          exact (genFragments_error env fuel rest _ e hr).imp_right fun ⟨k, hk, r⟩ => ⟨k, List.mem_cons_of_mem _ hk, r⟩
        | ok more => rw [hr] at h; cases h

theorem genFragments_no_keyError (env : Env) (fuel : Nat) (names : List String) (marks : List Nat) (k : String)
    (hn : ∀ n ∈ names, n ∈ env.frags.map (·.name)) : genFragments env fuel names marks ≠ .error (.order (.keyError k)) := by
  intro h
  rcases genFragments_error env fuel names marks _ h with ⟨_, _, _, _, _, he⟩ | ⟨k', hk', hnone, _⟩
  · cases he
  · obtain ⟨f, hf⟩ := findFragment_of_mem (hn k' hk')
    rw [hf] at hnone
    cases hnone

theorem classesInOrder_total (gens : List DefGen) : ∀ (l : List String),
    (∀ n ∈ l, ∃ g, lookupGen gens n = some g) → ∃ cs, classesInOrder gens l = .ok cs
  | [], _ => ⟨[], rfl⟩
  | n :: rest, h => by
    obtain ⟨g, hg⟩ := h n List.mem_cons_self
    obtain ⟨cs, hcs⟩ := classesInOrder_total gens rest (fun m hm => h m (List.mem_cons_of_mem _ hm))
    exact ⟨g.out.classes ++ cs, by unfold classesInOrder; simp only [hg, hcs]⟩

theorem hasKey_deps (gens : List DefGen) (n : String) :
    Order.HasKey (gens.map fun g => (g.name, g.out.st.mixins)) n ↔ ∃ g, lookupGen gens n = some g := by
  unfold Order.HasKey
  rw [lookup_deps]
  cases lookupGen gens n with
  | none => simp
  | some g => simp

/-- `FragmentsGenerator.generate` never raises `KeyError` when every dependency of a generated fragment is
    itself among the generated ones -/
theorem generateFragments_no_keyError (e : Order.EnumOracle) (he : Order.EnumOK e) (env : Env) (fuel : Nat)
    (names : List String) (marks : List Nat) (hnames : ∀ n ∈ names, n ∈ env.frags.map (·.name))
    (hdeps : ∀ gens, genFragments env fuel names marks = .ok gens → ∀ g ∈ gens, ∀ m ∈ g.out.st.mixins, m ∈ names)
    (k : String) : generateFragments e env fuel names marks ≠ .error (.order (.keyError k)) := by
  intro h
  unfold generateFragments at h
  split at h
  · rename_i hg
    cases h
    exact genFragments_no_keyError env fuel names marks k hnames hg
  rename_i gens hg
  simp only at h
  obtain ⟨hgn, _⟩ := genFragments_spec env fuel names marks gens hg
  have hkey : ∀ n ∈ names, Order.HasKey (gens.map fun g => (g.name, g.out.st.mixins)) n :=
    fun n hn => (hasKey_deps gens n).mpr (lookupGen_of_mem (by rw [hgn]; exact hn))
  split at h
  · -- the sort: every dependency of a generated fragment has its entry
    rename_i hs
    cases h
    refine Order.dfs_no_keyError _ _ _ ?_ ?_ k hs
    · intro n ds hl x hx
      have hx' : x ∈ ds := (he ds).mem_iff.mp ((Order.mem_pySorted _ _).mp hx)
      rw [lookup_deps] at hl
      cases hlg : lookupGen gens n with
      | none => rw [hlg] at hl; cases hl
      | some g =>
        rw [hlg] at hl
        cases hl
        exact hkey x (hdeps gens hg g (lookupGen_some hlg).1 x hx')
    · intro r hr
      exact hkey r ((he names).mem_iff.mp ((Order.mem_pySorted _ _).mp hr))
  rename_i sorted hs
  have hall : ∀ n ∈ sorted, ∃ g, lookupGen gens n = some g :=
    fun n hn => (hasKey_deps gens n).mp (Order.dfs_out_keys _ _ _ _ hs n hn)
  obtain ⟨cs, hcs⟩ := classesInOrder_total gens sorted hall
  simp only [hcs] at h
  split at h
  · rename_i hr
    cases h
    unfold Order.rebuildCalls at hr
    split at hr <;> cases hr
  · cases h

/-- **outside the trigger of C08-F1 generation never dies with `KeyError` in `FragmentsGenerator`** -/
theorem no_keyError_outside_trigger (e : Order.EnumOracle) (he : Order.EnumOK e) (env : Env) (fuel : Nat) (ops : List Operation)
    (hF1 : trigUnpackedAndInherited e env fuel ops = false) (k : String) :
    fragmentsModule e env fuel ops ≠ .error (.order (.keyError k)) := by
  intro h
  unfold fragmentsModule at h
  split at h
  · cases h
  rename_i acc hacc
  simp only at h
  split at h
  · cases h
  have hnames : ∀ n ∈ e (remaining env acc.unpacked), n ∈ env.frags.map (·.name) :=
    fun n hn => (mem_remaining.mp ((he _).mem_iff.mp hn)).1
  have hdeps : ∀ gens, genFragments env fuel (e (remaining env acc.unpacked)) acc.marks = .ok gens →
      ∀ g ∈ gens, ∀ m ∈ g.out.st.mixins, m ∈ e (remaining env acc.unpacked) := by
    intro gens hg g hgm m hm
    obtain ⟨_, hfrom⟩ := genFragments_spec env fuel _ _ gens hg
    obtain ⟨f, marks, _, hgen⟩ := hfrom g hgm
    have hgood := (generate_spec env fuel _ marks _ hgen).1 m hm
    have hnotex : acc.unpacked.contains m = false := not_unpacked_of_inherited hacc hF1 (Or.inr (by
      unfold inheritedByFragments
      simp only [hg]
      exact List.mem_flatMap.mpr ⟨g, hgm, hm⟩))
    exact (he _).mem_iff.mpr (mem_remaining.mpr ⟨goodMixin_mem_frags hgood, hnotex⟩)
  split at h
  · rename_i hgf
    cases h
    exact generateFragments_no_keyError e he env fuel _ acc.marks hnames hdeps k hgf
  · cases h

/-- **after the generator loop nothing can fail**: fragment names without repetition, every inherited fragment among them, the
    document's spreads acyclic — the sort, the class lookup and the rebuild calls all answer -/
theorem generateFragments_total (env : Env) (fuel : Nat) (names : List String) (marks : List Nat) (gens : List DefGen)
    (hg : genFragments env fuel names marks = .ok gens) (hnd : names.Nodup)
    (hdeps : ∀ g ∈ gens, ∀ m ∈ g.out.st.mixins, m ∈ names) (rk : String → Nat) (hrk : SpreadRank env rk) :
    ∃ fo, generateFragments id env fuel names marks = .ok fo := by
  obtain ⟨hgn, hfrom⟩ := genFragments_spec env fuel names marks gens hg
  have hndg : (gens.map (·.name)).Nodup := hgn ▸ hnd
  have hkey : ∀ n ∈ names, Order.HasKey (gens.map fun g => (g.name, g.out.st.mixins)) n :=
    fun n hn => (hasKey_deps gens n).mpr (lookupGen_of_mem (hgn ▸ hn))
  have entry : ∀ n ds, Order.lookup (gens.map fun g => (g.name, g.out.st.mixins)) n = some ds →
      ∃ g ∈ gens, g.name = n ∧ g.out.st.mixins = ds := by
    intro n ds hl
    rw [lookup_deps] at hl
    obtain ⟨g, hlg, e⟩ := Option.map_eq_some_iff.mp hl
    exact ⟨g, (lookupGen_some hlg).1, (lookupGen_some hlg).2, e⟩
  obtain ⟨sorted, hs⟩ := Order.dfs_total (gens.map fun g => (g.name, g.out.st.mixins)) rk
    (fun n ds m hl hm => by
      obtain ⟨g, hgm, rfl, rfl⟩ := entry n ds hl
      obtain ⟨f, mk, hf, hgen⟩ := hfrom g hgm
      have hfn : f.name = g.name := findFragment_name hf
      exact hfn ▸ frag_mixins_low env rk hrk fuel f (hfn ▸ hf) mk g.out hgen m hm)
    (fun n ds m hl hm => by
      obtain ⟨g, hgm, rfl, rfl⟩ := entry n ds hl
      exact hkey m (hdeps g hgm m hm))
    (fun s => Order.pySorted s) (fun ds x => Order.mem_pySorted ds x) (Order.pySorted names)
    (fun r hr => hkey r ((Order.mem_pySorted _ _).mp hr))
  have hs' : Order.sortedFragmentsNames id names (gens.map fun g => (g.name, g.out.st.mixins)) = .ok sorted := hs
  obtain ⟨cs, hcs⟩ := classesInOrder_total gens sorted fun n hn => (hasKey_deps gens n).mp (Order.dfs_out_keys _ _ _ _ hs n hn)
  -- every top-level class is a class of a sorted generator
  obtain ⟨rb, hrb⟩ := Order.rebuildCalls_ok (top := gens.filterMap fun g => g.out.classes.head?.map (·.name)) (cn := cs.map (·.name)) (by
    intro t ht
    obtain ⟨g, hgm, hgt⟩ := List.mem_filterMap.mp ht
    obtain ⟨c, hhead, rfl⟩ := Option.map_eq_some_iff.mp hgt
    have hin : g.name ∈ sorted :=
      Order.dfs_complete hs g.name ((Order.mem_pySorted _ _).mpr (hgn ▸ List.mem_map.mpr ⟨g, hgm, rfl⟩))
    rw [(classesInOrder_spec gens sorted cs hcs).1]
    exact List.mem_map.mpr ⟨c, mem_classesOf gens (lookupGen_of_nodup gens hndg g hgm) sorted hin c
      (List.mem_of_mem_head? hhead), rfl⟩)
  exact ⟨_, by simp only [generateFragments, hg, hs', hcs, hrb]; rfl⟩

/-- **the fragments step raises nothing of its own**: every exception of `FragmentsGenerator.generate` is the exception of
    the result-type generator of one of the document's fragments -/
theorem generateFragments_error (env : Env) (fuel : Nat) (names : List String) (marks : List Nat)
    (hnames : ∀ n ∈ names, n ∈ env.frags.map (·.name)) (hnd : names.Nodup)
    (hdeps : ∀ gens, genFragments env fuel names marks = .ok gens → ∀ g ∈ gens, ∀ m ∈ g.out.st.mixins, m ∈ names)
    (rk : String → Nat) (hrk : SpreadRank env rk) (err : Err)
    (h : genFragments env fuel names marks = .error err ∨ generateFragments id env fuel names marks = .error err) :
    ∃ f mk e, f ∈ env.frags ∧ generate env fuel (.frag f) mk = .error e ∧ err = .gen e := by
  -- the loop over the generators raises what a generator raised; afterwards nothing is raised
  have loop : genFragments env fuel names marks = .error err →
      ∃ f mk e, f ∈ env.frags ∧ generate env fuel (.frag f) mk = .error e ∧ err = .gen e := fun hg =>
    (genFragments_error env fuel names marks err hg).resolve_right fun ⟨k, _, _, e⟩ =>
      genFragments_no_keyError env fuel names marks k hnames (e ▸ hg)
  rcases h with h | h
  · exact loop h
  · cases hg : genFragments env fuel names marks with
    | error e1 =>
      have : generateFragments id env fuel names marks = .error e1 := by simp only [generateFragments, hg]
      exact loop (hg.trans (congrArg Except.error (Except.error.inj (this.symm.trans h))))
    | ok gens =>
      obtain ⟨fo, hfo⟩ := generateFragments_total env fuel names marks gens hg hnd (hdeps gens hg) rk hrk
      cases hfo.symm.trans h

end Ariadne.Fragments
