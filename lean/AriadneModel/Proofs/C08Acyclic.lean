/-
  Proofs/C08Acyclic.lean — the dependency dict of the fragments module is acyclic whenever the document's
  fragment spreads are (GraphQL validation rule NoFragmentCycles): a fragment's generator only ever records
  fragments that are spread, directly or through other fragments, from the fragment's own selection set.
  The invariant behind it (`resolve_low`, `runs_low`) is stated for any predicate closed under the spread graph and for
  both registers of a generator (`Registered`); C02 uses it with "reachable from the definition".  Core Lean only.
-/
import AriadneModel.Proofs.C08Package


open Ariadne.Gql Ariadne.Util

namespace Ariadne.ResultTypes

-- the spreads written inside a selection, not through other spreads.  The same function as `directSel` / `directSels` of
-- Model/OpText.lean (`selSpreads_eq_directSel`, Proofs/OpText.lean), which C08 does not import
mutual
  def selSpreads : Selection → List String
    | .field _ _ _ _ sub => selsSpreads sub
    | .spread n _ => [n]
    | .inline _ _ _ sub => selsSpreads sub
  def selsSpreads : List Selection → List String
    | [] => []
    | s :: rest => selSpreads s ++ selsSpreads rest
end

/-- every fragment spread written inside `sels` satisfies `P`.  Used with `P` = "of smaller rank" (acyclicity, below; hence
    "low") and, in Proofs/OpText.lean, with `P` = "reachable from the definition's selection set" -/
def Low (P : String → Prop) (sels : List Selection) : Prop := ∀ n ∈ selsSpreads sels, P n

theorem low_of_mem {P : String → Prop} : ∀ {sels : List Selection} {s : Selection}, Low P sels → s ∈ sels → ∀ n ∈ selSpreads s, P n
  | [], _, _, hs, _, _ => by cases hs
  | x :: rest, s, h, hs, n, hn => by
    rcases List.mem_cons.mp hs with rfl | hs
    · exact h n (by simp only [selsSpreads]; exact List.mem_append_left _ hn)
    · exact low_of_mem (sels := rest) (fun m hm => h m (by simp only [selsSpreads]; exact List.mem_append_right _ hm)) hs n hn

theorem low_field {P : String → Prop} {sels : List Selection} {a : Option String} {nm : String} {d : List Directive} {sid : Nat}
    {sub : List Selection} (h : Low P sels) (hs : Selection.field a nm d sid sub ∈ sels) : Low P sub :=
  fun n hn => low_of_mem h hs n (by simpa only [selSpreads] using hn)

theorem low_inline {P : String → Prop} {sels : List Selection} {on : Option String} {d : List Directive} {sid : Nat}
    {sub : List Selection} (h : Low P sels) (hs : Selection.inline on d sid sub ∈ sels) : Low P sub :=
  fun n hn => low_of_mem h hs n (by simpa only [selSpreads] using hn)

theorem low_spread {P : String → Prop} {sels : List Selection} {n : String} {d : List Directive}
    (h : Low P sels) (hs : Selection.spread n d ∈ sels) : P n :=
  low_of_mem h hs n (by simp [selSpreads])

/-- the two sets in which one generator registers fragments (`_fragments_used_as_mixins`, `_unpacked_fragments`)
    hold only names that satisfy `P` -/
def Registered (P : String → Prop) (st : St) : Prop := (∀ m ∈ st.mixins, P m) ∧ (∀ m ∈ st.unpacked, P m)

theorem Registered.initial (P : String → Prop) (marks : List Nat) (ps : List (String × String)) :
    Registered P (addImports { marks := marks } ps) :=
  ⟨fun _ h => absurd h List.not_mem_nil, fun _ h => absurd h List.not_mem_nil⟩

theorem Registered.of_eq {P : String → Prop} {st st' : St} (h : Registered P st)
    (hm : st'.mixins = st.mixins) (hu : st'.unpacked = st.unpacked) : Registered P st' :=
  ⟨fun m hmem => h.1 m (hm ▸ hmem), fun m hmem => h.2 m (hu ▸ hmem)⟩

section
variable (env : Env) (P : String → Prop)
  (hclosed : ∀ n f, P n → findFragment? env.frags n = some f → Low P f.sel)

def LowOut (x : Acc) : Prop := (∀ m ∈ x.2, P m) ∧ (∀ fld ∈ x.1, Low P fld.sub)

include hclosed in
/-- `_resolve_selection_set` on a selection set whose spreads satisfy `P` (closed under the spread graph) returns and
    registers only names satisfying `P`: it meets spreads of the selection set it was called with, of inline fragments
    inside it, and of the fragments it unpacks -/
theorem resolve_low : ∀ (fuel : Nat) (sels : List Selection) (root : String) (st : St) (r : Acc) (st' : St),
    Low P sels → Registered P st → resolve env fuel sels root st = .ok (r, st') → LowOut P r ∧ Registered P st'
  | 0, sels, root, st, r, st', _, _, h => by
    obtain ⟨_, _, h0, _⟩ := resolve_ok_iff.mp h
    cases h0
  | fuel + 1, sels, root, st, acc, st', hlow, hreg, h => by
    obtain ⟨_, s1, hfu, h1, rfl⟩ := resolve_ok_iff.mp h
    cases hfu
    suffices hstep : ∀ a ∈ sels, ∀ (b : Acc) (s : St) (r : ForInStep Acc) (s' : St), LowOut P b ∧ Registered P s →
        resolveBody env fuel root a b s = .ok (r, s') → LowOut P r.value ∧ Registered P s' by
      obtain ⟨hout, hr1⟩ := forIn_ok_inv (fun (b : Acc) (s : St) => LowOut P b ∧ Registered P s) (resolveBody env fuel root)
        sels ([], []) st acc s1 hstep ⟨⟨fun m hm => absurd hm List.not_mem_nil, fun f hf => absurd hf List.not_mem_nil⟩, hreg⟩ h1
      exact ⟨hout, fun m hm => (mem_setUnion.mp hm).elim (hr1.1 m) (hout.1 m), hr1.2⟩
    intro a ha b s r s' ⟨⟨hb2, hb1⟩, hs⟩ hr
    obtain ⟨b1, rfl, step⟩ := resolveBody_step hr
    have nested : ∀ {x : Acc}, LowOut P x → LowOut P (b.1 ++ x.1, setUnion b.2 x.2) := fun hx =>
      ⟨fun m hm => (mem_setUnion.mp hm).elim (hb2 m) (hx.1 m), fun f hf => (List.mem_append.mp hf).elim (hb1 f) (hx.2 f)⟩
    cases step with
    | field alias name dirs sid sub =>
      refine ⟨⟨hb2, fun f hf => (List.mem_append.mp hf).elim (hb1 f) fun hf => ?_⟩, hs⟩
      rw [List.mem_singleton.mp hf]
      exact low_field hlow ha
    | keep => exact ⟨⟨fun m hm => (mem_setAdd.mp hm).elim (hb2 m) fun e => e ▸ low_spread hlow ha, hb1⟩, hs⟩
    | unpack hf _ _ hx =>
      have hPn := low_spread hlow ha
      have hreg' : Registered P { s with unpacked := setAdd s.unpacked _ } :=
        ⟨hs.1, fun m hm => (mem_setAdd.mp hm).elim (hs.2 m) fun e => e ▸ hPn⟩
      obtain ⟨hx, hs'⟩ := resolve_low fuel _ root _ _ s' (hclosed _ _ hPn hf) hreg' hx
      exact ⟨nested hx, hs'⟩
    | dropSpread => exact ⟨⟨hb2, hb1⟩, hs.of_eq rfl rfl⟩
    | inline _ hx =>
      obtain ⟨hx, hs'⟩ := resolve_low fuel _ _ _ _ s' (low_inline hlow ha) hs hx
      exact ⟨nested hx, hs'⟩
    | dropInline => exact ⟨⟨hb2, hb1⟩, hs.of_eq rfl rfl⟩

def Call.low : Call → Prop
  | .type _ _ _ sel _ _ _ => Low P sel
  | .fields _ _ _ fs _ => ∀ f ∈ fs, Low P f.sub
  | .set _ sel _ _ => Low P sel
  | .related _ sel _ _ _ => Low P sel

include hclosed in
theorem runs_low {c : Call} {st : St} {cs : List ClassDecl} {st' : St} (h : Runs env c st cs st') :
    c.low P → Registered P st → Registered P st' := by
  induction h with
  | seen => exact fun _ h => h
  | @fresh cn _ sid _ a _ _ st x st1 _ _ _ _ _ hres _ ih =>
    intro hlow hreg
    obtain ⟨⟨_, hx1⟩, hreg1⟩ := resolve_low env P hclosed _ _ _ { st with publicNames := st.publicNames ++ [cn] } _ _ hlow
      (hreg.of_eq rfl rfl) hres
    refine ih (fun f hf => ?_) (hreg1.of_eq (afterTypename_keeps ..).1 (afterTypename_keeps ..).2.2)
    rcases withTypename_mem hf with rfl | hf
    · intro n hn; simp [typenameRField, selsSpreads] at hn
    · exact hx1 f hf
  | fieldsNil => exact fun _ h => h
  | fieldsCons _ _ _ _ ih₁ ih₂ =>
    intro hlow hreg
    exact ih₂ (fun f hf => hlow f (List.mem_cons_of_mem _ hf))
      ((ih₁ (hlow _ List.mem_cons_self) (hreg.of_eq rfl rfl)).of_eq rfl rfl)
  | setEmpty => exact fun _ h => h
  | setRun _ _ ih => exact ih
  | relNil => exact fun _ h => h
  | relCons _ _ ih₁ ih₂ => exact fun hlow hreg => ih₂ hlow (ih₁ hlow hreg)
end

end Ariadne.ResultTypes

namespace Ariadne.Fragments
open Ariadne.ResultTypes

/-- the document's fragment spreads admit a rank that strictly decreases from a fragment to every fragment spread
    inside its selection set — what graphql-core's NoFragmentCycles rule guarantees -/
def SpreadRank (env : Env) (rk : String → Nat) : Prop :=
  ∀ n f, findFragment? env.frags n = some f → ∀ m ∈ selsSpreads f.sel, rk m < rk n

theorem frag_mixins_low (env : Env) (rk : String → Nat) (hrk : SpreadRank env rk) (fuel : Nat) (f : Fragment)
    (hf : findFragment? env.frags f.name = some f) (marks : List Nat) (out : ModuleOut)
    (h : generate env fuel (.frag f) marks = .ok out) : ∀ m ∈ out.st.mixins, rk m < rk f.name := by
  have hclosed : ∀ n f', rk n < rk f.name → findFragment? env.frags n = some f' → Low (fun m => rk m < rk f.name) f'.sel :=
    fun n f' hn hf' m hm => Nat.lt_trans (hrk n f' hf' m hm) hn
  rcases generate_cases h with ⟨_, _, _, _, hs⟩ | ⟨_, _, _, _, _, hp⟩
  · rw [hs]; intro m hm; cases hm
  · exact (runs_low env _ hclosed (Runs.of_type hp) (fun m hm => hrk f.name f hf m hm) (Registered.initial _ marks _)).1

theorem deps_acyclic (e : Order.EnumOracle) (env : Env) (rk : String → Nat) (hrk : SpreadRank env rk) (fuel : Nat)
    (names : List String) (marks : List Nat) (fo : FragmentsOut) (h : generateFragments e env fuel names marks = .ok fo) :
    ∀ n ds m, Order.lookup fo.deps n = some ds → m ∈ ds → rk m < rk n := by
  obtain ⟨gens, _, D⟩ := generateFragments_described h
  intro n ds m hl hm
  rw [D.deps, lookup_deps] at hl
  cases hlg : lookupGen gens n with
  | none => rw [hlg] at hl; cases hl
  | some g =>
    rw [hlg] at hl
    have hds : g.out.st.mixins = ds := by simpa using hl
    obtain ⟨hgm, hgn⟩ := lookupGen_some hlg
    obtain ⟨f, marks', hf, hgen⟩ := D.from_ g hgm
    have hfn : f.name = g.name := findFragment_name hf
    have := frag_mixins_low env rk hrk fuel f (by rw [hfn]; exact hf) marks' g.out hgen m (by rw [hds]; exact hm)
    rw [hfn, hgn] at this
    exact this

end Ariadne.Fragments
