/-
  The arguments generator (Model/Arguments.lean) in closed form: on types the schema knows
  `_parse_type_node` returns `annP` / `useP` and the loop over the variable definitions returns `itemP`
  per definition (`parse_ok`, `items_ok`), and it returns on nothing else (`parse_inv`, `items_inv`, `generate_inv`).  First: a hit of
  `lookupScalar` is an entry of the configuration.
-/
import AriadneModel.Model.ArgFindings


namespace Ariadne.ArgProofs
open Ariadne.Scalars Ariadne.Arguments
open Ariadne.ArgFindings (isNonNull)
open Ariadne.Gql (TypeRef)

attribute [local irreducible] Ariadne.Arguments.pyVar

theorem lookupScalar_mem {cfg : ScalarCfg} {n : String} {d : ScalarData} (h : lookupScalar cfg n = some d) :
    (n, d) ∈ cfg := by
  unfold lookupScalar at h
  cases hf : cfg.find? (·.1 == n) with
  | none => simp [hf] at h
  | some p =>
    obtain ⟨k, d'⟩ := p
    have hk : k = n := by simpa using List.find?_some hf
    simp only [hf, Option.some.injEq] at h
    subst hk; subst h
    exact List.mem_of_find?_eq_some hf

def Known (env : Env) (n : String) : Prop :=
  env.kind n = some .input ∨ env.kind n = some .enum ∨ env.kind n = some .scalar

/- Suffix `P` (here and in `kwP`, `gP`, `dvP`, `methodP`, `dumpP` of the files that import this one): the total function an
   `Except`-valued function of the model agrees with wherever it succeeds; `_ok` says it returns that, `_inv` that it
   returns nothing else. -/

/-- the name `_parse_named_type_node` puts into the annotation -/
def leafNameP (env : Env) (n : String) : String :=
  match env.kind n with
  | some .scalar =>
    match lookupScalar env.scalars n with
    | none => (Util.lookupStr n Tables.inputScalarsMap).getD "Any"
    | some d => d.typeName
  | _ => n

def useP (env : Env) (n : String) : Use :=
  match env.kind n with
  | some .input => .input n
  | some .enum => .enum n
  | some .scalar =>
    match lookupScalar env.scalars n with
    | none => .plain
    | some _ => .custom n
  | _ => .plain

def annP (env : Env) : TypeRef → Bool → NAnn
  | .named n, nullable => .leaf (.name (leafNameP env n)) nullable
  | .list t, nullable => .list (annP env t nullable) nullable
  | .nonNull t, _ => annP env t false

theorem parseNamed_ok (env : Env) (n : String) (nullable : Bool) (hk : Known env n) :
    parseNamed env n nullable = .ok (.leaf (.name (leafNameP env n)) nullable, useP env n) := by
  rcases hk with h | h | h
  · simp [parseNamed, leafNameP, useP, h]
  · simp [parseNamed, leafNameP, useP, h]
  · simp only [parseNamed, leafNameP, useP, h]
    cases lookupScalar env.scalars n <;> rfl

theorem parse_ok (env : Env) (t : TypeRef) (nullable : Bool) (hk : Known env t.base) :
    parseTypeNode env t nullable = .ok (annP env t nullable, useP env t.base) := by
  induction t generalizing nullable with
  | named n => simpa [parseTypeNode, annP, TypeRef.base] using parseNamed_ok env n nullable hk
  | list t ih => simp [parseTypeNode, annP, TypeRef.base, ih nullable hk]
  | nonNull t ih => simp [parseTypeNode, annP, TypeRef.base, ih false hk]

theorem annP_false_opt (env : Env) (t : TypeRef) : (annP env t false).opt = false := by
  induction t with
  | named n => rfl
  | list t ih => rfl
  | nonNull t ih => simpa [annP] using ih

theorem annP_opt (env : Env) (t : TypeRef) : (annP env t true).opt = !isNonNull t := by
  cases t with
  | named n => rfl
  | list t => rfl
  | nonNull t => simp [annP, isNonNull, annP_false_opt]

/-- everything `generate` emits for one variable definition whose type is known -/
def itemP (env : Env) (v : VarDef) : Item :=
  ⟨v.name, ⟨pyVar env.snake v.name, annP env v.type true, !isNonNull v.type⟩,
   dictValue env (pyVar env.snake v.name) (useP env v.type.base), useP env v.type.base⟩

theorem item_ok (env : Env) (v : VarDef) (hk : Known env v.type.base) : item env v = .ok (itemP env v) := by
  simp [item, parse_ok env v.type true hk, itemP, annP_opt]

theorem items_ok (env : Env) (vds : List VarDef) (hk : ∀ v ∈ vds, Known env v.type.base) :
    items env vds = .ok (vds.map (itemP env)) := by
  induction vds with
  | nil => rfl
  | cons v vds ih =>
    have h1 := item_ok env v (hk v List.mem_cons_self)
    have h2 := ih (fun w hw => hk w (List.mem_cons_of_mem _ hw))
    simp [items, h1, h2]

theorem parse_inv (env : Env) : ∀ (t : TypeRef) (nullable : Bool) (r : NAnn × Use),
    parseTypeNode env t nullable = .ok r → Known env t.base ∧ r = (annP env t nullable, useP env t.base)
  | .named n, nullable, r, h => by
    have hk : Known env n := by
      simp only [parseTypeNode, parseNamed] at h
      unfold Known
      cases hk : env.kind n with
      | none => rw [hk] at h; cases h
      | some k => cases k <;> simp_all
    exact ⟨hk, by simpa [parse_ok env (.named n) nullable hk] using h.symm⟩
  | .list t, nullable, r, h => by
    simp only [parseTypeNode] at h
    cases hr : parseTypeNode env t nullable with
    | error e => rw [hr] at h; cases h
    | ok r' =>
      obtain ⟨hk, rfl⟩ := parse_inv env t nullable r' hr
      rw [hr] at h
      cases h
      exact ⟨hk, rfl⟩
  | .nonNull t, _, r, h => by
    simp only [parseTypeNode] at h
    obtain ⟨hk, rfl⟩ := parse_inv env t false r h
    exact ⟨hk, rfl⟩

theorem item_inv {env : Env} {v : VarDef} {i : Item} (h : item env v = .ok i) : Known env v.type.base ∧ i = itemP env v := by
  have hk : Known env v.type.base := by
    unfold item at h
    cases hp : parseTypeNode env v.type true with
    | error e => simp [hp] at h
    | ok r => exact (parse_inv env v.type true r hp).1
  rw [item_ok env v hk] at h
  cases h
  exact ⟨hk, rfl⟩

theorem items_inv (env : Env) : ∀ (defs : List VarDef) (is : List Item), items env defs = .ok is →
    (∀ v ∈ defs, Known env v.type.base) ∧ is = defs.map (itemP env)
  | [], is, h => by cases h; exact ⟨fun _ h => (by cases h), rfl⟩
  | v :: vs, is, h => by
    simp only [items] at h
    cases h1 : item env v with
    | error e => simp [h1] at h
    | ok i1 =>
      cases h2 : items env vs with
      | error e => simp [h1, h2] at h
      | ok is2 =>
        simp only [h1, h2, Except.ok.injEq] at h
        obtain ⟨hk2, rfl⟩ := items_inv env vs is2 h2
        obtain ⟨hk, rfl⟩ := item_inv h1
        exact ⟨fun w hw => (List.mem_cons.mp hw).elim (· ▸ hk) (hk2 w), h.symm⟩

theorem items_mem (env : Env) (defs : List VarDef) (is : List Item) (h : items env defs = .ok is) :
    ∀ i ∈ is, ∃ v ∈ defs, item env v = .ok i := by
  obtain ⟨hk, rfl⟩ := items_inv env defs is h
  intro i hi
  obtain ⟨v, hv, rfl⟩ := List.mem_map.mp hi
  exact ⟨v, hv, item_ok env v (hk v hv)⟩

theorem generate_inv {env : Env} {defs : List VarDef} {st st' : St} {out : Out}
    (h : Arguments.generate env defs st = .ok (out, st')) :
    ∃ is, items env defs = .ok is ∧ st' = is.foldl (fun st i => st.record i.use) st := by
  unfold Arguments.generate at h
  cases hi : items env defs with
  | error e => simp [hi] at h
  | ok is =>
    simp only [hi, Except.ok.injEq, Prod.mk.injEq] at h
    exact ⟨is, rfl, h.2.symm⟩

end Ariadne.ArgProofs
