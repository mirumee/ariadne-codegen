/-
  The witness of C03-F9, which is also the non-vacuity input of the constructibility theorems, and
  what is evaluated on it.  Only the model is needed for that, so nothing here waits for the proofs
  about `Model/ArgConstruct.lean`.
-/
import AriadneModel.Model.ArgConstruct
import AriadneModel.Model.ArgSend
import AriadneModel.Proofs.Coerce


namespace Ariadne.ArgProofs.F9
open Ariadne.Coerce Ariadne.ArgValues Ariadne.ArgSend Ariadne.PydInit Ariadne.ArgConstruct

/-- C03-F9: `input P { limit: Int! = 10, name: String }` obtained by introspection; the caller sets
    `name` and leaves `limit` to the server-side default -/
def f9Fields : List IField := [⟨"limit", .named "Int" true, some (.num 10 0)⟩, ⟨"name", .named "String" false, none⟩]
def f9Cfg : Cfg := { schema := ⟨[("P", .input f9Fields)]⟩, scalars := [], snake := true }
def f9Defs : List VarDecl := [⟨"p", .nonNull (.named "P"), none⟩]
def f9IDefs : List IField := f9Defs.map (·.toIField)
def f9Inst (limit : AV) : AV :=
  .model "P" [(fieldKeyOf f9Cfg ⟨"limit", .named "Int" true, some (.num 10 0)⟩, limit),
              (fieldKeyOf f9Cfg ⟨"name", .named "String" false, none⟩, .str "n")]

/-- the witness (`limit` unset) and its constructible twin (`limit = 3`), evaluated together: both
    are schema-valid, only the first is inside the trigger; built through the class, the
    introspection class demands `limit`, the SDL class does not -/
theorem f9_facts :
    (names f9Fields).Nodup ∧ (lookupNamesOf (classFieldsOf .sdl f9Cfg f9Fields)).Nodup
    ∧ argsValid f9Cfg f9IDefs [f9Inst .unset] = true ∧ argsValid f9Cfg f9IDefs [f9Inst (.int 3)] = true
    ∧ trigDefaultLostIntro .intro f9Cfg [f9Inst .unset] = true
    ∧ trigDefaultLostIntro .intro f9Cfg [f9Inst (.int 3)] = false
    ∧ (match initModel (classFields .intro f9Cfg "P") [("name", .str "n")] with
       | .error e => e.missing == ["limit"] && e.invalid.isEmpty
       | .ok _ => false) = true
    ∧ (initModel (classFields .sdl f9Cfg "P") [("name", .str "n")]).toOption.isSome = true := by
  decide +kernel

theorem f9_get (n : String) (fs : List IField) (h : f9Cfg.schema.get? n = some (.input fs)) : fs = f9Fields := by
  have hm := ISchema.get?_mem h
  simp only [f9Cfg, List.mem_singleton, Prod.mk.injEq, IType.input.injEq] at hm
  exact hm.2

theorem f9_clean : ClassNamesClean f9Cfg := by
  intro n fs h
  rw [f9_get n fs h]; exact f9_facts.2.1

theorem f9_inputTypes : ∀ d ∈ f9Defs, isInputType f9Cfg.schema d.type.base = true := by decide
theorem f9_varNames : (f9Defs.map (·.name)).Nodup := by decide

theorem f9_valid_unset : argsValid f9Cfg f9IDefs [f9Inst .unset] = true := f9_facts.2.2.1
theorem f9_valid_set : argsValid f9Cfg f9IDefs [f9Inst (.int 3)] = true := f9_facts.2.2.2.1
theorem f9_trig_unset : trigDefaultLostIntro .intro f9Cfg [f9Inst .unset] = true := f9_facts.2.2.2.2.1
theorem f9_trig_set : trigDefaultLostIntro .intro f9Cfg [f9Inst (.int 3)] = false := f9_facts.2.2.2.2.2.1

end Ariadne.ArgProofs.F9
