/-
  Lemmas about graphql-core's input coercion as modelled in Spec/CoerceInput.lean: for a scalar literal the typed
  `parse_literal` is the untyped one (except `ID` on an int literal), and what a success of the two passes over an
  input object says about the head field and the rest.
-/
import AriadneModel.Spec.CoerceInput


namespace Ariadne.CoerceInput
open Ariadne.InputGen (TypeRef Lit specifiedScalars)

theorem nestE_zero (r : Except CErr J) : nestE 0 r = r := by
  cases r <;> rfl

theorem nestE_inv (k : Nat) (r : Except CErr J) (d : J) (h : nestE k r = .ok d) : ∃ d', r = .ok d' := by
  cases r with
  | ok d' => exact ⟨d', rfl⟩
  | error e => simp [nestE] at h

theorem unNN_base (t : TypeRef) : (unNN t).base = t.base := by
  induction t with
  | named n => rfl
  | list t _ => rfl
  | nonNull t ih => simpa [unNN, TypeRef.base] using ih

theorem finish_cons_inv {f : CField} {fs : List CField} {cs out : List (String × J)} (h : finish (f :: fs) cs = .ok out) :
    ∃ rest, finish fs cs = .ok rest ∧
      ((∃ c, J.lookup f.name cs = some c ∧ out = (f.name, c) :: rest)
       ∨ (J.lookup f.name cs = none ∧ ∃ d, f.default = some (.ok d) ∧ out = (f.name, d) :: rest)
       ∨ (J.lookup f.name cs = none ∧ f.default = none ∧ f.type.isNonNull = false ∧ out = rest)) := by
  simp only [finish] at h
  cases hf : finish fs cs with
  | error e => simp [hf] at h
  | ok rest =>
    refine ⟨rest, rfl, ?_⟩
    simp only [hf] at h
    cases hl : J.lookup f.name cs with
    | some c => simp only [hl, Except.ok.injEq] at h; exact .inl ⟨c, rfl, h.symm⟩
    | none =>
      simp only [hl] at h
      cases hd : f.default with
      | none =>
        simp only [hd] at h
        cases hnn : f.type.isNonNull with
        | true => simp [hnn] at h
        | false => simp only [hnn, Bool.false_eq_true, if_false, Except.ok.injEq] at h; exact .inr (.inr ⟨rfl, rfl, rfl, h.symm⟩)
      | some r =>
        cases r with
        | error e => simp [hd] at h
        | ok d => simp only [hd, Except.ok.injEq] at h; exact .inr (.inl ⟨rfl, d, rfl, h.symm⟩)

theorem coerceKvs_cons_inv {S : CSchema} {fs : List CField} {k : String} {v : J} {rest cs : List (String × J)}
    (h : coerceKvs S fs ((k, v) :: rest) = .ok cs) :
    ∃ cf c1 cs', fs.find? (·.name == k) = some cf ∧ coerce S cf.type v = .ok c1 ∧ coerceKvs S fs rest = .ok cs' ∧
      cs = (k, c1) :: cs' := by
  simp only [coerceKvs] at h
  cases hf : fs.find? (·.name == k) with
  | none => simp [hf] at h
  | some cf =>
    simp only [hf] at h
    cases hv : coerce S cf.type v with
    | error e => simp [hv] at h
    | ok c1 =>
      simp only [hv] at h
      cases hr : coerceKvs S fs rest with
      | error e => simp [hr] at h
      | ok cs' => simp only [hr, Except.ok.injEq] at h; exact ⟨cf, c1, cs', rfl, hv, rfl, h.symm⟩

theorem coerceKvs_keys {S : CSchema} : ∀ (fs : List CField) (rest cs : List (String × J)), coerceKvs S fs rest = .ok cs →
    cs.map (·.1) = rest.map (·.1) := by
  intro fs rest
  induction rest with
  | nil => intro cs h; simp [coerceKvs] at h; subst h; rfl
  | cons kv rest ih =>
    intro cs h
    obtain ⟨k, v⟩ := kv
    obtain ⟨cf, c1, cs', _, _, hr, rfl⟩ := coerceKvs_cons_inv h
    simp [ih cs' hr]

theorem specified_cases {n : String} (h : n ∈ specifiedScalars) :
    n = "Int" ∨ n = "Float" ∨ n = "String" ∨ n = "Boolean" ∨ n = "ID" := by
  simp only [specifiedScalars, List.mem_cons, List.not_mem_nil, or_false] at h
  rcases h with h | h | h | h | h <;> simp [h]

theorem not_specified {n : String} (h : n ∉ specifiedScalars) :
    n ≠ "Int" ∧ n ≠ "Float" ∧ n ≠ "String" ∧ n ≠ "Boolean" ∧ n ≠ "ID" := by
  simp only [specifiedScalars, List.mem_cons, List.not_mem_nil, or_false, not_or] at h
  exact ⟨h.2.1, h.2.2.1, h.1, h.2.2.2.1, h.2.2.2.2⟩

theorem coerceBuiltin_none_iff (n : String) (v : J) : coerceBuiltin n v = none ↔ n ∉ specifiedScalars := by
  constructor
  · intro h hm
    rcases specified_cases hm with rfl | rfl | rfl | rfl | rfl <;> simp [coerceBuiltin] at h
  · intro h
    obtain ⟨h1, h2, h3, h4, h5⟩ := not_specified h
    simp [coerceBuiltin, h1, h2, h3, h4, h5]

theorem litBuiltin_none_iff (n : String) (l : Lit) : litBuiltin n l = none ↔ n ∉ specifiedScalars := by
  constructor
  · intro h hm
    rcases specified_cases hm with rfl | rfl | rfl | rfl | rfl <;> simp [litBuiltin] at h
  · intro h
    obtain ⟨h1, h2, h3, h4, h5⟩ := not_specified h
    simp [litBuiltin, h1, h2, h3, h4, h5]

theorem coerceBuiltin_some_mem {n : String} {v : J} {r : Except CErr J} (h : coerceBuiltin n v = some r) :
    n ∈ specifiedScalars := by
  by_cases hn : n ∈ specifiedScalars
  · exact hn
  · rw [(coerceBuiltin_none_iff n v).mpr hn] at h
    cases h

theorem litBuiltin_some_mem {n : String} {l : Lit} {r : Except CErr J} (h : litBuiltin n l = some r) :
    n ∈ specifiedScalars := by
  by_cases hn : n ∈ specifiedScalars
  · exact hn
  · rw [(litBuiltin_none_iff n l).mpr hn] at h
    cases h

def scalarLit : Lit → Bool
  | .int _ | .float _ | .str _ | .bool _ => true
  | _ => false

theorem litBuiltin_nonscalar {n : String} {l : Lit} {r : Except CErr J} (h : litBuiltin n l = some r)
    (hl : scalarLit l = false) : ∃ e, r = .error e := by
  rcases specified_cases (litBuiltin_some_mem h) with rfl | rfl | rfl | rfl | rfl <;>
    cases l <;> simp [scalarLit] at hl <;> simp [litBuiltin] at h <;> exact ⟨_, h.symm⟩

/-- for a scalar literal `parse_literal` of every leaf type that accepts it returns what
    `value_from_ast_untyped` returns - except `ID`, which turns an int literal into a string -/
theorem litLeaf_untyped (s : CSchema) (n : String) (l : Lit) (d : J) (hl : scalarLit l = true)
    (hid : ∀ v, l = .int v → n ≠ "ID") (h : litLeaf s n l = .ok d) : untyped l = .ok d := by
  unfold litLeaf at h
  cases hb : litBuiltin n l with
  | none =>
    simp only [hb] at h
    cases hf : s.find? n with
    | none => simp [hf] at h
    | some ct =>
      cases ct with
      | scalar m => simpa [hf] using h
      | enum m vals => cases l <;> simp [scalarLit] at hl <;> simp [hf] at h
      | input m fs => simp [hf] at h
  | some r =>
    simp only [hb] at h
    subst h
    rcases specified_cases (litBuiltin_some_mem hb) with rfl | rfl | rfl | rfl | rfl
    · cases l <;> simp [scalarLit] at hl <;> simp [litBuiltin] at hb
      case int v => split at hb <;> simp at hb; simp [untyped, hb]
    · cases l <;> simp [scalarLit] at hl <;> simp [litBuiltin] at hb
      case int v => simp [untyped, hb]
      case float x => simpa [untyped] using hb
    · cases l <;> simp [scalarLit] at hl <;> simp [litBuiltin] at hb
      case str x => simp [untyped, hb]
    · cases l <;> simp [scalarLit] at hl <;> simp [litBuiltin] at hb
      case bool b => simp [untyped, hb]
    · cases l <;> simp [scalarLit] at hl <;> simp [litBuiltin] at hb
      case int v => exact absurd rfl (hid v rfl)
      case str x => simp [untyped, hb]

end Ariadne.CoerceInput
