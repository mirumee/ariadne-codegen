/-
  Lemmas about Model/Settings.lean for C17.  Both `__post_init__`s are `firstError` over an ordered check list whose
  checks raise exactly when their constraint is violated: what the properties say of them is said once for such a list.
  Then the primitive checks on option values of unknown kind (`pathCheck`, `identCheckV`, `firstBadHeaderV`,
  `firstNonFileV`): when they raise and what; and association-list facts for `unknown_keys_ignored`.
-/
import AriadneModel.Model.Settings
import AriadneModel.Proofs.ListLemmas

namespace Ariadne.Settings

/-- "the first check (in order) that raises" is core's `List.findSome?`: what core says of that — `none` iff every
    item gives `none`; `some e` iff the list splits at an item that gives `some e` after items that all give `none` —
    is what is known of both `__post_init__`s -/
theorem firstError_eq {κ : Type} (eval : κ → Option ConfigError) : ∀ ks, firstError eval ks = ks.findSome? eval
  | [] => rfl
  | k :: ks => by rw [firstError, List.findSome?_cons, firstError_eq eval ks]; cases eval k <;> rfl

theorem firstError_first_violation {κ : Type} {eval : κ → Option ConfigError} {V : κ → Prop}
    (h : ∀ k, (∃ e, eval k = some e) ↔ V k) {pre post : List κ} {k : κ} (hk : V k) (hpre : ∀ k' ∈ pre, ¬ V k') :
    ∃ e, eval k = some e ∧ firstError eval (pre ++ k :: post) = some e := by
  obtain ⟨e, he⟩ := (h k).mpr hk
  rw [firstError_eq]
  refine ⟨e, he, List.findSome?_eq_some_iff.mpr ⟨pre, k, post, rfl, he, fun k' hk' => ?_⟩⟩
  cases hc : eval k' with
  | none => rfl
  | some e' => exact absurd ((h k').mp ⟨e', hc⟩) (hpre k' hk')

theorem firstError_none_iff_no_violation {κ : Type} {eval : κ → Option ConfigError} {V : κ → Prop}
    (h : ∀ k, (∃ e, eval k = some e) ↔ V k) (ks : List κ) : firstError eval ks = none ↔ ∀ k ∈ ks, ¬ V k := by
  rw [firstError_eq, List.findSome?_eq_none_iff]
  constructor
  · intro hn k hk hv
    obtain ⟨e, he⟩ := (h k).mpr hv
    rw [hn k hk] at he
    cases he
  · intro hn k hk
    cases hc : eval k with
    | none => rfl
    | some e => exact absurd ((h k).mp ⟨e, hc⟩) (hn k hk)

theorem firstError_some_violation {κ : Type} {eval : κ → Option ConfigError} {V : κ → Prop}
    (h : ∀ k, (∃ e, eval k = some e) ↔ V k) (ks : List κ) (e : ConfigError) (he : firstError eval ks = some e) :
    ∃ pre k post, ks = pre ++ k :: post ∧ eval k = some e ∧ V k ∧ ∀ k' ∈ pre, ¬ V k' := by
  obtain ⟨pre, k, post, hs, hk, hpre⟩ := List.findSome?_eq_some_iff.mp (firstError_eq eval ks ▸ he)
  refine ⟨pre, k, post, hs, hk, (h k).mp ⟨e, hk⟩, fun k' hk' hv => ?_⟩
  obtain ⟨e2, he2⟩ := (h k').mpr hv
  rw [hpre k' hk'] at he2
  cases he2

theorem mem_order (k : ClientCheck) : k ∈ ClientCheck.order := by cases k <;> decide

theorem typed_or_internal (e : ConfigError) : e.typed = true ∨ ∃ x, e = .internal x := by
  cases e <;> first | (left; rfl) | (right; exact ⟨_, rfl⟩)

/-- a header value can be resolved: it is literal, or names a non-empty environment variable -/
def HeaderResolvable (env : Env) (v : String) : Prop :=
  v.toList.head? ≠ some '$' ∨ ∃ val, env.environ (lstripDollar v) = some val ∧ val ≠ ""

theorem headerValue_ok_iff (env : Env) (v : String) :
    (∃ r, headerValue env v = .ok r) ↔ HeaderResolvable env v := by
  unfold headerValue HeaderResolvable
  by_cases h : v.toList.head? = some '$'
  · simp [h]
    cases he : env.environ (lstripDollar v) with
    | none => simp
    | some val =>
      by_cases hv : val = ""
      · simp [hv]
      · simp [hv]
  · simp [h]

theorem headerValue_error (env : Env) (v : String) (e : ConfigError) (h : headerValue env v = .error e) :
    e = .envVarMissing (lstripDollar v) := by
  unfold headerValue at h
  by_cases hd : (v.toList.head? == some '$') = true
  · simp only [hd, if_true] at h
    cases he : env.environ (lstripDollar v) with
    | none => simp [he] at h; exact h.symm
    | some val =>
      by_cases hv : val = ""
      · simp [he, hv] at h; exact h.symm
      · simp [he, hv] at h
  · simp [hd] at h

/-! ### class test: the specification implies what the code tests, not conversely -/

theorem declaredChars_imp_infix (pat text : List Char) (h : declaredChars pat text = true) :
    isInfixOf pat text = true := by
  induction text with
  | nil => simp [declaredChars] at h
  | cons c cs ih =>
    simp only [declaredChars, Bool.or_eq_true, Bool.and_eq_true] at h
    simp only [isInfixOf, Bool.or_eq_true]
    rcases h with h | h
    · exact Or.inl h.1
    · exact Or.inr (ih h)

theorem classDeclared_imp_definedIn (env : Env) (p c : String) (h : classDeclared env p c = true) :
    classDefinedIn env p c = true :=
  declaredChars_imp_infix _ _ h

theorem lookup_eq (k : String) (l : List (String × TV)) : TV.lookup k l = l.lookup k :=
  Lists.eq_lookup_of_eqns TV.lookup (fun _ => rfl) (fun _ _ _ _ => rfl) k l

theorem lookup_mem (k : String) (v : TV) (l : List (String × TV)) (h : TV.lookup k l = some v) : (k, v) ∈ l :=
  Lists.lookup_mem (lookup_eq k l ▸ h)

theorem lookup_filter_key (p : String → Bool) (k : String) (hk : p k = true) (l : List (String × TV)) :
    TV.lookup k (l.filter (fun kv => p kv.1)) = TV.lookup k l := by
  induction l with
  | nil => simp [TV.lookup]
  | cons kv rest ih =>
    obtain ⟨k', v⟩ := kv
    by_cases hp : p k' = true
    · simp [List.filter, hp, TV.lookup, ih]
    · have hne : k' ≠ k := by
        intro heq; rw [heq] at hp; exact hp hk
      simp [List.filter, hp, TV.lookup, hne, ih]

theorem lookup_filter_some (p : String → Bool) (k : String) (v : TV) (l : List (String × TV))
    (h : TV.lookup k (l.filter (fun kv => p kv.1)) = some v) : TV.lookup k l = some v := by
  have hk : p k = true := (List.mem_filter.mp (lookup_mem k v _ h)).2
  rwa [lookup_filter_key p k hk] at h

theorem filter_dictSet (p : String → Bool) (k : String) (v : TV) (hk : p k = true) (l : Dict) :
    (dictSet k v l).filter (fun kv => p kv.1) = dictSet k v (l.filter (fun kv => p kv.1)) := by
  induction l with
  | nil => simp [dictSet, hk]
  | cons kv rest ih =>
    obtain ⟨k', v'⟩ := kv
    by_cases he : (k' == k) = true
    · have hkk : k' = k := by simpa using he
      subst hkk
      simp [dictSet, List.filter, hk]
    · by_cases hp : p k' = true <;> simp [dictSet, he, List.filter, hp, ih]

theorem lookup_dictSet (k k' : String) (v : TV) (l : Dict) :
    TV.lookup k (dictSet k' v l) = if k' = k then some v else TV.lookup k l := by
  rw [lookup_eq, lookup_eq]
  exact Lists.lookup_set_of_eqns dictSet (fun _ _ => rfl) (fun _ _ _ _ _ => by simp [dictSet]) k' v k l

theorem lookup_dictSet_ne (k k' : String) (v : TV) (l : Dict) (h : k ≠ k') :
    TV.lookup k (dictSet k' v l) = TV.lookup k l := by
  rw [lookup_dictSet, if_neg h.symm]

theorem lookup_dictSet_eq (k : String) (v : TV) (l : Dict) : TV.lookup k (dictSet k v l) = some v := by
  rw [lookup_dictSet, if_pos rfl]

/-- `v` is a `str` naming a path with the property `test` -/
def IsPath (test : String → Bool) (v : TV) : Prop := ∃ p, v = .str p ∧ test p = true

/-- `v` is a `str` that can be used as a Python identifier / module name -/
def IsName (env : Env) (v : TV) : Prop := ∃ n, v = .str n ∧ validName env n = true

/-- `v` is a table of `str` values each of which can be resolved -/
def HeadersOk (env : Env) (v : TV) : Prop :=
  ∃ kvs, v = .table kvs ∧ ∀ kv ∈ kvs, ∃ h, kv.2 = .str h ∧ HeaderResolvable env h

/-- everything Python iterates over in `v` is a `str` naming a file -/
def FilesOk (env : Env) (v : TV) : Prop := ∃ items, v.pyIter = some items ∧ ∀ f ∈ items, IsPath env.isFile f

theorem isPath_mono (t1 t2 : String → Bool) (v : TV) (h : ∀ p, t1 p = true → t2 p = true) (hp : IsPath t1 v) : IsPath t2 v := by
  obtain ⟨p, hv, ht⟩ := hp
  exact ⟨p, hv, h p ht⟩

theorem pathCheck_some_iff (missing : List String) (test : String → Bool) (err : String → ConfigError) (v : TV) :
    (∃ e, pathCheck missing test err v = some e) ↔ ¬ IsPath test v := by
  unfold IsPath
  cases v <;> simp [pathCheck]

theorem pathCheck_eq (missing : List String) (test : String → Bool) (err : String → ConfigError) (v : TV) (e : ConfigError)
    (h : pathCheck missing test err v = some e) :
    (∃ p, v = .str p ∧ test p = false ∧ e = err p) ∨ (v.isStr = false ∧ e = .typeErrorAsMissing missing) := by
  cases v <;> simp [pathCheck, TV.isStr] at h ⊢ <;> try exact h.symm
  case str p =>
    cases ht : test p <;> simp [ht] at h
    exact ⟨rfl, h.symm⟩

theorem identCheckV_some_iff (env : Env) (v : TV) : (∃ e, identCheckV env v = some e) ↔ ¬ IsName env v := by
  unfold IsName
  cases v <;> simp [identCheckV]
  case str n => unfold identCheck; cases validName env n <;> simp

theorem identCheckV_eq (env : Env) (v : TV) (e : ConfigError) (h : identCheckV env v = some e) :
    (∃ n, v = .str n ∧ e = .badIdentifier n) ∨ (v.isStr = false ∧ e = .internal "AttributeError") := by
  cases v <;> simp [identCheckV, TV.isStr] at h ⊢ <;> try exact h.symm
  case str n =>
    unfold identCheck at h
    split at h <;> simp_all

theorem objectNameCheck_str (v : TV) (h : v.isStr = true) : objectNameCheck v = none := by
  cases v <;> simp [TV.isStr] at h <;> rfl

theorem headerValueV_ok_iff (env : Env) (v : TV) :
    (∃ r, headerValueV env v = .ok r) ↔ ∃ h, v = .str h ∧ HeaderResolvable env h := by
  cases v <;> simp [headerValueV]
  case str s =>
    rw [← headerValue_ok_iff]
    cases headerValue env s <;> simp

theorem resolveHeadersKvs_eq (env : Env) : ∀ kvs, resolveHeadersKvs env kvs =
    kvs.mapM (fun kv => match headerValueV env kv.2 with | .ok v => .ok (kv.1, v) | .error e => .error e)
  | [] => rfl
  | (k, v) :: rest => by
    rw [List.mapM_cons, ← resolveHeadersKvs_eq env rest, resolveHeadersKvs]
    cases headerValueV env v <;> cases resolveHeadersKvs env rest <;> rfl

theorem resolveHeadersKvs_ok_iff (env : Env) (kvs : List (String × TV)) :
    (∃ r, resolveHeadersKvs env kvs = .ok r) ↔ ∀ kv ∈ kvs, ∃ h, kv.2 = .str h ∧ HeaderResolvable env h := by
  simp only [resolveHeadersKvs_eq, Lists.mapM_isOk_iff, ← headerValueV_ok_iff]
  refine forall₂_congr fun kv _ => ?_
  cases headerValueV env kv.2 <;> simp

theorem firstBadHeaderV_none_iff (env : Env) (v : TV) : firstBadHeaderV env v = none ↔ HeadersOk env v := by
  unfold firstBadHeaderV HeadersOk
  cases v <;> simp only [resolveHeadersV] <;> try (simp; done)
  case table kvs =>
    have key := resolveHeadersKvs_ok_iff env kvs
    cases hr : resolveHeadersKvs env kvs with
    | ok r =>
      have hall := key.mp ⟨r, hr⟩
      simp only [true_iff]
      exact ⟨kvs, rfl, hall⟩
    | error e =>
      simp only [reduceCtorEq, false_iff]
      rintro ⟨kvs', hk, hall⟩
      injection hk with hk
      subst hk
      obtain ⟨r, hr'⟩ := key.mpr hall
      rw [hr] at hr'
      cases hr'

theorem headerValueV_error (env : Env) (v : TV) (e : ConfigError) (h : headerValueV env v = .error e) :
    (∃ s, v = .str s ∧ e = .envVarMissing (lstripDollar s)) ∨ (v.isStr = false ∧ e = .internal "AttributeError") := by
  cases v <;> simp [headerValueV, TV.isStr] at h ⊢ <;> try exact h.symm
  case str s =>
    cases hs : headerValue env s with
    | ok r => simp [hs] at h
    | error e' =>
      simp [hs] at h
      rw [← h]
      exact headerValue_error env s e' hs

/-- what a failing header resolution raises: the missing variable of some `str` value, or
    `AttributeError` for a value that is not a `str` -/
def HeaderErrorOf (kvs : List (String × TV)) (e : ConfigError) : Prop :=
  ∃ kv ∈ kvs, (∃ s, kv.2 = .str s ∧ e = .envVarMissing (lstripDollar s)) ∨ (kv.2.isStr = false ∧ e = .internal "AttributeError")

theorem resolveHeadersKvs_error (env : Env) (kvs : List (String × TV)) (e : ConfigError)
    (h : resolveHeadersKvs env kvs = .error e) : HeaderErrorOf kvs e := by
  obtain ⟨kv, hm, hx⟩ := Lists.mapM_error_mem (resolveHeadersKvs_eq env kvs ▸ h)
  refine ⟨kv, hm, headerValueV_error env kv.2 e ?_⟩
  cases hv : headerValueV env kv.2 <;> simp_all

theorem firstBadHeaderV_some (env : Env) (v : TV) (e : ConfigError) (h : firstBadHeaderV env v = some e) :
    (∃ kvs, v = .table kvs ∧ HeaderErrorOf kvs e) ∨ (v.isTable = false ∧ e = .internal "AttributeError") := by
  unfold firstBadHeaderV at h
  cases v <;> simp [resolveHeadersV, TV.isTable] at h ⊢ <;> try exact h.symm
  case table kvs =>
    cases hr : resolveHeadersKvs env kvs with
    | ok r => simp [hr] at h
    | error e' =>
      simp [hr] at h
      subst h
      exact resolveHeadersKvs_error env kvs e' hr

theorem firstNonFileV_none_iff (env : Env) (missing : List String) (fs : List TV) :
    firstNonFileV env missing fs = none ↔ ∀ f ∈ fs, IsPath env.isFile f := by
  induction fs with
  | nil => simp [firstNonFileV]
  | cons f fs ih =>
    cases f <;> simp [firstNonFileV, IsPath]
    case str p =>
      by_cases h : env.isFile p = true
      · simp [h, ih, IsPath]
      · simp [h]

/-- what the loop over `files_to_include` raises -/
def FileErrorOf (env : Env) (missing : List String) (items : List TV) (e : ConfigError) : Prop :=
  ∃ f ∈ items, (∃ p, f = .str p ∧ env.isFile p = false ∧ e = .notFile p) ∨ (f.isStr = false ∧ e = .typeErrorAsMissing missing)

theorem firstNonFileV_some (env : Env) (missing : List String) (fs : List TV) (e : ConfigError)
    (h : firstNonFileV env missing fs = some e) : FileErrorOf env missing fs e := by
  induction fs with
  | nil => simp [firstNonFileV] at h
  | cons f fs ih =>
    cases f
    case str p =>
      by_cases hf : env.isFile p = true
      · simp only [firstNonFileV, hf, if_true] at h
        obtain ⟨g, hg, hh⟩ := ih h
        exact ⟨g, by simp [hg], hh⟩
      · simp only [firstNonFileV, hf] at h
        simp at h
        exact ⟨.str p, by simp, Or.inl ⟨p, rfl, by simpa using hf, h.symm⟩⟩
    all_goals
      simp only [firstNonFileV, Option.some.injEq] at h
      exact ⟨_, List.mem_cons_self, Or.inr ⟨by simp [TV.isStr], h.symm⟩⟩

/-! ### `firstBadHeader` and `firstNonFile`, the same checks on lists of strings (no property goes through them: the
  settings are read as values of unknown kind): instances of the checks on values -/

theorem firstNonFileV_map_str (env : Env) (missing : List String) (fs : List String) :
    firstNonFileV env missing (fs.map .str) = firstNonFile env fs := by
  induction fs with
  | nil => rfl
  | cons f fs ih => simp only [List.map_cons, firstNonFileV, firstNonFile, ih]

theorem resolveHeadersKvs_map_str (env : Env) (hs : List (String × String)) :
    resolveHeadersKvs env (hs.map fun kv => (kv.1, .str kv.2)) =
      match resolveHeaders env hs with
      | .ok r => .ok (r.map fun kv => (kv.1, .str kv.2))
      | .error e => .error e := by
  induction hs with
  | nil => rfl
  | cons kv rest ih =>
    obtain ⟨k, v⟩ := kv
    simp only [List.map_cons, resolveHeadersKvs, resolveHeaders, headerValueV, ih]
    cases headerValue env v <;> cases resolveHeaders env rest <;> rfl

theorem firstBadHeaderV_map_str (env : Env) (hs : List (String × String)) :
    firstBadHeaderV env (.table (hs.map fun kv => (kv.1, .str kv.2))) = firstBadHeader env hs := by
  simp only [firstBadHeaderV, resolveHeadersV, resolveHeadersKvs_map_str, firstBadHeader]
  cases resolveHeaders env hs <;> rfl

theorem firstBadHeader_none_iff (env : Env) (hs : List (String × String)) :
    firstBadHeader env hs = none ↔ ∀ kv ∈ hs, HeaderResolvable env kv.2 := by
  rw [← firstBadHeaderV_map_str, firstBadHeaderV_none_iff]
  constructor
  · rintro ⟨_, ⟨rfl⟩, hall⟩ kv hm
    obtain ⟨_, ⟨rfl⟩, hr⟩ := hall _ (List.mem_map_of_mem (f := fun kv : String × String => (kv.1, TV.str kv.2)) hm)
    exact hr
  · intro hall
    refine ⟨_, rfl, fun kv hm => ?_⟩
    obtain ⟨kv0, hm0, rfl⟩ := List.mem_map.mp hm
    exact ⟨_, rfl, hall kv0 hm0⟩

theorem firstBadHeader_some (env : Env) (hs : List (String × String)) (e : ConfigError)
    (h : firstBadHeader env hs = some e) : ∃ kv ∈ hs, e = .envVarMissing (lstripDollar kv.2) := by
  rw [← firstBadHeaderV_map_str] at h
  obtain ⟨_, ⟨rfl⟩, _, hm, hkv⟩ | ⟨⟨⟩, _⟩ := firstBadHeaderV_some env _ e h
  obtain ⟨kv, hkv0, rfl⟩ := List.mem_map.mp hm
  obtain ⟨_, ⟨rfl⟩, he⟩ | ⟨⟨⟩, _⟩ := hkv
  exact ⟨kv, hkv0, he⟩

theorem firstNonFile_none_iff (env : Env) (fs : List String) :
    firstNonFile env fs = none ↔ ∀ f ∈ fs, env.isFile f = true := by
  rw [← firstNonFileV_map_str env [], firstNonFileV_none_iff]
  simp [IsPath]

theorem firstNonFile_some (env : Env) (fs : List String) (e : ConfigError) (h : firstNonFile env fs = some e) :
    ∃ f ∈ fs, env.isFile f = false ∧ e = .notFile f := by
  rw [← firstNonFileV_map_str env []] at h
  obtain ⟨_, hm, hf⟩ := firstNonFileV_some env [] _ e h
  obtain ⟨f, hf0, rfl⟩ := List.mem_map.mp hm
  obtain ⟨_, ⟨rfl⟩, hh⟩ | ⟨⟨⟩, _⟩ := hf
  exact ⟨f, hf0, hh⟩

end Ariadne.Settings
