/-
  Helper lemmas about `Spec.Coerce` (used by C03 and C07): the "assemble" half of input-object / variable
  coercion on field lists with pairwise distinct names.
-/
import AriadneModel.Spec.Coerce
import AriadneModel.Proofs.Json


namespace Ariadne.Coerce

def names (fs : List IField) : List String := fs.map (·.name)

def provided : List IField → List (Option J) → List (String × J)
  | f :: fs, some v :: vs => (f.name, v) :: provided fs vs
  | _ :: fs, none :: vs => provided fs vs
  | _, _ => []

/-- what coercion must return: provided value, else the default, else nothing -/
def expected : List IField → List (Option J) → List (String × J)
  | f :: fs, some v :: vs => (f.name, v) :: expected fs vs
  | f :: fs, none :: vs =>
    match f.default with
    | some d => (f.name, d) :: expected fs vs
    | none => expected fs vs
  | _, _ => []

def absentOK : List IField → List (Option J) → Bool
  | _ :: fs, some _ :: vs => absentOK fs vs
  | f :: fs, none :: vs => (f.default.isSome || !f.type.nonNull) && absentOK fs vs
  | [], [] => true
  | _, _ => false

theorem ISchema.get?_mem {s : ISchema} {n : String} {t : IType} (h : s.get? n = some t) : (n, t) ∈ s.types := by
  unfold ISchema.get? at h
  cases hf : s.types.find? (·.1 == n) with
  | none => simp [hf] at h
  | some p =>
    obtain ⟨k, t'⟩ := p
    have hk : k = n := by simpa using List.find?_some hf
    simp only [hf, Option.some.injEq] at h
    subst hk; subst h
    exact List.mem_of_find?_eq_some hf

theorem assemble_cons_notin (fs : List IField) (k : String) (x : J) (g : List (String × J))
    (h : k ∉ names fs) : assemble fs ((k, x) :: g) = assemble fs g := by
  induction fs with
  | nil => simp [assemble]
  | cons f fs ih =>
    have hk : k ≠ f.name := by
      intro e; apply h; simp [names, e]
    have hrest : k ∉ names fs := by
      intro m; apply h; simp [names] at m ⊢; exact Or.inr m
    simp only [assemble, J.lookup_cons_ne hk, ih hrest]

theorem provided_keys (fs : List IField) (vs : List (Option J)) :
    ∀ kv ∈ provided fs vs, kv.1 ∈ names fs := by
  induction fs generalizing vs with
  | nil => intro kv h; cases vs <;> simp [provided] at h
  | cons f fs ih =>
    intro kv h
    cases vs with
    | nil => simp [provided] at h
    | cons v vs =>
      cases v with
      | none =>
        simp only [provided] at h
        have := ih vs kv h
        simp [names] at this ⊢; exact Or.inr this
      | some v =>
        simp only [provided, List.mem_cons] at h
        cases h with
        | inl e => subst e; simp [names]
        | inr m => have := ih vs kv m; simp [names] at this ⊢; exact Or.inr this

theorem assemble_provided (fs : List IField) (vs : List (Option J)) (hd : (names fs).Nodup)
    (ha : absentOK fs vs = true) : assemble fs (provided fs vs) = .ok (expected fs vs) := by
  induction fs generalizing vs with
  | nil => cases vs <;> simp [assemble, expected]
  | cons f fs ih =>
    have hnd : (names fs).Nodup := by simp [names] at hd ⊢; exact hd.2
    have hnot : f.name ∉ names fs := by
      simp only [names, List.map_cons, List.nodup_cons] at hd
      exact hd.1
    cases vs with
    | nil => simp [absentOK] at ha
    | cons v vs =>
      cases v with
      | some v =>
        simp only [absentOK] at ha
        simp only [provided, assemble, J.lookup_cons_eq, expected, assemble_cons_notin fs f.name v _ hnot, ih vs hnd ha]
      | none =>
        simp only [absentOK, Bool.and_eq_true] at ha
        have hl : J.lookup f.name (provided fs vs) = none := by
          rw [J.lookup_none_iff]
          intro hm
          obtain ⟨kv, m, e⟩ := List.mem_map.mp hm
          exact hnot (e ▸ provided_keys fs vs kv m)
        simp only [provided, assemble, hl, expected]
        cases hdflt : f.default with
        | some d => simp [ih vs hnd ha.2]
        | none =>
          have : f.type.nonNull = false := by
            have := ha.1; simp [hdflt] at this; exact this
          simp [this, ih vs hnd ha.2]

theorem findField_of_mem (fs : List IField) (hd : (names fs).Nodup) (f : IField) (hm : f ∈ fs) :
    findField fs f.name = some f :=
  Lists.find?_of_nodup_map hd hm rfl

end Ariadne.Coerce
