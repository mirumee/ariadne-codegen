/-
  Lemmas about the association-list operations of Model/Json.lean (`dict.get`, `k in dict`): `J.lookup` is core's
  `List.lookup` (`lookup_eq`), what is known of that (Proofs/ListLemmas.lean) is known of it; and the equality test `J.beq` is reflexive.
-/
import AriadneModel.Model.Json
import AriadneModel.Proofs.ListLemmas

namespace Ariadne.J

theorem lookup_eq (k : String) (kvs : List (String × J)) : lookup k kvs = kvs.lookup k :=
  Lists.eq_lookup_of_eqns lookup (fun _ => rfl) (fun _ _ _ _ => rfl) k kvs

theorem lookup_cons_eq {k : String} {v : J} {g : List (String × J)} : lookup k ((k, v) :: g) = some v := by
  simp [lookup]

theorem lookup_cons_ne {k k' : String} {v : J} {g : List (String × J)} (h : k' ≠ k) :
    lookup k ((k', v) :: g) = lookup k g := by
  simp [lookup, h]

theorem lookup_none_iff (k : String) (kvs : List (String × J)) : lookup k kvs = none ↔ k ∉ kvs.map (·.1) := by
  rw [lookup_eq]; exact Lists.lookup_none_iff

theorem lookup_mem {k : String} {v : J} {kvs : List (String × J)} (h : lookup k kvs = some v) : (k, v) ∈ kvs :=
  Lists.lookup_mem (lookup_eq k kvs ▸ h)

theorem lookup_some_mem {k : String} {kvs : List (String × J)} {c : J} (h : lookup k kvs = some c) :
    k ∈ kvs.map (·.1) :=
  List.mem_map.mpr ⟨_, lookup_mem h, rfl⟩

theorem hasKey_of_some {k : String} {kvs : List (String × J)} {v : J} (h : lookup k kvs = some v) : hasKey k kvs = true := by
  simp [hasKey, h]

theorem hasKey_of_none {k : String} {kvs : List (String × J)} (h : lookup k kvs = none) : hasKey k kvs = false := by
  simp [hasKey, h]

theorem getD_of_some {k : String} {kvs : List (String × J)} {v : J} (h : lookup k kvs = some v) : getD k kvs = v := by
  simp [getD, h]

theorem getD_of_none {k : String} {kvs : List (String × J)} (h : lookup k kvs = none) : getD k kvs = .null := by
  simp [getD, h]

theorem hasKey_iff (k : String) (kvs : List (String × J)) : hasKey k kvs = true ↔ k ∈ kvs.map (·.1) := by
  unfold hasKey
  rw [lookup_eq]; exact Lists.lookup_isSome_iff

theorem hasKey_mem {k : String} {kvs : List (String × J)} (h : hasKey k kvs = true) : ∃ kv ∈ kvs, kv.1 = k := by
  simpa using (hasKey_iff k kvs).mp h

end Ariadne.J

namespace Ariadne.C03

mutual
theorem beq_refl (j : J) : J.beq j j = true := by
  cases j with
  | arr xs => simp [J.beq, beqList_refl xs]
  | obj kvs => simp [J.beq, beqKvs_refl kvs]
  | _ => simp [J.beq]
theorem beqList_refl (xs : List J) : J.beqList xs xs = true := by
  cases xs with
  | nil => simp [J.beqList]
  | cons x xs => simp [J.beqList, beq_refl x, beqList_refl xs]
theorem beqKvs_refl (kvs : List (String × J)) : J.beqKvs kvs kvs = true := by
  cases kvs with
  | nil => simp [J.beqKvs]
  | cons kv rest => obtain ⟨k, x⟩ := kv; simp [J.beqKvs, beq_refl x, beqKvs_refl rest]
end

end Ariadne.C03
