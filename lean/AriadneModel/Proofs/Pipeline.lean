/-
  Lemmas about Model/Pipeline.lean for C17: how `prepare` ends, as a relation with one constructor per phase
  (`Prepares`); the three endings of `generate`; per phase, what a failure looks like and when it is one of
  ariadne-codegen's own exception classes.  The statements of the property are in Properties/C17.lean; the file is
  in their namespace, `Ariadne.C17`, because `isOk` and `LookupsTame`, which those statements mention, are defined here.
-/
import AriadneModel.Model.Pipeline
import AriadneModel.Proofs.Settings
import AriadneModel.Proofs.SourceLoad

namespace Ariadne.C17
open Ariadne.Settings Ariadne.SourceLoad Ariadne.Pipeline

theorem identCheck_some_iff (env : Env) (n : String) :
    (∃ e, identCheck env n = some e) ↔ validName env n = false := by
  unfold identCheck; cases validName env n <;> simp

theorem identCheck_eq (env : Env) (n : String) (e : ConfigError) (h : identCheck env n = some e) :
    e = .badIdentifier n := by
  unfold identCheck at h; split at h <;> simp_all

theorem parseScalars_eq : ∀ kvs, parseScalars kvs = kvs.mapM (fun kv => parseScalar kv.1 kv.2)
  | [] => rfl
  | (n, d) :: rest => by
    rw [List.mapM_cons, ← parseScalars_eq rest, parseScalars]
    cases parseScalar n d <;> cases parseScalars rest <;> rfl

theorem parseScalars_missing_type (pre post : List (String × TV)) (n : String) (d : List (String × TV))
    (pres : List ScalarData) (hpre : parseScalars pre = .ok pres) (hd : TV.lookup "type" d = none) :
    parseScalars (pre ++ (n, .table d) :: post) = .error .scalarMissingType := by
  rw [parseScalars_eq] at hpre ⊢
  exact Lists.mapM_eq_error_iff.mpr ⟨pre, _, post, rfl, fun y hy => Lists.mapM_isOk_iff.mp ⟨pres, hpre⟩ y hy,
    by simp [parseScalar, hd]⟩

theorem generate_spec (r : ClientRun) (p : Prepared) :
    ((generate r p).log = [] ∧ ∃ m, (generate r p).result = .error (.generatePre, .codegen "ParsingError" m)) ∨
    (∃ e, (generate r p).result = .error (.generateWrite, e)) ∨ (∃ fs, (generate r p).result = .ok fs) := by
  by_cases hd : (!(duplicates (allFileNames r.env p.settings p.resultFiles)).isEmpty) = true
  · left; simp [generate, hd]
  · right
    simp only [generate, hd]
    generalize runSteps r.codeError _ _ = rs
    obtain ⟨oe, log⟩ := rs
    cases oe <;> simp

/-- How `prepare` ends: one constructor per phase that can fail, carrying the success of every earlier phase, and
    one for success.  `prepare r = x ↔ Prepares r x` (`prepares_of`, `Prepares.eq`); the phase is an index, so
    `cases prepares_of h` on `h : prepare r = .error (ph, e)` with a concrete `ph` leaves that phase's case alone. -/
inductive Prepares (r : ClientRun) : Except (Phase × PyErr) Prepared → Prop
  | settings {ce} (h1 : (getClientSettings r.env r.cfg).result = .error ce) : Prepares r (.error (.settings, .config ce))
  | loadSchema {s e} (h1 : (getClientSettings r.env r.cfg).result = .ok s)
      (h2 : loadSchema s.schemaPath.truthy r.schema = .error e) : Prepares r (.error (.loadSchema, e))
  | plugins {s sch e} (h1 : (getClientSettings r.env r.cfg).result = .ok s)
      (h2 : loadSchema s.schemaPath.truthy r.schema = .ok sch)
      (h3 : resolvePlugins s.plugins r.plugins = .error e) : Prepares r (.error (.plugins, e))
  | assertValid {s sch e} (h1 : (getClientSettings r.env r.cfg).result = .ok s)
      (h2 : loadSchema s.schemaPath.truthy r.schema = .ok sch) (h3 : resolvePlugins s.plugins r.plugins = .ok ())
      (h4 : assertValid (processSchema r.plugins sch) = .error e) : Prepares r (.error (.assertValid, e))
  | loadQueries {s sch e} (h1 : (getClientSettings r.env r.cfg).result = .ok s)
      (h2 : loadSchema s.schemaPath.truthy r.schema = .ok sch) (h3 : resolvePlugins s.plugins r.plugins = .ok ())
      (h4 : assertValid (processSchema r.plugins sch) = .ok ()) (hq : s.queriesPath.truthy = true)
      (h5 : loadQueries r.queries = .error e) : Prepares r (.error (.loadQueries, e))
  | addOperation {s sch e} (h1 : (getClientSettings r.env r.cfg).result = .ok s)
      (h2 : loadSchema s.schemaPath.truthy r.schema = .ok sch) (h3 : resolvePlugins s.plugins r.plugins = .ok ())
      (h4 : assertValid (processSchema r.plugins sch) = .ok ())
      (h5 : s.queriesPath.truthy = true → loadQueries r.queries = .ok ())
      (h6 : addOperations s.asyncClient.truthy (if s.queriesPath.truthy then r.queries.ops else []) [] = .error e) :
      Prepares r (.error (.addOperation, e))
  | ok {s sch files} (h1 : (getClientSettings r.env r.cfg).result = .ok s)
      (h2 : loadSchema s.schemaPath.truthy r.schema = .ok sch) (h3 : resolvePlugins s.plugins r.plugins = .ok ())
      (h4 : assertValid (processSchema r.plugins sch) = .ok ())
      (h5 : s.queriesPath.truthy = true → loadQueries r.queries = .ok ())
      (h6 : addOperations s.asyncClient.truthy (if s.queriesPath.truthy then r.queries.ops else []) [] = .ok files) :
      Prepares r (.ok { settings := s, schema := processSchema r.plugins sch, resultFiles := files })

theorem prepares (r : ClientRun) : Prepares r (prepare r) := by
  unfold prepare
  simp only [bind, Except.bind, pure, Except.pure, throw, throwThe, MonadExceptOf.throw]
  cases h1 : (getClientSettings r.env r.cfg).result with
  | error ce => exact .settings h1
  | ok s =>
    dsimp only
    cases h2 : loadSchema s.schemaPath.truthy r.schema with
    | error e => exact .loadSchema h1 h2
    | ok sch =>
      dsimp only
      cases h3 : resolvePlugins s.plugins r.plugins with
      | error e => exact .plugins h1 h2 h3
      | ok u =>
        dsimp only
        cases h4 : assertValid (processSchema r.plugins sch) with
        | error e => exact .assertValid h1 h2 h3 h4
        | ok u2 =>
          dsimp only
          cases hq : s.queriesPath.truthy with
          | false =>
            simp only [Bool.false_eq_true, if_false]
            have h5 : s.queriesPath.truthy = true → loadQueries r.queries = .ok () := by rw [hq]; exact fun h => nomatch h
            cases h6 : addOperations s.asyncClient.truthy [] [] with
            | error e => exact .addOperation h1 h2 h3 h4 h5 (by rw [hq]; exact h6)
            | ok fs => exact .ok h1 h2 h3 h4 h5 (by rw [hq]; exact h6)
          | true =>
            simp only [if_true]
            cases h5 : loadQueries r.queries with
            | error e => exact .loadQueries h1 h2 h3 h4 hq h5
            | ok u3 =>
              dsimp only
              cases h6 : addOperations s.asyncClient.truthy r.queries.ops [] with
              | error e => exact .addOperation h1 h2 h3 h4 (fun _ => h5) (by rw [hq]; exact h6)
              | ok fs => exact .ok h1 h2 h3 h4 (fun _ => h5) (by rw [hq]; exact h6)

theorem Prepares.eq {r : ClientRun} {x : Except (Phase × PyErr) Prepared} (h : Prepares r x) : prepare r = x := by
  unfold prepare
  cases h with
  | settings h1 => simp [bind, Except.bind, throw, throwThe, MonadExceptOf.throw, h1]
  | loadSchema h1 h2 => simp [bind, Except.bind, pure, Except.pure, throw, throwThe, MonadExceptOf.throw, h1, h2]
  | plugins h1 h2 h3 => simp [bind, Except.bind, pure, Except.pure, throw, throwThe, MonadExceptOf.throw, h1, h2, h3]
  | assertValid h1 h2 h3 h4 =>
    simp [bind, Except.bind, pure, Except.pure, throw, throwThe, MonadExceptOf.throw, h1, h2, h3, h4]
  | loadQueries h1 h2 h3 h4 hq h5 =>
    simp [bind, Except.bind, pure, Except.pure, throw, throwThe, MonadExceptOf.throw, h1, h2, h3, h4, hq, h5]
  | @addOperation s _ _ h1 h2 h3 h4 h5 h6 =>
    cases hq : s.queriesPath.truthy <;>
      simp_all [bind, Except.bind, pure, Except.pure, throw, throwThe, MonadExceptOf.throw]
  | @ok s _ _ h1 h2 h3 h4 h5 h6 =>
    cases hq : s.queriesPath.truthy <;>
      simp_all [bind, Except.bind, pure, Except.pure]

theorem prepares_of {r : ClientRun} {x : Except (Phase × PyErr) Prepared} (h : prepare r = x) : Prepares r x :=
  h ▸ prepares r

theorem codeAssumeValid_true : codeAssumeValid = true := rfl

theorem loadSchema_eq (fromPath : Bool) (o : SchemaOracle) :
    loadSchema fromPath o =
      match (if fromPath then loadSource o.src
             else match o.remote with
               | .ok => .ok ()
               | .introspectionError m => .error (.codegen "IntrospectionError" m)
               | .raw c => .error (.raw c)) with
      | .error e => .error e
      | .ok () =>
        match o.buildError with
        | some _ => .error (.raw "TypeError")
        | none => .ok { cache := some 0, trueErrors := o.trueErrors, hasQuery := o.hasQuery, hasMutation := o.hasMutation } := by
  unfold loadSchema
  cases fromPath
  · cases o.remote <;> rfl
  · simp only [if_true]
    cases loadSource o.src <;> rfl

theorem loadSchema_ok (fromPath : Bool) (o : SchemaOracle) (sch : SchemaState) (h : loadSchema fromPath o = .ok sch) :
    sch.cache = some 0 ∧ sch.hasQuery = o.hasQuery ∧ sch.hasMutation = o.hasMutation ∧ o.buildError = none := by
  rw [loadSchema_eq] at h
  split at h
  · cases h
  · split at h
    · cases h
    · rename_i hb
      injection h with h
      subst h
      exact ⟨rfl, rfl, rfl, hb⟩

def isOk {ε α : Type} : Except ε α → Bool
  | .ok _ => true
  | .error _ => false

theorem isOk_iff {ε α : Type} (x : Except ε α) : isOk x = true ↔ ∃ a, x = .ok a := by
  cases x <;> simp [isOk]

theorem runSteps_clean (codeError : GenStep → Option PyErr) (hc : ∀ st, codeError st = none)
    (steps : List (GenStep × String × Option PyErr)) (hs : ∀ st ∈ steps, st.2.2 = none) (log : List Effect) :
    (runSteps codeError steps log).1 = none := by
  induction steps generalizing log with
  | nil => rfl
  | cons st rest ih =>
    obtain ⟨g, f, i⟩ := st
    have hi : i = none := hs (g, f, i) (by simp)
    subst hi
    simp only [runSteps, hc]
    exact ih (fun st hst => hs st (by simp [hst])) _

theorem plannedSteps_clean (env : Env) (s : ClientSettings) (sch : SchemaState) (files : List String) (frags : List FragInfo)
    (hf : fragmentsStep frags = none ∨ fragmentsStep frags = some none) :
    ∀ st ∈ plannedSteps env s sch files frags, st.2.2 = none := by
  have hall : (plannedSteps env s sch files frags).all (fun st => st.2.2.isNone) = true := by
    unfold plannedSteps
    rcases hf with hf | hf <;> simp only [hf] <;>
      cases s.enableCustomOperations.truthy <;> cases sch.hasQuery <;> cases sch.hasMutation <;>
      simp [List.all_append, List.all_map, Function.comp_def]
  intro st hst
  have := List.all_eq_true.mp hall st hst
  cases h : st.2.2 with
  | none => rfl
  | some e => simp [h] at this

theorem fragmentsStep_of_no_trigger (q : QueriesOracle) (h : trigFragmentGenError q = false) :
    fragmentsStep q.frags = none ∨ fragmentsStep q.frags = some none := by
  unfold trigFragmentGenError at h
  cases hf : fragmentsStep q.frags with
  | none => exact Or.inl rfl
  | some x =>
    cases x with
    | none => exact Or.inr rfl
    | some e => simp [hf] at h

theorem loadSource_ok_iff (s : Source) :
    loadSource s = .ok () ↔ ∃ t, loadText s.parses s.root = .ok t ∧ s.parses t = true := by
  unfold loadSource loadDocument
  cases hl : loadText s.parses s.root with
  | error e => simp
  | ok t => by_cases hp : s.parses t = true <;> simp [hp]

theorem loadSource_ok_files (s : Source) (h : loadSource s = .ok ()) :
    ∀ p c, HasFile s.root p c → ∃ t, c = .text t ∧ s.parses t = true := by
  obtain ⟨t, ht, _⟩ := (loadSource_ok_iff s).mp h
  exact (loadText_ok_iff s.parses s.root).mp ⟨t, ht⟩

theorem loadSource_error_cases (s : Source) (e : PyErr) (h : loadSource s = .error e) :
    (∃ f t, e = .codegen "InvalidGraphqlSyntax" ("Invalid graphql syntax in file " ++ f) ∧
        HasFile s.root f (.text t) ∧ s.parses t = false) ∨
    (∃ cls p, e = .raw cls ∧ HasFile s.root p (.unreadable cls)) ∨
    (e = .raw "GraphQLSyntaxError" ∧ ∃ t, loadText s.parses s.root = .ok t ∧ s.parses t = false) := by
  unfold loadSource loadDocument at h
  cases hl : loadText s.parses s.root with
  | ok t =>
    simp only [hl] at h
    by_cases hp : s.parses t = true
    · simp [hp] at h
    · simp only [hp] at h
      injection h with h
      subst h
      exact Or.inr (Or.inr ⟨rfl, t, rfl, by simpa using hp⟩)
  | error le =>
    simp only [hl] at h
    injection h with h
    subst h
    have hr := (loadText_error_iff s.parses s.root le).mp hl
    cases le with
    | invalidSyntax f =>
      obtain ⟨pre, t, post, hsplit, hbad, _⟩ := readAll_invalid_split s.parses _ f hr
      left
      refine ⟨f, t, rfl, ?_, hbad⟩
      apply (mem_filesRead_iff s.root f (.text t)).mp
      rw [hsplit]
      simp
    | raw cls =>
      obtain ⟨pc, hm, hu⟩ := readAll_raw s.parses _ cls hr
      right; left
      refine ⟨cls, pc.1, rfl, ?_⟩
      apply (mem_filesRead_iff s.root pc.1 (.unreadable cls)).mp
      rw [← hu]
      exact hm

theorem loadSource_error_typed (s : Source) (e : PyErr) (h : loadSource s = .error e)
    (hread : AllReadable s.root) (hjoin : ∀ t, loadText s.parses s.root = .ok t → s.parses t = true) :
    e.typed = true := by
  rcases loadSource_error_cases s e h with ⟨f, t, he, _, _⟩ | ⟨cls, p, he, hf⟩ | ⟨he, t, ht, hp⟩
  · subst he; rfl
  · obtain ⟨x, hx⟩ := hread p _ hf
    cases hx
  · rw [hjoin t ht] at hp
    cases hp

theorem loadSource_refuses_iff (s : Source) (hread : AllReadable s.root) :
    (∃ m, loadSource s = .error (.codegen "InvalidGraphqlSyntax" m)) ↔
      ∃ p t, HasFile s.root p (.text t) ∧ s.parses t = false := by
  constructor
  · rintro ⟨m, hm⟩
    rcases loadSource_error_cases s _ hm with ⟨f, t, _, hf, hp⟩ | ⟨cls, p, he, _⟩ | ⟨he, _⟩
    · exact ⟨f, t, hf, hp⟩
    · cases he
    · cases he
  · rintro ⟨p, t, hf, hp⟩
    have hbad : ∃ pc ∈ filesRead s.root, ∃ x, pc.2 = .text x ∧ s.parses x = false :=
      ⟨(p, .text t), (mem_filesRead_iff s.root p _).mpr hf, t, rfl, hp⟩
    have hr : ∀ pc ∈ filesRead s.root, ∃ x, pc.2 = .text x := by
      intro pc hm
      exact hread pc.1 pc.2 ((mem_filesRead_iff s.root pc.1 pc.2).mp hm)
    obtain ⟨f, hf'⟩ := readAll_refuses s.parses _ hr hbad
    have hf2 := (loadText_error_iff s.parses s.root _).mpr hf'
    refine ⟨"Invalid graphql syntax in file " ++ f, ?_⟩
    simp [loadSource, loadDocument, hf2, ofLoadErr]

theorem loadSchema_true_source (o : SchemaOracle) (sch : SchemaState) (h : loadSchema true o = .ok sch) :
    loadSource o.src = .ok () := by
  rw [loadSchema_eq] at h
  cases hl : loadSource o.src with
  | error e => simp [hl] at h
  | ok u => rfl

theorem loadSchema_error_typed (fromPath : Bool) (o : SchemaOracle) (e : PyErr) (h : loadSchema fromPath o = .error e)
    (hread : fromPath = true → AllReadable o.src.root)
    (hjoin : fromPath = true → ∀ t, loadText o.src.parses o.src.root = .ok t → o.src.parses t = true)
    (hremote : ∀ c, o.remote ≠ .raw c) (hbuild : o.buildError = none) :
    e.typed = true := by
  rw [loadSchema_eq, hbuild] at h
  cases fromPath with
  | true =>
    cases hl : loadSource o.src with
    | error e' =>
      simp [hl] at h
      subst h
      exact loadSource_error_typed _ _ hl (hread rfl) (hjoin rfl)
    | ok u => simp [hl] at h
  | false =>
    cases hr : o.remote with
    | ok => simp [hr] at h
    | introspectionError m => simp [hr] at h; subst h; rfl
    | raw c => exact absurd hr (hremote c)

/-- the import system answers without raising by itself -/
def LookupsTame (p : PluginsOracle) : Prop := ∀ s cls, p.lookup s ≠ .raises cls

theorem resolvePlugin_error_typed (look : String → PluginLookup) (s : String) (e : PyErr)
    (hl : ∀ cls, look s ≠ .raises cls) (h : resolvePlugin look s = .error e) : e.typed = true := by
  unfold resolvePlugin at h
  cases hk : look s with
  | raises cls => exact absurd hk (hl cls)
  | module => simp [hk] at h
  | classOk => simp only [hk] at h; split at h <;> first | (injection h with h; subst h; rfl) | cases h
  | noModule => simp only [hk] at h; split at h <;> first | (injection h with h; subst h; rfl) | cases h
  | noAttribute => simp only [hk] at h; split at h <;> first | (injection h with h; subst h; rfl) | cases h
  | notPlugin => simp only [hk] at h; split at h <;> first | (injection h with h; subst h; rfl) | cases h

theorem resolvePluginItems_error_typed (look : String → PluginLookup) (items : List TV) (e : PyErr)
    (hstr : ∀ x ∈ items, x.isStr = true) (hl : ∀ s cls, look s ≠ .raises cls)
    (h : resolvePluginItems look items = .error e) : e.typed = true := by
  induction items with
  | nil => simp [resolvePluginItems] at h
  | cons x rest ih =>
    cases x
    case str s =>
      simp only [resolvePluginItems] at h
      cases hr : resolvePlugin look s with
      | error e' =>
        simp only [hr] at h
        injection h with h
        subst h
        exact resolvePlugin_error_typed look s _ (hl s) hr
      | ok u =>
        simp only [hr] at h
        exact ih (fun x hx => hstr x (by simp [hx])) h
    all_goals
      have := hstr _ List.mem_cons_self
      simp [TV.isStr] at this

theorem resolvePlugins_error_typed (plugins : TV) (p : PluginsOracle) (e : PyErr)
    (hlist : ∃ items, plugins = .list items ∧ ∀ x ∈ items, x.isStr = true) (hl : LookupsTame p)
    (h : resolvePlugins plugins p = .error e) : e.typed = true := by
  obtain ⟨items, rfl, hstr⟩ := hlist
  simp only [resolvePlugins, TV.pyIter] at h
  exact resolvePluginItems_error_typed p.lookup items e hstr hl h

theorem loadQueries_eq (q : QueriesOracle) :
    loadQueries q =
      match loadSource q.src with
      | .error e => .error e
      | .ok () =>
        if q.validationErrors.isEmpty then .ok ()
        else .error (.codegen "InvalidOperationForSchema" ("\n\n".intercalate q.validationErrors)) := by
  unfold loadQueries
  cases loadSource q.src <;> rfl

theorem loadQueries_syntax_iff (q : QueriesOracle) (m : String) :
    loadQueries q = .error (.codegen "InvalidGraphqlSyntax" m) ↔
      loadSource q.src = .error (.codegen "InvalidGraphqlSyntax" m) := by
  rw [loadQueries_eq]
  cases loadSource q.src with
  | error e => simp
  | ok u => by_cases hv : q.validationErrors.isEmpty = true <;> simp [hv]

/-- the build that follows the files raises a bare `TypeError`, never a syntax error -/
theorem loadSchema_syntax_iff (o : SchemaOracle) (m : String) :
    loadSchema true o = .error (.codegen "InvalidGraphqlSyntax" m) ↔
      loadSource o.src = .error (.codegen "InvalidGraphqlSyntax" m) := by
  rw [loadSchema_eq]
  cases hl : loadSource o.src with
  | error e => simp
  | ok u => cases o.buildError <;> simp

theorem loadQueries_ok (q : QueriesOracle) (h : loadQueries q = .ok ()) :
    loadSource q.src = .ok () ∧ q.validationErrors = [] := by
  rw [loadQueries_eq] at h
  cases hl : loadSource q.src with
  | error e => rw [hl] at h; cases h
  | ok u =>
    refine ⟨rfl, ?_⟩
    cases hv : q.validationErrors with
    | nil => rfl
    | cons a l => simp [hl, hv] at h

theorem loadQueries_error_typed (q : QueriesOracle) (e : PyErr) (h : loadQueries q = .error e)
    (hread : AllReadable q.src.root) (hjoin : ∀ t, loadText q.src.parses q.src.root = .ok t → q.src.parses t = true) :
    e.typed = true := by
  rw [loadQueries_eq] at h
  cases hl : loadSource q.src with
  | error e' =>
    simp only [hl] at h
    injection h with h
    subst h
    exact loadSource_error_typed _ _ hl hread hjoin
  | ok u =>
    simp only [hl] at h
    split at h
    · cases h
    · injection h with h; subst h; rfl

theorem allFilesParse_of_loadText_ok (s : Source) (t : String) (h : loadText s.parses s.root = .ok t) :
    allFilesParse s = true := by
  have hall := (loadText_ok_iff s.parses s.root).mp ⟨t, h⟩
  unfold allFilesParse Source.files
  rw [List.all_eq_true]
  intro pc hm
  obtain ⟨x, hx, hp⟩ := hall pc.1 pc.2 ((mem_filesRead_iff s.root pc.1 pc.2).mp hm)
  rw [hx]
  exact hp

/-- outside the regions of C17-F6 (no graphql file) and C17-F9 (only the concatenation is broken) the
    second, unguarded `parse` cannot fail -/
theorem joined_ok_of_not_triggered (s : Source) (hne : s.files.isEmpty = false) (hj : joinedBroken s = false) :
    ∀ t, loadText s.parses s.root = .ok t → s.parses t = true := by
  intro t ht
  have hall := allFilesParse_of_loadText_ok s t ht
  unfold joinedBroken at hj
  simp only [hne, hall, ht, Bool.not_false, Bool.true_and] at hj
  cases hp : s.parses t with
  | true => rfl
  | false => simp [hp] at hj

theorem client_error_iff_prepare (r : ClientRun) (ph : Phase) (e : PyErr) (h1 : ph ≠ .generatePre)
    (h2 : ph ≠ .generateWrite) : (client r).result = .error (ph, e) ↔ prepare r = .error (ph, e) := by
  unfold client
  cases hp : prepare r with
  | error x => simp
  | ok p =>
    simp only [reduceCtorEq, iff_false]
    rcases generate_spec r p with ⟨_, m, hm⟩ | ⟨e', he'⟩ | ⟨fs, hfs⟩
    · rw [hm]; intro h; injection h with h; injection h with h; exact h1 h.symm
    · rw [he']; intro h; injection h with h; injection h with h; exact h2 h.symm
    · rw [hfs]; intro h; cases h

theorem tame_default : LookupsTame ({} : PluginsOracle) := by
  intro s cls h; cases h

end Ariadne.C17
