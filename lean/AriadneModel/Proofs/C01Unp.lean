/-
  Property C01, "unpacked fragments" tier: the main theorems at class level.

  The plain tier (fields of leaf or object type, aliases, `@skip/@include`, any nesting) extended by spreads of NAMED FRAGMENTS
  THAT THE GENERATOR UNPACKS: `...F` in a selection set evaluated on the object type `T`, `F` defined on an INTERFACE `T`
  implements, `F` free of inline fragments; fragments spread fragments (all judged against the same `T`), the fields of a
  fragment may have object-typed sub-selections that spread fragments again, to any depth.

    (1) `unp_generation`: `_parse_type_definition` returns exactly the plain tier's classes of the INLINED document
        (`plainClasses env cn tn (inl env k sel)`: the fields of the fragments are merged into the class of the selection set, base
        class `BaseModel`), adds no mark, and records every fragment met in `_unpacked_fragments` (`reach`);
    (2) `unp_roundtrip`: every answer a conformant executor gives for the document WITH the spreads (it applies the interface
        fragment to the implementing object and collects its selections) is accepted by the class and dumped back.

  Hypothesis `UnpOK env k cn tn sid sel st` (decidable, Proofs/C01UnpDefs.lean): `spreadsOK` — no `@skip/@include` on a spread
  (finding C01-F3), the fragment exists, is on an interface, `schema.is_sub_type(interface, T)` (the generator's test; it
  implies that the executor applies the fragment), no inline fragment in the fragment (such a fragment is unpacked too, but
  its inline fragments are resolved against `T`: outside this tier), the fuel `k` bounds the nesting — and `PlainOK` for the
  inlined document: in particular the response keys / Python names of ALL fields merged into one class are pairwise distinct
  (`me { ...NF id }` with `id` in `NF` is outside the tier), fields exist on `T` itself (the class reads `T`'s field types, as the
  executor does), leaf / object kinds, fresh class names, no marked selection set.
-/
import AriadneModel.Proofs.C01UnpVal


namespace Ariadne.C01Unp
open Ariadne Ariadne.Gql Ariadne.ResultTypes Ariadne.C01Plain

theorem UnpOK_spec {env : ResultTypes.Env} {k : Nat} {cn tn : String} {sid : Nat} {sel : List Selection} {st : St}
    (h : UnpOK env k cn tn sid sel st = true) :
    spreadsOK env k tn sel = true ∧ PlainOK env cn tn sid (inl env k sel) st = true := by
  simpa [UnpOK] using h

/-- **(1) generation = the plain classes of the inlined document; every fragment met is unpacked** -/
theorem unp_generation (env : ResultTypes.Env) (k : Nat) (cn tn : String) (sid : Nat) (sel : List Selection) (st : St)
    (h : UnpOK env k cn tn sid sel st = true) (tv : List String) (fuel : Nat) (hfuel : 2 * k + 2 ≤ fuel) :
    ∃ st', parseTypeDefinition env fuel cn tn sid sel false [] tv st = .ok (plainClasses env cn tn (inl env k sel), st') ∧
      st'.publicNames = st.publicNames ++ (plainClasses env cn tn (inl env k sel)).map (·.name) ∧ st'.marks = st.marks ∧
      (∀ n ∈ st.unpacked, n ∈ st'.unpacked) ∧ (∀ n ∈ reach env k sel, n ∈ st'.unpacked) := by
  obtain ⟨hsp, hpl⟩ := UnpOK_spec h
  obtain ⟨h1, _, h3, h4, h5⟩ := PlainOK_spec hpl
  exact gen_spec env k fuel cn tn sid sel tv st hfuel h1 hsp h3 h4 h5

/-- **(2) every conformant response is accepted and dumped back** -/
theorem unp_roundtrip (env : ResultTypes.Env) (k : Nat) (cn tn : String) (sid : Nat) (sel : List Selection) (st : St)
    (h : UnpOK env k cn tn sid sel st = true)
    (penv : Pyd.Env) (hp : PenvOK env penv (plainClasses env cn tn (inl env k sel)))
    (efuel : Nat) (hk : k ≤ efuel) (j : J)
    (hresp : Exec.respOK env.schema env.frags efuel tn sel j = true) (hj : nodupKeys j = true)
    (vfuel : Nat) (hv : vneed env tn (inl env k sel) + 1 ≤ vfuel) :
    ∃ v, Pyd.validate penv vfuel (.cls cn) j = .ok v ∧ J.eqv (Pyd.dump v) j = true := by
  obtain ⟨hsp, hpl⟩ := UnpOK_spec h
  obtain ⟨_, h2, h3, _, _⟩ := PlainOK_spec hpl
  exact plain_roundtrip env cn tn sid (inl env k sel) st hpl penv hp env.frags efuel j
    (respOK_inl env st.marks efuel k cn tn sel j hk hsp h2 h3 hresp) hj vfuel hv

/-! ### a concrete input satisfying `UnpOK`

    query Q { me { ...NF name bestFriend { ...NM ...NG } } }
    fragment NF on Node { id ...NG }      fragment NG on Node { rev }      fragment NM on Named { nick }
-/

def uxSchema : Schema :=
  { types := [
      { name := "Query", kind := .object, fields := [{ name := "me", type := .named "User" }] },
      { name := "Node", kind := .interface,
        fields := [{ name := "id", type := .nonNull (.named "ID") }, { name := "rev", type := .named "Int" }] },
      { name := "Named", kind := .interface, fields := [{ name := "nick", type := .named "String" }] },
      { name := "User", kind := .object, interfaces := ["Node", "Named"],
        fields := [{ name := "id", type := .nonNull (.named "ID") }, { name := "rev", type := .named "Int" },
                   { name := "nick", type := .named "String" },
                   { name := "name", type := .named "String" }, { name := "bestFriend", type := .named "User" }] }],
    query := some "Query" }

def uxEnv : ResultTypes.Env :=
  { schema := uxSchema,
    frags := [{ name := "NF", on := "Node", sid := 10, sel := [.field none "id" [] 0 [], .spread "NG" []] },
              { name := "NG", on := "Node", sid := 12, sel := [.field none "rev" [] 0 []] },
              { name := "NM", on := "Named", sid := 11, sel := [.field none "nick" [] 0 []] }] }

def uxSel : List Selection :=
  [.field none "me" [] 2 [.spread "NF" [], .field none "name" [] 0 [],
     .field none "bestFriend" [] 3 [.spread "NM" [], .spread "NG" []]]]

theorem uxSel_run : UnpOK uxEnv 5 "Q" "Query" 1 uxSel {} = true
    ∧ (plainClasses uxEnv "Q" "Query" (inl uxEnv 5 uxSel)).map (fun c => (c.name, c.bases, c.fields.map (·.py))) =
      [("Q", ["BaseModel"], ["me"]), ("QMe", ["BaseModel"], ["id", "rev", "name", "best_friend"]),
       ("QMeBestFriend", ["BaseModel"], ["nick", "rev"])]
    ∧ (match parseTypeDefinition uxEnv 20 "Q" "Query" 1 uxSel false [] [] {} with
       | .ok (cs, st) => (cs.map (·.name)) == ["Q", "QMe", "QMeBestFriend"] && st.unpacked == ["NF", "NG", "NM"] && st.mixins == []
       | .error _ => false) = true := by decide +kernel

example : UnpOK uxEnv 5 "Q" "Query" 1 uxSel {} = true := uxSel_run.1

example : (plainClasses uxEnv "Q" "Query" (inl uxEnv 5 uxSel)).map (fun c => (c.name, c.bases, c.fields.map (·.py))) =
    [("Q", ["BaseModel"], ["me"]), ("QMe", ["BaseModel"], ["id", "rev", "name", "best_friend"]),
     ("QMeBestFriend", ["BaseModel"], ["nick", "rev"])] := uxSel_run.2.1

/-- the model of the generator, computed: the same classes, all three fragments unpacked -/
example :
    (match parseTypeDefinition uxEnv 20 "Q" "Query" 1 uxSel false [] [] {} with
     | .ok (cs, st) => (cs.map (·.name)) == ["Q", "QMe", "QMeBestFriend"] && st.unpacked == ["NF", "NG", "NM"] && st.mixins == []
     | .error _ => false) = true := uxSel_run.2.2

end Ariadne.C01Unp
