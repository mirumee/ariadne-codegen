/-
  Lemmas about the imports of custom scalars (Model/Scalars.lean, Model/InputImports.lean), for C07: a dotted import path
  binds its object name, which has no dot (`mem_dottedImports`, `dottedImports_wellformed`); the type a field of
  `input_types.py` is annotated with and the custom scalars the module uses are configured ones (`fieldType_spec`,
  `usedScalars_configured`); the import list of the module succeeds together with the one the result modules' generator builds
  (`scalarImportsOf_ok_iff`), exists when every used scalar is configured (`_total`) and then holds their imports (`_mem`); what a successful
  `InputImports.generate` returns (`inputs_generate_inv`).
-/
import AriadneModel.Model.InputImports
import AriadneModel.Proofs.C07Union

namespace Ariadne.InputImports
open Ariadne.Scalars Ariadne.Coerce Ariadne.ResultUnion Ariadne.C07Union Ariadne.InputFields

theorem mem_dottedImports (x : String) (l : List String) (hx : x ∈ l) (hd : hasDot x = true) :
    objectName x ∈ boundNames (dottedImports l) := by
  induction l with
  | nil => cases hx
  | cons y l ih =>
    simp only [List.mem_cons] at hx
    by_cases hy : hasDot y = true
    · simp only [dottedImports, hy, if_true, boundNames, List.map_cons, List.flatten_cons, List.mem_append]
      rcases hx with hx | hx
      · subst hx; left; simp
      · right; exact ih hx
    · simp only [dottedImports, hy]
      rcases hx with hx | hx
      · subst hx; exact absurd hd hy
      · exact ih hx

theorem afterLastDot_nodot (l : List Char) : (afterLastDot l).contains '.' = false := by
  induction l with
  | nil => rfl
  | cons c cs ih =>
    by_cases hc : cs.contains '.' = true
    · simp only [afterLastDot, hc, if_true]; exact ih
    · have hc' : cs.contains '.' = false := by simpa using hc
      by_cases hd : (c == '.') = true
      · simp only [afterLastDot, hc', Bool.false_eq_true, if_false, hd, if_true]
      · have hd' : (c == '.') = false := by simpa using hd
        have hd'' : ('.' == c) = false := by
          simp only [beq_eq_false_iff_ne, ne_eq] at hd' ⊢; exact fun e => hd' e.symm
        simp only [afterLastDot, hc', Bool.false_eq_true, if_false, hd', List.contains_cons, hd'', Bool.false_or]

theorem objectName_nodot (x : String) : hasDot (objectName x) = false := by
  by_cases hx : hasDot x = true
  · have hx' : x.toList.contains '.' = true := hx
    simp only [objectName, hasDot, hx', if_true, String.toList_ofList]
    exact afterLastDot_nodot x.toList
  · simp only [objectName, hx]; simpa using hx

theorem dottedImports_wellformed (l : List String) :
    (dottedImports l).all (fun i => i.names.all (fun n => !hasDot n)) = true := by
  induction l with
  | nil => rfl
  | cons y l ih =>
    by_cases hy : hasDot y = true
    · simp [dottedImports, hy, ih, objectName_nodot]
    · simp [dottedImports, hy, ih]

theorem fieldType_spec (cfg : ScalarCfg) (kind : String → TKind) (t : GT) (h : fieldType cfg kind t ≠ "") :
    fieldType cfg kind t = baseName t ∧ (kind (baseName t) = .scalar → (lookupScalar cfg (baseName t)).isSome = true) := by
  induction t with
  | named n nn =>
    simp only [fieldType, baseName] at h ⊢
    unfold namedFieldType at h ⊢
    cases hk : kind n with
    | scalar =>
      simp only [hk] at h ⊢
      cases hb : Util.lookupStr n Tables.inputScalarsMap with
      | some py => simp [hb] at h
      | none =>
        cases hl : lookupScalar cfg n with
        | none => simp [hb, hl] at h
        | some d => simp
    | input => simp
    | enum => simp
    | other => simp [hk] at h
  | list it nn ih => simpa [fieldType, baseName] using ih (by simpa [fieldType] using h)

theorem fieldType_of_configured (cfg : ScalarCfg) (kind : String → TKind) (t : GT) (d : ScalarData)
    (hk : kind (baseName t) = .scalar) (hb : Util.lookupStr (baseName t) Tables.inputScalarsMap = none)
    (hd : lookupScalar cfg (baseName t) = some d) : fieldType cfg kind t = baseName t := by
  induction t with
  | named n nn => simp only [baseName] at hk hb hd; simp [fieldType, baseName, namedFieldType, hk, hb, hd]
  | list it nn ih => simpa [fieldType, baseName] using ih hk hb hd

/-- everything `_save_dependencies` appended to `_used_scalars` is a key of `custom_scalars` -/
theorem usedScalars_configured (s : ISchema) (cfg : ScalarCfg) :
    ∀ sc ∈ usedScalars (inputDefsOf s cfg), (lookupScalar cfg sc).isSome = true := by
  intro sc hsc
  simp only [usedScalars, List.mem_flatMap, inputDefsOf, List.mem_filterMap] at hsc
  obtain ⟨dfn, ⟨p, _, hp⟩, hin⟩ := hsc
  cases hp2 : p.2 with
  | input fs =>
    simp only [hp2, Option.some.injEq] at hp
    subst hp
    simp only [scalarRefs, List.mem_filterMap] at hin
    obtain ⟨r, ⟨f, _, hr⟩, hrs⟩ := hin
    cases r with
    | scalar n =>
      simp only [Option.some.injEq] at hrs
      subst hrs
      unfold refOf at hr
      by_cases he : (fieldType cfg (kindOf s) f.type == "") = true
      · simp [he] at hr
      · simp only [he, Bool.false_eq_true, if_false] at hr
        have hne : fieldType cfg (kindOf s) f.type ≠ "" := by simpa using he
        obtain ⟨h1, h2⟩ := fieldType_spec cfg (kindOf s) f.type hne
        cases hk : kindOf s (fieldType cfg (kindOf s) f.type) with
        | scalar =>
          simp only [hk, Option.some.injEq, Prune.Ref.scalar.injEq] at hr
          rw [← hr, h1]; exact h2 (by rw [← h1]; exact hk)
        | _ => simp [hk] at hr
    | input n => simp at hrs
    | enum n => simp at hrs
  | _ => simp [hp2] at hp

/-- `input_types.py` collects its scalar imports like the result modules and `client.py` do; the two
    model functions differ in the error they carry -/
theorem scalarImportsOf_ok_iff (cfg : ScalarCfg) : ∀ (l : List String) (is : List Import),
    scalarImportsOf cfg l = .ok is ↔ importsOfNames cfg l = .ok is := by
  intro l
  induction l with
  | nil => intro is; simp [scalarImportsOf, importsOfNames]
  | cons sc rest ih =>
    intro is
    cases hl : lookupScalar cfg sc with
    | none => simp [scalarImportsOf, importsOfNames, hl]
    | some d =>
      cases hr : importsOfNames cfg rest with
      | ok is' => simp [scalarImportsOf, importsOfNames, hl, hr, (ih is').mpr hr]
      | error e =>
        cases hs : scalarImportsOf cfg rest with
        | ok is' => rw [(ih is').mp hs] at hr; cases hr
        | error e' => simp [scalarImportsOf, importsOfNames, hl, hr, hs]

theorem scalarImportsOf_total (cfg : ScalarCfg) (l : List String) (h : ∀ sc ∈ l, (lookupScalar cfg sc).isSome = true) :
    ∃ is, scalarImportsOf cfg l = .ok is :=
  have ⟨is, his⟩ := importsOfNames_total cfg l h
  ⟨is, (scalarImportsOf_ok_iff cfg l is).mpr his⟩

theorem scalarImportsOf_mem (cfg : ScalarCfg) (l : List String) (is : List Import) (h : scalarImportsOf cfg l = .ok is) :
    ∀ sc ∈ l, ∀ d, lookupScalar cfg sc = some d → ∀ i ∈ scalarImports d, i ∈ is :=
  importsOfNames_mem cfg l is ((scalarImportsOf_ok_iff cfg l is).mp h)

theorem inputs_generate_inv {s : ISchema} {cfg : ScalarCfg} {roots : Option (List String)} {m : InputsModule}
    (h : InputImports.generate s cfg roots = .ok m) :
    ∃ cds is, Prune.filterInputDefs (inputDefsOf s cfg) roots = some cds ∧
      scalarImportsOf cfg (usedScalars (inputDefsOf s cfg)) = .ok is ∧
      m = ⟨cds.map (·.name), usedScalars (inputDefsOf s cfg), is⟩ := by
  unfold InputImports.generate at h
  cases hf : Prune.filterInputDefs (inputDefsOf s cfg) roots with
  | none => simp [hf] at h
  | some cds =>
    cases hi : scalarImportsOf cfg (usedScalars (inputDefsOf s cfg)) with
    | error e => simp [hf, hi] at h
    | ok is => simp only [hf, hi, Except.ok.injEq] at h; exact ⟨cds, is, rfl, rfl, h.symm⟩

end Ariadne.InputImports
