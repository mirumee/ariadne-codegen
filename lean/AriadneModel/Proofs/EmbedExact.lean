/-
  Proofs/EmbedExact.lean — the regions `escN` and `lineSep` of C02's text clause are EXACTLY its failure region among
  the texts without `'` and `"""`: if the described text equals the expected one, the text has neither a
  backslash-`n` pair nor an extra line separator.

  Counting argument: the rewriter only ever adds blanks and newlines; a backslash-`n` pair that becomes a line
  continuation removes two other characters ("ink"), an extra separator that becomes a line break removes one.
-/
import AriadneModel.Proofs.EmbedBN


namespace Ariadne.EmbedProofs
open Ariadne.Embed Ariadne.PyStr

def ink (c : Char) : Bool := c != ' ' && c != '\n'

def inkOf (l : List Char) : Nat := l.countP ink

def isExtra (c : Char) : Bool := isLineSep c && c != '\n'

def sumInk (ls : List (List Char)) : Nat := (ls.map inkOf).sum

theorem inkOf_nil : inkOf [] = 0 := rfl

theorem inkOf_cons (c : Char) (l : List Char) : inkOf (c :: l) = (if ink c then 1 else 0) + inkOf l := by
  unfold inkOf
  rw [List.countP_cons]
  omega

theorem inkOf_append (a b : List Char) : inkOf (a ++ b) = inkOf a + inkOf b := by
  unfold inkOf
  exact List.countP_append

theorem inkOf_spaces (k : Nat) : inkOf (List.replicate k ' ') = 0 := by
  induction k with
  | zero => rfl
  | succ k ih => rw [List.replicate_succ, inkOf_cons, ih]; decide

theorem inkOf_nl : inkOf ['\n'] = 0 := by decide

theorem sumInk_nil : sumInk [] = 0 := rfl

theorem sumInk_cons (l : List Char) (ls : List (List Char)) : sumInk (l :: ls) = inkOf l + sumInk ls := by
  simp [sumInk]

theorem inkOf_indentLines (k : Nat) (ls : List (List Char)) : inkOf (indentLines k ls) = sumInk ls := by
  induction ls with
  | nil => rfl
  | cons l ls ih =>
    have e : indentLines k (l :: ls) = ((if l.all (· == ' ') then l else List.replicate k ' ' ++ l) ++ ['\n']) ++ indentLines k ls := by
      simp [indentLines]
    rw [e, inkOf_append, inkOf_append, ih, sumInk_cons, inkOf_nl]
    by_cases hb : l.all (· == ' ') = true
    · simp [hb]
    · simp [hb, inkOf_append, inkOf_spaces]

theorem sumInk_consHead (c : Char) (ls : List (List Char)) :
    sumInk (consHead c ls) = (if ink c then 1 else 0) + sumInk ls := by
  cases ls <;> simp only [consHead, sumInk_cons, inkOf_cons, inkOf_nil, sumInk_nil] <;> omega

theorem sumInk_splitNL (q : List Char) : sumInk (splitNL q) = inkOf q := by
  induction q with
  | nil => rfl
  | cons c cs ih =>
    by_cases hc : c = '\n'
    · subst hc
      rw [splitNL_nl, sumInk_cons, ih, inkOf_cons, inkOf_nil]
      simp [ink]
    · rw [splitNL_consHead c cs hc, sumInk_consHead, ih, inkOf_cons]

theorem not_extra_of_nonsep (c : Char) (h : isLineSep c = false) : isExtra c = false := by
  simp [isExtra, h]

theorem isExtra_eq_ink (c : Char) (h : isLineSep c = true) : isExtra c = ink c := by
  have hc : c ≠ ' ' := by
    rintro rfl
    exact absurd h (by decide)
  simp [isExtra, ink, h, hc]

theorem sumInk_splitlines (q : List Char) : sumInk (splitlines q) + q.countP isExtra = inkOf q := by
  refine splitlines_induction (motive := fun q ls => sumInk ls + q.countP isExtra = inkOf q) rfl ?_ ?_ q
  · intro s cs hs ih
    rw [sumInk_cons, inkOf_nil, List.countP_append, inkOf_append, ← ih,
      List.countP_congr (fun c hc => by rw [isExtra_eq_ink c (hs.sep c hc)]), inkOf]
    omega
  · intro c cs hc ih
    rw [sumInk_consHead, List.countP_cons, inkOf_cons, ← ih, not_extra_of_nonsep c hc]
    simp only [Bool.false_eq_true, if_false]
    omega

theorem inkOf_sentSegs (k : Nat) : ∀ (ss : List (List Char)) (s : List Char), inkOf (sentSegs k s ss) = inkOf s + sumInk ss
  | [], s => by
    rw [sentSegs, inkOf_append, inkOf_nl, sumInk_nil]
    by_cases hb : s.all (· == ' ') = true
    · simp [hb]
    · simp [hb, inkOf_append, inkOf_spaces]
  | t :: ts, s => by
    rw [sentSegs, inkOf_append, inkOf_append, inkOf_spaces, inkOf_sentSegs k ts t, sumInk_cons]
    omega

/-- every backslash-`n` pair of a line costs two characters -/
theorem inkOf_segsBN (l : List Char) : inkOf (segsBN l).1 + sumInk (segsBN l).2 + 2 * (segsBN l).2.length = inkOf l := by
  fun_induction segsBN l with
  | case1 => rfl
  | case2 rest ih =>
    rw [inkOf_cons, inkOf_cons, ← ih, sumInk_cons, inkOf_nil]
    simp [ink]
    omega
  | case3 c rest hne ih =>
    dsimp only
    rw [inkOf_cons, inkOf_cons, ← ih]
    omega

theorem inkOf_sentLine (k : Nat) (l : List Char) : inkOf (sentLine k l) + 2 * (segsBN l).2.length = inkOf l := by
  rw [sentLine, inkOf_sentSegs, inkOf_segsBN]

def pairs (ls : List (List Char)) : Nat := (ls.map fun l => (segsBN l).2.length).sum

theorem inkOf_flatMap_sentLine (k : Nat) (ls : List (List Char)) :
    inkOf (ls.flatMap (sentLine k)) + 2 * pairs ls = sumInk ls := by
  induction ls with
  | nil => rfl
  | cons l ls ih =>
    have := inkOf_sentLine k l
    simp only [List.flatMap_cons, inkOf_append, sumInk_cons, pairs, List.map_cons, List.sum_cons] at ih ⊢
    omega

theorem inkOf_described (k : Nat) (q : List Char) :
    inkOf (describedSent k q) + 2 * pairs (splitlines q) + q.countP isExtra = inkOf (expectedText k q) := by
  have h1 : inkOf (describedSent k q) = inkOf ((splitlines q).flatMap (sentLine k)) := by
    rw [describedSent, inkOf_cons, inkOf_append, inkOf_spaces]
    simp [ink]
  have h2 : inkOf (expectedText k q) = inkOf q := by
    rw [expectedText, inkOf_cons, inkOf_append, inkOf_spaces, inkOf_indentLines, sumInk_splitNL]
    simp [ink]
  have h3 := inkOf_flatMap_sentLine k (splitlines q)
  have h4 := sumInk_splitlines q
  omega

theorem hasExtraSep_of_count (q : List Char) (h : q.countP isExtra = 0) : hasExtraSep q = false := by
  unfold hasExtraSep
  rw [List.any_eq_false]
  intro c hc
  have := (List.countP_eq_zero.mp h) c hc
  simpa [isExtra] using this

theorem pairs_zero {ls : List (List Char)} (h : pairs ls = 0) : ∀ l ∈ ls, hasBsN l = false := by
  induction ls with
  | nil => intro l hl; cases hl
  | cons a ls ih =>
    simp only [pairs, List.map_cons, List.sum_cons] at h
    have h1 : (segsBN a).2.length = 0 := by omega
    have h2 : pairs ls = 0 := by unfold pairs; omega
    intro l hl
    rcases List.mem_cons.mp hl with rfl | hl
    · cases hb : hasBsN l with
      | false => rfl
      | true =>
        obtain ⟨s, l', rfl, hs⟩ := bn_split l hb
        rw [segsBN_cut s l' hs] at h1
        simp at h1
    · exact ih h2 l hl

/-- a backslash is no separator: a pair does not begin inside a line break -/
theorem hasBsN_break {s : List Char} (hs : IsBreak s) (cs : List Char) : hasBsN (s ++ cs) = hasBsN cs := by
  cases hs with
  | crlf => simp [hasBsN_cons]
  | one c h =>
    have hc : c ≠ '\\' := by
      rintro rfl
      exact absurd h (by decide)
    simp [hasBsN_cons, hc]

/-- a backslash-`n` pair of the text lies inside one of its lines (neither character is a separator) -/
theorem bsn_in_line (q : List Char) : hasBsN q = true → ∃ l ∈ splitlines q, hasBsN l = true := by
  refine splitlines_induction (motive := fun q ls => hasBsN q = true → ∃ l ∈ ls, hasBsN l = true) ?_ ?_ ?_ q
  · intro h
    simp [hasBsN] at h
  · intro s cs hs ih h
    rw [hasBsN_break hs] at h
    obtain ⟨l, hl, hb⟩ := ih h
    exact ⟨l, List.mem_cons_of_mem _ hl, hb⟩
  · intro c cs _ ih h
    rw [hasBsN_cons, Bool.or_eq_true] at h
    rcases h with h | h
    · -- the pair itself: `n` is no separator either, so both characters open the first line
      simp only [Bool.and_eq_true, beq_iff_eq] at h
      obtain ⟨rfl, hh⟩ := h
      obtain ⟨t, rfl⟩ := List.head?_eq_some_iff.mp hh
      rw [splitlines_nosep 'n' t (by decide), consHead_eq, consHead_eq]
      exact ⟨_, List.mem_cons_self, rfl⟩
    · obtain ⟨l, hl, hb⟩ := ih h
      rcases headD_or_mem_tail hl with rfl | hl
      · exact ⟨_, mem_consHead.mpr (.inl rfl), by rw [hasBsN_cons, hb, Bool.or_true]⟩
      · exact ⟨l, mem_consHead.mpr (.inr hl), hb⟩

/-- **the described text is the expected text only outside the regions `escN` and `lineSep`** -/
theorem described_eq_expected (k : Nat) (q : List Char) (h : describedSent k q = expectedText k q) :
    hasBsN q = false ∧ hasExtraSep q = false := by
  have hc := inkOf_described k q
  rw [h] at hc
  have h1 : pairs (splitlines q) = 0 := by omega
  have h2 : q.countP isExtra = 0 := by omega
  refine ⟨?_, hasExtraSep_of_count q h2⟩
  cases hb : hasBsN q with
  | false => rfl
  | true =>
    obtain ⟨l, hl, hbl⟩ := bsn_in_line q hb
    rw [pairs_zero h1 l hl] at hbl
    cases hbl

end Ariadne.EmbedProofs
