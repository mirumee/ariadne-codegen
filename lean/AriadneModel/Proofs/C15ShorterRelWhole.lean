/-
  C15: `shorter_relative` — adding ShorterResults anywhere in a plugin list made of ExtractOperations, NoReimports and
  the identity plugin preserves the whole-pipeline statement: if the list WITHOUT ShorterResults satisfies it
  (package generated and loading, prescribed projection, same behaviour) and the generation with that list has the
  generator's form (`genShapedSR`), then the list WITH ShorterResults satisfies it too — every method is projected
  on exactly the single top-level field of its result class or left alone, on top of what the other plugins did.
-/
import AriadneModel.Proofs.C15ShorterRelRun
import AriadneModel.Model.PluginWholeSE


namespace Ariadne.C15
open Ariadne.Py Ariadne.Plugins Ariadne.ClientSem

theorem fragmentsModuleNameOf_nosf (a b : List PState) (ha : NoSF a) (st : ShorterState) :
    fragmentsModuleNameOf (a ++ .shorter st :: b) = st.fragmentsModuleName := by
  induction a with
  | nil => rfl
  | cons p rest ih =>
    have := ih ha.tail
    unfold fragmentsModuleNameOf at this ⊢
    rcases ha p (by simp) with rfl | rfl | ⟨e, rfl⟩
    · simpa [List.findSome?_cons] using this
    · simpa [List.findSome?_cons] using this
    · simpa [List.findSome?_cons] using this

theorem nosf_no_shorter (l : List PState) (h : NoSF l) : l.any PState.isShorter = false := by
  rw [List.any_eq_false]
  intro p hp
  rcases h p hp with rfl | rfl | ⟨e, rfl⟩ <;> simp [PState.isShorter]

theorem split_frame (g : Method) (c : ClassDef) : ∀ (fr body pre : List Top), ImportsOnly fr →
    fr ++ body = pre ++ [.funcDef g, .classDef c] → ∃ pre', body = pre' ++ [.funcDef g, .classDef c] ∧ pre = fr ++ pre' := by
  intro fr
  induction fr with
  | nil => intro body pre _ h; exact ⟨pre, by simpa using h, rfl⟩
  | cons t rest ih =>
    intro body pre hfr h
    obtain ⟨i, rfl⟩ := hfr t (by simp)
    cases pre with
    | nil => simp at h
    | cons p pre1 =>
      simp only [List.cons_append, List.cons.injEq] at h
      obtain ⟨hp, hrest⟩ := h
      obtain ⟨pre', h1, h2⟩ := ih body pre1 (fun t ht => hfr t (by simp [ht])) hrest
      exact ⟨pre', h1, by rw [← hp, h2]; rfl⟩

theorem request_mono_ops (B0 B1 : Module) (ops : Option (String × OpsFile)) (s : Shape) (hg0 : "gql" ∈ moduleNames B0)
    (hmono : ∀ n ∈ moduleNames B0, n ∈ moduleNames B1)
    (hconst : ∀ c, s.op = .const c → alookup c (importBindings (topImports B1)) = alookup c (importBindings (topImports B0))) :
    request { client := B1, ops := ops } s = request { client := B0, ops := ops } s := by
  unfold request
  cases hop : s.op with
  | inline q ls => simp [hg0, hmono _ hg0]
  | const c =>
    have : constValue { client := B1, ops := ops } s c = constValue { client := B0, ops := ops } s c := by
      unfold constValue resolveRuntime
      simp only [hconst c hop]
    simp only [this]

theorem respond_same_ops {PyV : Type} (validate : String × String → J → Except String PyV) (getattr : String → PyV → PyV)
    (B0 B1 : Module) (ops : Option (String × OpsFile)) (s : Shape) (d : J)
    (hb : alookup s.retClass (importBindings (topImports B1)) = alookup s.retClass (importBindings (topImports B0))) :
    respond validate getattr { client := B1, ops := ops } s d = respond validate getattr { client := B0, ops := ops } s d := by
  unfold respond resolveRuntime
  simp only [hb]

theorem shorter_relative (x : Input) (a b : List PState) (st0 : ShorterState) (hps : x.plugins = a ++ .shorter st0 :: b)
    (hna : NoSF a) (hnb : NoSF b) (hfresh : PState.isFresh (.shorter st0) = true)
    (hL : loadsB (a ++ b) x = true ∧ projOKB (a ++ b) x = true ∧ SameBehaviour (a ++ b) x)
    (hg : genShapedSR (a ++ b) x = true) :
    loadsB x.plugins x = true ∧ projOKB x.plugins x = true ∧ SameBehaviour x.plugins x := by
  obtain ⟨hLloads, hLproj, hLsame⟩ := hL
  obtain ⟨pre, cm, post, B0, preB, g, C0, ⟨hevs, hcm, hpre, ⟨mp, hmp⟩, hB0'⟩, hpost, hgql', hbodyB, hncB, G, htwin⟩ :=
    genShapedSR_spec hg
  have hpostcm : ∀ e ∈ post, e.call.hook ≠ "generate_client_module" := fun e he => by
    have := hpost e he
    simp only [Bool.and_eq_true, bne_iff_ne, ne_eq] at this
    exact this.1
  have hrunL : runWith (a ++ b) x = runPipeline { plugins := a ++ b } x.events := rfl
  obtain ⟨herrL', hclashL, B0', hB0'', hfmt0, hann0, hwell0, himp0⟩ := (loadsB_iff (a ++ b) x).mp hLloads
  rw [hB0'] at hB0''
  cases hB0''
  obtain ⟨fr, Min, hfr, hcmL, hplug⟩ := rel_pipeline SRel bookStep shorterClientModule ImportsOnly
    stepEvent_srel stepEvent_srel_cm srel_opsFile (srel_init a b hna hnb st0) hcm hpre hpostcm hmp
    (run_of_noerr (by rw [← hevs]; exact herrL'))
  rw [← hevs] at hcmL hplug
  have hBeq : B0 = { body := fr ++ Min.body } := Option.some.inj (hB0'.symm.trans hcmL)
  obtain ⟨preM, hbodyM, hpreB⟩ := split_frame g C0 fr Min.body preB hfr (by rw [← hbodyB, hBeq])
  have hncM : NoClass preM := fun t ht => hncB t (by rw [hpreB]; exact List.mem_append_right _ ht)
  -- the state of ShorterResults when `generate_client_module` is reached = the facts of the trigger vocabulary
  have hst0 := fresh_shorter st0 hfresh
  have hfm : fragmentsModuleNameOf x.plugins = st0.fragmentsModuleName := by rw [hps]; exact fragmentsModuleNameOf_nosf a b hna st0
  have hfacts : shorterFacts (fragmentsModuleNameOf x.plugins) x.events = pre.foldl bookStep st0 := by
    rw [shorterFacts_eq, hfm, ← hst0, hevs, List.foldl_append, List.foldl_cons, bookStep_cm _ cm hcm,
      foldl_bookStep_noop post hpost]
  rw [hfacts] at G
  generalize hops : (runWith (a ++ b) x).1.opsFile? = ops at hwell0 himp0 G
  have H : ShorterHypsR (knownModules x ops) (pre.foldl bookStep st0) fr ops Min preM g C0 := by
    rw [hBeq] at hfmt0 hann0 hwell0 himp0 G
    exact ⟨hfr, hbodyM, hncM, by rw [foldl_bookStep_ext, hst0], G, hfmt0, hann0, hwell0, (importsExistB_iff _ _ _).mp himp0⟩
  obtain ⟨r, hr⟩ := shorter_no_crash_rel _ _ fr ops Min preM g C0 H
  obtain ⟨P2, hP2, hp2, hp3⟩ := hplug r hr
  rw [← hps] at hP2
  obtain ⟨hP2eq, hp1⟩ : (runWith x.plugins x).1 = P2 ∧ (runWith x.plugins x).2 = none := Prod.mk.inj (run_iff.mp hP2)
  rw [← hP2eq] at hp2 hp3
  have C := shorter_concl_rel _ _ r.1 fr ops Min r.2 preM g C0 H (by rw [hr])
  obtain ⟨C1, hfc1, hper⟩ := C.cls
  have hfc0 : B0.firstClass? = some C0 := firstClass_of_body B0 preB g C0 hbodyB hncB
  have hp3' : (runWith x.plugins x).1.opsFile? = ops := by rw [hp3, ← hrunL, hops]
  rw [← hBeq] at C
  -- the projection the property prescribes on top of what it prescribes for `a ++ b`
  have hexpL : ∀ m, expectedProj (a ++ b) x m = [] := fun m =>
    expectedProj_no_shorter _ x m (by rw [List.any_append, nosf_no_shorter a hna, nosf_no_shorter b hnb]; rfl)
  have hexp : ∀ m ∈ baseMethods x.events, ∀ md, finalMethod (a ++ b) x m.name = some md →
      expectedProj x.plugins x m = expectedProj (a ++ b) x m ++
        (match singleFieldOf (pre.foldl bookStep st0) md with | some (f, _) => [f] | none => []) := by
    intro m hm md hmd
    obtain ⟨md0, hfind, hrc⟩ := htwin m hm
    unfold finalMethod at hmd
    rw [hB0'] at hmd
    simp only [hfc0, Option.map_some, Option.getD_some] at hmd
    rw [hfind] at hmd
    cases hmd
    rw [hexpL, List.nil_append]
    unfold expectedProj
    rw [hps, any_shorter_mid a b st0, ← hps]
    simp only [↓reduceIte, hfacts, singleFieldOf_congr _ m md hrc.symm]
    cases singleFieldOf (pre.foldl bookStep st0) md with
    | none => rfl
    | some fa => rfl
  -- a method, without and with ShorterResults: same request, the response projected on the single field
  have hR : ∀ md ∈ C0.methods, ∀ md', PerMethod (pre.foldl bookStep st0) md md' → ∀ sL, shapeOf md = some sL →
      ∃ s', shapeOf md' = some s' ∧
        s'.proj = sL.proj ++ (match singleFieldOf (pre.foldl bookStep st0) md with | some (f, _) => [f] | none => []) ∧
        request { client := { body := fr ++ r.2.body }, ops := ops } s' = request { client := B0, ops := ops } sL ∧
        ∀ (PyV : Type) (validate : String × String → J → Except String PyV) (getattr : String → PyV → PyV) (d : J),
          respond validate getattr { client := { body := fr ++ r.2.body }, ops := ops } s' d =
            (respond validate getattr { client := B0, ops := ops } sL d).map (fun o =>
              (match singleFieldOf (pre.foldl bookStep st0) md with | some (f, _) => [f] | none => []).foldl
                (fun o f => getattr f o) o) := by
    intro md hmem md' hpm sL hsL
    have hbind := C.bindings md hmem sL hsL
    have hcb : ∀ c, sL.op = .const c → alookup c (importBindings (topImports { body := fr ++ r.2.body })) =
        alookup c (importBindings (topImports B0)) := fun c hc => C.const_bindings md hmem sL c hsL hc
    have := hpm.2.2 sL hsL
    cases hsf : singleFieldOf (pre.foldl bookStep st0) md with
    | none =>
      rw [hsf] at this
      simp only at this
      refine ⟨sL, by rw [this]; exact hsL, by simp, request_mono_ops B0 _ ops sL hgql' C.names_mono hcb, ?_⟩
      intro PyV validate getattr d
      rw [respond_same_ops validate getattr B0 _ ops sL d hbind]
      exact (outcome_map_id _).symm
    | some fa =>
      obtain ⟨f, ann⟩ := fa
      rw [hsf] at this
      simp only at this
      refine ⟨shorterShape sL f, this, rfl, ?_, ?_⟩
      · rw [request_shorterShape]; exact request_mono_ops B0 _ ops sL hgql' C.names_mono hcb
      · intro PyV validate getattr d
        rw [respond_shorterShape, respond_same_ops validate getattr B0 _ ops sL d hbind]
        rfl
  refine whole_of_refines x (a ++ b) x.plugins B0 { body := fr ++ r.2.body } ops ops C0 C1 _ _ hB0' hops hp1 hp2 hp3' ?_
    C.fmt C.ann C.well C.imp hfc0 hfc1 hper (fun m m' h => h.1) hexp hR hLproj hLsame
  have h2 := clash_insert x a b (.shorter st0) rfl
  rw [show trigOpsModuleClash { x with plugins := a ++ b } = false by simpa using hclashL, ← hps] at h2
  exact h2

end Ariadne.C15
