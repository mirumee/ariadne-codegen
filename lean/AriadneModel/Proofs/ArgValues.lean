/-
  Value-level lemmas of C03: a schema-valid caller value, pushed through pydantic's dump / the base
  client's conversion / json.dumps, coerces at its GraphQL type to the value the caller means.
-/
import AriadneModel.Model.ArgSend
import AriadneModel.Proofs.Coerce


namespace Ariadne.ArgProofs
open Ariadne.Scalars Ariadne.Coerce Ariadne.ArgValues Ariadne.PydLog Ariadne.InputFields Ariadne.ArgSend
open Ariadne.BaseClient (PV toJson toJsonList toJsonKvs convertValue convertList convertDict sep sepList sepDict Entry)

mutual
  /-- no `Upload`, `UNSET`, model instance or unserialisable leaf inside: the trees `sep` returns as they are and `toJson` maps -/
  def simple : PV → Bool
    | .none => true
    | .bool _ => true
    | .num _ _ => true
    | .str _ => true
    | .leaf (some _) => true
    | .list xs => simpleList xs
    | .dict kvs => simpleKvs kvs
    | _ => false
  def simpleList : List PV → Bool
    | [] => true
    | x :: xs => simple x && simpleList xs
  def simpleKvs : List (String × PV) → Bool
    | [] => true
    | (_, x) :: rest => simple x && simpleKvs rest
end

/-- standing hypotheses about the configuration and the user functions -/
structure Hyp (cfg : Cfg) (fns : UserFns) : Prop where
  /-- GraphQL: the fields of an input type have pairwise distinct names -/
  fieldsNodup : ∀ n fs, cfg.schema.get? n = some (.input fs) → (names fs).Nodup
  /-- no configured scalar carries the name of a built-in input scalar (`INPUT_SCALARS_MAP` is
      consulted before the configuration in input_fields.py, after it in arguments.py) -/
  scalarsSane : ∀ n d, lookupScalar cfg.scalars n = some d → Util.lookupStr n Tables.inputScalarsMap = none
  /-- a serialize function does not turn a scalar value into JSON null -/
  serNonNull : ∀ f j, (fns.ser f j).isNull = false

/-- per value: what the caller means by it (`some` of `intended`), or nothing where it is left out (an unset field,
    an omitted argument) -/
def optInt (cfg : Cfg) (fns : UserFns) : List AV → List (Option J)
  | [] => []
  | v :: vs => (if v.isUnset then none else some (intended cfg fns v)) :: optInt cfg fns vs

theorem intendedVars_eq (cfg : Cfg) (fns : UserFns) (ds : List IField) (vs : List AV) :
    intendedVars cfg fns ds vs = expected ds (optInt cfg fns vs) := by
  induction ds generalizing vs with
  | nil => cases vs <;> simp [intendedVars, expected]
  | cons d ds ih =>
    cases vs with
    | nil => simp [intendedVars, expected, optInt]
    | cons v vs =>
      by_cases hu : v.isUnset = true
      · simp only [intendedVars, optInt, hu, if_true, expected]
        cases d.default <;> simp [ih vs]
      · simp only [intendedVars, optInt, hu, ih vs]
        simp [expected]

theorem intendedFields_vars (cfg : Cfg) (fns : UserFns) (fs : List IField) (fields : List (FieldKey × AV)) :
    intendedFields cfg fns fs fields = intendedVars cfg fns fs (fields.map (·.2)) := by
  induction fs generalizing fields with
  | nil => cases fields <;> simp [intendedFields, intendedVars]
  | cons f fs ih =>
    cases fields with
    | nil => simp [intendedFields, intendedVars]
    | cons p rest =>
      obtain ⟨fk, v⟩ := p
      simp only [intendedFields, intendedVars, List.map_cons, ih rest]

theorem integral_zero (i : Int) : integral? i 0 = some i := by
  simp [integral?, pow10]

theorem wrapN_zero (j : J) : wrapN 0 j = j := rfl


theorem hasType_none (cfg : Cfg) (t : GT) : hasType cfg t .none = !t.nonNull := by
  cases t <;> simp [hasType]

theorem hasType_unset (cfg : Cfg) (t : GT) : hasType cfg t .unset = false := by
  cases t <;> simp [hasType]

theorem hasType_list {cfg : Cfg} {t : GT} {xs : List AV} (h : hasType cfg t (.list xs) = true) :
    ∃ it nn, t = .list it nn ∧ hasTypeList cfg it xs = true := by
  cases t with
  | named n nn => simp [hasType] at h
  | list it nn => exact ⟨it, nn, rfl, by simpa [hasType] using h⟩

theorem hasType_model {cfg : Cfg} {t : GT} {cls : String} {fields : List (FieldKey × AV)}
    (h : hasType cfg t (.model cls fields) = true) :
    ∃ nn fs, t = .named cls nn ∧ cfg.schema.get? cls = some (.input fs) ∧ hasFields cfg fs fields = true := by
  cases t with
  | list it nn => simp [hasType] at h
  | named n nn =>
    simp only [hasType, Bool.and_eq_true, beq_iff_eq] at h
    obtain ⟨rfl, hm⟩ := h
    cases hg : cfg.schema.get? cls with
    | none => simp [hg] at hm
    | some ty =>
      cases ty with
      | input fs => exact ⟨nn, fs, rfl, rfl, by simpa [hg] using hm⟩
      | _ => simp [hg] at hm

def leafValue : AV → Bool
  | .bool _ | .int _ | .float _ _ | .str _ | .enum _ | .custom _ _ => true
  | _ => false

theorem hasType_leaf {cfg : Cfg} {t : GT} {v : AV} (hv : leafValue v = true) (h : hasType cfg t v = true) :
    ∃ n nn, t = .named n nn ∧ leafOK cfg n v = true := by
  cases t with
  | list it nn => cases v <;> simp [hasType, leafValue] at h hv
  | named n nn => exact ⟨n, nn, rfl, by cases v <;> simp [leafValue] at hv <;> simpa [hasType] using h⟩

/-- what has to hold of the dumped form `p` of a value `v` at type `t` -/
def Good (cfg : Cfg) (fns : UserFns) (t : GT) (v : AV) (p : PV) : Prop :=
  simple p = true ∧ ∃ w, toJson p = some w ∧ coerce cfg.schema t w = .ok (intended cfg fns v)

/-- … and of the dumped forms `ps` of the items `xs` of a list with item type `it` -/
def GoodList (cfg : Cfg) (fns : UserFns) (it : GT) (xs : List AV) (ps : List PV) : Prop :=
  simpleList ps = true ∧ ∃ ws, toJsonList ps = some ws ∧ coerceList cfg.schema it ws = .ok (intendedList cfg fns xs)

section
variable {cfg : Cfg} {fns : UserFns}

theorem Good.none {t : GT} (h : t.nonNull = false) : Good cfg fns t .none .none :=
  ⟨rfl, .null, rfl, by cases t <;> simp_all [coerce, GT.nonNull, intended]⟩

theorem Good.list {it : GT} {nn : Bool} {xs : List AV} {ps : List PV} (h : GoodList cfg fns it xs ps) :
    Good cfg fns (.list it nn) (.list xs) (.list ps) := by
  obtain ⟨hs, ws, hj, hco⟩ := h
  exact ⟨by simpa [simple] using hs, .arr ws, by simp [toJson, hj], by simp [coerce, hco, intended]⟩

theorem GoodList.nil {it : GT} : GoodList cfg fns it [] [] :=
  ⟨rfl, [], rfl, by simp [coerceList, intendedList]⟩

theorem GoodList.cons {it : GT} {x : AV} {xs : List AV} {p : PV} {ps : List PV}
    (h1 : Good cfg fns it x p) (h2 : GoodList cfg fns it xs ps) : GoodList cfg fns it (x :: xs) (p :: ps) := by
  obtain ⟨hs1, w, hj1, hco1⟩ := h1
  obtain ⟨hs2, ws, hj2, hco2⟩ := h2
  exact ⟨by simp [simpleList, hs1, hs2], w :: ws, by simp [toJsonList, hj1, hj2],
    by simp [coerceList, hco1, hco2, intendedList]⟩

theorem Good.model (hy : Hyp cfg fns) {cls : String} {nn : Bool} {fs : List IField} {fields : List (FieldKey × AV)}
    {kvs : List (String × PV)} (hg : cfg.schema.get? cls = some (.input fs))
    (h : simpleKvs kvs = true ∧ ∃ wkvs, toJsonKvs kvs = some wkvs ∧
      coerceKvs cfg.schema fs wkvs = .ok (provided fs (optInt cfg fns (fields.map (·.2)))) ∧
      absentOK fs (optInt cfg fns (fields.map (·.2))) = true) :
    Good cfg fns (.named cls nn) (.model cls fields) (.dict kvs) := by
  obtain ⟨hs, wkvs, hj, hco, hab⟩ := h
  refine ⟨by simpa [simple] using hs, .obj wkvs, by simp [toJson, hj], ?_⟩
  simp only [coerce, GT.base, GT.depth, hg, hco, assemble_provided fs _ (hy.fieldsNodup cls fs hg) hab, wrapN, intended,
    Cfg.fieldsOf, intendedFields_vars, intendedVars_eq]

end

theorem builtin_kind (s : ISchema) (n : String) (hg : s.get? n = none) (hb : builtinScalars.contains n = true) :
    kindOf s n = .scalar := by
  simp only [kindOf, hg, hb, if_true]

theorem serLeaf_plain (fns : UserFns) (l : Leaf) (v : PV) (h : ∀ t f, l ≠ .ser t f) : serLeaf fns l v = .ok (v, []) := by
  cases l with
  | ser t f => exact absurd rfl (h t f)
  | _ => rfl

theorem namedLeaf_builtin (cfg : Cfg) (n py : String) (hg : cfg.schema.get? n = none)
    (hb : builtinScalars.contains n = true) (hm : Util.lookupStr n Tables.inputScalarsMap = some py) :
    namedLeaf cfg.scalars (kindOf cfg.schema) n = .name py := by
  simp [namedLeaf, builtin_kind cfg.schema n hg hb, hm]

theorem coerce_named_leaf (s : ISchema) (n : String) (nn : Bool) (w : J) (hw : w.isNull = false)
    (hi : ∀ fs, s.get? n ≠ some (.input fs)) : coerce s (.named n nn) w = coerceLeaf s n w := by
  cases w with
  | null => simp [J.isNull] at hw
  | arr xs => simp only [coerce]
  | obj kvs =>
    simp only [coerce, GT.base, GT.depth, wrapN]
    cases hg : s.get? n with
    | none => cases coerceLeaf s n (.obj kvs) <;> rfl
    | some ty =>
      cases ty with
      | input fs => exact absurd hg (hi fs)
      | _ => cases coerceLeaf s n (.obj kvs) <;> rfl
  | _ =>
    simp only [coerce, GT.base, GT.depth, wrapN]
    cases coerceLeaf s n _ <;> rfl

theorem coerce_named_scalar (s : ISchema) (n : String) (nn : Bool) (w : J) (hs : s.get? n = some .scalar)
    (hw : w.isNull = false) : coerce s (.named n nn) w = .ok w := by
  rw [coerce_named_leaf s n nn w hw (by simp [hs])]
  simp [coerceLeaf, hs]

/-- what travels for a leaf value: the value itself; a custom scalar in the form the caller means
    (`serialize(value)` where configured) -/
def sentLeaf (cfg : Cfg) (fns : UserFns) : AV → PV
  | .custom sc j => .leaf (some (intended cfg fns (.custom sc j)))
  | v => leafPV v

theorem leafOK_cases {cfg : Cfg} {n : String} {v : AV} (h : leafOK cfg n v = true) :
    (∃ b, v = .bool b ∧ cfg.schema.get? n = none ∧ n = "Boolean")
    ∨ (∃ i, v = .int i ∧ cfg.schema.get? n = none ∧ n = "Int" ∧ int32 i = true)
    ∨ (∃ i, v = .int i ∧ cfg.schema.get? n = none ∧ n = "Float")
    ∨ (∃ m e, v = .float m e ∧ cfg.schema.get? n = none ∧ n = "Float")
    ∨ (∃ x, v = .str x ∧ cfg.schema.get? n = none ∧ n = "String")
    ∨ (∃ x, v = .str x ∧ cfg.schema.get? n = none ∧ n = "ID")
    ∨ (∃ m vals, v = .enum m ∧ cfg.schema.get? n = some (.enum vals) ∧ vals.contains m = true)
    ∨ (∃ j, v = .custom n j ∧ j.isNull = false ∧ cfg.schema.get? n = some .scalar) := by
  cases v with
  | bool b =>
    simp only [leafOK, Bool.and_eq_true, Option.isNone_iff_eq_none, beq_iff_eq] at h
    obtain ⟨hg, rfl⟩ := h
    simp [hg]
  | int i =>
    simp only [leafOK, Bool.and_eq_true, Option.isNone_iff_eq_none, Bool.or_eq_true, beq_iff_eq] at h
    rcases h.2 with h2 | h2 <;> simp_all
  | float m e =>
    simp only [leafOK, Bool.and_eq_true, Option.isNone_iff_eq_none, beq_iff_eq] at h
    obtain ⟨hg, rfl⟩ := h
    simp [hg]
  | str x =>
    simp only [leafOK, Bool.and_eq_true, Option.isNone_iff_eq_none, Bool.or_eq_true, beq_iff_eq] at h
    rcases h.2 with h2 | h2 <;> simp_all
  | enum m =>
    simp only [leafOK] at h
    cases hg : cfg.schema.get? n with
    | none => simp [hg] at h
    | some ty => cases ty <;> simp_all
  | custom sc j =>
    simp only [leafOK, Bool.and_eq_true, beq_iff_eq, Bool.not_eq_true'] at h
    obtain ⟨⟨rfl, hj⟩, hk⟩ := h
    cases hg : cfg.schema.get? sc with
    | none => simp [hg] at hk
    | some ty => cases ty <;> simp_all
  | _ => simp [leafOK] at h

theorem leafOK_custom {cfg : Cfg} {n sc : String} {j : J} (h : leafOK cfg n (.custom sc j) = true) :
    sc = n ∧ j.isNull = false ∧ cfg.schema.get? n = some .scalar := by
  rcases leafOK_cases h with ⟨_, h, _⟩ | ⟨_, h, _⟩ | ⟨_, h, _⟩ | ⟨_, _, h, _⟩ | ⟨_, h, _⟩ | ⟨_, h, _⟩ | ⟨_, _, h, _⟩ | ⟨_, h, hj, hg⟩ <;>
    cases h
  exact ⟨rfl, hj, hg⟩

theorem leaf_Good (cfg : Cfg) (fns : UserFns) (hy : Hyp cfg fns) (n : String) (nn : Bool) (v : AV)
    (h : leafOK cfg n v = true) : Good cfg fns (.named n nn) v (sentLeaf cfg fns v) := by
  rcases leafOK_cases h with ⟨b, rfl, hg, rfl⟩ | ⟨i, rfl, hg, rfl, h32⟩ | ⟨i, rfl, hg, rfl⟩ | ⟨m, e, rfl, hg, rfl⟩ |
    ⟨x, rfl, hg, rfl⟩ | ⟨x, rfl, hg, rfl⟩ | ⟨m, vals, rfl, hg, hm⟩ | ⟨j, rfl, hj, hg⟩
  · exact ⟨rfl, .bool b, rfl, by rw [coerce_named_leaf _ _ _ _ rfl (by simp [hg])]; simp [coerceLeaf, hg, coerceBoolean, intended]⟩
  · exact ⟨rfl, .num i 0, rfl, by rw [coerce_named_leaf _ _ _ _ rfl (by simp [hg])]; simp [coerceLeaf, hg, coerceInt, integral_zero, h32, intended]⟩
  · exact ⟨rfl, .num i 0, rfl, by rw [coerce_named_leaf _ _ _ _ rfl (by simp [hg])]; simp [coerceLeaf, hg, coerceFloat, intended]⟩
  · exact ⟨rfl, .num m e, rfl, by rw [coerce_named_leaf _ _ _ _ rfl (by simp [hg])]; simp [coerceLeaf, hg, coerceFloat, intended]⟩
  · exact ⟨rfl, .str x, rfl, by rw [coerce_named_leaf _ _ _ _ rfl (by simp [hg])]; simp [coerceLeaf, hg, coerceString, intended]⟩
  · exact ⟨rfl, .str x, rfl, by rw [coerce_named_leaf _ _ _ _ rfl (by simp [hg])]; simp [coerceLeaf, hg, coerceID, intended]⟩
  · have hm' : m ∈ vals := by simpa using hm
    exact ⟨rfl, .str m, rfl, by rw [coerce_named_leaf _ _ _ _ rfl (by simp [hg])]; simp [coerceLeaf, hg, hm', intended]⟩
  · have hw : (intended cfg fns (.custom n j)).isNull = false := by
      simp only [intended]
      cases cfg.serializeOf n <;> simp [hj, hy.serNonNull]
    exact ⟨rfl, _, rfl, coerce_named_scalar cfg.schema n nn _ hg hw⟩

theorem dumpAnn_leaf (cfg : Cfg) (fns : UserFns) (hy : Hyp cfg fns) (n : String) (opt : Bool) (v : AV)
    (h : leafOK cfg n v = true) :
    dumpAnn fns (.leaf (namedLeaf cfg.scalars (kindOf cfg.schema) n) opt) v = .ok (sentLeaf cfg fns v, serCalls cfg v) := by
  rcases leafOK_cases h with ⟨b, rfl, hg, rfl⟩ | ⟨i, rfl, hg, rfl, _⟩ | ⟨i, rfl, hg, rfl⟩ | ⟨m, e, rfl, hg, rfl⟩ |
    ⟨x, rfl, hg, rfl⟩ | ⟨x, rfl, hg, rfl⟩ | ⟨m, vals, rfl, hg, _⟩ | ⟨j, rfl, hj, hg⟩
  · simp [dumpAnn, namedLeaf_builtin cfg "Boolean" "bool" hg (by decide) (by decide), serLeaf, sentLeaf, leafPV, serCalls]
  · simp [dumpAnn, namedLeaf_builtin cfg "Int" "int" hg (by decide) (by decide), serLeaf, sentLeaf, leafPV, serCalls]
  · simp [dumpAnn, namedLeaf_builtin cfg "Float" "float" hg (by decide) (by decide), serLeaf, sentLeaf, leafPV, serCalls]
  · simp [dumpAnn, namedLeaf_builtin cfg "Float" "float" hg (by decide) (by decide), serLeaf, sentLeaf, leafPV, serCalls]
  · simp [dumpAnn, namedLeaf_builtin cfg "String" "str" hg (by decide) (by decide), serLeaf, sentLeaf, leafPV, serCalls]
  · simp [dumpAnn, namedLeaf_builtin cfg "ID" "str" hg (by decide) (by decide), serLeaf, sentLeaf, leafPV, serCalls]
  · have hl : namedLeaf cfg.scalars (kindOf cfg.schema) n = .name n := by simp [namedLeaf, kindOf, hg]
    simp [dumpAnn, hl, serLeaf, sentLeaf, leafPV, serCalls]
  · have hkind : kindOf cfg.schema n = .scalar := by simp [kindOf, hg]
    cases hcfg : lookupScalar cfg.scalars n with
    | none =>
      -- not configured: the annotation is a plain name (`Any`, or the built-in map's entry), the raw value travels
      have hl : ∀ t f, namedLeaf cfg.scalars (kindOf cfg.schema) n ≠ .ser t f := by
        intro t f; simp only [namedLeaf, hkind, hcfg]; cases Util.lookupStr n Tables.inputScalarsMap <;> simp
      simp [dumpAnn, serLeaf_plain fns _ _ hl, sentLeaf, intended, serCalls, Cfg.serializeOf, hcfg]
    | some d =>
      have hmap := hy.scalarsSane n d hcfg
      cases hser : d.serializeName with
      | none =>
        have hl : namedLeaf cfg.scalars (kindOf cfg.schema) n = .name d.typeName := by
          simp [namedLeaf, hkind, hmap, hcfg, inputLeaf, hser]
        simp [dumpAnn, hl, serLeaf, sentLeaf, intended, serCalls, Cfg.serializeOf, hcfg, hser]
      | some f =>
        have hl : namedLeaf cfg.scalars (kindOf cfg.schema) n = .ser d.typeName f := by
          simp [namedLeaf, hkind, hmap, hcfg, inputLeaf, hser]
        simp [dumpAnn, hl, serLeaf, UserFns.apply, sentLeaf, intended, serCalls, Cfg.serializeOf, hcfg, hser]

/-! ### values inside an input model: dumped under the generated annotation -/

/-- the annotation the input-class generator emits for a field of type `t` (`inh` = the
    nullability handed down by the enclosing list) -/
abbrev PT (cfg : Cfg) (inh : Bool) (t : GT) : NAnn := parseType cfg.scalars (kindOf cfg.schema) inh t

/-- `model_dump(by_alias=True)` keys a field by its original GraphQL name -/
theorem fieldKey_key (cfg : Cfg) (f : IField) : (fieldKeyOf cfg f).key = f.name := by
  simp only [fieldKeyOf, fieldDecl]
  by_cases h : pyField cfg.snake f.name = f.name
  · simp [h]
  · simp [h]

theorem fieldKey_ann (cfg : Cfg) (f : IField) : (fieldKeyOf cfg f).ann = PT cfg true f.type := by
  simp [fieldKeyOf, fieldDecl, PT]

theorem PT_named (cfg : Cfg) (inh : Bool) (n : String) (nn : Bool) :
    PT cfg inh (.named n nn) = .leaf (namedLeaf cfg.scalars (kindOf cfg.schema) n) (if nn then false else inh) := by
  simp [PT, parseType]

theorem PT_list (cfg : Cfg) (inh : Bool) (it : GT) (nn : Bool) :
    PT cfg inh (.list it nn) = .list (PT cfg (if nn then false else inh) it) (if nn then false else inh) := by
  simp [PT, parseType]

/- the list members below state `GoodList …` and the hypothesis of `Good.model` written out, so `GoodList.nil`/`.cons` and
   `Good.model` close them -/
mutual
theorem dump_good (cfg : Cfg) (fns : UserFns) (hy : Hyp cfg fns) (inh : Bool) (t : GT) (v : AV)
    (ht : hasType cfg t v = true) (hc : annConf (PT cfg inh t) v = true) :
    ∃ p calls, dumpAnn fns (PT cfg inh t) v = .ok (p, calls) ∧ calls = serCalls cfg v ∧ Good cfg fns t v p := by
  cases v with
  | none =>
    have hopt : (PT cfg inh t).opt = true := by cases t <;> simpa [annConf] using hc
    refine ⟨.none, [], ?_, by simp [serCalls], Good.none (by simpa [hasType_none] using ht)⟩
    cases hpt : PT cfg inh t with
    | leaf l o => rw [hpt] at hopt; simp [NAnn.opt] at hopt; simp [dumpAnn, NAnn.opt, hopt]
    | list i o => rw [hpt] at hopt; simp [NAnn.opt] at hopt; simp [dumpAnn, NAnn.opt, hopt]
  | unset => rw [hasType_unset] at ht; cases ht
  | list xs =>
    obtain ⟨it, nn, rfl, ht'⟩ := hasType_list ht
    rw [PT_list] at hc ⊢
    obtain ⟨ps, calls, hd, hcl, hg⟩ :=
      dumpItems_good cfg fns hy (if nn then false else inh) it xs ht' (by simpa [annConf] using hc)
    exact ⟨.list ps, calls, by simp only [dumpAnn, hd], by simp [serCalls, hcl], Good.list hg⟩
  | model cls fields =>
    obtain ⟨nn, fs, rfl, hg, hm⟩ := hasType_model ht
    obtain ⟨kvs, calls, hd, hcl, hf⟩ :=
      dumpFields_good cfg fns hy fs fs fields hm (fun f hf => findField_of_mem fs (hy.fieldsNodup cls fs hg) f hf)
    have hl : namedLeaf cfg.scalars (kindOf cfg.schema) cls = .fwd cls := by simp [namedLeaf, kindOf, hg]
    exact ⟨.dict kvs, calls, by rw [PT_named, hl]; simp [dumpAnn, hd], by simp [serCalls, hcl], Good.model hy hg hf⟩
  | _ =>
    obtain ⟨n, nn, rfl, hl⟩ := hasType_leaf rfl ht
    rw [PT_named]
    exact ⟨_, _, dumpAnn_leaf cfg fns hy n _ _ hl, rfl, leaf_Good cfg fns hy n nn _ hl⟩
theorem dumpItems_good (cfg : Cfg) (fns : UserFns) (hy : Hyp cfg fns) (inh : Bool) (it : GT) (xs : List AV)
    (ht : hasTypeList cfg it xs = true) (hc : annConfList (PT cfg inh it) xs = true) :
    ∃ ps calls, dumpItems fns (PT cfg inh it) xs = .ok (ps, calls) ∧ calls = serCallsList cfg xs ∧ simpleList ps = true ∧
      ∃ ws, toJsonList ps = some ws ∧ coerceList cfg.schema it ws = .ok (intendedList cfg fns xs) := by
  cases xs with
  | nil => exact ⟨[], [], by simp [dumpItems], by simp [serCallsList], GoodList.nil⟩
  | cons x xs =>
    simp only [hasTypeList, Bool.and_eq_true] at ht
    simp only [annConfList, Bool.and_eq_true] at hc
    obtain ⟨p, c1, hd1, hc1, hg1⟩ := dump_good cfg fns hy inh it x ht.1 hc.1
    obtain ⟨ps, c2, hd2, hc2, hg2⟩ := dumpItems_good cfg fns hy inh it xs ht.2 hc.2
    exact ⟨p :: ps, c1 ++ c2, by simp [dumpItems, hd1, hd2], by simp [serCallsList, hc1, hc2], GoodList.cons hg1 hg2⟩
theorem dumpFields_good (cfg : Cfg) (fns : UserFns) (hy : Hyp cfg fns) (fsFull fs' : List IField)
    (fields : List (FieldKey × AV)) (hf : hasFields cfg fs' fields = true)
    (hsub : ∀ f ∈ fs', findField fsFull f.name = some f) :
    ∃ kvs calls, dumpFields fns fields = .ok (kvs, calls) ∧ calls = serCallsFields cfg fields ∧ simpleKvs kvs = true ∧
      ∃ wkvs, toJsonKvs kvs = some wkvs ∧
        coerceKvs cfg.schema fsFull wkvs = .ok (provided fs' (optInt cfg fns (fields.map (·.2)))) ∧
        absentOK fs' (optInt cfg fns (fields.map (·.2))) = true := by
  cases fields with
  | nil =>
    cases fs' with
    | nil => exact ⟨[], [], by simp [dumpFields], by simp [serCallsFields], rfl, [], rfl, by simp [coerceKvs, provided], by simp [absentOK, optInt]⟩
    | cons f fs'' => simp [hasFields] at hf
  | cons pr rest =>
    obtain ⟨fk, v⟩ := pr
    cases fs' with
    | nil => simp [hasFields] at hf
    | cons f fs'' =>
      simp only [hasFields, Bool.and_eq_true, beq_iff_eq, Bool.or_eq_true] at hf
      obtain ⟨⟨hfk, hv⟩, hrest⟩ := hf
      obtain ⟨kvs, c2, hd2, hcl2, hs2, wkvs, hj2, hco2, hab2⟩ :=
        dumpFields_good cfg fns hy fsFull fs'' rest hrest (fun g hg => hsub g (List.mem_cons_of_mem _ hg))
      by_cases hu : v.isUnset = true
      · -- field not set: skipped by the dump; allowed because the class gives it a default
        have hopt : (f.default.isSome || !f.type.nonNull) = true := by
          rcases hv with ⟨_, h⟩ | ⟨h, _⟩
          · simpa using h
          · cases v <;> simp [AV.isUnset] at hu
            rw [hasType_unset] at h; cases h
        have hvu : serCalls cfg v = [] := by cases v <;> simp [AV.isUnset] at hu; simp [serCalls]
        refine ⟨kvs, c2, by simp [dumpFields, hu, hd2], by simp [serCallsFields, hvu, hcl2], hs2, wkvs, hj2, ?_, ?_⟩
        · simp [optInt, hu, provided, hco2]
        · simp [optInt, hu, absentOK, hab2]; simpa using hopt
      · have hv' : hasType cfg f.type v = true ∧ annConf fk.ann v = true := by
          rcases hv with ⟨h, _⟩ | h
          · exact absurd h hu
          · exact h
        have hann : fk.ann = PT cfg true f.type := by rw [hfk, fieldKey_ann]
        have hkey : fk.key = f.name := by rw [hfk, fieldKey_key]
        obtain ⟨p, c1, hd1, hcl1, hs1, w, hj1, hco1⟩ := dump_good cfg fns hy true f.type v hv'.1 (hann ▸ hv'.2)
        have hfind := hsub f (List.mem_cons_self)
        refine ⟨(f.name, p) :: kvs, c1 ++ c2, ?_, by simp [serCallsFields, hcl1, hcl2], by simp [simpleKvs, hs1, hs2], (f.name, w) :: wkvs,
          by simp [toJsonKvs, hj1, hj2], ?_, ?_⟩
        · simp [dumpFields, hu, hann, hd1, hd2, hkey]
        · simp [coerceKvs, hfind, hco1, hco2, optInt, hu, provided]
        · simp [optInt, hu, absentOK, hab2]
end

theorem model_Good (cfg : Cfg) (fns : UserFns) (hy : Hyp cfg fns) (t : GT) (cls : String)
    (fields : List (FieldKey × AV)) (ht : hasType cfg t (.model cls fields) = true) :
    ∃ kvs calls, dumpFields fns fields = .ok (kvs, calls) ∧ calls = serCallsFields cfg fields ∧
      Good cfg fns t (.model cls fields) (.dict kvs) := by
  obtain ⟨nn, fs, rfl, hg, hm⟩ := hasType_model ht
  obtain ⟨kvs, calls, hd, hcl, hf⟩ :=
    dumpFields_good cfg fns hy fs fs fields hm (fun f hf => findField_of_mem fs (hy.fieldsNodup cls fs hg) f hf)
  exact ⟨kvs, calls, hd, hcl, Good.model hy hg hf⟩

/-! ### top-level arguments (no annotation is consulted: the object itself travels) -/

def NoSer (cfg : Cfg) (t : GT) : Prop := cfg.schema.get? t.base = some .scalar → cfg.serializeOf t.base = none

theorem leaf_noSer (cfg : Cfg) (fns : UserFns) (n : String) (nn : Bool) (v : AV) (h : leafOK cfg n v = true)
    (hser : NoSer cfg (.named n nn)) : serCalls cfg v = [] ∧ sentLeaf cfg fns v = leafPV v := by
  cases v with
  | custom sc j =>
    obtain ⟨rfl, _, hg⟩ := leafOK_custom h
    have hno : cfg.serializeOf sc = none := hser (by simpa [GT.base] using hg)
    simp [serCalls, sentLeaf, intended, leafPV, hno]
  | list xs => simp [leafOK] at h
  | model cls fields => simp [leafOK] at h
  | _ => simp [serCalls, sentLeaf]

mutual
theorem obj_good (cfg : Cfg) (fns : UserFns) (hy : Hyp cfg fns) (t : GT) (v : AV)
    (ht : hasType cfg t v = true) (hser : NoSer cfg t) :
    ∃ o calls, objOf fns v = .ok (o, calls) ∧ calls = serCalls cfg v ∧ Good cfg fns t v (convertValue o) := by
  cases v with
  | none => exact ⟨.none, [], rfl, by simp [serCalls], Good.none (by simpa [hasType_none] using ht)⟩
  | unset => rw [hasType_unset] at ht; cases ht
  | list xs =>
    obtain ⟨it, nn, rfl, ht'⟩ := hasType_list ht
    obtain ⟨os, calls, hd, hcl, hg⟩ := objs_good cfg fns hy it xs ht' (by simpa [NoSer, GT.base] using hser)
    refine ⟨.list os, calls, by simp only [objOf, hd], by simp [serCalls, hcl], ?_⟩
    rw [convertValue]; exact Good.list hg
  | model cls fields =>
    obtain ⟨kvs, calls, hd, hcl, hgood⟩ := model_Good cfg fns hy t cls fields ht
    exact ⟨.model (.dict kvs) none, calls, by simp only [objOf, hd], by simp [serCalls, hcl], by rw [convertValue]; exact hgood⟩
  | _ =>
    obtain ⟨n, nn, rfl, hl⟩ := hasType_leaf rfl ht
    obtain ⟨hc, hs⟩ := leaf_noSer cfg fns n nn _ hl hser
    have hg := leaf_Good cfg fns hy n nn _ hl
    rw [hs] at hg
    exact ⟨_, [], rfl, hc.symm, hg⟩
theorem objs_good (cfg : Cfg) (fns : UserFns) (hy : Hyp cfg fns) (it : GT) (xs : List AV)
    (ht : hasTypeList cfg it xs = true) (hser : NoSer cfg it) :
    ∃ os calls, objsOf fns xs = .ok (os, calls) ∧ calls = serCallsList cfg xs ∧ simpleList (convertList os) = true ∧
      ∃ ws, toJsonList (convertList os) = some ws ∧ coerceList cfg.schema it ws = .ok (intendedList cfg fns xs) := by
  cases xs with
  | nil => exact ⟨[], [], rfl, by simp [serCallsList], GoodList.nil⟩
  | cons x xs =>
    simp only [hasTypeList, Bool.and_eq_true] at ht
    obtain ⟨o, c1, hd1, hc1, hg1⟩ := obj_good cfg fns hy it x ht.1 hser
    obtain ⟨os, c2, hd2, hc2, hg2⟩ := objs_good cfg fns hy it xs ht.2 hser
    refine ⟨o :: os, c1 ++ c2, by simp [objsOf, hd1, hd2], by simp [serCallsList, hc1, hc2], ?_⟩
    rw [convertList]; exact GoodList.cons hg1 hg2
end


mutual
theorem sep_simple (path : String) (p : PV) (st : List Entry) (h : simple p = true) : sep path p st = (p, st) := by
  cases p with
  | list xs => simp [sep, sepList_simple path 0 xs st (by simpa [simple] using h)]
  | dict kvs => simp [sep, sepDict_simple path kvs st (by simpa [simple] using h)]
  | upload i => simp [simple] at h
  | _ => simp [sep]
theorem sepList_simple (path : String) (i : Nat) (xs : List PV) (st : List Entry) (h : simpleList xs = true) :
    sepList path i xs st = (xs, st) := by
  cases xs with
  | nil => simp [sepList]
  | cons x xs =>
    simp only [simpleList, Bool.and_eq_true] at h
    simp [sepList, sep_simple _ x st h.1, sepList_simple path (i + 1) xs st h.2]
theorem sepDict_simple (path : String) (kvs : List (String × PV)) (st : List Entry) (h : simpleKvs kvs = true) :
    sepDict path kvs st = (kvs, st) := by
  cases kvs with
  | nil => simp [sepDict]
  | cons kv rest =>
    obtain ⟨k, x⟩ := kv
    simp only [simpleKvs, Bool.and_eq_true] at h
    simp [sepDict, sep_simple _ x st h.1, sepDict_simple path rest st h.2]
end

theorem payloadOf_simple (vars : List (String × PV)) (h : simpleKvs (convertDict vars) = true) :
    payloadOf vars = toJsonKvs (convertDict vars) := by
  cases vars with
  | nil => simp [payloadOf, BaseClient.processVariables, convertDict]
  | cons kv rest => simp [payloadOf, BaseClient.processVariables, sepDict_simple _ _ _ h]

/-- the object a top-level argument is bound to: the caller's object, or `UNSET` when omitted; where `objOf` raises
    (`objsOK` excludes it) `None` stands in -/
def argObj (fns : UserFns) (v : AV) : PV :=
  match objOf fns v with
  | .ok (o, _) => o
  | .error _ => .none

/-- the `variables` dict of a supported method, entry by entry: the bound object, or for a
    non-null custom scalar with `serialize` the serialized scalar -/
def entryOf (cfg : Cfg) (fns : UserFns) (d : IField) (v : AV) : PV :=
  if v.isUnset then .unset
  else
    match v, cfg.serOfType d.type with
    | .custom _ j, some f => .leaf (some (fns.ser f j))
    | _, _ => argObj fns v

def dictPart (cfg : Cfg) (d : IField) (v : AV) : List Call :=
  match v, cfg.serOfType d.type with
  | .custom _ j, some f => [⟨f, .leaf (some j)⟩]
  | _, _ => []

/-- the serialize calls made while the dict literal of a supported method is evaluated: one per
    `Scalar!` argument whose scalar has `serialize` -/
def dictCalls (cfg : Cfg) : List IField → List AV → List Call
  | d :: ds, v :: vs => dictPart cfg d v ++ dictCalls cfg ds vs
  | _, _ => []

def dictOf (cfg : Cfg) (fns : UserFns) : List IField → List AV → List (String × PV)
  | d :: ds, v :: vs => (d.name, entryOf cfg fns d v) :: dictOf cfg fns ds vs
  | _, _ => []

/-- the serialize triggers, on the coercion view: a variable whose base scalar has `serialize`
    configured is a plain non-null `Scalar!` -/
def serTopOK (cfg : Cfg) : List IField → Bool
  | [] => true
  | d :: ds =>
    (match cfg.serOfType d.type with
     | some _ => d.type.nonNull && !d.type.isList
     | none => true) && serTopOK cfg ds

/-- … and on the values, which is what the emitted code depends on: `serialize(p)` stands in the dict
    only where the caller passes a scalar value -/
def SerArgsOK (cfg : Cfg) (ds : List IField) (vs : List AV) : Prop :=
  ∀ dv ∈ ds.zip vs, ∀ f, cfg.serOfType dv.1.type = some f → ∃ sc j, dv.2 = .custom sc j

theorem SerArgsOK.head {cfg : Cfg} {d : IField} {ds : List IField} {v : AV} {vs : List AV}
    (h : SerArgsOK cfg (d :: ds) (v :: vs)) : ∀ f, cfg.serOfType d.type = some f → ∃ sc j, v = .custom sc j :=
  h (d, v) (by simp)

theorem SerArgsOK.tail {cfg : Cfg} {d : IField} {ds : List IField} {v : AV} {vs : List AV}
    (h : SerArgsOK cfg (d :: ds) (v :: vs)) : SerArgsOK cfg ds vs :=
  fun dv hm => h dv (by simp [hm])

theorem custom_of_scalar_type (cfg : Cfg) (t : GT) (v : AV) (ht : hasType cfg t v = true)
    (hsc : cfg.isScalar t.base = true) (hnn : t.nonNull = true) (hl : t.isList = false) : ∃ sc j, v = .custom sc j := by
  cases v with
  | custom sc j => exact ⟨sc, j, rfl⟩
  | none => simp [hasType_none, hnn] at ht
  | unset => simp [hasType_unset] at ht
  | list xs => obtain ⟨it, nn, rfl, _⟩ := hasType_list ht; simp [GT.isList] at hl
  | model cls fields => obtain ⟨nn, fs, rfl, hg, _⟩ := hasType_model ht; simp [Cfg.isScalar, GT.base, hg] at hsc
  | _ =>
    obtain ⟨n, nn, rfl, h⟩ := hasType_leaf rfl ht
    simp only [Cfg.isScalar, GT.base] at hsc
    cases hg : cfg.schema.get? n with
    | none => simp [hg] at hsc
    | some ty => cases ty <;> simp [hg] at hsc <;> simp [leafOK, hg] at h

theorem isScalar_of_serOfType (cfg : Cfg) (t : GT) (f : String) (h : cfg.serOfType t = some f) : cfg.isScalar t.base = true := by
  simp only [Cfg.serOfType] at h
  cases hs : cfg.isScalar t.base with
  | true => rfl
  | false => simp [hs] at h

theorem serArgsOK_of_serTopOK (cfg : Cfg) (ds : List IField) (vs : List AV) (hv : argsValid cfg ds vs = true)
    (hs : serTopOK cfg ds = true) : SerArgsOK cfg ds vs := by
  induction ds, vs using argsValid.induct with
  | case1 => intro dv hm; simp at hm
  | case2 d ds v vs ih =>
    simp only [argsValid, Bool.and_eq_true, Bool.or_eq_true, Bool.not_eq_true'] at hv
    simp only [serTopOK, Bool.and_eq_true] at hs
    intro dv hm f hf
    simp only [List.zip_cons_cons, List.mem_cons] at hm
    rcases hm with rfl | hm
    · have h1 := hs.1
      simp only [hf, Bool.and_eq_true, Bool.not_eq_true'] at h1
      rcases hv.1 with h | h
      · rw [h1.1] at h; cases h.2
      · exact custom_of_scalar_type cfg d.type v h (isScalar_of_serOfType cfg _ f hf) h1.1 h1.2
    · exact ih hv.2 hs.2 dv hm f hf
  | case3 ds vs _ _ => simp [argsValid] at hv

theorem entry_good (cfg : Cfg) (fns : UserFns) (hy : Hyp cfg fns) (d : IField) (v : AV)
    (ht : hasType cfg d.type v = true)
    (hs : ∀ f, cfg.serOfType d.type = some f → ∃ sc j, v = .custom sc j) :
    Good cfg fns d.type v (convertValue (entryOf cfg fns d v)) := by
  have hu : v.isUnset = false := by
    cases v <;> simp [AV.isUnset]
    rw [hasType_unset] at ht; cases ht
  cases hser : cfg.serOfType d.type with
  | none =>
    have hns : NoSer cfg d.type := by
      intro hsc; simpa [Cfg.serOfType, Cfg.isScalar, hsc] using hser
    obtain ⟨o, calls, ho, _, hg⟩ := obj_good cfg fns hy d.type v ht hns
    have : entryOf cfg fns d v = o := by
      simp only [entryOf, hu, hser, argObj, ho]
      cases v <;> simp
    rw [this]; exact hg
  | some f =>
    have hsc := isScalar_of_serOfType cfg _ f hser
    -- the value is a scalar value: the dict holds `serialize(value)`, which is what the caller means
    obtain ⟨sc, j, rfl⟩ := hs f hser
    obtain ⟨n, nn, hty, hl⟩ := hasType_leaf rfl ht
    obtain ⟨rfl, _⟩ := leafOK_custom hl
    have hf : cfg.serializeOf sc = some f := by
      rw [hty] at hsc hser
      simp only [GT.base] at hsc
      simpa [Cfg.serOfType, GT.base, hsc] using hser
    have he : convertValue (entryOf cfg fns d (.custom sc j)) = sentLeaf cfg fns (.custom sc j) := by
      simp [entryOf, AV.isUnset, hser, sentLeaf, intended, hf, convertValue]
    rw [he, hty]
    exact leaf_Good cfg fns hy sc nn _ hl

theorem argObj_not_unset (fns : UserFns) (v : AV) (h : v.isUnset = false) : (argObj fns v).isUnset = false := by
  cases v with
  | unset => simp [AV.isUnset] at h
  | list xs => simp only [argObj, objOf]; cases objsOf fns xs with
    | ok r => rfl
    | error e => rfl
  | model cls fields => simp only [argObj, objOf]; cases PydLog.dumpFields fns fields with
    | ok r => rfl
    | error e => rfl
  | _ => rfl

theorem entryOf_not_unset (cfg : Cfg) (fns : UserFns) (d : IField) (v : AV) (h : v.isUnset = false) :
    (entryOf cfg fns d v).isUnset = false := by
  have ha := argObj_not_unset fns v h
  cases hser : cfg.serOfType d.type <;> cases v <;> simp_all [entryOf, AV.isUnset, PV.isUnset]

/-- the semantic half of C03: the dict of a supported method, converted and written as JSON, is
    coerced by the server to exactly the intended values -/
theorem dict_coerces (cfg : Cfg) (fns : UserFns) (hy : Hyp cfg fns) (full : List IField) (ds : List IField) (vs : List AV)
    (hv : argsValid cfg ds vs = true) (hs : SerArgsOK cfg ds vs)
    (hsub : ∀ d ∈ ds, findField full d.name = some d) :
    simpleKvs (convertDict (dictOf cfg fns ds vs)) = true ∧
    ∃ ws, toJsonKvs (convertDict (dictOf cfg fns ds vs)) = some ws ∧
      coerceGiven cfg.schema full ws = .ok (provided ds (optInt cfg fns vs)) ∧
      absentOK ds (optInt cfg fns vs) = true := by
  induction ds, vs using argsValid.induct with
  | case1 => exact ⟨rfl, [], rfl, by simp [coerceGiven, provided], by simp [absentOK, optInt]⟩
  | case2 d ds v vs ih =>
    simp only [argsValid, Bool.and_eq_true, Bool.or_eq_true, Bool.not_eq_true'] at hv
    obtain ⟨hs1, ws, hj, hco, hab⟩ := ih hv.2 hs.tail (fun e he => hsub e (List.mem_cons_of_mem _ he))
    by_cases hu : v.isUnset = true
    · have hnn : d.type.nonNull = false := by
        rcases hv.1 with h | h
        · exact h.2
        · cases v <;> simp [AV.isUnset] at hu
          rw [hasType_unset] at h; cases h
      have he : entryOf cfg fns d v = .unset := by simp [entryOf, hu]
      refine ⟨by simpa [dictOf, convertDict, he, PV.isUnset] using hs1, ws, by simpa [dictOf, convertDict, he, PV.isUnset] using hj, ?_, ?_⟩
      · simp [optInt, hu, provided, hco]
      · simp [optInt, hu, absentOK, hab, hnn]
    · have ht : hasType cfg d.type v = true := by
        rcases hv.1 with h | h
        · exact absurd h.1 hu
        · exact h
      obtain ⟨hsi, w, hjw, hcw⟩ := entry_good cfg fns hy d v ht hs.head
      have hne := entryOf_not_unset cfg fns d v (by simpa using hu)
      have hfind := hsub d List.mem_cons_self
      refine ⟨by simp [dictOf, convertDict, hne, simpleKvs, hsi, hs1], (d.name, w) :: ws,
        by simp [dictOf, convertDict, hne, toJsonKvs, hjw, hj], ?_, ?_⟩
      · simp [coerceGiven, hfind, hcw, hco, optInt, hu, provided]
      · simp [optInt, hu, absentOK, hab]
  | case3 ds vs _ _ => simp [argsValid] at hv

end Ariadne.ArgProofs
