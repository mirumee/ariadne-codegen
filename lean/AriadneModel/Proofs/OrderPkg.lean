/-
  Proofs/OrderPkg.lean — operation imports, `__init__.py` and the package composition of C10 (`emitPackage_independent`).
  Core Lean only.
-/
import AriadneModel.Proofs.OrderEmit


namespace Ariadne.Order
open List Ariadne.Isort

theorem blockEquiv_mid (A C : List ImportFrom) (l : Nat) (m : String) {n₁ n₂ : List Name} (h : ∀ a, a ∈ n₁ ↔ a ∈ n₂) :
    BlockEquiv (A ++ ⟨l, m, n₁⟩ :: C) (A ++ ⟨l, m, n₂⟩ :: C) := by
  have key : ∀ (n₁ n₂ : List Name), (∀ a, a ∈ n₁ → a ∈ n₂) →
      (∀ mm, mm ∈ (A ++ ⟨l, m, n₁⟩ :: C).map modStr → mm ∈ (A ++ ⟨l, m, n₂⟩ :: C).map modStr) ∧
      (∀ mm a, a ∈ namesOf mm (A ++ ⟨l, m, n₁⟩ :: C) → a ∈ namesOf mm (A ++ ⟨l, m, n₂⟩ :: C)) := by
    intro n₁ n₂ h
    constructor
    · intro mm hmm
      simp only [List.map_append, List.map_cons, List.mem_append, List.mem_cons] at hmm ⊢
      rcases hmm with h1 | h1 | h1
      · exact Or.inl h1
      · exact Or.inr (Or.inl h1)
      · exact Or.inr (Or.inr h1)
    · intro mm a ha
      rw [mem_namesOf] at ha ⊢
      obtain ⟨x, hx, hxm, hxa⟩ := ha
      simp only [List.mem_append, List.mem_cons] at hx
      rcases hx with h1 | rfl | h1
      · exact ⟨x, by simp [h1], hxm, hxa⟩
      · exact ⟨⟨l, m, n₂⟩, by simp, hxm, h a hxa⟩
      · exact ⟨x, by simp [h1], hxm, hxa⟩
  exact ⟨fun mm => ⟨(key n₁ n₂ (fun a => (h a).mp)).1 mm, (key n₂ n₁ (fun a => (h a).mpr)).1 mm⟩,
    fun mm a => ⟨(key n₁ n₂ (fun a => (h a).mp)).2 mm a, (key n₂ n₁ (fun a => (h a).mpr)).2 mm a⟩⟩

theorem opImports_equiv (e₁ e₂ : EnumOracle) (he₁ : EnumOK e₁) (he₂ : EnumOK e₂) (pascal : Name → Name) (fm : String) (g : DefGen) :
    BlockEquiv (opImports e₁ pascal fm g) (opImports e₂ pascal fm g) := by
  unfold opImports
  split
  · exact BlockEquiv.refl _
  · apply blockEquiv_mid g.imports [] 1 fm
    intro a
    simp only [List.mem_map]
    constructor
    · rintro ⟨f, hf, rfl⟩; exact ⟨f, (he₂ _).mem_iff.mpr ((he₁ _).mem_iff.mp hf), rfl⟩
    · rintro ⟨f, hf, rfl⟩; exact ⟨f, (he₁ _).mem_iff.mpr ((he₂ _).mem_iff.mp hf), rfl⟩

theorem initAdd_equiv (before after : List ImportFrom) (fm : String) {n₁ n₂ : List Name} (p : n₁.Perm n₂) :
    BlockEquiv (initAdd before n₁ fm ++ after) (initAdd before n₂ fm ++ after) := by
  unfold initAdd
  rw [p.isEmpty_eq]
  split
  · exact BlockEquiv.refl _
  · simp only [List.append_assoc, List.singleton_append]
    exact blockEquiv_mid before after 1 fm (fun _ => p.mem_iff)

theorem initAll_eq (before after : List ImportFrom) (fm : String) {n₁ n₂ : List Name} (p : n₁.Perm n₂) :
    initAll (initAdd before n₁ fm ++ after) = initAll (initAdd before n₂ fm ++ after) := by
  unfold initAll initAdd
  rw [p.isEmpty_eq]
  split
  · rfl
  · apply pySorted_eq_of_perm
    simp only [List.flatMap_append, List.flatMap_cons, List.flatMap_nil, List.append_nil]
    exact (Perm.append_left _ p).append_right _

def OptRel {α : Type} (R : α → α → Prop) : Option α → Option α → Prop
  | some a, some b => R a b
  | none, none => True
  | _, _ => False

theorem packageFrag_rel (e₁ e₂ : EnumOracle) (he₁ : EnumOK e₁) (he₂ : EnumOK e₂) (x : PkgIn) :
    ExceptRel (OptRel FragOutEquiv) (packageFrag e₁ x) (packageFrag e₂ x) := by
  have hex : ∀ a, a ∈ e₁ (x.ops.flatMap (·.unpacked)) ↔ a ∈ e₂ (x.ops.flatMap (·.unpacked)) :=
    fun a => ((he₁ _).mem_iff).trans ((he₂ _).mem_iff).symm
  unfold packageFrag
  simp only
  rw [filter_contains_congr hex]
  split
  · simp [ExceptRel, OptRel]
  · have rel := generateFragments_rel e₁ e₂ he₁ he₂ x.defs hex
    revert rel
    cases generateFragments e₁ x.defs (e₁ (x.ops.flatMap (·.unpacked))) <;>
      cases generateFragments e₂ x.defs (e₂ (x.ops.flatMap (·.unpacked))) <;>
      simp [ExceptRel, OptRel, Except.map]

theorem generateFromGens_ok_shape {e : EnumOracle} {names : List Name} {gens : List (Name × DefGen)} {o : FragOut}
    (h : generateFromGens e names gens = .ok o) :
    o.module.imports = gens.flatMap (·.2.imports) ∧ o.publicNames = gens.flatMap (·.2.publicNames) := by
  unfold generateFromGens at h
  simp only [bind, Except.bind] at h
  split at h
  · cases h
  · split at h
    · cases h
    · split at h
      · cases h
      · simp only [pure, Except.pure, Except.ok.injEq] at h
        subst h
        exact ⟨rfl, rfl⟩

/-- the two `let`s of `packageRawOf` (Model/Order.lean), under the names they have there -/
def fragPublic (f : Option FragOut) : List Name := match f with | some o => o.publicNames | none => []
def fragEnums (f : Option FragOut) : List Name := match f with | some o => o.usedEnums | none => []

/-- the formatted package is the same for two enumerations and two equivalent outcomes of the fragments step, when no block
    that is fed from a set has a tie: the operation modules' imports, the fragments module's, `__init__`'s -/
theorem fmtPkg_rawOf_eq (keep : Name → Bool) (e₁ e₂ : EnumOracle) (he₁ : EnumOK e₁) (he₂ : EnumOK e₂) (x : PkgIn)
    {f₁ f₂ : Option FragOut} (hf : OptRel FragOutEquiv f₁ f₂)
    (nops : ∀ o, o ∈ x.ops → BlockNoTie (opImports e₁ x.pascal x.fragmentsModule o.gen))
    (nfrag : ∀ o, f₁ = some o → BlockNoTie o.module.imports)
    (ninit : BlockNoTie (initAdd x.initBefore (fragPublic f₁) x.fragmentsModule ++ x.initAfter)) :
    fmtPkg keep (packageRawOf e₁ x f₁) = fmtPkg keep (packageRawOf e₂ x f₂) := by
  have hpub : (fragPublic f₁).Perm (fragPublic f₂) := by
    cases f₁ <;> cases f₂ <;> simp [OptRel, fragPublic] at hf ⊢
    exact hf.2.2.2.1
  have henum : (fragEnums f₁).Perm (fragEnums f₂) := by
    cases f₁ <;> cases f₂ <;> simp [OptRel, fragEnums] at hf ⊢
    exact hf.2.2.2.2
  have hops : x.ops.map (fun o => (o.module, summary keep (opImports e₁ x.pascal x.fragmentsModule o.gen)))
      = x.ops.map (fun o => (o.module, summary keep (opImports e₂ x.pascal x.fragmentsModule o.gen))) := by
    apply List.map_congr_left
    intro o ho
    rw [summary_eq_of_equiv keep (opImports_equiv e₁ e₂ he₁ he₂ _ _ _) (nops o ho)]
  have hfr : f₁.map (fun o => (summary keep o.module.imports, o.module.classes, o.module.rebuilds))
      = f₂.map (fun o => (summary keep o.module.imports, o.module.classes, o.module.rebuilds)) := by
    cases h1 : f₁ <;> cases h2 : f₂ <;> simp [OptRel, h1, h2] at hf ⊢
    obtain ⟨hi, hc, hr, _, _⟩ := hf
    exact ⟨summary_eq_of_equiv keep (BlockEquiv.of_perm hi) (nfrag _ h1), hc, hr⟩
  have henums : filterEnums x.schemaEnums (if x.includeAllEnums then none else some (x.otherUsedEnums ++ fragEnums f₁))
      = filterEnums x.schemaEnums (if x.includeAllEnums then none else some (x.otherUsedEnums ++ fragEnums f₂)) := by
    split
    · rfl
    · exact filterEnums_eq_of_mem _ (fun a => (Perm.append_left _ henum).mem_iff)
  have hinit := summary_eq_of_equiv (fun _ => true) (initAdd_equiv x.initBefore x.initAfter x.fragmentsModule hpub) ninit
  have hall := initAll_eq x.initBefore x.initAfter x.fragmentsModule hpub
  simp only [fmtPkg, packageRawOf, List.map_map, Function.comp_def]
  change ({ opModules := x.ops.map (fun o => (o.module, summary keep (opImports e₁ x.pascal x.fragmentsModule o.gen))),
            fragments := f₁.map (fun o => (summary keep o.module.imports, o.module.classes, o.module.rebuilds)),
            enums := filterEnums x.schemaEnums (if x.includeAllEnums then none else some (x.otherUsedEnums ++ fragEnums f₁)),
            init := summary (fun _ => true) (initAdd x.initBefore (fragPublic f₁) x.fragmentsModule ++ x.initAfter),
            all := initAll (initAdd x.initBefore (fragPublic f₁) x.fragmentsModule ++ x.initAfter) } : PkgIR) = _
  rw [hops, hfr, henums, hinit, hall]
  rfl

/-- with the dictionary's own order for every set, `FragmentsGenerator.generate` hands over exactly the live generators' lists -/
theorem generateFragments_id_shape {defs : List (Name × DefGen)} {ex : List Name} {o : FragOut}
    (h : generateFragments id defs ex = .ok o) :
    o.module.imports = (liveGens defs ex).flatMap (·.2.imports) ∧ o.publicNames = (liveGens defs ex).flatMap (·.2.publicNames) := by
  unfold generateFragments at h
  simp only [bind, Except.bind, id] at h
  rw [fragGens_eq defs _ (fun n hn => (List.mem_filter.mp hn).1)] at h
  exact generateFromGens_ok_shape h

theorem packageFrag_id_shape {x : PkgIn} {f : Option FragOut} (h : packageFrag id x = .ok f) :
    (∀ o, f = some o → o.module.imports = (liveGens x.defs (x.ops.flatMap (·.unpacked))).flatMap (·.2.imports)) ∧
    fragPublic f = (liveGens x.defs (x.ops.flatMap (·.unpacked))).flatMap (·.2.publicNames) := by
  unfold packageFrag at h
  simp only [id] at h
  split at h
  · rename_i hemp
    cases h
    have : liveGens x.defs (x.ops.flatMap (·.unpacked)) = [] := by simp only [liveGens, List.isEmpty_iff.mp hemp, List.map_nil]
    exact ⟨fun _ ho => (nomatch ho), by rw [this]; rfl⟩
  · cases hg : generateFragments id x.defs (x.ops.flatMap (·.unpacked)) with
    | error err => rw [hg] at h; cases h
    | ok o =>
      rw [hg] at h
      cases h
      exact ⟨fun o' ho => by cases ho; exact (generateFragments_id_shape hg).1, (generateFragments_id_shape hg).2⟩

/-- **the package against the canonical enumeration**: whatever order CPython iterates its sets in, the package is the one
    obtained with every set listed in dictionary order — unless isort keys tie there -/
theorem emitPackage_canonical (keep : Name → Bool) (e : EnumOracle) (he : EnumOK e) (x : PkgIn)
    (ht : trigIsortTie x = false) : emitPackage keep id x = emitPackage keep e x := by
  simp only [trigIsortTie, Bool.or_eq_false_iff, List.any_eq_false] at ht
  obtain ⟨⟨t1, t2⟩, t3⟩ := ht
  have maps : ∀ e, emitPackage keep e x = (packageFrag e x).map fun f => fmtPkg keep (packageRawOf e x f) := by
    intro e
    unfold emitPackage packageRaw
    cases packageFrag e x <;> rfl
  rw [maps, maps]
  refine (packageFrag_rel id e enumOK_id he x).map_eq fun f₁ f₂ h1 _ rel => ?_
  obtain ⟨himports, hpublic⟩ := packageFrag_id_shape h1
  refine fmtPkg_rawOf_eq keep id e enumOK_id he x rel
    (fun o ho => blockNoTie_of_summaryTie_false (by simpa using t1 o ho))
    (fun o ho => himports o ho ▸ blockNoTie_of_summaryTie_false (by simpa using t2))
    (hpublic ▸ blockNoTie_of_summaryTie_false (by simpa using t3))

/-- the package as a whole: no emitted order depends on set iteration, unless isort keys tie -/
theorem emitPackage_independent (keep : Name → Bool) (e₁ e₂ : EnumOracle) (he₁ : EnumOK e₁) (he₂ : EnumOK e₂) (x : PkgIn)
    (ht : trigIsortTie x = false) : emitPackage keep e₁ x = emitPackage keep e₂ x :=
  (emitPackage_canonical keep e₁ he₁ x ht).symm.trans (emitPackage_canonical keep e₂ he₂ x ht)

end Ariadne.Order
