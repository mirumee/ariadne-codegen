/- Lemmas for the argument-heap model (Model/BaseClientHeap.lean): the store-level header merge writes
   only to the address it allocated, and `executeH` refines the value-level `execute`. -/
import AriadneModel.Model.BaseClientHeap
import AriadneModel.Proofs.BaseClient

namespace Ariadne.BaseClient

theorem dictUpdate_nil (base : HDict) : dictUpdate base [] = base := rfl

theorem mergeHeadersS_some (s : Store) (a : Nat) (d : HDict) (h : s[a]? = some d) :
    mergeHeadersS s (some a) =
      some (s ++ [dictUpdate [("Content-Type", "application/json")] d], s.length) := by
  have ha : a < s.length := (List.getElem?_eq_some_iff.mp h).1
  have h1 : (s ++ [[("Content-Type", "application/json")]])[s.length]? = some [("Content-Type", "application/json")] := by
    simp
  have h2 : (s ++ [[("Content-Type", "application/json")]])[a]? = some d := by
    rw [List.getElem?_append_left ha]; exact h
  simp only [mergeHeadersS, ha, if_true, updateAt, h1, h2, Option.map_some]
  simp

/-- the keyword absent: a second new object, the default `{}`, is allocated -/
theorem mergeHeadersS_none (s : Store) :
    mergeHeadersS s none = some (s ++ [[("Content-Type", "application/json")], []], s.length) := by
  have h1 : (s ++ [[("Content-Type", "application/json")]] ++ [[]])[s.length]? = some [("Content-Type", "application/json")] := by
    simp
  have h2 : (s ++ [[("Content-Type", "application/json")]] ++ [[]])[s.length + 1]? = some [] := by
    simp
  simp only [mergeHeadersS, updateAt, h1, h2, Option.map_some, dictUpdate_nil]
  simp

theorem mergeHeadersS_dangling (s : Store) (a : Nat) (h : s[a]? = none) : mergeHeadersS s (some a) = none := by
  have ha : ¬ a < s.length := by
    intro hlt; rw [List.getElem?_eq_getElem hlt] at h; cases h
  simp [mergeHeadersS, ha]

/-- the caller's header dict, by value -/
def callerDict (s : Store) : Option Nat → Option (Option HDict)
  | none => some none
  | some a => (s[a]?).map some

theorem executeJsonH_eq (cl : Client) (s : Store) (caller : Option Nat) (hs : Option HDict) (call : Call)
    (vars : List (String × PV)) (hc : callerDict s caller = some hs) (hh : call.headers = hs) :
    executeJsonH cl s caller call vars = some (s, executeJson cl call vars) := by
  cases caller with
  | none =>
    simp only [callerDict, Option.some.injEq] at hc
    subst hc
    simp only [executeJsonH, mergeHeadersS_none]
    have : (s ++ [[("Content-Type", "application/json")], []])[s.length]? = some [("Content-Type", "application/json")] := by
      simp
    simp only [this, executeJson, hh, Option.getD_none, dictUpdate_nil]
    cases body call vars <;> simp
  | some a =>
    simp only [callerDict] at hc
    cases hd : s[a]? with
    | none => simp [hd] at hc
    | some d =>
      simp only [hd, Option.map_some, Option.some.injEq] at hc
      subst hc
      simp only [executeJsonH, mergeHeadersS_some s a d hd]
      have : (s ++ [dictUpdate [("Content-Type", "application/json")] d])[s.length]? =
          some (dictUpdate [("Content-Type", "application/json")] d) := by simp
      simp only [this, executeJson, hh, Option.getD_some]
      cases body call vars <;> simp

theorem call?_headers {h : Heap} {c : HCall} {call : Call} (hc : h.call? c = some call) :
    callerDict h.hdrs c.headers = some call.headers := by
  unfold Heap.call? at hc
  cases hv : c.variables <;> cases hh : c.headers <;> simp only [hv, hh] at hc
  · simp only [Option.some.injEq] at hc; subst hc; rfl
  · cases hd : h.hdrs[‹Nat›]? <;> simp only [hd, Option.map_none, Option.map_some, Option.some.injEq, reduceCtorEq] at hc
    subst hc; simp [callerDict, hd]
  · cases hx : h.vars[‹Nat›]? <;> simp only [hx, Option.map_none, Option.map_some, Option.some.injEq, reduceCtorEq] at hc
    subst hc; rfl
  · rename_i av ah
    cases hx : h.vars[av]? <;> cases hd : h.hdrs[ah]? <;>
      simp only [hx, hd, Option.map_none, Option.map_some, Option.some.injEq, reduceCtorEq] at hc
    subst hc; simp [callerDict, hd]

/-- `executeH` refines `execute`: on well-formed references it leaves the client and EVERY object of
    the argument heap as they were, and sends the request of the value-level model. -/
theorem executeH_eq (cl : Client) (h : Heap) (c : HCall) (call : Call) (hc : h.call? c = some call) :
    executeH cl h c = .ok cl h (execute cl call).2 := by
  have hj := fun vars => executeJsonH_eq cl h.hdrs c.headers call.headers call vars (call?_headers hc) rfl
  rw [execute_snd]
  unfold executeH
  simp only [hc]
  by_cases ht : (cl.kind.isOT && cl.tracer && (toJsonKvs (processVariables call.variables).1).isNone) = true
  · simp only [ht, if_true]
    have hn : toJsonKvs (processVariables call.variables).1 = none := by
      simp only [Bool.and_eq_true, Option.isNone_iff_eq_none] at ht; exact ht.2
    rw [executePlain_unserialisable cl call hn]
  · simp only [ht, if_false, Bool.false_eq_true]
    unfold executePlain
    by_cases he : (processVariables call.variables).2.isEmpty = true
    · simp only [he, if_true, hj]
    · simp only [he, if_false, Bool.false_eq_true]

theorem executeH_illFormed (cl : Client) (h : Heap) (c : HCall) (hc : h.call? c = none) :
    executeH cl h c = .illFormed := by
  unfold executeH; simp [hc]

def derefSteps (h : Heap) (steps : List (Client × HCall)) : List (Option Request) :=
  steps.map fun st => (h.call? st.2).map fun call => (execute st.1 call).2

theorem runSeqH_eq (h : Heap) (steps : List (Client × HCall)) :
    runSeqH h steps = (h, derefSteps h steps) := by
  induction steps with
  | nil => rfl
  | cons st rest ih =>
    obtain ⟨cl, c⟩ := st
    cases hc : h.call? c with
    | none => simp [runSeqH, derefSteps, executeH_illFormed cl h c hc, hc, ih]
    | some call => simp [runSeqH, derefSteps, executeH_eq cl h c call hc, hc, ih]

end Ariadne.BaseClient
