/-
  Proofs/C04Init.lean — what the steps of `PackageGenerator.generate` contribute besides modules, as functions of what the
  input types and the fragments generator returned: the init imports (`finalInit`, in closed form and by the step that
  added each), the lists of copied and custom files, which fragments output the run saw (`FragRan`, with the generators;
  `FragmentsRan`, the form without them that `init_all_exact` states).
-/
import AriadneModel.Model.Package
import AriadneModel.Proofs.C04Steps


namespace Ariadne.C04Proofs
open Ariadne.Util Ariadne.Package

theorem importedNames_initAdd (is : List Import) (ns : List String) (m : String) :
    importedNames (initAdd is ns m) = importedNames is ++ ns := by
  unfold initAdd
  by_cases h : ns.isEmpty = true
  · have : ns = [] := by simpa using h
    subst this
    simp
  · simp [h, importedNames]

/-- what the fragments step contributed: nothing when every fragment was unpacked (no fragments module is written) -/
def fragmentNames (fo : Option Fragments.FragmentsOut) : List String :=
  match fo with
  | some f => f.publicNames
  | none => []

def fragmentEnums (fo : Option Fragments.FragmentsOut) : List String :=
  match fo with
  | some f => f.usedEnums
  | none => []

/-- the import list of `__init__` when `generate()` returns, as a function of what the steps produced -/
def finalInit (cfg : Config) (inp : Input) (st : St) (io : InputsOut) (fo : Option Fragments.FragmentsOut) : List Import :=
  let i1 := initAdd (init0 cfg st) io.publicNames cfg.inputsModule
  let i2 := initAdd i1 (fragmentNames fo) cfg.fragmentsModule
  let i3 := initAdd (initAdd i2 [cfg.baseClientName] (stem cfg.baseClientFile)) ["BaseModel", Tables.uploadClassName] (stem baseModelFile)
  let i4 := initAdd i3 [cfg.clientName] cfg.clientFile
  let ue := st.usedEnums ++ io.usedEnums ++ fragmentEnums fo ++ st.argSt.usedEnums
  initAdd i4 ((enumsModule cfg inp.schema ue).classes.map (·.name)) cfg.enumsModule

/-- which fragments output the run saw (`FragRan` below without the generators: what `generateSteps_init` and `init_all_exact` state) -/
def FragmentsRan (e : Order.EnumOracle) (cfg : Config) (inp : Input) (fl : Nat) (st : St) (fo : Option Fragments.FragmentsOut) : Prop :=
  let rem := Fragments.remaining (rtEnv cfg inp) st.unpacked
  (rem.isEmpty = true ∧ fo = none) ∨
  (rem.isEmpty = false ∧ ∃ f, fo = some f ∧ Fragments.generateFragments e (rtEnv cfg inp) fl (e rem) st.marks = .ok f)

theorem initAdd_nil (is : List Import) (m : String) : initAdd is [] m = is := by simp [initAdd]

/-- which fragments output (and which generators) the run saw -/
def FragRan (e : Order.EnumOracle) (cfg : Config) (inp : Input) (fl : Nat) (st : St)
    (fx : Option (Fragments.FragmentsOut × List Fragments.DefGen)) : Prop :=
  let rem := Fragments.remaining (rtEnv cfg inp) st.unpacked
  (rem.isEmpty = true ∧ fx = none) ∨
  (rem.isEmpty = false ∧ ∃ fo gens, fx = some (fo, gens) ∧
    Fragments.genFragments (rtEnv cfg inp) fl (e rem) st.marks = .ok gens ∧
    Fragments.generateFragments e (rtEnv cfg inp) fl (e rem) st.marks = .ok fo)

def fragModules (cfg : Config) (fx : Option (Fragments.FragmentsOut × List Fragments.DefGen)) : List ModuleIR :=
  match fx with
  | some (fo, gens) => [fragmentsModuleIR cfg fo gens]
  | none => []

def fragOut (fx : Option (Fragments.FragmentsOut × List Fragments.DefGen)) : Option Fragments.FragmentsOut := fx.map (·.1)

/-- what `_copy_files` writes; the same list as `PackageValid.copiedFiles`, which the validity check reads (`copiedList_eq`) -/
def copiedList (cfg : Config) : List String := filesToCopy cfg ++ [cfg.baseClientFile, baseModelFile]

def customList (cfg : Config) (inp : Input) : List String := if cfg.customOps then customFiles inp.schema else []

theorem mem_initAdd {is : List Import} {ns : List String} {m : String} {i : Import} (h : i ∈ initAdd is ns m) :
    i ∈ is ∨ (i = ⟨1, m, ns⟩ ∧ ns ≠ []) := by
  unfold initAdd at h
  split at h
  · exact Or.inl h
  · rename_i hne
    rcases List.mem_append.mp h with h | h
    · exact Or.inl h
    · refine Or.inr ⟨by simpa using h, ?_⟩
      intro e
      rw [e] at hne
      simp at hne

theorem mem_finalInit {cfg : Config} {inp : Input} {st : St} {io : InputsOut} {fo : Option Fragments.FragmentsOut} {i : Import}
    (h : i ∈ finalInit cfg inp st io fo) :
    i ∈ init0 cfg st ∨ i = ⟨1, cfg.inputsModule, io.publicNames⟩ ∨
    (i = ⟨1, cfg.fragmentsModule, fragmentNames fo⟩ ∧ fragmentNames fo ≠ []) ∨
    i = ⟨1, stem cfg.baseClientFile, [cfg.baseClientName]⟩ ∨ i = ⟨1, stem baseModelFile, ["BaseModel", Tables.uploadClassName]⟩ ∨
    i = ⟨1, cfg.clientFile, [cfg.clientName]⟩ ∨
    i = ⟨1, cfg.enumsModule, (enumsModule cfg inp.schema
      (st.usedEnums ++ io.usedEnums ++ fragmentEnums fo ++ st.argSt.usedEnums)).classes.map (·.name)⟩ := by
  unfold finalInit at h
  simp only at h
  rcases mem_initAdd h with h | ⟨rfl, _⟩
  rcases mem_initAdd h with h | ⟨rfl, _⟩
  rcases mem_initAdd h with h | ⟨rfl, _⟩
  rcases mem_initAdd h with h | ⟨rfl, _⟩
  rcases mem_initAdd h with h | ⟨rfl, hne⟩
  rcases mem_initAdd h with h | ⟨rfl, _⟩
  · exact Or.inl h
  · exact Or.inr (Or.inl rfl)
  · exact Or.inr (Or.inr (Or.inl ⟨rfl, hne⟩))
  · exact Or.inr (Or.inr (Or.inr (Or.inl rfl)))
  · exact Or.inr (Or.inr (Or.inr (Or.inr (Or.inl rfl))))
  · exact Or.inr (Or.inr (Or.inr (Or.inr (Or.inr (Or.inl rfl)))))
  · exact Or.inr (Or.inr (Or.inr (Or.inr (Or.inr (Or.inr rfl)))))

theorem importedNames_finalInit (cfg : Config) (inp : Input) (st : St) (io : InputsOut) (fo : Option Fragments.FragmentsOut) :
    importedNames (finalInit cfg inp st io fo) =
      importedNames (init0 cfg st) ++ io.publicNames ++ fragmentNames fo ++ [cfg.baseClientName] ++ ["BaseModel", Tables.uploadClassName]
        ++ [cfg.clientName]
        ++ (enumsModule cfg inp.schema (st.usedEnums ++ io.usedEnums ++ fragmentEnums fo ++ st.argSt.usedEnums)).classes.map (·.name) := by
  simp only [finalInit, importedNames_initAdd]

theorem importedNames_init0 (cfg : Config) (st : St) :
    importedNames (init0 cfg st) = importedNames st.init ++ (if cfg.defaultBaseClient then Tables.exceptionsNames else []) := by
  unfold init0
  split
  · simp [importedNames_initAdd]
  · simp

end Ariadne.C04Proofs

namespace Ariadne.C04
open Ariadne.Util Ariadne.Package

theorem initAll_spec (is : List Import) : initAll is = if is.isEmpty then none else some (sortStr (importedNames is)) := rfl

end Ariadne.C04
