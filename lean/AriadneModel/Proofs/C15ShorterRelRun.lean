/-
  C15: ShorterResults inside a longer plugin list, hook call by hook call — the run with
  `a ++ [ShorterResults] ++ b` compared with the run with `a ++ b`, for lists `a`, `b` made of ExtractOperations,
  NoReimports and the identity plugin.

  Outside `generate_client_module` ShorterResults returns what it is handed, so both runs hand every plugin the same
  objects and record the same things; at `generate_client_module` the plugins of `a` run first (ExtractOperations
  puts its import in front), ShorterResults rewrites what comes out, the plugins of `b` run on the result.
-/
import AriadneModel.Proofs.C15ShorterRel
import AriadneModel.Proofs.C15ShorterPipeline


namespace Ariadne.C15
open Ariadne.Py Ariadne.Plugins
open Ariadne.Lists (bind_eq_ok)

/-- a plugin list with No ShorterResults and no ClientForwardRefs: the identity plugin, NoReimports and ExtractOperations only -/
def NoSF (l : List PState) : Prop := ∀ p ∈ l, p = PState.identity ∨ p = PState.noReimports ∨ ∃ e, p = PState.extract e

theorem NoSF.tail {p : PState} {l : List PState} (h : NoSF (p :: l)) : NoSF l := fun q hq => h q (by simp [hq])

theorem step_kind (c : Call) (p p' : PState) (x y : Payload) (h : PState.step c p x = .ok (p', y)) :
    PState.kind p' = PState.kind p := by
  cases p with
  | shorter s => rw [shorter_step_eq] at h; obtain ⟨r, _, h⟩ := bind_eq_ok.mp h; cases h; rfl
  | extract s => rw [extract_step_eq] at h; obtain ⟨r, _, h⟩ := bind_eq_ok.mp h; cases h; rfl
  | fwd s => rw [fwd_step_eq] at h; obtain ⟨r, _, h⟩ := bind_eq_ok.mp h; cases h; rfl
  | noReimports => cases h; rfl
  | identity => cases h; rfl

theorem applyAll_kinds (c : Call) (l l' : List PState) (x y : Payload) (h : applyAll PState.step c l x = .ok (l', y)) :
    l'.map PState.kind = l.map PState.kind :=
  applyAll_map_eq PState.kind (fun p x p' y => step_kind c p p' x y) l l' x y h

theorem nosf_iff_kinds (l : List PState) : NoSF l ↔ ∀ k ∈ l.map PState.kind, k ≠ 0 ∧ k ≠ 2 := by
  simp only [List.mem_map, forall_exists_index, and_imp, forall_apply_eq_imp_iff₂]
  refine forall_congr' fun p => forall_congr' fun _ => ?_
  cases p <;> simp [PState.kind]

theorem applyAll_nosf (c : Call) (l l' : List PState) (x y : Payload) (hn : NoSF l)
    (h : applyAll PState.step c l x = .ok (l', y)) : NoSF l' := by
  rw [nosf_iff_kinds, applyAll_kinds c l l' x y h, ← nosf_iff_kinds]
  exact hn

/-- what an `NoSF` list puts in front of the client module at `generate_client_module`: one import per ExtractOperations, the last
    plugin's first (`nosf_cm`) -/
def eFrame (l : List PState) : List Top :=
  (l.filterMap (fun p => match p with | PState.extract e => some (extractImport e) | _ => none)).reverse

theorem eFrame_imports (l : List PState) : ImportsOnly (eFrame l) := by
  intro t ht
  unfold eFrame at ht
  simp only [List.mem_reverse, List.mem_filterMap] at ht
  obtain ⟨p, _, hp⟩ := ht
  cases p <;> simp at hp
  rename_i e
  exact ⟨_, hp.symm⟩

theorem eFrame_cons_extract (e : ExtractState) (rest : List PState) :
    eFrame (PState.extract e :: rest) = eFrame rest ++ [extractImport e] := by
  simp [eFrame]

theorem nosf_cm (c : Call) (hc : c.hook = "generate_client_module") : ∀ (l : List PState), NoSF l → ∀ M : Module,
    applyAll PState.step c l (.module M) = .ok (l, .module { body := eFrame l ++ M.body }) := by
  have hni : c.hook ≠ "generate_init_module" := by rw [hc]; decide
  intro l
  induction l with
  | nil => intro _ M; rfl
  | cons p rest ih =>
    intro hn M
    rw [applyAll_cons]
    rcases hn p (by simp) with rfl | rfl | ⟨e, rfl⟩
    · show (Except.ok (PState.identity, Payload.module M) >>= _) = _
      simp only [bind_ok]
      rw [ih hn.tail M]
      rfl
    · show (Except.ok (PState.noReimports, noReimportsStep c (.module M)) >>= _) = _
      rw [show noReimportsStep c (.module M) = .module M from hook_idle (p := .noReimports) (by simp [hooksOf, hni]) _]
      simp only [bind_ok]
      rw [ih hn.tail M]
      rfl
    · have hstep : PState.step c (.extract e) (.module M) = .ok (.extract e, .module { body := extractImport e :: M.body }) := by
        rw [extract_step_eq]
        simp [extractStep, hc, pure_eq_ok, bind_ok]
      rw [hstep]
      simp only [bind_ok]
      rw [ih hn.tail]
      simp only [bind_ok, pure_eq_ok, eFrame_cons_extract, List.append_assoc, List.singleton_append]

/-- the run with ShorterResults (`st`, the plugin object at that moment) somewhere in an `NoSF` list (`P`) against the run with the list
    without it (`Q`), before `generate_client_module`: the same bookkeeping -/
structure SRel (st : ShorterState) (P Q : PipeState) : Prop where
  lists : ∃ a b, NoSF a ∧ NoSF b ∧ P.plugins = a ++ .shorter st :: b ∧ Q.plugins = a ++ b
  methods : P.methodsOut = Q.methodsOut
  imports : P.importsOut = Q.importsOut
  gql : P.gqlOut = Q.gqlOut
  cls : P.classOut = Q.classOut
  init : P.initImports = Q.initImports

theorem SRel.books {st : ShorterState} {P Q : PipeState} (h : SRel st P Q) : SameBooks P Q :=
  ⟨h.methods, h.imports, h.gql, h.cls, h.init⟩

theorem stepEvent_srel (st : ShorterState) (P Q : PipeState) (e : Event) (Q' : PipeState)
    (hc : e.call.hook ≠ "generate_client_module") (h : SRel st P Q) (hQ : stepEvent Q e = .ok Q') :
    ∃ P', stepEvent P e = .ok P' ∧ SRel (bookStep st e) P' Q' := by
  obtain ⟨a, b, hna, hnb, hP, hQp⟩ := h.lists
  -- ShorterResults hands on what it is handed; at a recording hook that is what the generator built, whatever is in front
  have hpass : ∀ ra, applyAll PState.step e.call a (inputFor Q e) = .ok ra →
      PState.step e.call (.shorter st) ra.2 = .ok (.shorter (bookStep st e), ra.2) := by
    intro ra hma
    rw [shorter_step_eq, shorterStep_book hc (fun hrec => ?_)]
    · rfl
    · simp only [recordingHooks, List.mem_cons, List.not_mem_nil, or_false] at hrec
      rw [applyAll_returns_arg (by rcases hrec with h | h | h <;> simp [h, rewritingHooks]) hma]
      exact inputFor_payload (by rcases hrec with h | h | h <;> simp [h])
  obtain ⟨ra, rb, P', hma, hmb, hP', g1, g2, g⟩ := stepEvent_insert P Q Q' e a b _ _ hP hQp h.books hpass hQ
  exact ⟨P', hP', ⟨ra.1, rb.1, applyAll_nosf e.call a ra.1 _ ra.2 hna hma, applyAll_nosf e.call b rb.1 _ rb.2 hnb hmb, g1, g2⟩,
    g.methods, g.imports, g.gql, g.cls, g.init⟩

theorem stepEvent_srel_cm (st : ShorterState) (P Q : PipeState) (e : Event) (Q' : PipeState) (mp : Module)
    (hc : e.call.hook = "generate_client_module") (h : SRel st P Q) (hp : e.payload = .module mp)
    (hQ : stepEvent Q e = .ok Q') :
    ∃ fr Min, ImportsOnly fr ∧
      Q'.finalOf "generate_client_module" = some (.module { body := fr ++ Min.body }) ∧
      ∀ r, shorterClientModule st Min = .ok r → ∃ P', stepEvent P e = .ok P' ∧ SRel r.1 P' Q' ∧
        P'.finalOf "generate_client_module" = some (.module { body := fr ++ r.2.body }) := by
  obtain ⟨a, b, hna, hnb, hP, hQp⟩ := h.lists
  obtain ⟨M, hX⟩ := inputFor_cm_module Q e hc mp hp
  have hstep : PState.step e.call (.shorter st) (.module { body := eFrame a ++ M.body }) =
      (shorterClientModule st { body := eFrame a ++ M.body } >>= fun r => pure (PState.shorter r.1, .module r.2)) := by
    rw [shorter_step_eq]
    unfold shorterStep
    simp only [hc]
    cases shorterClientModule st { body := eFrame a ++ M.body } <;> rfl
  obtain ⟨hQ', hok⟩ := stepEvent_insert_cm PState.shorter shorterClientModule st P Q Q' e a a b (eFrame b) M _ hc hP hQp
    (h.books.inputFor e) hX (nosf_cm e.call hc a hna M) (nosf_cm e.call hc b hnb) hstep hQ
  refine ⟨eFrame b, _, eFrame_imports b, by rw [hQ']; exact finalOf_cm_snoc Q e.call hc _ _ _, fun r hsc => ?_⟩
  refine ⟨_, hok r hsc, ?_, finalOf_cm_snoc P e.call hc _ _ _⟩
  rw [hQ']
  exact ⟨⟨a, b, hna, hnb, rfl, rfl⟩, h.methods, h.imports, h.gql, h.cls, h.init⟩

theorem srel_opsFile (st : ShorterState) (P Q : PipeState) (h : SRel st P Q) : P.opsFile? = Q.opsFile? := by
  obtain ⟨a, b, _, _, hP, hQ⟩ := h.lists
  exact opsFile_insert P Q a b _ rfl hP hQ

theorem srel_init (a b : List PState) (hna : NoSF a) (hnb : NoSF b) (st0 : ShorterState) :
    SRel st0 { plugins := a ++ .shorter st0 :: b } { plugins := a ++ b } :=
  ⟨⟨a, b, hna, hnb, rfl, rfl⟩, rfl, rfl, rfl, rfl, rfl⟩

end Ariadne.C15
