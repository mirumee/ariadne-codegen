/-
  Leaf-typed positions of a result class (C01, C05), definitions only.  The annotation as a structural function of the type:
  `leafBase` (the annotation of a leaf name: the enum's own name, the Python type of a built-in scalar, else `Any`), `leafAnn`
  (the same inside the type's `Optional[…]` / `List[…]` wrappers), `LeafName` (a name the schema does not define, an
  unconfigured scalar or an enum).  What pydantic's lax mode accepts there: `leafOkLax` (cell by cell), `isAnyLeaf`,
  `conformsLax`.  These six are here because the descriptions the drivers evaluate (Proofs/C01PlainDefs.lean,
  Proofs/C05StrictDefs.lean) are written with them; their lemmas are in Proofs/ResultLeaf.lean, which also defines what only
  proofs and statements use: `EnvAgrees` (a hypothesis of the C01 / C05 statements), `need`, `readField`, `Skel` / `skelAnn` /
  `skelType`, `leafBaseName`.
-/
import AriadneModel.Model.ResultTypes
import AriadneModel.Spec.Pyd
import AriadneModel.Spec.Exec

namespace Ariadne.ResultLeaf
open Ariadne Ariadne.Gql Ariadne.ResultTypes Ariadne.Util
open Ariadne.Pyd Ariadne.Exec

def leafBase (genv : ResultTypes.Env) (n : String) : Ann :=
  match genv.schema.kindOf? n with
  | some .enum => .name n
  | _ =>
    match lookupStr n Tables.simpleTypeMap with
    | some py => .name py
    | none => .name "Any"

def leafAnn (genv : ResultTypes.Env) : Bool → TypeRef → Ann
  | _, .nonNull t => leafAnn genv false t
  | nullable, .list t => optionalIf nullable (.list (leafAnn genv true t))
  | nullable, .named n => optionalIf nullable (leafBase genv n)

/-- a leaf name: a name the schema does not define, a scalar that is not configured as custom scalar, or an enum -/
def LeafName (genv : ResultTypes.Env) (n : String) : Prop :=
  (genv.schema.kindOf? n = none ∨ genv.schema.kindOf? n = some .scalar ∨ genv.schema.kindOf? n = some .enum)
  ∧ scalarCfg? genv n = none

/-- acceptance of a leaf *value* (non-null) by pydantic's lax mode, cell by cell -/
def leafOkLax (S : Schema) (lax : Lax) (n : String) (j : J) : Bool :=
  match S.kindOf? n with
  | some .enum => (match S.get? n with
      | some t => (match j with | .str s => t.values.contains s | _ => false)
      | none => false)
  | _ =>
    if n == "Int" then (match j with
      | .num m e => (integral? m e).isSome
      | .bool _ => true
      | .str s => (lax.strInt s).isSome
      | _ => false)
    else if n == "Float" then (match j with
      | .num _ _ => true
      | .bool _ => true
      | .str s => (lax.strFloat s).isSome
      | _ => false)
    else if n == "String" || n == "ID" then (match j with | .str _ => true | _ => false)
    else if n == "Boolean" then (match j with
      | .bool _ => true
      | .num m e => (integral? m e == some 0 || integral? m e == some 1)
      | .str s => (lax.strBool s).isSome
      | _ => false)
    else true      -- unconfigured custom scalar (`Any`): everything, *including null*

/-- is the leaf name mapped to `Any`? (then even `null` at a non-null position is accepted) -/
def isAnyLeaf (S : Schema) (n : String) : Bool :=
  S.kindOf? n != some .enum && !(n == "Int" || n == "Float" || n == "String" || n == "ID" || n == "Boolean")

/-- what pydantic accepts at a leaf-typed position -/
def conformsLax (S : Schema) (lax : Lax) : Bool → TypeRef → J → Bool
  | _, .nonNull t, j => conformsLax S lax false t j
  | nullable, .list t, j =>
    match j with
    | .null => nullable
    | .arr xs => xs.all (conformsLax S lax true t)
    | _ => false
  | nullable, .named n, j =>
    match j with
    | .null => nullable || isAnyLeaf S n
    | _ => leafOkLax S lax n j

end Ariadne.ResultLeaf
