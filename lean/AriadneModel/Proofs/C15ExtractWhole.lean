/-
  C15: the whole-pipeline statement for plugin lists made of ExtractOperations, NoReimports and the identity plugin.

  `extract_lists_whole`: for every input whose unplugged generation is valid (`validB`), lies outside the finding
  triggers and has the form the generator produces (`genShapedE`, decidable), and every such plugin list in which
  ExtractOperations occurs once and freshly constructed: the generation does not raise, the operations module is
  written, the package loads (every constant is imported from the module that binds it), no method is projected, and
  every method sends the identical request (`extract_same_strings`) and handles every response as without plugins.
  Its steps: `genShapedE_spec`, the two runs (`extract_pipeline`), the package that comes out (`extract_concl`),
  `whole_of_refines`.
-/
import AriadneModel.Proofs.C15ExtractRun
import AriadneModel.Proofs.C15ShorterPipeline


namespace Ariadne.C15
open Ariadne.Py Ariadne.Plugins Ariadne.ClientSem

theorem foldl_ebook_opsModuleName (evs : List Event) (est : ExtractState) :
    (evs.foldl ebook est).opsModuleName = est.opsModuleName :=
  foldl_keeps ebook (·.opsModuleName) (fun est e => by unfold ebook; split <;> rfl) evs est

theorem inert_findSome_none {α : Type} (F : PState → Option α) (hI : F .identity = none) (hN : F .noReimports = none)
    (l : List PState) (h : Inert l) : l.findSome? F = none := by
  rw [List.findSome?_eq_none_iff]
  intro q hq
  rcases h q hq with rfl | rfl
  · exact hI
  · exact hN

theorem extract_opsFile (a b : List PState) (hb : Inert b) (est : ExtractState) (f : OpsFile) (p : PipeState)
    (hp : p.plugins = a ++ .extract est :: b) (hw : est.written = some f) : p.opsFile? = some (est.opsModuleName, f) := by
  unfold PipeState.opsFile?
  rw [hp, List.reverse_append, List.reverse_cons, List.findSome?_append, List.findSome?_append,
    inert_findSome_none _ rfl rfl b.reverse fun q hq => hb q (List.mem_reverse.mp hq)]
  simp [hw]

theorem extract_pipeline (ps a b : List PState) (e0 : ExtractState) (hps : ps = a ++ .extract e0 :: b) (ha : Inert a) (hb : Inert b)
    (hg0 : e0.gqls = []) (pre post : List Event) (cm : Event)
    (hcm : cm.call.hook = "generate_client_module")
    (hpre : ∀ e ∈ pre, e.call.hook ≠ "generate_client_module" ∧ e.call.hook ≠ "generate_init_module")
    (hck : checkE e0 pre = true) (mp : Module) (hp : cm.payload = .module mp)
    (hpost : ∀ e ∈ post, initHook e)
    (hex : ∃ e ∈ post, e.call.hook = "generate_init_module" ∧ ∃ mp, e.payload = .module mp) :
    ∃ MQ MP f, ModE (pre.foldl ebook e0) MQ MP ∧ extractOpsFile (pre.foldl ebook e0) = .ok f ∧
      (runPipeline { plugins := [] } (pre ++ cm :: post)).1.clientModule? = some MQ ∧
      (runPipeline { plugins := [] } (pre ++ cm :: post)).1.opsFile? = none ∧
      (runPipeline { plugins := ps } (pre ++ cm :: post)).2 = none ∧
      (runPipeline { plugins := ps } (pre ++ cm :: post)).1.clientModule? =
        some { body := extractImport (pre.foldl ebook e0) :: MP.body } ∧
      (runPipeline { plugins := ps } (pre ++ cm :: post)).1.opsFile? = some (e0.opsModuleName, f) := by
  obtain ⟨Q2, hQ, hQnil⟩ := run_unplugged (pre ++ cm :: post) { plugins := [] } rfl
  obtain ⟨Qa, hQa, (_ | ⟨hQb, hQc⟩)⟩ := Run.append.mp hQ
  have hpostcm : ∀ e ∈ post, e.call.hook ≠ "generate_client_module" := by
    intro e he; rcases hpost e he with h | h <;> (rw [h]; decide)
  obtain ⟨Pa, hPa, hrel⟩ := run_extract_pre a b ha hb hpre (P := { plugins := ps }) (Q := { plugins := [] })
    ⟨hps, rfl, rfl, rfl, rfl, .nil, trivial⟩ hck hQa
  have hinv : EInv (pre.foldl ebook e0) := List.foldlRecOn pre ebook (fun op g hm => by rw [hg0] at hm; cases hm)
    fun est h e _ => ebook_inv est e h
  have hname := foldl_ebook_opsModuleName pre e0
  generalize pre.foldl ebook e0 = est at hrel hinv hname ⊢
  obtain ⟨MQ, MP, Pb, Qb, hmod, e1, e2, hrel1, hfP, hfQ⟩ := stepEvent_extract_cm a b ha hb est _ _ cm hcm hrel mp hp
  rw [e2] at hQb; cases hQb
  obtain ⟨P2, hP2, hrel2, _⟩ := run_sim (fun est P Q => ERel a b est P Q ∧ EInv est) ebookW (fun _ e => initHook e)
    (fun est P Q e Q' hg h hQ => stepEvent_extract_post a b ha hb est P Q Q' e hg h hQ)
    (guarded_of_forall ebookW _ post est hpost) ⟨hrel1, hinv⟩ hQc
  obtain ⟨f, hf⟩ := extractOpsFile_ok est hinv
  obtain ⟨k3, k4⟩ := foldl_ebookW_init post est hpost
  rw [run_iff.mp hQ, run_iff.mp (Run.append.mpr ⟨Pa, hPa, .cons e1 hP2⟩)]
  refine ⟨MQ, MP, f, hmod, hf, ?_, nil_opsFile _ hQnil, rfl, ?_, ?_⟩
  · unfold PipeState.clientModule?; rw [hQc.finalOf _ hpostcm, hfQ]
  · unfold PipeState.clientModule?; rw [hP2.finalOf _ hpostcm, hfP]
  · rw [extract_opsFile a b hb _ f _ hrel2.plugins (k4 f hf (.inr hex)), k3, hname]


theorem dotted_one (m : String) : dotted 1 m = "." ++ m := by
  simp [dotted]

theorem alookup_self_map (q : String) : ∀ (l : List String) (v : String), v ∈ l →
    alookup v (l.map (fun n => (n, (q, n)))) = some (q, v) := by
  intro l
  induction l with
  | nil => intro v hv; cases hv
  | cons a rest ih =>
    intro v hv
    by_cases h : a = v
    · subst h; simp [alookup]
    · rcases List.mem_cons.mp hv with rfl | hr
      · exact absurd rfl h
      · simp [alookup, h, ih v hr]

theorem alookup_self_map_none (q : String) (l : List String) (v : String) (hv : v ∉ l) :
    alookup v (l.map (fun n => (n, (q, n)))) = none := by
  apply alookup_none_of_not_key
  intro kv hkv hc
  simp only [List.mem_map] at hkv
  obtain ⟨n, hn, rfl⟩ := hkv
  exact hv (hc ▸ hn)

theorem extractImport_bindings (est : ExtractState) :
    importBindings [({ module := some est.opsModuleName, names := est.vars.map (fun kv => (kv.2, none)), level := 1 } : ImportFrom)] =
      (est.vars.map (·.2)).map (fun n => (n, (dotted 1 est.opsModuleName, n))) := by
  simp [importBindings, List.map_map, Function.comp_def]

theorem vars_inj (vars : List (String × String)) (hn : (vars.map (·.2)).Nodup) (op1 op2 v : String)
    (h1 : alookup op1 vars = some v) (h2 : alookup op2 vars = some v) : op1 = op2 :=
  congrArg Prod.fst (Lists.eq_of_nodup_map hn (mem_of_alookup op1 v vars h1) (mem_of_alookup op2 v vars h2) rfl)

theorem opsFile_lookup (est : ExtractState) (f : OpsFile) (hf : extractOpsFile est = .ok f)
    (hinj : ∀ op1 op2 v, alookup op1 est.vars = some v → alookup op2 est.vars = some v → op1 = op2)
    (op v g : String) (hv : alookup op est.vars = some v) (hg : alookup op est.gqls = some g) :
    alookup v f.assigns = some (pyLines g) := by
  rw [extractOpsFile_eq] at hf
  cases hm : est.gqls.mapM (opsAssign est) with
  | error e => rw [hm] at hf; cases hf
  | ok assigns =>
    rw [hm] at hf
    simp only [bind_ok, pure_eq_ok, Except.ok.injEq] at hf
    subst hf
    simp only
    -- scan the recorded strings in order: the first one whose constant is `v` is the string of `op`
    have : ∀ (l : List (String × String)) (r : List (String × List String)), l.mapM (opsAssign est) = .ok r →
        alookup op l = some g → alookup v r = some (pyLines g) := by
      intro l
      induction l with
      | nil => intro r _ h; simp [alookup] at h
      | cons kv rest ih =>
        intro r hr hl
        obtain ⟨y, ys, hk, hrest, rfl⟩ := Lists.mapM_cons_eq_ok.mp hr
        obtain ⟨k, gk⟩ := kv
        unfold opsAssign at hk
        simp only at hk
        cases hvk : alookup k est.vars with
        | none => rw [hvk] at hk; cases hk
        | some vk =>
          rw [hvk] at hk
          simp only [pure_eq_ok, Except.ok.injEq] at hk
          subst hk
          by_cases hko : k = op
          · subst hko
            simp only [alookup, ↓reduceIte, Option.some.injEq] at hl
            subst hl
            rw [hv] at hvk
            simp only [Option.some.injEq] at hvk
            subst hvk
            simp [alookup]
          · have hne : vk ≠ v := by
              intro hc; subst hc; exact hko (hinj k op vk hvk hv)
            simp only [alookup, hko, ↓reduceIte] at hl
            simp only [alookup, hne, ↓reduceIte]
            exact ih ys hrest hl
    exact this est.gqls assigns hm hg


theorem knownModules_mono (x : Input) (ops : String × OpsFile) (q : String) (h : q ∈ knownModules x none) :
    q ∈ knownModules x (some ops) := by
  unfold knownModules at h ⊢
  simp only [List.append_nil] at h
  exact List.mem_append_left _ h

theorem knownModules_ops (x : Input) (n : String) (f : OpsFile) : ("." ++ n) ∈ knownModules x (some (n, f)) := by
  unfold knownModules
  simp

theorem extractOf_inert (a b : List PState) (ha : Inert a) (e0 : ExtractState) : extractOf (a ++ .extract e0 :: b) = some e0 := by
  unfold extractOf
  rw [List.findSome?_append, inert_findSome_none _ rfl rfl a ha]
  rfl

theorem no_shorter_inert_extract (a b : List PState) (ha : Inert a) (hb : Inert b) (e0 : ExtractState) :
    (a ++ PState.extract e0 :: b).any PState.isShorter = false := by
  rw [List.any_eq_false]
  intro p hp
  simp only [List.mem_append, List.mem_cons] at hp
  rcases hp with hp | rfl | hp
  · rcases ha p hp with rfl | rfl <;> simp [PState.isShorter]
  · simp [PState.isShorter]
  · rcases hb p hp with rfl | rfl <;> simp [PState.isShorter]

/-- what ExtractOperations leaves of the package: the client module with its import in front and the rewritten methods
    (`M1`) and the written operations module, against the unplugged client module `MQ` -/
structure ExtractConcl (known : List String) (est : ExtractState) (ops1 : Option (String × OpsFile)) (MQ M1 : Module)
    (C0 : ClassDef) : Prop where
  fmt : formatOkB M1 = true
  ann : annScopedB M1 = true
  well : wellScopedB { client := M1, ops := ops1 } = true
  imp : ∀ i ∈ topImports M1, ∀ q, relModule i = some q → q ∈ known
  cls : ∃ CP, M1.firstClass? = some CP ∧ ItemsRel (MethE' est) C0.body CP.body
  sem : ∀ md ∈ C0.methods, ∀ md', MethE' est md md' → ∀ sL, shapeOf md = some sL →
    ∃ s', shapeOf md' = some s' ∧ s'.proj = sL.proj ++ [] ∧
      request { client := M1, ops := ops1 } s' = request { client := MQ, ops := none } sL ∧
      ∀ (PyV : Type) (validate : String × String → J → Except String PyV) (getattr : String → PyV → PyV) (d : J),
        respond validate getattr { client := M1, ops := ops1 } s' d =
          (respond validate getattr { client := MQ, ops := none } sL d).map (fun o => ([] : List String).foldl (fun o f => getattr f o) o)

theorem extract_concl (known0 known : List String) (est : ExtractState) (f : OpsFile) (MQ MP : Module) (pre0 : List Top)
    (g0 : Method) (C0 : ClassDef) (hf : extractOpsFile est = .ok f) (hmod : ModE est MQ MP)
    (hbody0 : MQ.body = pre0 ++ [.funcDef g0, .classDef C0]) (hnc0 : NoClass pre0) (hgql' : "gql" ∈ moduleNames MQ)
    (hnodup : nodupB (est.vars.map (·.2)) = true)
    (hretcls : ∀ md ∈ C0.methods, ∀ s, shapeOf md = some s → s.retClass ∉ est.vars.map (·.2))
    (hfmt0 : formatOkB MQ = true) (hann0 : annScopedB MQ = true) (hwell0 : wellScopedB { client := MQ, ops := none } = true)
    (himp0 : ∀ i ∈ topImports MQ, ∀ q, relModule i = some q → q ∈ known0)
    (hknown : ∀ q ∈ known0, q ∈ known) (hops : ("." ++ est.opsModuleName) ∈ known) :
    ExtractConcl known est (some (est.opsModuleName, f)) MQ { body := extractImport est :: MP.body } C0 := by
  obtain ⟨CP, hbodyP, hnameP, hitems⟩ : ∃ CP : ClassDef, MP.body = pre0 ++ [.funcDef g0, .classDef CP] ∧ CP.name = C0.name ∧
      ItemsRel (MethE' est) C0.body CP.body := by
    rcases hmod with rfl | ⟨imps, g, cQ, cP, hbq, hbp, hcls⟩
    · exact ⟨C0, hbody0, rfl, ItemsRel.refl (fun m => .inl rfl) _⟩
    · rw [hbody0] at hbq
      have hinj := List.append_inj' hbq (by simp)
      obtain ⟨h1, h2⟩ := hinj
      simp only [List.cons.injEq, Top.funcDef.injEq, Top.classDef.injEq, and_true] at h2
      obtain ⟨rfl, rfl⟩ := h2
      subst h1
      simp only [ClassE] at hcls
      exact ⟨cP, hbp, hcls.1, hcls.2.2.2⟩
  have hfc0 : MQ.firstClass? = some C0 := firstClass_of_body MQ pre0 g0 C0 hbody0 hnc0
  obtain ⟨M1, hM1def⟩ : ∃ M1 : Module, M1 = { body := extractImport est :: MP.body } := ⟨_, rfl⟩
  rw [← hM1def]
  have hM1body : M1.body = (extractImport est :: pre0) ++ [.funcDef g0, .classDef CP] := by
    rw [hM1def]
    show extractImport est :: MP.body = _
    rw [hbodyP]; rfl
  have hnc1 : NoClass (extractImport est :: pre0) := List.forall_mem_cons.mpr ⟨rfl, hnc0⟩
  have hfc1 : M1.firstClass? = some CP := firstClass_of_body M1 _ g0 CP hM1body hnc1
  have hnames1 : moduleNames M1 = est.vars.map (·.2) ++ moduleNames MQ := by
    rw [moduleNames_eq, moduleNames_eq, hM1body, hbody0, List.cons_append, namesOfTops_cons, namesOfTops_append, namesOfTops_append]
    have h1 : namesOfTops [extractImport est] = est.vars.map (·.2) := by
      simp [namesOfTops, moduleNames, extractImport, List.map_map, Function.comp_def]
    have h2 : namesOfTops [Top.funcDef g0, Top.classDef CP] = namesOfTops [Top.funcDef g0, Top.classDef C0] := by
      simp [namesOfTops, moduleNames, hnameP]
    rw [h1, h2]
  have hmono : ∀ n ∈ moduleNames MQ, n ∈ moduleNames M1 := by
    intro n hn; rw [hnames1]; exact List.mem_append_right _ hn
  have htop1 : topImports M1 = { module := some est.opsModuleName, names := est.vars.map (fun kv => (kv.2, none)), level := 1 } :: topImports MQ := by
    rw [topImports_eq, topImports_eq, hM1body, hbody0, List.cons_append]
    have h1 : ∀ l : List Top, importsOfTops (extractImport est :: l) =
        { module := some est.opsModuleName, names := est.vars.map (fun kv => (kv.2, none)), level := 1 } :: importsOfTops l := by
      intro l; rfl
    rw [h1, importsOfTops_append, importsOfTops_append]
    rfl
  have hbind1 : importBindings (topImports M1) =
      (est.vars.map (·.2)).map (fun n => (n, (dotted 1 est.opsModuleName, n))) ++ importBindings (topImports MQ) := by
    rw [htop1]
    have : ∀ (i : ImportFrom) (l : List ImportFrom), importBindings (i :: l) = importBindings [i] ++ importBindings l :=
      fun i l => importBindings_append [i] l
    rw [this, extractImport_bindings]
  have hinj : ∀ op1 op2 v, alookup op1 est.vars = some v → alookup op2 est.vars = some v → op1 = op2 :=
    vars_inj est.vars ((Lists.nodupB_iff_of_eqns nodupB rfl (fun _ _ => rfl) _).mp hnodup)
  have hconst : ∀ (s : Shape) (op v g : String), alookup op est.vars = some v → alookup op est.gqls = some g → s.imports = [] →
      constValue { client := M1, ops := some (est.opsModuleName, f) } { s with op := .const v } v = some (String.join (pyLines g)) := by
    intro s op v g hv' hg' himps
    have hvmem : v ∈ est.vars.map (·.2) := List.mem_map.mpr ⟨(op, v), mem_of_alookup op v _ hv', rfl⟩
    unfold constValue resolveRuntime
    have hnil : alookup v (importBindings ({ s with op := .const v } : Shape).imports) = none := by
      show alookup v (importBindings s.imports) = none
      rw [himps]; rfl
    have htop : alookup v (importBindings (topImports M1)) = some (dotted 1 est.opsModuleName, v) := by
      rw [hbind1, alookup_append, alookup_self_map _ _ v hvmem]
    simp only [hnil, htop, dotted_one, ↓reduceIte, opsFile_lookup est f hf hinj op v g hv' hg', Option.map_some]
  have hann0' := (annScopedB_iff _ C0 hfc0).mp hann0
  have hwell0' := (wellScopedB_iff _ C0 hfc0).mp hwell0
  have hCPmethods : ∀ md' ∈ CP.methods, ∃ md ∈ C0.methods, MethE' est md md' := fun md' hmd' => ItemsRel.mem_right hitems md' hmd'
  have hfmt1 : formatOkB M1 = true := by
    have h0 := (formatOkB_iff _).mp hfmt0
    rw [formatOkB_iff]
    intro t ht
    rw [hM1body] at ht
    simp only [List.cons_append, List.mem_cons, List.mem_append, List.not_mem_nil, or_false] at ht
    rcases ht with rfl | h | rfl | rfl
    · intro e o hc; cases hc
    · exact h0 t (by rw [hbody0]; simp [h])
    · intro e o hc; cases hc
    · intro e o hc; cases hc
  have hann1 : annScopedB M1 = true := by
    rw [annScopedB_iff _ _ hfc1]
    intro md' hmd' n hn
    obtain ⟨md, hmd, hrel⟩ := hCPmethods md' hmd'
    have hdt : defTimeNames md' = defTimeNames md := by
      rcases hrel with rfl | ⟨_, _, _, _, _, _, _, _, _, _, rfl⟩
      · rfl
      · rfl
    rw [hdt] at hn
    rcases hann0' md hmd n hn with h | h
    · exact .inl (hmono n h)
    · exact .inr h
  have hwell1 : wellScopedB { client := M1, ops := some (est.opsModuleName, f) } = true := by
    rw [wellScopedB_iff _ _ hfc1]
    intro md' hmd'
    obtain ⟨md, hmd, hrel⟩ := hCPmethods md' hmd'
    have hmd0 := hwell0' md hmd
    rcases hrel with rfl | ⟨op, v, g, s, q, hv', hg', hbody, himps, hsop, rfl⟩
    · -- untouched: the operation is inlined, no constant to resolve
      refine runtimeUnresolved_mono hmono (fun v c hv hc _ => ?_) hmd0
      obtain ⟨q, ls, hq⟩ := inline_of_unresolved_nil hv hmd0
      rw [hq] at hc; cases hc
    · have hsh : shapeOf md = some s := shapeOf_bodyOf md s hbody
      have hsh' : shapeOf ({ md with body := bodyOf { s with op := .const v } } : Method) = some { s with op := .const v } :=
        shapeOf_bodyOf _ _ rfl
      have hvmem : v ∈ moduleNames M1 := by
        rw [hnames1]; exact List.mem_append_left _ (List.mem_map.mpr ⟨(op, v), mem_of_alookup op v _ hv', rfl⟩)
      obtain ⟨hneed, _⟩ := (runtimeUnresolved_nil_iff _ md s hsh).mp hmd0
      rw [runtimeUnresolved_nil_iff _ _ _ hsh']
      refine ⟨fun n hn => ?_, fun c hc => ?_⟩
      · -- the constant is bound by the prepended import, the other names as before
        rcases mem_needNames.mp hn with rfl | hn
        · exact mem_boundNames.mpr (.inr (.inl hvmem))
        · exact boundNames_mono (pkg0 := { client := MQ, ops := none }) hmono (hneed n (mem_needNames.mpr (.inr hn)))
      · cases hc
        rw [hconst s op v g hv' hg' himps]
        rfl
  have himp1 : ∀ i ∈ topImports M1, ∀ q, relModule i = some q → q ∈ known := by
    intro i hi q hq
    rw [htop1] at hi
    rcases List.mem_cons.mp hi with rfl | h
    · have hrel : relModule ({ module := some est.opsModuleName, names := est.vars.map (fun kv => (kv.2, none)), level := 1 } : ImportFrom) =
          some (dotted 1 est.opsModuleName) := by simp [relModule]
      rw [hrel, dotted_one] at hq
      cases hq
      exact hops
    · exact hknown q (himp0 i h q hq)
  -- a method, without and with ExtractOperations: the same request (the constant holds the inlined lines), same response handling
  have hR : ∀ md ∈ C0.methods, ∀ md', MethE' est md md' → ∀ sL, shapeOf md = some sL →
      ∃ s', shapeOf md' = some s' ∧ s'.proj = sL.proj ++ [] ∧
        request { client := M1, ops := some (est.opsModuleName, f) } s' = request { client := MQ, ops := none } sL ∧
        ∀ (PyV : Type) (validate : String × String → J → Except String PyV) (getattr : String → PyV → PyV) (d : J),
          respond validate getattr { client := M1, ops := some (est.opsModuleName, f) } s' d =
            (respond validate getattr { client := MQ, ops := none } sL d).map (fun o => ([] : List String).foldl (fun o f => getattr f o) o) := by
    intro md hmem md' hrel s0 hs0
    have hnotvar : s0.retClass ∉ est.vars.map (·.2) := hretcls md hmem s0 hs0
    have hresp : ∀ (s1 : Shape), s1.imports = s0.imports → s1.retClass = s0.retClass → s1.proj = s0.proj →
        ∀ (PyV : Type) (validate : String × String → J → Except String PyV) (getattr : String → PyV → PyV) (d : J),
        respond validate getattr { client := M1, ops := some (est.opsModuleName, f) } s1 d =
          (respond validate getattr { client := MQ, ops := none } s0 d).map (fun o => ([] : List String).foldl (fun o f => getattr f o) o) := by
      intro s1 h1 h2 h3 PyV validate getattr d
      rw [show (fun o : PyV => ([] : List String).foldl (fun o f => getattr f o) o) = fun o => o from rfl, outcome_map_id]
      unfold respond resolveRuntime
      simp only [h1, h2, h3]
      rw [hbind1, alookup_append, alookup_self_map_none _ _ _ hnotvar]
    rcases hrel with rfl | ⟨op, v, g, s, q, hv', hg', hbody, himps, hsop, rfl⟩
    · refine ⟨s0, hs0, by simp, ?_, hresp s0 rfl rfl rfl⟩
      -- the operation is inlined: only `gql` matters
      obtain ⟨q, ls, hop⟩ := inline_of_unresolved_nil hs0 (hwell0' md' hmem)
      unfold request
      simp [hop, hgql', hmono _ hgql']
    · have hs : s = s0 := by
        have := shapeOf_bodyOf md s hbody
        rw [hs0] at this
        exact (Option.some.inj this).symm
      subst hs
      refine ⟨{ s with op := .const v }, shapeOf_bodyOf _ { s with op := .const v } rfl, by simp, ?_, hresp { s with op := .const v } rfl rfl rfl⟩
      unfold request
      simp only [hsop, hconst s op v g hv' hg' himps]
      simp [hgql']
  exact ⟨hfmt1, hann1, hwell1, himp1, ⟨CP, hfc1, hitems⟩, hR⟩

/-- `genShapedE`, decoded (`e0`: the ExtractOperations object of the list) -/
theorem genShapedE_spec {x : Input} {e0 : ExtractState} (he : extractOf x.plugins = some e0) (hg : genShapedE x = true) :
    ∃ pre cm post M0 pre0 g0 C0, GenFrame x [] pre cm post M0 ∧
      (∀ e ∈ pre, e.call.hook ≠ "generate_init_module") ∧ (∀ e ∈ post, initHook e) ∧
      (∃ e ∈ post, e.call.hook = "generate_init_module" ∧ ∃ mp, e.payload = .module mp) ∧ checkE e0 pre = true ∧
      "gql" ∈ moduleNames M0 ∧ M0.body = pre0 ++ [.funcDef g0, .classDef C0] ∧ NoClass pre0 ∧
      nodupB ((pre.foldl ebook e0).vars.map (·.2)) = true ∧
      ∀ md ∈ C0.methods, ∀ s, shapeOf md = some s → s.retClass ∉ (pre.foldl ebook e0).vars.map (·.2) := by
  unfold genShapedE at hg
  rw [he] at hg
  split at hg
  rotate_left
  · cases hg
  rename_i pre cm post M0 e0' hsplit hM0 he0
  cases he0
  simp only [Bool.and_eq_true] at hg
  obtain ⟨⟨⟨⟨⟨⟨hpayload, hpreI⟩, hpostH⟩, hpostE⟩, hck⟩, hgql⟩, hrest⟩ := hg
  split at hrest
  rotate_left
  · cases hrest
  rename_i pre0 g0 C0 hsc
  obtain ⟨hbody0, hnc0⟩ := splitClient_spec M0 pre0 g0 C0 hsc
  simp only [Bool.and_eq_true, List.all_eq_true] at hrest
  rw [List.all_eq_true] at hpreI hpostH
  refine ⟨pre, cm, post, M0, pre0, g0, C0, genFrame_of_split hsplit hM0 hpayload, fun e he => by simpa using hpreI e he,
    fun e he => by simpa [initHook] using hpostH e he, ?_, hck, by simpa using hgql, hbody0, hnc0, hrest.1, fun md hmd s hs => ?_⟩
  · rw [List.any_eq_true] at hpostE
    obtain ⟨e, he, hh⟩ := hpostE
    simp only [Bool.and_eq_true, beq_iff_eq] at hh
    refine ⟨e, he, hh.1, ?_⟩
    have h2 := hh.2
    split at h2
    · exact ⟨_, by assumption⟩
    · cases h2
  · have := hrest.2 md hmd
    rw [hs] at this
    simpa using this

theorem extract_lists_whole (x : Input) (a b : List PState) (e0 : ExtractState) (hps : x.plugins = a ++ .extract e0 :: b)
    (ha : Inert a) (hb : Inert b) (hfresh : PState.isFresh (.extract e0) = true)
    (hv : validB x = true) (hclash : trigOpsModuleClash x = false) (hg : genShapedE x = true) :
    loadsB x.plugins x = true ∧ projOKB x.plugins x = true ∧ SameBehaviour x.plugins x := by
  obtain ⟨pre, cm, post, M0, pre0, g0, C0, ⟨hevs, hcm, hpre, ⟨mp, hmp⟩, hM0⟩, hpreI, hpost', hex, hck, hgql', hbody0, hnc0,
    hnodup, hretcls⟩ := genShapedE_spec (by rw [hps]; exact extractOf_inert a b ha e0) hg
  have hg0 : e0.gqls = [] := by
    simp only [PState.isFresh, Bool.and_eq_true, List.isEmpty_iff] at hfresh
    exact hfresh.1.1
  obtain ⟨MQ, MP, f, hmod, hf, hu2, hops0, hp1, hp2, hp3⟩ :=
    extract_pipeline x.plugins a b e0 hps ha hb hg0 pre post cm hcm (fun e he => ⟨hpre e he, hpreI e he⟩) hck mp hmp hpost' hex
  rw [← hevs] at hu2 hops0 hp1 hp2 hp3
  obtain rfl : M0 = MQ := Option.some.inj (hM0.symm.trans hu2)
  rw [← foldl_ebook_opsModuleName pre e0] at hp3
  generalize pre.foldl ebook e0 = est at hmod hf hp2 hp3 hnodup hretcls
  simp only [validB, Bool.and_eq_true] at hv
  obtain ⟨_, _, M', hM', hfmt0, hann0, hwell0, himp0⟩ := (loadsB_iff [] x).mp hv.1.2
  obtain rfl : M0 = M' := Option.some.inj (hM0.symm.trans hM')
  rw [show (runWith [] x).1.opsFile? = none from hops0] at hwell0 himp0
  have C := extract_concl _ (knownModules x (some (est.opsModuleName, f))) est f M0 MP pre0 g0 C0 hf hmod hbody0 hnc0 hgql' hnodup
    hretcls hfmt0 hann0 hwell0 ((importsExistB_iff _ _ _).mp himp0) (fun q hq => knownModules_mono x _ q hq)
    (knownModules_ops x est.opsModuleName f)
  obtain ⟨CP, hfc1, hitems⟩ := C.cls
  have hexp : ∀ m ∈ baseMethods x.events, ∀ md, finalMethod [] x m.name = some md →
      expectedProj x.plugins x m = expectedProj [] x m ++ [] := by
    intro m _ md _; unfold expectedProj; rw [hps, no_shorter_inert_extract a b ha hb e0]; simp
  exact whole_of_refines x [] x.plugins M0 _ none (some (est.opsModuleName, f)) C0 CP _ _ hM0 hops0 hp1 hp2 hp3 hclash
    C.fmt C.ann C.well C.imp (firstClass_of_body M0 pre0 g0 C0 hbody0 hnc0) hfc1 hitems
    (fun m m' h => by rcases h with rfl | h; rfl; exact h.name) hexp C.sem hv.2 (sameBehaviour_unplugged x)

end Ariadne.C15
