/-
  C06, the acceptance theorem: whatever graphql-core's input coercion accepts (in canonical form)
  the generated input class can be built from, keyed by GraphQL names or by Python names — by
  structural induction over the VALUE (nested lists and objects of any size and depth) and, inside
  each value shape, over the type wrappers.  Hypothesis `related`: what the generator establishes
  outside the finding triggers (Model/InputRel.lean).
-/
import AriadneModel.Model.InputRel
import AriadneModel.Proofs.InputField
import AriadneModel.Proofs.InputRel

namespace Ariadne.C06Accept
open Ariadne.InputGen (TypeRef)
open Ariadne.InputField (Ann Kind annOf namedAnn wrapNullable nullableItemUnderNonNull wrapAnn annOf_eq)
open Ariadne.CoerceInput Ariadne.PydInput Ariadne.InputRel

theorem core_wrapNullable (nl : Bool) (a : Ann) : core (wrapNullable nl a) = core a := by
  cases nl <;> simp [wrapNullable, core]

theorem isOptional_wrapNullable (nl : Bool) (a : Ann) (h : isOptional a = false) :
    isOptional (wrapNullable nl a) = nl := by
  cases nl
  · simpa [wrapNullable] using h
  · simp [wrapNullable, isOptional]

theorem namedAnn_core (kinds : String → Kind) (n : String) (X : Ann) (ft : String)
    (h : namedAnn kinds n = some (X, ft)) : core X = X ∧ isOptional X = false := by
  unfold namedAnn at h
  cases hk : kinds n with
  | custom ty ser => cases ser <;> simp [hk] at h <;> (obtain ⟨rfl, _⟩ := h; simp [core, isOptional])
  | builtin py => simp [hk] at h; obtain ⟨rfl, _⟩ := h; simp [core, isOptional]
  | any => simp [hk] at h; obtain ⟨rfl, _⟩ := h; simp [core, isOptional]
  | input => simp [hk] at h; obtain ⟨rfl, _⟩ := h; simp [core, isOptional]
  | enum => simp [hk] at h; obtain ⟨rfl, _⟩ := h; simp [core, isOptional]
  | composite => simp [hk] at h
  | unknown => simp [hk] at h

theorem core_wrapAnn (t : TypeRef) (nl : Bool) (X : Ann) (hd : listDepth t = 0) : core (wrapAnn t nl X) = core X := by
  induction t generalizing nl with
  | named n => exact core_wrapNullable nl X
  | list t _ => simp [listDepth] at hd
  | nonNull t ih => exact ih false (by simpa [listDepth] using hd)

theorem annOf_depth0 (kinds : String → Kind) (t : TypeRef) (nl : Bool) (a : Ann) (ft : String)
    (hd : listDepth t = 0) (h : annOf kinds t nl = some (a, ft)) :
    ∃ X, namedAnn kinds t.base = some (X, ft) ∧ core a = X := by
  rw [annOf_eq] at h
  cases hn : namedAnn kinds t.base with
  | none => simp [hn] at h
  | some p =>
    obtain ⟨X, ft'⟩ := p
    simp only [hn, Option.map_some, Option.some.injEq, Prod.mk.injEq] at h
    obtain ⟨rfl, rfl⟩ := h
    exact ⟨X, rfl, by rw [core_wrapAnn t nl X hd]; exact (namedAnn_core kinds t.base X ft' hn).1⟩

theorem annOf_list (kinds : String → Kind) (t : TypeRef) (nl : Bool) (a : Ann) (ft : String)
    (h : annOf kinds (.list t) nl = some (a, ft)) :
    ∃ a', annOf kinds t nl = some (a', ft) ∧ core a = .list a' ∧ isOptional a = nl := by
  simp only [annOf] at h
  cases h' : annOf kinds t nl with
  | none => simp [h'] at h
  | some p =>
    obtain ⟨a', ft'⟩ := p
    simp [h'] at h
    obtain ⟨rfl, rfl⟩ := h
    exact ⟨a', rfl, by rw [core_wrapNullable]; rfl, isOptional_wrapNullable nl _ rfl⟩

theorem annOf_optional (kinds : String → Kind) (t : TypeRef) (nl : Bool) (a : Ann) (ft : String)
    (hnn : t.isNonNull = false) (h : annOf kinds t nl = some (a, ft)) : isOptional a = nl := by
  cases t with
  | named n =>
    rw [InputField.annOf_named] at h
    cases hn : namedAnn kinds n with
    | none => simp [hn] at h
    | some p =>
      obtain ⟨X, ft'⟩ := p
      simp [hn] at h
      obtain ⟨rfl, rfl⟩ := h
      exact isOptional_wrapNullable nl X (namedAnn_core kinds n X ft' hn).2
  | list t => exact (annOf_list kinds t nl a ft h).choose_spec.2.2
  | nonNull t => simp [InputGen.TypeRef.isNonNull] at hnn

variable {kinds : String → Kind} {S : CSchema} {env : Env}

theorem leaf_ok (hrel : related kinds S env = true) (n : String) (v c : J) (X : Ann) (ft : String)
    (hc : coerceLeaf S n v = .ok c) (hcan : leafCanon env kinds n v = true)
    (hX : namedAnn kinds n = some (X, ft)) : ∃ pv, validateLeaf env X v = .ok pv := by
  have hk := fun n py (hm : (n, py) ∈ builtinNames) => related_builtin hrel hm
  have he := fun py hm => related_noEnum hrel (py := py) hm
  unfold coerceLeaf at hc
  cases hb : coerceBuiltin n v with
  | some r =>
    simp only [hb] at hc
    subst hc
    rcases specified_cases (coerceBuiltin_some_mem hb) with rfl | rfl | rfl | rfl | rfl
    · simp [namedAnn, hk "Int" "int" (by decide)] at hX
      obtain ⟨rfl, _⟩ := hX
      simp only [validateLeaf, validateName, he "int" (by decide)]
      simp [coerceBuiltin] at hb
      cases v <;> simp at hb
      case num m e =>
        cases hi : integral? m e with
        | none => simp [hi] at hb
        | some i => exact ⟨.num i 0, by simp [validateInt, hi]⟩
    · simp [namedAnn, hk "Float" "float" (by decide)] at hX
      obtain ⟨rfl, _⟩ := hX
      simp only [validateLeaf, validateName, he "float" (by decide)]
      simp [coerceBuiltin] at hb
      cases v <;> simp at hb
      case num m e => exact ⟨.num m e, by simp [validateFloat]⟩
    · simp [namedAnn, hk "String" "str" (by decide)] at hX
      obtain ⟨rfl, _⟩ := hX
      simp only [validateLeaf, validateName, he "str" (by decide)]
      simp [coerceBuiltin] at hb
      cases v <;> simp at hb
      case str s => exact ⟨.str s, by simp [validateStr]⟩
    · simp [namedAnn, hk "Boolean" "bool" (by decide)] at hX
      obtain ⟨rfl, _⟩ := hX
      simp only [validateLeaf, validateName, he "bool" (by decide)]
      simp [coerceBuiltin] at hb
      cases v <;> simp at hb
      case bool b => exact ⟨.bool b, by simp [validateBool]⟩
    · simp [namedAnn, hk "ID" "str" (by decide)] at hX
      obtain ⟨rfl, _⟩ := hX
      simp only [validateLeaf, validateName, he "str" (by decide)]
      simp [leafCanon, hk "ID" "str" (by decide)] at hcan
      cases v <;> simp [isStr] at hcan
      case str s => exact ⟨.str s, by simp [validateStr]⟩
  | none =>
    simp only [hb] at hc
    obtain ⟨_, _, _, _, n5⟩ := not_specified ((coerceBuiltin_none_iff n v).mp hb)
    cases hf : S.find? n with
    | none => simp [hf] at hc
    | some ct =>
      obtain ⟨htr, hname⟩ := related_type hrel n ct hf
      cases ct with
      | input m fs => simp [hf] at hc
      | scalar m =>
        simp only [CType.name] at hname
        subst hname
        simp only [typeRel] at htr
        cases hk : kinds m with
        | builtin py =>
          simp [hk] at htr
          subst htr
          simp [namedAnn, hk] at hX
          obtain ⟨rfl, _⟩ := hX
          simp [leafCanon, hk, n5] at hcan
          simp only [validateLeaf]
          exact exists_ok_of_isOk hcan
        | custom ty ser =>
          simp [leafCanon, hk] at hcan
          have hv := exists_ok_of_isOk hcan
          cases ser with
          | none =>
            simp [namedAnn, hk] at hX
            obtain ⟨rfl, _⟩ := hX
            simpa [validateLeaf] using hv
          | some sr =>
            simp [namedAnn, hk] at hX
            obtain ⟨rfl, _⟩ := hX
            simpa [validateLeaf] using hv
        | any =>
          simp [namedAnn, hk] at hX
          obtain ⟨rfl, _⟩ := hX
          exact ⟨ofJ v, by simp [validateLeaf, validateName, he "Any" (by decide)]⟩
        | _ => simp [hk] at htr
      | enum m vals =>
        simp only [CType.name] at hname
        subst hname
        simp only [typeRel, Bool.and_eq_true, beq_iff_eq] at htr
        obtain ⟨hk, hms⟩ := htr
        simp [namedAnn, hk] at hX
        obtain ⟨rfl, _⟩ := hX
        simp only [hf] at hc
        cases v with
        | str x =>
          simp only [] at hc
          by_cases hin : vals.contains x = true
          · cases he : env.enum? m with
            | none => simp [he] at hms
            | some ms =>
              simp only [he, List.all_eq_true] at hms
              have hx := hms x (by simpa using hin)
              simp only [validateLeaf, validateName, he, validateEnum]
              cases hfind : ms.find? (fun m => m.2 == x) with
              | none =>
                rw [List.find?_eq_none] at hfind
                simp only [List.any_eq_true] at hx
                obtain ⟨y, hy, hyx⟩ := hx
                exact absurd hyx (hfind y hy)
              | some y => exact ⟨.enum m y.1 y.2, rfl⟩
          · have hin' : ¬ x ∈ vals := by simpa using hin
            simp [hin'] at hc
        | _ => simp at hc

theorem find_related : ∀ (fs : List CField) (specs : List FieldSpec), all2 (fieldRel kinds) fs specs = true →
    ∀ (k : String) (cf : CField), fs.find? (fun f => f.name == k) = some cf →
      ∃ sp, findByKey specs k = some sp ∧ fieldRel kinds cf sp = true ∧ sp ∈ specs ∧ cf ∈ fs := by
  intro fs
  induction fs with
  | nil => intro specs _ k cf h; simp at h
  | cons f fs ih =>
    intro specs h2 k cf hfind
    cases specs with
    | nil => simp [all2] at h2
    | cons sp specs =>
      simp only [all2, Bool.and_eq_true] at h2
      obtain ⟨hr, hrest⟩ := h2
      have hkey := (fieldRel_parts hr).1
      by_cases hk : f.name = k
      · have : cf = f := by simpa [List.find?, hk] using hfind.symm
        subst this
        refine ⟨sp, ?_, hr, List.mem_cons_self .., List.mem_cons_self ..⟩
        simp [findByKey, List.find?, hkey, hk]
      · have hb : (f.name == k) = false := by simpa using hk
        simp only [List.find?, hb] at hfind
        obtain ⟨sp', h1, h2', h3, h4⟩ := ih specs hrest k cf hfind
        refine ⟨sp', ?_, h2', List.mem_cons_of_mem _ h3, List.mem_cons_of_mem _ h4⟩
        have hb' : (sp.key == k) = false := by simpa [hkey] using hk
        simpa [findByKey, List.find?, hb'] using h1

theorem defaultFailure_none : ∀ (fs : List CField) (specs : List FieldSpec), all2 (fieldRel kinds) fs specs = true →
    ∀ (kvs : List (String × J)), defaultFailure specs kvs = none := by
  intro fs
  induction fs with
  | nil =>
    intro specs h2 kvs
    cases specs with
    | nil => rfl
    | cons sp specs => simp [all2] at h2
  | cons cf fs ih =>
    intro specs h2 kvs
    cases specs with
    | nil => simp [all2] at h2
    | cons sp specs =>
      simp only [all2, Bool.and_eq_true] at h2
      obtain ⟨hr, hrest⟩ := h2
      obtain ⟨_, _, _, _, hev⟩ := fieldRel_parts hr
      simp only [defaultFailure, ih specs hrest kvs]
      cases hd : sp.default with
      | none => simp
      | some r =>
        cases r with
        | ok d => simp
        | error e => exact absurd hd (hev e)

theorem finish_ok : ∀ (fs : List CField) (specs : List FieldSpec) (cs out : List (String × J)) (vals : List (String × PV)),
    all2 (fieldRel kinds) fs specs = true → CoerceInput.finish fs cs = .ok out →
    (∀ cf ∈ fs, ∀ sp ∈ specs, sp.key = cf.name → (J.lookup cf.name cs).isSome = true → (lookupPV sp.py vals).isSome = true) →
    ∃ fields, PydInput.finish specs vals = .ok fields := by
  intro fs
  induction fs with
  | nil =>
    intro specs cs out vals h2 _ _
    cases specs with
    | nil => exact ⟨[], rfl⟩
    | cons sp specs => simp [all2] at h2
  | cons cf fs ih =>
    intro specs cs out vals h2 hfin hkeys
    cases specs with
    | nil => simp [all2] at h2
    | cons sp specs =>
      simp only [all2, Bool.and_eq_true] at h2
      obtain ⟨hr, hrest⟩ := h2
      simp only [CoerceInput.finish] at hfin
      cases hf : CoerceInput.finish fs cs with
      | error e => simp [hf] at hfin
      | ok rest =>
        simp only [hf] at hfin
        obtain ⟨fields, hfields⟩ := ih specs cs rest vals hrest hf
          (fun cf' hcf sp' hsp => hkeys cf' (List.mem_cons_of_mem _ hcf) sp' (List.mem_cons_of_mem _ hsp))
        simp only [PydInput.finish, hfields]
        cases hl : lookupPV sp.py vals with
        | some pv => exact ⟨_, rfl⟩
        | none =>
          have hnone : J.lookup cf.name cs = none := by
            cases hc : J.lookup cf.name cs with
            | none => rfl
            | some c =>
              have := hkeys cf (List.mem_cons_self ..) sp (List.mem_cons_self ..) (fieldRel_parts hr).1 (by simp [hc])
              simp [hl] at this
          simp only [hnone] at hfin
          obtain ⟨_, _, _, hreq, hev⟩ := fieldRel_parts hr
          cases hd : sp.default with
          | none =>
            -- required in the model: then non-null without default in the schema, and coercion failed
            have := hreq.mp hd
            simp [this.1, this.2] at hfin
          | some r =>
            cases r with
            | ok d => exact ⟨_, rfl⟩
            | error e => exact absurd hd (hev e)

/-- how `validateKvs` treats one key that names the field `sp` — by its validation alias
    (`byName = false`) or by its Python name (`byName = true`) -/
theorem step_resolves (specs : List FieldSpec) (all' : List (String × J)) (hn : namesOK specs = true)
    (byName : Bool) (k : String) (sp : FieldSpec) (hk : findByKey specs k = some sp)
    (hall : byName = true → ∀ kv ∈ all', ∃ sp' ∈ specs, kv.1 = sp'.py) (v' : J) (rest' : List (String × J)) :
    validateKvs env specs all' ((newKey byName specs k, v') :: rest') =
      (match validate env sp.ann v' with
       | .error e => .error e
       | .ok pv =>
         match validateKvs env specs all' rest' with
         | .error e => .error e
         | .ok out => .ok ((sp.py, pv) :: out)) := by
  obtain ⟨hkd, hpd, hcross⟩ := namesOK_parts hn
  obtain ⟨hsp, hkey⟩ := findByKey_mem hk
  cases byName with
  | false =>
    simp only [newKey, Bool.false_eq_true, if_false, validateKvs, hk]
    rfl
  | true =>
    have hnk : newKey true specs k = sp.py := by simp [newKey, pyOf, hk]
    rw [hnk]
    cases hfk : findByKey specs sp.py with
    | some sp2 =>
      obtain ⟨hsp2, hkey2⟩ := findByKey_mem hfk
      have hpy : sp2.py = sp.py := hcross sp hsp sp2 hsp2 hkey2
      have : sp2 = sp := strDistinct_inj (fun (x : FieldSpec) => x.py) specs hpd sp2 hsp2 sp hsp hpy
      subst this
      simp only [validateKvs, hfk]
      rfl
    | none =>
      have hfn : findByName specs sp.py = some sp := by
        unfold findByName
        exact find_of_distinct (fun (x : FieldSpec) => x.py) specs hpd sp hsp
      have hhk : J.hasKey sp.key all' = false := by
        cases hh : J.hasKey sp.key all' with
        | false => rfl
        | true =>
          obtain ⟨kv, hkv, hkvk⟩ := J.hasKey_mem hh
          obtain ⟨sp', hsp', he⟩ := hall rfl kv hkv
          have h1 : sp.key = sp'.py := by rw [← hkvk, he]
          have h2 : sp.py = sp'.py := hcross sp' hsp' sp hsp h1
          have h3 : sp = sp' := strDistinct_inj (fun (x : FieldSpec) => x.py) specs hpd sp hsp sp' hsp' h2
          subst h3
          have : findByKey specs sp.key = some sp := by
            unfold findByKey
            exact find_of_distinct (fun (x : FieldSpec) => x.key) specs hkd sp hsp
          rw [h1] at this
          rw [this] at hfk
          cases hfk
      simp only [validateKvs, hfk, hfn, hhk, Bool.false_eq_true, if_false]
      rfl

theorem rekeyKvs_keys (fs : List CField) (specs : List FieldSpec) (h2 : all2 (fieldRel kinds) fs specs = true) :
    ∀ (rest cs : List (String × J)), coerceKvs S fs rest = .ok cs →
      ∀ kv ∈ rekeyKvs env S true fs specs rest, ∃ sp ∈ specs, kv.1 = sp.py := by
  intro rest
  induction rest with
  | nil => intro cs _ kv hkv; simp [rekeyKvs] at hkv
  | cons kv0 rest ih =>
    intro cs h kv hkv
    obtain ⟨k, v⟩ := kv0
    obtain ⟨cf, c1, cs', hf, _, hr, _⟩ := coerceKvs_cons_inv h
    simp only [rekeyKvs, hf, List.mem_cons] at hkv
    rcases hkv with rfl | hkv
    · obtain ⟨sp, hfk, _, hsp, _⟩ := find_related fs specs h2 k cf hf
      exact ⟨sp, hsp, by simp [newKey, pyOf, hfk]⟩
    · exact ih cs' hr kv hkv

theorem validate_of_leaf (a : Ann) (v : J) (pv : PV) (hv : v ≠ .null)
    (h : validateLeaf env (core a) v = .ok pv) : validate env a v = .ok pv := by
  cases v with
  | null => exact absurd rfl hv
  | arr xs => cases hX : core a <;> simp [validate, hX, validateLeaf] at h ⊢ <;> exact h
  | obj kvs => cases hX : core a <;> simp [validate, hX, validateLeaf] at h ⊢ <;> exact h
  | _ => simpa [validate] using h

/-- every value shape that is coerced as a leaf of the named type shares this argument -/
theorem accept_leaf_shape (hrel : related kinds S env = true) (byName : Bool) (v : J) (T : TypeRef) (nl : Bool) (a : Ann)
    (ft : String) (c : J) (hv : v ≠ .null)
    (h1 : coerce S T v = nestE (listDepth T) (coerceLeaf S T.base v))
    (h2 : canonical env kinds S T v = (listDepth T == 0 && leafCanon env kinds T.base v))
    (h3 : rekey env S byName T v = v)
    (hc : coerce S T v = .ok c) (hcan : canonical env kinds S T v = true)
    (ha : annOf kinds T nl = some (a, ft)) : ∃ pv, validate env a (rekey env S byName T v) = .ok pv := by
  rw [h2] at hcan
  simp only [Bool.and_eq_true, beq_iff_eq] at hcan
  obtain ⟨hd, hleaf⟩ := hcan
  rw [h1, hd, nestE_zero] at hc
  obtain ⟨X, hX, hcore⟩ := annOf_depth0 kinds T nl a ft hd ha
  obtain ⟨pv, hpv⟩ := leaf_ok hrel T.base v c X ft hc hleaf hX
  exact ⟨pv, by rw [h3]; exact validate_of_leaf a v pv hv (hcore ▸ hpv)⟩

section
variable (byName : Bool) (hrel : related kinds S env = true)
include hrel

mutual
  theorem accept : (v : J) → ∀ (T : TypeRef) (nl : Bool) (a : Ann) (ft : String) (c : J),
      coerce S T v = .ok c → canonical env kinds S T v = true → nullableItemUnderNonNull (!nl) T = false →
      (nl = false → v ≠ .null) → annOf kinds T nl = some (a, ft) →
      ∃ pv, validate env a (rekey env S byName T v) = .ok pv
    | .null => by
      intro T nl a ft c hc _ _ hnl ha
      have hT : T.isNonNull = false := by
        cases h : T.isNonNull with
        | false => rfl
        | true => simp [coerce, h] at hc
      have hnl' : nl = true := by
        cases nl with
        | true => rfl
        | false => exact absurd rfl (hnl rfl)
      have hopt := annOf_optional kinds T nl a ft hT ha
      exact ⟨.none, by simp [rekey, validate, validateNull, hopt, hnl']⟩
    | .bool b => by
      intro T nl a ft c hc hcan _ _ ha
      exact accept_leaf_shape hrel byName (.bool b) T nl a ft c (by simp) (by simp [coerce]) (by simp [canonical])
        (by simp [rekey]) hc hcan ha
    | .num m e => by
      intro T nl a ft c hc hcan _ _ ha
      exact accept_leaf_shape hrel byName (.num m e) T nl a ft c (by simp) (by simp [coerce]) (by simp [canonical])
        (by simp [rekey]) hc hcan ha
    | .str s => by
      intro T nl a ft c hc hcan _ _ ha
      exact accept_leaf_shape hrel byName (.str s) T nl a ft c (by simp) (by simp [coerce]) (by simp [canonical])
        (by simp [rekey]) hc hcan ha
    | .arr xs => by
      intro T
      induction T with
      | named n =>
        intro nl a ft c hc hcan _ _ ha
        exact accept_leaf_shape hrel byName (.arr xs) (.named n) nl a ft c (by simp)
          (by simp [coerce, CoerceInput.unNN, listDepth, nestE_zero, InputGen.TypeRef.base])
          (by simp [canonical, CoerceInput.unNN, listDepth, InputGen.TypeRef.base]) (by simp [rekey, CoerceInput.unNN]) hc hcan ha
      | nonNull t ih =>
        intro nl a ft c hc hcan htr _ ha
        have e1 : coerce S (.nonNull t) (.arr xs) = coerce S t (.arr xs) := by simp only [coerce, CoerceInput.unNN]
        have e2 : canonical env kinds S (.nonNull t) (.arr xs) = canonical env kinds S t (.arr xs) := by
          simp only [canonical, CoerceInput.unNN]
        have e3 : rekey env S byName (.nonNull t) (.arr xs) = rekey env S byName t (.arr xs) := by
          simp only [rekey, CoerceInput.unNN]
        rw [e3]
        exact ih false a ft c (e1 ▸ hc) (e2 ▸ hcan) (by simpa [nullableItemUnderNonNull] using htr) (fun _ => by simp)
          (by simpa [annOf] using ha)
      | list t _ =>
        intro nl a ft c hc hcan htr _ ha
        simp only [coerce, CoerceInput.unNN] at hc
        cases hl : coerceList S t xs with
        | error e => simp [hl] at hc
        | ok ys =>
          obtain ⟨a', ha', hcore, _⟩ := annOf_list kinds t nl a ft ha
          simp only [canonical, CoerceInput.unNN] at hcan
          simp only [nullableItemUnderNonNull, Bool.or_eq_false_iff, Bool.and_eq_false_iff] at htr
          have hitem : nl = false → t.isNonNull = true := by
            intro hnl
            rcases htr.1 with h | h
            · simp [hnl] at h
            · simpa using h
          obtain ⟨pvs, hpvs⟩ := acceptList xs t nl a' ft ys hl hcan htr.2 hitem ha'
          exact ⟨.list pvs, by simp only [rekey, CoerceInput.unNN, validate, hcore, hpvs]⟩
    | .obj kvs => by
      intro T nl a ft c hc hcan _ _ ha
      -- anything but an input object type takes the dict as a leaf value
      cases hf : S.find? T.base with
      | none =>
        exact accept_leaf_shape hrel byName (.obj kvs) T nl a ft c (by simp) (by simp [coerce, hf]) (by simp [canonical, hf])
          (by simp [rekey, hf]) hc hcan ha
      | some ct =>
        cases ct with
        | scalar m =>
          exact accept_leaf_shape hrel byName (.obj kvs) T nl a ft c (by simp) (by simp [coerce, hf]) (by simp [canonical, hf])
            (by simp [rekey, hf]) hc hcan ha
        | enum m vals =>
          exact accept_leaf_shape hrel byName (.obj kvs) T nl a ft c (by simp) (by simp [coerce, hf]) (by simp [canonical, hf])
            (by simp [rekey, hf]) hc hcan ha
        | input n fs =>
          obtain ⟨htr, hname⟩ := related_type hrel T.base _ hf
          simp only [canonical, Bool.and_eq_true, beq_iff_eq] at hcan
          obtain ⟨hd, hcan⟩ := hcan
          simp only [coerce, hd, nestE_zero] at hc
          obtain ⟨X, hX, hcore⟩ := annOf_depth0 kinds T nl a ft hd ha
          simp only [CType.name] at hname
          subst hname
          simp only [hf] at hc hcan
          obtain ⟨hk, cl, hcl, h2, hn⟩ := typeRel_input htr
          have hXf : X = .fwd T.base := by
            simp [namedAnn, hk] at hX
            exact hX.1.symm
          cases hkv : coerceKvs S fs kvs with
          | error e => simp [hkv] at hc
          | ok cs =>
            simp only [hkv] at hc
            cases hfin : CoerceInput.finish fs cs with
            | error e => simp [hfin] at hc
            | ok out =>
              have hall : byName = true → ∀ kv ∈ rekeyKvs env S byName fs cl.fields kvs, ∃ sp ∈ cl.fields, kv.1 = sp.py := by
                intro hb
                subst hb
                exact rekeyKvs_keys fs cl.fields h2 kvs cs hkv
              obtain ⟨vals, hvals, hkeys⟩ :=
                acceptKvs kvs fs cl.fields (rekeyKvs env S byName fs cl.fields kvs) cs h2 hn hkv hcan hall
              obtain ⟨hkd, _, _⟩ := namesOK_parts hn
              have hfinish : ∃ fields, PydInput.finish cl.fields vals = .ok fields := by
                apply finish_ok fs cl.fields cs out vals h2 hfin
                intro cf _ sp hsp hkey hsome
                apply lookupPV_isSome_of_mem
                rw [hkeys]
                cases hlk : J.lookup cf.name cs with
                | none => simp [hlk] at hsome
                | some c1 =>
                  have hmem := J.lookup_some_mem hlk
                  rw [coerceKvs_keys fs kvs cs hkv] at hmem
                  simp only [List.mem_map] at hmem ⊢
                  obtain ⟨kv, hkvm, hkve⟩ := hmem
                  refine ⟨kv, hkvm, ?_⟩
                  have : findByKey cl.fields sp.key = some sp := by
                    unfold findByKey
                    exact find_of_distinct (fun (x : FieldSpec) => x.key) cl.fields hkd sp hsp
                  simp [pyOf, hkve, ← hkey, this]
              obtain ⟨fields, hfields⟩ := hfinish
              refine ⟨.model T.base fields (vals.map (·.1)), ?_⟩
              have hdf := defaultFailure_none fs cl.fields h2 (rekeyKvs env S byName fs cl.fields kvs)
              simp only [rekey, hf, hcl, validate, hcore, hXf, hdf, hvals, hfields]
  theorem acceptList : (xs : List J) → ∀ (t : TypeRef) (nl : Bool) (a : Ann) (ft : String) (ys : List J),
      coerceList S t xs = .ok ys → canonicalList env kinds S t xs = true → nullableItemUnderNonNull (!nl) t = false →
      (nl = false → t.isNonNull = true) → annOf kinds t nl = some (a, ft) →
      ∃ pvs, validateList env a (rekeyList env S byName t xs) = .ok pvs
    | [] => by
      intro t nl a ft ys _ _ _ _ _
      exact ⟨[], by simp [rekeyList, validateList]⟩
    | x :: xs => by
      intro t nl a ft ys hc hcan htr hitem ha
      simp only [coerceList] at hc
      cases hx : coerce S t x with
      | error e => simp [hx] at hc
      | ok y =>
        simp only [hx] at hc
        cases hxs : coerceList S t xs with
        | error e => simp [hxs] at hc
        | ok ys' =>
          simp only [canonicalList, Bool.and_eq_true] at hcan
          have hnn : nl = false → x ≠ .null := by
            intro hnl hxn
            subst hxn
            simp [coerce, hitem hnl] at hx
          obtain ⟨pv, hpv⟩ := accept x t nl a ft y hx hcan.1 htr hnn ha
          obtain ⟨pvs, hpvs⟩ := acceptList xs t nl a ft ys' hxs hcan.2 htr hitem ha
          exact ⟨pv :: pvs, by simp only [rekeyList, validateList, hpv, hpvs]⟩
  theorem acceptKvs : (rest : List (String × J)) → ∀ (fs : List CField) (specs : List FieldSpec) (all' : List (String × J))
      (cs : List (String × J)), all2 (fieldRel kinds) fs specs = true → namesOK specs = true →
      coerceKvs S fs rest = .ok cs → canonicalKvs env kinds S fs rest = true →
      (byName = true → ∀ kv ∈ all', ∃ sp ∈ specs, kv.1 = sp.py) →
      ∃ vals, validateKvs env specs all' (rekeyKvs env S byName fs specs rest) = .ok vals ∧
        vals.map (·.1) = rest.map (fun kv => pyOf specs kv.1)
    | [] => by
      intro fs specs all' cs _ _ _ _ _
      exact ⟨[], by simp [rekeyKvs, validateKvs], rfl⟩
    | (k, v) :: rest => by
      intro fs specs all' cs h2 hn hc hcan hall
      obtain ⟨cf, c1, cs', hf, hv, hr, _⟩ := coerceKvs_cons_inv hc
      obtain ⟨sp, hfk, hrel', hsp, _⟩ := find_related fs specs h2 k cf hf
      simp only [canonicalKvs, hf, Bool.and_eq_true] at hcan
      obtain ⟨_, ⟨ft, hann⟩, htrig, _⟩ := fieldRel_parts hrel'
      obtain ⟨pv, hpv⟩ := accept v cf.type true sp.ann ft c1 hv hcan.1
        (by simpa [InputField.trigNullableListItem] using htrig) (by simp) hann
      obtain ⟨vals, hvals, hkeys⟩ := acceptKvs rest fs specs all' cs' h2 hn hr hcan.2 hall
      refine ⟨(sp.py, pv) :: vals, ?_, ?_⟩
      · simp only [rekeyKvs, hf]
        rw [step_resolves specs all' hn byName k sp hfk hall]
        simp only [hpv, hvals]
      · simp [hkeys, pyOf, hfk]
end

end

mutual
  theorem rekey_false : (v : J) → ∀ (T : TypeRef), rekey env S false T v = v
    | .null => by intro T; simp [rekey]
    | .bool b => by intro T; simp [rekey]
    | .num m e => by intro T; simp [rekey]
    | .str s => by intro T; simp [rekey]
    | .arr xs => by
      intro T
      simp only [rekey]
      cases h : CoerceInput.unNN T with
      | list it => simp only [rekeyList_false xs it]
      | named n => rfl
      | nonNull t => rfl
    | .obj kvs => by
      intro T
      simp only [rekey]
      cases h : S.find? T.base with
      | none => rfl
      | some ct =>
        cases ct with
        | scalar m => rfl
        | enum m vals => rfl
        | input n fs =>
          cases hc : env.class? n with
          | none => simp only [hc]
          | some c => simp only [hc, rekeyKvs_false kvs fs c.fields]
  theorem rekeyList_false : (xs : List J) → ∀ (t : TypeRef), rekeyList env S false t xs = xs
    | [] => by intro t; simp [rekeyList]
    | x :: xs => by intro t; simp only [rekeyList, rekey_false x t, rekeyList_false xs t]
  theorem rekeyKvs_false : (rest : List (String × J)) → ∀ (fs : List CField) (specs : List FieldSpec),
      rekeyKvs env S false fs specs rest = rest
    | [] => by intro fs specs; simp [rekeyKvs]
    | (k, v) :: rest => by
      intro fs specs
      simp only [rekeyKvs, rekeyKvs_false rest fs specs]
      cases h : fs.find? (fun f => f.name == k) with
      | none => rfl
      | some f => simp [newKey, rekey_false v f.type]
end

/-- an input object type of the schema: whatever coercion accepts, `Cls.model_validate` accepts —
    with the value as it is (GraphQL names) and re-keyed by Python names at every level -/
theorem construct_accepts (hrel : related kinds S env = true) (n : String) (fs : List CField)
    (hin : S.find? n = some (.input n fs)) (v c : J) (hnn : v ≠ .null)
    (hc : coerce S (.named n) v = .ok c) (hcan : canonical env kinds S (.named n) v = true) :
    (∃ m, construct env n v = .ok m) ∧ (∃ m, construct env n (rekey env S true (.named n) v) = .ok m) := by
  have hb := related_not_broken hrel
  obtain ⟨htr, _⟩ := related_type hrel n _ hin
  have hann : annOf kinds (.named n) false = some (.fwd n, n) := by
    rw [InputField.annOf_named]
    simp [namedAnn, (typeRel_input htr).1, wrapNullable]
  constructor
  · obtain ⟨pv, hpv⟩ := accept false hrel v (.named n) false (.fwd n) n c hc hcan (by simp [nullableItemUnderNonNull])
      (fun _ => hnn) hann
    rw [rekey_false] at hpv
    exact ⟨pv, by simp [construct, hb, hpv]⟩
  · obtain ⟨pv, hpv⟩ := accept true hrel v (.named n) false (.fwd n) n c hc hcan (by simp [nullableItemUnderNonNull])
      (fun _ => hnn) hann
    exact ⟨pv, by simp [construct, hb, hpv]⟩

end Ariadne.C06Accept
