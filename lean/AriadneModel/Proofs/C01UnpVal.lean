/-
  Property C01, "unpacked fragments" tier, part (2): what a conformant executor answers for the
  document WITH the spreads is an answer for the INLINED document (`respOK_inl`: CollectFields resolves a spread of a fragment
  on an interface the object implements by collecting the fragment's selections), so the plain tier's round-trip theorem for
  the classes of the inlined document applies.
-/
import AriadneModel.Proofs.C01UnpGen
import AriadneModel.Proofs.C01Plain


namespace Ariadne.C01Unp
open Ariadne Ariadne.Gql Ariadne.C01Plain Ariadne.C01Accepts

theorem possible_of_subType {S : Schema} {a tn : String} (ha : S.kindOf? a = some .interface) (ht : S.kindOf? tn = some .object)
    (h : S.isSubType a tn = true) : tn ∈ S.possibleTypes a := by
  unfold Schema.kindOf? at ha ht
  cases hga : S.get? a with
  | none => simp [hga] at ha
  | some t =>
    have hk : t.kind = .interface := by simpa [hga] using ha
    cases hgt : S.get? tn with
    | none => simp [hgt] at ht
    | some st =>
      have hks : st.kind = .object := by simpa [hgt] using ht
      simp only [Schema.isSubType, hga, hk, hgt, Bool.and_eq_true] at h
      simp only [Schema.possibleTypes, hga, hk]
      have hmem : st ∈ S.types := List.mem_of_find?_eq_some hgt
      have hname : st.name = tn := by simpa using List.find?_some hgt
      refine List.mem_map.mpr ⟨st, List.mem_filter.mpr ⟨hmem, ?_⟩, hname⟩
      have := h.2
      simp only [hks, beq_self_eq_true, this, Bool.and_self]

theorem uflatK_isField (env : ResultTypes.Env) : ∀ (k : Nat) (sel : List Selection), ∀ p ∈ uflatK env k sel, isField p.2 = true
  | 0, _, _, h => by simp [uflatK] at h
  | k + 1, sel, p, h => by
    rw [uflatK_succ] at h
    obtain ⟨s, _, hps⟩ := List.mem_flatMap.mp h
    cases s with
    | field a n d sid sub => simp only [List.mem_singleton] at hps; subst hps; rfl
    | inline on d sid ss => simp at hps
    | spread g d =>
      cases hf : findFragment? env.frags g with
      | none => simp [hf] at hps
      | some f =>
        simp only [hf] at hps
        exact uflatK_isField env k f.sel p hps

theorem entries_unp (env : ResultTypes.Env) (tn : String) : ∀ (k fuel : Nat) (sels : List Selection),
    k ≤ fuel → spreadsOK env k tn sels = true →
    entries env.schema env.frags fuel tn false sels = (uflatK env k sels).map (fun p => collOf p.2)
  | 0, _, _, _, h => by simp [spreadsOK] at h
  | k + 1, fuel, sels, hk, h => by
    obtain ⟨fuel', rfl⟩ : ∃ fuel', fuel = fuel' + 1 := ⟨fuel - 1, by omega⟩
    have hkind := spreadsOK_kind h
    rw [uflatK_succ, List.map_flatMap]
    refine Lists.flatMap_congr _ _ _ (fun x hx => ?_)
    cases x with
    | inline on d sid ss =>
      rw [spreadsOK_succ] at h
      simp only [Bool.and_eq_true, List.all_eq_true] at h
      have := h.2 _ hx
      simp at this
    | field alias name dirs sid sub => rfl
    | spread g d =>
      obtain ⟨hcond, f, hf, hki, hsub, _, hrec⟩ := spreadsOK_spread h (g := g) (d := d) hx
      have happ : Exec.applies env.schema (some f.on) tn = true := by
        have := possible_of_subType hki hkind hsub
        simp [Exec.applies, this]
      have hc0 : Exec.isConditional d = false := hcond
      simp only [hf, happ, if_true, hc0, Bool.or_false]
      exact entries_unp env tn k fuel' f.sel (by omega) hrec

theorem keyOf_inlNode (env : ResultTypes.Env) (p : Nat × Selection) : keyOf (inlNode env p) = keyOf p.2 := by
  obtain ⟨k, x⟩ := p
  cases x <;> rfl

theorem inl_keys (env : ResultTypes.Env) (k : Nat) (sel : List Selection) :
    (inl env k sel).map keyOf = (uflatK env k sel).map (fun p => keyOf p.2) := by
  rw [inl_eq, List.map_map]
  exact List.map_congr_left (fun p _ => keyOf_inlNode env p)

theorem inl_isField (env : ResultTypes.Env) (k : Nat) (sel : List Selection) : ∀ x ∈ inl env k sel, isField x = true := by
  intro x hx
  rw [inl_eq] at hx
  obtain ⟨p, hp, rfl⟩ := List.mem_map.mp hx
  have := uflatK_isField env k sel p hp
  obtain ⟨k', y⟩ := p
  cases y <;> simp [isField] at this
  rfl

theorem groupOK_transfer (S : Schema) (frags : List Fragment) (e : Nat) (rt : String) (kvs : List (String × J))
    (key name : String) (cond : Bool) (subs subs' : List Selection)
    (h : ∀ fd, S.fieldOf? rt name = some fd → ∀ v,
      Exec.complete (fun n v => if subs.isEmpty then Exec.leafOk S n v
        else (Exec.runtimeTypes S n).any fun rt' => Exec.respOK S frags e rt' subs v) fd.type true v = true →
      Exec.complete (fun n v => if subs'.isEmpty then Exec.leafOk S n v
        else (Exec.runtimeTypes S n).any fun rt' => Exec.respOK S frags e rt' subs' v) fd.type true v = true)
    (hg : groupOK S frags e rt kvs ⟨key, name, subs, cond⟩ = true) : groupOK S frags e rt kvs ⟨key, name, subs', cond⟩ = true := by
  unfold groupOK at hg ⊢
  simp only at hg ⊢
  cases hlk : J.lookup key kvs with
  | none => rw [hlk] at hg; exact hg
  | some v =>
    rw [hlk] at hg
    simp only [valueOK] at hg ⊢
    cases htn : (name == Tables.typenameFieldName) with
    | true => simp only [htn, if_true] at hg ⊢; exact hg
    | false =>
      simp only [htn, Bool.false_eq_true, if_false] at hg ⊢
      cases hfo : S.fieldOf? rt name with
      | none => rw [hfo] at hg; cases hg
      | some fd =>
        rw [hfo] at hg
        exact h fd hfo v hg

/-- **an answer for the document with the spreads is an answer for the inlined document** -/
theorem respOK_inl (env : ResultTypes.Env) (marks : List Nat) : ∀ (e k : Nat) (cn tn : String) (sel : List Selection) (j : J),
    k ≤ e → spreadsOK env k tn sel = true → setOK env (inl env k sel) = true →
    plainLocal env marks cn tn (inl env k sel) = true →
    Exec.respOK env.schema env.frags e tn sel j = true → Exec.respOK env.schema env.frags e tn (inl env k sel) j = true
  | 0, _, _, _, _, _, _, _, _, _, h => by simp [Exec.respOK] at h
  | e + 1, k, cn, tn, sel, j, hk, hsp, hset, hloc, hresp => by
    obtain ⟨kvs, rfl⟩ := respOK_isObj _ _ _ _ _ _ hresp
    have hkeys := (setOK_spec hset).1
    have hkeysU : ((uflatK env k sel).map (fun p => keyOf p.2)).Nodup := by rw [← inl_keys]; exact hkeys
    rw [respOK_groups, collect_fresh env.schema env.frags (e + 1) tn sel [] (uflatK env k sel) (fun p => collOf p.2) (fun p => keyOf p.2)
      (entries_unp env tn k (e + 1) sel hk hsp) (fun p hp => collOf_key (uflatK_isField env k sel p hp)) hkeysU
      (by intro _ _ c hc; cases hc)] at hresp
    rw [respOK_groups, collect_fields env.schema env.frags e tn (inl env k sel) [] (inl_isField env k sel) hkeys (by simp)]
    simp only [List.nil_append, Bool.and_eq_true] at hresp ⊢
    obtain ⟨hr1, hr2⟩ := hresp
    have hnodes := spreadsOK_nodes env k tn sel hsp
    have hlocs := (plainLocal_iff env marks cn tn (inl env k sel)).mp hloc
    rw [inl_eq, List.map_map]
    constructor
    · rw [List.all_eq_true] at hr1 ⊢
      intro p hp
      have := hr1 p hp
      rw [List.any_eq_true] at this ⊢
      obtain ⟨c, hc, he⟩ := this
      obtain ⟨q, hq, rfl⟩ := List.mem_map.mp hc
      refine ⟨_, List.mem_map.mpr ⟨q, hq, rfl⟩, ?_⟩
      have hqf := uflatK_isField env k sel q hq
      have h1 : (collOf (inlNode env q)).key = (collOf q.2).key := by
        obtain ⟨k', y⟩ := q
        cases y <;> simp [isField] at hqf
        rfl
      simp only [Function.comp]
      rw [h1]; exact he
    · rw [List.all_eq_true] at hr2 ⊢
      intro c hc
      obtain ⟨q, hq, rfl⟩ := List.mem_map.mp hc
      have hg := hr2 _ (List.mem_map.mpr ⟨q, hq, rfl⟩)
      obtain ⟨hqk, a, nm, d, sid, sub, hq2, hsub⟩ := hnodes q hq
      obtain ⟨k', y⟩ := q
      simp only at hq2 hqk hsub
      subst hq2
      have hlq := hlocs (inlNode env (k', .field a nm d sid sub)) (by rw [inl_eq]; exact List.mem_map.mpr ⟨_, hq, rfl⟩)
      show groupOK env.schema env.frags e tn kvs ⟨a.getD nm, nm, inl env k' sub, false || Exec.isConditional d⟩ = true
      refine groupOK_transfer env.schema env.frags e tn kvs (a.getD nm) nm (false || Exec.isConditional d) sub (inl env k' sub) ?_ hg
      intro fd hfo v
      have hbase : fd.type.base = subType env tn nm := by simp [subType, fieldT, hfo]
      rw [ResultLeaf.complete_eq, ResultLeaf.complete_eq]
      refine ResultLeaf.completeLax_mono id (fun v' hP => ?_) fd.type true v
      rcases hsub with hse | ⟨hine, hsp'⟩
      · have : inl env k' sub = [] := inl_of_empty env k' sub hse
        simp only [hse, if_true] at hP
        simp only [this, List.isEmpty_nil, if_true]
        exact hP
      · have hsne : sub.isEmpty = false := by
          cases hs : sub.isEmpty with
          | false => rfl
          | true => rw [inl_of_empty env k' sub hs] at hine; cases hine
        simp only [hsne, Bool.false_eq_true, if_false] at hP
        simp only [hine, Bool.false_eq_true, if_false]
        -- the sub-selection: object-typed, plain after inlining
        obtain ⟨hkindS, _, hsetS, hlocS⟩ := (plainLocal1_field (show plainLocal1 env marks cn tn (.field a nm d sid (inl env k' sub)) = true from hlq)).2.2.2.2 hine
        rw [List.any_eq_true] at hP ⊢
        obtain ⟨rt', hrt', hP'⟩ := hP
        refine ⟨rt', hrt', ?_⟩
        rw [hbase] at hrt'
        rw [runtimeTypes_object hkindS, List.mem_singleton] at hrt'
        subst hrt'
        exact respOK_inl env marks e k' (subClass env cn a nm) (subType env tn nm) sub v' (by omega) hsp' hsetS hlocS hP'

end Ariadne.C01Unp
