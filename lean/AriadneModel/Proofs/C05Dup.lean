/-
  Property C05: a class body that declares one python name several times (the same response key
  reached directly and through an unpacked fragment / an inline fragment: `{ id ...F }` with `id` in `F`).
  Python keeps ONE field per name (`Spec/Pyd.mergeDup`).  If all declarations of a name are identical, that field is
  this declaration — so the per-class theorems of Properties/C05.lean also cover such classes.
  Rests on the characterisation of `mergeDup` in Proofs/C01Fold.lean.
-/
import AriadneModel.Proofs.C01Fold


namespace Ariadne.C05Decl
open Ariadne Ariadne.ResultTypes Ariadne.Pyd

theorem merge_self (d : FieldDecl) :
    (if hasValue d then { d with py := d.py } else { d with ann := d.ann }) = d := by
  split <;> rfl

def Ident (d : FieldDecl) (l : List FieldDecl) : Prop := ∀ m ∈ l, m.py = d.py → m = d

theorem mergeD_ident (d : FieldDecl) : ∀ l : List FieldDecl, (∀ g ∈ l, g = d) → C01Fold.mergeD d l = d
  | [], _ => rfl
  | g :: rest, h => by
    obtain rfl := h g List.mem_cons_self
    show C01Fold.mergeD (if hasValue g then { g with py := g.py } else { g with ann := g.ann }) rest = g
    rw [merge_self]
    exact mergeD_ident g rest fun x hx => h x (List.mem_cons_of_mem _ hx)

/-- **a declaration all of whose namesakes in the class body are identical to it is a field of the model**: the field of
    its name is the first declaration of the name merged with the later ones (`C01Fold.mergeDup_spec`), all of them it -/
theorem mem_mergeDup_of_ident (d : FieldDecl) (fs : List FieldDecl) (hd : d ∈ fs) (hid : Ident d fs) : d ∈ mergeDup fs := by
  obtain ⟨_, h2, h3⟩ := C01Fold.mergeDup_spec fs
  obtain ⟨d', hd', hpy⟩ := h3 d hd
  obtain ⟨c, rest, hf, rfl⟩ := h2 d' hd'
  have hall : ∀ g ∈ c :: rest, g = d := fun g hg => by
    have hg' := List.mem_filter.mp (hf ▸ hg)
    exact hid g hg'.1 (by simpa [hpy] using hg'.2)
  rw [hall c List.mem_cons_self, mergeD_ident d rest fun g hg => hall g (List.mem_cons_of_mem _ hg)] at hd'
  exact hd'

/-- own declarations override inherited ones -/
theorem own_mem_allFields_ident (penv : Pyd.Env) (k : Nat) (c : ClassDecl) (hc : penv.class? c.name = some c)
    (d : FieldDecl) (hd : d ∈ c.fields) (hid : Ident d c.fields) : d ∈ allFields penv (k + 1) c.name := by
  unfold allFields
  simp only [hc]
  exact List.mem_append_right _ (mem_mergeDup_of_ident d c.fields hd hid)

theorem ident_of_nodup (fs : List FieldDecl) (hnd : (fs.map (·.py)).Nodup) (d : FieldDecl) (hd : d ∈ fs) : Ident d fs :=
  fun _ hm hpy => Lists.eq_of_nodup_map hnd hm hd hpy

theorem own_mem_allFields (penv : Pyd.Env) (k : Nat) (c : ClassDecl) (hc : penv.class? c.name = some c)
    (hnd : (c.fields.map (·.py)).Nodup) (d : FieldDecl) (hd : d ∈ c.fields) : d ∈ Pyd.allFields penv (k + 1) c.name :=
  own_mem_allFields_ident penv k c hc d hd (ident_of_nodup c.fields hnd d hd)

end Ariadne.C05Decl
