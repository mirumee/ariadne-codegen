/-
  Proofs/C08Monad.lean — reasoning about the generator monad `M = StateT St (Except GenErr)` of
  Model/ResultTypes.lean: what a successful run of `pure / bind / get / modify / err / liftExcept / for … in`
  looks like.  Every proof about `resolve`, `mixinBases`, `parseTypeDefinition` (C01, C02, C04, C05, C08) starts from these.
  Core Lean only.
-/
import AriadneModel.Model.ResultTypes


namespace Ariadne.ResultTypes

variable {α β : Type}

theorem ok_pure (a b : α) (s s' : St) : (pure a : M α) s = .ok (b, s') ↔ a = b ∧ s = s' := by
  show (Except.ok (a, s) : Except GenErr (α × St)) = .ok (b, s') ↔ _
  constructor
  · intro h; injection h with h; injection h with h1 h2; exact ⟨h1, h2⟩
  · rintro ⟨rfl, rfl⟩; rfl

theorem ok_bind (x : M α) (g : α → M β) (s s'' : St) (b : β) :
    (x >>= g) s = .ok (b, s'') ↔ ∃ a s', x s = .ok (a, s') ∧ g a s' = .ok (b, s'') := by
  show (StateT.bind x g) s = _ ↔ _
  unfold StateT.bind
  cases hx : x s with
  | error e => simp [bind, Except.bind]
  | ok p =>
    obtain ⟨a, s'⟩ := p
    simp only [bind, Except.bind, Except.ok.injEq, Prod.mk.injEq]
    constructor
    · intro h; exact ⟨a, s', ⟨rfl, rfl⟩, h⟩
    · rintro ⟨a1, s1, ⟨rfl, rfl⟩, h⟩; exact h

theorem ok_get (a s s' : St) : (get : M St) s = .ok (a, s') ↔ a = s ∧ s' = s := by
  show (Except.ok (s, s) : Except GenErr (St × St)) = .ok (a, s') ↔ _
  constructor
  · intro h; injection h with h; injection h with h1 h2; exact ⟨h1.symm, h2.symm⟩
  · rintro ⟨rfl, rfl⟩; rfl

theorem ok_modify (f : St → St) (u : PUnit) (s s' : St) : (modify f : M PUnit) s = .ok (u, s') ↔ s' = f s := by
  show (Except.ok (PUnit.unit, f s) : Except GenErr (PUnit × St)) = .ok (u, s') ↔ _
  constructor
  · intro h; injection h with h; injection h with h1 h2; exact h2.symm
  · rintro rfl; rfl

theorem ok_err (e : GenErr) (s : St) (p : α × St) : (err e : M α) s = .ok p ↔ False := by
  show (Except.error e : Except GenErr (α × St)) = .ok p ↔ False
  constructor
  · intro h; cases h
  · intro h; exact h.elim

theorem ok_liftExcept (e : Except GenErr α) (a : α) (s s' : St) : liftExcept e s = .ok (a, s') ↔ e = .ok a ∧ s' = s := by
  cases e with
  | error x =>
    show (Except.error x : Except GenErr (α × St)) = .ok (a, s') ↔ _
    constructor
    · intro h; cases h
    · rintro ⟨h, _⟩; cases h
  | ok v =>
    show (Except.ok (v, s) : Except GenErr (α × St)) = .ok (a, s') ↔ _
    constructor
    · intro h; injection h with h; injection h with h1 h2; exact ⟨by rw [h1], h2.symm⟩
    · rintro ⟨h, rfl⟩; injection h with h; rw [h]

theorem forIn_ok_inv {γ : Type} (P : β → St → Prop) (f : γ → β → M (ForInStep β)) :
    ∀ (l : List γ) (b : β) (s : St) (b' : β) (s' : St),
      (∀ a ∈ l, ∀ b s r s', P b s → f a b s = .ok (r, s') → P r.value s') →
      P b s → forIn l b f s = .ok (b', s') → P b' s'
  | [], b, s, b', s', _, hP, h => by
    rw [List.forIn_nil] at h
    obtain ⟨rfl, rfl⟩ := (ok_pure _ _ _ _).mp h
    exact hP
  | a :: l, b, s, b', s', hstep, hP, h => by
    rw [List.forIn_cons] at h
    obtain ⟨r, s1, h1, h2⟩ := (ok_bind _ _ _ _ _).mp h
    have hP1 := hstep a (List.mem_cons_self) b s r s1 hP h1
    cases r with
    | done b1 =>
      obtain ⟨rfl, rfl⟩ := (ok_pure _ _ _ _).mp h2
      exact hP1
    | yield b1 =>
      exact forIn_ok_inv P f l b1 s1 b' s' (fun a ha => hstep a (List.mem_cons_of_mem _ ha)) hP1 h2

theorem forIn_ok_established {γ : Type} (Q : β → Prop) (f : γ → β → M (ForInStep β)) (a₀ : γ) :
    ∀ (l : List γ) (b : β) (s : St) (b' : β) (s' : St),
      a₀ ∈ l →
      (∀ a ∈ l, ∀ b s r s', f a b s = .ok (r, s') → ∃ b1, r = .yield b1 ∧ (Q b → Q b1)) →
      (∀ b s r s', f a₀ b s = .ok (r, s') → Q r.value) →
      forIn l b f s = .ok (b', s') → Q b'
  | [], _, _, _, _, hmem, _, _, _ => by cases hmem
  | a :: l, b, s, b', s', hmem, hstep, hest, h => by
    rw [List.forIn_cons] at h
    obtain ⟨r, s1, h1, h2⟩ := (ok_bind _ _ _ _ _).mp h
    obtain ⟨b1, rfl, hkeep⟩ := hstep a List.mem_cons_self b s r s1 h1
    have hrest : ∀ a' ∈ l, ∀ b s r s', f a' b s = .ok (r, s') → ∃ b1, r = .yield b1 ∧ (Q b → Q b1) :=
      fun a' ha' => hstep a' (List.mem_cons_of_mem _ ha')
    rcases List.mem_cons.mp hmem with rfl | hmem'
    · -- established here, kept afterwards
      have hQ : Q b1 := hest b s _ s1 h1
      have := forIn_ok_inv (fun b _ => Q b) f l b1 s1 b' s'
        (fun a' ha' b s r s' hb hr => by
          obtain ⟨b2, rfl, hk⟩ := hrest a' ha' b s r s' hr
          exact hk hb) hQ h2
      exact this
    · exact forIn_ok_established Q f a₀ l b1 s1 b' s' hmem' hrest hest h2

theorem forIn_ok_append {γ δ : Type} (π : β → List δ) (g : γ → List δ) (f : γ → β → M (ForInStep β)) :
    ∀ (l : List γ) (b : β) (s : St) (b' : β) (s' : St),
      (∀ a ∈ l, ∀ b s r s', f a b s = .ok (r, s') → ∃ b1, r = .yield b1 ∧ π b1 = π b ++ g a) →
      forIn l b f s = .ok (b', s') → π b' = π b ++ l.flatMap g
  | [], b, s, b', s', _, h => by
    rw [List.forIn_nil] at h
    obtain ⟨rfl, _⟩ := (ok_pure _ _ _ _).mp h
    simp
  | a :: l, b, s, b', s', hstep, h => by
    rw [List.forIn_cons] at h
    obtain ⟨r, s1, h1, h2⟩ := (ok_bind _ _ _ _ _).mp h
    obtain ⟨b1, rfl, hb1⟩ := hstep a List.mem_cons_self b s r s1 h1
    rw [forIn_ok_append π g f l b1 s1 b' s' (fun a ha => hstep a (List.mem_cons_of_mem _ ha)) h2, hb1,
      List.flatMap_cons, List.append_assoc]

/-! ### running forwards: the result of a computation from the results of its parts -/

theorem run_bind {x : M α} {g : α → M β} {s s' : St} {a : α} {r : Except GenErr (β × St)}
    (h1 : x s = .ok (a, s')) (h2 : g a s' = r) : (x >>= g) s = r := by
  show (StateT.bind x g) s = r
  unfold StateT.bind
  simp only [h1, bind, Except.bind]
  exact h2

theorem run_pure {α : Type} (a : α) (s : St) : (pure a : M α) s = .ok (a, s) := rfl
theorem run_get (s : St) : (get : M St) s = .ok (s, s) := rfl
theorem run_modify (f : St → St) (s : St) : (modify f : M PUnit) s = .ok (PUnit.unit, f s) := rfl

/-- a `for` loop over `l` in which the step for `x` appends the fresh names `names x` to `publicNames`; `R` is what the caller
    knows about how a step changes the rest of the state, `Q x` what the step for `x` leaves behind for good -/
theorem forIn_fresh (body : α → β → M (ForInStep β)) (upd : α → β → β) (names : α → List String)
    (R : St → St → Prop) (hrefl : ∀ s, R s s) (htrans : ∀ a b c, R a b → R b c → R a c)
    (Q : α → St → Prop) (hQ : ∀ x s s', R s s' → Q x s → Q x s') :
    ∀ (l : List α) (acc : β) (s : St),
      (∀ x ∈ l, ∀ (acc : β) (s1 : St), R s s1 → (names x).Nodup → (∀ n ∈ names x, n ∉ s1.publicNames) →
        ∃ s', body x acc s1 = .ok (.yield (upd x acc), s') ∧ s'.publicNames = s1.publicNames ++ names x ∧
          R s1 s' ∧ Q x s') →
      (l.flatMap names).Nodup → (∀ n ∈ l.flatMap names, n ∉ s.publicNames) →
      ∃ s', forIn l acc body s = .ok (l.foldl (fun b x => upd x b) acc, s') ∧
        s'.publicNames = s.publicNames ++ l.flatMap names ∧ R s s' ∧ ∀ x ∈ l, Q x s' := by
  intro l
  induction l with
  | nil =>
    intro acc s _ _ _
    exact ⟨s, rfl, (List.append_nil _).symm, hrefl s, fun x hx => by cases hx⟩
  | cons x rest ih =>
    intro acc s hstep hnd hfresh
    simp only [List.flatMap_cons] at hnd hfresh
    obtain ⟨hnd1, hnd2, hdisj⟩ := List.nodup_append.mp hnd
    obtain ⟨s1, hrun, hpn1, hR1, hQ1⟩ := hstep x List.mem_cons_self acc s (hrefl s) hnd1
      (fun n hn => hfresh n (List.mem_append_left _ hn))
    obtain ⟨s2, hrest, hpn2, hR2, hQ2⟩ := ih (upd x acc) s1
      (fun y hy acc' s' hR => hstep y (List.mem_cons_of_mem _ hy) acc' s' (htrans _ _ _ hR1 hR)) hnd2
      (fun n hn => by
        rw [hpn1]
        intro hmem
        rcases List.mem_append.mp hmem with h | h
        · exact hfresh n (List.mem_append_right _ hn) h
        · exact hdisj _ h _ hn rfl)
    refine ⟨s2, ?_, ?_, htrans _ _ _ hR1 hR2, ?_⟩
    · rw [List.forIn_cons]
      refine run_bind hrun ?_
      exact hrest
    · rw [hpn2, hpn1, List.flatMap_cons, List.append_assoc]
    · intro y hy
      rcases List.mem_cons.mp hy with rfl | hy
      · exact hQ _ _ _ hR2 hQ1
      · exact hQ2 y hy

end Ariadne.ResultTypes
