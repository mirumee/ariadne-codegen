/-
  C15: relations between class bodies (`ItemsRel`, `mapMethodsM`) and the client module as `ClientGenerator.generate`
  assembles it (`NoClass`, `HasImp`, `firstClass_of_body`, `mapFirstClassM_pre`).
-/
import AriadneModel.Proofs.C15


namespace Ariadne.C15
open Ariadne.Py Ariadne.Plugins
open Ariadne.Lists (bind_eq_ok)

inductive ItemsRel (R : Method → Method → Prop) : List ClassItem → List ClassItem → Prop where
  | nil : ItemsRel R [] []
  | method {m m' : Method} {rest rest' : List ClassItem} :
      R m m' → ItemsRel R rest rest' → ItemsRel R (.method m :: rest) (.method m' :: rest')
  | other {s : Simple} {rest rest' : List ClassItem} :
      ItemsRel R rest rest' → ItemsRel R (.stmt s :: rest) (.stmt s :: rest')

theorem ItemsRel.refl {R : Method → Method → Prop} (hR : ∀ m, R m m) : ∀ items, ItemsRel R items items
  | [] => .nil
  | .method m :: rest => .method (hR m) (ItemsRel.refl hR rest)
  | .stmt _ :: rest => .other (ItemsRel.refl hR rest)

theorem ItemsRel.trans {R : Method → Method → Prop} (hR : ∀ a b c, R a b → R b c → R a c) :
    ∀ {x y z : List ClassItem}, ItemsRel R x y → ItemsRel R y z → ItemsRel R x z := by
  intro x y z h1
  induction h1 generalizing z with
  | nil => intro h2; cases h2; exact .nil
  | method hm _ ih => intro h2; cases h2 with | method hm' hr => exact .method (hR _ _ _ hm hm') (ih hr)
  | other _ ih => intro h2; cases h2 with | other hr => exact .other (ih hr)

theorem mapMethodsM_nil_ok {σ : Type} {f : σ → Method → M (σ × Method)} {st st' : σ} {items' : List ClassItem}
    (h : mapMethodsM f st [] = .ok (st', items')) : st' = st ∧ items' = [] := by
  cases h; exact ⟨rfl, rfl⟩

theorem mapMethodsM_method_ok {σ : Type} {f : σ → Method → M (σ × Method)} {st st' : σ} {m : Method}
    {rest items' : List ClassItem} (h : mapMethodsM f st (.method m :: rest) = .ok (st', items')) :
    ∃ st1 m' rest', f st m = .ok (st1, m') ∧ mapMethodsM f st1 rest = .ok (st', rest') ∧ items' = .method m' :: rest' := by
  simp only [mapMethodsM] at h
  obtain ⟨r, hf, h⟩ := bind_eq_ok.mp h
  obtain ⟨r2, hr, h⟩ := bind_eq_ok.mp h
  cases h
  exact ⟨r.1, r.2, r2.2, hf, hr, rfl⟩

theorem mapMethodsM_stmt_ok {σ : Type} {f : σ → Method → M (σ × Method)} {st st' : σ} {sm : Simple}
    {rest items' : List ClassItem} (h : mapMethodsM f st (.stmt sm :: rest) = .ok (st', items')) :
    ∃ rest', mapMethodsM f st rest = .ok (st', rest') ∧ items' = .stmt sm :: rest' := by
  simp only [mapMethodsM] at h
  obtain ⟨r2, hr, h⟩ := bind_eq_ok.mp h
  cases h
  exact ⟨r2.2, hr, rfl⟩

theorem mapMethodsM_rel {σ : Type} (f : σ → Method → M (σ × Method)) (R : Method → Method → Prop)
    (hf : ∀ st st' m m', f st m = .ok (st', m') → R m m') :
    ∀ (items : List ClassItem) (st st' : σ) (items' : List ClassItem),
      mapMethodsM f st items = .ok (st', items') → ItemsRel R items items' := by
  intro items
  induction items with
  | nil => intro st st' items' h; rw [(mapMethodsM_nil_ok h).2]; exact .nil
  | cons it rest ih =>
    intro st st' items' h
    cases it with
    | method m =>
      obtain ⟨st1, m', rest', hfm, hrest, rfl⟩ := mapMethodsM_method_ok h
      exact .method (hf st st1 m m' hfm) (ih st1 st' rest' hrest)
    | stmt sm =>
      obtain ⟨rest', hrest, rfl⟩ := mapMethodsM_stmt_ok h
      exact .other (ih st st' rest' hrest)

def isImp : Top → Bool
  | .simple (.importFrom _) => true
  | .simple (.import_ _) => true
  | _ => false

def NoClass (pre : List Top) : Prop := ∀ t ∈ pre, t.classDef? = none
def HasImp (pre : List Top) : Prop := ∃ t ∈ pre, isImp t = true

theorem firstClass_of_body (M : Module) (pre : List Top) (g : Method) (c : ClassDef)
    (hb : M.body = pre ++ [.funcDef g, .classDef c]) (hn : NoClass pre) : M.firstClass? = some c := by
  unfold Module.firstClass?
  rw [hb, List.findSome?_append, List.findSome?_eq_none_iff.mpr hn]
  rfl

theorem mapFirstClassM_pre {σ : Type} (f : σ → ClassDef → M (σ × ClassDef)) (g : Method) (c : ClassDef) :
    ∀ (pre : List Top) (st : σ), NoClass pre →
      mapFirstClassM f st (pre ++ [.funcDef g, .classDef c]) =
        (f st c >>= fun r => pure (r.1, pre ++ [.funcDef g, .classDef r.2])) := by
  intro pre
  induction pre with
  | nil =>
    intro st _
    simp only [List.nil_append, mapFirstClassM]
    cases f st c with
    | error e => rfl
    | ok r => rfl
  | cons t rest ih =>
    intro st h
    obtain ⟨h1, h2⟩ := List.forall_mem_cons.mp h
    cases t with
    | classDef cd => simp [Top.classDef?] at h1
    | simple sm =>
      simp only [List.cons_append, mapFirstClassM, ih st h2]
      cases f st c with
      | error e => rfl
      | ok r => rfl
    | funcDef fm =>
      simp only [List.cons_append, mapFirstClassM, ih st h2]
      cases f st c with
      | error e => rfl
      | ok r => rfl
    | ifStmt a b o =>
      simp only [List.cons_append, mapFirstClassM, ih st h2]
      cases f st c with
      | error e => rfl
      | ok r => rfl

theorem isImp_noClass {t : Top} (h : isImp t = true) : t.classDef? = none := by
  cases t with
  | simple sm => rfl
  | classDef _ => simp [isImp] at h
  | funcDef _ => rfl
  | ifStmt _ _ _ => rfl

theorem ItemsRel.mono {R R' : Method → Method → Prop} (h : ∀ m m', R m m' → R' m m') :
    ∀ {x y : List ClassItem}, ItemsRel R x y → ItemsRel R' x y := by
  intro x y hr
  induction hr with
  | nil => exact .nil
  | method hm _ ih => exact .method (h _ _ hm) ih
  | other _ ih => exact .other ih

end Ariadne.C15
