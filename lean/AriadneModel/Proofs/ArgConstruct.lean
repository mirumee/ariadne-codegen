/-
  Lemmas of C03 about constructing input-model instances (Model/ArgConstruct.lean over
  Spec/PydInit.lean): which instances `Cls(**kw)` of a generated input class can return, for either
  schema source, and where in a schema-valid caller value that matters.
-/
import AriadneModel.Model.ArgConstruct
import AriadneModel.Proofs.ArgValues


namespace Ariadne.ArgProofs
open Ariadne.Scalars Ariadne.Coerce Ariadne.ArgValues Ariadne.PydInit Ariadne.ArgConstruct
open Ariadne.InputFields (fieldDecl parseType)

theorem findKw_cons_ne (k k' : String) (v : AV) (kw : List (String × AV)) (h : k' ≠ k) :
    findKw k ((k', v) :: kw) = findKw k kw := by
  simp [findKw, h]

theorem findKw_cons_eq (k : String) (v : AV) (kw : List (String × AV)) :
    findKw k ((k, v) :: kw) = some v := by
  simp [findKw]

theorem _root_.Ariadne.PydInit.findKw_eq (k : String) (kw : List (String × AV)) : findKw k kw = kw.lookup k :=
  Lists.eq_lookup_of_eqns findKw (fun _ => rfl) (fun _ _ _ _ => by simp [findKw]) k kw

theorem findKw_none (k : String) (kw : List (String × AV)) (h : k ∉ kw.map (·.1)) : findKw k kw = none := by
  rw [findKw_eq]; exact Lists.lookup_none_iff.mpr h

theorem lookupField_skip (c : InitField) (k0 : String) (v : AV) (kw : List (String × AV))
    (h : k0 ∉ c.lookupNames) : lookupField c ((k0, v) :: kw) = lookupField c kw := by
  simp only [InitField.lookupNames, List.mem_cons, not_or] at h
  cases ha : c.alias with
  | none => simp only [lookupField, ha]; exact findKw_cons_ne _ _ _ _ h.1
  | some a =>
    have hne : k0 ≠ a := by
      intro e; apply h.2; simp [ha, e]
    simp only [lookupField, ha, findKw_cons_ne a k0 v kw hne, findKw_cons_ne c.py k0 v kw h.1]

theorem initFields_skip (cs : List InitField) (k0 : String) (v : AV) (kw : List (String × AV))
    (h : k0 ∉ lookupNamesOf cs) : initFields cs ((k0, v) :: kw) = initFields cs kw := by
  induction cs with
  | nil => rfl
  | cons c cs ih =>
    simp only [lookupNamesOf, List.flatMap_cons, List.mem_append, not_or] at h
    have h2 : k0 ∉ lookupNamesOf cs := by simpa [lookupNamesOf] using h.2
    simp only [initFields, lookupField_skip c k0 v kw h.1, ih h2]

theorem pickName_mem (b : Bool) (c : InitField) : pickName b c ∈ c.lookupNames := by
  cases b
  · simp only [pickName, Bool.false_eq_true, if_false, InitField.key, InitField.lookupNames]
    cases c.alias <;> simp
  · simp [pickName, InitField.lookupNames]

theorem kwFor_keys (bs : List Bool) (cs : List InitField) (inst : List (FieldKey × AV)) :
    ∀ k ∈ (kwFor bs cs inst).map (·.1), k ∈ lookupNamesOf cs := by
  induction cs generalizing bs inst with
  | nil => intro k h; simp [kwFor] at h
  | cons c cs ih =>
    cases inst with
    | nil => intro k h; simp [kwFor] at h
    | cons p rest =>
      obtain ⟨fk, v⟩ := p
      intro k h
      simp only [lookupNamesOf, List.flatMap_cons, List.mem_append]
      by_cases hu : v.isUnset = true
      · simp only [kwFor, hu, if_true] at h
        exact Or.inr (by simpa [lookupNamesOf] using ih bs.tail rest k h)
      · simp only [kwFor, hu, Bool.false_eq_true, if_false, List.map_cons, List.mem_cons] at h
        rcases h with h | h
        · left
          subst h
          exact pickName_mem _ c
        · exact Or.inr (by simpa [lookupNamesOf] using ih bs.tail rest k h)

theorem lookupField_foreign (c : InitField) (kw : List (String × AV))
    (h : ∀ k ∈ kw.map (·.1), k ∉ c.lookupNames) : lookupField c kw = none := by
  induction kw with
  | nil => simp [lookupField, findKw]; cases c.alias <;> rfl
  | cons p rest ih =>
    obtain ⟨k0, v⟩ := p
    rw [lookupField_skip c k0 v rest (h k0 (by simp))]
    exact ih (fun k hk => h k (by simp only [List.map_cons, List.mem_cons]; exact Or.inr hk))

theorem isUnset_eq (v : AV) (h : v.isUnset = true) : v = .unset := by
  cases v <;> simp [AV.isUnset] at h ⊢

/-- `__init__` on the keywords of an instance builds that instance: the keywords of the later fields are foreign to the
    head field (lookup names are distinct), so its lookup finds its own keyword or, where that is left out, nothing -/
theorem init_builds_fields (bs : List Bool) (cs : List InitField) (inst : List (FieldKey × AV))
    (hnd : (lookupNamesOf cs).Nodup) (hf : fitsClass cs inst = true) :
    (initFields cs (kwFor bs cs inst)).fields = inst ∧ (initFields cs (kwFor bs cs inst)).missing = [] ∧
      (initFields cs (kwFor bs cs inst)).invalid = [] := by
  induction cs generalizing bs inst with
  | nil => cases inst <;> simp [fitsClass] at hf; simp [initFields]
  | cons c cs ih =>
    cases inst with
    | nil => simp [fitsClass] at hf
    | cons p rest =>
      obtain ⟨fk, v⟩ := p
      simp only [fitsClass, Bool.and_eq_true, beq_iff_eq] at hf
      obtain ⟨⟨hk, hc⟩, hrest⟩ := hf
      simp only [lookupNamesOf, List.flatMap_cons] at hnd
      rw [List.nodup_append] at hnd
      obtain ⟨hn1, hn2, hdis⟩ := hnd
      have hn2' : (lookupNamesOf cs).Nodup := by simpa [lookupNamesOf] using hn2
      have hdis' : ∀ k ∈ lookupNamesOf cs, k ∉ c.lookupNames := by
        intro k hk1 hk2
        exact hdis k hk2 k (by simpa [lookupNamesOf] using hk1) rfl
      by_cases hu : v.isUnset = true
      · have hv := isUnset_eq v hu
        subst hv
        simp only [AV.isUnset, if_true, Bool.not_eq_true'] at hc
        have hlook : lookupField c (kwFor bs.tail cs rest) = none :=
          lookupField_foreign c _ (fun k hk => hdis' k (kwFor_keys bs.tail cs rest k hk))
        obtain ⟨i1, i2, i3⟩ := ih bs.tail rest hn2' hrest
        simp only [kwFor, AV.isUnset, if_true, initFields, hlook, hc, Bool.false_eq_true, if_false]
        exact ⟨by rw [i1, hk], i2, i3⟩
      · have hu' : v.isUnset = false := by simpa using hu
        simp only [hu', Bool.false_eq_true, if_false] at hc
        have hskip : pickName (bs.headD false) c ∉ lookupNamesOf cs :=
          fun hm => hdis' _ hm (pickName_mem _ c)
        have hlook : lookupField c ((pickName (bs.headD false) c, v) :: kwFor bs.tail cs rest) = some v := by
          generalize bs.headD false = b
          cases ha : c.alias with
          | none =>
            simp only [lookupField, ha, pickName, InitField.key, Option.getD_none, ite_self]
            exact findKw_cons_eq _ _ _
          | some a =>
            have hpa : c.py ≠ a := by
              intro e
              simp only [InitField.lookupNames, ha, Option.toList_some, List.nodup_cons, List.mem_singleton] at hn1
              exact hn1.1 e
            have hnone : findKw a (kwFor bs.tail cs rest) = none := by
              apply findKw_none
              intro hm
              exact hdis' a (kwFor_keys bs.tail cs rest a hm) (by simp [InitField.lookupNames, ha])
            cases b
            · simp only [lookupField, ha, pickName, Bool.false_eq_true, if_false, InitField.key, Option.getD_some, findKw_cons_eq]
            · simp only [lookupField, ha, pickName, if_true, findKw_cons_ne a c.py v _ hpa, hnone, findKw_cons_eq]
        obtain ⟨i1, i2, i3⟩ := ih bs.tail rest hn2' hrest
        simp only [kwFor, hu', Bool.false_eq_true, if_false, initFields, hlook, hc, if_true,
          initFields_skip cs _ v _ hskip]
        exact ⟨by rw [i1, hk], i2, i3⟩

theorem init_ok_fits (cs : List InitField) (kw : List (String × AV))
    (hm : (initFields cs kw).missing = []) (hi : (initFields cs kw).invalid = []) :
    fitsClass cs (initFields cs kw).fields = true := by
  induction cs with
  | nil => simp [initFields, fitsClass]
  | cons c cs ih =>
    cases hl : lookupField c kw with
    | some v =>
      by_cases ha : accepts c v = true
      · simp only [initFields, hl, ha, if_true] at hm hi ⊢
        have hu : v.isUnset = false := by
          simp only [accepts, Bool.and_eq_true, Bool.not_eq_true'] at ha; exact ha.1
        simp [fitsClass, hu, ha, ih hm hi]
      · simp only [initFields, hl, ha, Bool.false_eq_true, if_false] at hi
        simp at hi
    | none =>
      by_cases hr : c.required = true
      · simp only [initFields, hl, hr, if_true] at hm
        simp at hm
      · simp only [initFields, hl, hr, Bool.false_eq_true, if_false] at hm hi ⊢
        simp [fitsClass, AV.isUnset, hr, ih hm hi]

theorem initModel_ok_iff (cs : List InitField) (kw : List (String × AV)) (inst : List (FieldKey × AV)) :
    initModel cs kw = .ok inst ↔
      (initFields cs kw).fields = inst ∧ (initFields cs kw).missing = [] ∧ (initFields cs kw).invalid = [] := by
  simp only [initModel]
  cases hm : (initFields cs kw).missing <;> cases hi : (initFields cs kw).invalid <;> simp

theorem missing_of_required (cs : List InitField) (kw : List (String × AV)) (c : InitField) (hc : c ∈ cs)
    (hr : c.required = true) (hl : lookupField c kw = none) : c.key ∈ (initFields cs kw).missing := by
  induction cs with
  | nil => simp at hc
  | cons c' cs ih =>
    simp only [List.mem_cons] at hc
    rcases hc with hc | hc
    · subst hc; simp [initFields, hl, hr]
    · have := ih hc
      simp only [initFields]
      cases lookupField c' kw with
      | some v => by_cases ha : accepts c' v = true <;> simp [ha, this]
      | none => by_cases hr' : c'.required = true <;> simp [hr', this]

theorem init_required_left_out (cs : List InitField) (kw : List (String × AV)) (c : InitField) (hc : c ∈ cs)
    (hr : c.required = true) (hl : lookupField c kw = none) :
    ∃ e, initModel cs kw = .error e ∧ c.key ∈ e.missing := by
  have hm := missing_of_required cs kw c hc hr hl
  refine ⟨⟨(initFields cs kw).missing, (initFields cs kw).invalid⟩, ?_, hm⟩
  simp only [initModel]
  cases hmm : (initFields cs kw).missing with
  | nil => rw [hmm] at hm; simp at hm
  | cons x xs => simp

theorem init_missing_required (c : InitField) (cs : List InitField) (kw : List (String × AV))
    (hr : c.required = true) (hl : lookupField c kw = none) : ∃ e, initModel (c :: cs) kw = .error e ∧ c.key ∈ e.missing :=
  init_required_left_out (c :: cs) kw c List.mem_cons_self hr hl

theorem init_iff_fits (cs : List InitField) (inst : List (FieldKey × AV)) (hnd : (lookupNamesOf cs).Nodup) :
    (∃ kw, initModel cs kw = .ok inst) ↔ fitsClass cs inst = true := by
  constructor
  · rintro ⟨kw, h⟩
    obtain ⟨h1, h2, h3⟩ := (initModel_ok_iff cs kw inst).mp h
    rw [← h1]; exact init_ok_fits cs kw h2 h3
  · intro hf
    exact ⟨kwFor [] cs inst, (initModel_ok_iff cs _ inst).mpr (init_builds_fields [] cs inst hnd hf)⟩

theorem parseType_opt (sc : ScalarCfg) (kind : String → InputFields.TKind) (t : GT) :
    (parseType sc kind true t).opt = !t.nonNull := by
  cases t with
  | named n nn => cases nn <;> simp [parseType, NAnn.opt, GT.nonNull]
  | list it nn => cases nn <;> simp [parseType, NAnn.opt, GT.nonNull]

theorem classField_required (src : Source) (cfg : Cfg) (f : IField) :
    (classField src cfg f).required =
      (match src with
       | .sdl => f.default.isNone && f.type.nonNull
       | .intro => f.type.nonNull) := by
  cases src with
  | intro =>
    simp only [classField, classDefault, fieldDecl, parseType_opt]
    cases f.type.nonNull <;> simp
  | sdl =>
    simp only [classField, classDefault, fieldDecl, parseType_opt]
    cases hd : f.default with
    | none => cases f.type.nonNull <;> simp
    | some d => cases d <;> simp

theorem classField_fieldKey (src : Source) (cfg : Cfg) (f : IField) :
    (classField src cfg f).fieldKey = fieldKeyOf cfg f := by
  -- unfolding by hand: `rfl` lets the elaborator walk into `pyField` on both sides
  simp only [classField, fieldKeyOf, InitField.fieldKey, InitField.key]

theorem classField_ann (src : Source) (cfg : Cfg) (f : IField) :
    (classField src cfg f).ann = (fieldKeyOf cfg f).ann := rfl

theorem classDefault_sdl (cfg : Cfg) (f : IField) :
    classDefault .sdl (classField .sdl cfg f).ann f.default f.type = InputFields.defaultKind f.default f.type := by
  simp only [classField, classDefault, InputFields.defaultKind, fieldDecl, parseType_opt]
  cases hd : f.default with
  | none => cases f.type.nonNull <;> simp
  | some d => cases d <;> simp

theorem lookupNames_src (src : Source) (cfg : Cfg) (fs : List IField) :
    lookupNamesOf (classFieldsOf src cfg fs) = lookupNamesOf (classFieldsOf .sdl cfg fs) := by
  induction fs with
  | nil => rfl
  | cons f fs ih =>
    simp only [lookupNamesOf, classFieldsOf, List.map_cons, List.flatMap_cons] at ih ⊢
    rw [ih]; rfl

theorem classNames_nodup (src : Source) (cfg : Cfg) (hc : ClassNamesClean cfg) (cls : String) :
    (lookupNamesOf (classFields src cfg cls)).Nodup := by
  simp only [classFields, Cfg.fieldsOf]
  cases hg : cfg.schema.get? cls with
  | none => simp [classFieldsOf, lookupNamesOf]
  | some ty =>
    cases ty with
    | input fs => rw [lookupNames_src]; exact hc cls fs hg
    | _ => simp [classFieldsOf, lookupNamesOf]

theorem fits_of_hasFields (src : Source) (cfg : Cfg) (fs : List IField) (inst : List (FieldKey × AV))
    (h : hasFields cfg fs inst = true) :
    fitsClass (classFieldsOf src cfg fs) inst = !lostFields src fs inst := by
  induction fs generalizing inst with
  | nil => cases inst <;> simp [hasFields] at h; simp [classFieldsOf, fitsClass, lostFields]
  | cons f fs ih =>
    cases inst with
    | nil => simp [hasFields] at h
    | cons p rest =>
      obtain ⟨fk, v⟩ := p
      simp only [hasFields, Bool.and_eq_true, beq_iff_eq] at h
      obtain ⟨⟨hk, hv⟩, hrest⟩ := h
      have ih' := ih rest hrest
      simp only [classFieldsOf] at ih'
      simp only [classFieldsOf, List.map_cons, fitsClass, lostFields, ih', classField_fieldKey, hk, beq_self_eq_true, Bool.true_and]
      by_cases hu : v.isUnset = true
      · have hv' := isUnset_eq v hu
        subst hv'
        simp only [AV.isUnset, Bool.true_and, hasType_unset, Bool.false_and, Bool.or_false, Bool.or_eq_true,
          Option.isSome_iff_ne_none, Bool.not_eq_true'] at hv
        simp only [AV.isUnset, if_true, Bool.true_and, classField_required, lostField]
        cases src <;> cases hd : f.default <;> cases hn : f.type.nonNull <;> simp_all
      · have hu' : v.isUnset = false := by simpa using hu
        simp only [hu', Bool.false_and, Bool.false_or, Bool.and_eq_true] at hv
        have ha : accepts (classField src cfg f) v = true := by
          simp only [accepts, hu', Bool.not_false, Bool.true_and, classField_ann, ← hk]
          exact hv.2
        simp [hu', ha]

theorem lostFields_sdl (fs : List IField) (inst : List (FieldKey × AV)) : lostFields .sdl fs inst = false := by
  induction fs generalizing inst with
  | nil => cases inst <;> rfl
  | cons f fs ih =>
    cases inst with
    | nil => rfl
    | cons p rest => obtain ⟨fk, v⟩ := p; simp [lostFields, lostField, ih rest]

mutual
theorem hasType_instances (cfg : Cfg) (t : GT) (v : AV) (ht : hasType cfg t v = true) :
    ∀ n ∈ instances v, hasFields cfg (cfg.fieldsOf n.1) n.2 = true := by
  cases v with
  | list xs =>
    obtain ⟨it, nn, rfl, ht'⟩ := hasType_list ht
    simp only [instances]
    exact hasTypeList_instances cfg it xs ht'
  | model cls fields =>
    obtain ⟨nn, fs, rfl, hg, hm⟩ := hasType_model ht
    intro nd hn
    simp only [instances, List.mem_cons] at hn
    rcases hn with hn | hn
    · subst hn
      simpa [Cfg.fieldsOf, hg] using hm
    · exact hasFields_instances cfg fs fields hm nd hn
  | _ => intro n hn; simp [instances] at hn
theorem hasTypeList_instances (cfg : Cfg) (it : GT) (xs : List AV) (ht : hasTypeList cfg it xs = true) :
    ∀ n ∈ instancesList xs, hasFields cfg (cfg.fieldsOf n.1) n.2 = true := by
  cases xs with
  | nil => intro n hn; simp [instancesList] at hn
  | cons x xs =>
    simp only [hasTypeList, Bool.and_eq_true] at ht
    intro n hn
    simp only [instancesList, List.mem_append] at hn
    rcases hn with hn | hn
    · exact hasType_instances cfg it x ht.1 n hn
    · exact hasTypeList_instances cfg it xs ht.2 n hn
theorem hasFields_instances (cfg : Cfg) (fs : List IField) (fields : List (FieldKey × AV))
    (hf : hasFields cfg fs fields = true) :
    ∀ n ∈ instancesFields fields, hasFields cfg (cfg.fieldsOf n.1) n.2 = true := by
  cases fields with
  | nil => intro n hn; simp [instancesFields] at hn
  | cons p rest =>
    obtain ⟨fk, v⟩ := p
    cases fs with
    | nil => simp [hasFields] at hf
    | cons f fs =>
      simp only [hasFields, Bool.and_eq_true, Bool.or_eq_true] at hf
      obtain ⟨⟨_, hv⟩, hrest⟩ := hf
      intro n hn
      simp only [instancesFields, List.mem_append] at hn
      rcases hn with hn | hn
      · rcases hv with hv | hv
        · have := isUnset_eq v hv.1
          subst this
          simp [instances] at hn
        · exact hasType_instances cfg f.type v hv.1 n hn
      · exact hasFields_instances cfg fs rest hrest n hn
end

theorem node_constructible_iff (src : Source) (cfg : Cfg) (hc : ClassNamesClean cfg) (cls : String)
    (inst : List (FieldKey × AV)) (hf : hasFields cfg (cfg.fieldsOf cls) inst = true) :
    NodeConstructible src cfg (cls, inst) ↔ lostFields src (cfg.fieldsOf cls) inst = false := by
  simp only [NodeConstructible]
  rw [init_iff_fits _ _ (classNames_nodup src cfg hc cls)]
  simp only [classFields, fits_of_hasFields src cfg _ inst hf]
  cases lostFields src (cfg.fieldsOf cls) inst <;> simp

theorem constructible_iff (src : Source) (cfg : Cfg) (hc : ClassNamesClean cfg) (t : GT) (v : AV)
    (ht : hasType cfg t v = true) : Constructible src cfg v ↔ lostDefault src cfg v = false := by
  have hall := hasType_instances cfg t v ht
  simp only [Constructible, lostDefault, List.any_eq_false]
  constructor
  · intro h n hn
    have := (node_constructible_iff src cfg hc n.1 n.2 (hall n hn)).mp (h n hn)
    simp [this]
  · intro h n hn
    exact (node_constructible_iff src cfg hc n.1 n.2 (hall n hn)).mpr (by simpa using h n hn)

theorem constructible_unset (src : Source) (cfg : Cfg) : Constructible src cfg .unset := by
  intro n hn; simp [instances] at hn

theorem lostDefault_unset (src : Source) (cfg : Cfg) : lostDefault src cfg .unset = false := by
  simp [lostDefault, instances]

theorem args_constructible_iff (src : Source) (cfg : Cfg) (hc : ClassNamesClean cfg) (ds : List IField) (a : List AV)
    (ha : argsValid cfg ds a = true) : ConstructibleArgs src cfg a ↔ trigDefaultLostIntro src cfg a = false := by
  induction ds, a using argsValid.induct with
  | case1 => simp [ConstructibleArgs, trigDefaultLostIntro]
  | case2 d ds v vs ih =>
    simp only [argsValid, Bool.and_eq_true, Bool.or_eq_true] at ha
    have ih' := ih ha.2
    have hv : Constructible src cfg v ↔ lostDefault src cfg v = false := by
      rcases ha.1 with hu | ht
      · have := isUnset_eq v hu.1
        subst this
        simp [constructible_unset, lostDefault_unset]
      · exact constructible_iff src cfg hc d.type v ht
    simp only [ConstructibleArgs, trigDefaultLostIntro, List.mem_cons, forall_eq_or_imp, List.any_cons,
      Bool.or_eq_false_iff] at ih' ⊢
    rw [hv, ih']
  | case3 ds vs _ _ => simp [argsValid] at ha

theorem lostDefault_sdl (cfg : Cfg) (v : AV) : lostDefault .sdl cfg v = false := by
  simp [lostDefault, lostFields_sdl]

theorem trig_sdl (cfg : Cfg) (a : List AV) : trigDefaultLostIntro .sdl cfg a = false := by
  simp [trigDefaultLostIntro, lostDefault_sdl]

end Ariadne.ArgProofs
