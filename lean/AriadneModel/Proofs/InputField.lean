/-
  Lemmas about the input-class model (Model/InputField.lean): the emitted annotation is the named type's inside the
  type's wrappers (`annOf_eq`) and is the faithful one, `annIdeal`, when finding C06-F1's trigger is off
  (`annOf_faithful`; two examples of the trigger firing); `kindOf` read backwards; the C19 model (`InputGen.annOf`)
  is this one with no custom scalar configured (`annOf_eq_inputGen`).
-/
import AriadneModel.Model.InputField
import AriadneModel.Proofs.ListLemmas


namespace Ariadne.InputField
open Ariadne.InputGen (TypeRef PyExpr InputField TypeDef)

/-- what a named type contributes to an annotation, and the `field_type` -/
def namedAnn (kinds : String → Kind) (n : String) : Option (Ann × String) :=
  match kinds n with
  | .builtin py => some (.name py, "")
  | .custom ty (some ser) => some (.annotated ty ser, n)
  | .custom ty none => some (.name ty, n)
  | .any => some (.name "Any", "")
  | .input => some (.fwd n, n)
  | .enum => some (.name n, n)
  | .composite => none
  | .unknown => none

theorem annOf_named (kinds : String → Kind) (n : String) (nl : Bool) :
    annOf kinds (.named n) nl = (namedAnn kinds n).map (fun p => (wrapNullable nl p.1, p.2)) := by
  unfold annOf namedAnn
  cases h : kinds n with
  | custom ty ser => cases ser <;> rfl
  | _ => rfl

/-- the wrappers `parse_input_field_type` puts around the annotation of the named type -/
def wrapAnn : TypeRef → Bool → Ann → Ann
  | .named _, nl, X => wrapNullable nl X
  | .list t, nl, X => wrapNullable nl (.list (wrapAnn t nl X))
  | .nonNull t, _, X => wrapAnn t false X

theorem annOf_eq (kinds : String → Kind) (t : TypeRef) (nl : Bool) :
    annOf kinds t nl = (namedAnn kinds t.base).map (fun p => (wrapAnn t nl p.1, p.2)) := by
  induction t generalizing nl with
  | named n => rw [annOf_named]; rfl
  | list t ih => simp only [annOf, ih nl, InputGen.TypeRef.base]; cases namedAnn kinds t.base <;> rfl
  | nonNull t ih => simp only [annOf, ih false, InputGen.TypeRef.base]; rfl

/-- the FAITHFUL annotation: `Optional[...]` exactly at the nullable positions of the type -/
def annIdeal (kinds : String → Kind) : TypeRef → Bool → Option (Ann × String)
  | .named n, nullable => (namedAnn kinds n).map (fun p => (wrapNullable nullable p.1, p.2))
  | .list t, nullable =>
    match annIdeal kinds t true with         -- an item is nullable unless it is wrapped in NonNull
    | some (a, ft) => some (wrapNullable nullable (.list a), ft)
    | none => none
  | .nonNull t, _ => annIdeal kinds t false

theorem annIdeal_nonNull_flag (kinds : String → Kind) (t : TypeRef) (h : t.isNonNull = true) (a b : Bool) :
    annIdeal kinds t a = annIdeal kinds t b := by
  cases t <;> simp [InputGen.TypeRef.isNonNull] at h
  simp [annIdeal]

theorem annOf_faithful (kinds : String → Kind) (t : TypeRef) :
    ∀ nl, nullableItemUnderNonNull (!nl) t = false → annOf kinds t nl = annIdeal kinds t nl := by
  induction t with
  | named n => intro nl _; rw [annOf_named]; rfl
  | list t ih =>
    intro nl h
    simp only [nullableItemUnderNonNull, Bool.or_eq_false_iff, Bool.and_eq_false_iff] at h
    obtain ⟨h1, h2⟩ := h
    have e1 := ih nl h2
    have e2 : annIdeal kinds t nl = annIdeal kinds t true := by
      cases nl with
      | true => rfl
      | false =>
        have : t.isNonNull = true := by
          rcases h1 with h1 | h1
          · simp at h1
          · simpa using h1
        exact annIdeal_nonNull_flag kinds t this _ _
    simp only [annOf, annIdeal, e1, e2]
    rfl
  | nonNull t ih =>
    intro nl h
    simp only [nullableItemUnderNonNull] at h
    simp only [annOf, annIdeal]
    exact ih false (by simpa using h)

theorem annOf_faithful_top (kinds : String → Kind) (t : TypeRef) (h : trigNullableListItem t = false) :
    annOf kinds t true = annIdeal kinds t true :=
  annOf_faithful kinds t true (by simpa [trigNullableListItem] using h)

/-- `[Int]!`: the emitted annotation is `List[int]`, the faithful one `List[Optional[int]]` -/
example : (annOf (fun _ => .builtin "int") (.nonNull (.list (.named "Int"))) true).map (·.1.render) = some "List[int]" := by decide
example : (annIdeal (fun _ => .builtin "int") (.nonNull (.list (.named "Int"))) true).map (·.1.render) = some "List[Optional[int]]" := by decide

theorem processFieldValue_default (alias : String) (v : Option PyExpr) :
    (processFieldValue alias v).default = v := by
  cases v with
  | none => rfl
  | some e => cases e <;> rfl

theorem processFieldValue_alias (alias : String) (v : Option PyExpr) :
    (processFieldValue alias v).alias = some alias := by
  cases v with
  | none => rfl
  | some e => cases e <;> rfl

/-- the default pydantic sees is what `parse_input_field_default_value` returned, alias or not -/
theorem genField_default (cfg : Cfg) (kinds : String → Kind) (f : InputField) (d : FieldDecl)
    (h : genField cfg kinds f = some d) :
    ∃ a ft, annOf kinds f.type true = some (a, ft) ∧ d.ann = a ∧ d.py = pyName cfg.snake f.name ∧
      d.value.default = InputGen.fieldDefault .sdl ft f ∧
      d.value.alias = (if pyName cfg.snake f.name != f.name then some f.name else none) := by
  unfold genField at h
  cases ha : annOf kinds f.type true with
  | none => simp [ha] at h
  | some p =>
    obtain ⟨a, ft⟩ := p
    simp only [ha, Option.some.injEq] at h
    subst h
    refine ⟨a, ft, rfl, rfl, rfl, ?_, ?_⟩
    · by_cases hp : (pyName cfg.snake f.name != f.name) = true
      · simp only [hp, if_true]; exact processFieldValue_default _ _
      · simp only [hp]
        cases InputGen.fieldDefault .sdl ft f <;> rfl
    · by_cases hp : (pyName cfg.snake f.name != f.name) = true
      · simp only [hp, if_true]; exact processFieldValue_alias _ _
      · simp only [hp]
        cases InputGen.fieldDefault .sdl ft f <;> rfl

theorem fieldDefault_none_iff (ft : String) (f : InputField) :
    InputGen.fieldDefault .sdl ft f = none ↔ (f.type.isNonNull = true ∧ f.default = none) := by
  unfold InputGen.fieldDefault
  cases hd : f.default with
  | some lit => simp
  | none => cases f.type.isNonNull <;> simp

theorem findDef_mem {defs : List TypeDef} {n : String} {d : TypeDef} (h : InputGen.findDef defs n = some d) :
    d ∈ defs ∧ d.name = n := by
  unfold InputGen.findDef at h
  exact ⟨List.mem_of_find?_eq_some h, by simpa using List.find?_some h⟩

theorem kindOf_cases (cfg : Cfg) (defs : List TypeDef) (n : String) :
    kindOf cfg defs n = scalarKind cfg n ∨ kindOf cfg defs n = .enum ∨
    (kindOf cfg defs n = .input ∧ ∃ fs, TypeDef.input n fs ∈ defs) ∨
    kindOf cfg defs n = .composite ∨ kindOf cfg defs n = .unknown := by
  unfold kindOf
  cases hd : InputGen.findDef defs n with
  | none =>
    simp only
    split
    · exact Or.inl rfl
    · exact Or.inr (Or.inr (Or.inr (Or.inr rfl)))
  | some d =>
    cases d with
    | input m fs =>
      have hm : m = n := (findDef_mem hd).2
      exact Or.inr (Or.inr (Or.inl ⟨rfl, fs, hm ▸ (findDef_mem hd).1⟩))
    | enum m vs => exact Or.inr (Or.inl rfl)
    | composite m => exact Or.inr (Or.inr (Or.inr (Or.inl rfl)))
    | scalar m => exact Or.inl rfl

theorem scalarKind_cases (cfg : Cfg) (n : String) :
    (∃ py, Tables.inputScalarsMap.lookup n = some py ∧ scalarKind cfg n = .builtin py) ∨
    (∃ sc, cfg.scalar? n = some sc ∧ scalarKind cfg n = .custom sc.typeName sc.serialize) ∨
    scalarKind cfg n = .any := by
  unfold scalarKind
  cases hl : Tables.inputScalarsMap.lookup n with
  | some py => exact Or.inl ⟨py, rfl, rfl⟩
  | none =>
    cases hs : cfg.scalar? n with
    | some sc => exact Or.inr (Or.inl ⟨sc, rfl, rfl⟩)
    | none => exact Or.inr (Or.inr rfl)

theorem kindOf_builtin {cfg : Cfg} {defs : List TypeDef} {n py : String}
    (h : kindOf cfg defs n = .builtin py) : py ∈ Tables.inputScalarsMap.map (·.2) := by
  rcases kindOf_cases cfg defs n with h1 | h1 | ⟨h1, _⟩ | h1 | h1 <;> rw [h1] at h
  · rcases scalarKind_cases cfg n with ⟨py', hl, h2⟩ | ⟨sc, _, h2⟩ | h2 <;> rw [h2] at h <;> cases h
    exact List.mem_map.mpr ⟨_, Lists.lookup_mem hl, rfl⟩
  all_goals cases h

theorem kindOf_input {cfg : Cfg} {defs : List TypeDef} {n : String} (h : kindOf cfg defs n = .input) :
    ∃ fs, TypeDef.input n fs ∈ defs := by
  rcases kindOf_cases cfg defs n with h1 | h1 | ⟨_, hfs⟩ | h1 | h1
  · rcases scalarKind_cases cfg n with ⟨py', _, h2⟩ | ⟨sc, _, h2⟩ | h2 <;> rw [h1, h2] at h <;> cases h
  · rw [h1] at h; cases h
  · exact hfs
  · rw [h1] at h; cases h
  · rw [h1] at h; cases h

theorem mem_classes {cfg : Cfg} {defs : List TypeDef} {cd : ClassDecl}
    (h : cd ∈ classes cfg defs) :
    ∃ n fs, TypeDef.input n fs ∈ defs ∧ cd = genClass cfg (kindOf cfg defs) n fs := by
  unfold classes at h
  obtain ⟨d, hd, hc⟩ := List.mem_filterMap.mp h
  cases d with
  | input n fs =>
    simp only [classOf, Option.some.injEq] at hc
    exact ⟨n, fs, hd, hc.symm⟩
  | enum n vs => simp [classOf] at hc
  | scalar n => simp [classOf] at hc
  | composite n => simp [classOf] at hc

theorem class_of_input {cfg : Cfg} {defs : List TypeDef} {n : String} {fs : List InputField}
    (h : TypeDef.input n fs ∈ defs) : genClass cfg (kindOf cfg defs) n fs ∈ classes cfg defs := by
  unfold classes
  exact List.mem_filterMap.mpr ⟨_, h, rfl⟩

def embedAnn : InputGen.Ann → Ann
  | .name s => .name s
  | .fwd s => .fwd s
  | .optional a => .optional (embedAnn a)
  | .list a => .list (embedAnn a)

def embedKind : InputGen.Kind → Kind
  | .scalar py => if py == "Any" then .any else .builtin py
  | .enum => .enum
  | .input => .input
  | .composite => .composite
  | .unknown => .unknown

theorem annOf_eq_inputGen (k : String → InputGen.Kind) (t : TypeRef) :
    ∀ nl, annOf (fun n => embedKind (k n)) t nl = (InputGen.annOf k t nl).map (fun p => (embedAnn p.1, p.2)) := by
  induction t with
  | named n =>
    intro nl
    simp only [annOf, InputGen.annOf]
    cases h : k n with
    | scalar py =>
      by_cases hp : (py == "Any") = true
      · have : py = "Any" := by simpa using hp
        subst this
        cases nl <;> simp [embedKind, wrapNullable, InputGen.wrapNullable, embedAnn]
      · cases nl <;> simp [embedKind, hp, wrapNullable, InputGen.wrapNullable, embedAnn]
    | _ => cases nl <;> simp [embedKind, wrapNullable, InputGen.wrapNullable, embedAnn]
  | list t ih =>
    intro nl
    simp only [annOf, InputGen.annOf, ih nl]
    cases h : InputGen.annOf k t nl with
    | none => rfl
    | some p => cases nl <;> simp [wrapNullable, InputGen.wrapNullable, embedAnn]
  | nonNull t ih =>
    intro nl
    simp only [annOf, InputGen.annOf, ih false]

end Ariadne.InputField
