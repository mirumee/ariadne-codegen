/-
  Property C01, "unpacked fragments" tier, part (1): the generator succeeds and returns exactly the
  PLAIN tier's classes of the inlined document (`plainClasses env cn tn (inl env k sel)`); every fragment met is recorded in
  `_unpacked_fragments`; no mark is added.
-/
import AriadneModel.Proofs.C01UnpDefs
import AriadneModel.Proofs.C01PlainGen


namespace Ariadne.C01Unp
open Ariadne Ariadne.Gql Ariadne.ResultTypes Ariadne.Util Ariadne.C01Plain Ariadne.C01GenRules

theorem inl_succ (env : Env) (k : Nat) (sel : List Selection) :
    inl env (k + 1) sel = sel.flatMap fun s =>
      match s with
      | .field a n d sid sub => [.field a n d sid (inl env k sub)]
      | .spread g _ =>
        match findFragment? env.frags g with
        | some f => inl env k f.sel
        | none => []
      | _ => [] := rfl

theorem uflatK_succ (env : Env) (k : Nat) (sel : List Selection) :
    uflatK env (k + 1) sel = sel.flatMap fun s =>
      match s with
      | .field a n d sid sub => [(k, .field a n d sid sub)]
      | .spread g _ =>
        match findFragment? env.frags g with
        | some f => uflatK env k f.sel
        | none => []
      | _ => [] := rfl

theorem inl_eq (env : Env) : ∀ (k : Nat) (sel : List Selection), inl env k sel = (uflatK env k sel).map (inlNode env)
  | 0, _ => rfl
  | k + 1, sel => by
    rw [inl_succ, uflatK_succ, List.map_flatMap]
    apply Lists.flatMap_congr
    intro s _
    cases s with
    | field a n d sid sub => rfl
    | spread g d =>
      simp only []
      cases hf : findFragment? env.frags g with
      | none => rfl
      | some f => simp only []; exact inl_eq env k f.sel
    | inline on d sid ss => rfl

theorem spreadsOK_succ (env : Env) (k : Nat) (tn : String) (sel : List Selection) :
    spreadsOK env (k + 1) tn sel =
      (env.schema.kindOf? tn == some .object &&
      sel.all fun s =>
        match s with
        | .field _ name _ _ sub =>
          sub.isEmpty || (!(inl env k sub).isEmpty && spreadsOK env k (subType env tn name) sub)
        | .spread g dirs =>
          !hasConditionalDirective dirs &&
          (match findFragment? env.frags g with
           | some f =>
             env.schema.kindOf? f.on == some .interface && env.schema.isSubType f.on tn
             && !(f.sel.any fun x => match x with | .inline .. => true | _ => false)
             && spreadsOK env k tn f.sel
           | none => false)
        | _ => false) := rfl

theorem spreadsOK_spread {env : Env} {k : Nat} {tn : String} {sel : List Selection} (h : spreadsOK env (k + 1) tn sel = true)
    {g : String} {d : List Directive} (hs : Selection.spread g d ∈ sel) :
    hasConditionalDirective d = false ∧ ∃ f, findFragment? env.frags g = some f ∧ env.schema.kindOf? f.on = some .interface ∧
      env.schema.isSubType f.on tn = true ∧
      (f.sel.any fun x => match x with | .inline .. => true | _ => false) = false ∧ spreadsOK env k tn f.sel = true := by
  rw [spreadsOK_succ] at h
  simp only [Bool.and_eq_true, List.all_eq_true] at h
  have := h.2 _ hs
  simp only [Bool.and_eq_true, Bool.not_eq_true'] at this
  refine ⟨this.1, ?_⟩
  cases hf : findFragment? env.frags g with
  | none => simp [hf] at this
  | some f =>
    have h2 := this.2
    simp only [hf, Bool.and_eq_true, beq_iff_eq, Bool.not_eq_true'] at h2
    exact ⟨f, rfl, h2.1.1.1, h2.1.1.2, h2.1.2, h2.2⟩

theorem spreadsOK_kind {env : Env} {k : Nat} {tn : String} {sel : List Selection} (h : spreadsOK env k tn sel = true) :
    env.schema.kindOf? tn = some .object := by
  cases k with
  | zero => simp [spreadsOK] at h
  | succ k =>
    rw [spreadsOK_succ] at h
    simp only [Bool.and_eq_true, beq_iff_eq] at h
    exact h.1

theorem spreadsOK_nodes (env : Env) : ∀ (k : Nat) (tn : String) (sel : List Selection), spreadsOK env k tn sel = true →
    ∀ p ∈ uflatK env k sel, p.1 < k ∧ ∃ a n d sid sub, p.2 = Selection.field a n d sid sub ∧
      (sub.isEmpty = true ∨ ((inl env p.1 sub).isEmpty = false ∧ spreadsOK env p.1 (subType env tn n) sub = true))
  | 0, _, _, h, _, _ => by simp [spreadsOK] at h
  | k + 1, tn, sel, h, p, hp => by
    rw [uflatK_succ] at hp
    obtain ⟨s, hs, hps⟩ := List.mem_flatMap.mp hp
    cases s with
    | inline on d sid ss => simp at hps
    | field a n d sid sub =>
      simp only [List.mem_singleton] at hps
      subst hps
      refine ⟨Nat.lt_succ_self k, a, n, d, sid, sub, rfl, ?_⟩
      rw [spreadsOK_succ] at h
      simp only [Bool.and_eq_true, List.all_eq_true] at h
      have := h.2 _ hs
      simp only [Bool.or_eq_true, Bool.and_eq_true, Bool.not_eq_true'] at this
      exact this
    | spread g d =>
      obtain ⟨_, f, hf, _, _, _, hrec⟩ := spreadsOK_spread h hs
      simp only [hf] at hps
      obtain ⟨h1, h2⟩ := spreadsOK_nodes env k tn f.sel hrec p hps
      exact ⟨by omega, h2⟩

/-- the fragments unpacked at the level of ONE class (through nested spreads, not through sub-selections) -/
def sprd (env : Env) : Nat → List Selection → List String
  | 0, _ => []
  | k + 1, sel =>
    sel.flatMap fun s =>
      match s with
      | .spread g _ =>
        g :: (match findFragment? env.frags g with
              | some f => sprd env k f.sel
              | none => [])
      | _ => []

theorem sprd_succ (env : Env) (k : Nat) (sel : List Selection) :
    sprd env (k + 1) sel = sel.flatMap fun s =>
      match s with
      | .spread g _ =>
        g :: (match findFragment? env.frags g with
              | some f => sprd env k f.sel
              | none => [])
      | _ => [] := rfl

theorem reach_succ (env : Env) (k : Nat) (sel : List Selection) :
    reach env (k + 1) sel = sel.flatMap fun s =>
      match s with
      | .field _ _ _ _ sub => reach env k sub
      | .spread g _ =>
        match findFragment? env.frags g with
        | some f => g :: reach env k f.sel
        | none => [g]
      | _ => [] := rfl

theorem reach_split (env : Env) : ∀ (k : Nat) (sel : List Selection) (n : String), n ∈ reach env k sel →
    n ∈ sprd env k sel ∨ ∃ p ∈ uflatK env k sel, ∃ a nm d sid sub, p.2 = Selection.field a nm d sid sub ∧ n ∈ reach env p.1 sub
  | 0, _, _, h => by simp [reach] at h
  | k + 1, sel, n, h => by
    rw [reach_succ] at h
    obtain ⟨s, hs, hn⟩ := List.mem_flatMap.mp h
    cases s with
    | inline on d sid ss => simp at hn
    | field a nm d sid sub =>
      right
      refine ⟨(k, .field a nm d sid sub), ?_, a, nm, d, sid, sub, rfl, hn⟩
      rw [uflatK_succ]
      exact List.mem_flatMap.mpr ⟨_, hs, by simp⟩
    | spread g d =>
      simp only [] at hn
      cases hf : findFragment? env.frags g with
      | none =>
        simp only [hf, List.mem_singleton] at hn
        left
        rw [sprd_succ]
        exact List.mem_flatMap.mpr ⟨_, hs, by simp [hn]⟩
      | some f =>
        simp only [hf, List.mem_cons] at hn
        rcases hn with hn | hn
        · left
          rw [sprd_succ]
          exact List.mem_flatMap.mpr ⟨_, hs, by simp [hn]⟩
        · rcases reach_split env k f.sel n hn with h1 | ⟨p, hp, hrest⟩
          · left
            rw [sprd_succ]
            exact List.mem_flatMap.mpr ⟨_, hs, by simp [hf, h1]⟩
          · right
            refine ⟨p, ?_, hrest⟩
            rw [uflatK_succ]
            exact List.mem_flatMap.mpr ⟨_, hs, by simpa [hf] using hp⟩

theorem iface_ne_object {env : Env} {a b : String} (ha : env.schema.kindOf? a = some .interface)
    (hb : env.schema.kindOf? b = some .object) : (a != b) = true := by
  simp only [bne_iff_ne, ne_eq]
  intro e
  rw [e, hb] at ha
  cases ha

theorem isAbstract_of_iface {S : Schema} {n : String} (h : S.kindOf? n = some .interface) : S.isAbstract n = true := by
  simp [Schema.isAbstract, h]

theorem resolveLoop_unp (env : Env) : ∀ (k fuel : Nat) (tn : String) (sels : List Selection) (acc : Acc) (s : St),
    k ≤ fuel + 1 → spreadsOK env k tn sels = true →
    ∃ s', forIn sels acc (resolveBody env fuel tn) s =
        .ok ((acc.1 ++ (uflatK env k sels).map (fun p => toR p.2), acc.2), s') ∧
      s'.publicNames = s.publicNames ∧ s'.marks = s.marks ∧ (∀ n ∈ s.unpacked, n ∈ s'.unpacked) ∧
      (∀ n ∈ sprd env k sels, n ∈ s'.unpacked)
  | 0, _, _, _, _, _, _, h => by simp [spreadsOK] at h
  | k + 1, fuel, tn, sels, acc, s, hk, h => by
    have hkind := spreadsOK_kind h
    revert acc s h
    induction sels with
    | nil => intro acc s _; exact ⟨s, by simp [List.forIn_nil, uflatK_succ]; rfl, rfl, rfl, fun n hn => hn, fun n hm => by simp [sprd_succ] at hm⟩
    | cons x rest ih =>
      intro acc s h
      have hrest : spreadsOK env (k + 1) tn rest = true := by
        rw [spreadsOK_succ] at h ⊢
        simp only [Bool.and_eq_true, List.all_cons] at h ⊢
        exact ⟨h.1, h.2.2⟩
      rw [List.forIn_cons]
      cases x with
      | inline on d sid ss =>
        rw [spreadsOK_succ] at h
        simp [List.all_cons] at h
      | field alias name dirs sid sub =>
        obtain ⟨s', hrun, h1, h2, h3, h4⟩ := ih (acc.1 ++ [⟨alias, name, dirs, sid, sub⟩], acc.2) s hrest
        refine ⟨s', ?_, h1, h2, h3, ?_⟩
        · refine run_bind (a := .yield (acc.1 ++ [⟨alias, name, dirs, sid, sub⟩], acc.2)) (s' := s) rfl ?_
          simp only []
          rw [hrun]
          simp [uflatK_succ, toR, List.append_assoc]
        · intro n hm
          rw [sprd_succ, List.flatMap_cons] at hm
          simp only [List.nil_append] at hm
          rw [← sprd_succ] at hm
          exact h4 n hm
      | spread g d =>
        obtain ⟨hcond, f, hf, hki, hsub, hnoinl, hrec⟩ := spreadsOK_spread h (g := g) (d := d) List.mem_cons_self
        obtain ⟨fuel', rfl⟩ : ∃ fuel', fuel = fuel' + 1 := by
          cases fuel with
          | zero =>
            -- `k + 1 ≤ 1` forces `k = 0`, but then the fragment's content has no fuel
            have : k = 0 := by omega
            subst this
            simp [spreadsOK] at hrec
          | succ f' => exact ⟨f', rfl⟩
        have hne := iface_ne_object hki hkind
        have hunp : unpackFragment env f (some tn) = true := by
          simp [unpackFragment, hne]
        have hbranch : (f.on == tn || (env.schema.isAbstract f.on && env.schema.isSubType f.on tn)) = true := by
          simp [isAbstract_of_iface hki, hsub]
        obtain ⟨s1, hin, hi1, hi2, hi3, hi4⟩ := resolveLoop_unp env k fuel' tn f.sel ([], [])
          { s with unpacked := setAdd s.unpacked g } (by omega) hrec
        obtain ⟨s', hrun, h1, h2, h3, h4⟩ := ih (acc.1 ++ (uflatK env k f.sel).map (fun p => toR p.2), acc.2)
          { s1 with mixins := setUnion s1.mixins [] } hrest
        have hgmem : g ∈ (setAdd s.unpacked g) := mem_setAdd.mpr (Or.inr rfl)
        refine ⟨s', ?_, by rw [h1]; exact hi1, by rw [h2]; exact hi2, ?_, ?_⟩
        · have hres1 : resolve env (fuel' + 1) f.sel tn { s with unpacked := setAdd s.unpacked g } =
              .ok (((uflatK env k f.sel).map (fun p => toR p.2), []), { s1 with mixins := setUnion s1.mixins [] }) := by
            rw [resolve_succ]
            refine run_bind hin ?_
            refine run_bind (run_modify _ _) ?_
            simp [run_pure]
          refine run_bind (resolveBody_of_step (.unpack hf hunp hbranch hres1) (fun _ _ f' e hf' => by
            cases e; cases hf.symm.trans hf'; exact ⟨get_isNone_of_kind hkind, get_isNone_of_kind hki⟩)) ?_
          refine hrun.trans ?_
          simp [uflatK_succ, hf, List.append_assoc]
        · intro n hn
          apply h3
          apply hi3
          exact mem_setAdd.mpr (Or.inl hn)
        · intro n hm
          rw [sprd_succ, List.flatMap_cons] at hm
          simp only [hf, List.cons_append, List.mem_cons, List.mem_append] at hm
          rw [← sprd_succ] at hm
          rcases hm with hm | hm | hm
          · rw [hm]
            exact h3 g (hi3 g hgmem)
          · exact h3 n (hi4 n hm)
          · exact h4 n hm

theorem resolve_unp (env : Env) (k fuel : Nat) (tn : String) (sels : List Selection) (st : St)
    (hk : k ≤ fuel + 1) (h : spreadsOK env k tn sels = true) :
    ∃ st', resolve env (fuel + 1) sels tn st = .ok (((uflatK env k sels).map (fun p => toR p.2), []), st') ∧
      st'.publicNames = st.publicNames ∧ st'.marks = st.marks ∧ (∀ n ∈ st.unpacked, n ∈ st'.unpacked) ∧
      (∀ n ∈ sprd env k sels, n ∈ st'.unpacked) := by
  obtain ⟨s', hloop, h1, h2, h3, h4⟩ := resolveLoop_unp env k fuel tn sels ([], []) st hk h
  refine ⟨{ s' with mixins := setUnion s'.mixins [] }, ?_, h1, h2, h3, h4⟩
  rw [resolve_succ]
  refine run_bind hloop ?_
  refine run_bind (run_modify _ _) ?_
  simp [run_pure]

theorem inl_of_empty (env : Env) (k : Nat) (sub : List Selection) (h : sub.isEmpty = true) : inl env k sub = [] := by
  have : sub = [] := by simpa using h
  subst this
  cases k <;> simp [inl]

/-- what part (1) says about one call of `_parse_type_definition` when `k` bounds the nesting of spreads and sub-selections
    (`spreadsOK`, `inl`): any generation fuel from `2 * k + 2` on will do -/
def GenSpec (env : Env) (k : Nat) : Prop :=
  ∀ (fuel : Nat) (cn tn : String) (sid : Nat) (sel : List Selection) (tv : List String) (st : St),
    2 * k + 2 ≤ fuel → st.marks.contains sid = false → spreadsOK env k tn sel = true →
    plainLocal env st.marks cn tn (inl env k sel) = true →
    ((plainClasses env cn tn (inl env k sel)).map (·.name)).Nodup →
    (∀ n ∈ (plainClasses env cn tn (inl env k sel)).map (·.name), n ∉ st.publicNames) →
    ∃ st', parseTypeDefinition env fuel cn tn sid sel false [] tv st = .ok (plainClasses env cn tn (inl env k sel), st') ∧
      st'.publicNames = st.publicNames ++ (plainClasses env cn tn (inl env k sel)).map (·.name) ∧ st'.marks = st.marks ∧
      (∀ n ∈ st.unpacked, n ∈ st'.unpacked) ∧ (∀ n ∈ reach env k sel, n ∈ st'.unpacked)

theorem fieldBody_unp (env : Env) (k' : Nat) (IH : GenSpec env k') (f : Nat) (cn tn : String) (tv : List String)
    (hf : 2 * k' + 2 ≤ f)
    (alias : Option String) (name : String) (dirs : List Directive) (sid : Nat) (sub : List Selection)
    (acc : FAcc) (s : St)
    (hl : plainLocal1 env s.marks cn tn (.field alias name dirs sid (inl env k' sub)) = true)
    (hsp : sub.isEmpty = true ∨ ((inl env k' sub).isEmpty = false ∧ spreadsOK env k' (subType env tn name) sub = true))
    (hnd : ((plainExtra1 env cn tn (.field alias name dirs sid (inl env k' sub))).map (·.name)).Nodup)
    (hfresh : ∀ n ∈ (plainExtra1 env cn tn (.field alias name dirs sid (inl env k' sub))).map (·.name), n ∉ s.publicNames) :
    ∃ s', fieldBody env (f + 1) cn tn tv ⟨alias, name, dirs, sid, sub⟩ acc s =
        .ok (.yield (acc.1 ++ [fieldDecl env cn tn alias name dirs (inl env k' sub)],
                     acc.2 ++ plainExtra1 env cn tn (.field alias name dirs sid (inl env k' sub))), s') ∧
      s'.publicNames = s.publicNames ++ (plainExtra1 env cn tn (.field alias name dirs sid (inl env k' sub))).map (·.name) ∧
      s'.marks = s.marks ∧ (∀ n ∈ s.unpacked, n ∈ s'.unpacked) ∧ (∀ n ∈ reach env k' sub, n ∈ s'.unpacked) := by
  obtain ⟨hname, hmix', hfd, hleaf, hobj⟩ := plainLocal1_field hl
  -- the declaration looks at the sub-selection only to see whether it is empty
  have hdecl : ∀ sub', sub'.isEmpty = sub.isEmpty →
      fieldDecl env cn tn alias name dirs sub' = fieldDecl env cn tn alias name dirs sub := by
    intro sub' h; simp only [fieldDecl, h]
  by_cases hsub : sub.isEmpty = true
  · have hsubn : sub = [] := by simpa using hsub
    rw [inl_of_empty env k' sub hsub] at hleaf hnd hfresh ⊢
    rw [plainExtra1_leaf _ _ _ _ _ _ _ _ rfl, hdecl [] (by rw [hsub]; rfl)]
    obtain ⟨ctx, h⟩ := fieldBody_field env f cn tn tv alias name dirs sid sub acc s hname hmix' hfd [] s
      (fun _ => ⟨hleaf rfl, rfl, rfl⟩) (fun h => by rw [hsub] at h; cases h)
    refine ⟨bump s ctx, h, by simp [bump], rfl, fun n hn => hn, ?_⟩
    intro n hn
    rw [hsubn] at hn
    cases k' <;> simp [reach] at hn
  · have hsub' : sub.isEmpty = false := by simpa using hsub
    obtain ⟨hine, hsp'⟩ : (inl env k' sub).isEmpty = false ∧ spreadsOK env k' (subType env tn name) sub = true := by
      rcases hsp with h | h
      · rw [h] at hsub'; cases hsub'
      · exact h
    obtain ⟨hkind, hmark, _, hrec⟩ := hobj hine
    rw [plainExtra1_sub _ _ _ _ _ _ _ _ hine] at hnd hfresh ⊢
    rw [hdecl _ (by rw [hine, hsub'])]
    obtain ⟨s1, hrun, hpn, hmk, hup, hre⟩ := IH f (subClass env cn alias name) (subType env tn name) sid sub _ s hf
      hmark hsp' hrec hnd hfresh
    obtain ⟨ctx, h⟩ := fieldBody_field env f cn tn tv alias name dirs sid sub acc s hname hmix' hfd _ s1
      (fun h => by rw [hsub'] at h; cases h) (fun _ => ⟨hkind, hrun⟩)
    exact ⟨bump s1 ctx, h, hpn, hmk, hup, hre⟩

theorem gen_spec (env : Env) : ∀ k : Nat, GenSpec env k := by
  intro k
  induction k using Nat.strongRecOn with
  | _ k IH =>
    intro fuel cn tn sid sel tv st hfu hmark hsp hloc hnd hfresh
    cases k with
    | zero => simp [spreadsOK] at hsp
    | succ k =>
      obtain ⟨f, rfl⟩ : ∃ f, fuel = f + 2 := ⟨fuel - 2, by omega⟩
      have hnodes := spreadsOK_nodes env (k + 1) tn sel hsp
      have hlocs := (plainLocal_iff env st.marks cn tn (inl env (k + 1) sel)).mp hloc
      rw [inl_eq] at hlocs hnd hfresh ⊢
      obtain ⟨hcn, hnd', hfresh'⟩ := fresh_cons hnd hfresh
      rw [plainExtra_flatMap, List.flatMap_map, List.map_flatMap] at hnd' hfresh'
      obtain ⟨st1, hres, hpn1, hmk1, hup1, hsp1⟩ := resolve_unp env (k + 1) (f + 1) tn sel
        { st with publicNames := st.publicNames ++ [cn] } (by omega) hsp
      -- the loop over the field nodes: every step leaves the marks alone, unpacks more, and has unpacked what its node reaches
      obtain ⟨s', hloop, hpn, ⟨hmk, hup⟩, hQ⟩ := forIn_fresh
        (fun (p : Nat × Selection) b => fieldBody env (f + 1) cn tn tv (toR p.2) b)
        (fun p b => (b.1 ++ plainDecl1 env cn tn (inlNode env p), b.2 ++ plainExtra1 env cn tn (inlNode env p)))
        (fun p => (plainExtra1 env cn tn (inlNode env p)).map (·.name))
        (fun s s' => s'.marks = s.marks ∧ ∀ n ∈ s.unpacked, n ∈ s'.unpacked) (fun _ => ⟨rfl, fun _ h => h⟩)
        (fun _ _ _ h1 h2 => ⟨h2.1.trans h1.1, fun n hn => h2.2 n (h1.2 n hn)⟩)
        (fun p s => ∀ a nm d sid sub, p.2 = Selection.field a nm d sid sub → ∀ n ∈ reach env p.1 sub, n ∈ s.unpacked)
        (fun p s s' hR hq a nm d sid sub hp2 n hn => hR.2 n (hq a nm d sid sub hp2 n hn))
        (uflatK env (k + 1) sel) ([], []) st1
        (fun p hp acc s1 hR hnd1 hfr1 => by
          obtain ⟨hpK, a, nm, d, sid', sub, hp2, hspp⟩ := hnodes p hp
          obtain ⟨k', x⟩ := p
          simp only at hp2 hpK hspp
          subst hp2
          obtain ⟨s2, hstep, hpn2, hmk2, hup2, hre2⟩ := fieldBody_unp env k' (IH k' hpK) f cn tn tv
            (by omega) a nm d sid' sub acc s1
            (by rw [hR.1, hmk1]; exact hlocs _ (List.mem_map.mpr ⟨_, hp, rfl⟩)) hspp hnd1 hfr1
          refine ⟨s2, hstep, hpn2, ⟨hmk2, hup2⟩, ?_⟩
          intro a' nm' d' sid'' sub' hq2 n hn
          simp only [Selection.field.injEq] at hq2
          obtain ⟨_, _, _, _, rfl⟩ := hq2
          exact hre2 n hn)
        hnd' (by rw [hpn1]; exact hfresh')
      rw [Lists.foldl_append_flatMap₂] at hloop
      have hm1 : st1.marks.contains sid = false := by rw [hmk1]; exact hmark
      refine ⟨s', ?_, ?_, by rw [hmk, hmk1], fun n hn => hup n (hup1 n hn), ?_⟩
      · rw [parseTypeDefinition_intro env (f + 1) cn tn sid sel false [] tv st st1 s' ((uflatK env (k + 1) sel).map (fun p => toR p.2), []) _
          hcn hres (by
            simp only [hm1, withTypename, afterTypename_false, Bool.false_eq_true, if_false, Bool.false_and]
            rw [List.forIn_map]
            exact hloop)]
        simp [classBases, plainClasses, plainDecls, plainExtra_flatMap, List.flatMap_map]
      · rw [hpn, hpn1]; simp [plainClasses, plainExtra_flatMap, List.flatMap_map, List.map_flatMap, List.append_assoc]
      · intro n hn
        rcases reach_split env (k + 1) sel n hn with h | ⟨p, hp, a, nm, d, sid', sub, hp2, hn'⟩
        · exact hup n (hsp1 n h)
        · exact hQ p hp a nm d sid' sub hp2 n hn'

end Ariadne.C01Unp
