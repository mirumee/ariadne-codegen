/-
  Lemmas about Model/Names.lean (used by C18, and by C04 for method names).  Core Lean only.
  `str_to_snake_case` is reasoned about through its normal form, canonical words joined by single underscores
  (`snakeWords_canon`, `tokens_joinU`); `process_name` through five case equations (`processName_snake_allU` …
  `processName_trim_nolead`) over `suffix_cases` and, with trimming, `kind_cases`.
  On these stand: what survives of a name (`alnum_processName`) and when the result is a usable identifier
  (`outOK_iff`); exactly when two names get the same Python name, per flag combination (`collide_snake`,
  `collide_plain`, `collide_trim` with its right-hand side `TrimRHS`); which names land on the alias `typename__`
  (`processName_snake_ne_typenameAlias`, `processName_trim_eq_typenameAlias_iff`) and `pyName` as `processName`
  (`pyName_eq`); and `str_to_pascal_case` (`pascal_idem`, `lower_alnum_pascal`, `pyIdent_pascal_iff`).
-/
import AriadneModel.Model.Names

namespace Ariadne.Names

/-! ### character classes and `tokens`: a token is a non-empty run of letters or of digits (`tokens_homog`) -/

theorem cls_spec (c : Char) :
    (c ∈ uppers ∧ cls c = .U) ∨ (c ∉ uppers ∧ c ∈ lowers ∧ cls c = .L) ∨
    (c ∉ uppers ∧ c ∉ lowers ∧ c ∈ digits ∧ cls c = .D) ∨
    (c ∉ uppers ∧ c ∉ lowers ∧ c ∉ digits ∧ cls c = .O) := by
  unfold cls
  by_cases h1 : c ∈ uppers
  · simp [h1]
  · by_cases h2 : c ∈ lowers
    · simp [h1, h2]
    · by_cases h3 : c ∈ digits
      · simp [h1, h2, h3]
      · simp [h1, h2, h3]

theorem cls_U_iff (c : Char) : cls c = .U ↔ c ∈ uppers := by
  rcases cls_spec c with ⟨h, e⟩ | ⟨h, _, e⟩ | ⟨h, _, _, e⟩ | ⟨h, _, _, e⟩ <;> simp [h, e]

/-- the one sweep over the three character tables (`str.lower` / `str.upper` are `zip`-lookups in them) -/
theorem char_tables :
    (∀ c ∈ uppers, cls c = .U ∧ cls (lowerChar c) = .L) ∧
    (∀ c ∈ lowers, c ∉ uppers ∧ cls c = .L ∧ cls (upperChar c) = .U ∧ lowerChar (upperChar c) = c ∧
      upperChar c ≠ '_' ∧ upperChar (upperChar c) = upperChar c) ∧
    cls '_' = .O := by decide +kernel

theorem lowers_facts : ∀ c ∈ lowers, cls c = .L ∧ cls (upperChar c) = .U :=
  fun c h => ⟨(char_tables.2.1 c h).2.1, (char_tables.2.1 c h).2.2.1⟩
theorem cls_underscore : cls '_' = .O := char_tables.2.2

theorem lowerChar_of_not_U {c : Char} (h : cls c ≠ .U) : lowerChar c = c := by
  have : c ∉ uppers := fun hm => h ((cls_U_iff c).mpr hm)
  simp [lowerChar, this]

theorem cls_lowerChar (c : Char) :
    cls (lowerChar c) = (match cls c with | .U => .L | k => k) := by
  by_cases h : cls c = .U
  · have hm := (cls_U_iff c).mp h
    rw [h, (char_tables.1 c hm).2]
  · rw [lowerChar_of_not_U h]
    cases hc : cls c <;> simp_all

theorem cls_lowerChar_ne_O {c : Char} (h : cls c ≠ .O) : cls (lowerChar c) ≠ .O := by
  rw [cls_lowerChar]; cases hc : cls c <;> simp_all

theorem lowerChar_idem (c : Char) : lowerChar (lowerChar c) = lowerChar c := by
  apply lowerChar_of_not_U
  rw [cls_lowerChar]; cases hc : cls c <;> simp

theorem ne_underscore_of_cls {c : Char} (h : cls c ≠ .O) : c ≠ '_' := by
  intro e; subst e; exact h cls_underscore

theorem tokens_nil : tokens [] = [] := rfl

theorem tokens_cons_O {c : Char} (cs : Name) (h : cls c = .O) : tokens (c :: cs) = tokens cs := by
  simp [tokens, h]

theorem tokens_cons_join {c : Char} (cs : Name) (h : cls c ≠ .O)
    (hj : joins (cls c) (cls1 cs) (cls1 cs.tail) = true) : tokens (c :: cs) = consTok c (tokens cs) := by
  simp [tokens, h, hj]

theorem tokens_cons_new {c : Char} (cs : Name) (h : cls c ≠ .O)
    (hj : joins (cls c) (cls1 cs) (cls1 cs.tail) = false) : tokens (c :: cs) = [c] :: tokens cs := by
  simp [tokens, h, hj]

theorem joins_O_right (k n2 : Cls) : joins k .O n2 = false := by cases k <;> rfl
theorem joins_O_left (n1 n2 : Cls) : joins .O n1 n2 = false := by cases n1 <;> rfl

theorem flatten_consTok (c : Char) (ts : List Name) : (consTok c ts).flatten = c :: ts.flatten := by
  cases ts <;> simp [consTok]

theorem tokens_flatten (s : Name) : (tokens s).flatten = alnum s := by
  induction s with
  | nil => rfl
  | cons c cs ih =>
    by_cases h : cls c = .O
    · rw [tokens_cons_O cs h]; simp [alnum, h] at *; exact ih
    · have ha : alnum (c :: cs) = c :: alnum cs := by simp [alnum, h]
      cases hj : joins (cls c) (cls1 cs) (cls1 cs.tail)
      · rw [tokens_cons_new cs h hj, ha, ← ih]; simp
      · rw [tokens_cons_join cs h hj, ha, ← ih, flatten_consTok]

theorem tokens_head {c : Char} (cs : Name) (h : cls c ≠ .O) : ∃ t r, tokens (c :: cs) = (c :: t) :: r := by
  cases hj : joins (cls c) (cls1 cs) (cls1 cs.tail)
  · exact ⟨[], tokens cs, tokens_cons_new cs h hj⟩
  · rw [tokens_cons_join cs h hj]
    cases tokens cs with
    | nil => exact ⟨[], [], rfl⟩
    | cons t r => exact ⟨t, r, rfl⟩

def Homog (t : Name) : Prop := t ≠ [] ∧ ((∀ c ∈ t, cls c = .U ∨ cls c = .L) ∨ (∀ c ∈ t, cls c = .D))

theorem tokens_homog (s : Name) : ∀ t ∈ tokens s, Homog t := by
  induction s with
  | nil => intro t ht; simp [tokens] at ht
  | cons c cs ih =>
    by_cases h : cls c = .O
    · rw [tokens_cons_O cs h]; exact ih
    · cases hj : joins (cls c) (cls1 cs) (cls1 cs.tail)
      · rw [tokens_cons_new cs h hj]
        intro t ht
        rcases List.mem_cons.mp ht with rfl | ht
        · refine ⟨by simp, ?_⟩
          cases hc : cls c
          · left; intro x hx; simp at hx; subst hx; exact Or.inl hc
          · left; intro x hx; simp at hx; subst hx; exact Or.inr hc
          · right; intro x hx; simp at hx; subst hx; exact hc
          · exact absurd hc h
        · exact ih t ht
      · rw [tokens_cons_join cs h hj]
        -- joins = true forces a next character of a compatible class
        cases cs with
        | nil => simp [cls1, joins_O_right] at hj
        | cons d ds =>
          have hd : cls d ≠ .O := by
            intro hd; simp [cls1, hd, joins_O_right] at hj
          obtain ⟨t0, r, htok⟩ := tokens_head ds hd
          rw [htok]
          intro t ht
          simp only [consTok, List.mem_cons] at ht
          rcases ht with rfl | ht
          · have h0 : Homog (d :: t0) := ih (d :: t0) (by rw [htok]; simp)
            refine ⟨by simp, ?_⟩
            rcases h0.2 with ha | hdg
            · have hdA := ha d (by simp)
              left
              intro x hx
              rcases List.mem_cons.mp hx with rfl | hx
              · cases hc : cls x
                · exact Or.inl rfl
                · exact Or.inr rfl
                · rcases hdA with e | e <;> simp [cls1, hc, e, joins] at hj
                · exact absurd hc h
              · exact ha x hx
            · have hdD := hdg d (by simp)
              right
              intro x hx
              rcases List.mem_cons.mp hx with rfl | hx
              · cases hc : cls x
                · simp [cls1, hc, hdD, joins] at hj
                · simp [cls1, hc, hdD, joins] at hj
                · rfl
                · exact absurd hc h
              · exact hdg x hx
          · exact ih t (by rw [htok]; simp [ht])

/-! ### the normal form of `snake`: canonical words joined by `_` tokenise to themselves (`tokens_joinU`); hence
  `snake_idem`, `alnum_snake`, `word_snake`, `snake_head` -/

def CanonWord (w : Name) : Prop := w ≠ [] ∧ ((∀ c ∈ w, cls c = .L) ∨ (∀ c ∈ w, cls c = .D))

theorem lower_canon {t : Name} (h : Homog t) : CanonWord (lower t) := by
  refine ⟨by simpa [lower] using h.1, ?_⟩
  rcases h.2 with ha | hd
  · left; intro c hc
    simp only [lower, List.mem_map] at hc
    obtain ⟨x, hx, rfl⟩ := hc
    rw [cls_lowerChar]; rcases ha x hx with e | e <;> simp [e]
  · right; intro c hc
    simp only [lower, List.mem_map] at hc
    obtain ⟨x, hx, rfl⟩ := hc
    rw [cls_lowerChar]; simp [hd x hx]

theorem lower_of_canon {w : Name} (h : CanonWord w) : lower w = w := by
  unfold lower
  conv => rhs; rw [← List.map_id w]
  apply List.map_congr_left
  intro c hc
  apply lowerChar_of_not_U
  rcases h.2 with e | e <;> simp [e c hc]

theorem snakeWords_canon (s : Name) : ∀ w ∈ (tokens s).map lower, CanonWord w := by
  intro w hw
  obtain ⟨t, ht, rfl⟩ := List.mem_map.mp hw
  exact lower_canon (tokens_homog s t ht)

theorem tokens_run (k : Cls) (hk : ∀ n2, joins k k n2 = true) (hO : k ≠ .O) (w rest : Name) (hne : w ≠ [])
    (hw : ∀ c ∈ w, cls c = k) (hr : cls1 rest = .O) : tokens (w ++ rest) = w :: tokens rest := by
  induction w with
  | nil => exact absurd rfl hne
  | cons c w ih =>
    have hc : cls c = k := hw c (by simp)
    cases w with
    | nil =>
      simp only [List.cons_append, List.nil_append]
      exact tokens_cons_new rest (by rw [hc]; exact hO) (by rw [hr, joins_O_right])
    | cons d w' =>
      have hd : cls d = k := hw d (by simp)
      have := ih (by simp) (fun x hx => hw x (by simp [hx]))
      simp only [List.cons_append] at this ⊢
      rw [tokens_cons_join _ (by rw [hc]; exact hO) (by simp [cls1, hc, hd, hk]), this]; rfl

theorem tokens_canon_append (w rest : Name) (hw : CanonWord w) (hr : cls1 rest = .O) :
    tokens (w ++ rest) = w :: tokens rest := by
  rcases hw.2 with h | h
  · exact tokens_run .L (fun _ => rfl) (by simp) w rest hw.1 h hr
  · exact tokens_run .D (fun _ => rfl) (by simp) w rest hw.1 h hr

theorem tokens_joinU (ws : List Name) (h : ∀ w ∈ ws, CanonWord w) : tokens (joinU ws) = ws := by
  induction ws with
  | nil => rfl
  | cons w ws ih =>
    cases ws with
    | nil =>
      have := tokens_canon_append w [] (h w (by simp)) rfl
      simpa [joinU, tokens] using this
    | cons w2 ws' =>
      have h1 := tokens_canon_append w ('_' :: joinU (w2 :: ws')) (h w (by simp)) (by simp [cls1, cls_underscore])
      have h2 := ih (fun x hx => h x (by simp [hx]))
      simp only [joinU] at h1 ⊢
      rw [h1, tokens_cons_O _ cls_underscore, h2]

theorem map_lower_canon (ws : List Name) (h : ∀ w ∈ ws, CanonWord w) : ws.map lower = ws := by
  conv => rhs; rw [← List.map_id ws]
  apply List.map_congr_left
  intro w hw; simpa using lower_of_canon (h w hw)

theorem snake_idem (s : Name) : snake (snake s) = snake s := by
  have hc := snakeWords_canon s
  unfold snake
  rw [tokens_joinU _ hc, map_lower_canon _ hc]

theorem alnum_append (a b : Name) : alnum (a ++ b) = alnum a ++ alnum b := by simp [alnum]

theorem alnum_of_noO {w : Name} (h : ∀ c ∈ w, cls c ≠ .O) : alnum w = w := by
  unfold alnum
  apply List.filter_eq_self.mpr
  intro c hc; simp [h c hc]

theorem canon_noO {w : Name} (h : CanonWord w) : ∀ c ∈ w, cls c ≠ .O := by
  intro c hc; rcases h.2 with e | e <;> simp [e c hc]

theorem alnum_joinU (ws : List Name) (h : ∀ w ∈ ws, ∀ c ∈ w, cls c ≠ .O) : alnum (joinU ws) = ws.flatten := by
  induction ws with
  | nil => rfl
  | cons w ws ih =>
    cases ws with
    | nil => simpa [joinU] using alnum_of_noO (h w (by simp))
    | cons w2 ws' =>
      have h2 := ih (fun x hx => h x (by simp [hx]))
      simp only [joinU] at h2 ⊢
      rw [alnum_append, alnum_of_noO (h w (by simp))]
      have : alnum ('_' :: joinU (w2 :: ws')) = alnum (joinU (w2 :: ws')) := by
        simp [alnum, cls_underscore]
      rw [this, h2]; simp

theorem cls_head_alnum {n as : Name} {a : Char} (h : alnum n = a :: as) : cls a ≠ .O := by
  have : a ∈ alnum n := by rw [h]; simp
  simpa [alnum] using (List.mem_filter.mp this).2

theorem flatten_map_lower (ts : List Name) : (ts.map lower).flatten = lower ts.flatten := by
  induction ts with
  | nil => rfl
  | cons t ts ih => simp [lower, List.map_append] at ih ⊢; exact ih

theorem alnum_snake (s : Name) : alnum (snake s) = lower (alnum s) := by
  unfold snake
  rw [alnum_joinU _ (fun w hw => canon_noO (snakeWords_canon s w hw)), flatten_map_lower, tokens_flatten]

theorem lower_alnum (s : Name) : lower (alnum s) = alnum (lower s) := by
  induction s with
  | nil => rfl
  | cons c cs ih =>
    by_cases h : cls c = .O
    · have h' : cls (lowerChar c) = .O := by rw [cls_lowerChar, h]
      simp [alnum, lower, h, h'] at ih ⊢; exact ih
    · have h' : cls (lowerChar c) ≠ .O := cls_lowerChar_ne_O h
      simp [alnum, lower, h, h'] at ih ⊢; exact ih

theorem isWordChar_of_cls {c : Char} (h : cls c ≠ .O) : isWordChar c = true := by simp [isWordChar, h]
theorem isWordChar_underscore : isWordChar '_' = true := by simp [isWordChar]

theorem word_joinU (ws : List Name) (h : ∀ w ∈ ws, ∀ c ∈ w, cls c ≠ .O) : Word (joinU ws) := by
  induction ws with
  | nil => intro c hc; simp [joinU] at hc
  | cons w ws ih =>
    cases ws with
    | nil => intro c hc; exact isWordChar_of_cls (h w (by simp) c (by simpa [joinU] using hc))
    | cons w2 ws' =>
      intro c hc
      simp only [joinU, List.mem_append, List.mem_cons] at hc
      rcases hc with hc | rfl | hc
      · exact isWordChar_of_cls (h w (by simp) c hc)
      · exact isWordChar_underscore
      · exact ih (fun x hx => h x (by simp [hx])) c (by simpa [joinU] using hc)

theorem word_snake (s : Name) : Word (snake s) :=
  word_joinU _ (fun w hw => canon_noO (snakeWords_canon s w hw))

theorem joinU_cons_head (c : Char) (t : Name) (ws : List Name) : ∃ r, joinU ((c :: t) :: ws) = c :: r := by
  cases ws with
  | nil => exact ⟨t, rfl⟩
  | cons w ws => exact ⟨t ++ '_' :: joinU (w :: ws), rfl⟩

theorem snake_head (s : Name) :
    (alnum s = [] ∧ snake s = []) ∨ (∃ a as r, alnum s = a :: as ∧ snake s = lowerChar a :: r) := by
  have hf := tokens_flatten s
  have hh := tokens_homog s
  unfold snake
  cases ht : tokens s with
  | nil => left; rw [ht] at hf; exact ⟨by simpa using hf.symm, rfl⟩
  | cons t ts =>
    right
    have h0 := (hh t (by rw [ht]; simp)).1
    cases t with
    | nil => exact absurd rfl h0
    | cons a t' =>
      rw [ht] at hf
      obtain ⟨r, hr⟩ := joinU_cons_head (lowerChar a) (lower t') (ts.map lower)
      refine ⟨a, t' ++ ts.flatten, r, by simpa using hf.symm, ?_⟩
      simpa [lower] using hr

theorem snake_eq_nil_iff (s : Name) : snake s = [] ↔ alnum s = [] := by
  rcases snake_head s with ⟨h1, h2⟩ | ⟨a, as, r, h1, h2⟩
  · simp [h1, h2]
  · simp [h1, h2]

/-! ### the suffix for keywords and reserved words: a name with `_` appended is in neither table, so at most one `_`
  is appended (`suffix_cases`) and a second pass changes nothing (`suffix_idem`) -/

theorem cls1_append_underscore (p : Name) : cls1 (p ++ ['_']) = cls1 p := by
  cases p <;> simp [cls1, cls_underscore]

theorem tokens_append_underscore (p : Name) : tokens (p ++ ['_']) = tokens p := by
  induction p with
  | nil => simp [tokens, cls_underscore]
  | cons c cs ih =>
    by_cases h : cls c = .O
    · simp only [List.cons_append]; rw [tokens_cons_O _ h, tokens_cons_O _ h, ih]
    · have e1 : cls1 (cs ++ ['_']) = cls1 cs := cls1_append_underscore cs
      have e2 : cls1 (cs ++ ['_']).tail = cls1 cs.tail := by
        cases cs with
        | nil => simp [cls1]
        | cons d ds => simpa using cls1_append_underscore ds
      simp only [List.cons_append]
      cases hj : joins (cls c) (cls1 cs) (cls1 cs.tail)
      · rw [tokens_cons_new _ h (by rw [e1, e2]; exact hj), tokens_cons_new _ h hj, ih]
      · rw [tokens_cons_join _ h (by rw [e1, e2]; exact hj), tokens_cons_join _ h hj, ih]

theorem snake_append_underscore (p : Name) : snake (p ++ ['_']) = snake p := by
  simp [snake, tokens_append_underscore]

/-! What is evaluated over the two word tables is one linear sweep (`table_ends`); that appending `_` never
  leads into a table again follows from it: the result ends with `_`, and no entry does. -/

theorem table_ends : ∀ k ∈ kwlistC ++ reservedC, k ≠ [] ∧ k.head? ≠ some '_' ∧ k.getLast? ≠ some '_' := by
  decide +kernel

theorem tables_no_trail_underscore : ∀ k ∈ kwlistC ++ reservedC, k.getLast? ≠ some '_' :=
  fun k h => (table_ends k h).2.2

theorem snoc_underscore_not_in_tables (p : Name) : p ++ ['_'] ∉ kwlistC ++ reservedC :=
  fun h => tables_no_trail_underscore _ h (by simp)

theorem mem_tablesC {s : String} (h : s ∈ Tables.kwlist ++ Tables.pydanticReserved) :
    s.toList ∈ kwlistC ++ reservedC := by
  rcases List.mem_append.mp h with h | h
  · exact List.mem_append_left _ (List.mem_map_of_mem h)
  · exact List.mem_append_right _ (List.mem_map_of_mem h)

theorem append_underscore_not_in_tables (k : String) : (k ++ "_") ∉ Tables.kwlist ++ Tables.pydanticReserved := by
  intro h
  have := mem_tablesC h
  rw [String.toList_append] at this
  exact snoc_underscore_not_in_tables k.toList this

theorem fallback_facts :
    fallbackName = snake fallbackName ++ ['_'] ∧ snake fallbackName ∉ kwlistC ++ reservedC ∧
    PyIdent fallbackName ∧ fallbackName.head? ≠ some '_' ∧ alnum fallbackName ≠ [] ∧
    allUnderscore fallbackName = false := by decide +kernel

theorem fallback_ne_nil : fallbackName ≠ [] := by rw [fallback_facts.1]; simp
theorem fallback_alnum_ne_nil : alnum fallbackName ≠ [] := fallback_facts.2.2.2.2.1

theorem suspect_iff (cfg : Cfg) (p : Name) :
    suspect cfg p = true ↔ (p ∈ kwlistC ∨ (cfg.reserved = true ∧ p ∈ reservedC)) := by
  simp [suspect]

theorem mem_tables_of_suspect {cfg : Cfg} {p : Name} (h : suspect cfg p = true) : p ∈ kwlistC ++ reservedC := by
  rcases (suspect_iff cfg p).mp h with h | ⟨_, h⟩ <;> simp [h]

theorem not_suspect {cfg : Cfg} {p : Name} (h : p ∉ kwlistC ++ reservedC) : suspect cfg p = false := by
  cases hs : suspect cfg p
  · rfl
  · exact absurd (mem_tables_of_suspect hs) h

theorem suspect_append_underscore (cfg : Cfg) (p : Name) : suspect cfg (p ++ ['_']) = false :=
  not_suspect (snoc_underscore_not_in_tables p)

def suffix (cfg : Cfg) (p : Name) : Name := suffixRes cfg.reserved (suffixKw p)

theorem suffix_cases (cfg : Cfg) (p : Name) :
    (suspect cfg p = false ∧ suffix cfg p = p) ∨ (suspect cfg p = true ∧ suffix cfg p = p ++ ['_']) := by
  unfold suffix suffixKw suffixRes
  by_cases hk : p ∈ kwlistC
  · right
    have h2 : p ++ ['_'] ∉ reservedC := fun h => snoc_underscore_not_in_tables p (List.mem_append_right _ h)
    exact ⟨(suspect_iff cfg p).mpr (Or.inl hk), by simp [hk, h2]⟩
  · by_cases hr : cfg.reserved = true ∧ p ∈ reservedC
    · right; exact ⟨(suspect_iff cfg p).mpr (Or.inr hr), by simp [hk, hr]⟩
    · left
      refine ⟨?_, by simp [hk, hr]⟩
      cases hs : suspect cfg p
      · rfl
      · rcases (suspect_iff cfg p).mp hs with h | h
        · exact absurd h hk
        · exact absurd h hr

theorem suspect_suffix (cfg : Cfg) (p : Name) : suspect cfg (suffix cfg p) = false := by
  rcases suffix_cases cfg p with ⟨h, e⟩ | ⟨h, e⟩
  · rw [e]; exact h
  · rw [e]; exact suspect_append_underscore cfg p

theorem suffix_eq_self_iff (cfg : Cfg) (p : Name) : suffix cfg p = p ↔ suspect cfg p = false := by
  rcases suffix_cases cfg p with ⟨h, e⟩ | ⟨h, e⟩
  · simp [h, e]
  · rw [e, h]; simp

theorem suffix_of_not_suspect (cfg : Cfg) {p : Name} (h : suspect cfg p = false) : suffix cfg p = p :=
  (suffix_eq_self_iff cfg p).mpr h

theorem suffix_idem (cfg : Cfg) (p : Name) : suffix cfg (suffix cfg p) = suffix cfg p :=
  suffix_of_not_suspect cfg (suspect_suffix cfg p)

theorem suspect_nil (cfg : Cfg) : suspect cfg [] = false :=
  not_suspect fun h => (table_ends _ h).1 rfl

theorem suspect_lead_underscore (cfg : Cfg) (r : Name) : suspect cfg ('_' :: r) = false :=
  not_suspect fun h => (table_ends _ h).2.1 rfl

theorem suspect_fallback (cfg : Cfg) : suspect cfg fallbackName = false := by
  rw [fallback_facts.1]; exact suspect_append_underscore cfg _

theorem suffix_nil (cfg : Cfg) : suffix cfg [] = [] := suffix_of_not_suspect cfg (suspect_nil cfg)

theorem suffix_ne_nil (cfg : Cfg) {p : Name} (h : p ≠ []) : suffix cfg p ≠ [] := by
  rcases suffix_cases cfg p with ⟨_, e⟩ | ⟨_, e⟩ <;> rw [e] <;> simp [h]

theorem suffix_head (cfg : Cfg) (c : Char) (r : Name) : ∃ r', suffix cfg (c :: r) = c :: r' := by
  rcases suffix_cases cfg (c :: r) with ⟨_, e⟩ | ⟨_, e⟩
  · exact ⟨r, e⟩
  · exact ⟨r ++ ['_'], by rw [e]; rfl⟩

theorem lstripU_nil : lstripU [] = [] := rfl
theorem lstripU_underscore (r : Name) : lstripU ('_' :: r) = lstripU r := by simp [lstripU]
theorem lstripU_of_ne {c : Char} (r : Name) (h : c ≠ '_') : lstripU (c :: r) = c :: r := by
  simp [lstripU, h]

theorem lstripU_shape (n : Name) : lstripU n = [] ∨ ∃ c r, lstripU n = c :: r ∧ c ≠ '_' := by
  induction n with
  | nil => left; rfl
  | cons c cs ih =>
    by_cases h : c = '_'
    · subst h; rw [lstripU_underscore]; exact ih
    · right; exact ⟨c, cs, lstripU_of_ne cs h, h⟩

theorem lstripU_idem (n : Name) : lstripU (lstripU n) = lstripU n := by
  rcases lstripU_shape n with h | ⟨c, r, h, hc⟩
  · rw [h]; rfl
  · rw [h, lstripU_of_ne r hc]

theorem lstripU_mem {n : Name} {c : Char} (h : c ∈ lstripU n) : c ∈ n :=
  (List.dropWhile_sublist _).subset h

theorem lstripU_lead_ne (r : Name) : ('_' :: r) ≠ lstripU r := by
  intro e
  have h := (List.dropWhile_sublist (l := r) (· == '_')).length_le
  have := congrArg List.length e
  simp only [lstripU, List.length_cons] at this
  omega

theorem allUnderscore_iff (n : Name) : allUnderscore n = true ↔ n ≠ [] ∧ ∀ c ∈ n, c = '_' := by
  cases n <;> simp [allUnderscore]

theorem lstripU_eq_nil_iff (n : Name) : lstripU n = [] ↔ ∀ c ∈ n, c = '_' := by
  induction n with
  | nil => simp [lstripU]
  | cons c cs ih =>
    by_cases h : c = '_'
    · subst h; rw [lstripU_underscore, ih]; simp
    · rw [lstripU_of_ne cs h]; simp [h]

theorem allUnderscore_lead_iff (r : Name) : allUnderscore ('_' :: r) = true ↔ lstripU r = [] := by
  rw [allUnderscore_iff, lstripU_eq_nil_iff]; simp

theorem allUnderscore_alnum {n : Name} (h : allUnderscore n = true) : alnum n = [] := by
  have := ((allUnderscore_iff n).mp h).2
  unfold alnum
  apply List.filter_eq_nil_iff.mpr
  intro c hc; rw [this c hc]; simp [cls_underscore]

theorem allUnderscore_cons_false {c : Char} (r : Name) (h : c ≠ '_') : allUnderscore (c :: r) = false := by
  cases hs : allUnderscore (c :: r)
  · rfl
  · exact absurd (((allUnderscore_iff _).mp hs).2 c (by simp)) h

theorem processName_eq (cfg : Cfg) (n : Name) :
    processName cfg n =
      (if allUnderscore n && (if cfg.trim then lstripU (suffix cfg (if cfg.snake then snake n else n))
                               else suffix cfg (if cfg.snake then snake n else n)).isEmpty
       then fallbackName
       else (if cfg.trim then lstripU (suffix cfg (if cfg.snake then snake n else n))
             else suffix cfg (if cfg.snake then snake n else n))) := rfl

theorem processName_snake_allU (cfg : Cfg) (n : Name) (hs : cfg.snake = true) (hu : allUnderscore n = true) :
    processName cfg n = fallbackName := by
  have h0 : snake n = [] := (snake_eq_nil_iff n).mpr (allUnderscore_alnum hu)
  rw [processName_eq]; simp [hs, hu, h0, suffix_nil, lstripU_nil]

/-- trimming has nothing to trim: a snake-cased name does not begin with `_` -/
theorem processName_snake (cfg : Cfg) (n : Name) (hs : cfg.snake = true) (hu : allUnderscore n = false) :
    processName cfg n = suffix cfg (snake n) := by
  rw [processName_eq]; simp only [hs, hu, Bool.false_and, if_true, Bool.false_eq_true, if_false]
  cases ht : cfg.trim
  · simp
  · simp only [if_true]
    rcases snake_head n with ⟨_, h2⟩ | ⟨a, as, r, h1, h2⟩
    · rw [h2, suffix_nil]; rfl
    · rw [h2]
      obtain ⟨r', hr'⟩ := suffix_head cfg (lowerChar a) r
      rw [hr']
      apply lstripU_of_ne
      apply ne_underscore_of_cls
      exact cls_lowerChar_ne_O (cls_head_alnum h1)

theorem processName_plain (cfg : Cfg) (n : Name) (hs : cfg.snake = false) (ht : cfg.trim = false) (hn : n ≠ []) :
    processName cfg n = suffix cfg n := by
  rw [processName_eq]
  have : (suffix cfg n).isEmpty = false := by
    cases h : suffix cfg n with
    | nil => exact absurd h (suffix_ne_nil cfg hn)
    | cons _ _ => rfl
  simp [hs, ht, this]

theorem processName_trim_lead (cfg : Cfg) (r : Name) (hs : cfg.snake = false) (ht : cfg.trim = true) :
    processName cfg ('_' :: r) = if lstripU r = [] then fallbackName else lstripU r := by
  have hsuf := suffix_of_not_suspect cfg (suspect_lead_underscore cfg r)
  rw [processName_eq]
  simp only [hs, ht, if_true, Bool.false_eq_true, if_false, hsuf, lstripU_underscore]
  by_cases h : lstripU r = []
  · simp [h, (allUnderscore_lead_iff r).mpr h]
  · have : (lstripU r).isEmpty = false := by
      cases h' : lstripU r with
      | nil => exact absurd h' h
      | cons _ _ => rfl
    simp [h, this]

theorem processName_trim_nolead (cfg : Cfg) (c : Char) (r : Name) (hs : cfg.snake = false) (hc : c ≠ '_') :
    processName cfg (c :: r) = suffix cfg (c :: r) := by
  rw [processName_eq]
  obtain ⟨r', hr'⟩ := suffix_head cfg c r
  have hu := allUnderscore_cons_false r hc
  cases ht : cfg.trim
  · simp [hs, hu]
  · simp [hs, hu, hr', lstripU_of_ne r' hc]

theorem alnum_append_underscore (p : Name) : alnum (p ++ ['_']) = alnum p := by
  simp [alnum, cls_underscore]

theorem alnum_suffix (cfg : Cfg) (p : Name) : alnum (suffix cfg p) = alnum p := by
  rcases suffix_cases cfg p with ⟨_, e⟩ | ⟨_, e⟩ <;> rw [e]
  exact alnum_append_underscore p

theorem alnum_lstripU (n : Name) : alnum (lstripU n) = alnum n := by
  induction n with
  | nil => rfl
  | cons c cs ih =>
    by_cases h : c = '_'
    · subst h; rw [lstripU_underscore, ih]; simp [alnum, cls_underscore]
    · rw [lstripU_of_ne cs h]

theorem fallbackFires_iff (cfg : Cfg) (n : Name) :
    fallbackFires cfg n = true ↔ allUnderscore n = true ∧ (cfg.snake = true ∨ cfg.trim = true) := by
  simp [fallbackFires]

theorem alnum_processName (cfg : Cfg) (n : Name) (h : fallbackFires cfg n = false) :
    alnum (processName cfg n) = if cfg.snake then lower (alnum n) else alnum n := by
  have hff : ¬ (allUnderscore n = true ∧ (cfg.snake = true ∨ cfg.trim = true)) := by
    intro hh; rw [(fallbackFires_iff cfg n).mpr hh] at h; exact absurd h (by simp)
  cases hs : cfg.snake
  · simp only [Bool.false_eq_true, if_false]
    cases n with
    | nil => rw [processName_eq]; simp [hs, suffix_nil, lstripU_nil, allUnderscore]
    | cons c r =>
      by_cases hc : c = '_'
      · subst hc
        cases ht : cfg.trim
        · rw [processName_plain cfg _ hs ht (by simp), alnum_suffix]
        · rw [processName_trim_lead cfg r hs ht]
          by_cases hl : lstripU r = []
          · exact absurd ⟨(allUnderscore_lead_iff r).mpr hl, Or.inr ht⟩ hff
          · simp only [hl, if_false]
            rw [alnum_lstripU]; simp [alnum, cls_underscore]
      · rw [processName_trim_nolead cfg c r hs hc, alnum_suffix]
  · simp only [if_true]
    have hu : allUnderscore n = false := by
      cases hu : allUnderscore n
      · rfl
      · exact absurd ⟨hu, Or.inl hs⟩ hff
    rw [processName_snake cfg n hs hu, alnum_suffix, alnum_snake]

theorem fallback_processName (cfg : Cfg) (n : Name) (h : fallbackFires cfg n = true) :
    alnum n = [] ∧ processName cfg n = fallbackName := by
  obtain ⟨hu, hst⟩ := (fallbackFires_iff cfg n).mp h
  refine ⟨allUnderscore_alnum hu, ?_⟩
  cases hs : cfg.snake
  · have ht : cfg.trim = true := by rcases hst with h | h; rw [hs] at h; exact absurd h (by simp); exact h
    obtain ⟨hne, hall⟩ := (allUnderscore_iff n).mp hu
    cases n with
    | nil => exact absurd rfl hne
    | cons c r =>
      have hc : c = '_' := hall c (by simp)
      subst hc
      rw [processName_trim_lead cfg r hs ht]
      have : lstripU r = [] := (lstripU_eq_nil_iff r).mpr (fun x hx => hall x (by simp [hx]))
      simp [this]
  · exact processName_snake_allU cfg n hs hu

theorem word_cons (c : Char) (r : Name) : Word (c :: r) ↔ isWordChar c = true ∧ Word r := by
  simp [Word]

theorem word_append_underscore (p : Name) : Word (p ++ ['_']) ↔ Word p := by
  simp only [Word, List.mem_append, List.mem_singleton]
  constructor
  · intro h c hc; exact h c (Or.inl hc)
  · intro h c hc
    rcases hc with hc | rfl
    · exact h c hc
    · exact isWordChar_underscore

theorem pyIdent_cons (c : Char) (r : Name) :
    PyIdent (c :: r) ↔ (cls c = .U ∨ cls c = .L ∨ c = '_') ∧ Word r := Iff.rfl

theorem pyIdent_append_underscore (p : Name) (h : p ≠ []) : PyIdent (p ++ ['_']) ↔ PyIdent p := by
  cases p with
  | nil => exact absurd rfl h
  | cons c r => simp only [List.cons_append, pyIdent_cons, word_append_underscore]

theorem pyIdent_suffix (cfg : Cfg) (p : Name) (h : p ≠ []) : PyIdent (suffix cfg p) ↔ PyIdent p := by
  rcases suffix_cases cfg p with ⟨_, e⟩ | ⟨_, e⟩ <;> rw [e]
  exact pyIdent_append_underscore p h

theorem outOK_iff (cfg : Cfg) (o : Name) : OutOK cfg o ↔ PyIdent o ∧ suspect cfg o = false := by
  unfold OutOK
  constructor
  · rintro ⟨h1, h2, h3⟩
    refine ⟨h1, ?_⟩
    cases hs : suspect cfg o
    · rfl
    · rcases (suspect_iff cfg o).mp hs with h | ⟨hr, h⟩
      · exact absurd h h2
      · exact absurd h (h3 hr)
  · rintro ⟨h1, h2⟩
    refine ⟨h1, ?_, ?_⟩
    · intro hk; rw [(suspect_iff cfg o).mpr (Or.inl hk)] at h2; exact absurd h2 (by simp)
    · intro hr hk; rw [(suspect_iff cfg o).mpr (Or.inr ⟨hr, hk⟩)] at h2; exact absurd h2 (by simp)

theorem outOK_fallback (cfg : Cfg) : OutOK cfg fallbackName :=
  (outOK_iff cfg _).mpr ⟨fallback_facts.2.2.1, suspect_fallback cfg⟩

theorem gname_word {n : Name} (h : GName n) : Word n := by
  cases n with
  | nil => exact absurd h (by simp [GName])
  | cons c r =>
    obtain ⟨hc, hr⟩ := h
    refine (word_cons c r).mpr ⟨?_, hr⟩
    rcases hc with e | e | e
    · exact isWordChar_of_cls (by simp [e])
    · exact isWordChar_of_cls (by simp [e])
    · subst e; exact isWordChar_underscore

theorem dot_not_word : isWordChar '.' = false := by decide +kernel

/-- a GraphQL name contains no dot (so a name with a dot in it is a dotted path, never a name) -/
theorem gname_no_dot {l : Name} (h : GName l) : '.' ∉ l :=
  fun hm => Bool.false_ne_true (dot_not_word ▸ gname_word h '.' hm)

theorem wordChar_cases {c : Char} (h : isWordChar c = true) : cls c ≠ .O ∨ c = '_' := by
  simp only [isWordChar, Bool.or_eq_true, bne_iff_ne, ne_eq, beq_iff_eq] at h
  exact h

theorem alnum_ne_nil_of_word {n : Name} (hw : Word n) (hu : ¬ ∀ c ∈ n, c = '_') : alnum n ≠ [] := by
  intro ha
  apply hu
  intro c hc
  rcases wordChar_cases (hw c hc) with h | h
  · exfalso
    have : c ∈ alnum n := List.mem_filter.mpr ⟨hc, by simp [h]⟩
    rw [ha] at this; simp at this
  · exact h

theorem alnum_ne_nil_of_gname {n : Name} (hg : GName n) (hu : allUnderscore n = false) : alnum n ≠ [] := by
  apply alnum_ne_nil_of_word (gname_word hg)
  intro hall
  have hne : n ≠ [] := by intro e; subst e; simp [GName] at hg
  rw [(allUnderscore_iff n).mpr ⟨hne, hall⟩] at hu
  cases hu

theorem word_lstripU {n : Name} (h : Word n) : Word (lstripU n) := fun c hc => h c (lstripU_mem hc)

theorem pyIdent_of_word_ne {c : Char} {r : Name} (hw : Word (c :: r)) (hc : c ≠ '_') :
    PyIdent (c :: r) ↔ cls c ≠ .D := by
  obtain ⟨h1, h2⟩ := (word_cons c r).mp hw
  have hO : cls c ≠ .O := by
    rcases wordChar_cases h1 with h | h
    · exact h
    · exact absurd h hc
  rw [pyIdent_cons]
  constructor
  · rintro ⟨h | h | h, _⟩
    · simp [h]
    · simp [h]
    · exact absurd h hc
  · intro hD
    refine ⟨?_, h2⟩
    cases hcl : cls c
    · exact Or.inl rfl
    · exact Or.inr (Or.inl rfl)
    · exact absurd hcl hD
    · exact absurd hcl hO

theorem snake_fallback_ne : snake fallbackName ≠ fallbackName := fun e => by
  have h := fallback_facts.1
  rw [e] at h
  exact absurd (List.self_eq_append_right.mp h) (by simp)

theorem fallback_cons : ∃ c r, fallbackName = c :: r ∧ c ≠ '_' := by
  cases h : fallbackName with
  | nil => exact absurd h fallback_ne_nil
  | cons c r =>
    refine ⟨c, r, rfl, ?_⟩
    intro e; subst e
    have := fallback_facts.2.2.2.1; rw [h] at this; simp at this

theorem processName_fallback_snake (cfg : Cfg) (hs : cfg.snake = true) :
    processName cfg fallbackName ≠ fallbackName := by
  rw [processName_snake cfg _ hs fallback_facts.2.2.2.2.2, suffix_of_not_suspect cfg (not_suspect fallback_facts.2.1)]
  exact snake_fallback_ne

theorem processName_fallback_plain (cfg : Cfg) (hs : cfg.snake = false) :
    processName cfg fallbackName = fallbackName := by
  obtain ⟨c, r, e, hc⟩ := fallback_cons
  have h := processName_trim_nolead cfg c r hs hc
  rw [← e] at h
  rw [h, suffix_of_not_suspect cfg (suspect_fallback cfg)]

theorem processName_snake_fixed (cfg : Cfg) (n : Name) (hs : cfg.snake = true) (hu : allUnderscore n = false)
    (ha : alnum n ≠ []) : processName cfg (processName cfg n) = processName cfg n := by
  rw [processName_snake cfg n hs hu]
  rcases snake_head n with ⟨h1, _⟩ | ⟨a, as, r, h1, h2⟩
  · exact absurd h1 ha
  · have hne : lowerChar a ≠ '_' := ne_underscore_of_cls (cls_lowerChar_ne_O (cls_head_alnum h1))
    obtain ⟨r', hr'⟩ := suffix_head cfg (lowerChar a) r
    have hq : suffix cfg (snake n) = lowerChar a :: r' := by rw [h2, hr']
    have hu2 : allUnderscore (suffix cfg (snake n)) = false := by
      rw [hq]; exact allUnderscore_cons_false r' hne
    rw [processName_snake cfg _ hs hu2]
    have : snake (suffix cfg (snake n)) = snake n := by
      rcases suffix_cases cfg (snake n) with ⟨_, e⟩ | ⟨_, e⟩
      · rw [e, snake_idem]
      · rw [e, snake_append_underscore, snake_idem]
    rw [this]

theorem suspect_fallback_stem (cfg : Cfg) (p : Name) (h : p ++ ['_'] = fallbackName) : suspect cfg p = false := by
  rw [fallback_facts.1] at h
  rw [List.append_cancel_right h]
  exact not_suspect fallback_facts.2.1

theorem suffix_eq_cases (cfg : Cfg) (p q : Name) (h : suffix cfg p = suffix cfg q) :
    p = q ∨ (suspect cfg q = true ∧ p = q ++ ['_']) ∨ (suspect cfg p = true ∧ q = p ++ ['_']) := by
  rcases suffix_cases cfg p with ⟨hp, ep⟩ | ⟨hp, ep⟩ <;> rcases suffix_cases cfg q with ⟨hq, eq⟩ | ⟨hq, eq⟩
  · left; rw [ep, eq] at h; exact h
  · right; left; rw [ep, eq] at h; exact ⟨hq, h⟩
  · right; right; rw [ep, eq] at h; exact ⟨hp, h.symm⟩
  · left; rw [ep, eq] at h; exact List.append_cancel_right h

theorem suffix_of_suspect (cfg : Cfg) {p : Name} (h : suspect cfg p = true) : suffix cfg p = p ++ ['_'] := by
  rcases suffix_cases cfg p with ⟨hp, _⟩ | ⟨_, e⟩
  · rw [h] at hp; exact absurd hp (by simp)
  · exact e

theorem append_eq_snoc_underscore (a b x : Name) (hb : b ≠ []) (e : a ++ b = x ++ ['_']) : ∃ y, b = y ++ ['_'] := by
  induction a generalizing x with
  | nil => exact ⟨x, by simpa using e⟩
  | cons c a ih =>
    cases x with
    | nil =>
      simp only [List.cons_append, List.nil_append, List.cons.injEq] at e
      have : b = [] := (List.append_eq_nil_iff.mp e.2).2
      exact absurd this hb
    | cons c' x' =>
      simp only [List.cons_append, List.cons.injEq] at e
      exact ih x' e.2

theorem joinU_not_trailing (ws : List Name) (h : ∀ w ∈ ws, CanonWord w) (x : Name) : joinU ws ≠ x ++ ['_'] := by
  induction ws generalizing x with
  | nil => simp [joinU]
  | cons w ws ih =>
    have hw := h w (by simp)
    cases ws with
    | nil =>
      simp only [joinU]
      intro e
      have hm : '_' ∈ w := by rw [e]; simp
      exact canon_noO hw '_' hm cls_underscore
    | cons w2 ws' =>
      simp only [joinU]
      intro e
      have h2 := ih (fun y hy => h y (by simp [hy]))
      -- the last character of the right part is the last character of the whole
      have hne : joinU (w2 :: ws') ≠ [] := by
        have h2w := h w2 (by simp)
        cases w2 with
        | nil => exact absurd rfl h2w.1
        | cons c t => obtain ⟨r, hr⟩ := joinU_cons_head c t ws'; rw [hr]; simp
      have e' : w ++ '_' :: joinU (w2 :: ws') = (w ++ ['_']) ++ joinU (w2 :: ws') := by simp
      rw [e'] at e
      obtain ⟨y, hy⟩ := append_eq_snoc_underscore _ _ _ hne e
      exact h2 y hy

theorem snake_not_trailing (s x : Name) : snake s ≠ x ++ ['_'] :=
  joinU_not_trailing _ (snakeWords_canon s) x

theorem gname_ne_nil {n : Name} (h : GName n) : n ≠ [] := by
  intro e; subst e; simp [GName] at h

theorem allUnderscore_iff_snake_nil {n : Name} (h : GName n) : allUnderscore n = true ↔ snake n = [] := by
  constructor
  · intro hu; exact (snake_eq_nil_iff n).mpr (allUnderscore_alnum hu)
  · intro hs
    cases hu : allUnderscore n
    · exact absurd ((snake_eq_nil_iff n).mp hs) (alnum_ne_nil_of_gname h hu)
    · rfl

theorem suffix_eq_fallback_iff (cfg : Cfg) (b : Name) : suffix cfg b = fallbackName ↔ b = fallbackName := by
  constructor
  · intro h
    rcases suffix_cases cfg b with ⟨_, e⟩ | ⟨hsb, e⟩
    · rw [e] at h; exact h
    · rw [e] at h; rw [suspect_fallback_stem cfg b h] at hsb; exact absurd hsb (by simp)
  · intro h; rw [h]; exact suffix_of_not_suspect cfg (suspect_fallback cfg)

theorem fallback_ne_suffix_snake (cfg : Cfg) (s : Name) : suffix cfg (snake s) ≠ fallbackName := fun e =>
  snake_not_trailing s _ (((suffix_eq_fallback_iff cfg _).mp e).trans fallback_facts.1)

theorem collide_snake (cfg : Cfg) (hs : cfg.snake = true) (a b : Name) (ha : GName a) (hb : GName b) :
    processName cfg a = processName cfg b ↔ snake a = snake b := by
  cases hua : allUnderscore a <;> cases hub : allUnderscore b
  · rw [processName_snake cfg a hs hua, processName_snake cfg b hs hub]
    constructor
    · intro h
      rcases suffix_eq_cases cfg _ _ h with e | ⟨_, e⟩ | ⟨_, e⟩
      · exact e
      · exact absurd e (snake_not_trailing a _)
      · exact absurd e (snake_not_trailing b _)
    · intro h; rw [h]
  · rw [processName_snake cfg a hs hua, processName_snake_allU cfg b hs hub]
    have hb0 := (allUnderscore_iff_snake_nil hb).mp hub
    have ha0 : snake a ≠ [] := fun e => by
      have := (allUnderscore_iff_snake_nil ha).mpr e; rw [hua] at this; exact absurd this (by simp)
    constructor
    · intro h; exact absurd h (fallback_ne_suffix_snake cfg a)
    · intro h; rw [hb0] at h; exact absurd h ha0
  · rw [processName_snake_allU cfg a hs hua, processName_snake cfg b hs hub]
    have ha0 := (allUnderscore_iff_snake_nil ha).mp hua
    have hb0 : snake b ≠ [] := fun e => by
      have := (allUnderscore_iff_snake_nil hb).mpr e; rw [hub] at this; exact absurd this (by simp)
    constructor
    · intro h; exact absurd h.symm (fallback_ne_suffix_snake cfg b)
    · intro h; rw [ha0] at h; exact absurd h.symm hb0
  · rw [processName_snake_allU cfg a hs hua, processName_snake_allU cfg b hs hub,
      (allUnderscore_iff_snake_nil ha).mp hua, (allUnderscore_iff_snake_nil hb).mp hub]
    simp

theorem collide_plain (cfg : Cfg) (hs : cfg.snake = false) (ht : cfg.trim = false) (a b : Name)
    (ha : a ≠ []) (hb : b ≠ []) :
    processName cfg a = processName cfg b ↔
      (a = b ∨ (suspect cfg b = true ∧ a = b ++ ['_']) ∨ (suspect cfg a = true ∧ b = a ++ ['_'])) := by
  rw [processName_plain cfg a hs ht ha, processName_plain cfg b hs ht hb]
  constructor
  · exact suffix_eq_cases cfg a b
  · rintro (e | ⟨h, e⟩ | ⟨h, e⟩)
    · rw [e]
    · rw [e, suffix_of_suspect cfg h, suffix_of_not_suspect cfg (suspect_append_underscore cfg b)]
    · rw [e, suffix_of_suspect cfg h, suffix_of_not_suspect cfg (suspect_append_underscore cfg a)]

/-- the three kinds of non-empty names under trimming: K1 only underscores, K2 underscores in front of something, K3 none in front -/
theorem kind_cases (x : Name) (hx : x ≠ []) :
    (allUnderscore x = true ∧ lstripU x = [] ∧ x ≠ lstripU x ∧ (∀ cfg, suspect cfg x = false)) ∨
    (allUnderscore x = false ∧ lstripU x ≠ [] ∧ x ≠ lstripU x ∧ (∀ cfg, suspect cfg x = false)) ∨
    (allUnderscore x = false ∧ x = lstripU x) := by
  cases x with
  | nil => exact absurd rfl hx
  | cons c r =>
    by_cases hc : c = '_'
    · subst hc
      have hne : ('_' :: r) ≠ lstripU ('_' :: r) := by rw [lstripU_underscore]; exact lstripU_lead_ne r
      by_cases hl : lstripU r = []
      · left
        exact ⟨(allUnderscore_lead_iff r).mpr hl, by rw [lstripU_underscore]; exact hl, hne,
          fun cfg => suspect_lead_underscore cfg r⟩
      · right; left
        exact ⟨Bool.eq_false_iff.mpr fun hu => hl ((allUnderscore_lead_iff r).mp hu),
          by rw [lstripU_underscore]; exact hl, hne, fun cfg => suspect_lead_underscore cfg r⟩
    · right; right
      exact ⟨allUnderscore_cons_false r hc, (lstripU_of_ne r hc).symm⟩

theorem processName_trim (cfg : Cfg) (hs : cfg.snake = false) (ht : cfg.trim = true) (x : Name) (hx : x ≠ []) :
    processName cfg x =
      if allUnderscore x = true then fallbackName else if x = lstripU x then suffix cfg x else lstripU x := by
  cases x with
  | nil => exact absurd rfl hx
  | cons c r =>
    by_cases hc : c = '_'
    · subst hc
      rw [processName_trim_lead cfg r hs ht]
      rcases kind_cases ('_' :: r) (by simp) with ⟨h1, h2, h3, _⟩ | ⟨h1, h2, h3, _⟩ | ⟨_, h2⟩
      · rw [lstripU_underscore] at h2; simp [h1, h2]
      · have h2' := h2; rw [lstripU_underscore] at h2'
        simp only [h1, h2', if_false, Bool.false_eq_true]
        rw [if_neg h3, lstripU_underscore]
      · rw [lstripU_underscore] at h2
        exact absurd h2 (lstripU_lead_ne r)
    · rw [processName_trim_nolead cfg c r hs hc]
      simp [allUnderscore_cons_false r hc, lstripU_of_ne r hc]

/-- the right-hand side of the characterisation under (snake off, trim on), as a proposition -/
def TrimRHS (cfg : Cfg) (a b : Name) : Prop :=
  a = b ∨
  (lstripU a = lstripU b ∧ ((a ≠ lstripU a ∧ b ≠ lstripU b) ∨ suspect cfg (lstripU a) = false)) ∨
  ((suspect cfg b = true ∧ lstripU a = b ++ ['_']) ∨ (suspect cfg a = true ∧ lstripU b = a ++ ['_'])) ∨
  ((allUnderscore a = true ∧ allUnderscore b = false ∧ lstripU b = fallbackName) ∨
   (allUnderscore b = true ∧ allUnderscore a = false ∧ lstripU a = fallbackName))

theorem TrimRHS_symm (cfg : Cfg) (a b : Name) : TrimRHS cfg a b → TrimRHS cfg b a := by
  rintro (h | ⟨h1, h2⟩ | (h | h) | (h | h))
  · exact Or.inl h.symm
  · refine Or.inr (Or.inl ⟨h1.symm, ?_⟩)
    rcases h2 with ⟨x, y⟩ | x
    · exact Or.inl ⟨y, x⟩
    · exact Or.inr (by rw [← h1]; exact x)
  · exact Or.inr (Or.inr (Or.inl (Or.inr h)))
  · exact Or.inr (Or.inr (Or.inl (Or.inl h)))
  · exact Or.inr (Or.inr (Or.inr (Or.inr h)))
  · exact Or.inr (Or.inr (Or.inr (Or.inl h)))

/-- `collide_trim` for the six of the nine pairs of kinds in which `a`'s kind comes no later than `b`'s (`horder`);
    the other three are these mirrored, by `TrimRHS_symm` -/
theorem collide_trim_aux (cfg : Cfg) (hs : cfg.snake = false) (ht : cfg.trim = true) (a b : Name)
    (ha : a ≠ []) (hb : b ≠ [])
    (horder : allUnderscore a = true ∨ (a ≠ lstripU a ∧ allUnderscore b = false) ∨ (a = lstripU a ∧ b = lstripU b)) :
    processName cfg a = processName cfg b ↔ TrimRHS cfg a b := by
  rw [processName_trim cfg hs ht a ha, processName_trim cfg hs ht b hb]
  rcases kind_cases a ha with ⟨a1, a2, a3, a4⟩ | ⟨a1, a2, a3, a4⟩ | ⟨a1, a2⟩ <;>
    rcases kind_cases b hb with ⟨b1, b2, b3, b4⟩ | ⟨b1, b2, b3, b4⟩ | ⟨b1, b2⟩
  · -- K1 K1
    simp only [a1, b1, if_true, true_iff]
    exact Or.inr (Or.inl ⟨by rw [a2, b2], Or.inl ⟨a3, b3⟩⟩)
  · -- K1 K2
    simp only [a1, b1, if_true, if_false, Bool.false_eq_true, if_neg b3]
    constructor
    · intro h; exact Or.inr (Or.inr (Or.inr (Or.inl ⟨a1, b1, h.symm⟩)))
    · rintro (h | ⟨h1, _⟩ | (⟨h, _⟩ | ⟨h, _⟩) | (⟨_, _, h⟩ | ⟨h, _⟩))
      · subst h; rw [a1] at b1; exact absurd b1 (by simp)
      · rw [a2] at h1; exact absurd h1.symm b2
      · rw [b4 cfg] at h; exact absurd h (by simp)
      · rw [a4 cfg] at h; exact absurd h (by simp)
      · exact h.symm
      · rw [b1] at h; exact absurd h (by simp)
  · -- K1 K3
    simp only [a1, b1, if_true, if_false, Bool.false_eq_true, if_pos b2]
    constructor
    · intro h
      have := (suffix_eq_fallback_iff cfg b).mp h.symm
      exact Or.inr (Or.inr (Or.inr (Or.inl ⟨a1, b1, by rw [← b2]; exact this⟩)))
    · rintro (h | ⟨h1, _⟩ | (⟨_, h⟩ | ⟨h, _⟩) | (⟨_, _, h⟩ | ⟨h, _⟩))
      · subst h; rw [a1] at b1; exact absurd b1 (by simp)
      · rw [a2, ← b2] at h1; exact absurd h1.symm hb
      · rw [a2] at h; exact absurd h (by simp)
      · rw [a4 cfg] at h; exact absurd h (by simp)
      · rw [← b2] at h; exact ((suffix_eq_fallback_iff cfg b).mpr h).symm
      · rw [b1] at h; exact absurd h (by simp)
  · -- K2 K1 (excluded by the ordering hypothesis)
    rcases horder with h | ⟨_, h⟩ | ⟨h, _⟩
    · rw [a1] at h; exact absurd h (by simp)
    · rw [b1] at h; exact absurd h (by simp)
    · exact absurd h a3
  · -- K2 K2
    simp only [a1, b1, if_false, Bool.false_eq_true, if_neg a3, if_neg b3]
    constructor
    · intro h; exact Or.inr (Or.inl ⟨h, Or.inl ⟨a3, b3⟩⟩)
    · rintro (h | ⟨h1, _⟩ | (⟨h, _⟩ | ⟨h, _⟩) | (⟨h, _⟩ | ⟨h, _⟩))
      · rw [h]
      · exact h1
      · rw [b4 cfg] at h; exact absurd h (by simp)
      · rw [a4 cfg] at h; exact absurd h (by simp)
      · rw [a1] at h; exact absurd h (by simp)
      · rw [b1] at h; exact absurd h (by simp)
  · -- K2 K3
    simp only [a1, b1, if_false, Bool.false_eq_true, if_neg a3, if_pos b2]
    constructor
    · intro h
      rcases suffix_cases cfg b with ⟨hsb, e⟩ | ⟨hsb, e⟩
      · rw [e] at h
        refine Or.inr (Or.inl ⟨by rw [← b2]; exact h, Or.inr (by rw [h]; exact hsb)⟩)
      · rw [e] at h
        exact Or.inr (Or.inr (Or.inl (Or.inl ⟨hsb, h⟩)))
    · rintro (h | ⟨h1, h2⟩ | (⟨h, e⟩ | ⟨h, _⟩) | (⟨h, _⟩ | ⟨h, _⟩))
      · subst h; exact absurd b2 a3
      · rw [← b2] at h1
        rcases h2 with ⟨_, h2⟩ | h2
        · exact absurd b2 h2
        · rw [h1] at h2; rw [suffix_of_not_suspect cfg h2]; exact h1
      · rw [suffix_of_suspect cfg h]; exact e
      · rw [a4 cfg] at h; exact absurd h (by simp)
      · rw [a1] at h; exact absurd h (by simp)
      · rw [b1] at h; exact absurd h (by simp)
  · -- K3 K1 (excluded)
    rcases horder with h | ⟨h, _⟩ | ⟨_, h⟩
    · rw [a1] at h; exact absurd h (by simp)
    · exact absurd a2 h
    · exact absurd h b3
  · -- K3 K2 (excluded)
    rcases horder with h | ⟨h, _⟩ | ⟨_, h⟩
    · rw [a1] at h; exact absurd h (by simp)
    · exact absurd a2 h
    · exact absurd h b3
  · -- K3 K3
    simp only [a1, b1, if_false, Bool.false_eq_true, if_pos a2, if_pos b2]
    constructor
    · intro h
      rcases suffix_eq_cases cfg a b h with e | ⟨h1, e⟩ | ⟨h1, e⟩
      · exact Or.inl e
      · exact Or.inr (Or.inr (Or.inl (Or.inl ⟨h1, by rw [← a2]; exact e⟩)))
      · exact Or.inr (Or.inr (Or.inl (Or.inr ⟨h1, by rw [← b2]; exact e⟩)))
    · rintro (h | ⟨h1, _⟩ | (⟨h, e⟩ | ⟨h, e⟩) | (⟨h, _⟩ | ⟨h, _⟩))
      · rw [h]
      · rw [← a2, ← b2] at h1; rw [h1]
      · rw [← a2] at e
        rw [e, suffix_of_suspect cfg h, suffix_of_not_suspect cfg (suspect_append_underscore cfg b)]
      · rw [← b2] at e
        rw [e, suffix_of_suspect cfg h, suffix_of_not_suspect cfg (suspect_append_underscore cfg a)]
      · rw [a1] at h; exact absurd h (by simp)
      · rw [b1] at h; exact absurd h (by simp)

theorem collide_trim (cfg : Cfg) (hs : cfg.snake = false) (ht : cfg.trim = true) (a b : Name)
    (ha : a ≠ []) (hb : b ≠ []) :
    processName cfg a = processName cfg b ↔ TrimRHS cfg a b := by
  by_cases h : allUnderscore a = true ∨ (a ≠ lstripU a ∧ allUnderscore b = false) ∨ (a = lstripU a ∧ b = lstripU b)
  · exact collide_trim_aux cfg hs ht a b ha hb h
  · -- then the mirrored pair is ordered
    have h' : allUnderscore b = true ∨ (b ≠ lstripU b ∧ allUnderscore a = false) ∨ (b = lstripU b ∧ a = lstripU a) := by
      rcases kind_cases a ha with ⟨a1, _⟩ | ⟨a1, a2, a3, _⟩ | ⟨a1, a2⟩
      · exact absurd (Or.inl a1) h
      · cases hub : allUnderscore b
        · exact absurd (Or.inr (Or.inl ⟨a3, hub⟩)) h
        · exact Or.inl rfl
      · rcases kind_cases b hb with ⟨b1, _⟩ | ⟨b1, b2, b3, _⟩ | ⟨b1, b2⟩
        · exact Or.inl b1
        · exact Or.inr (Or.inl ⟨b3, a1⟩)
        · exact absurd (Or.inr (Or.inr ⟨a2, b2⟩)) h
    have := collide_trim_aux cfg hs ht b a hb ha h'
    constructor
    · intro e; exact TrimRHS_symm cfg b a (this.mp e.symm)
    · intro e; exact (this.mpr (TrimRHS_symm cfg a b e)).symm

theorem typename_facts :
    typenameAlias = typenameAlias.dropLast.dropLast ++ ['_'] ++ ['_'] ∧ typenameAlias ≠ fallbackName ∧
    PyIdent typenameAlias := by decide +kernel

theorem suspect_typenameAlias (cfg : Cfg) : suspect cfg typenameAlias = false := by
  rw [typename_facts.1]; exact suspect_append_underscore cfg _

theorem suffix_eq_typenameAlias_iff (cfg : Cfg) (x : Name) : suffix cfg x = typenameAlias ↔ x = typenameAlias := by
  constructor
  · intro h
    rcases suffix_cases cfg x with ⟨_, e⟩ | ⟨hsx, e⟩
    · rw [e] at h; exact h
    · -- then `x` itself would end in `_`
      rw [e, typename_facts.1] at h
      rw [List.append_cancel_right h, suspect_append_underscore] at hsx
      cases hsx
  · intro h; rw [h]; exact suffix_of_not_suspect cfg (suspect_typenameAlias cfg)

/-- snake-cased names do not end in `_`, `typename__` does -/
theorem processName_snake_ne_typenameAlias (cfg : Cfg) (hs : cfg.snake = true) (x : Name) :
    processName cfg x ≠ typenameAlias := by
  cases hu : allUnderscore x
  · rw [processName_snake cfg x hs hu]
    exact fun h => snake_not_trailing x _ (((suffix_eq_typenameAlias_iff cfg _).mp h).trans typename_facts.1)
  · rw [processName_snake_allU cfg x hs hu]
    exact fun h => typename_facts.2.1 h.symm

theorem processName_trim_eq_typenameAlias_iff (cfg : Cfg) (hs : cfg.snake = false) (ht : cfg.trim = true)
    (x : Name) (hx : x ≠ []) : processName cfg x = typenameAlias ↔ lstripU x = typenameAlias := by
  rw [processName_trim cfg hs ht x hx]
  rcases kind_cases x hx with ⟨a1, a2, a3, _⟩ | ⟨a1, a2, a3, _⟩ | ⟨a1, a2⟩
  · simp only [a1, if_true, a2]
    constructor
    · intro h; exact absurd h.symm typename_facts.2.1
    · intro h; rw [typename_facts.1] at h; simp at h
  · simp only [a1, if_false, Bool.false_eq_true, if_neg a3]
  · simp only [a1, if_false, Bool.false_eq_true, if_pos a2]
    rw [suffix_eq_typenameAlias_iff, ← a2]

theorem suffixKw_eq_processName (n : Name) (hn : n ≠ []) : suffixKw n = processName ⟨false, false, false⟩ n := by
  rw [processName_plain ⟨false, false, false⟩ n rfl rfl hn]
  simp [suffix, suffixRes]

theorem pyName_eq (sn : Bool) (s : Scope) (n : Name) (hn : n ≠ []) (h : ¬ (s = .resultField ∧ n = typenameField)) :
    pyName sn s n = processName (scopeCfg sn s) n := by
  cases s
  · have : n ≠ typenameField := fun e => h ⟨rfl, e⟩
    simp [pyName, scopeCfg, this]
  · rfl
  · rfl
  · rfl
  · exact suffixKw_eq_processName n hn

theorem pyName_typename (sn : Bool) : pyName sn .resultField typenameField = typenameAlias := by
  simp [pyName]

theorem cls_L_iff (c : Char) : cls c = .L ↔ c ∈ lowers ∧ c ∉ uppers := by
  rcases cls_spec c with ⟨h, e⟩ | ⟨h, h2, e⟩ | ⟨h, h2, _, e⟩ | ⟨h, h2, _, e⟩ <;> simp [*]

theorem upperChar_of_not_lower {c : Char} (h : c ∉ lowers) : upperChar c = c := by
  simp [upperChar, h]

theorem upperChar_ne_underscore {c : Char} (h : c ≠ '_') : upperChar c ≠ '_' := by
  by_cases hl : c ∈ lowers
  · exact (char_tables.2.1 c hl).2.2.2.2.1
  · rw [upperChar_of_not_lower hl]; exact h

theorem upperChar_idem (c : Char) : upperChar (upperChar c) = upperChar c := by
  by_cases hl : c ∈ lowers
  · exact (char_tables.2.1 c hl).2.2.2.2.2
  · rw [upperChar_of_not_lower hl, upperChar_of_not_lower hl]

theorem lowerChar_upperChar (c : Char) : lowerChar (upperChar c) = lowerChar c := by
  by_cases hl : c ∈ lowers
  · obtain ⟨hnu, _, _, hlow, _⟩ := char_tables.2.1 c hl
    rw [hlow]
    exact (lowerChar_of_not_U fun h => hnu ((cls_U_iff c).mp h)).symm
  · rw [upperChar_of_not_lower hl]

theorem cls_upperChar (c : Char) : cls (upperChar c) = (match cls c with | .L => .U | k => k) := by
  by_cases hl : c ∈ lowers
  · obtain ⟨_, hL, hU, _⟩ := char_tables.2.1 c hl
    rw [hL, hU]
  · rw [upperChar_of_not_lower hl]
    have : cls c ≠ .L := fun h => hl ((cls_L_iff c).mp h).1
    cases hc : cls c <;> simp_all

theorem splitU_ne_nil (s : Name) : splitU s ≠ [] := by
  cases s with
  | nil => simp [splitU]
  | cons c cs =>
    unfold splitU
    by_cases h : c = '_'
    · simp [h]
    · simp only [h, if_false]; split <;> simp

theorem splitU_cons_underscore (cs : Name) : splitU ('_' :: cs) = [] :: splitU cs := by
  simp [splitU]

theorem splitU_cons_ne {c : Char} (cs : Name) (h : c ≠ '_') :
    ∃ p ps, splitU cs = p :: ps ∧ splitU (c :: cs) = (c :: p) :: ps := by
  cases hs : splitU cs with
  | nil => exact absurd hs (splitU_ne_nil cs)
  | cons p ps => exact ⟨p, ps, rfl, by simp [splitU, h, hs]⟩

theorem pascal_underscore (cs : Name) : pascal ('_' :: cs) = pascal cs := by
  simp [pascal, splitU_cons_underscore, capitalize]

theorem pascal_cons {c : Char} (cs : Name) (h : c ≠ '_') :
    ∃ p ps, splitU cs = p :: ps ∧ pascal (c :: cs) = upperChar c :: (p ++ (ps.map capitalize).flatten) := by
  obtain ⟨p, ps, hs, hc⟩ := splitU_cons_ne cs h
  exact ⟨p, ps, hs, by simp [pascal, hc, capitalize]⟩

theorem pascal_lstripU (n : Name) : pascal (lstripU n) = pascal n := by
  induction n with
  | nil => rfl
  | cons c cs ih =>
    by_cases h : c = '_'
    · subst h; rw [lstripU_underscore, pascal_underscore, ih]
    · rw [lstripU_of_ne cs h]

theorem splitU_no_underscore (s : Name) : ∀ p ∈ splitU s, '_' ∉ p := by
  induction s with
  | nil => intro p hp; simp [splitU] at hp; subst hp; simp
  | cons c cs ih =>
    by_cases h : c = '_'
    · subst h
      rw [splitU_cons_underscore]
      intro p hp
      rcases List.mem_cons.mp hp with rfl | hp
      · simp
      · exact ih p hp
    · obtain ⟨p, ps, hs, hc⟩ := splitU_cons_ne cs h
      rw [hc]
      intro q hq
      rcases List.mem_cons.mp hq with rfl | hq
      · intro hm
        rcases List.mem_cons.mp hm with e | hm
        · exact h e.symm
        · exact ih p (by rw [hs]; simp) hm
      · exact ih q (by rw [hs]; simp [hq])

theorem splitU_flatten (s : Name) : (splitU s).flatten = s.filter (· != '_') := by
  induction s with
  | nil => rfl
  | cons c cs ih =>
    by_cases h : c = '_'
    · simp [h, splitU_cons_underscore, ih]
    · obtain ⟨p, ps, hs, hc⟩ := splitU_cons_ne cs h
      rw [hs] at ih
      simp [hc, h, ← ih]

theorem capitalize_no_underscore {p : Name} (h : '_' ∉ p) : '_' ∉ capitalize p := by
  cases p with
  | nil => simp [capitalize]
  | cons c cs =>
    simp only [capitalize, List.mem_cons, not_or] at h ⊢
    exact ⟨fun e => upperChar_ne_underscore (fun e' => h.1 e'.symm) e.symm, h.2⟩

theorem pascal_no_underscore (s : Name) : '_' ∉ pascal s := by
  unfold pascal
  intro hm
  obtain ⟨q, hq, hm⟩ := List.mem_flatten.mp hm
  obtain ⟨p, hp, rfl⟩ := List.mem_map.mp hq
  exact capitalize_no_underscore (splitU_no_underscore s p hp) hm

theorem splitU_of_no_underscore {s : Name} (h : '_' ∉ s) : splitU s = [s] := by
  induction s with
  | nil => rfl
  | cons c cs ih =>
    simp only [List.mem_cons, not_or] at h
    have hc : c ≠ '_' := fun e => h.1 e.symm
    unfold splitU
    simp [hc, ih h.2]

theorem capitalize_idem (p : Name) : capitalize (capitalize p) = capitalize p := by
  cases p <;> simp [capitalize, upperChar_idem]

theorem capitalize_flatten_head (ps : List Name) :
    capitalize ((ps.map capitalize).flatten) = (ps.map capitalize).flatten := by
  induction ps with
  | nil => rfl
  | cons p ps ih =>
    cases p with
    | nil => simpa [capitalize] using ih
    | cons c cs => simp [capitalize, upperChar_idem]

theorem pascal_idem (s : Name) : pascal (pascal s) = pascal s := by
  have h := splitU_of_no_underscore (pascal_no_underscore s)
  have e : pascal (pascal s) = ((splitU (pascal s)).map capitalize).flatten := rfl
  rw [e, h]
  simp only [List.map_cons, List.map_nil, List.flatten_cons, List.flatten_nil, List.append_nil]
  exact capitalize_flatten_head _

theorem lower_alnum_capitalize (p : Name) : lower (alnum (capitalize p)) = lower (alnum p) := by
  cases p with
  | nil => rfl
  | cons c cs =>
    have hcls : (cls (upperChar c) = .O) ↔ (cls c = .O) := by
      rw [cls_upperChar]; cases cls c <;> simp
    by_cases h : cls c = .O
    · have h' := hcls.mpr h
      simp [capitalize, alnum, h, h']
    · have h' : cls (upperChar c) ≠ .O := fun e => h (hcls.mp e)
      simp [capitalize, alnum, h, h', lower, lowerChar_upperChar]

theorem lower_append (a b : Name) : lower (a ++ b) = lower a ++ lower b := by simp [lower]

theorem lower_alnum_flatten_capitalize (ps : List Name) :
    lower (alnum ((ps.map capitalize).flatten)) = lower (alnum ps.flatten) := by
  induction ps with
  | nil => rfl
  | cons p ps ih =>
    simp only [List.map_cons, List.flatten_cons, alnum_append, lower_append, ih, lower_alnum_capitalize]

theorem alnum_filter_underscore (s : Name) : alnum (s.filter (· != '_')) = alnum s := by
  induction s with
  | nil => rfl
  | cons c cs ih =>
    by_cases h : c = '_'
    · subst h; simp [alnum, cls_underscore] at ih ⊢; exact ih
    · simp only [List.filter_cons, bne_iff_ne, ne_eq, h, not_false_eq_true, if_true]
      simp only [alnum, List.filter_cons] at ih ⊢
      rw [ih]

theorem lower_alnum_pascal (s : Name) : lower (alnum (pascal s)) = lower (alnum s) := by
  unfold pascal
  rw [lower_alnum_flatten_capitalize, splitU_flatten, alnum_filter_underscore]

theorem word_pascal {s : Name} (h : Word s) : Word (pascal s) := by
  intro c hc
  unfold pascal at hc
  obtain ⟨q, hq, hm⟩ := List.mem_flatten.mp hc
  obtain ⟨p, hp, rfl⟩ := List.mem_map.mp hq
  have hsub : ∀ x ∈ p, x ∈ s := by
    intro x hx
    have : x ∈ (splitU s).flatten := List.mem_flatten.mpr ⟨p, hp, hx⟩
    rw [splitU_flatten] at this
    exact (List.mem_filter.mp this).1
  cases p with
  | nil => simp [capitalize] at hm
  | cons d ds =>
    simp only [capitalize, List.mem_cons] at hm
    rcases hm with rfl | hm
    · rcases wordChar_cases (h d (hsub d (by simp))) with hd | hd
      · apply isWordChar_of_cls; rw [cls_upperChar]; cases hcd : cls d <;> simp_all
      · subst hd; exact absurd (by simp) (splitU_no_underscore s _ hp)
    · exact h c (hsub c (by simp [hm]))

theorem pyIdent_pascal_iff {n : Name} (hg : GName n) :
    PyIdent (pascal n) ↔ (allUnderscore n = false ∧ cls1 (lstripU n) ≠ .D) := by
  have hw := gname_word hg
  rw [← pascal_lstripU]
  rcases lstripU_shape n with hl | ⟨c, r, hl, hc⟩
  · have hu : allUnderscore n = true :=
      (allUnderscore_iff n).mpr ⟨gname_ne_nil hg, (lstripU_eq_nil_iff n).mp hl⟩
    rw [hl]; simp [hu, pascal, splitU, capitalize, PyIdent, GName]
  · have hu : allUnderscore n = false := by
      cases h : allUnderscore n
      · rfl
      · have := (lstripU_eq_nil_iff n).mpr ((allUnderscore_iff n).mp h).2
        rw [hl] at this; exact absurd this (by simp)
    rw [hl]
    obtain ⟨p, ps, _, hp⟩ := pascal_cons r hc
    have hwl : Word (c :: r) := by rw [← hl]; exact word_lstripU hw
    have hwp : Word (pascal (c :: r)) := word_pascal hwl
    rw [hp] at hwp ⊢
    rw [pyIdent_of_word_ne hwp (upperChar_ne_underscore hc), cls_upperChar]
    simp only [hu, cls1, true_and]
    cases hcc : cls c <;> simp

end Ariadne.Names
