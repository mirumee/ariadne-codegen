/-
  Proofs/C01RegionsUnp.lean — property C01: the decidable region predicate `UnpInput` of `C01_partial_unpacked` (core Lean only,
  evaluated by the compiled driver, op `regions`); the theorem is in Proofs/C01BridgeUnp.lean.
-/
import AriadneModel.Proofs.C01Regions
import AriadneModel.Proofs.C01UnpDefs

set_option linter.unusedVariables false

namespace Ariadne.C01
open Ariadne Ariadne.Gql Ariadne.ResultTypes Ariadne.Util Ariadne.Pyd Ariadne.Triggers01 Ariadne.C01Plain Ariadne.C01Unp

/-- the fuel for the nesting of spreads and sub-selections used in the region predicate -/
def unpK (env : ResultTypes.Env) : Nat := 100

def unpOpOK (env : ResultTypes.Env) (o : Operation) : Bool :=
  match o.name, Validate.rootOf env.schema o with
  | some n, some tn =>
    !(o.dirs.any (·.name == Tables.mixinName))
    && UnpOK env (unpK env) (pascal n) tn o.sid o.sel {}
    && NoShadowedImport env (plainClasses env (pascal n) tn (inl env (unpK env) o.sel))
    && decide (vneed env tn (inl env (unpK env) o.sel) + 1 ≤ execFuel)
  | _, _ => false

/-- the region of `C01_partial_unpacked`: `schemaOK`; every operation has a name and a root type, no `@mixin`, satisfies `UnpOK`
    (spreads of fragments on interfaces its object types implement; the inlined document is plain) in the empty generator state,
    `NoShadowedImport`, the validation fuel bound; and every fragment definition is unpacked by some operation (so that the
    fragments module contributes no class: package.py excludes the classes of unpacked fragments) -/
def UnpInput (inp : Input) : Prop :=
  (schemaOK inp.env.schema && inp.ops.all (unpOpOK inp.env)
   && inp.env.frags.all (fun f => (inp.ops.flatMap fun o => reach inp.env (unpK inp.env) o.sel).contains f.name)) = true

instance (inp : Input) : Decidable (UnpInput inp) := by unfold UnpInput; infer_instance

end Ariadne.C01
