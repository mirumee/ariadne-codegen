/-
  C14: the store of class-level objects.
  * `Pristine st`: every class-level object is still a leaf (no sub-fields, no inline fragments, no variables,
    nothing formatted; an alias it may carry).
  * what `to_ast` does with a class-level object that nobody touched (`toAst_pristine_leaf`, `toAst_ref_pristine`);
    `along_same`: the instance of `Along` for visits that return the store as they found it.
  * where the class-level objects come from: in a generated package each carries its GraphQL field name
    (`fieldAccessor_shared`, `genPackage_sharedExact`).
-/
import AriadneModel.Proofs.C14Names
import AriadneModel.Proofs.C14Expr

namespace Ariadne.C14
open Ariadne.Builder Ariadne.CustomGen

def PristineNode (n : Node) : Prop :=
  ∃ r, n = .obj r [] [] ∧ r.vars = [] ∧ r.formatted = []

def Pristine (st : Store) : Prop := ∀ (id : Nat) (n : Node), st[id]? = some n → PristineNode n

theorem set_self {α : Type} (l : List α) (i : Nat) (x : α) (h : l[i]? = some x) : l.set i x = l := by
  obtain ⟨hi, rfl⟩ := List.getElem?_eq_some_iff.mp h
  exact List.set_getElem_self hi

theorem initStore_pristine (p : Package) : Pristine p.initStore := by
  intro id n h
  unfold Package.initStore at h
  rw [List.getElem?_map] at h
  cases hx : p.sharedList[id]? with
  | none => simp [hx] at h
  | some ca =>
    simp [hx] at h
    exact ⟨_, h.symm, rfl, rfl⟩

theorem sharedId_spec (p : Package) {c a : String} {id : Nat} (h : p.sharedId c a = some id) :
    ∃ ca, p.sharedList[id]? = some ca ∧ ca.1 = c ∧ ca.2.attr = a := by
  unfold Package.sharedId at h
  simp only [] at h
  split at h
  · rename_i hlt
    simp at h
    subst h
    refine ⟨_, List.getElem?_eq_getElem hlt, ?_⟩
    have := List.findIdx_getElem (w := hlt)
    simpa using this
  · simp at h

theorem sharedId_get (p : Package) (cls a : String) (id : Nat) (h : p.sharedId cls a = some id) :
    ∃ n, p.initStore[id]? = some n := by
  obtain ⟨ca, hca, -⟩ := sharedId_spec p h
  exact ⟨_, by rw [Package.initStore, List.getElem?_map, hca]; rfl⟩

theorem collectVars_nil (idx : Nat) (used : List String) : collectVars idx [] used = .ok ([], used) := rfl

theorem toAst_pristine_leaf {fuel idx : Nat} {st st' : Store} {used used' : List String} {m n' : Node} {s : Sel}
    (hp : PristineNode m) (h : toAst fuel idx st used m = .ok (s, n', st', used')) :
    n' = m ∧ st' = st ∧ used' = used ∧ ∃ r, m = .obj r [] [] ∧ s = .field (aliasOf r.alias) r.fieldName [] false [] := by
  obtain ⟨r, rfl, hv, hf⟩ := hp
  obtain ⟨c0, fn0, g0, vars0, fm0, al0⟩ := r
  simp only at hv hf
  subst hv hf
  cases fuel with
  | zero => simp [toAst] at h
  | succ f =>
    simp only [toAst, collectVars_nil, mapAcc, mapFrags, Except.ok.injEq, Prod.mk.injEq] at h
    obtain ⟨rfl, rfl, rfl, rfl⟩ := h
    exact ⟨rfl, rfl, rfl, _, rfl, by simp⟩

theorem toAst_ref_pristine {fuel idx : Nat} {st st' : Store} {used used' : List String} {id : Nat} {n' : Node} {s : Sel}
    (hp : Pristine st) (h : toAst (fuel + 1) idx st used (.ref id) = .ok (s, n', st', used')) :
    n' = .ref id ∧ st' = st ∧ used' = used ∧ ∃ r, st[id]? = some (.obj r [] []) ∧ r.formatted = [] ∧
      s = .field (aliasOf r.alias) r.fieldName [] false [] ∧
      toAst fuel idx st used (.obj r [] []) = .ok (s, .obj r [] [], st, used) := by
  obtain ⟨n0, s1, n1, st1, u1, hn, h1, hr⟩ := toAst_ref_inv h
  cases hr
  obtain ⟨rfl, rfl, rfl, r, rfl, rfl⟩ := toAst_pristine_leaf (hp id n0 hn) h1
  obtain ⟨r', hr', -, hf⟩ := hp id _ hn
  cases hr'
  exact ⟨rfl, set_self _ _ _ hn, rfl, r, hn, hf, rfl, h1⟩

theorem along_same (st : Store) : Along (fun a => a.1 = st) (fun a _ b => b.1 = a.1) :=
  ⟨fun _ => rfl, fun h1 h2 => h2.trans h1, fun hp h => h.trans hp⟩

/-- class-level objects always carry the GraphQL name (`generate_constant(org_name)`); only classmethods
    are given the python name. -/
theorem fieldAccessor_shared (s : Schema) (t : String) (f : FieldDef)
    (h : (fieldAccessor s t f).kind = .shared) : (fieldAccessor s t f).fieldName = (fieldAccessor s t f).gqlName := by
  unfold fieldAccessor at h ⊢
  simp only []
  split <;> simp_all <;> split <;> simp_all

theorem genPackage_sharedExact (s : Schema) :
    ∀ ca ∈ (genPackage s).sharedList, ca.2.fieldName = ca.2.gqlName := by
  intro ca hca
  unfold Package.sharedList at hca
  obtain ⟨c, hc, hm⟩ := List.mem_flatMap.mp hca
  obtain ⟨a, ha, rfl⟩ := List.mem_map.mp hm
  obtain ⟨ha1, ha2⟩ := List.mem_filter.mp ha
  have hk : a.kind = .shared := by simpa using ha2
  simp only [genPackage, List.mem_append] at hc
  rcases hc with (((hc | hc) | hc) | hc) | hc
  · obtain ⟨t, _, ht⟩ := List.mem_filterMap.mp hc
    split at ht
    · split at ht
      · simp at ht; subst ht
        obtain ⟨f, _, rfl⟩ := List.mem_map.mp ha1
        exact fieldAccessor_shared s t.name f hk
      · simp at ht; subst ht
        obtain ⟨f, _, rfl⟩ := List.mem_map.mp ha1
        exact fieldAccessor_shared s t.name f hk
      · simp at ht
    · simp at ht
  · obtain ⟨t, _, ht⟩ := List.mem_filterMap.mp hc
    split at ht
    · simp at ht
    · split at ht <;> simp at ht <;> subst ht <;> simp at ha1
  · simp at hc; subst hc; simp at ha1
  · split at hc
    · simp at hc
    · simp at hc; subst hc
      obtain ⟨f, _, rfl⟩ := List.mem_map.mp ha1
      simp [rootAccessor] at hk
  · split at hc
    · simp at hc
    · simp at hc; subst hc
      obtain ⟨f, _, rfl⟩ := List.mem_map.mp ha1
      simp [rootAccessor] at hk

end Ariadne.C14
