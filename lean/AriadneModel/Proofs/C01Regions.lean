/-
  Proofs/C01Regions.lean — property C01: the DECIDABLE REGION PREDICATES of the pipeline theorems
  (`PlainInput`, `AbsInput`, `MixInput`, `MixAbsInput`) and the definitions they are made of, in one core-Lean file, so
  that the compiled driver can evaluate them on every generated case (op `regions`; the evidence file then says how many
  sampled cases lie inside each proved region).  The theorems about them are in Proofs/C01Bridge*.lean.
-/
import AriadneModel.Proofs.C01AbsDefs
import AriadneModel.Model.Claim01

set_option linter.unusedVariables false

namespace Ariadne.C01
open Ariadne Ariadne.Gql Ariadne.ResultTypes Ariadne.Util Ariadne.Pyd Ariadne.Triggers01 Ariadne.C01Plain Ariadne.C01Abs
open Ariadne.C01Mix (fragClassesOf MixOK mClass mneed fragDepth fragOK)

/-- decidable conditions on the schema under which the generated enum classes mean what the schema says:
    type names are pairwise distinct, no enum is called like a builtin annotation (`str`, `int`, `float`, `bool`, `Any`),
    and the five built-in scalar names are not redefined as something else -/
def schemaOK (S : Schema) : Bool :=
  nodupB (S.types.map (·.name))
  && (S.types.all fun t => !(t.kind == .enum) || !(["str", "int", "float", "bool", "Any"].contains t.name))
  && (["Int", "Float", "String", "ID", "Boolean"].all fun n =>
        match S.kindOf? n with
        | none => true
        | some .scalar => true
        | _ => false)


/-- the names a generated result module imports (or may import): pydantic / typing helpers and the schema's enum classes.
    A generated class with one of these names shadows the import (e.g. `class BaseModel(BaseModel)`: data silently dropped
    on the real code). -/
def importedNames (env : ResultTypes.Env) : List String :=
  ["BaseModel", "Field", "Optional", "List", "Any", "Literal", "Union", "Annotated", "BeforeValidator", "Upload"]
  ++ (env.schema.types.filter (·.kind == .enum)).map (·.name)
  ++ env.scalars.map (·.typeName)

/-- no generated class is called like something the module imports -/
def NoShadowedImport (env : ResultTypes.Env) (classes : List ClassDecl) : Bool :=
  classes.all fun c => !(importedNames env).contains c.name


def plainOpOK (env : ResultTypes.Env) (o : Operation) : Bool :=
  match o.name, Validate.rootOf env.schema o with
  | some n, some tn =>
    !(o.dirs.any (·.name == Tables.mixinName))
    && PlainOK env (pascal n) tn o.sid o.sel {}
    && NoShadowedImport env (plainClasses env (pascal n) tn o.sel)
    && decide (gfuel o.sel ≤ Triggers01.fuel)
    && decide (vneed env tn o.sel + 1 ≤ execFuel)
  | _, _ => false

/-- the region of `C01_partial_plain` -/
def PlainInput (inp : Input) : Prop :=
  (inp.env.frags.isEmpty && schemaOK inp.env.schema && inp.ops.all (plainOpOK inp.env)) = true

instance (inp : Input) : Decidable (PlainInput inp) := by unfold PlainInput; infer_instance


/-- no `__typename` field carries `@skip` / `@include` (anywhere in the document) -/
def NoCondTypename (inp : Input) : Bool :=
  !(anyInDoc inp fun s => match s with
    | .field _ n dirs _ _ => n == typenameField && hasConditionalDirective dirs
    | _ => false)

/-- one operation; `K` = nesting fuel of the fragment definitions, `F` = validation fuel their classes need (both `0` when there
    are no fragment definitions) -/
def absOpOK (env : ResultTypes.Env) (K F : Nat) (o : Operation) (ms : List Nat) : Bool :=
  match o.name, Validate.rootOf env.schema o with
  | some n, some tn =>
    !(o.dirs.any (·.name == Tables.mixinName))
    && AbsOK env (pascal n) tn o.sid o.sel { marks := ms }
    && NoShadowedImport env (aClass env (pascal n) tn [] false o.sel)
    && decide (agfuel o.sel ≤ Triggers01.fuel)
    && decide (agfuel o.sel + K ≤ execFuel)
    && decide (avneed env (pascal n) tn o.sel + 4 + F ≤ execFuel)
  | _, _ => false

/-- the marks operation `o` leaves behind (as a set) -/
def opMarks (env : ResultTypes.Env) (o : Operation) (ms : List Nat) : List Nat :=
  match o.name, Validate.rootOf env.schema o with
  | some n, some tn => ms ++ needSids env (pascal n) tn o.sel
  | _, _ => ms

def absOpsOK (env : ResultTypes.Env) (K F : Nat) : List Operation → List Nat → Bool
  | [], _ => true
  | o :: rest, ms => absOpOK env K F o ms && absOpsOK env K F rest (opMarks env o ms)

/-- the region of `C01_partial_abstract` -/
def AbsInput (inp : Input) : Prop :=
  (inp.env.frags.isEmpty && schemaOK inp.env.schema && NoCondTypename inp && absOpsOK inp.env 0 0 inp.ops []) = true

instance (inp : Input) : Decidable (AbsInput inp) := by unfold AbsInput; infer_instance


/-- the fuel for nesting depth used in the region predicate (any value ≤ `execFuel` would do) -/
def mixK (env : ResultTypes.Env) : Nat := 200

/-- the classes of the fragments module: every fragment definition, in the order of the sorted fragment names -/
def fragModule (env : ResultTypes.Env) : List ClassDecl :=
  (sortStr (env.frags.map (·.name))).flatMap fun n =>
    match findFragment? env.frags n with
    | some f => fragClassesOf env f
    | none => []

def mixOpOK (env : ResultTypes.Env) (o : Operation) : Bool :=
  match o.name, Validate.rootOf env.schema o with
  | some n, some tn =>
    !(o.dirs.any (·.name == Tables.mixinName))
    && MixOK env (mixK env) (pascal n) tn o.sel
    && nodupB ((mClass env (pascal n) tn o.sel ++ fragModule env).map (·.name))
    && NoShadowedImport env (mClass env (pascal n) tn o.sel ++ fragModule env)
    && decide (gfuel o.sel ≤ Triggers01.fuel)
    && decide (mixK env ≤ execFuel)
    && decide (mneed env (mixK env) tn o.sel + 1 ≤ execFuel)
    && decide (fragDepth env ≤ (mClass env (pascal n) tn o.sel ++ fragModule env).length + 1)
  | _, _ => false

def fragGenOK (env : ResultTypes.Env) (f : Fragment) : Bool :=
  nodupB ((fragClassesOf env f).map (·.name)) && decide (gfuel f.sel ≤ Triggers01.fuel)

/-- the region of `C01_partial_mixin` -/
def MixInput (inp : Input) : Prop :=
  (schemaOK inp.env.schema && nodupB (inp.env.frags.map (·.name))
   && inp.env.frags.all (fragOK inp.env (mixK inp.env)) && inp.env.frags.all (fragGenOK inp.env)
   && inp.ops.all (mixOpOK inp.env)) = true

instance (inp : Input) : Decidable (MixInput inp) := by unfold MixInput; infer_instance


/-- the fuel for the nesting of fragment definitions used in the region predicate -/
def maK (env : ResultTypes.Env) : Nat := mixK env

/-- validation fuel that suffices for the class of every fragment definition -/
def fragNeed (env : ResultTypes.Env) (K : Nat) : Nat :=
  env.frags.foldl (fun acc f => max acc (C01Mix.mneed env K f.on f.sel + 1)) 0


/-- the marks all operations together leave behind (as a set) -/
def finalMarks (env : ResultTypes.Env) : List Operation → List Nat → List Nat
  | [], ms => ms
  | o :: rest, ms => finalMarks env rest (opMarks env o ms)

def maOpOK (env : ResultTypes.Env) (o : Operation) : Bool :=
  match o.name, Validate.rootOf env.schema o with
  | some n, some tn =>
    nodupB ((aClass env (pascal n) tn [] false o.sel ++ fragModule env).map (·.name))
    && NoShadowedImport env (aClass env (pascal n) tn [] false o.sel ++ fragModule env)
    && decide (C01Mix.fragDepth env + 1 ≤ (aClass env (pascal n) tn [] false o.sel ++ fragModule env).length + 1)
  | _, _ => false

def maFragOK (env : ResultTypes.Env) (M : List Nat) (f : Fragment) : Bool :=
  C01Mix.fragOK env (maK env) f && fragGenOK env f && !M.contains f.sid && C01Mix.sidFree M f.sel

/-- the region of `C01_partial_mixabs` -/
def MixAbsInput (inp : Input) : Prop :=
  (schemaOK inp.env.schema && nodupB (inp.env.frags.map (·.name))
   && absOpsOK inp.env (maK inp.env) (fragNeed inp.env (maK inp.env)) inp.ops []
   && inp.ops.all (maOpOK inp.env)
   && inp.env.frags.all (maFragOK inp.env (finalMarks inp.env inp.ops []))) = true

instance (inp : Input) : Decidable (MixAbsInput inp) := by unfold MixAbsInput; infer_instance


end Ariadne.C01
