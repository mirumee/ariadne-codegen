/-
  C15: ClientForwardRefs inside a longer plugin list, hook call by hook call — the run with `a ++ [ClientForwardRefs] ++ b`
  compared with the run with `a ++ b`, for ANY list `a` and a list `b` made of ExtractOperations, NoReimports and the
  identity plugin (no ShorterResults after ClientForwardRefs).

  ClientForwardRefs overrides `generate_client_module` only: everywhere else both runs hand every plugin the same
  objects and record the same things; at `generate_client_module` the plugins of `a` run first, ClientForwardRefs
  rewrites what comes out, the plugins of `b` put their imports in front.
-/
import AriadneModel.Proofs.C15FwdRel
import AriadneModel.Proofs.C15ShorterRelRun


namespace Ariadne.C15
open Ariadne.Py Ariadne.Plugins

/-- the run with `a ++ [ClientForwardRefs] ++ b` (`P`) against the run with `a ++ b` (`Q`), before `generate_client_module`: the same
    bookkeeping.  `k` is the number of ExtractOperations in `b`: that many imports are put in front of what ClientForwardRefs returns
    (`eFrame_length`) -/
structure FRel (k : Nat) (f : FwdState) (P Q : PipeState) : Prop where
  lists : ∃ a b, NoSF b ∧ b.countP PState.isExtract = k ∧ P.plugins = a ++ .fwd f :: b ∧ Q.plugins = a ++ b
  methods : P.methodsOut = Q.methodsOut
  imports : P.importsOut = Q.importsOut
  gql : P.gqlOut = Q.gqlOut
  cls : P.classOut = Q.classOut
  init : P.initImports = Q.initImports

theorem FRel.books {k : Nat} {f : FwdState} {P Q : PipeState} (h : FRel k f P Q) : SameBooks P Q :=
  ⟨h.methods, h.imports, h.gql, h.cls, h.init⟩

theorem countP_isExtract (l : List PState) : l.countP PState.isExtract = (l.map PState.kind).count 1 := by
  induction l with
  | nil => rfl
  | cons p rest ih => cases p <;> simp [List.countP_cons, PState.isExtract, PState.kind, ih]

/-- the plugins after ClientForwardRefs that put an import in front: as many as there are ExtractOperations among them;
    the plugin objects keep their kinds, so the count is that of the configured list -/
theorem applyAll_countE (c : Call) (l l' : List PState) (x y : Payload) (h : applyAll PState.step c l x = .ok (l', y)) :
    l'.countP PState.isExtract = l.countP PState.isExtract := by
  rw [countP_isExtract, countP_isExtract, applyAll_kinds c l l' x y h]

theorem stepEvent_frel (k : Nat) (f : FwdState) (P Q : PipeState) (e : Event) (Q' : PipeState)
    (hc : e.call.hook ≠ "generate_client_module") (h : FRel k f P Q) (hQ : stepEvent Q e = .ok Q') :
    ∃ P', stepEvent P e = .ok P' ∧ FRel k f P' Q' := by
  obtain ⟨a, b, hnb, hk, hP, hQp⟩ := h.lists
  have hpass : ∀ ra, applyAll PState.step e.call a (inputFor Q e) = .ok ra →
      PState.step e.call (.fwd f) ra.2 = .ok (.fwd f, ra.2) := by
    intro ra _
    exact step_idle (by simpa [hooksOf] using hc) _
  obtain ⟨ra, rb, P', hma, hmb, hP', g1, g2, g⟩ := stepEvent_insert P Q Q' e a b _ _ hP hQp h.books hpass hQ
  exact ⟨P', hP', ⟨ra.1, rb.1, applyAll_nosf e.call b rb.1 _ rb.2 hnb hmb,
    (applyAll_countE e.call b rb.1 _ rb.2 hmb).trans hk, g1, g2⟩, g.methods, g.imports, g.gql, g.cls, g.init⟩

theorem eFrame_length (l : List PState) : (eFrame l).length = l.countP PState.isExtract := by
  unfold eFrame
  rw [List.length_reverse]
  induction l with
  | nil => rfl
  | cons p rest ih =>
    cases p <;> simp [List.countP_cons, PState.isExtract, ih]

theorem stepEvent_frel_cm (k : Nat) (f : FwdState) (P Q : PipeState) (e : Event) (Q' : PipeState) (mp : Module)
    (hc : e.call.hook = "generate_client_module") (h : FRel k f P Q) (hp : e.payload = .module mp)
    (hQ : stepEvent Q e = .ok Q') :
    ∃ fr Min, (ImportsOnly fr ∧ fr.length = k) ∧
      Q'.finalOf "generate_client_module" = some (.module { body := fr ++ Min.body }) ∧
      ∀ r, fwdClientModule f Min = .ok r → ∃ P', stepEvent P e = .ok P' ∧ FRel k r.1 P' Q' ∧
        P'.finalOf "generate_client_module" = some (.module { body := fr ++ r.2.body }) := by
  obtain ⟨a, b, hnb, hk, hP, hQp⟩ := h.lists
  obtain ⟨M, hX⟩ := inputFor_cm_module Q e hc mp hp
  -- the plugins in front of ClientForwardRefs do not raise (the run without it goes through) and return a module
  cases hma : applyAll PState.step e.call a (.module M) with
  | error err =>
    exfalso
    have : manager e.call Q.plugins (inputFor Q e) = .error err := by
      unfold manager; rw [hX, hQp, applyAll_append, hma]; rfl
    rw [stepEvent_of_manager_error Q e err this] at hQ
    cases hQ
  | ok ra =>
    obtain ⟨a', y⟩ := ra
    obtain ⟨Min, rfl⟩ := applyAll_keeps_module e.call a a' M y hma
    have hstep : PState.step e.call (.fwd f) (.module Min) =
        (fwdClientModule f Min >>= fun r => pure (PState.fwd r.1, .module r.2)) := by
      rw [fwd_step_eq]
      unfold fwdStep
      simp only [hc]
      cases fwdClientModule f Min <;> rfl
    obtain ⟨hQ', hok⟩ := stepEvent_insert_cm PState.fwd fwdClientModule f P Q Q' e a a' b (eFrame b) M Min hc hP hQp
      (h.books.inputFor e) hX hma (nosf_cm e.call hc b hnb) hstep hQ
    refine ⟨eFrame b, Min, ⟨eFrame_imports b, by rw [eFrame_length, hk]⟩, by rw [hQ']; exact finalOf_cm_snoc Q e.call hc _ _ _,
      fun r hsc => ?_⟩
    refine ⟨_, hok r hsc, ?_, finalOf_cm_snoc P e.call hc _ _ _⟩
    rw [hQ']
    exact ⟨⟨a', b, hnb, hk, rfl, rfl⟩, h.methods, h.imports, h.gql, h.cls, h.init⟩

theorem frel_opsFile (k : Nat) (f : FwdState) (P Q : PipeState) (h : FRel k f P Q) : P.opsFile? = Q.opsFile? := by
  obtain ⟨a, b, _, _, hP, hQ⟩ := h.lists
  exact opsFile_insert P Q a b _ rfl hP hQ

theorem frel_init (a b : List PState) (hnb : NoSF b) (f0 : FwdState) :
    FRel (b.countP PState.isExtract) f0 { plugins := a ++ .fwd f0 :: b } { plugins := a ++ b } :=
  ⟨⟨a, b, hnb, rfl, rfl, rfl⟩, rfl, rfl, rfl, rfl, rfl⟩

end Ariadne.C15
