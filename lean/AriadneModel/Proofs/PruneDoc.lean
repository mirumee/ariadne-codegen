/-
  Lemmas for C09, document side (Model/PruneDoc.lean): the arguments generator over any nesting of
  list / non-null wrappers, the closed form of the `add_operation` loop, `_generate_fragments`, and the
  refinement `generateDoc = Prune.generate ∘ toInput`.  Core Lean only.
-/
import AriadneModel.Model.PruneDoc
import AriadneModel.Proofs.Prune
import AriadneModel.Proofs.ListLemmas


namespace Ariadne.PruneDoc
open Ariadne.Prune

theorem parseTypeNode_base (kinds : Name → Kind) (st : ArgSt) :
    ∀ t : TypeNode, parseTypeNode kinds st t = parseNamed kinds st t.base
  | .named n => rfl
  | .list t => by simp [parseTypeNode, TypeNode.base, parseTypeNode_base kinds st t]
  | .nonNull t => by simp [parseTypeNode, TypeNode.base, parseTypeNode_base kinds st t]

/-- the `ParsingError` a variable of named type `n` raises, if any -/
def badOf (kinds : Name → Kind) (n : Name) : Option Err :=
  match kinds n with
  | .missing => some (.argNotFound n)
  | .other => some (.argIncorrect n)
  | _ => none

def firstBad (kinds : Name → Kind) (vars : List TypeNode) : Option Err :=
  vars.findSome? fun t => badOf kinds t.base

/-- the named types of the variables that `schema.type_map` classifies as `k`, in order -/
def usesKind (kinds : Name → Kind) (k : Kind) (vars : List TypeNode) : List Name :=
  (vars.map TypeNode.base).filter fun n => decide (kinds n = k)

def ArgSt.app (a b : ArgSt) : ArgSt := ⟨a.usedInputs ++ b.usedInputs, a.usedEnums ++ b.usedEnums⟩

theorem argumentsGenerate_eq (kinds : Name → Kind) :
    ∀ (vars : List TypeNode) (st : ArgSt),
      argumentsGenerate kinds st vars =
        match firstBad kinds vars with
        | some e => .error e
        | none => .ok (st.app ⟨usesKind kinds .input vars, usesKind kinds .enum vars⟩) := by
  intro vars
  induction vars with
  | nil => intro st; simp [argumentsGenerate, firstBad, usesKind, ArgSt.app]
  | cons t rest ih =>
    intro st
    simp only [argumentsGenerate, parseTypeNode_base, parseNamed]
    cases hk : kinds t.base <;>
      simp [hk, ih, firstBad, badOf, usesKind, ArgSt.app] <;>
      (cases List.findSome? (fun t => badOf kinds t.base) rest <;> simp)

theorem varsUse_eq (kinds : Name → Kind) (vars : List TypeNode) :
    varsUse kinds vars =
      match firstBad kinds vars with
      | some e => .error e
      | none => .ok ⟨usesKind kinds .input vars, usesKind kinds .enum vars⟩ := by
  unfold varsUse
  rw [argumentsGenerate_eq]
  cases firstBad kinds vars <;> simp [ArgSt.app]

theorem argumentsGenerate_app (kinds : Name → Kind) (vars : List TypeNode) (st : ArgSt) :
    argumentsGenerate kinds st vars =
      match varsUse kinds vars with
      | .error e => .error e
      | .ok a => .ok (st.app a) := by
  rw [argumentsGenerate_eq, varsUse_eq]
  cases firstBad kinds vars <;> simp

theorem firstBad_eq_none (kinds : Name → Kind) (vars : List TypeNode) :
    firstBad kinds vars = none ↔ ∀ t ∈ vars, badOf kinds t.base = none := by
  simp [firstBad]

theorem firstBad_eq_some (kinds : Name → Kind) (vars : List TypeNode) (e : Err) (h : firstBad kinds vars = some e) :
    ∃ t ∈ vars, badOf kinds t.base = some e := by
  unfold firstBad at h
  obtain ⟨t, ht, hb⟩ := List.exists_of_findSome?_eq_some h
  exact ⟨t, ht, hb⟩

theorem mem_usesKind (kinds : Name → Kind) (k : Kind) (vars : List TypeNode) (n : Name) :
    n ∈ usesKind kinds k vars ↔ ∃ t ∈ vars, t.base = n ∧ kinds n = k := by
  simp only [usesKind, List.mem_filter, List.mem_map, decide_eq_true_eq]
  constructor
  · rintro ⟨⟨t, ht, rfl⟩, hk⟩; exact ⟨t, ht, rfl, hk⟩
  · rintro ⟨t, ht, rfl, hk⟩; exact ⟨⟨t, ht, rfl⟩, hk⟩

/-- what one operation amounts to for Model/Prune.lean once its variables are accepted -/
def absOp (kinds : Name → Kind) (op : DocOp) : Op :=
  ⟨usesKind kinds .input op.vars, usesKind kinds .enum op.vars, op.resultEnums⟩

theorem mem_flatMap_usesKind (kinds : Name → Kind) (k : Kind) (ops : List DocOp) (n : Name) :
    n ∈ ops.flatMap (fun op => usesKind kinds k op.vars) ↔ ∃ op ∈ ops, ∃ t ∈ op.vars, t.base = n ∧ kinds n = k := by
  simp only [List.mem_flatMap, mem_usesKind]

theorem opOf_eq (kinds : Name → Kind) (op : DocOp) :
    opOf kinds op =
      match firstBad kinds op.vars with
      | some e => .error e
      | none => .ok (absOp kinds op) := by
  unfold opOf
  rw [varsUse_eq]
  cases firstBad kinds op.vars <;> simp [absOp]

theorem opsOf_ok (kinds : Name → Kind) :
    ∀ (ops : List DocOp) (os : List Op), opsOf kinds ops = .ok os →
      os = ops.map (absOp kinds) ∧
      ∀ op ∈ ops, firstBad kinds op.vars = none := by
  intro ops
  induction ops with
  | nil => intro os h; simp [opsOf] at h; subst h; simp
  | cons op rest ih =>
    intro os h
    simp only [opsOf, opOf_eq] at h
    cases hb : firstBad kinds op.vars with
    | some e => simp [hb] at h
    | none =>
      simp only [hb] at h
      cases hr : opsOf kinds rest with
      | error e => simp [hr] at h
      | ok os' =>
        simp only [hr, Except.ok.injEq] at h
        obtain ⟨e1, e2⟩ := ih os' hr
        subst h
        refine ⟨by simp [e1], ?_⟩
        intro o ho
        rcases List.mem_cons.mp ho with rfl | ho
        · exact hb
        · exact e2 o ho

theorem opsOf_of_good (kinds : Name → Kind) :
    ∀ (ops : List DocOp), (∀ op ∈ ops, firstBad kinds op.vars = none) →
      opsOf kinds ops = .ok (ops.map (absOp kinds)) := by
  intro ops
  induction ops with
  | nil => intro _; simp [opsOf]
  | cons op rest ih =>
    intro h
    have h1 := h op (by simp)
    have h2 := ih (fun o ho => h o (by simp [ho]))
    simp [opsOf, opOf_eq, h1, h2]

theorem opsOf_error (kinds : Name → Kind) :
    ∀ (ops : List DocOp) (e : Err), opsOf kinds ops = .error e → ∃ op ∈ ops, firstBad kinds op.vars = some e := by
  intro ops
  induction ops with
  | nil => intro e h; simp [opsOf] at h
  | cons op rest ih =>
    intro e h
    simp only [opsOf, opOf_eq] at h
    cases hb : firstBad kinds op.vars with
    | some e' =>
      simp only [hb, Except.error.injEq] at h
      subst h
      exact ⟨op, by simp, hb⟩
    | none =>
      simp only [hb] at h
      cases hr : opsOf kinds rest with
      | error e' =>
        simp only [hr, Except.error.injEq] at h
        subst h
        obtain ⟨o, ho, hbo⟩ := ih e' hr
        exact ⟨o, by simp [ho], hbo⟩
      | ok os' => simp [hr] at h

theorem addOperations_eq (kinds : Name → Kind) :
    ∀ (ops : List DocOp) (st : DocSt),
      addOperationsWith false kinds st ops =
        match opsOf kinds ops with
        | .error e => .error e
        | .ok os =>
          .ok { usedEnums := st.usedEnums ++ os.flatMap (·.resultEnums),
                unpacked := st.unpacked ++ ops.flatMap (·.unpacked),
                arg := st.arg.app ⟨os.flatMap (·.varInputs), os.flatMap (·.varEnums)⟩ } := by
  intro ops
  induction ops with
  | nil => intro st; simp [addOperationsWith, opsOf, ArgSt.app]
  | cons op rest ih =>
    intro st
    simp only [addOperationsWith, addOperationWith, opsOf, opOf, argumentsGenerate_app]
    cases hv : varsUse kinds op.vars with
    | error e => simp
    | ok a =>
      simp only [ih]
      cases hr : opsOf kinds rest with
      | error e => simp
      | ok os => simp [ArgSt.app, List.append_assoc]

theorem mem_remaining (frags : List FragDef) (unp : List Name) (f : FragDef) :
    f ∈ remaining frags unp ↔ f ∈ frags ∧ f.name ∉ unp := by
  simp [remaining, List.mem_filter]

theorem fragmentsEnumsWith_isSome (e : List FragDef → List FragDef) (frags : List FragDef) (unp : List Name) :
    (fragmentsEnumsWith e frags unp).isSome = true ↔ ∃ f ∈ frags, f.name ∉ unp := by
  unfold fragmentsEnumsWith
  cases hr : remaining frags unp with
  | nil =>
    simp only [List.isEmpty_nil, ↓reduceIte, Option.isSome_none, Bool.false_eq_true, false_iff]
    rintro ⟨f, hf, hn⟩
    have : f ∈ remaining frags unp := (mem_remaining frags unp f).mpr ⟨hf, hn⟩
    rw [hr] at this
    cases this
  | cons g gs =>
    simp only [List.isEmpty_cons, Bool.false_eq_true, ↓reduceIte, Option.isSome_some, true_iff]
    have : g ∈ remaining frags unp := by rw [hr]; simp
    obtain ⟨h1, h2⟩ := (mem_remaining frags unp g).mp this
    exact ⟨g, h1, h2⟩

theorem mem_fragmentsEnumsWith (e : List FragDef → List FragDef) (he : ∀ l, (e l).Perm l)
    (frags : List FragDef) (unp : List Name) (n : Name) :
    n ∈ (fragmentsEnumsWith e frags unp).getD [] ↔ ∃ f ∈ frags, f.name ∉ unp ∧ n ∈ f.enums := by
  unfold fragmentsEnumsWith
  cases hr : remaining frags unp with
  | nil =>
    simp only [List.isEmpty_nil, ↓reduceIte, Option.getD_none, List.not_mem_nil, false_iff]
    rintro ⟨f, hf, hn, _⟩
    have : f ∈ remaining frags unp := (mem_remaining frags unp f).mpr ⟨hf, hn⟩
    rw [hr] at this
    cases this
  | cons g gs =>
    simp only [List.isEmpty_cons, Bool.false_eq_true, ↓reduceIte, Option.getD_some, List.mem_flatMap]
    constructor
    · rintro ⟨f, hf, hn⟩
      have hf' : f ∈ remaining frags unp := by rw [hr]; exact (he _).mem_iff.mp hf
      obtain ⟨h1, h2⟩ := (mem_remaining frags unp f).mp hf'
      exact ⟨f, h1, h2, hn⟩
    · rintro ⟨f, hf, hu, hn⟩
      have hf' : f ∈ remaining frags unp := (mem_remaining frags unp f).mpr ⟨hf, hu⟩
      rw [hr] at hf'
      exact ⟨f, (he _).mem_iff.mpr hf', hn⟩

theorem not_mem_unpackedOf (x : DocInput) (n : Name) :
    n ∉ unpackedOf x ↔ ∀ op ∈ x.ops, n ∉ op.unpacked := by
  simp [unpackedOf, List.mem_flatMap]

theorem step_congr (x y : Input) (h1 : x.inputs = y.inputs) (h2 : x.enums = y.enums) (h3 : x.fragEnums = y.fragEnums)
    (h4 : x.allInputs = y.allInputs) (h5 : x.allEnums = y.allEnums) : step x = step y := by
  funext st s
  cases s <;> simp [step, h1, h2, h3, h4, h5]

theorem runSteps_congr (x y : Input) (h1 : x.inputs = y.inputs) (h2 : x.enums = y.enums) (h3 : x.fragEnums = y.fragEnums)
    (h4 : x.allInputs = y.allInputs) (h5 : x.allEnums = y.allEnums) (steps : List Step) (st : St) :
    runSteps x steps st = runSteps y steps st := by
  unfold runSteps
  rw [step_congr x y h1 h2 h3 h4 h5]

theorem generateDocWith_eq (e : List FragDef → List FragDef) (x : DocInput) :
    generateDocWith false e x =
      match toInputWith e x with
      | .error err => .error err
      | .ok i =>
        match generate i with
        | none => .error .fuel
        | some out => .ok out := by
  unfold generateDocWith toInputWith
  rw [addOperations_eq]
  cases ho : opsOf (kindOf x) x.ops with
  | error err => simp
  | ok os =>
    simp only [Bool.false_eq_true, ↓reduceIte]
    unfold generate generateWith
    rw [initState_eq]
    rw [runSteps_congr (shell x (fragmentsEnumsWith e x.frags (([] : List Name) ++ List.flatMap (fun o => o.unpacked) x.ops)))
      { inputs := x.inputs, enums := x.enums, ops := os, fragEnums := fragmentsEnumsWith e x.frags (unpackedOf x),
        allInputs := x.allInputs, allEnums := x.allEnums, customOps := x.customOps,
        customInputs := x.customInputs, customEnums := x.customEnums }
      rfl rfl (by simp [shell, unpackedOf]) rfl rfl]
    -- what is handed over after the `add_operation` loop is the abstraction's initial state: both sides are now the same run
    simp only [handOver, ArgSt.app, resultEnumsOf, varInputsOf, varEnumsOf, List.nil_append]
    rfl

theorem generateDoc_eq (x : DocInput) :
    generateDoc x =
      match toInput x with
      | .error err => .error err
      | .ok i =>
        match generate i with
        | none => .error .fuel
        | some out => .ok out :=
  generateDocWith_eq id x

/-- `generate` reads `fragEnums` for membership only. -/
theorem generate_frag_congr (i : Input) (fe : Option (List Name))
    (hm : ∀ n, n ∈ fe.getD [] ↔ n ∈ i.fragEnums.getD []) :
    generate { i with fragEnums := fe } = generate i := by
  rw [generate_eq, generate_eq]
  simp only [varInputsOf, varEnumsOf]
  cases hf : filterInputDefs i.inputs (if i.allInputs = true then none else some (List.flatMap (fun x => x.varInputs) i.ops)) with
  | none => simp
  | some cds =>
    simp only [Option.map_some, Option.some.injEq, Output.mk.injEq, true_and, and_true]
    cases ha : i.allEnums with
    | true => simp
    | false =>
      simp only [Bool.false_eq_true, ↓reduceIte, filterEnumDefs]
      apply List.filter_congr
      intro c _
      simp only [usedEnumsFinal, fragEnumsOf, resultEnumsOf, varEnumsOf, List.mem_append, hm]

theorem toInput_fields (x : DocInput) (i : Input) (h : toInput x = .ok i) :
    i.inputs = x.inputs ∧ i.enums = x.enums ∧ i.allInputs = x.allInputs ∧ i.allEnums = x.allEnums ∧
    i.customOps = x.customOps ∧ i.customInputs = x.customInputs ∧ i.customEnums = x.customEnums ∧
    i.fragEnums = fragmentsEnums x.frags (unpackedOf x) ∧
    i.ops = x.ops.map (absOp (kindOf x)) := by
  unfold toInput toInputWith at h
  cases ho : opsOf (kindOf x) x.ops with
  | error e => simp [ho] at h
  | ok os =>
    simp only [ho, Except.ok.injEq] at h
    subst h
    exact ⟨rfl, rfl, rfl, rfl, rfl, rfl, rfl, rfl, (opsOf_ok _ _ _ ho).1⟩

theorem kindOf_unprunedDoc (x : DocInput) : kindOf (unprunedDoc x) = kindOf x := rfl

theorem toInput_unprunedDoc (x : DocInput) :
    toInput (unprunedDoc x) =
      match toInput x with
      | .error e => .error e
      | .ok i => .ok { i with allInputs := true, allEnums := true } := by
  unfold toInput toInputWith
  simp only [kindOf_unprunedDoc]
  show (match opsOf (kindOf x) x.ops with | .error err => _ | .ok ops => _) = _
  cases opsOf (kindOf x) x.ops <;> simp [unprunedDoc, unpackedOf]

-- for the `decide +kernel` examples of Properties/C09.lean: core Lean has no `DecidableEq` for `Except` (Model/Order.lean derives
-- one, but nothing of C09 imports that model)
instance : DecidableEq (Except Err Output) := fun a b =>
  match a, b with
  | .ok x, .ok y => if h : x = y then isTrue (by rw [h]) else isFalse (by intro h'; cases h'; exact h rfl)
  | .error x, .error y => if h : x = y then isTrue (by rw [h]) else isFalse (by intro h'; cases h'; exact h rfl)
  | .ok _, .error _ => isFalse (by intro h; cases h)
  | .error _, .ok _ => isFalse (by intro h; cases h)

theorem mem_kinds_of_kindOf (x : DocInput) (n : Name) (k : Kind) (hk : k ≠ .missing) (h : kindOf x n = k) :
    (n, k) ∈ x.kinds := by
  unfold kindOf at h
  cases hl : x.kinds.lookup n with
  | none => simp [hl] at h; exact absurd h.symm hk
  | some k' =>
    simp only [hl, Option.getD_some] at h
    subst h
    exact Lists.lookup_mem hl

end Ariadne.PruneDoc
