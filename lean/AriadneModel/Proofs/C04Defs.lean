/-
  Proofs/C04Defs.lean — the vocabulary of Properties/C04.lean that its kernel-evaluated witnesses need (`Valid`, `Holds`,
  `C04_full`, `Proved_04`) and the witness inputs themselves, in a file of their own below the witness files
  (Proofs/C04WitnessA.lean … C04WitnessD.lean: `decide +kernel` through the whole model) and the proofs.
  Statements only; same namespace as the property file.
-/
import AriadneModel.Model.Package
import AriadneModel.Model.PackageTriggers
import AriadneModel.Model.PackageValid
import AriadneModel.Spec.PyScope

namespace Ariadne.C04
open Ariadne Ariadne.Gql Ariadne.Util Ariadne.Package Ariadne.PackageTriggers Ariadne.PackageValid Ariadne.Spec.PyScope

/-- a valid input, the eight conjuncts of `PackageValid.validB`: names are GraphQL names, schema and document valid as
    `Spec/Validate` decides, variables and input fields declared with input types, the configuration well-formed (`cfgOK`), the
    `@mixin` arguments importable (`mixinsOK`), the two vocabularies of the input agree (`defsMatch`), no fragment cycles -/
def Valid (cfg : Config) (inp : Input) : Prop := validB cfg inp = true

instance (cfg : Config) (inp : Input) : Decidable (Valid cfg inp) := by unfold Valid; infer_instance

/-- `__init__`: there is one, it is the module on disk under `__init__.py`, and its `__all__` is the sorted list of the
    names it imports -/
def initExactB (p : PackageIR) : Bool :=
  p.modules.any fun m => m.kind == .init && m.file == "__init__.py" && m.all == initAll m.imports

/-- what the property promises about one run -/
def holdsB (r : Run) : Bool :=
  match r.outcome with
  | .error err => documentedRefusal err
  | .ok p => wellScopedB p && initExactB p && p.reported == p.onDisk

def Holds (r : Run) : Prop := holdsB r = true

instance (r : Run) : Decidable (Holds r) := by unfold Holds; infer_instance

/-- **C04 at full strength** (the formatter accepting, sets enumerated as listed: independence of the enumeration is
    C10's theorem) -/
def C04_full : Prop := ∀ cfg inp, Valid cfg inp → Holds (modelRun cfg inp)

/-- the unproved region, explicitly: see the header of Properties/C04.lean -/
def Proved_04 (cfg : Config) (inp : Input) : Prop := provedB cfg inp = true

instance (cfg : Config) (inp : Input) : Decidable (Proved_04 cfg inp) := by unfold Proved_04; infer_instance

namespace W

def tQuery (fs : List FieldDef) : TypeDef := { name := "Query", kind := .object, fields := fs }
def str : TypeDef := { name := "String", kind := .scalar }
def int : TypeDef := { name := "Int", kind := .scalar }
def idT : TypeDef := { name := "ID", kind := .scalar }
def bool : TypeDef := { name := "Boolean", kind := .scalar }

def mkInput (types : List TypeDef) (frags : List Fragment) (ops : List OpIn) (defs : List InputGen.TypeDef := []) : Input :=
  { schema := { types := types ++ [str, bool], query := some "Query" }, frags := frags, ops := ops,
    defs := defs ++ [.composite "Query", .scalar "String", .scalar "Boolean"] }

def leaf (n : String) : Selection := .field none n [] 0 []

/-- F4: `enum E { mro OK }  type Query { e: E }   query Q { e }` -/
def enumMro : Input :=
  mkInput [tQuery [⟨"e", .named "E", []⟩], { name := "E", kind := .enum, values := ["mro", "OK"] }] []
    [{ op := { kind := .query, name := some "Q", sid := 1, sel := [leaf "e"] } }] [.enum "E" ["mro", "OK"]]

/-- F2: `type Query { me: User }  type User { id: ID! name: String }   query Q { me { id ... { name } } }` -/
def inlineNoType : Input :=
  mkInput [tQuery [⟨"me", .named "User", []⟩], { name := "User", kind := .object, fields := [⟨"id", .nonNull (.named "ID"), []⟩, ⟨"name", .named "String", []⟩] }, idT] []
    [{ op := { kind := .query, name := some "Q", sid := 1, sel := [.field none "me" [] 2 [leaf "id", .inline none [] 3 [leaf "name"]]] } }]
    [.composite "User", .scalar "ID"]

/-- F10: `type Query { f(a: Int): Int }   query Q($self: Int) { f(a: $self) }` -/
def selfParam : Input :=
  mkInput [tQuery [⟨"f", .named "Int", [⟨"a", .named "Int", false⟩]⟩], int] []
    [{ op := { kind := .query, name := some "Q", sid := 1, sel := [leaf "f"] }, vars := [⟨"self", .named "Int"⟩] }] [.scalar "Int"]

/-- F13: `type Query { f: Int }   query custom_fields { f }` with enable_custom_operations -/
def customClash : Input :=
  mkInput [tQuery [⟨"f", .named "Int", []⟩], int] []
    [{ op := { kind := .query, name := some "custom_fields", sid := 1, sel := [leaf "f"] } }] [.scalar "Int"]

def customCfg : Config := { customOps := true }

/-- F15: `query Q { me { ...UF } }  fragment UF on User { id friend { id friend { id } } }` -/
def userT : TypeDef := { name := "User", kind := .object, fields := [⟨"id", .nonNull (.named "ID"), []⟩, ⟨"friend", .named "User", []⟩] }
def missingRebuild : Input :=
  mkInput [tQuery [⟨"me", .named "User", []⟩], userT, idT]
    [{ name := "UF", on := "User", sid := 3, sel := [leaf "id", .field none "friend" [] 4 [leaf "id", .field none "friend" [] 5 [leaf "id"]]] }]
    [{ op := { kind := .query, name := some "Q", sid := 1, sel := [.field none "me" [] 2 [.spread "UF" []]] } }]
    [.composite "User", .scalar "ID"]

/-- C17-F5 seen from C04: `query Q { me { ...UF } }  fragment UF on User @mixin(from: ".x") { id }` — a documented refusal,
    but raised by the fragments generator AFTER the input types and the operation module were written -/
def mixinOnFragment : Input :=
  mkInput [tQuery [⟨"me", .named "User", []⟩], userT, idT]
    [{ name := "UF", on := "User", dirs := [{ name := "mixin", args := [("from", some ".x")] }], sid := 3, sel := [leaf "id"] }]
    [{ op := { kind := .query, name := some "Q", sid := 1, sel := [.field none "me" [] 2 [.spread "UF" []]] } }]
    [.composite "User", .scalar "ID"]

/-- F12: `type Query { n: Node }  interface Node { id: ID }  interface Named { name: String }
    type A implements Node & Named { id: ID name: String }   query Q { n { id ... on Named { name } } }` -/
def fieldLookup : Input :=
  mkInput [tQuery [⟨"n", .named "Node", []⟩], { name := "Node", kind := .interface, fields := [⟨"id", .named "ID", []⟩] },
           { name := "Named", kind := .interface, fields := [⟨"name", .named "String", []⟩] },
           { name := "A", kind := .object, interfaces := ["Node", "Named"], fields := [⟨"id", .named "ID", []⟩, ⟨"name", .named "String", []⟩] }, idT] []
    [{ op := { kind := .query, name := some "Q", sid := 1, sel := [.field none "n" [] 2 [leaf "id", .inline (some "Named") [] 3 [leaf "name"]]] } }]
    [.composite "Node", .composite "Named", .composite "A", .scalar "ID"]

/-- F14: `enum List { A B }  type Query { e: List es: [List] }   query Q { e es }` -/
def enumList : Input :=
  mkInput [tQuery [⟨"e", .named "List", []⟩, ⟨"es", .list (.named "List"), []⟩], { name := "List", kind := .enum, values := ["A", "B"] }] []
    [{ op := { kind := .query, name := some "Q", sid := 1, sel := [leaf "e", leaf "es"] } }] [.enum "List" ["A", "B"]]

/-- F9: `type Query { dog: Dog animal: Animal }  interface Animal { id: ID }  type Dog implements Animal { id: ID }
    query A { dog { ...AF } }  query B { animal { ...AF } }  fragment AF on Animal { id }` -/
def unpackedInherited : Input :=
  mkInput [tQuery [⟨"dog", .named "Dog", []⟩, ⟨"animal", .named "Animal", []⟩], { name := "Animal", kind := .interface, fields := [⟨"id", .named "ID", []⟩] },
           { name := "Dog", kind := .object, interfaces := ["Animal"], fields := [⟨"id", .named "ID", []⟩] }, idT]
    [{ name := "AF", on := "Animal", sid := 5, sel := [leaf "id"] }]
    [{ op := { kind := .query, name := some "A", sid := 1, sel := [.field none "dog" [] 2 [.spread "AF" []]] } },
     { op := { kind := .query, name := some "B", sid := 3, sel := [.field none "animal" [] 4 [.spread "AF" []]] } }]
    [.composite "Animal", .composite "Dog", .scalar "ID"]

/-- F23: `type Query { a: A b: B } type A { id: ID } type B { id: ID }   query fooBar { a { id } } query foo_bar { b { id } }` -/
def opsOverwritten : Input :=
  mkInput [tQuery [⟨"a", .named "A", []⟩, ⟨"b", .named "B", []⟩], { name := "A", kind := .object, fields := [⟨"id", .named "ID", []⟩] },
           { name := "B", kind := .object, fields := [⟨"id", .named "ID", []⟩] }, idT] []
    [{ op := { kind := .query, name := some "fooBar", sid := 1, sel := [.field none "a" [] 2 [leaf "id"]] } },
     { op := { kind := .query, name := some "foo_bar", sid := 3, sel := [.field none "b" [] 4 [leaf "id"]] } }]
    [.composite "A", .composite "B", .scalar "ID"]

/-- F24: `scalar JSON  input I { j: JSON = FOO, k: Int }  type Query { f(i: I): Int }   query q($i: I) { f(i: $i) }` -/
def enumDefault : Input :=
  mkInput [tQuery [⟨"f", .named "Int", [⟨"i", .named "I", false⟩]⟩], { name := "JSON", kind := .scalar },
           { name := "I", kind := .input, inputFields := [⟨"j", .named "JSON", true⟩, ⟨"k", .named "Int", false⟩] }, int] []
    [{ op := { kind := .query, name := some "q", sid := 1, sel := [leaf "f"] }, vars := [⟨"i", .named "I"⟩] }]
    [.scalar "JSON", .input "I" [⟨"j", .named "JSON", some (.enum "FOO"), false⟩, ⟨"k", .named "Int", none, false⟩], .scalar "Int"]

/-- F25: `type Query { node: Node }  interface Node { id: ID }  interface Named { name: String }
    type User implements Node & Named { id: ID name: String }  type TeamId { raw: String }
    type Team implements Named { name: String id: TeamId }
    query Q { node { id ...F } }  fragment F on Named { name ... on Team { name } }` -/
def danglingRef : Input :=
  mkInput [tQuery [⟨"node", .named "Node", []⟩], { name := "Node", kind := .interface, fields := [⟨"id", .named "ID", []⟩] },
           { name := "Named", kind := .interface, fields := [⟨"name", .named "String", []⟩] },
           { name := "User", kind := .object, interfaces := ["Node", "Named"], fields := [⟨"id", .named "ID", []⟩, ⟨"name", .named "String", []⟩] },
           { name := "TeamId", kind := .object, fields := [⟨"raw", .named "String", []⟩] },
           { name := "Team", kind := .object, interfaces := ["Named"], fields := [⟨"name", .named "String", []⟩, ⟨"id", .named "TeamId", []⟩] }, idT]
    [{ name := "F", on := "Named", sid := 4, sel := [leaf "name", .inline (some "Team") [] 5 [leaf "name"]] }]
    [{ op := { kind := .query, name := some "Q", sid := 1, sel := [.field none "node" [] 2 [leaf "id", .spread "F" []]] } }]
    [.composite "Node", .composite "Named", .composite "User", .composite "TeamId", .composite "Team", .scalar "ID"]

/-- a supported, non-trivial input: two operations, a shared fragment, an enum, an input type with a recursive field -/
def okInput : Input :=
  mkInput [tQuery [⟨"me", .named "User", []⟩, ⟨"f", .named "Int", [⟨"i", .named "In", false⟩]⟩, ⟨"c", .named "Color", []⟩], userT, idT, int,
           { name := "Color", kind := .enum, values := ["RED", "GREEN"] },
           { name := "In", kind := .input, inputFields := [⟨"a", .named "Int", false⟩, ⟨"next", .named "In", false⟩, ⟨"c", .named "Color", false⟩] }]
    [{ name := "UF", on := "User", sid := 5, sel := [leaf "id"] }]
    [{ op := { kind := .query, name := some "GetMe", sid := 1, sel := [.field none "me" [] 2 [.spread "UF" [], .field none "friend" [] 3 [leaf "id"]], leaf "c"] } },
     { op := { kind := .query, name := some "calc", sid := 4, sel := [leaf "f"] }, vars := [⟨"i", .named "In"⟩] }]
    [.composite "User", .scalar "ID", .scalar "Int", .enum "Color" ["RED", "GREEN"],
     .input "In" [⟨"a", .named "Int", none, false⟩, ⟨"next", .named "In", none, false⟩, ⟨"c", .named "Color", none, false⟩]]

end W

/-- the region `leafNamesOK` is a proper one: `type A { x: Int }  type B { x: A }   query Q { a { x } b { x { x } } }` selects `x` as a
    leaf while `B.x` is composite; the input is valid, trigger-free and inside `Proved_04` -/
def W.leafAmbiguous : Input :=
  W.mkInput [W.tQuery [⟨"a", .named "A", []⟩, ⟨"b", .named "B", []⟩], { name := "A", kind := .object, fields := [⟨"x", .named "Int", []⟩] },
             { name := "B", kind := .object, fields := [⟨"x", .named "A", []⟩] }, W.int] []
    [{ op := { kind := .query, name := some "Q", sid := 1,
               sel := [.field none "a" [] 2 [W.leaf "x"], .field none "b" [] 3 [.field none "x" [] 4 [W.leaf "x"]]] } }]
    [.composite "A", .composite "B", .scalar "Int"]

def W.syncCfg : Config :=
  { async := false, baseClientName := "BaseClient", baseClientFile := "base_client.py", snake := false, allInputs := false, allEnums := false }


/-- non-vacuity statement: `okInput` is valid, trigger-free, inside `Proved_04`, and its package has at least 8 modules -/
def W.okNontrivial : Prop :=
  Valid {} W.okInput ∧ Supported_04 {} W.okInput ∧ Proved_04 {} W.okInput ∧
    (match (modelRun {} W.okInput).outcome with | .ok p => decide (p.modules.length ≥ 8) | .error _ => false) = true

instance : Decidable W.okNontrivial := by unfold W.okNontrivial; infer_instance

/-- an anonymous operation is refused with the documented "Query without name." -/
def W.anonymousRefused : Prop :=
  (match (modelRun {} (W.mkInput [W.tQuery [⟨"f", .named "Int", []⟩], W.int] []
    [{ op := { kind := .query, name := none, sid := 1, sel := [W.leaf "f"] } }] [.scalar "Int"])).outcome with
      | .error (.parsing m) => m == "Query without name."
      | _ => false) = true

instance : Decidable W.anonymousRefused := by unfold W.anonymousRefused; infer_instance

end Ariadne.C04
