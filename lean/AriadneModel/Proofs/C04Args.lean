/-
  Proofs/C04Args.lean — what the signature and the `variables` dict of a generated client method mention
  (`ArgumentsGenerator.generate`, Model/Arguments.lean), in terms of the lists the generator keeps
  (`_used_inputs`, `_used_enums`, `_used_custom_scalars`), which only ever grow.
-/
import AriadneModel.Proofs.C04Steps
import AriadneModel.Proofs.Util
import AriadneModel.Proofs.ArgGen


namespace Ariadne.C04Proofs
open Ariadne.Gql Ariadne.Util Ariadne.Package
open Ariadne.Arguments (Use Item)
open Ariadne.Scalars (lookupScalar)
open Ariadne.ArgProofs (Known annP useP leafNameP itemP items_inv)

/-- the generator's three lists only grow from `a` to `b`: what makes a fact about an EARLIER method (`MethodOK`: the names it
    mentions are in the lists) still true when `client.py` imports the FINAL lists -/
structure ArgLe (a b : Arguments.St) : Prop where
  inputs : ∀ x ∈ a.usedInputs, x ∈ b.usedInputs
  enums : ∀ x ∈ a.usedEnums, x ∈ b.usedEnums
  scalars : ∀ x ∈ a.usedScalars, x ∈ b.usedScalars

theorem ArgLe.refl (a : Arguments.St) : ArgLe a a := ⟨fun _ h => h, fun _ h => h, fun _ h => h⟩

theorem ArgLe.trans {a b c : Arguments.St} (h1 : ArgLe a b) (h2 : ArgLe b c) : ArgLe a c :=
  ⟨fun x h => h2.inputs x (h1.inputs x h), fun x h => h2.enums x (h1.enums x h), fun x h => h2.scalars x (h1.scalars x h)⟩

/-- the use of a parameter is in the list `client.py` imports it from (inputs from `input_types`, enums from `enums`, scalars
    through their own imports); a plain scalar needs no list -/
def Recorded (env : Arguments.Env) (S : Arguments.St) : Use → Prop
  | .plain => True
  | .input n => env.kind n = some .input ∧ n ∈ S.usedInputs
  | .enum n => env.kind n = some .enum ∧ n ∈ S.usedEnums
  | .custom n => n ∈ S.usedScalars

/-- the name at the leaf of an argument annotation, by the use that was reported -/
def LeafOf (env : Arguments.Env) (use : Use) (u : String) : Prop :=
  match use with
  | .plain => u ∈ Tables.inputScalarsMap.map (·.2) ∨ u = "Any"
  | .input n => u = n ∧ env.kind n = some .input
  | .enum n => u = n ∧ env.kind n = some .enum
  | .custom n => ∃ d, lookupScalar env.scalars n = some d ∧ u = d.typeName

/-- what `schema.type_map` says about the type a use names -/
def UseKind (env : Arguments.Env) : Use → Prop
  | .plain => True
  | .input m => env.kind m = some .input
  | .enum m => env.kind m = some .enum
  | .custom m => (lookupScalar env.scalars m).isSome = true

theorem mem_optionalPrefix {o : Bool} {l : List String} {u : String} (h : u ∈ (if o then ["Optional"] else []) ++ l) :
    u = "Optional" ∨ u ∈ l := by
  cases o <;> simp_all

theorem nannUses_annP (env : Arguments.Env) : ∀ (t : TypeRef) (nl : Bool), ∀ u ∈ nannUses (annP env t nl),
    u = "Optional" ∨ u = "List" ∨ u = leafNameP env t.base
  | .named n, nl, u, h => (mem_optionalPrefix h).imp id fun h => Or.inr (List.mem_singleton.mp h)
  | .list t, nl, u, h => by
    rcases mem_optionalPrefix h with h | h
    · exact Or.inl h
    · rcases List.mem_cons.mp h with h | h
      · exact Or.inr (Or.inl h)
      · exact nannUses_annP env t nl u h
  | .nonNull t, _, u, h => nannUses_annP env t false u h

theorem leafOf_useP {env : Arguments.Env} {n : String} (hk : Known env n) :
    LeafOf env (useP env n) (leafNameP env n) ∧ UseKind env (useP env n) := by
  unfold useP leafNameP
  rcases hk with h | h | h <;> simp only [h]
  · exact ⟨⟨rfl, h⟩, h⟩
  · exact ⟨⟨rfl, h⟩, h⟩
  · cases hl : lookupScalar env.scalars n with
    | some d => exact ⟨⟨d, hl, rfl⟩, by simp [UseKind, hl]⟩
    | none =>
      refine ⟨?_, trivial⟩
      show _ ∈ Tables.inputScalarsMap.map (·.2) ∨ _ = "Any"
      cases hm : Util.lookupStr n Tables.inputScalarsMap with
      | none => exact Or.inr rfl
      | some py => exact Or.inl (List.mem_map.mpr ⟨_, Util.lookupStr_mem hm, rfl⟩)

theorem dictValue_call {env : Arguments.Env} {py fn py' : String} {use : Use} (h : Arguments.dictValue env py use = .call fn py') :
    ∃ n d, use = .custom n ∧ lookupScalar env.scalars n = some d ∧ d.serializeName = some fn := by
  cases use with
  | custom n =>
    simp only [Arguments.dictValue] at h
    cases hl : lookupScalar env.scalars n with
    | none => simp [hl] at h
    | some d =>
      cases hs : d.serializeName with
      | none => simp [hl, hs] at h
      | some f => simp only [hl, hs, Arguments.DictVal.call.injEq] at h; exact ⟨n, d, rfl, hl, by rw [hs, h.1]⟩
  | _ => cases h

theorem record_le (S : Arguments.St) (use : Use) : ArgLe S (S.record use) := by
  cases use <;> simp only [Arguments.St.record] <;>
    first
      | exact ArgLe.refl S
      | exact ⟨fun x h => List.mem_append_left _ h, fun _ h => h, fun _ h => h⟩
      | exact ⟨fun _ h => h, fun x h => List.mem_append_left _ h, fun _ h => h⟩
      | exact ⟨fun _ h => h, fun _ h => h, fun x h => List.mem_append_left _ h⟩

theorem foldl_record_le : ∀ (is : List Item) (S : Arguments.St), ArgLe S (is.foldl (fun st i => st.record i.use) S)
  | [], S => ArgLe.refl S
  | i :: rest, S => (record_le S i.use).trans (foldl_record_le rest _)

theorem recorded_mono {env : Arguments.Env} {a b : Arguments.St} (h : ArgLe a b) {use : Use} (hr : Recorded env a use) : Recorded env b use := by
  cases use with
  | plain => trivial
  | input n => exact ⟨hr.1, h.inputs n hr.2⟩
  | «enum» n => exact ⟨hr.1, h.enums n hr.2⟩
  | custom n => exact h.scalars n hr

theorem foldl_record_has {env : Arguments.Env} : ∀ (is : List Item) (S : Arguments.St) (i : Item), i ∈ is →
    UseKind env i.use →
    Recorded env (is.foldl (fun st i => st.record i.use) S) i.use
  | [], _, _, h, _ => by cases h
  | j :: rest, S, i, h, hk => by
    simp only [List.foldl_cons]
    rcases List.mem_cons.mp h with rfl | h
    · refine recorded_mono (foldl_record_le rest _) ?_
      cases hu : i.use with
      | plain => trivial
      | input n => rw [hu] at hk; exact ⟨hk, by simp [Arguments.St.record]⟩
      | «enum» n => rw [hu] at hk; exact ⟨hk, by simp [Arguments.St.record]⟩
      | custom n => simp [Recorded, Arguments.St.record]
    · exact foldl_record_has rest _ i h hk

/-- what a method's signature and dict mention, relative to the generator's lists `S` -/
structure MethodOK (env : Arguments.Env) (S : Arguments.St) (m : ClientMethod.Method) : Prop where
  params : ∀ a ∈ m.out.params, ∀ u ∈ nannUses a.ann, u = "Optional" ∨ u = "List" ∨ ∃ use, Recorded env S use ∧ LeafOf env use u
  dict : ∀ kv ∈ m.out.dict, ∀ fn py, kv.2 = .call fn py →
    ∃ n d, n ∈ S.usedScalars ∧ lookupScalar env.scalars n = some d ∧ d.serializeName = some fn

theorem MethodOK.mono {env : Arguments.Env} {a b : Arguments.St} (h : ArgLe a b) {m : ClientMethod.Method} (hm : MethodOK env a m) :
    MethodOK env b m :=
  ⟨fun x hx u hu => by
      rcases hm.params x hx u hu with h1 | h1 | ⟨use, hr, hl⟩
      · exact Or.inl h1
      · exact Or.inr (Or.inl h1)
      · exact Or.inr (Or.inr ⟨use, recorded_mono h hr, hl⟩),
   fun kv hkv fn py e => by
      obtain ⟨n, d, hn, hd, hs⟩ := hm.dict kv hkv fn py e
      exact ⟨n, d, h.scalars n hn, hd, hs⟩⟩

theorem argsGenerate_spec {env : Arguments.Env} {defs : List Arguments.VarDef} {S S' : Arguments.St} {out : Arguments.Out}
    (h : Arguments.generate env defs S = .ok (out, S')) :
    ArgLe S S' ∧
    (∀ a ∈ out.params, ∀ u ∈ nannUses a.ann, u = "Optional" ∨ u = "List" ∨ ∃ use, Recorded env S' use ∧ LeafOf env use u) ∧
    (∀ kv ∈ out.dict, ∀ fn py, kv.2 = .call fn py →
      ∃ n d, n ∈ S'.usedScalars ∧ lookupScalar env.scalars n = some d ∧ d.serializeName = some fn) := by
  unfold Arguments.generate at h
  cases hi : Arguments.items env defs with
  | error e => rw [hi] at h; cases h
  | ok is =>
    rw [hi] at h
    cases h
    obtain ⟨hk, rfl⟩ := items_inv env defs is hi
    -- every variable's use has been recorded by the end of the loop
    have hrec : ∀ v ∈ defs, Recorded env ((defs.map (itemP env)).foldl (fun st i => st.record i.use) S) (useP env v.type.base) :=
      fun v hv => foldl_record_has _ S (itemP env v) (List.mem_map.mpr ⟨v, hv, rfl⟩) (leafOf_useP (hk v hv)).2
    refine ⟨foldl_record_le _ S, fun a ha u hu => ?_, fun kv hkv fn py e => ?_⟩
    · have : ∃ v ∈ defs, a = (itemP env v).arg := by
        simp only [Arguments.Out.params, Arguments.outOf, List.mem_append, List.mem_map, List.mem_filter] at ha
        rcases ha with ⟨i, ⟨⟨v, hv, rfl⟩, _⟩, rfl⟩ | ⟨i, ⟨⟨v, hv, rfl⟩, _⟩, rfl⟩ <;> exact ⟨v, hv, rfl⟩
      obtain ⟨v, hv, rfl⟩ := this
      exact (nannUses_annP env v.type true u hu).imp id (Or.imp id fun (e : u = _) => ⟨_, hrec v hv, e ▸ (leafOf_useP (hk v hv)).1⟩)
    · simp only [Arguments.outOf, List.map_map, List.mem_map] at hkv
      obtain ⟨v, hv, rfl⟩ := hkv
      obtain ⟨n, d, hu, hd, hs⟩ := dictValue_call e
      have := hrec v hv
      rw [show useP env v.type.base = .custom n from hu] at this
      exact ⟨n, d, this, hd, hs⟩

theorem addMethod_spec {env : Arguments.Env} {ot : ClientMethod.OpType} {on : Option String} {defs : List Arguments.VarDef}
    {name rt text : String} {async : Bool} {S S' : Arguments.St} {m : ClientMethod.Method}
    (h : ClientMethod.addMethod env ot on defs name rt text async S = .ok (m, S')) : ArgLe S S' ∧ MethodOK env S' m := by
  obtain ⟨out, k, hg, rfl, _⟩ := addMethod_ok h
  obtain ⟨hle, hp, hd⟩ := argsGenerate_spec hg
  exact ⟨hle, ⟨hp, hd⟩⟩

/-- every name in the three lists is of the kind of its list: what lets `from .input_types import …` / `from .enums import …`
    of the client module resolve against classes those modules define -/
structure ListsKinded (env : Arguments.Env) (S : Arguments.St) : Prop where
  inputs : ∀ n ∈ S.usedInputs, env.kind n = some .input
  enums : ∀ n ∈ S.usedEnums, env.kind n = some .enum
  scalars : ∀ n ∈ S.usedScalars, (lookupScalar env.scalars n).isSome = true

theorem record_kinded {env : Arguments.Env} {S : Arguments.St} {use : Use} (h : ListsKinded env S) (hk : UseKind env use) :
    ListsKinded env (S.record use) := by
  cases use with
  | plain => exact h
  | input n =>
    refine ⟨?_, h.enums, h.scalars⟩
    intro x hx
    simp only [Arguments.St.record, List.mem_append, List.mem_singleton] at hx
    rcases hx with hx | rfl
    · exact h.inputs x hx
    · exact hk
  | «enum» n =>
    refine ⟨h.inputs, ?_, h.scalars⟩
    intro x hx
    simp only [Arguments.St.record, List.mem_append, List.mem_singleton] at hx
    rcases hx with hx | rfl
    · exact h.enums x hx
    · exact hk
  | custom n =>
    refine ⟨h.inputs, h.enums, ?_⟩
    intro x hx
    simp only [Arguments.St.record, List.mem_append, List.mem_singleton] at hx
    rcases hx with hx | rfl
    · exact h.scalars x hx
    · exact hk

theorem foldl_record_kinded {env : Arguments.Env} : ∀ (is : List Item) (S : Arguments.St), ListsKinded env S →
    (∀ i ∈ is, UseKind env i.use) → ListsKinded env (is.foldl (fun st i => st.record i.use) S)
  | [], _, h, _ => h
  | i :: rest, S, h, hk => by
    simp only [List.foldl_cons]
    exact foldl_record_kinded rest _ (record_kinded h (hk i List.mem_cons_self)) (fun j hj => hk j (List.mem_cons_of_mem _ hj))

theorem argsGenerate_kinded {env : Arguments.Env} {defs : List Arguments.VarDef} {S S' : Arguments.St} {out : Arguments.Out}
    (h : Arguments.generate env defs S = .ok (out, S')) (hS : ListsKinded env S) : ListsKinded env S' := by
  obtain ⟨is, hi, rfl⟩ := ArgProofs.generate_inv h
  obtain ⟨hk, rfl⟩ := items_inv env defs is hi
  refine foldl_record_kinded _ S hS fun i hi' => ?_
  obtain ⟨v, hv, rfl⟩ := List.mem_map.mp hi'
  exact (leafOf_useP (hk v hv)).2

theorem addMethod_kinded {env : Arguments.Env} {ot : ClientMethod.OpType} {on : Option String} {defs : List Arguments.VarDef}
    {name rt text : String} {async : Bool} {S S' : Arguments.St} {m : ClientMethod.Method}
    (h : ClientMethod.addMethod env ot on defs name rt text async S = .ok (m, S')) (hS : ListsKinded env S) : ListsKinded env S' := by
  obtain ⟨out, k, hg, _, _⟩ := addMethod_ok h
  exact argsGenerate_kinded hg hS

theorem argSt_kinded {cfg : Config} {inp : Input} {fl : Nat} {st : St} (h : addOperations cfg inp fl {} inp.ops = .ok st) :
    ListsKinded (argEnv cfg inp) st.argSt := by
  refine addOperations_ind (fun st => ListsKinded (argEnv cfg inp) st.argSt)
    ⟨fun _ h => (nomatch h), fun _ h => (nomatch h), fun _ h => (nomatch h)⟩ ?_ h
  intro st o st' _ hI hs
  obtain ⟨n, out, m, argSt, _, _, hm, rfl⟩ := addOperation_ok hs
  exact addMethod_kinded hm hI

theorem entries_ok {cfg : Config} {inp : Input} {fl : Nat} {st : St} (h : addOperations cfg inp fl {} inp.ops = .ok st) :
    ∀ e ∈ st.entries, MethodOK (argEnv cfg inp) st.argSt e.method := by
  refine addOperations_ind (fun st => ∀ e ∈ st.entries, MethodOK (argEnv cfg inp) st.argSt e.method) (fun _ h => nomatch h) ?_ h
  intro st o st' _ hI hs
  obtain ⟨n, out, m, argSt, _, _, hm, rfl⟩ := addOperation_ok hs
  obtain ⟨hle, hok⟩ := addMethod_spec hm
  intro e he
  rcases List.mem_append.mp he with he | he
  · exact (hI e he).mono hle
  · have : e = ⟨m, methodName n⟩ := by simpa using he
    subst this
    exact hok

end Ariadne.C04Proofs
