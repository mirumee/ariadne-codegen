/-
  Proofs/C04Errors.lean — where an exception that escapes `main.client` / `PackageGenerator.generate` is raised
  (the origin of every `.error` of `Package.runPackage`), which of those origins a valid input excludes, and that a refusal
  raised before `generate()` leaves nothing on disk (`refused_before_write`).  What a run has written is stated for a run that
  returns (`run_ok`) and for those refusals only; for an exception inside `generate()` only its origin is stated (`run_raised`).
-/
import AriadneModel.Model.Package
import AriadneModel.Model.PackageValid
import AriadneModel.Proofs.C04Disk
import AriadneModel.Proofs.Prune
import AriadneModel.Proofs.ArgGen
import AriadneModel.Proofs.InputField


namespace Ariadne.C04Proofs
open Ariadne.Gql Ariadne.Package Ariadne.PackageValid
open Ariadne.ResultTypes (GenErr pascal)

/-- where an exception raised while `main.client` feeds the operations to the package generator comes from -/
inductive OpsErr (cfg : Config) (inp : Input) (fl : Nat) : GenErr → Prop
  | anonymous (o : OpIn) : o ∈ inp.ops → o.op.name = none → OpsErr cfg inp fl (.parsing "Query without name.")
  | resultTypes (o : OpIn) (marks : List Nat) (err : GenErr) : o ∈ inp.ops →
      ResultTypes.generate (rtEnv cfg inp) fl (.op o.op) marks = .error err → OpsErr cfg inp fl err
  | method (o : OpIn) (n : String) (st : Arguments.St) (err : Arguments.GenErr) : o ∈ inp.ops → o.op.name = some n →
      ClientMethod.addMethod (argEnv cfg inp) (opType o.op.kind) o.op.name o.vars (methodName n) (pascal n) o.text cfg.async st = .error err →
      OpsErr cfg inp fl (ofArgErr err)

theorem addOperation_error {cfg : Config} {inp : Input} {fl : Nat} {st : St} {o : OpIn} {err : GenErr} (ho : o ∈ inp.ops)
    (h : addOperation cfg inp fl st o = .error err) : OpsErr cfg inp fl err := by
  unfold addOperation at h
  cases hn : o.op.name with
  | none =>
    rw [hn] at h
    simp only [Except.error.injEq] at h
    subst h
    exact .anonymous o ho hn
  | some n =>
    rw [hn] at h
    simp only at h
    cases hg : ResultTypes.generate (rtEnv cfg inp) fl (.op o.op) st.marks with
    | error e1 =>
      rw [hg] at h
      simp only [Except.error.injEq] at h
      subst h
      exact .resultTypes o st.marks e1 ho hg
    | ok out =>
      rw [hg] at h
      simp only at h
      cases hm : ClientMethod.addMethod (argEnv cfg inp) (opType o.op.kind) (some n) o.vars (methodName n) (pascal n) o.text cfg.async st.argSt with
      | error e2 =>
        rw [hm] at h
        simp only [Except.error.injEq] at h
        subst h
        exact .method o n st.argSt e2 ho hn (by rw [hn]; exact hm)
      | ok r =>
        rw [hm] at h
        obtain ⟨m, a⟩ := r
        simp at h

theorem addOperations_error {cfg : Config} {inp : Input} {fl : Nat} {err : GenErr} (ops : List OpIn) (st : St)
    (hin : ∀ o ∈ ops, o ∈ inp.ops) (h : addOperations cfg inp fl st ops = .error err) : OpsErr cfg inp fl err := by
  fun_induction addOperations cfg inp fl st ops with
  | case1 st => cases h
  | case2 st o rest e ha => cases h; exact addOperation_error (hin o List.mem_cons_self) ha
  | case3 st o rest st1 ha ih => exact ih (fun x hx => hin x (List.mem_cons_of_mem _ hx)) h

/-- where an exception raised inside `PackageGenerator.generate` (after the unique-name check) comes from.  `run_error_origin`,
    `refusal_origin` and `generate_total_partial` speak this form; `RaisedBy` (Proofs/C04Disk.lean) says the same three origins as a
    disjunction that keeps the arguments of the failing call (`generateSteps_run`, `run_raised`, `model_run_total`);
    `RaisedBy.stepsErr` converts -/
inductive StepsErr (fmt : FmtOracle) (e : Order.EnumOracle) (cfg : Config) (inp : Input) (fl : Nat) (st : St) : GenErr → Prop
  | formatter (m : ModuleIR) : fmt m = false → StepsErr fmt e cfg inp fl st (.internal "InvalidInput")
  | inputs (err : GenErr) : inputsModule cfg inp.defs st.argSt.usedInputs = .error err → StepsErr fmt e cfg inp fl st err
  | fragments (names : List String) (err : Fragments.Err) :
      (Fragments.genFragments (rtEnv cfg inp) fl names st.marks = .error err ∨
       Fragments.generateFragments e (rtEnv cfg inp) fl names st.marks = .error err) → StepsErr fmt e cfg inp fl st (ofFragErr err)

theorem RaisedBy.stepsErr {fmt : FmtOracle} {e : Order.EnumOracle} {cfg : Config} {inp : Input} {fl : Nat} {st : St} {err : GenErr}
    (h : RaisedBy fmt e cfg inp fl st err) : StepsErr fmt e cfg inp fl st err := by
  rcases h with ⟨m, hm, rfl⟩ | hi | ⟨ferr, rfl, hf⟩
  · exact .formatter m hm
  · exact .inputs err hi
  · exact .fragments _ ferr hf

/-- `runPackage` unfolded, nothing more; what `generate()` wrote is read off `generateSteps_run` by `package_described`
    (Proofs/C04Disk.lean) -/
theorem run_ok {fmt : FmtOracle} {e : Order.EnumOracle} {cfg : Config} {inp : Input} {fl : Nat} {p : PackageIR}
    (h : (runPackage fmt e cfg inp fl).outcome = .ok p) :
    ∃ st g, addOperations cfg inp fl {} inp.ops = .ok st ∧ hasDup (checkedFileNames cfg (st.files.map (·.1))) = false ∧
      generateSteps fmt e cfg inp fl st (genSt0 cfg st) = .ok g ∧ p = packageOf cfg g ∧
      (runPackage fmt e cfg inp fl).written = g.log ++ extraWritesOf cfg := by
  unfold runPackage at h ⊢
  cases ha : addOperations cfg inp fl {} inp.ops with
  | error e1 => simp only [ha] at h; cases h
  | ok st =>
    simp only [ha] at h ⊢
    cases hd : hasDup (checkedFileNames cfg (st.files.map (·.1))) with
    | true => simp only [hd, if_true] at h; cases h
    | false =>
      simp only [hd] at h ⊢
      cases hg : generateSteps fmt e cfg inp fl st (genSt0 cfg st) with
      | error x => simp only [hg] at h; cases h
      | ok g => simp only [hg] at h ⊢; cases h; exact ⟨st, g, rfl, hd, hg, rfl, rfl⟩

theorem run_raised {fmt : FmtOracle} {e : Order.EnumOracle} {cfg : Config} {inp : Input} {fl : Nat} {err : GenErr}
    (h : (runPackage fmt e cfg inp fl).outcome = .error err) :
    (addOperations cfg inp fl {} inp.ops = .error err ∧ runPackage fmt e cfg inp fl = { outcome := .error err }) ∨
    (∃ st, addOperations cfg inp fl {} inp.ops = .ok st ∧ hasDup (checkedFileNames cfg (st.files.map (·.1))) = true ∧
      err = .parsing "Duplicated file names" ∧ runPackage fmt e cfg inp fl = { outcome := .error err }) ∨
    (∃ st, addOperations cfg inp fl {} inp.ops = .ok st ∧ hasDup (checkedFileNames cfg (st.files.map (·.1))) = false ∧
      RaisedBy fmt e cfg inp fl st err) := by
  unfold runPackage at h ⊢
  cases ha : addOperations cfg inp fl {} inp.ops with
  | error e1 => simp only [ha] at h ⊢; cases h; exact Or.inl ⟨rfl, rfl⟩
  | ok st =>
    simp only [ha] at h ⊢
    cases hd : hasDup (checkedFileNames cfg (st.files.map (·.1))) with
    | true => simp only [hd, if_true] at h ⊢; cases h; exact Or.inr (Or.inl ⟨st, rfl, hd, rfl, rfl⟩)
    | false =>
      simp only [hd] at h ⊢
      cases hg : generateSteps fmt e cfg inp fl st (genSt0 cfg st) with
      | ok g => simp [hg] at h
      | error x =>
        obtain ⟨g, e1⟩ := x
        simp only [hg] at h
        cases h
        exact Or.inr (Or.inr ⟨st, rfl, hd, ((generateSteps_run fmt e cfg inp fl st).bad hg).1⟩)

theorem run_error_origin {fmt : FmtOracle} {e : Order.EnumOracle} {cfg : Config} {inp : Input} {fl : Nat} {err : GenErr}
    (h : (runPackage fmt e cfg inp fl).outcome = .error err) :
    OpsErr cfg inp fl err ∨ err = .parsing "Duplicated file names" ∨
      ∃ st, addOperations cfg inp fl {} inp.ops = .ok st ∧ StepsErr fmt e cfg inp fl st err := by
  rcases run_raised h with ⟨ha, _⟩ | ⟨_, _, _, rfl, _⟩ | ⟨st, ha, _, hr⟩
  · exact Or.inl (addOperations_error inp.ops {} (fun _ ho => ho) ha)
  · exact Or.inr (Or.inl rfl)
  · exact Or.inr (Or.inr ⟨st, ha, hr.stepsErr⟩)

/-- `varsTyped` says the variables' types are known to the arguments generator -/
theorem known_of_inputKind {env : Arguments.Env} {n : String} (h : isInputKind (env.kind n) = true) : ArgProofs.Known env n := by
  unfold ArgProofs.Known
  cases hk : env.kind n with
  | none => rw [hk] at h; cases h
  | some k => cases k <;> simp_all [isInputKind]

theorem addMethod_error_documented {env : Arguments.Env} {ot : ClientMethod.OpType} {on : Option String} {defs : List Arguments.VarDef}
    {name rt text : String} {async : Bool} {st : Arguments.St} {err : Arguments.GenErr}
    (hv : ∀ v ∈ defs, isInputKind (env.kind v.type.base) = true)
    (h : ClientMethod.addMethod env ot on defs name rt text async st = .error err) :
    err = .notSupported "Subscriptions are only available when using async client." ∧ async = false ∧ ot = .subscription := by
  unfold ClientMethod.addMethod at h
  have his := ArgProofs.items_ok env defs fun v h => known_of_inputKind (hv v h)
  simp only [Arguments.generate, his] at h
  cases ot <;> simp at h
  cases async <;> simp at h
  exact ⟨h.symm, rfl, rfl⟩

theorem annOf_some (kinds : String → InputField.Kind) (t : InputGen.TypeRef) (nullable : Bool) (h : inputKindOK (kinds t.base) = true) :
    (InputField.annOf kinds t nullable).isSome = true := by
  rw [InputField.annOf_eq]
  unfold InputField.namedAnn
  split <;> simp_all [inputKindOK]

/-- every input field of the schema is declared with an input type (what graphql-core's schema validation guarantees) -/
def InputFieldsTyped (cfg : Config) (inp : Input) : Prop :=
  ∀ d ∈ inp.defs, ∀ n fs, d = .input n fs → ∀ f ∈ fs, inputKindOK (InputField.kindOf (inputCfg cfg) inp.defs f.type.base) = true

theorem classes_fields_some {cfg : Config} {inp : Input} (hv : InputFieldsTyped cfg inp) :
    (InputField.classes (inputCfg cfg) inp.defs).any (fun c => c.fields.any Option.isNone) = false := by
  cases hc : (InputField.classes (inputCfg cfg) inp.defs).any (fun c => c.fields.any Option.isNone) with
  | false => rfl
  | true =>
    exfalso
    obtain ⟨c, hcm, hany⟩ := List.any_eq_true.mp hc
    obtain ⟨fd, hfd, hnone⟩ := List.any_eq_true.mp hany
    unfold InputField.classes at hcm
    obtain ⟨d, hd, hco⟩ := List.mem_filterMap.mp hcm
    cases d with
    | input n fs =>
      simp only [InputField.classOf, Option.some.injEq] at hco
      subst hco
      simp only [InputField.genClass] at hfd
      obtain ⟨f, hf, rfl⟩ := List.mem_map.mp hfd
      have hk := hv _ hd n fs rfl f hf
      have hs := annOf_some (InputField.kindOf (inputCfg cfg) inp.defs) f.type true hk
      simp only [InputField.genField] at hnone
      cases ha : InputField.annOf (InputField.kindOf (inputCfg cfg) inp.defs) f.type true with
      | none => rw [ha] at hs; simp at hs
      | some r => obtain ⟨a, ft⟩ := r; rw [ha] at hnone; simp at hnone
    | enum n vs => simp [InputField.classOf] at hco
    | scalar n => simp [InputField.classOf] at hco
    | composite n => simp [InputField.classOf] at hco

/-- `_generate_input_types` never raises for a schema whose input fields have input types (the dependency closure
    terminates for every graph: `Prune.filterInputDefs_total`) -/
theorem inputsModule_ok {cfg : Config} {inp : Input} (hv : InputFieldsTyped cfg inp) (used : List String) :
    ∃ io, inputsModule cfg inp.defs used = .ok io := by
  obtain ⟨kept, hk⟩ := Prune.filterInputDefs_total (pruneTable cfg inp.defs) (if cfg.allInputs then none else some used)
  exact ⟨_, by simp only [inputsModule, classes_fields_some hv, hk, Bool.false_eq_true, if_false]; rfl⟩

theorem refused_before_write {fmt : FmtOracle} {e : Order.EnumOracle} {cfg : Config} {inp : Input} {fl : Nat}
    (h : (∃ err, addOperations cfg inp fl {} inp.ops = .error err) ∨
         (∃ st, addOperations cfg inp fl {} inp.ops = .ok st ∧ hasDup (checkedFileNames cfg (st.files.map (·.1))) = true)) :
    (runPackage fmt e cfg inp fl).mkdir = false ∧ (runPackage fmt e cfg inp fl).written = [] ∧
      ∃ err, (runPackage fmt e cfg inp fl).outcome = .error err := by
  unfold runPackage
  rcases h with ⟨err, ha⟩ | ⟨st, ha, hd⟩
  · rw [ha]; exact ⟨rfl, rfl, err, rfl⟩
  · simp only [ha, hd, if_true]; exact ⟨trivial, trivial, _, rfl⟩

theorem addOperations_fails {cfg : Config} {inp : Input} {fl : Nat} (ops : List OpIn) (st : St)
    (h : ∃ o ∈ ops, ∀ s st', addOperation cfg inp fl s o ≠ .ok st') : ∃ err, addOperations cfg inp fl st ops = .error err := by
  fun_induction addOperations cfg inp fl st ops with
  | case1 st => obtain ⟨o, ho, _⟩ := h; cases ho
  | case2 st o rest e ha => exact ⟨e, rfl⟩
  | case3 st o rest st1 ha ih =>
    obtain ⟨x, hx, hbad⟩ := h
    rcases List.mem_cons.mp hx with rfl | hx
    · exact absurd ha (hbad st st1)
    · exact ih ⟨x, hx, hbad⟩

theorem addOperations_anonymous {cfg : Config} {inp : Input} {fl : Nat} (ops : List OpIn) (st : St)
    (h : ∃ o ∈ ops, o.op.name = none) : ∃ err, addOperations cfg inp fl st ops = .error err := by
  obtain ⟨o, ho, hn⟩ := h
  refine addOperations_fails ops st ⟨o, ho, fun s st' ha => ?_⟩
  obtain ⟨n, _, _, _, hn', _⟩ := addOperation_ok ha
  rw [hn] at hn'
  cases hn'

theorem addOperations_sync_subscription {cfg : Config} {inp : Input} {fl : Nat} (hs : cfg.async = false) (ops : List OpIn) (st : St)
    (h : ∃ o ∈ ops, o.op.kind = .subscription) : ∃ err, addOperations cfg inp fl st ops = .error err := by
  obtain ⟨o, ho, hk⟩ := h
  refine addOperations_fails ops st ⟨o, ho, fun s st' ha => ?_⟩
  -- `add_method` returns a subscription only for an async client
  obtain ⟨n, out, m, argSt, _, _, hm, _⟩ := addOperation_ok ha
  obtain ⟨_, _, _, _, hsub⟩ := addMethod_ok hm
  rw [hk, hs] at hsub
  cases hsub rfl

end Ariadne.C04Proofs
