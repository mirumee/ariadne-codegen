/-
  Property C01: the annotation language of the tier descriptions (`wrapAnn`, `condAnn`, Proofs/C01PlainDefs.lean)
  against the generator's annotation functions (`annotate_nested_unions`, `parse_directives`, the leaf annotation of
  Proofs/ResultLeaf.lean).  Used by the generation half and by the validation half of every tier.
-/
import AriadneModel.Proofs.ResultWrap


namespace Ariadne.C01Ann
open Ariadne Ariadne.Gql Ariadne.ResultTypes Ariadne.C01Plain

/-- a base annotation that `annotate_nested_unions` leaves alone -/
def SimpleBase (a : Ann) : Prop := (∃ n, a = .name n) ∨ (∃ n, a = .cls n)

theorem annotateNested_optionalIf (b : Bool) (a : Ann) :
    annotateNested (optionalIf b a) = optionalIf b (annotateNested a) := by
  cases b <;> simp [optionalIf, annotateNested]

theorem annotateNested_wrapAnn (base : Ann) (hb : SimpleBase base) (T : TypeRef) : ∀ nullable : Bool,
    annotateNested (wrapAnn base nullable T) = wrapAnn base nullable T := by
  induction T with
  | named n =>
    intro b; simp only [wrapAnn, annotateNested_optionalIf]
    rcases hb with ⟨x, rfl⟩ | ⟨x, rfl⟩ <;> simp [annotateNested]
  | list t ih => intro b; simp only [wrapAnn, annotateNested_optionalIf, annotateNested, ih]
  | nonNull t ih => intro b; simp only [wrapAnn, ih]

theorem annotateTop_wrapAnn (base : Ann) (hb : SimpleBase base) (T : TypeRef) : ∀ nullable : Bool,
    annotateTop (wrapAnn base nullable T) = wrapAnn base nullable T := by
  induction T with
  | named n =>
    intro b
    rcases hb with ⟨x, rfl⟩ | ⟨x, rfl⟩ <;> cases b <;> simp [wrapAnn, optionalIf, annotateTop, annotateNested]
  | list t ih =>
    intro b
    cases b <;> simp [wrapAnn, optionalIf, annotateTop, annotateNested, annotateNested_wrapAnn base hb]
  | nonNull t ih => intro b; simp only [wrapAnn, ih]

theorem isUnionAnn_wrapAnn (base : Ann) (hb : SimpleBase base) (T : TypeRef) : ∀ nullable : Bool,
    isUnionAnn (wrapAnn base nullable T) = false := by
  induction T with
  | named n =>
    intro b
    rcases hb with ⟨x, rfl⟩ | ⟨x, rfl⟩ <;> cases b <;> simp [wrapAnn, optionalIf, isUnionAnn]
  | list t ih => intro b; cases b <;> simp [wrapAnn, optionalIf, isUnionAnn]
  | nonNull t ih => intro b; simp only [wrapAnn, ih]

theorem isUnionAnn_condAnn (a : Ann) (dirs : List Directive) (h : isUnionAnn a = false) :
    isUnionAnn (condAnn a dirs) = false := by
  unfold condAnn
  split
  · split
    · exact h
    · rfl
  · exact h

theorem parseDirectives_eq (a : Ann) (dirs : List Directive) :
    parseDirectives a dirs = (condAnn a dirs, hasConditionalDirective dirs) := by
  unfold parseDirectives condAnn
  split <;> simp_all

theorem isLeafName_spec {env : Env} {n : String} (h : isLeafName env n = true) : ResultLeaf.LeafName env n := by
  unfold isLeafName at h
  simp only [Bool.and_eq_true, Option.isNone_iff_eq_none] at h
  refine ⟨?_, h.2⟩
  cases hk : env.schema.kindOf? n with
  | none => exact Or.inl rfl
  | some k => cases k <;> simp_all

theorem isUnionAnn_fieldAnn (base : Ann) (hb : SimpleBase base) (T : TypeRef) (dirs : List Directive) :
    isUnionAnn (condAnn (wrapAnn base true T) dirs) = false :=
  isUnionAnn_condAnn _ _ (isUnionAnn_wrapAnn base hb T true)

def AllCls (as : List Ann) : Prop := ∀ a ∈ as, ∃ n, a = Ann.cls n

theorem annotateTop_union_cls (as : List Ann) (h : AllCls as) : annotateTop (.union as) = .union as := by
  simp only [annotateTop]
  congr 1
  have : ∀ a ∈ as, annotateNested a = a := by
    intro a ha
    obtain ⟨n, rfl⟩ := h a ha
    rfl
  conv => rhs; rw [← List.map_id as]
  exact List.map_congr_left this

theorem annotateNested_wrap_union (as : List Ann) (T : TypeRef) : ∀ b : Bool,
    annotateNested (wrapAnn (.union as) b T) = wrapAnn (.disc (.union as)) b T := by
  induction T with
  | named n => intro b; simp only [wrapAnn, annotateNested_optionalIf, annotateNested]
  | list t ih => intro b; simp only [wrapAnn, annotateNested_optionalIf, annotateNested, ih]
  | nonNull t ih => intro b; simp only [wrapAnn, ih]

/-- The two shapes of a union under the wrappers of `T`.  No `Optional` / `List` at all (`T = Named!`): the annotation IS the
    union and a value completes the type iff it is not null and completes the named type.  Otherwise `annotate_nested_unions`
    discriminates the union below the wrappers and the annotation is not itself a union. -/
theorem wrap_union_shape (as : List Ann) (T : TypeRef) : ∀ b : Bool,
    (wrapAnn (.union as) b T = .union as ∧
      ∀ (P : String → J → Bool) (v : J), Exec.complete P T b v = (match v with | .null => false | _ => P T.base v)) ∨
    (annotateTop (wrapAnn (.union as) b T) = wrapAnn (.disc (.union as)) b T ∧
      isUnionAnn (wrapAnn (.disc (.union as)) b T) = false) := by
  induction T with
  | named n =>
    intro b
    cases b with
    | false => exact Or.inl ⟨by simp [wrapAnn, optionalIf], fun P v => by unfold Exec.complete; cases v <;> rfl⟩
    | true => exact Or.inr ⟨by simp [wrapAnn, optionalIf, annotateTop, annotateNested], by simp [wrapAnn, optionalIf, isUnionAnn]⟩
  | list t _ =>
    intro b
    exact Or.inr ⟨by cases b <;> simp [wrapAnn, optionalIf, annotateTop, annotateNested, annotateNested_wrap_union],
      by cases b <;> simp [wrapAnn, optionalIf, isUnionAnn]⟩
  | nonNull t ih =>
    intro b
    simp only [wrapAnn]
    exact (ih false).imp (fun h => ⟨h.1, fun P v => by unfold Exec.complete; exact h.2 P v⟩) id

theorem wneed_pos (T : TypeRef) : 1 ≤ wneed T := by
  induction T with
  | named n => simp [wneed]
  | list t ih => simp [wneed]
  | nonNull t ih => simpa [wneed] using ih

theorem simpleBase_leaf (env : Env) (n : String) : SimpleBase (ResultLeaf.leafBase env n) := by
  rw [ResultLeaf.leafBase_eq]; exact Or.inl ⟨_, rfl⟩

end Ariadne.C01Ann
