/-
  Property C01, "abstract positions" tier: the main theorems.

  For a selection set built from
    * fields of leaf type (scalar / enum), of OBJECT type, of INTERFACE type or of UNION type, under any list / non-null
      wrappers, with aliases and `@skip` / `@include`,
    * typed inline fragments `... on C { fields }` without `@skip` / `@include`, in any selection set,
    * `__typename` (un-aliased, unconditional) in any selection set below the root,
    * spreads of NAMED FRAGMENTS USED AS MIXINS (fragment definitions of the mixin tier: `C01Mix.FragsOK`) at classes on
      exactly the object type of the fragment — in an object-typed selection set or inside `... on T { ...G }` with `G` on `T`,
  nested to any depth (plain-in-abstract-in-plain …), and satisfying the decidable predicate `AbsOK`
  (Proofs/C01AbsDefs.lean):

    (1) `abs_generation`: `_parse_type_definition` succeeds for every fuel `≥ agfuel sel` and returns exactly the
        structurally defined `aClass env cn tn [] false sel`: at every composite position one class per VARIANT
        (`relatedOf`: the object type itself; the interface + one class per inline-fragment type condition; every union
        member), each with a `typename__: Literal[..]` field iff the position is abstract or `__typename` is selected;
        the generator marks EXACTLY the selection sets `needSids` (abstract positions without explicit `__typename`)
        for the automatic `__typename`;
    (2) `abs_roundtrip`: every JSON value a conformant executor can return for the selection set AS SENT
        (`Marks.applySels M sel`, `M` = the marks after generation) — with enough executor fuel and no duplicate object
        keys — is accepted by the root model and dumped back up to member order; at an abstract position the value is
        validated by the FIRST variant class whose `typename__` literal contains the runtime type;
    (3) `C01_abs`: both together.

  What `AbsOK env cn tn sid sel st` demands (each forced by the proof; see C01AbsDefs.lean):
    * per class (one per variant!), over ALL its field nodes — automatic `__typename`, direct fields, fields of the merged
      inline fragments, fields inherited from mixin fragments (`cnodes`) — `dupOK`: a response key reached MORE THAN ONCE is
      reached by LEAF selections of the same field only (`node { id ... on User { id } }`, `{ ...F id }` with `id` in `F`: the
      generator emits / inherits the field several times, Python and pydantic keep ONE declaration — `Pyd.mergeDup`, the
      override along the bases —, the executor MERGES the selections; Proofs/C01Fold.lean characterises the first and the last fold, Proofs/C01MixVal.lean the override); a
      composite field or `__typename` owns its key (finding C01-F2); distinct keys have distinct Python names; the class's
      typename literal is non-empty and contains every runtime type the class stands for;
    * `__typename`: no alias (finding C01-F8), no `@skip/@include` (finding C01-F10: the class requires the field), no
      sub-selection; not inside an inline fragment; directly at the operation root (where the class has no typename values
      and the field is an ordinary `str`) only if the root type has no field of that name and `String` is the built-in scalar;
    * inline fragment: type condition present (C01-F7), no `@skip/@include` (C01-F3), content = fields, and on the class's own type spreads (last item); for every
      runtime type `rt` of the class: the generator merges the fragment into the class IFF the executor applies it to `rt`
      (`incl … == Exec.applies …`; violated by C01-F5 — a fragment on another overlapping interface or on a union);
    * field: exists on the class's type AND has the same declared type on every runtime type of the class (a class on an
      interface reads the interface's field type; covariant overriding in an implementing object is outside the tier);
      no `@mixin`; leaf ⇔ empty sub-selection, leaf = scalar not configured as custom scalar, or enum; composite = object /
      interface / union with ≥ 1 variant; every runtime type of the position is in the literal of some variant;
    * (a `Union[..]` annotation with no `Optional`/`List` wrapper made Optional by `@skip/@include`,
      `f: U! @include(..) { ... on A {..} }`, is covered: pydantic then uses a smart-mode union, and the first member
      whose literal contains the runtime type is the first that validates);
    * marks: the set of marked selection sets (`st.marks ++ needSids`) contains the id of a composite position iff that
      position gets the automatic `__typename` — i.e. no position that must stay unmarked (object position, explicit
      `__typename`) shares its id with a marked one or was marked by an earlier generation (finding C01-F4 region);
    * class names pairwise distinct and fresh (as in the plain tier);
    * a spread: no `@skip/@include` (C01-F3); the class is on an OBJECT type, stands for that type only, and the fragment is
      defined on exactly it (a fragment on an interface would be unpacked; a fragment on the object type met below an inline
      fragment on one of its interfaces is DROPPED by the generator — finding C01-F12, found by this hypothesis); per class
      WITHIN one fragment definition the response keys are pairwise distinct (`C01Mix.fragOK`).
  Hypotheses on the environment for part (2) (`GH`, Proofs/C01AbsVal.lean): the fragment definitions are fit to be mixins
  (`FragsOK env K`), the pydantic environment agrees with the schema on enums, has no class `BaseModel`, holds the classes of
  every fragment definition, its inheritance fuel covers the fragment nesting, `F` bounds the validation fuel of the fragment
  classes; the executor fuel is at least `agfuel sel + K`, the validation fuel at least `avneed … + 4 + F`.
-/
import AriadneModel.Proofs.C01AbsVal
import AriadneModel.Proofs.C01Plain


namespace Ariadne.C01Abs
open Ariadne Ariadne.Gql Ariadne.ResultTypes Ariadne.C01Plain

theorem AbsOK_spec {env : ResultTypes.Env} {cn tn : String} {sid : Nat} {sel : List Selection} {st : St}
    (h : AbsOK env cn tn sid sel st = true) :
    (st.marks ++ needSids env cn tn sel).contains sid = false ∧ classHead env tn [tn] [] false sel = true ∧
    aSels env (st.marks ++ needSids env cn tn sel).contains cn tn [tn] sel = true ∧
    ((aClass env cn tn [] false sel).map (·.name)).Nodup ∧
    (∀ n ∈ (aClass env cn tn [] false sel).map (·.name), n ∉ st.publicNames) := by
  simp only [AbsOK, Bool.and_eq_true, Bool.not_eq_true', nodupB_iff, List.all_eq_true,
    List.contains_eq_mem, decide_eq_false_iff_not] at h
  obtain ⟨⟨⟨⟨h1, h2⟩, h3⟩, h4⟩, h5⟩ := h
  exact ⟨by simpa using h1, h2, by simpa using h3, h4, h5⟩

/-- the marks of the document as sent -/
def sentMarks (env : ResultTypes.Env) (cn tn : String) (sel : List Selection) (st : St) : List Nat :=
  st.marks ++ needSids env cn tn sel

theorem abs_generation (env : ResultTypes.Env) (K : Nat) (hfr : C01Mix.FragsOK env K) (cn tn : String) (sid : Nat)
    (sel : List Selection) (st : St)
    (h : AbsOK env cn tn sid sel st = true) (fuel : Nat) (hfuel : agfuel sel ≤ fuel) :
    ∃ st', parseTypeDefinition env fuel cn tn sid sel false [] [] st = .ok (aClass env cn tn [] false sel, st') ∧
      st'.publicNames = st.publicNames ++ (aClass env cn tn [] false sel).map (·.name) ∧
      (∀ m, m ∈ st'.marks ↔ m ∈ sentMarks env cn tn sel st) ∧ st'.unpacked = st.unpacked := by
  obtain ⟨h1, h2, h3, h4, h5⟩ := AbsOK_spec h
  have htv : (rflat false env tn sel).any isTnSel = true → ([] : List String).isEmpty = true → rootTnOK env tn = true :=
    fun hany hte => ((classHead_spec h2).2 hany).1 hte
  obtain ⟨st', hrun, hpn, ⟨hB, hmono, hup⟩, _, hneed⟩ := gen_spec env K hfr (st.marks ++ needSids env cn tn sel) fuel cn tn [tn] sid sel false []
    st hfuel h3 htv (by simpa [autoTn] using h1) (fun m hm => List.mem_append_left _ hm) h4 h5
  refine ⟨st', hrun, hpn, fun m => ⟨hB (fun m hm => List.mem_append_left _ hm) m, fun hm => ?_⟩, hup⟩
  rcases List.mem_append.mp hm with h | h
  · exact hmono m h
  · exact hneed m h

/-- `GH`: the global hypotheses on the fragment definitions and the pydantic environment (Proofs/C01AbsVal.lean) -/
theorem abs_roundtrip (env : ResultTypes.Env) (K F : Nat) (cn tn : String) (sid : Nat) (sel : List Selection) (st : St)
    (h : AbsOK env cn tn sid sel st = true)
    (penv : Pyd.Env) (G : GH env penv K F) (hcls : ∀ c ∈ aClass env cn tn [] false sel, penv.class? c.name = some c)
    (M : List Nat) (hM : ∀ m, m ∈ M ↔ m ∈ sentMarks env cn tn sel st)
    (efuel : Nat) (hef : agfuel sel + K ≤ efuel) (j : J)
    (hresp : Exec.respOK env.schema env.frags efuel tn (Marks.applySels M sel) j = true) (hj : nodupKeys j = true)
    (vfuel : Nat) (hv : avneed env cn tn sel + 4 + F ≤ vfuel) :
    ∃ v, Pyd.validate penv vfuel (.cls cn) j = .ok v ∧ J.eqv (Pyd.dump v) j = true := by
  obtain ⟨_, h2, h3, _, _⟩ := AbsOK_spec h
  have hfun : (st.marks ++ needSids env cn tn sel).contains = M.contains := by
    funext m
    have := hM m
    unfold sentMarks at this
    cases hc : M.contains m with
    | true => simpa using this.mp (by simpa using hc)
    | false =>
      have hn : m ∉ M := by simpa using hc
      simpa using fun hm => hn (this.mpr hm)
  rw [hfun] at h3
  exact val_spec env penv M K F G efuel cn tn tn [tn] sel [] false (by simp) h2 h3 hcls hef j
    (by simpa [sent, autoTn] using hresp) hj vfuel hv

theorem GH.of_nofrags (env : ResultTypes.Env) (penv : Pyd.Env) (hfr : env.frags = []) (ha : ResultLeaf.EnvAgrees env penv)
    (hbm : penv.class? "BaseModel" = none) (hne : penv.classes ≠ []) : GH env penv 0 0 := by
  refine ⟨?_, ha, hbm, ?_, ?_, ?_⟩
  · intro f hf; rw [hfr] at hf; cases hf
  · intro f hf; rw [hfr] at hf; cases hf
  · show env.frags.length + 1 + 1 ≤ penv.classes.length + 1
    rw [hfr]
    cases hc : penv.classes with
    | nil => exact absurd hc hne
    | cons c cs => simp
  · intro f hf; rw [hfr] at hf; cases hf

/-- **C01, abstract-positions tier** (inline fragments on abstract types, and named fragments used as mixins at object-typed classes) -/
theorem C01_abs (env : ResultTypes.Env) (K F : Nat) (hfr : C01Mix.FragsOK env K) (cn tn : String) (sid : Nat)
    (sel : List Selection) (st : St)
    (h : AbsOK env cn tn sid sel st = true) :
    ∃ classes : List ClassDecl,
      -- (1) generation succeeds for every sufficiently large fuel, the root class comes first, and the selection sets that
      --     receive an automatic `__typename` are exactly `sentMarks`
      (∀ fuel, agfuel sel ≤ fuel →
        ∃ st', parseTypeDefinition env fuel cn tn sid sel false [] [] st = .ok (classes, st') ∧
          ∀ m, m ∈ st'.marks ↔ m ∈ sentMarks env cn tn sel st) ∧
      classes.head?.map (·.name) = some cn ∧
      -- (2) every answer of a conformant server to the document as sent is accepted and preserved
      (∀ (penv : Pyd.Env), GH env penv K F → (∀ c ∈ classes, penv.class? c.name = some c) →
        ∀ (efuel : Nat), agfuel sel + K ≤ efuel →
        ∀ (j : J), Exec.respOK env.schema env.frags efuel tn (Marks.applySels (sentMarks env cn tn sel st) sel) j = true →
        nodupKeys j = true →
        ∀ vfuel, avneed env cn tn sel + 4 + F ≤ vfuel →
          ∃ v, Pyd.validate penv vfuel (.cls cn) j = .ok v ∧ J.eqv (Pyd.dump v) j = true) := by
  refine ⟨aClass env cn tn [] false sel, ?_, rfl, ?_⟩
  · intro fuel hfuel
    obtain ⟨st', hst, _, hm, _⟩ := abs_generation env K hfr cn tn sid sel st h fuel hfuel
    exact ⟨st', hst, hm⟩
  · intro penv G hcls efuel hef j hresp hj vfuel hv
    exact abs_roundtrip env K F cn tn sid sel st h penv G hcls _ (fun m => Iff.rfl) efuel hef j hresp hj vfuel hv

/-! ### a concrete input satisfying `AbsOK`

    query Q {
      node { id ... on User { name friends { id } } ... on Post { title author { pet { id } } } }   # interface, 2 fragments
      search { __typename ... on User { name } ... on Post { title } }                              # list of union, explicit __typename
      me { id pet { __typename id } }                                                               # object, then interface without fragments
    }
-/

def axSchema : Schema :=
  { types := [
      { name := "Query", kind := .object,
        fields := [{ name := "node", type := .named "Node" },
                   { name := "search", type := .nonNull (.list (.nonNull (.named "SearchResult"))) },
                   { name := "me", type := .named "User" }] },
      { name := "Node", kind := .interface, fields := [{ name := "id", type := .nonNull (.named "ID") }] },
      { name := "User", kind := .object, interfaces := ["Node"],
        fields := [{ name := "id", type := .nonNull (.named "ID") }, { name := "name", type := .named "String" },
                   { name := "friends", type := .nonNull (.list (.nonNull (.named "User"))) },
                   { name := "pet", type := .named "Node" }] },
      { name := "Post", kind := .object, interfaces := ["Node"],
        fields := [{ name := "id", type := .nonNull (.named "ID") }, { name := "title", type := .nonNull (.named "String") },
                   { name := "author", type := .nonNull (.named "User") }] },
      { name := "SearchResult", kind := .union, members := ["User", "Post"] }],
    query := some "Query" }

def axEnv : ResultTypes.Env := { schema := axSchema, frags := [] }

def fl (name : String) (sid : Nat := 0) (sub : List Selection := []) : Selection := .field none name [] sid sub

def axSel : List Selection :=
  [ fl "node" 2 [fl "id", .inline (some "User") [] 3 [fl "name", fl "friends" 4 [fl "id"]],
                          .inline (some "Post") [] 5 [fl "title", fl "author" 6 [fl "pet" 7 [fl "id"]]]],
    fl "search" 8 [fl "__typename", .inline (some "User") [] 9 [fl "name"], .inline (some "Post") [] 10 [fl "title"]],
    fl "me" 11 [fl "id", fl "pet" 12 [fl "__typename", fl "id"]] ]

def axResp : J :=
  .obj [("node", .obj [("__typename", .str "Post"), ("id", .str "1"), ("title", .str "t"),
                       ("author", .obj [("pet", .obj [("__typename", .str "User"), ("id", .str "3")])])]),
        ("search", .arr [.obj [("__typename", .str "User"), ("name", .null)],
                         .obj [("__typename", .str "Post"), ("title", .str "x")]]),
        ("me", .obj [("id", .str "9"), ("pet", .null)])]

def axPenv : Pyd.Env := { classes := aClass axEnv "Q" "Query" [] false axSel, enums := [] }

/-- What the kernel evaluates on the example of this file, in one declaration: every evaluation that converts a name decodes the
    keyword tables of `Model/Names.lean`, and the kernel shares work (those tables, the generated classes) only inside one declaration. -/
theorem evaluated :
    (AbsOK axEnv "Q" "Query" 1 axSel {} = true
      ∧ (aClass axEnv "Q" "Query" [] false axSel).map (·.name) =
        ["Q", "QNodeNode", "QNodePost", "QNodePostAuthor", "QNodePostAuthorPet", "QNodeUser", "QNodeUserFriends",
         "QSearchUser", "QSearchPost", "QMe", "QMePet"]) ∧
    (sentMarks axEnv "Q" "Query" axSel {} = [2, 7]) ∧
    (Exec.respOK axSchema [] 10 "Query" (Marks.applySels (sentMarks axEnv "Q" "Query" axSel {}) axSel) axResp = true
      ∧ nodupKeys axResp = true ∧ agfuel axSel ≤ 10 ∧ avneed axEnv "Q" "Query" axSel + 4 ≤ 40) ∧
    ((match parseTypeDefinition axEnv 10 "Q" "Query" 1 axSel false [] [] {} with
       | .ok (cs, st) => (cs.map (·.name)) == axPenv.classes.map (·.name) && st.marks == [2, 7]
       | .error _ => false) = true
      ∧ (match Pyd.validate axPenv 40 (.cls "Q") axResp with
         | .ok v => J.eqv (Pyd.dump v) axResp
         | .error _ => false) = true) := by
  decide +kernel

theorem axSel_ok : AbsOK axEnv "Q" "Query" 1 axSel {} = true
    ∧ (aClass axEnv "Q" "Query" [] false axSel).map (·.name) =
      ["Q", "QNodeNode", "QNodePost", "QNodePostAuthor", "QNodePostAuthorPet", "QNodeUser", "QNodeUserFriends",
       "QSearchUser", "QSearchPost", "QMe", "QMePet"] := evaluated.1

/-- plain-in-abstract-in-plain: `node` (interface, Post variant) → `author` (object) → `pet` (interface) -/
example : AbsOK axEnv "Q" "Query" 1 axSel {} = true := axSel_ok.1

/-- the automatic `__typename` goes into `node { .. }` and `node.author.pet { .. }`; `search` and `me.pet` select it explicitly -/
example : sentMarks axEnv "Q" "Query" axSel {} = [2, 7] := evaluated.2.1

example : (aClass axEnv "Q" "Query" [] false axSel).map (·.name) =
    ["Q", "QNodeNode", "QNodePost", "QNodePostAuthor", "QNodePostAuthorPet", "QNodeUser", "QNodeUserFriends",
     "QSearchUser", "QSearchPost", "QMe", "QMePet"] := axSel_ok.2

theorem axResp_ok :
    Exec.respOK axSchema [] 10 "Query" (Marks.applySels (sentMarks axEnv "Q" "Query" axSel {}) axSel) axResp = true
    ∧ nodupKeys axResp = true ∧ agfuel axSel ≤ 10 ∧ avneed axEnv "Q" "Query" axSel + 4 ≤ 40 := evaluated.2.2.1

example : Exec.respOK axSchema [] 10 "Query" (Marks.applySels (sentMarks axEnv "Q" "Query" axSel {}) axSel) axResp = true
    ∧ nodupKeys axResp = true ∧ agfuel axSel ≤ 10 ∧ avneed axEnv "Q" "Query" axSel + 4 ≤ 40 := axResp_ok

theorem axPenvOK : PenvOK axEnv axPenv (aClass axEnv "Q" "Query" [] false axSel) :=
  PenvOK.of_nodup axEnv axPenv _ (C01.envAgrees_of_schemaOK axEnv axPenv (by decide +kernel) (by decide +kernel))
    (class?_none_of_not_mem axPenv "BaseModel" (by rw [show axPenv.classes.map (·.name) = _ from axSel_ok.2]; decide))
    (fun c hc => hc) (AbsOK_spec axSel_ok.1).2.2.2.1

/-- the theorem applies to the example (non-vacuity) … -/
example : ∃ v, Pyd.validate axPenv 40 (.cls "Q") axResp = .ok v ∧ J.eqv (Pyd.dump v) axResp = true :=
  abs_roundtrip axEnv 0 0 "Q" "Query" 1 axSel {} axSel_ok.1 axPenv
    (GH.of_nofrags axEnv axPenv rfl axPenvOK.agrees axPenvOK.noBaseModel (by decide +kernel)) axPenvOK.has
    _ (fun m => Iff.rfl) 10 axResp_ok.2.2.1 axResp axResp_ok.1 axResp_ok.2.1 40 axResp_ok.2.2.2

/-- … and the conclusion, computed: the model of the generator produces these very classes, and the `Post` answer at the
    interface position `node` is validated by `QNodePost`, the `User` answer below it by `QNodePostAuthorPet` -/
example :
    (match parseTypeDefinition axEnv 10 "Q" "Query" 1 axSel false [] [] {} with
     | .ok (cs, st) => (cs.map (·.name)) == axPenv.classes.map (·.name) && st.marks == [2, 7]
     | .error _ => false) = true
    ∧ (match Pyd.validate axPenv 40 (.cls "Q") axResp with
       | .ok v => J.eqv (Pyd.dump v) axResp
       | .error _ => false) = true := evaluated.2.2.2

end Ariadne.C01Abs
