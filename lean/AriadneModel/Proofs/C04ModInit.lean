/-
  Proofs/C04ModInit.lean — `__init__.py`: every `from .<module> import <names>` it carries names a module of the package
  that defines all of the names.
-/
import AriadneModel.Proofs.C04ModResult
import AriadneModel.Proofs.C04ModClient


namespace Ariadne.C04Proofs
open Ariadne.Package Ariadne.PackageTriggers Ariadne.PackageValid Ariadne.Spec.PyScope
open Ariadne.Fragments (DefGen FragmentsOut)

/-- `add_import` only ever appends an import statement that has names -/
theorem init_names_ne_nil {cfg : Config} {inp : Input} {fl : Nat} {st : St} (h : addOperations cfg inp fl {} inp.ops = .ok st) :
    ∀ j ∈ st.init, j.names ≠ [] := by
  refine addOperations_ind (fun s => ∀ j ∈ s.init, j.names ≠ []) (fun _ hj => nomatch hj) ?_ h
  intro s o s' _ hI hs
  obtain ⟨n, out, m, argSt, _, _, _, rfl⟩ := addOperation_ok hs
  intro j hj
  rcases mem_initAdd hj with hj | ⟨rfl, hne⟩
  · exact hI j hj
  · exact hne

theorem stem_baseModel : stem baseModelFile = "base_model" := by decide +kernel
theorem stem_exceptions : stem exceptionsFile = "exceptions" := by decide +kernel

/-- **`__init__.py`**: every import resolves (there are no class statements) — for every input in `Valid`, outside the
    trigger `operationModuleOverwritten` -/
theorem init_residual {cfg : Config} {inp : Input} {p : PackageIR} {st : St} {io : InputsOut}
    {fx : Option (Fragments.FragmentsOut × List Fragments.DefGen)} (F : Facts cfg inp p st io fx)
    (hc : cfgOK cfg = true) (htr : trigOperationModuleOverwritten cfg inp = false) :
    residualParts p (initModule (finalInit cfg inp st io (fragOut fx))) = true := by
  have C := cfgFacts hc
  have I := opsInv_of F.ops
  -- what the operations contributed
  have hops : ∀ i ∈ st.init, Resolves p (normImport i) := by
    intro i hi
    obtain ⟨g, hg, rfl⟩ := I.init i hi
    exact op_import_resolves F htr hg (init_names_ne_nil F.ops _ hi) (fun n hn => hn)
  refine residualParts_of ?_ rfl rfl rfl
  apply importsResolve_of
  intro i hi
  rcases mem_finalInit hi with hi' | rfl | ⟨rfl, hne⟩ | rfl | rfl | rfl | rfl
  rotate_left
  · -- the input types
    obtain ⟨kept, _, hio⟩ := inputsModule_inv F.inputs
    refine F.resolves_generated inputs_mem_written (inputsModule_generated F.inputs) C.inputsDot (inputsModule_file F.inputs) ?_
    intro n hn
    refine className_mem_defines ?_
    rw [hio] at hn ⊢
    simpa [inputsOut, inputClassIR, Function.comp] using hn
  · -- the fragments module: every public name of a fragment's generator is a class of the module
    cases hfx : fx with
    | none => rw [hfx] at hne; simp [fragOut, fragmentNames] at hne
    | some x =>
      obtain ⟨fo, gens⟩ := x
      obtain ⟨hg', hf'⟩ := F.frags_ran hfx
      refine F.resolves_generated (fragments_mem_written hfx) rfl C.fragsDot rfl ?_
      intro n hn
      simp only [fragOut, Option.map_some, fragmentNames, (fragments_described hg' hf').publicNames] at hn
      obtain ⟨g, hg, hn⟩ := List.mem_flatMap.mp hn
      exact (madeOf_fragments F hfx).public_defined hg hn
  · exact F.resolves_baseClient C
  · -- BaseModel, Upload
    rw [stem_baseModel]
    exact F.resolves_baseModel (by simp)
  · -- the client class
    refine F.resolves_generated client_mem_written rfl C.clientDot rfl ?_
    intro n hn
    rw [List.mem_singleton.mp hn]
    exact className_mem_defines (by simp [clientModule])
  · -- enums
    exact F.resolves_generated enums_mem_written (enumsModule_generated _ _ _) C.enumsDot (enumsModule_file _ _ _)
      (fun n hn => className_mem_defines hn)
  -- what `_include_exceptions` contributed
  unfold init0 at hi'
  split at hi'
  · rename_i hdef
    rcases mem_initAdd hi' with hi' | ⟨rfl, _⟩
    · exact hops i hi'
    · rw [stem_exceptions]
      exact F.resolves_copied (exceptions_mem_copied hdef) rfl (by decide +kernel) (provides_exceptions cfg) (fun n hn => hn)
  · exact hops i hi'

end Ariadne.C04Proofs
