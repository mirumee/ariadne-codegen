/-
  C14: what `to_ast` produces over a pristine store, node by node.

  For a visit `toAst fuel idx st used n = ok (s, n', st, used')`:
    * substituting (declared type, value) for the variables of `s` gives back what the tree `n` says
      (`intended st n`) — provided the substitution knows every formatted variable of `n'`;
    * the formatted variables of `n'` (all depths, pre-order) are exactly the variables used in `s`.
  (`get_formatted_variables` collects them at every depth, so no bound on where arguments sit is needed.)
-/
import AriadneModel.Proofs.C14Store

namespace Ariadne.C14
open Ariadne.Builder Ariadne.BuilderDoc

mutual
  /-- `formatted_variables` of every object of the tree, pre-order (class-level leaves have none) -/
  def fmtAll : Node → List FVar
    | .obj r subs frags => r.formatted ++ fmtAllList subs ++ fmtAllFrags frags
    | .ref _ => []
  def fmtAllList : List Node → List FVar
    | [] => []
    | n :: ns => fmtAll n ++ fmtAllList ns
  def fmtAllFrags : List Frag → List FVar
    | [] => []
    | .mk _ ns :: fs => fmtAllList ns ++ fmtAllFrags fs
end

def LookOK (defs : List (String × String)) (vals : List (String × J)) (L : List FVar) : Prop :=
  ∀ f ∈ L, lookupS f.uname defs = some f.ty ∧ lookupS f.uname vals = some f.value

theorem LookOK.append {defs vals a b} : LookOK defs vals (a ++ b) ↔ LookOK defs vals a ∧ LookOK defs vals b := by
  unfold LookOK
  constructor
  · intro h
    exact ⟨fun f hf => h f (by simp [hf]), fun f hf => h f (by simp [hf])⟩
  · rintro ⟨h1, h2⟩ f hf
    rcases List.mem_append.mp hf with h | h
    · exact h1 f h
    · exact h2 f h

theorem resolveArgs_of_look {defs vals} : ∀ (fv : List FVar), LookOK defs vals fv →
    resolveArgs defs vals (fv.map fun v => (v.key, v.uname)) = some (fv.map fun v => (v.key, v.ty, v.value)) := by
  intro fv
  induction fv with
  | nil => intro _; rfl
  | cons f fs ih =>
    intro h
    have h1 := h f (by simp)
    have h2 := ih (fun g hg => h g (by simp [hg]))
    simp only [List.map_cons, resolveArgs, h1.1, h1.2, h2]

theorem resolveSels_append {defs vals} : ∀ (a b : List Sel) (x y : List RSel),
    resolveSels defs vals a = some x → resolveSels defs vals b = some y →
    resolveSels defs vals (a ++ b) = some (x ++ y) := by
  intro a
  induction a with
  | nil => intro b x y h1 h2; simp [resolveSels] at h1; subst h1; simpa using h2
  | cons s ss ih =>
    intro b x y h1 h2
    simp only [resolveSels] at h1
    split at h1
    · rename_i r rs hr hrs
      simp at h1
      subst h1
      simp only [List.cons_append, resolveSels, hr, ih b rs y hrs h2]
    · simp at h1

def Q (st : Store) (n : Node) (s : Sel) (n' : Node) : Prop :=
  (∀ defs vals, LookOK defs vals (fmtAll n') → resolveSel defs vals s = some (intended st n)) ∧
  (fmtAll n').map (·.uname) = selVars s

theorem all3_resolve {st defs vals} : ∀ {ns ss ns'}, All3 (Q st) ns ss ns' →
    LookOK defs vals (fmtAllList ns') → resolveSels defs vals ss = some (intendedList st ns) := by
  intro ns ss ns' h
  induction h with
  | nil => intro _; simp [resolveSels, intendedList]
  | cons q _ ih =>
    intro hl
    simp only [fmtAllList] at hl
    obtain ⟨l1, l2⟩ := LookOK.append.mp hl
    simp only [resolveSels, intendedList, q.1 _ _ l1, ih l2]

theorem all3_unames {st} : ∀ {ns ss ns'}, All3 (Q st) ns ss ns' →
    (fmtAllList ns').map (·.uname) = selVarsList ss := by
  intro ns ss ns' h
  induction h with
  | nil => simp [fmtAllList, selVarsList]
  | cons q _ ih => simp only [fmtAllList, selVarsList, List.map_append, q.2, ih]

theorem allF_resolve {st defs vals} : ∀ {fs ss fs'}, AllF (Q st) fs ss fs' →
    LookOK defs vals (fmtAllFrags fs') → resolveSels defs vals ss = some (intendedFrags st fs) := by
  intro fs ss fs' h
  induction h with
  | nil => intro _; simp [resolveSels, intendedFrags]
  | cons q _ ih =>
    intro hl
    simp only [fmtAllFrags] at hl
    obtain ⟨l1, l2⟩ := LookOK.append.mp hl
    simp only [resolveSels, resolveSel, intendedFrags, all3_resolve q l1, ih l2]

theorem allF_unames {st} : ∀ {fs ss fs'}, AllF (Q st) fs ss fs' →
    (fmtAllFrags fs').map (·.uname) = selVarsList ss := by
  intro fs ss fs' h
  induction h with
  | nil => simp [fmtAllFrags, selVarsList]
  | cons q _ ih => simp only [fmtAllFrags, selVarsList, selVars, List.map_append, all3_unames q, ih]

theorem collectVars_nil_inv {idx used fv used'} (h : collectVars idx [] used = .ok (fv, used')) : fv = [] := by
  simp [collectVars] at h
  exact h.1

theorem toAst_Q {st : Store} (hp : Pristine st) (idx : Nat) :
    ∀ fuel, VisitLaw (fun a => a.1 = st) (fun a _ b => b.1 = a.1) (Q st) (toAst fuel idx) := by
  intro fuel
  induction fuel with
  | zero => intro st0 used n s n' st' used' _ h; exact (toAst_zero_inv h).elim
  | succ f ih =>
    intro st0 used n s n' st' used' (hpre : st0 = st) h
    subst hpre
    cases n with
    | obj r subs frags =>
      obtain ⟨fv, u1, ss, subs', st1, u2, fs, frags', st2, u3, h1, h2, h3, hr⟩ := toAst_obj_inv h
      cases hr
      obtain ⟨(e2 : st1 = st0), q2⟩ := mapAcc_law (along_same st0) ih _ _ _ _ _ _ _ rfl h2
      obtain ⟨(e3 : st' = st1), q3⟩ := mapFrags_law (along_same st0) ih _ _ _ _ _ _ _ e2 h3
      have hfv := (collectVars_spec idx _ _ _ _ h1).2
      refine ⟨e3.trans e2, ?_, ?_⟩
      · intro defs vals hl
        simp only [fmtAll] at hl
        obtain ⟨l12, l3⟩ := LookOK.append.mp hl
        obtain ⟨l1, l2⟩ := LookOK.append.mp l12
        simp only [resolveSel, intended, resolveArgs_of_look fv l1,
          resolveSels_append _ _ _ _ (all3_resolve q2 l2) (allF_resolve q3 l3), hfv]
      · simp only [fmtAll, selVars, List.map_append, all3_unames q2, allF_unames q3,
          selVarsList_append, List.map_map, Function.comp_def, List.append_assoc]
    | ref id =>
      obtain ⟨rfl, rfl, rfl, r, hn, -, rfl, -⟩ := toAst_ref_pristine hp h
      refine ⟨rfl, ?_, ?_⟩
      · intro defs vals _
        simp [resolveSel, resolveArgs, resolveSels, intended, intendedRef, hn]
      · simp [fmtAll, selVars, selVarsList]

end Ariadne.C14
