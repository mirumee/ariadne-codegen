/-
  C06, `default_readback` for the default literals WITHOUT object literals (scalars, enums, null,
  lists and nested lists of those): the emitted Python expression evaluates, and its value equals the
  coerced schema default (`value_from_ast`) — by structural induction over the literal.
  Object literals (validated through `globals()[T].model_validate`) are outside this theorem; they are
  covered by the `readback` correspondence op and by the oracle.
-/
import AriadneModel.Model.InputWf
import AriadneModel.Proofs.CoerceInput
import AriadneModel.Proofs.ListLemmas


namespace Ariadne.C06Readback
open Ariadne.InputGen (TypeRef Lit constValue constValues)
open Ariadne.CoerceInput Ariadne.PydInput

theorem splitName_concat (ft x : String) (hx : ∀ c ∈ x.toList, c ≠ '.') :
    splitName (ft ++ "." ++ x) = (ft, x) := by
  unfold splitName
  have hl : (ft ++ "." ++ x).toList = ft.toList ++ '.' :: x.toList := by
    simp [String.toList_append]
  have hr : (ft ++ "." ++ x).toList.reverse = x.toList.reverse ++ '.' :: ft.toList.reverse := by
    rw [hl]; simp
  have hp : ∀ c ∈ x.toList.reverse, (c != '.') = true := by
    intro c hc
    have := hx c (List.mem_reverse.mp hc)
    simpa using this
  have h1 := Lists.takeWhile_append_stop (p := fun c => c != '.') (a := '.') (r := ft.toList.reverse) (by simp) hp
  have h2 := Lists.dropWhile_append_stop (p := fun c => c != '.') (a := '.') (r := ft.toList.reverse) (by simp) hp
  simp only [hr, h1, h2, List.reverse_reverse, List.drop_succ_cons, List.drop_zero, String.ofList_toList]

/-- what the imported module knows about the enum `n`: a member named like each non-keyword value -/
def EnumOk (env : Env) (n : String) (vals : List String) : Prop :=
  ∃ ms, env.enum? n = some ms ∧ ∀ x ∈ vals, Tables.kwlist.contains x = false → ms.find? (fun m => m.1 == x) = some (x, x)

theorem evalName_enum (env : Env) (n x : String) (vals : List String) (he : EnumOk env n vals) (hx : x ∈ vals)
    (hkw : Tables.kwlist.contains x = false) (hdot : ∀ c ∈ x.toList, c ≠ '.') (hn : n ≠ "") :
    evalName env (n ++ "." ++ x) = .ok (.enum n x x) := by
  obtain ⟨ms, hms, hfind⟩ := he
  have hs := splitName_concat n x hdot
  have hne : (n == "") = false := by simpa using hn
  simp only [evalName, nameSyntaxError, hs, hne, hkw, Bool.or_self, Bool.false_eq_true, if_false, hms, hfind x hx hkw]

theorem numEq_refl (m : Int) (e : Nat) : numEq m e m e = true := by
  simp [numEq]

theorem plainLit_list {s : CSchema} {ft : String} {t : TypeRef} {xs : List Lit} (h : plainLit s ft t (.list xs) = true) :
    ∃ it, CoerceInput.unNN t = .list it ∧ plainLits s ft it xs = true := by
  simp only [plainLit] at h
  cases hu : CoerceInput.unNN t with
  | list it => exact ⟨it, rfl, by simpa [hu] using h⟩
  | named n => simp [hu] at h
  | nonNull t' => simp [hu] at h

theorem evalExpr_scalar (env : Env) (ft : String) (l : Lit) (nl no : Bool) (d : J) (hl : scalarLit l = true)
    (h : untyped l = .ok d) : ∃ pv, evalExpr env (constValue ft l nl no) = .ok pv ∧ pvMatches env pv d = true := by
  cases l <;> simp [scalarLit] at hl
  case int v =>
    simp only [untyped, Except.ok.injEq] at h; subst h
    exact ⟨.num v 0, by simp [constValue, evalExpr], by simp [pvMatches, numEq]⟩
  case float x =>
    simp only [untyped] at h
    cases hp : parseFloat x with
    | none => simp [hp] at h
    | some p =>
      obtain ⟨m, e⟩ := p
      simp only [hp, Except.ok.injEq] at h; subst h
      exact ⟨.num m e, by simp [constValue, evalExpr, hp], by simp [pvMatches, numEq]⟩
  case str x =>
    simp only [untyped, Except.ok.injEq] at h; subst h
    exact ⟨.str x, by simp [constValue, evalExpr], by simp [pvMatches]⟩
  case bool b =>
    simp only [untyped, Except.ok.injEq] at h; subst h
    exact ⟨.bool b, by simp [constValue, evalExpr], by simp [pvMatches]⟩

theorem plainLit_scalar {s : CSchema} {ft : String} {t : TypeRef} {l : Lit} (hl : scalarLit l = true)
    (h : plainLit s ft t l = true) : listDepth t = 0 ∧ ∀ v, l = .int v → t.base ≠ "ID" := by
  cases l <;> simp [scalarLit] at hl <;> simp [plainLit] at h
  case int v => exact ⟨h.1, fun _ _ => h.2⟩
  all_goals exact ⟨h, fun _ e => by cases e⟩

/-- the four scalar literal shapes share this argument: at a plain position the typed coercion is the
    untyped value, which is what the emitted constant evaluates to -/
theorem readback_scalar (s : CSchema) (env : Env) (ft : String) (l : Lit) (hl : scalarLit l = true) (t : TypeRef) (d : J)
    (no : Bool) (hp : plainLit s ft t l = true) (h : coerceLit s t l = .ok d) :
    ∃ pv, evalExpr env (constValue ft l true no) = .ok pv ∧ pvMatches env pv d = true := by
  obtain ⟨hd, hid⟩ := plainLit_scalar hl hp
  have hc : coerceLit s t l = litLeaf s t.base l := by
    cases l <;> simp [scalarLit] at hl <;> simp [coerceLit, hd, nestE_zero]
  rw [hc] at h
  exact evalExpr_scalar env ft l true no d hl (litLeaf_untyped s t.base l d hl hid h)

section
variable (s : CSchema) (env : Env) (ft : String)
variable (henum : ∀ vals, s.find? ft = some (.enum ft vals) → EnumOk env ft vals)
include henum

mutual
  theorem readback : (lit : Lit) → ∀ (t : TypeRef) (d : J) (no : Bool), plainLit s ft t lit = true →
      coerceLit s t lit = .ok d →
      ∃ pv, evalExpr env (constValue ft lit true no) = .ok pv ∧ pvMatches env pv d = true
    | .null => by
      intro t d no _ h
      by_cases hn : t.isNonNull = true
      · simp [coerceLit, hn] at h
      · simp only [coerceLit, hn, Bool.false_eq_true, if_false, Except.ok.injEq] at h
        subst h
        exact ⟨.none, by simp [constValue, evalExpr], by simp [pvMatches]⟩
    | .int v => by
      intro t d no hp h
      exact readback_scalar s env ft (.int v) rfl t d no hp h
    | .float x => by
      intro t d no hp h
      exact readback_scalar s env ft (.float x) rfl t d no hp h
    | .str x => by
      intro t d no hp h
      exact readback_scalar s env ft (.str x) rfl t d no hp h
    | .bool b => by
      intro t d no hp h
      exact readback_scalar s env ft (.bool b) rfl t d no hp h
    | .enum x => by
      intro t d no hp h
      simp only [plainLit, Bool.and_eq_true, beq_iff_eq, bne_iff_ne, ne_eq, Bool.not_eq_true', List.all_eq_true,
        Option.isNone_iff_eq_none] at hp
      obtain ⟨⟨⟨⟨⟨⟨hd, hb⟩, hne⟩, hkw⟩, hdot⟩, hfe⟩, hnb⟩ := hp
      simp only [coerceLit, hd, nestE_zero, hb] at h
      have hnb' : litBuiltin ft (.enum x) = none :=
        (litBuiltin_none_iff ft _).mpr ((coerceBuiltin_none_iff ft _).mp hnb)
      cases hf : s.find? ft with
      | none => simp [hf] at hfe
      | some ct =>
        cases ct with
        | scalar m => simp [hf] at hfe
        | input m fs => simp [hf] at hfe
        | enum m vals =>
          have hm : m = ft := by
            have := List.find?_some (show s.types.find? (fun c => c.name == ft) = some (.enum m vals) from hf)
            simpa [CType.name] using this
          subst hm
          simp only [litLeaf, hnb', hf] at h
          by_cases hin : vals.contains x = true
          · have hin' : x ∈ vals := by simpa using hin
            simp [hin'] at h
            subst h
            have hev := evalName_enum env m x vals (henum vals hf) hin' hkw
              (fun c hc => by simpa using hdot c hc) hne
            exact ⟨.enum m x x, by simp [constValue, evalExpr, hev], by simp [pvMatches]⟩
          · have hin' : ¬ x ∈ vals := by simpa using hin
            simp [hin'] at h
    | .list xs => by
      intro t d no hp h
      obtain ⟨it, hu, hp⟩ := plainLit_list hp
      simp only [coerceLit, hu] at h
      cases hl : coerceLits s it xs with
      | error e => simp [hl] at h
      | ok ys =>
        simp only [hl, Except.ok.injEq] at h
        subst h
        obtain ⟨pvs, hev, hm⟩ := readbackList xs it ys no hp hl
        exact ⟨.list pvs, by simp [constValue, evalExpr, hev], by simp [pvMatches, hm]⟩
    | .obj kvs => by
      intro t d no hp _
      simp [plainLit] at hp
  theorem readbackList : (xs : List Lit) → ∀ (t : TypeRef) (ys : List J) (no : Bool), plainLits s ft t xs = true →
      coerceLits s t xs = .ok ys →
      ∃ pvs, evalList env (constValues ft xs no) = .ok pvs ∧ listMatches env pvs ys = true
    | [] => by
      intro t ys no _ h
      simp only [coerceLits, Except.ok.injEq] at h
      subst h
      exact ⟨[], by simp [constValues, evalList], by simp [listMatches]⟩
    | x :: xs => by
      intro t ys no hp h
      simp only [plainLits, Bool.and_eq_true] at hp
      simp only [coerceLits] at h
      cases hx : coerceLit s t x with
      | error e => simp [hx] at h
      | ok y =>
        simp only [hx] at h
        cases hxs : coerceLits s t xs with
        | error e => simp [hxs] at h
        | ok ys' =>
          simp only [hxs, Except.ok.injEq] at h
          subst h
          obtain ⟨pv, hev, hm⟩ := readback x t y no hp.1 hx
          obtain ⟨pvs, hevs, hms⟩ := readbackList xs t ys' no hp.2 hxs
          exact ⟨pv :: pvs, by simp [constValues, evalList, hev, hevs], by simp [listMatches, hm, hms]⟩
end

/-- at the top of a field: a list default is a `default_factory`, everything else a plain default -/
theorem default_readback (lit : Lit) (t : TypeRef) (d : J) (hp : plainLit s ft t lit = true)
    (h : coerceLit s t lit = .ok d) :
    ∃ pv, evalDefault env (constValue ft lit false false) = .ok pv ∧ pvMatches env pv d = true := by
  cases lit with
  | list xs =>
    obtain ⟨pv, hev, hm⟩ := readback s env ft henum (.list xs) t d false hp h
    simp only [constValue, if_true] at hev ⊢
    exact ⟨pv, by simpa [evalDefault] using hev, hm⟩
  | obj kvs => simp [plainLit] at hp
  | null => exact readback s env ft henum .null t d false hp h
  | int v => exact readback s env ft henum (.int v) t d false hp h
  | float x => exact readback s env ft henum (.float x) t d false hp h
  | str x => exact readback s env ft henum (.str x) t d false hp h
  | bool b => exact readback s env ft henum (.bool b) t d false hp h
  | enum x => exact readback s env ft henum (.enum x) t d false hp h

end

end Ariadne.C06Readback
