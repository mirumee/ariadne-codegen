/-
  Proofs/C04Scope.lean — `Spec.PyScope.WellScoped` of the model's package, part by part:
    * the parts that ARE finding triggers (identifiers, duplicate parameters, enum members, names bound twice, the
      missing `model_rebuild()`) hold when the trigger is off (`*_of_off`; the converse is not stated);
    * `allOK` (`__all__` of `__init__`) holds for every input (it holds of every module a step can write);
    * the remaining parts are `Spec.PyScope.residualParts` (the per-module theorems of the `C04Mod*` files);
    * what has to be observed on a concrete input to refute `Supported_04` (one trigger that holds) and `Holds` (one part
      of `moduleOK` failing on a generated module, or a reported list that is not the directory listing).
-/
import AriadneModel.Model.Package
import AriadneModel.Model.PackageTriggers
import AriadneModel.Spec.PyScope
import AriadneModel.Proofs.C04Disk
import AriadneModel.Proofs.C04Defs
import AriadneModel.Proofs.C04Bound


namespace Ariadne.C04Proofs
open Ariadne.Package Ariadne.PackageTriggers Ariadne.Spec.PyScope

theorem of_any_false {α : Type} {l : List α} {f : α → Bool} (h : l.any f = false) {x : α} (hx : x ∈ l) : f x = false := by
  simpa using List.any_eq_false.mp h x hx

theorem all_not_of_any_false {α : Type} {l : List α} {f : α → Bool} (h : l.any f = false) : l.all (fun x => !f x) = true := by
  rw [← List.not_any_eq_all_not, h]; rfl

theorem triggers_nil_iff (cfg : Config) (inp : Input) :
    triggers cfg inp = [] ↔ ∀ nb ∈ triggerTable cfg inp, nb.2 = false := by
  unfold triggers
  rw [List.filterMap_eq_nil_iff]
  exact forall₂_congr fun nb _ => by cases nb.2 <;> simp

theorem trigger_off {cfg : Config} {inp : Input} (h : triggers cfg inp = []) {n : String} {b : Bool}
    (hm : (n, b) ∈ triggerTable cfg inp) : b = false :=
  (triggers_nil_iff cfg inp).mp h (n, b) hm

/-- `(name, value) ∈ triggerTable cfg inp` for an entry written out: unfold the table, the entry is one of its members -/
macro "trigger_mem" : tactic => `(tactic| simp only [triggerTable, List.mem_cons, true_or, or_true])

theorem onIR_off {cfg : Config} {inp : Input} {p : PackageIR} (hp : modelIR cfg inp = some p) {f : PackageIR → Bool}
    (h : onIR cfg inp f = false) : f p = false := by
  unfold onIR at h
  rw [hp] at h
  exact h

theorem _root_.Ariadne.C04.modelIR_generate {cfg : Config} {inp : Input} {p : PackageIR} (hp : modelIR cfg inp = some p) :
    generatePackage (fun _ => true) id cfg inp Package.fuel = .ok p := by
  unfold modelIR modelRun at hp
  unfold generatePackage
  cases ho : (runPackage (fun _ => true) id cfg inp).outcome with
  | error e1 => rw [ho] at hp; cases hp
  | ok q => rw [ho] at hp; cases hp; rfl

section parts
variable {p : PackageIR} {m : ModuleIR} (hm : m ∈ p.modules) (hg : generated m = true)
include hm hg

theorem identsOK_of_off (h1 : trigIdentNotPython p = false) (h2 : trigIdentKeyword p = false) : identsOK m = true := by
  unfold identsOK
  refine List.all_eq_true.mpr ?_
  intro s hs
  rw [identOK_eq]
  have a1 := of_any_false h1 hm
  have a2 := of_any_false h2 hm
  simp only [hg, Bool.true_and] at a1 a2
  have b1 := of_any_false a1 hs
  have b2 := of_any_false a2 hs
  simp only [Bool.not_eq_false'] at b1
  simp [b1, b2]

theorem bindingsUnique_of_off (h : trigNameBoundTwice p = false) : bindingsUnique m = true := by
  unfold bindingsUnique
  have a := of_any_false h hm
  simp only [hg, Bool.true_and] at a
  rw [a]
  rfl

omit hg in
theorem paramsDistinct_of_off (h : trigDuplicateParam p = false) : paramsDistinct m = true := by
  unfold paramsDistinct
  exact all_not_of_any_false (of_any_false h hm)

omit hg in
theorem enumMembersOK_of_off (h1 : trigEnumMemberReserved p = false) (h2 : trigEnumMemberDuplicate p = false) :
    enumMembersOK m = true := by
  unfold enumMembersOK
  have a1 := of_any_false h1 hm
  have a2 := of_any_false h2 hm
  cases hk : m.kind == .enums with
  | false => simp [bne, hk]
  | true =>
    simp only [hk, Bool.true_and] at a1 a2
    simp only [bne, hk, Bool.not_true, Bool.false_or]
    refine List.all_eq_true.mpr ?_
    intro c hc
    have b1 := of_any_false a1 hc
    have b2 := of_any_false a2 hc
    simp only [b2, Bool.not_false, Bool.true_and]
    exact all_not_of_any_false b1

omit hg in
theorem rebuilt_of_off (h : trigMissingRebuild p = false) :
    (m.classes.all fun c => c.fwd.isEmpty || m.rebuilds.contains c.name) = true := by
  refine List.all_eq_true.mpr ?_
  intro c hc
  have a := of_any_false (of_any_false h hm) hc
  cases h1 : c.fwd.isEmpty with
  | true => rfl
  | false =>
    simp only [h1, Bool.not_false, Bool.true_and, Bool.not_eq_false'] at a
    simp only [Bool.false_or]
    exact a

end parts

theorem allOK_of_kind {m : ModuleIR} (h : m.kind ≠ .init) : allOK m = true := by
  unfold allOK
  cases hk : m.kind <;> simp_all

theorem addOperations_files_kind {cfg : Config} {inp : Input} {fl : Nat} {st : St}
    (h : addOperations cfg inp fl {} inp.ops = .ok st) : ∀ fm ∈ st.files, fm.2.kind = .result := by
  refine addOperations_ind (fun st => ∀ fm ∈ st.files, fm.2.kind = .result) (fun _ hfm => nomatch hfm) ?_ h
  intro st o st' _ h0 hs fm hfm
  obtain ⟨n, out, m, argSt, _, _, _, rfl⟩ := addOperation_ok hs
  rcases mem_dictSet hfm with rfl | hfm
  · rfl
  · exact h0 fm hfm

theorem writes_allOK (fmt : FmtOracle) (e : Order.EnumOracle) (cfg : Config) (inp : Input) (fl : Nat) (st : St)
    (hst : addOperations cfg inp fl {} inp.ops = .ok st) : Writes (fun m => allOK m = true) fmt e cfg inp fl st where
  inputs := by
    intro io hio
    obtain ⟨kept, _, rfl⟩ := inputsModule_inv hio
    exact allOK_of_kind (by simp [inputsOut])
  results := by
    intro fm hfm
    have := addOperations_files_kind hst fm hfm
    exact allOK_of_kind (by rw [this]; simp)
  fragments := fun fo gens => allOK_of_kind (by simp [fragmentsModuleIR])
  copied := fun f => allOK_of_kind (by simp [copiedModule])
  custom := fun f => allOK_of_kind (by simp [customModule])
  client := allOK_of_kind (by simp [clientModule])
  enums := fun ue => allOK_of_kind (by simp [enumsModule])
  init := fun is => by simp [allOK, initModule]

theorem generateSteps_allOK {fmt : FmtOracle} {e : Order.EnumOracle} {cfg : Config} {inp : Input} {fl : Nat} {st : St} {g : GenSt}
    (hst : addOperations cfg inp fl {} inp.ops = .ok st)
    (h : generateSteps fmt e cfg inp fl st (genSt0 cfg st) = .ok g) : ∀ m ∈ g.modules, allOK m = true := by
  obtain ⟨io, fx, hio, _, rfl⟩ := (generateSteps_run fmt e cfg inp fl st).ok h
  intro m hm
  exact (writes_allOK fmt e cfg inp fl st hst).written hio fx m ((mem_foldl_putModule _ _ _ hm).resolve_left (fun h => nomatch h))

theorem moduleOK_of_parts {p : PackageIR} {m : ModuleIR}
    (h : generated m = true → residualParts p m = true ∧ rebuildsComplete m = true ∧ paramsDistinct m = true ∧
      enumMembersOK m = true ∧ identsOK m = true ∧ bindingsUnique m = true ∧ allOK m = true) : moduleOK p m = true := by
  unfold moduleOK
  cases hg : generated m with
  | false => rfl
  | true =>
    obtain ⟨h1, h2, h3, h4, h5, h6, h7⟩ := h hg
    obtain ⟨a1, a2, a3, _⟩ := residualParts_parts h1
    simp [parts, a1, a2, a3, h2, h3, h4, h5, h6, h7]

theorem rebuildsComplete_of {m : ModuleIR} (h1 : (m.classes.all fun c => c.fwd.isEmpty || m.rebuilds.contains c.name) = true)
    (h2 : m.rebuilds.all (m.classes.map (·.name)).contains = true) : rebuildsComplete m = true := by
  unfold rebuildsComplete
  rw [h1, h2]
  rfl

open Ariadne.C04 in
theorem not_supported_of_mem {cfg : Config} {inp : Input} {n : String} {b : Bool}
    (hm : (n, b) ∈ triggerTable cfg inp) (hb : b = true) : ¬ Supported_04 cfg inp :=
  fun hs => Bool.false_ne_true ((trigger_off hs hm).symm.trans hb)

theorem moduleOK_false_of_part {p : PackageIR} {m : ModuleIR} (hg : generated m = true) {q : String × Bool}
    (hq : q ∈ parts p m) (hb : q.2 = false) : moduleOK p m = false := by
  unfold moduleOK
  rw [hg]
  cases h : (parts p m).all (·.2) with
  | false => rfl
  | true => exact absurd (List.all_eq_true.mp h q hq) (by rw [hb]; exact Bool.false_ne_true)

def partFails (part : PackageIR → ModuleIR → Bool) (p : PackageIR) : Bool :=
  p.modules.any fun m => generated m && !part p m

theorem wellScoped_false_of_partFails {part : PackageIR → ModuleIR → Bool} {n : String} (hn : ∀ p m, (n, part p m) ∈ parts p m)
    {p : PackageIR} (h : partFails part p = true) : wellScopedB p = false := by
  obtain ⟨m, hm, hb⟩ := List.any_eq_true.mp h
  simp only [Bool.and_eq_true, Bool.not_eq_true'] at hb
  cases hw : wellScopedB p with
  | false => rfl
  | true => exact absurd (List.all_eq_true.mp hw m hm) (by rw [moduleOK_false_of_part hb.1 (hn p m) hb.2]; exact Bool.false_ne_true)

open Ariadne.C04 in
theorem not_holds_of_onIR {cfg : Config} {inp : Input} {f : PackageIR → Bool}
    (hf : ∀ p, f p = true → (wellScopedB p && initExactB p && p.reported == p.onDisk) = false)
    (h : onIR cfg inp f = true) : ¬ Holds (modelRun cfg inp) := by
  unfold onIR modelIR at h
  unfold Holds holdsB
  cases ho : (modelRun cfg inp).outcome with
  | error e => rw [ho] at h; cases h
  | ok p =>
    rw [ho] at h
    simp only at h ⊢
    rw [hf p h]
    exact Bool.false_ne_true

open Ariadne.C04 in
theorem not_holds_of_part {cfg : Config} {inp : Input} {part : PackageIR → ModuleIR → Bool} {n : String}
    (hn : ∀ p m, (n, part p m) ∈ parts p m) (h : onIR cfg inp (partFails part) = true) : ¬ Holds (modelRun cfg inp) :=
  not_holds_of_onIR (fun p hp => by rw [wellScoped_false_of_partFails hn hp]; rfl) h

open Ariadne.C04 in
theorem not_holds_of_listing {cfg : Config} {inp : Input}
    (h : onIR cfg inp (fun p => !(p.reported == p.onDisk)) = true) : ¬ Holds (modelRun cfg inp) :=
  not_holds_of_onIR (fun p hp => by
    simp only [Bool.not_eq_true'] at hp
    rw [hp, Bool.and_false]) h

end Ariadne.C04Proofs

namespace Ariadne.C04
open Ariadne.Package Ariadne.PackageTriggers Ariadne.Spec.PyScope

/-- the finding region `forwardRefDangling` (F25) is exact for the part it is about: with the trigger off, the quoted forward
    references of every operation module and of `fragments.py` name something the module defines -/
theorem forwardRefs_of_off {p : PackageIR} {m : ModuleIR} (hm : m ∈ p.modules) (hk : m.kind = .result ∨ m.kind = .fragments)
    (h : trigForwardRefDangling p = false) : forwardRefsOK m = true := by
  have a := C04Proofs.of_any_false h hm
  have hkb : (m.kind == .result || m.kind == .fragments) = true := by
    rcases hk with hk | hk <;> simp [hk]
  simp only [hkb, Bool.true_and, Bool.not_eq_false'] at a
  exact a

end Ariadne.C04
