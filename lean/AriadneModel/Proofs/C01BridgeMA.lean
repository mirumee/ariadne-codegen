/-
  Property C01: the abstract-positions tier WITH MIXIN FRAGMENTS (Proofs/C01Abs*.lean, whose
  region admits spreads of named fragments at object-typed classes; the fragment classes are those of the mixin tier,
  Proofs/C01Mix*.lean) carried to the pipeline statement `claimB`:
      ValidInput inp → MixAbsInput inp → nodupKeys j → claimB inp k j = true.

  `MixAbsInput` (decidable, Proofs/C01Regions.lean), with the nesting fuel `K = maK` and `F = fragNeed` (validation fuel of the
  fragment classes): `schemaOK`, fragment names distinct, the operations IN ORDER with the marks threaded (`absOpsOK … K F`),
  `maOpOK` of every operation, `maFragOK` of every fragment definition — `fragOK` of the mixin tier (in particular NO
  abstract-typed field: finding C01-F4), `fragGenOK`, and no selection set of the fragment carries a mark of ANY operation
  (`finalMarks`: selection-set ids are unique in a parsed document, so this only excludes ids shared by construction).
  In this region nothing is unpacked; the automatic `__typename` goes into the operations only (the fragments are sent as
  written); the fragments module holds the classes of ALL fragment definitions.
-/
import AriadneModel.Proofs.C01BridgeAbs
import AriadneModel.Proofs.C01BridgeMix


namespace Ariadne.C01
open Ariadne Ariadne.Gql Ariadne.ResultTypes Ariadne.Util Ariadne.Triggers01 Ariadne.C01Plain Ariadne.C01Abs

theorem fragNeed_spec (env : ResultTypes.Env) (K : Nat) : ∀ f ∈ env.frags, C01Mix.mneed env K f.on f.sel + 1 ≤ fragNeed env K :=
  fun f hf => Lists.le_foldl_max (fun f => C01Mix.mneed env K f.on f.sel + 1) env.frags 0 _ (Or.inr ⟨f, hf, Nat.le_refl _⟩)

mutual
  theorem sidFree_mono {M M' : List Nat} (h : ∀ m ∈ M', m ∈ M) : ∀ sel : List Selection,
      C01Mix.sidFree M sel = true → C01Mix.sidFree M' sel = true
    | [], _ => by simp [C01Mix.sidFree]
    | s :: rest, hs => by
      simp only [C01Mix.sidFree, Bool.and_eq_true] at hs ⊢
      exact ⟨sidFree1_mono h s hs.1, sidFree_mono h rest hs.2⟩
  theorem sidFree1_mono {M M' : List Nat} (h : ∀ m ∈ M', m ∈ M) : ∀ s : Selection,
      C01Mix.sidFree1 M s = true → C01Mix.sidFree1 M' s = true
    | .field _ _ _ sid sub, hs => by
      simp only [C01Mix.sidFree1, Bool.and_eq_true, Bool.or_eq_true, Bool.not_eq_true'] at hs ⊢
      refine ⟨?_, sidFree_mono h sub hs.2⟩
      rcases hs.1 with h1 | h1
      · exact Or.inl h1
      · right
        cases hc : M'.contains sid with
        | false => rfl
        | true =>
          have : sid ∈ M := h sid (by simpa using hc)
          have : M.contains sid = true := by simpa using this
          rw [h1] at this; cases this
    | .spread _ _, _ => by simp [C01Mix.sidFree1]
    | .inline _ _ _ sub, hs => by
      simp only [C01Mix.sidFree1] at hs ⊢
      exact sidFree_mono h sub hs
end

mutual
  theorem applySels_free (M : List Nat) : ∀ sel : List Selection, C01Mix.sidFree M sel = true → Marks.applySels M sel = sel
    | [], _ => by simp [Marks.applySels]
    | s :: rest, hs => by
      simp only [C01Mix.sidFree, Bool.and_eq_true] at hs
      simp only [Marks.applySels, applySel_free M s hs.1, applySels_free M rest hs.2]
  theorem applySel_free (M : List Nat) : ∀ s : Selection, C01Mix.sidFree1 M s = true → Marks.applySel M s = s
    | .field alias name dirs sid sub, hs => by
      simp only [C01Mix.sidFree1, Bool.and_eq_true, Bool.or_eq_true, Bool.not_eq_true'] at hs
      simp only [Marks.applySel, applySels_free M sub hs.2]
      rcases hs.1 with h1 | h1
      · simp [h1]
      · simp only [h1, Bool.false_and, Bool.false_eq_true, if_false]
    | .spread _ _, _ => by simp [Marks.applySel]
    | .inline _ _ _ sub, hs => by
      simp only [C01Mix.sidFree1] at hs
      simp only [Marks.applySel, applySels_free M sub hs]
end

theorem maOpOK_spec {env : ResultTypes.Env} {o : Operation} {n tn : String} (hn : o.name = some n)
    (hr : Validate.rootOf env.schema o = some tn) (h : maOpOK env o = true) :
    ((aClass env (pascal n) tn [] false o.sel ++ fragModule env).map (·.name)).Nodup ∧
    "BaseModel" ∉ (aClass env (pascal n) tn [] false o.sel ++ fragModule env).map (·.name) ∧
    C01Mix.fragDepth env + 1 ≤ (aClass env (pascal n) tn [] false o.sel ++ fragModule env).length + 1 := by
  unfold maOpOK at h
  simp only [hn, hr, Bool.and_eq_true, decide_eq_true_eq, nodupB_iff] at h
  exact ⟨h.1.1, NoShadowedImport_baseModel h.1.2, h.2⟩

/-- the abstract tier on the pipeline, with the nesting fuel `K` and the fuel `F` of the fragment classes as variables and
    the facts the regions provide as hypotheses -/
theorem claimB_absOps (inp : Input) (k : Nat) (j : J) (K F : Nat)
    (hschema : schemaOK inp.env.schema = true) (hfnd : (inp.env.frags.map (·.name)).Nodup)
    (hops : absOpsOK inp.env K F inp.ops [] = true)
    (hmod : ∀ o ∈ inp.ops, ∀ n tn, o.name = some n → Validate.rootOf inp.env.schema o = some tn →
      ((aClass inp.env (pascal n) tn [] false o.sel ++ fragModule inp.env).map (·.name)).Nodup ∧
      "BaseModel" ∉ (aClass inp.env (pascal n) tn [] false o.sel ++ fragModule inp.env).map (·.name) ∧
      C01Mix.fragDepth inp.env + 1 ≤ (aClass inp.env (pascal n) tn [] false o.sel ++ fragModule inp.env).length + 1)
    (hfragP : ∀ f ∈ inp.env.frags, C01Mix.fragOK inp.env K f = true ∧ fragGenOK inp.env f = true ∧
      (finalMarks inp.env inp.ops []).contains f.sid = false ∧ C01Mix.sidFree (finalMarks inp.env inp.ops []) f.sel = true)
    (hF : ∀ f ∈ inp.env.frags, C01Mix.mneed inp.env K f.on f.sel + 1 ≤ F)
    (hj : nodupKeys j = true) : claimB inp k j = true := by
  have hfr : C01Mix.FragsOK inp.env K := fun f hf => (hfragP f hf).1
  have hOK : ∀ i o, inp.ops[i]? = some o → ∀ ms, (∀ m, m ∈ ms ↔ m ∈ (inp.ops.take i).flatMap (opNeed inp.env)) →
      absOpOK inp.env K F o ms = true := fun i o hi ms hms => absOpsOK_get hops i o hi ms (fun m => by simpa using hms m)
  refine claimB_ops inp k j hj (opNeed inp.env) (absOpOK inp.env K F · · = true)
    (fun o out => out.st.unpacked = [] ∧ ∀ n tn, o.name = some n → Validate.rootOf inp.env.schema o = some tn →
      out.classes = aClass inp.env (pascal n) tn [] false o.sel) (fun o ms ho => ?gen) hOK (fun R o out hk _ hpost => ?acc)
  case gen =>
    obtain ⟨n, tn, hn, hr, hmix, habs, _, hgf, _, _, hom⟩ := absOpOK_spec ho
    obtain ⟨out, h1, h2, h3, h4⟩ := generate_abs inp.env K hfr o n tn ms hn hr hmix habs _ hgf
    exact ⟨out, h1, fun m => by rw [h2 m, hom]; simp, h4,
      fun n' tn' hn' hr' => by cases hn.symm.trans hn'; cases hr.symm.trans hr'; exact h3⟩
  case acc =>
    -- operation `k`, entered with the marks of its predecessors
    have hok := hOK k o hk ((inp.ops.take k).flatMap (opNeed inp.env)) (fun _ => Iff.rfl)
    obtain ⟨n, tn, hn, hr, _, habs, _, _, hef, hvf, hom⟩ := absOpOK_spec hok
    obtain ⟨hnd, hbm, hdepth⟩ := hmod o (List.mem_of_getElem? hk) n tn hn hr
    have hcl := hpost.2 n tn hn hr
    refine ⟨_, tn, by rw [hcl]; rfl, hr, fun j hresp hj m hm => ?_⟩
    have hM : ∀ m, m ∈ marksAfter ((run inp).ops.take (k + 1)) ↔
        m ∈ sentMarks inp.env (pascal n) tn o.sel { marks := (inp.ops.take k).flatMap (opNeed inp.env) } := fun m => by
      rw [R.marks, List.take_add_one, hk]
      simp [sentMarks, hom]
    -- all marks are among `finalMarks`, which leave the fragments alone
    have hfreeOf : ∀ i, ∀ f ∈ inp.env.frags, (marksAfter ((run inp).ops.take i)).contains f.sid = false ∧
        C01Mix.sidFree (marksAfter ((run inp).ops.take i)) f.sel = true := by
      intro i f hf
      have hsub : ∀ m ∈ marksAfter ((run inp).ops.take i), m ∈ finalMarks inp.env inp.ops [] := fun m hm => by
        rw [mem_finalMarks]
        obtain ⟨o', ho', hm'⟩ := List.mem_flatMap.mp ((R.marks i m).mp hm)
        exact Or.inr (List.mem_flatMap.mpr ⟨o', List.mem_of_mem_take ho', hm'⟩)
      obtain ⟨_, _, h3, h4⟩ := hfragP f hf
      refine ⟨?_, sidFree_mono hsub f.sel h4⟩
      cases hc : (marksAfter ((run inp).ops.take i)).contains f.sid with
      | false => rfl
      | true => rw [List.contains_iff_mem.mpr (hsub _ (List.contains_iff_mem.mp hc))] at h3; cases h3
    obtain ⟨hpenvcls, hhas, hFragsIn⟩ := pydEnvOf_fragModule inp K hfr hfnd (fun f hf => (hfragP f hf).2.1)
      (fun r hr' out' he => by obtain ⟨_, _, out'', he', hp'⟩ := R.outs r hr'; cases he.symm.trans he'; exact hp'.1)
      (fun f hf => by simpa using hfreeOf (run inp).ops.length f hf) out _ hcl hnd
    have hG : GH inp.env (pydEnvOf inp (run inp) out) K F :=
      ⟨hfr, envAgrees_of_schemaOK inp.env _ hschema rfl, class?_none_of_not_mem _ _ (by rw [hpenvcls]; exact hbm), hFragsIn,
        by show C01Mix.fragDepth inp.env + 1 ≤ (pydEnvOf inp (run inp) out).classes.length + 1; rw [hpenvcls]; exact hdepth, hF⟩
    have hfrs : inp.env.frags.map (Marks.applyFrag (marksAfter ((run inp).ops.take (k + 1)))) = inp.env.frags := by
      rw [List.map_congr_left (g := id) (fun f hf => by
        simp only [Marks.applyFrag, applySels_free _ f.sel (hfreeOf (k + 1) f hf).2]; rfl)]
      simp
    rw [hfrs] at hresp
    exact abs_roundtrip inp.env K F (pascal n) tn o.sid o.sel _ habs _ hG
      (fun c hc => hhas c (List.mem_append_left _ hc)) _ hM execFuel hef j hresp hj m (Nat.le_trans hvf hm)

theorem claimB_mixabs (inp : Input) (k : Nat) (j : J) (hp : MixAbsInput inp) (hj : nodupKeys j = true) :
    claimB inp k j = true := by
  simp only [MixAbsInput, Bool.and_eq_true, List.all_eq_true, nodupB_iff] at hp
  obtain ⟨⟨⟨⟨hschema, hfnd⟩, hops⟩, hmaops⟩, hfrags⟩ := hp
  refine claimB_absOps inp k j (maK inp.env) (fragNeed inp.env (maK inp.env)) hschema hfnd hops
    (fun o ho n tn hn hr => maOpOK_spec hn hr (hmaops o ho)) (fun f hf => ?_) (fragNeed_spec inp.env _) hj
  have := hfrags f hf
  simp only [maFragOK, Bool.and_eq_true, Bool.not_eq_true'] at this
  exact ⟨this.1.1.1, this.1.1.2, this.1.2, this.2⟩

/-- the case without fragment definitions, `K = F = 0` -/
theorem claimB_abs (inp : Input) (k : Nat) (j : J) (hp : AbsInput inp) (hj : nodupKeys j = true) :
    claimB inp k j = true := by
  simp only [AbsInput, Bool.and_eq_true, List.isEmpty_iff] at hp
  obtain ⟨⟨⟨hfr, hschema⟩, _⟩, hops⟩ := hp
  have hfm : fragModule inp.env = [] := by simp [fragModule, hfr, sortStr]
  refine claimB_absOps inp k j 0 0 hschema (by rw [hfr]; exact List.nodup_nil) hops (fun o ho n tn hn hr => ?_)
    (fun f hf => by rw [hfr] at hf; cases hf) (fun f hf => by rw [hfr] at hf; cases hf) hj
  obtain ⟨i, hi⟩ := List.getElem?_of_mem ho
  have hok := absOpsOK_get hops i o hi ((inp.ops.take i).flatMap (opNeed inp.env)) (fun m => by simp)
  obtain ⟨n', tn', hn', hr', _, habs, hbm, _⟩ := absOpOK_spec hok
  rw [hn] at hn'; rw [hr] at hr'; cases hn'; cases hr'
  rw [hfm, List.append_nil]
  exact ⟨(AbsOK_spec habs).2.2.2.1, hbm, by simp [C01Mix.fragDepth, hfr, aClass]⟩

/-! ### a concrete input in the region

    query Q { node { id ... on User { ...UF } ... on Post { title author { ...UG } } }          # interface position
              me { ...UF pet { __typename id } } }                                             # object position with a mixin
    query R { again: node { ... on Post { author { ...UG pet { id } } } } }
    fragment UF on User { name friends { ...UG } }        fragment UG on User { id }
-/

def maSchema : Schema :=
  { types := [
      { name := "Query", kind := .object,
        fields := [{ name := "node", type := .named "Node" }, { name := "me", type := .named "User" }] },
      { name := "Node", kind := .interface, fields := [{ name := "id", type := .nonNull (.named "ID") }] },
      { name := "User", kind := .object, interfaces := ["Node"],
        fields := [{ name := "id", type := .nonNull (.named "ID") }, { name := "name", type := .named "String" },
                   { name := "friends", type := .nonNull (.list (.nonNull (.named "User"))) },
                   { name := "pet", type := .named "Node" }] },
      { name := "Post", kind := .object, interfaces := ["Node"],
        fields := [{ name := "id", type := .nonNull (.named "ID") }, { name := "title", type := .nonNull (.named "String") },
                   { name := "author", type := .nonNull (.named "User") }] }],
    query := some "Query" }

def maSel : List Selection :=
  [ fl "node" 2 [fl "id", .inline (some "User") [] 3 [.spread "UF" []],
                          .inline (some "Post") [] 5 [fl "title", fl "author" 6 [.spread "UG" []]]],
    fl "me" 11 [.spread "UF" [], fl "pet" 12 [fl "__typename", fl "id"]] ]

def maInp : Input :=
  { env := { schema := maSchema,
             frags := [{ name := "UF", on := "User", sid := 30, sel := [fl "name", fl "friends" 31 [.spread "UG" []]] },
                       { name := "UG", on := "User", sid := 32, sel := [fl "id"] }] },
    ops := [{ kind := .query, name := some "Q", sid := 1, sel := maSel },
            { kind := .query, name := some "R", sid := 20,
              sel := [.field (some "again") "node" [] 21
                [.inline (some "Post") [] 22 [fl "author" 23 [.spread "UG" [], fl "pet" 24 [fl "id"]]]]] }] }

def maResp : J :=
  .obj [("node", .obj [("__typename", .str "User"), ("id", .str "1"), ("name", .null), ("friends", .arr [.obj [("id", .str "2")]])]),
        ("me", .obj [("name", .str "n"), ("friends", .arr []), ("pet", .obj [("__typename", .str "Post"), ("id", .str "3")])])]

/-- non-vacuity: a mixin inside an inline fragment at an interface position (`QNodeUser(UF)`), a mixin at an object position
    below it (`QNodePostAuthor(UG)`), a mixin next to an interface-typed field (`QMe(UF)` with `pet`), a fragment spreading a
    fragment in a sub-selection (`UFFriends(UG)`); the marks accumulate over the two operations; the answer of the first is
    conformant for the document as sent and carries own, inherited and discriminated parts -/
theorem maInp_nonvacuous : ValidInput maInp ∧ MixAbsInput maInp ∧ Supported_01 maInp ∧ nodupKeys maResp = true
    ∧ ((run maInp).ops.map fun r => match r with
        | .ok out => out.classes.map (fun c => (c.name, c.bases))
        | .error _ => []) =
      [[("Q", ["BaseModel"]), ("QNodeNode", ["BaseModel"]), ("QNodePost", ["BaseModel"]), ("QNodePostAuthor", ["UG"]),
        ("QNodeUser", ["UF"]), ("QMe", ["UF"]), ("QMePet", ["BaseModel"])],
       [("R", ["BaseModel"]), ("RAgainNode", ["BaseModel"]), ("RAgainPost", ["BaseModel"]), ("RAgainPostAuthor", ["UG"]),
        ("RAgainPostAuthorPet", ["BaseModel"])]]
    ∧ (fragModule maInp.env).map (fun c => (c.name, c.bases)) = [("UF", ["BaseModel"]), ("UFFriends", ["UG"]), ("UG", ["BaseModel"])]
    ∧ marksAfter ((run maInp).ops.take 1) = [2] ∧ marksAfter ((run maInp).ops.take 2) = [2, 21, 24]
    ∧ Exec.respOK maSchema maInp.env.frags execFuel "Query" (Marks.applySels [2] maSel) maResp = true
    ∧ claimB maInp 0 maResp = true := by decide +kernel

/-! ### … and one in which response keys are reached several times

    query Q { node { id ... on User { id ...UF } } me { ...UF name } }        fragment UF on User { id name }

    `QNodeUser(UF)` declares `typename__`, `id`, `id` and inherits `id`, `name`; `QMe(UF)` declares `name` and inherits `id`, `name`. -/

def maDupSel : List Selection :=
  [ fl "node" 2 [fl "id", .inline (some "User") [] 3 [fl "id", .spread "UF" []]],
    fl "me" 11 [.spread "UF" [], fl "name"] ]

def maDupInp : Input :=
  { env := { schema := maSchema, frags := [{ name := "UF", on := "User", sid := 30, sel := [fl "id", fl "name"] }] },
    ops := [{ kind := .query, name := some "Q", sid := 1, sel := maDupSel }] }

def maDupResp : J :=
  .obj [("node", .obj [("__typename", .str "User"), ("id", .str "1"), ("name", .null)]),
        ("me", .obj [("id", .str "2"), ("name", .str "x")])]

theorem maDupInp_nonvacuous : ValidInput maDupInp ∧ MixAbsInput maDupInp ∧ Supported_01 maDupInp ∧ nodupKeys maDupResp = true
    ∧ ((run maDupInp).ops.map fun r => match r with
        | .ok out => out.classes.map (fun c => (c.name, c.bases, c.fields.map (·.py)))
        | .error _ => []) =
      [[("Q", ["BaseModel"], ["node", "me"]), ("QNodeNode", ["BaseModel"], ["typename__", "id"]),
        ("QNodeUser", ["UF"], ["typename__", "id", "id"]), ("QMe", ["UF"], ["name"])]]
    ∧ Exec.respOK maSchema maDupInp.env.frags execFuel "Query" (Marks.applySels [2] maDupSel) maDupResp = true
    ∧ claimB maDupInp 0 maDupResp = true := by decide +kernel

end Ariadne.C01
