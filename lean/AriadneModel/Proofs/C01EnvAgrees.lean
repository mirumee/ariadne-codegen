/-
  Property C01: a pydantic environment whose enums are the schema's enum types (`enumsOf`) agrees
  with the schema on enums (`ResultLeaf.EnvAgrees`, the hypothesis of every tier's part (2)) as soon as the decidable
  `schemaOK` (Proofs/C01Regions.lean) holds.
-/
import AriadneModel.Proofs.C01Regions
import AriadneModel.Proofs.ResultLeaf
import AriadneModel.Proofs.ListLemmas


namespace Ariadne.C01
open Ariadne Ariadne.Gql

def enumsOf (S : Schema) : List (String × List String) :=
  (S.types.filter (·.kind == .enum)).map fun t => (t.name, t.values)

theorem enumsOf_find_some : ∀ (ts : List TypeDef) (n : String) (t : TypeDef),
    ts.find? (·.name == n) = some t → t.kind = .enum →
    (((ts.filter (·.kind == .enum)).map fun t => (t.name, t.values)).find? (·.1 == n)).map (·.2) = some t.values
  | [], _, _, h, _ => by simp at h
  | x :: xs, n, t, h, hk => by
    rw [List.find?_cons] at h
    by_cases hx : (x.name == n) = true
    · simp only [hx] at h
      cases h
      simp [hk, hx]
    · simp only [hx] at h
      have ih := enumsOf_find_some xs n t h hk
      by_cases hkx : (x.kind == Kind.enum) = true
      · simp only [List.filter_cons, hkx, if_true, List.map_cons, List.find?_cons, hx]
        exact ih
      · simp only [List.filter_cons, hkx]
        exact ih

theorem enumsOf_find_none : ∀ (ts : List TypeDef) (n : String),
    (∀ t ∈ ts, t.name = n → t.kind ≠ .enum) →
    ((ts.filter (·.kind == .enum)).map fun t => (t.name, t.values)).find? (·.1 == n) = none := by
  intro ts n h
  rw [List.find?_eq_none]
  intro p hp
  obtain ⟨t, ht, rfl⟩ := List.mem_map.mp hp
  have ht' := List.mem_filter.mp ht
  intro e
  exact h t ht'.1 (by simpa using e) (by simpa using ht'.2)

theorem envAgrees_of_schemaOK (env : ResultTypes.Env) (penv : Pyd.Env) (h : schemaOK env.schema = true)
    (he : penv.enums = enumsOf env.schema) : ResultLeaf.EnvAgrees env penv := by
  simp only [schemaOK, Bool.and_eq_true, Lists.nodupB_iff_of_eqns C01Plain.nodupB rfl (fun _ _ => rfl)] at h
  obtain ⟨⟨hnd, hnb⟩, hbi⟩ := h
  constructor
  · intro n t hg hk
    unfold Pyd.Env.enum?
    rw [he]
    exact enumsOf_find_some env.schema.types n t hg hk
  · intro n hk
    obtain ⟨t, hg, hkt⟩ := ResultLeaf.kindOf_get _ _ _ hk
    have hmem : t ∈ env.schema.types := List.mem_of_find?_eq_some hg
    have hname : t.name = n := by simpa using List.find?_some hg
    have := List.all_eq_true.mp hnb t hmem
    simp only [hkt, beq_self_eq_true, Bool.not_true, Bool.false_or, Bool.not_eq_true', hname] at this
    simp only [List.contains_eq_mem, List.mem_cons, List.not_mem_nil, or_false, decide_eq_false_iff_not, not_or] at this
    exact ⟨this.1, this.2.1, this.2.2.1, this.2.2.2.1, this.2.2.2.2⟩
  · intro n hn
    have hall := List.all_eq_true.mp hbi n (by rcases hn with rfl | rfl | rfl | rfl | rfl <;> simp)
    cases hk : env.schema.kindOf? n with
    | none => exact Or.inl rfl
    | some k =>
      rw [hk] at hall
      cases k <;> simp at hall ⊢
  · intro n hk
    right
    unfold Pyd.Env.enum?
    rw [he]
    unfold enumsOf
    rw [enumsOf_find_none env.schema.types n]
    · rfl
    · intro t ht hname hkt
      apply hk
      have hg : env.schema.get? n = some t := Lists.find?_of_nodup_map hnd ht hname
      simp [Schema.kindOf?, hg, hkt]

end Ariadne.C01
