/-
  Proofs/OrderSites.lean — the trigger of finding C10-F2 per CALL SITE: in an operation module only the
  `from .fragments import …` statement receives names from a set; every other import list (enums, scalars,
  typing) is a deterministic list, and a key tie inside one of those does not make the module depend on the
  enumeration.  Core Lean only.
-/
import AriadneModel.Proofs.OrderPkg


namespace Ariadne.Order
open Ariadne.Isort

/-- spelling of the fragments module in an import block -/
def fragModStr (fm : String) : String := modStr ⟨1, fm, []⟩

/-- two distinct names tie on isort's key among the names an operation module imports from the fragments module -/
def opSetFedTie (pascal : Name → Name) (fm : String) (g : DefGen) : Bool :=
  nameTie (namesOf (fragModStr fm) (opImports id pascal fm g))

theorem namesOf_append (m : String) (s₁ s₂ : List ImportFrom) : namesOf m (s₁ ++ s₂) = namesOf m s₁ ++ namesOf m s₂ := by
  simp [namesOf, List.filter_append, List.flatMap_append]

theorem namesOf_opImports (e : EnumOracle) (pascal : Name → Name) (fm : String) (g : DefGen) (hmx : g.mixins.isEmpty = false) (m : String) :
    namesOf m (opImports e pascal fm g) = namesOf m g.imports ++ (if m = fragModStr fm then (e g.mixins).map pascal else []) := by
  simp only [opImports, hmx, Bool.false_eq_true, if_false, namesOf_append]
  by_cases hm : m = fragModStr fm
  · simp [namesOf, modStr, fragModStr, hm]
  · have : (modStr (⟨1, fm, (e g.mixins).map pascal⟩ : ImportFrom) == m) = false := by
      simp only [beq_eq_false_iff_ne]
      intro h; exact hm (by rw [← h]; rfl)
    simp [namesOf, this, hm]

theorem opImports_summary_eq (e₁ e₂ : EnumOracle) (he₁ : EnumOK e₁) (he₂ : EnumOK e₂) (pascal : Name → Name) (fm : String)
    (g : DefGen) (keep : Name → Bool) (ht : opSetFedTie pascal fm g = false) :
    summary keep (opImports e₁ pascal fm g) = summary keep (opImports e₂ pascal fm g) := by
  cases hmx : g.mixins.isEmpty with
  | true => simp only [opImports, hmx, if_true]
  | false =>
    -- against the canonical listing: only the names from the fragments module are fed from a set, and they have no tie
    have key : ∀ e, EnumOK e → summary keep (opImports id pascal fm g) = summary keep (opImports e pascal fm g) := by
      intro e he
      refine summary_eq_of_equiv' keep (opImports_equiv id e enumOK_id he pascal fm g) fun m => ?_
      rw [namesOf_opImports id _ _ _ hmx, namesOf_opImports e _ _ _ hmx]
      by_cases hm : m = fragModStr fm
      · exact Or.inr (by simpa only [namesOf_opImports id _ _ _ hmx, hm] using noTie_of_nameTie_false ht)
      · exact Or.inl (by simp only [hm, if_false])
    exact (key e₁ he₁).symm.trans (key e₂ he₂)

end Ariadne.Order
