/-
  Lemmas for the heap-level model of the connection side of `execute_ws` (Model/WsClientHeap.lean):
  the header statements write only to the object they allocated, a call on references is the
  value-level call on the contents, sequences and schedules of calls keep every object that existed.
-/
import AriadneModel.Model.WsClientHeap
import AriadneModel.Proofs.WsClient
import AriadneModel.Proofs.Schedule

namespace Ariadne.WsHeapProofs
open Ariadne.WsClient Ariadne.WsHeap Ariadne.WsProofs

theorem mergeHeadersS_some (s : Store) (w a : Nat) (d x : Obj) (hw : s[w]? = some d) (ha : s[a]? = some x) :
    mergeHeadersS s w (some a) = some (s ++ [dictUpdate d x], s.length) := by
  have hlt : a < s.length := (List.getElem?_eq_some_iff.mp ha).1
  have h1 : (s ++ [d])[s.length]? = some d := by simp
  have h2 : (s ++ [d])[a]? = some x := by rw [List.getElem?_append_left hlt]; exact ha
  simp only [mergeHeadersS, hw, hlt, if_true, updateAt, h1, h2, Option.map_some]
  simp

theorem mergeHeadersS_none (s : Store) (w : Nat) (d : Obj) (hw : s[w]? = some d) :
    mergeHeadersS s w none = some (s ++ [d, []], s.length) := by
  have h1 : (s ++ [d] ++ [[]])[s.length]? = some d := by simp
  have h2 : (s ++ [d] ++ [[]])[s.length + 1]? = some [] := by simp
  simp only [mergeHeadersS, hw, updateAt, h1, h2, Option.map_some, dictUpdate]
  simp

theorem mergeHeadersOtS_eq : mergeHeadersOtS = mergeHeadersS := rfl
theorem mergeHeadersTelS_eq : mergeHeadersTelS = mergeHeadersS := rfl

theorem variant_merge_eq (v : Variant) : v.merge = mergeHeadersS := by
  cases v with
  | plain => rfl
  | ot t => cases t <;> rfl

/-- Every copy of the header statements, on every store: with valid references the result is the
    old store with NEW objects appended, the first of which - `headers` - holds the configured
    headers updated by the call's `extra_headers`. -/
theorem merge_closed (v : Variant) (s : Store) (w : Nat) (e : Option Nat) (d : Obj) (x : Option Obj)
    (hw : s[w]? = some d) (he : extraAt s e = some x) :
    ∃ tail, v.merge s w e = some (s ++ dictUpdate d (x.getD []) :: tail, s.length) := by
  rw [variant_merge_eq]
  cases e with
  | none =>
    simp only [extraAt, Option.some.injEq] at he
    subst he
    exact ⟨[[]], by rw [mergeHeadersS_none s w d hw]; rfl⟩
  | some a =>
    simp only [extraAt] at he
    cases ha : s[a]? with
    | none => simp [ha] at he
    | some x' =>
      simp only [ha, Option.map_some, Option.some.injEq] at he
      subst he
      exact ⟨[], by rw [mergeHeadersS_some s w a d x' hw ha]; rfl⟩

theorem getElem?_append_some (s g : Store) (i : Nat) (o : Obj) (h : s[i]? = some o) : (s ++ g)[i]? = some o := by
  have hlt : i < s.length := (List.getElem?_eq_some_iff.mp h).1
  rw [List.getElem?_append_left hlt]; exact h

theorem extraAt_append (s g : Store) (e : Option Nat) (x : Option Obj) (h : extraAt s e = some x) :
    extraAt (s ++ g) e = some x := by
  cases e with
  | none => exact h
  | some a =>
    simp only [extraAt] at h ⊢
    cases ha : s[a]? with
    | none => simp [ha] at h
    | some o => rw [getElem?_append_some s g a o ha]; simpa [ha] using h

theorem initAt_append (s g : Store) (p : Option Nat) (x : Option J) (h : initAt s p = some x) :
    initAt (s ++ g) p = some x := by
  cases p with
  | none => exact h
  | some a =>
    simp only [initAt] at h ⊢
    cases ha : s[a]? with
    | none => simp [ha] at h
    | some o => rw [getElem?_append_some s g a o ha]; simpa [ha] using h

theorem cfgAt_some (s : Store) (cl : ClientObj) (c : HCall) (cfg : Cfg) (h : cfgAt s cl c = some cfg) :
    ∃ hd e i, s[cl.wsHeaders]? = some hd ∧ extraAt s c.extraHeaders = some e ∧ initAt s cl.initPayload = some i ∧
      cfg = { url := cl.url, headers := hd, origin := cl.origin, initPayload := i, query := c.query,
              opName := c.opName, extraHeaders := e, kwargs := c.kwargs, opId := c.opId } := by
  unfold cfgAt at h
  cases hw : s[cl.wsHeaders]? with
  | none => simp [hw] at h
  | some d =>
    cases he : extraAt s c.extraHeaders with
    | none => simp [hw, he] at h
    | some e =>
      cases hi : initAt s cl.initPayload with
      | none => simp [hw, he, hi] at h
      | some i =>
        simp only [hw, he, hi, Option.some.injEq] at h
        exact ⟨d, e, i, rfl, rfl, rfl, h.symm⟩

theorem cfgAt_append (s g : Store) (cl : ClientObj) (c : HCall) (cfg : Cfg) (h : cfgAt s cl c = some cfg) :
    cfgAt (s ++ g) cl c = some cfg := by
  obtain ⟨hd, e, i, hw, he, hi, rfl⟩ := cfgAt_some s cl c cfg h
  simp only [cfgAt, getElem?_append_some s g _ hd hw, extraAt_append s g _ e he, initAt_append s g _ i hi]

theorem cfgAt_parts (s : Store) (cl : ClientObj) (c : HCall) (cfg : Cfg) (h : cfgAt s cl c = some cfg) :
    s[cl.wsHeaders]? = some cfg.headers ∧ extraAt s c.extraHeaders = some cfg.extraHeaders ∧
    initAt s cl.initPayload = some cfg.initPayload ∧
    cfg.kwargs = c.kwargs ∧ cfg.url = cl.url ∧ cfg.origin = cl.origin ∧ cfg.query = c.query ∧
    cfg.opName = c.opName ∧ cfg.opId = c.opId := by
  obtain ⟨hd, e, i, hw, he, hi, rfl⟩ := cfgAt_some s cl c cfg h
  exact ⟨hw, he, hi, rfl, rfl, rfl, rfl, rfl, rfl⟩

/-- the configuration in which the merge has already happened -/
def mergedCfg (cfg : Cfg) : Cfg :=
  { cfg with headers := dictUpdate cfg.headers (cfg.extraHeaders.getD []), extraHeaders := none }

theorem connectArgs_merged (sp : String) (cfg : Cfg) : connectArgs sp (mergedCfg cfg) = connectArgs sp cfg := by
  simp [connectArgs, mergedCfg, originOf, dictUpdate]

theorem runT_merged (t : Types) (sp : String) (cfg : Cfg) (vars : Vars) (fs : List Frame) :
    runT t sp (mergedCfg cfg) vars fs = runT t sp cfg vars fs := by
  unfold runT
  rw [connectArgs_merged]
  rfl

/-- an executor that looks at `headers` / `extra_headers` only through the merged dict -/
def HeadersViaMerge (exec : Cfg → Vars → List Frame → Trace) : Prop :=
  ∀ cfg vars fs, exec (mergedCfg cfg) vars fs = exec cfg vars fs

theorem run_viaMerge (tbl : List (String × String)) (sp : String) : HeadersViaMerge (WsClient.run tbl sp) := by
  intro cfg vars fs
  unfold WsClient.run
  cases Types.ofTable tbl with
  | none => rfl
  | some t => exact runT_merged t sp cfg vars fs

theorem runOT_viaMerge (tracer : Bool) (tbl : List (String × String)) (sp : String) :
    HeadersViaMerge (WsClientOT.run tracer tbl sp) := by
  intro cfg vars fs
  unfold WsClientOT.run
  cases Types.ofTable tbl with
  | none => rfl
  | some t =>
    cases tracer with
    | false => exact runT_merged t sp cfg vars fs
    | true => simp only [if_true, runTel_eq]; exact runT_merged t sp cfg vars fs

theorem runH_eq (v : Variant) (exec : Cfg → Vars → List Frame → Trace) (hx : HeadersViaMerge exec)
    (s : Store) (cl : ClientObj) (c : HCall) (cfg : Cfg) (vars : Vars) (fs : List Frame)
    (h : cfgAt s cl c = some cfg) :
    ∃ tail, runH v.merge exec s cl c vars fs = some (s ++ tail, cl, exec cfg vars fs) := by
  obtain ⟨hw, he, -⟩ := cfgAt_parts s cl c cfg h
  obtain ⟨tail, hm⟩ := merge_closed v s cl.wsHeaders c.extraHeaders cfg.headers cfg.extraHeaders hw he
  refine ⟨dictUpdate cfg.headers (cfg.extraHeaders.getD []) :: tail, ?_⟩
  have hget : (s ++ dictUpdate cfg.headers (cfg.extraHeaders.getD []) :: tail)[s.length]? =
      some (dictUpdate cfg.headers (cfg.extraHeaders.getD [])) := by simp
  simp only [runH, hm, hget, cfgAt_append s _ cl c cfg h]
  have := hx cfg vars fs
  simp only [mergedCfg] at this
  rw [this]

/-- what step `st` shows when it is the only subscription ever run on the client configured as in `s` -/
def alone (v : Variant) (exec : Cfg → Vars → List Frame → Trace) (s : Store) (cl : ClientObj) (st : Step) :
    Option Obs :=
  (cfgAt s cl st.call).map fun cfg => observe v st.refuse st.take (exec cfg st.vars st.frames)

theorem runSeqH_eq (v : Variant) (exec : Cfg → Vars → List Frame → Trace) (hx : HeadersViaMerge exec)
    (s : Store) (cl : ClientObj) (steps : List Step)
    (hwf : ∀ st ∈ steps, (cfgAt s cl st.call).isSome = true) (g : Store) :
    ∃ g', runSeqH v exec (s ++ g) cl steps = (s ++ g', cl, steps.map (alone v exec s cl)) := by
  induction steps generalizing g with
  | nil => exact ⟨g, rfl⟩
  | cons st rest ih =>
    obtain ⟨cfg, hcfg⟩ := Option.isSome_iff_exists.mp (hwf st (by simp))
    obtain ⟨tail, hr⟩ := runH_eq v exec hx (s ++ g) cl st.call cfg st.vars st.frames (cfgAt_append s g cl st.call cfg hcfg)
    obtain ⟨g', hrest⟩ := ih (fun st' h' => hwf st' (by simp [h'])) (g ++ tail)
    refine ⟨g', ?_⟩
    simp only [runSeqH, hr, List.append_assoc, hrest, List.map_cons, alone, hcfg, Option.map_some]

/-- what each subscription shows when it is run alone on a client configured as the owner's edits
    (and nothing else) left it at that moment -/
def expectedObs (v : Variant) (exec : Cfg → Vars → List Frame → Trace) : Store → ClientObj → List Action → List (Option Obs)
  | _, _, [] => []
  | s, cl, .edit e :: rest => expectedObs v exec (e.apply s cl).1 (e.apply s cl).2 rest
  | s, cl, .sub st :: rest => alone v exec s cl st :: expectedObs v exec s cl rest

/-- every subscription's references name objects at its time, every in-place mutation names an object -/
def WfActs : Store → ClientObj → List Action → Prop
  | _, _, [] => True
  | s, cl, .edit e :: rest => e.inRange s = true ∧ WfActs (e.apply s cl).1 (e.apply s cl).2 rest
  | s, cl, .sub st :: rest => (cfgAt s cl st.call).isSome = true ∧ WfActs s cl rest

theorem edit_apply_append (e : Edit) (s g : Store) (cl : ClientObj) (h : e.inRange s = true) :
    e.apply (s ++ g) cl = ((e.apply s cl).1 ++ g, (e.apply s cl).2) := by
  cases e with
  | write a o =>
    simp only [Edit.inRange, decide_eq_true_eq] at h
    simp [Edit.apply, h]
  | setInit p => rfl
  | setHeaders hd => rfl
  | setOrigin o => rfl
  | setUrl u => rfl

theorem runActs_eq (v : Variant) (exec : Cfg → Vars → List Frame → Trace) (hx : HeadersViaMerge exec)
    (acts : List Action) : ∀ (s : Store) (cl : ClientObj) (g : Store), WfActs s cl acts →
    ∃ g', runActs v exec (s ++ g) cl acts =
      ((editsOnly s cl acts).1 ++ g', (editsOnly s cl acts).2, expectedObs v exec s cl acts) := by
  induction acts with
  | nil => intro s cl g _; exact ⟨g, rfl⟩
  | cons a rest ih =>
    intro s cl g hwf
    cases a with
    | edit e =>
      obtain ⟨hr, hrest⟩ := hwf
      obtain ⟨g', hg'⟩ := ih (e.apply s cl).1 (e.apply s cl).2 g hrest
      refine ⟨g', ?_⟩
      simp only [runActs, edit_apply_append e s g cl hr, hg', editsOnly, expectedObs]
    | sub st =>
      obtain ⟨hc, hrest⟩ := hwf
      obtain ⟨cfg, hcfg⟩ := Option.isSome_iff_exists.mp hc
      obtain ⟨tail, hr⟩ := runH_eq v exec hx (s ++ g) cl st.call cfg st.vars st.frames (cfgAt_append s g cl st.call cfg hcfg)
      obtain ⟨g', hg'⟩ := ih s cl (g ++ tail) hrest
      refine ⟨g', ?_⟩
      simp only [runActs, hr, List.append_assoc, hg', editsOnly, expectedObs, alone, hcfg, Option.map_some]

/-- phase `ph` of a task is consistent with running its step alone on the untouched client and store -/
def PhaseOk (v : Variant) (exec : Cfg → Vars → List Frame → Trace) (s : Store) (cl : ClientObj) (st : Step) :
    Phase → Prop
  | .todo st' => st' = st
  | .opened o => o = alone v exec s cl st
  | .done o => o = alone v exec s cl st

/-- one scheduler step, in the terms of Proofs/Schedule.lean: the store only grows, the client object stays, and
    the task stepped is still consistent with its subscription run alone (there is no wire: the sockets are per call) -/
theorem stepW_spec (v : Variant) (exec : Cfg → Vars → List Frame → Trace) (hx : HeadersViaMerge exec)
    (s : Store) (cl : ClientObj) (steps : List Step)
    (hwf : ∀ st ∈ steps, (cfgAt s cl st.call).isSome = true) :
    Schedule.StepSpec World.tasks (fun _ => ([] : List Unit)) (stepW v exec)
      (fun w => (∃ g, w.store = s ++ g) ∧ w.client = cl) (PhaseOk v exec s cl) (fun _ _ => True) steps := by
  rintro w i ⟨⟨g, hg⟩, h2⟩
  unfold stepW
  cases hp : w.tasks[i]? with
  | none => exact Or.inl rfl
  | some ph =>
    cases ph with
    | done o => exact Or.inl rfl
    | opened o =>
      exact Or.inr ⟨_, .done o, rfl, rfl, fun c _ hok => ⟨⟨⟨g, hg⟩, h2⟩, hok, fun _ hr => by cases hr⟩⟩
    | todo st =>
      dsimp only
      cases hr : runH v.merge exec w.store w.client st.call st.vars st.frames with
      | none =>
        refine Or.inr ⟨_, .opened none, rfl, rfl, fun c hc hok => ?_⟩
        -- a subscription of the list names objects: its call does not fail
        simp only [PhaseOk] at hok
        subst hok
        obtain ⟨cfg, hcfg⟩ := Option.isSome_iff_exists.mp (hwf st hc)
        obtain ⟨tail, ht⟩ := runH_eq v exec hx (s ++ g) cl st.call cfg st.vars st.frames (cfgAt_append s g cl st.call cfg hcfg)
        rw [hg, h2, ht] at hr
        cases hr
      | some r =>
        obtain ⟨s', cl', tr⟩ := r
        refine Or.inr ⟨_, _, rfl, rfl, fun c hc hok => ?_⟩
        simp only [PhaseOk] at hok
        subst hok
        obtain ⟨cfg, hcfg⟩ := Option.isSome_iff_exists.mp (hwf st hc)
        obtain ⟨tail, ht⟩ := runH_eq v exec hx (s ++ g) cl st.call cfg st.vars st.frames (cfgAt_append s g cl st.call cfg hcfg)
        rw [hg, h2, ht] at hr
        simp only [Option.some.injEq, Prod.mk.injEq] at hr
        obtain ⟨rfl, rfl, rfl⟩ := hr
        exact ⟨⟨⟨g ++ tail, by simp [List.append_assoc]⟩, rfl⟩, by simp [PhaseOk, alone, hcfg], fun _ hr' => by cases hr'⟩

theorem Ev.yield_cases (e : Ev) : (∃ d, e = .yield d) ∨ e.yielded? = none := by
  cases e <;> first | exact Or.inl ⟨_, rfl⟩ | exact Or.inr rfl

theorem cut_succ_other (n : Nat) (e : Ev) (rest : List Ev) (h : e.yielded? = none) :
    cut (n + 1) (e :: rest) = (cut (n + 1) rest).map (e :: ·) := by
  cases e <;> first | rfl | simp [Ev.yielded?] at h

theorem cut_spec (n : Nat) (evs out : List Ev) (h : cut n evs = some out) :
    out <+: evs ∧ (out.filterMap Ev.yielded?).length = n ∧ (0 < n → ∃ d, out.getLast? = some (.yield d)) := by
  induction evs generalizing n out with
  | nil =>
    cases n with
    | zero => simp [cut] at h; subst h; simp
    | succ n => simp [cut] at h
  | cons e evs ih =>
    cases n with
    | zero => simp [cut] at h; subst h; simp
    | succ n =>
      rcases Ev.yield_cases e with ⟨d, rfl⟩ | hy
      · simp only [cut, Option.map_eq_some_iff] at h
        obtain ⟨o', ho', rfl⟩ := h
        obtain ⟨h0, h1, h2⟩ := ih n o' ho'
        refine ⟨List.cons_prefix_cons.mpr ⟨rfl, h0⟩, by simp [Ev.yielded?, h1], fun _ => ?_⟩
        cases n with
        | zero => simp [cut] at ho'; subst ho'; exact ⟨d, rfl⟩
        | succ m =>
          obtain ⟨d', hd'⟩ := h2 (Nat.succ_pos m)
          refine ⟨d', ?_⟩
          cases o' with
          | nil => simp at hd'
          | cons x xs => simpa [List.getLast?_cons_cons] using hd'
      · simp only [cut_succ_other n e evs hy, Option.map_eq_some_iff] at h
        obtain ⟨o', ho', rfl⟩ := h
        obtain ⟨h0, h1, h2⟩ := ih (n + 1) o' ho'
        refine ⟨List.cons_prefix_cons.mpr ⟨rfl, h0⟩, by simpa [List.filterMap_cons, hy] using h1, fun hp => ?_⟩
        obtain ⟨d', hd'⟩ := h2 hp
        cases o' with
        | nil => simp at hd'
        | cons x xs => exact ⟨d', by simpa [List.getLast?_cons_cons] using hd'⟩

/-- fewer than `n` yields: the iterator ends by itself before the consumer would stop -/
theorem cut_none (n : Nat) (evs : List Ev) (h : cut n evs = none) : (evs.filterMap Ev.yielded?).length < n := by
  induction evs generalizing n with
  | nil =>
    cases n with
    | zero => simp [cut] at h
    | succ n => simp
  | cons e evs ih =>
    cases n with
    | zero => simp [cut] at h
    | succ n =>
      rcases Ev.yield_cases e with ⟨d, rfl⟩ | hy
      · simp only [cut, Option.map_eq_none_iff] at h
        have := ih n h
        simp [Ev.yielded?]; omega
      · simp only [cut_succ_other n e evs hy, Option.map_eq_none_iff] at h
        simpa [List.filterMap_cons, hy] using ih (n + 1) h

end Ariadne.WsHeapProofs
