/-
  Validation through the list / non-null wrappers of a field type.

  Every annotation the generator emits for a field is `condAnn (wrapAnn base true T) dirs`: the base annotation of the named
  type inside `Optional[..]` / `List[..]` as `T` dictates, and `condAnn` is one more `optionalIf`.  So pydantic's verdict on it
  is known from two facts about `validate` — at `optionalIf b a` and at `.list a` — and from there by one induction over `T`
  per direction: `wrap_sound` (accepted ⇒ complete, every fuel) and `wrap_complete` (complete ⇒ accepted, enough fuel), with
  the base annotation, the judgement on base values and what is to be known of the validated value as variables.
  CompleteValue is one function, `C05Strict.completeLax`; `Exec.complete`, `Exec.conforms` and `conformsLax` are instances.
  (`completeLax` stands in the definition file Proofs/C05StrictDefs.lean because `laxResp`, which the C05 driver evaluates, is
  written with it.)
-/
import AriadneModel.Proofs.C05StrictDefs
import AriadneModel.Proofs.ResultLeaf


namespace Ariadne.ResultLeaf
open Ariadne Ariadne.Gql Ariadne.ResultTypes Ariadne.Pyd Ariadne.C01Plain Ariadne.C05Strict

theorem validate_optionalIf_ok {penv : Pyd.Env} {b : Bool} {a : Ann} {j : J} {fuel : Nat} {pv : PV}
    (h : validate penv fuel (optionalIf b a) j = .ok pv) :
    (b = true ∧ j = .null) ∨ ∃ g, g ≤ fuel ∧ validate penv g a j = .ok pv := by
  cases b with
  | false => exact Or.inr ⟨fuel, Nat.le_refl _, h⟩
  | true =>
    cases fuel with
    | zero => rw [validate_zero] at h; cases h
    | succ k =>
      simp only [optionalIf, if_true, validate_optional_succ] at h
      cases j with
      | null => exact Or.inl ⟨rfl, rfl⟩
      | _ => exact Or.inr ⟨k, Nat.le_succ _, h⟩

theorem validate_list_ok {penv : Pyd.Env} {a : Ann} {j : J} {fuel : Nat} {pv : PV}
    (h : validate penv fuel (.list a) j = .ok pv) :
    ∃ g xs, fuel = g + 1 ∧ j = .arr xs ∧ ∀ x ∈ xs, ∃ y, validate penv g a x = .ok y := by
  cases fuel with
  | zero => rw [validate_zero] at h; cases h
  | succ g =>
    rw [validate_list_succ] at h
    cases j with
    | arr xs =>
      simp only [] at h
      cases hm : mapE (validate penv g a) xs with
      | error e => simp [hm] at h
      | ok vs => exact ⟨g, xs, rfl, rfl, mapE_ok_mem _ xs vs hm⟩
    | _ => cases h

/-- `R j pv`: what is to be known of the value `pv` validated from `j` (`dump pv = j`; equality up to member order; nothing) -/
theorem validate_optionalIf_of {penv : Pyd.Env} {R : J → PV → Prop} (hnull : R .null .none) {b : Bool} {a : Ann} {j : J} {B : Nat}
    (h : (b = true ∧ j = .null) ∨ ∀ g, B ≤ g → ∃ pv, validate penv g a j = .ok pv ∧ R j pv) :
    ∀ fuel, B + 1 ≤ fuel → ∃ pv, validate penv fuel (optionalIf b a) j = .ok pv ∧ R j pv := by
  intro fuel hf
  obtain ⟨k, rfl⟩ : ∃ k, fuel = k + 1 := ⟨fuel - 1, by omega⟩
  cases b with
  | false =>
    rcases h with ⟨h, _⟩ | h
    · cases h
    · exact h _ (by omega)
  | true =>
    simp only [optionalIf, if_true, validate_optional_succ]
    cases j with
    | null => exact ⟨_, rfl, hnull⟩
    | _ =>
      rcases h with ⟨_, h⟩ | h
      · cases h
      · exact h k (by omega)

/-- how `R` passes from the elements to the list: the shape of `mapE_dump` -/
def ListLift (R : J → PV → Prop) : Prop :=
  ∀ (f : J → Except VErr PV) (xs : List J), (∀ x ∈ xs, ∃ pv, f x = .ok pv ∧ R x pv) →
    ∃ vs, mapE f xs = .ok vs ∧ R (.arr xs) (.list vs)

theorem validate_list_of {penv : Pyd.Env} {R : J → PV → Prop} (hlist : ListLift R)
    {a : Ann} {xs : List J} {g : Nat} (h : ∀ x ∈ xs, ∃ pv, validate penv g a x = .ok pv ∧ R x pv) :
    ∃ pv, validate penv (g + 1) (.list a) (.arr xs) = .ok pv ∧ R (.arr xs) pv := by
  obtain ⟨vs, hvs, hr⟩ := hlist _ xs h
  exact ⟨.list vs, by simp [validate_list_succ, hvs], hr⟩

theorem listLift_true : ListLift (fun _ _ => True) := fun f xs h =>
  let ⟨vs, hvs⟩ := Lists.mapM_isOk_iff.mpr fun x hx => let ⟨pv, hpv, _⟩ := h x hx; ⟨pv, hpv⟩
  ⟨vs, mapE_eq_mapM f xs ▸ hvs, trivial⟩

theorem listLift_dump : ListLift (fun j pv => dump pv = j) := fun f xs h => by
  obtain ⟨vs, hvs, hm⟩ := mapE_dump f dump xs h
  exact ⟨vs, hvs, by simp [dump, dumpList_eq_map, hm]⟩

/-- `parse_directives` adds the `Optional` that is not there yet -/
theorem condAnn_eq (a : Ann) (dirs : List Directive) :
    condAnn a dirs = optionalIf (hasConditionalDirective dirs && !isNullableAnn a) a := by
  unfold condAnn optionalIf
  cases hasConditionalDirective dirs <;> cases isNullableAnn a <;> rfl

theorem completeLax_mono {a a' : Bool} {P P' : J → Bool} (ha : a = true → a' = true) (hP : ∀ x, P x = true → P' x = true) :
    ∀ (T : TypeRef) (b : Bool) (v : J), completeLax a P T b v = true → completeLax a' P' T b v = true
  | .named _, b, v, h => by
    unfold completeLax at h ⊢
    cases v <;> first | exact hP _ h | (simp only [Bool.or_eq_true] at h ⊢; exact h.imp_right ha)
  | .list t, b, v, h => by
    unfold completeLax at h ⊢
    cases v <;> first | exact h | skip
    simp only [List.all_eq_true] at h ⊢
    exact fun x hx => completeLax_mono ha hP t true x (h x hx)
  | .nonNull t, b, v, h => by
    unfold completeLax at h ⊢
    exact completeLax_mono ha hP t false v h

theorem completeLax_null (a : Bool) (P : J → Bool) : ∀ T : TypeRef, completeLax a P T false .null = true →
    a = true ∧ ∀ u, T ≠ .list u
  | .named _, h => ⟨by simpa [completeLax] using h, fun u e => by cases e⟩
  | .list _, h => by simp [completeLax] at h
  | .nonNull w, h => by
    unfold completeLax at h
    exact ⟨(completeLax_null a P w h).1, fun u e => by cases e⟩

theorem complete_eq (P : String → J → Bool) : ∀ (T : TypeRef) (b : Bool) (v : J),
    Exec.complete P T b v = completeLax false (P T.base) T b v
  | .named _, b, v => by unfold Exec.complete completeLax; cases v <;> simp [TypeRef.base]
  | .list t, b, v => by
    unfold Exec.complete completeLax
    cases v <;> simp only [TypeRef.base]
    congr 1; funext x; exact complete_eq P t true x
  | .nonNull t, b, v => by unfold Exec.complete completeLax; exact complete_eq P t false v

theorem conforms_eq (S : Schema) : ∀ (T : TypeRef) (b : Bool) (v : J),
    Exec.conforms S b T v = completeLax false (Exec.leafOk S T.base) T b v
  | .named _, b, v => by unfold Exec.conforms completeLax; cases v <;> simp [TypeRef.base]
  | .list t, b, v => by
    unfold Exec.conforms completeLax
    cases v <;> simp only [TypeRef.base]
    congr 1; funext x; exact conforms_eq S t true x
  | .nonNull t, b, v => by unfold Exec.conforms completeLax; exact conforms_eq S t false v

theorem conformsLax_eq (S : Schema) (lax : Lax) : ∀ (T : TypeRef) (b : Bool) (v : J),
    conformsLax S lax b T v = completeLax (isAnyLeaf S T.base) (leafOkLax S lax T.base) T b v
  | .named _, b, v => by unfold conformsLax completeLax; cases v <;> rfl
  | .list t, b, v => by
    unfold conformsLax completeLax
    cases v <;> simp only [TypeRef.base]
    congr 1; funext x; exact conformsLax_eq S lax t true x
  | .nonNull t, b, v => by unfold conformsLax completeLax; exact conformsLax_eq S lax t false v

theorem wrap_sound (penv : Pyd.Env) (base : Ann) (anyNull : Bool) (P : J → Bool) (G : Nat)
    (hbase : ∀ g, g ≤ G → ∀ x pv, validate penv g base x = .ok pv → (x = .null → anyNull = true) ∧ (x ≠ .null → P x = true))
    (T : TypeRef) :
    ∀ (b : Bool) (v : J) (fuel : Nat) (pv : PV), fuel ≤ G →
      validate penv fuel (wrapAnn base b T) v = .ok pv → completeLax anyNull P T b v = true := by
  induction T with
  | named n =>
    intro b v fuel pv hf h
    unfold completeLax
    rcases validate_optionalIf_ok h with ⟨rfl, rfl⟩ | ⟨g, hg, hv⟩
    · rfl
    · have hb := hbase g (by omega) v pv hv
      cases v with
      | null => simp [hb.1 rfl]
      | _ => exact hb.2 (by simp)
  | list t ih =>
    intro b v fuel pv hf h
    unfold completeLax
    rcases validate_optionalIf_ok h with ⟨rfl, rfl⟩ | ⟨g, hg, hv⟩
    · rfl
    · obtain ⟨k, xs, rfl, rfl, hall⟩ := validate_list_ok hv
      simp only [List.all_eq_true]
      intro x hx
      obtain ⟨y, hy⟩ := hall x hx
      exact ih true x k y (by omega) hy
  | nonNull t ih =>
    intro b v fuel pv hf h
    unfold completeLax
    exact ih false v fuel pv hf h

/-- `D`: a side condition on the payload that list elements inherit (no repeated keys, for the round trip up to member order) -/
theorem wrap_complete (penv : Pyd.Env) (base : Ann) (D : J → Prop) (hD : ∀ xs, D (.arr xs) → ∀ x ∈ xs, D x)
    (R : J → PV → Prop) (hnull : R .null .none) (hlist : ListLift R) (anyNull : Bool) (P : J → Bool) (B : Nat)
    (hbase : ∀ g, B ≤ g → ∀ x, D x → (x = .null → anyNull = true) → (x ≠ .null → P x = true) →
      ∃ pv, validate penv g base x = .ok pv ∧ R x pv)
    (T : TypeRef) :
    ∀ (b : Bool) (v : J) (fuel : Nat), B + wneed T ≤ fuel → D v → completeLax anyNull P T b v = true →
      ∃ pv, validate penv fuel (wrapAnn base b T) v = .ok pv ∧ R v pv := by
  induction T with
  | named n =>
    intro b v fuel hf hd hc
    unfold completeLax at hc
    refine validate_optionalIf_of hnull ?_ fuel hf
    cases v with
    | null =>
      simp only [Bool.or_eq_true] at hc
      exact hc.imp (fun h => ⟨h, rfl⟩) (fun h g hg => hbase g hg _ hd (fun _ => h) (fun h => (h rfl).elim))
    | _ => exact Or.inr fun g hg => hbase g hg _ hd (fun h => by cases h) (fun _ => hc)
  | list t ih =>
    intro b v fuel hf hd hc
    unfold completeLax at hc
    simp only [wneed] at hf
    refine validate_optionalIf_of (B := B + wneed t + 1) hnull ?_ fuel (by omega)
    cases v with
    | null => exact Or.inl ⟨hc, rfl⟩
    | arr xs =>
      refine Or.inr fun g hg => ?_
      obtain ⟨k, rfl⟩ : ∃ k, g = k + 1 := ⟨g - 1, by omega⟩
      simp only [List.all_eq_true] at hc
      exact validate_list_of hlist fun x hx => ih true x k (by omega) (hD xs hd x hx) (hc x hx)
    | _ => cases hc
  | nonNull t ih =>
    intro b v fuel hf hd hc
    unfold completeLax at hc
    exact ih false v fuel hf hd hc

/- One recursion over the wrappers has three spellings, each fixed where it stands: `wrapT nl T L` (Proofs/ParseType.lean, core
   only, what `parseType_eq` speaks), `wrapAnn L nl T` (Proofs/C01PlainDefs.lean, the tier descriptions; `wrap_sound`,
   `wrap_complete`, fuel `wneed`) and `leafAnn env nl T` (Proofs/ResultLeafDefs.lean, the leaf base built in; `accepts_iff_lax`,
   `validate_leaf_dump`, fuel `need` = `wneed + 1`).  The three lemmas below convert. -/
theorem wrapT_eq_wrapAnn (L : Ann) : ∀ (T : TypeRef) (nl : Bool), wrapT nl T L = wrapAnn L nl T
  | .named _, _ => rfl
  | .list t, nl => by simp only [wrapT, wrapAnn, wrapT_eq_wrapAnn L t true]
  | .nonNull t, _ => by simp only [wrapT, wrapAnn, wrapT_eq_wrapAnn L t false]

theorem leafAnn_eq_wrapAnn (env : ResultTypes.Env) (T : TypeRef) (nullable : Bool) :
    leafAnn env nullable T = wrapAnn (leafBase env T.base) nullable T := by
  rw [leafAnn_eq_wrapT, wrapT_eq_wrapAnn]

theorem need_eq_wneed (T : TypeRef) : need T = wneed T + 1 := by
  induction T with
  | named n => rfl
  | list t ih => simp [need, wneed, ih]
  | nonNull t ih => simp [need, wneed, ih]

theorem leaf_sound (env : ResultTypes.Env) (penv : Pyd.Env) (ha : EnvAgrees env penv) (T : TypeRef)
    (hl : LeafName env T.base) (nullable : Bool) (v : J) (fuel : Nat) (pv : PV)
    (h : validate penv fuel (leafAnn env nullable T) v = .ok pv) :
    conformsLax env.schema penv.lax nullable T v = true := by
  rw [leafAnn_eq_wrapAnn, leafBase_eq] at h
  rw [conformsLax_eq]
  refine wrap_sound penv _ _ _ fuel ?_ T nullable v fuel pv (Nat.le_refl _) h
  intro g _ x pv' hx
  cases g with
  | zero => rw [validate_zero] at hx; cases hx
  | succ k =>
    rw [validate_name_succ] at hx
    have hb := validate_leafBase env penv ha T.base hl x
    rw [hx] at hb
    constructor
    · rintro rfl; exact hb.symm
    · intro hne
      cases x with
      | null => exact absurd rfl hne
      | _ => exact hb.symm

theorem leaf_complete (env : ResultTypes.Env) (penv : Pyd.Env) (ha : EnvAgrees env penv) (T : TypeRef)
    (hl : LeafName env T.base) (nullable : Bool) (v : J) (fuel : Nat) (hf : need T ≤ fuel)
    (h : conformsLax env.schema penv.lax nullable T v = true) :
    ∃ pv, validate penv fuel (leafAnn env nullable T) v = .ok pv := by
  rw [conformsLax_eq] at h
  rw [leafAnn_eq_wrapAnn, leafBase_eq]
  have hbase : ∀ g, 1 ≤ g → ∀ x, True → (x = .null → isAnyLeaf env.schema T.base = true) →
      (x ≠ .null → leafOkLax env.schema penv.lax T.base x = true) →
      ∃ pv, validate penv g (.name (leafBaseName env T.base)) x = .ok pv ∧ True := by
    intro g hg x _ hn hx
    obtain ⟨k, rfl⟩ : ∃ k, g = k + 1 := ⟨g - 1, by omega⟩
    rw [validate_name_succ]
    have hb := validate_leafBase env penv ha T.base hl x
    cases hv : validateName penv (leafBaseName env T.base) x with
    | ok pv => exact ⟨pv, rfl, trivial⟩
    | error e =>
      rw [hv] at hb
      cases x with
      | null => rw [hn rfl] at hb; cases hb
      | _ => rw [hx (by simp)] at hb; cases hb
  obtain ⟨pv, hpv, _⟩ := wrap_complete penv _ (fun _ => True) (fun _ _ _ _ => trivial) (fun _ _ => True) trivial listLift_true
    _ _ 1 hbase T nullable v fuel (by rw [need_eq_wneed] at hf; omega) trivial h
  exact ⟨pv, hpv⟩

/-- C01, leaf positions: every value a conformant executor can return at a position of leaf-based
    type `T` (any wrapper nesting, any list length, null wherever nullable) is accepted by the
    emitted annotation, and dumping the validated value reproduces it. -/
theorem validate_leaf_dump (genv : ResultTypes.Env) (penv : Pyd.Env) (ha : EnvAgrees genv penv) (T : TypeRef)
    (hl : LeafName genv T.base) :
    ∀ (nullable : Bool) (j : J) (fuel : Nat), need T ≤ fuel → Exec.conforms genv.schema nullable T j = true →
      ∃ v, validate penv fuel (leafAnn genv nullable T) j = .ok v ∧ dump v = j := by
  intro nullable j fuel hf hc
  rw [leafAnn_eq_wrapAnn, leafBase_eq]
  rw [conforms_eq] at hc
  refine wrap_complete penv _ (fun _ => True) (fun _ _ _ _ => trivial) (fun j pv => dump pv = j) rfl listLift_dump false _ 1 ?_
    T nullable j fuel (by rw [need_eq_wneed] at hf; omega) trivial hc
  intro g hg x _ hn hx
  obtain ⟨k, rfl⟩ : ∃ k, g = k + 1 := ⟨g - 1, by omega⟩
  rw [validate_name_succ]
  exact validateName_dump genv penv ha T.base hl x (hx (fun e => by cases hn e))

end Ariadne.ResultLeaf
