/-
  Helper lemmas for the custom-scalar imports of `client.py` (Model/ClientImports.lean): what
  `ArgumentsGenerator.generate` leaves in `_used_custom_scalars`.
-/
import AriadneModel.Model.ClientImports
import AriadneModel.Proofs.ArgGen


namespace Ariadne.C07Client
open Ariadne.Scalars Ariadne.Gql Ariadne.Arguments Ariadne.ClientImports
open Ariadne.ArgProofs (items_mem item_inv generate_inv itemP annP useP leafNameP)

def baseLeaf : NAnn → Leaf
  | .leaf l _ => l
  | .list it _ => baseLeaf it

/-- `used_custom_scalar` is only ever a key of `custom_scalars`, and then the annotation names its configured type -/
theorem useP_custom {env : Env} {n sc : String} (h : useP env n = .custom sc) :
    sc = n ∧ ∃ d, lookupScalar env.scalars n = some d ∧ leafNameP env n = d.typeName := by
  unfold useP at h
  unfold leafNameP
  cases hk : env.kind n with
  | none => simp [hk] at h
  | some k =>
    cases k <;> simp only [hk] at h <;> try (cases h; done)
    cases hl : lookupScalar env.scalars n with
    | none => simp [hl] at h
    | some d => simp only [hl, Use.custom.injEq] at h; exact ⟨h.symm, d, rfl, rfl⟩

theorem baseLeaf_annP (env : Env) : ∀ (t : TypeRef) (nullable : Bool), baseLeaf (annP env t nullable) = .name (leafNameP env t.base)
  | .named _, _ => rfl
  | .list t, nl => baseLeaf_annP env t nl
  | .nonNull t, _ => baseLeaf_annP env t false

theorem item_custom (env : Env) (v : VarDef) (i : Item) (sc : String) (h : item env v = .ok i) (hu : i.use = .custom sc) :
    ∃ d, lookupScalar env.scalars sc = some d ∧ baseLeaf i.arg.ann = .name d.typeName ∧
      i.value = (match d.serializeName with | some f => .call f i.arg.py | none => .name i.arg.py) := by
  obtain ⟨_, rfl⟩ := item_inv h
  obtain ⟨rfl, d, hd, hn⟩ := useP_custom (show useP env v.type.base = .custom sc from hu)
  refine ⟨d, hd, by simp only [itemP, baseLeaf_annP, hn], ?_⟩
  simp only [itemP, show useP env v.type.base = .custom v.type.base from hu, dictValue, hd]
  cases d.serializeName <;> rfl

theorem mem_foldl_record (is : List Item) : ∀ (st : St) (sc : String),
    sc ∈ (is.foldl (fun st i => st.record i.use) st).usedScalars ↔ sc ∈ st.usedScalars ∨ ∃ i ∈ is, i.use = .custom sc := by
  induction is with
  | nil => simp
  | cons j is ih =>
    intro st sc
    rw [List.foldl_cons, ih]
    cases hu : j.use <;> simp [St.record, hu, or_assoc, eq_comm]

theorem generateAll_cons_inv {env : Env} {defs : List VarDef} {rest : List (List VarDef)} {st st' : St}
    (h : generateAll env (defs :: rest) st = .ok st') :
    ∃ out st1, Arguments.generate env defs st = .ok (out, st1) ∧ generateAll env rest st1 = .ok st' := by
  simp only [generateAll] at h
  cases hg : Arguments.generate env defs st with
  | error e => simp [hg] at h
  | ok p => exact ⟨p.1, p.2, rfl, by simpa [hg] using h⟩

theorem generate_configured (env : Env) (defs : List VarDef) (st st' : St) (out : Out)
    (h : Arguments.generate env defs st = .ok (out, st'))
    (hs : ∀ sc ∈ st.usedScalars, (lookupScalar env.scalars sc).isSome = true) :
    ∀ sc ∈ st'.usedScalars, (lookupScalar env.scalars sc).isSome = true := by
  obtain ⟨is, hi, rfl⟩ := generate_inv h
  intro sc hsc
  rcases (mem_foldl_record is st sc).mp hsc with h' | ⟨i, hmem, hu⟩
  · exact hs sc h'
  · obtain ⟨v, _, hv⟩ := items_mem env defs is hi i hmem
    obtain ⟨d, hd, _⟩ := item_custom env v i sc hv hu
    simp [hd]

theorem generateAll_configured (env : Env) : ∀ (ops : List (List VarDef)) (st st' : St),
    generateAll env ops st = .ok st' → (∀ sc ∈ st.usedScalars, (lookupScalar env.scalars sc).isSome = true) →
    ∀ sc ∈ st'.usedScalars, (lookupScalar env.scalars sc).isSome = true := by
  intro ops
  induction ops with
  | nil => intro st st' h hs; simp [generateAll] at h; subst h; exact hs
  | cons defs rest ih =>
    intro st st' h hs
    obtain ⟨out, st1, hg, hrest⟩ := generateAll_cons_inv h
    exact ih st1 st' hrest (generate_configured env defs st st1 out hg hs)

theorem generateAll_mono (env : Env) : ∀ (ops : List (List VarDef)) (st st' : St),
    generateAll env ops st = .ok st' → ∀ sc ∈ st.usedScalars, sc ∈ st'.usedScalars := by
  intro ops
  induction ops with
  | nil => intro st st' h sc hsc; simp [generateAll] at h; subst h; exact hsc
  | cons defs rest ih =>
    intro st st' h sc hsc
    obtain ⟨out, st1, hg, hrest⟩ := generateAll_cons_inv h
    obtain ⟨is, _, rfl⟩ := generate_inv hg
    exact ih _ st' hrest sc ((mem_foldl_record is st sc).mpr (.inl hsc))

theorem generateAll_mem (env : Env) : ∀ (ops : List (List VarDef)) (st st' : St),
    generateAll env ops st = .ok st' →
    ∀ defs ∈ ops, ∀ is, items env defs = .ok is → ∀ i ∈ is, ∀ sc, i.use = .custom sc → sc ∈ st'.usedScalars := by
  intro ops
  induction ops with
  | nil => intro st st' h defs hd; cases hd
  | cons d0 rest ih =>
    intro st st' h defs hd is his i hi sc hu
    obtain ⟨out, st1, hg, hrest⟩ := generateAll_cons_inv h
    rcases List.mem_cons.mp hd with he | he
    · subst he
      obtain ⟨is', his', rfl⟩ := generate_inv hg
      rw [his] at his'; cases his'
      exact generateAll_mono env rest _ st' hrest sc ((mem_foldl_record is st sc).mpr (.inr ⟨i, hi, hu⟩))
    · exact ih st1 st' hrest defs he is his i hi sc hu

end Ariadne.C07Client
