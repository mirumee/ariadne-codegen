/-
  Lemmas about Model/Prune.lean, the layer C09 and the package proofs (C04, C06, C07) stand on: the fuelled DFS is correct
  for every graph given by a finite table, cycles included, and its fuel suffices; both `_filter_class_defs` are total
  filters by a predicate on names.  Core Lean only (the bridge to `Relation.ReflTransGen` is in Properties/C09.lean).
-/
import AriadneModel.Model.Prune
import AriadneModel.Proofs.ListLemmas


namespace Ariadne.Prune

/-- Reflexive-transitive closure of the edge relation `b ∈ deps a` (own inductive; shown equal to
    Mathlib's `Relation.ReflTransGen` in Properties/C09.lean). -/
inductive Reach (deps : Name → List Name) : Name → Name → Prop where
  | refl (a : Name) : Reach deps a a
  | tail {a b c : Name} : Reach deps a b → c ∈ deps b → Reach deps a c

theorem Reach.head {deps : Name → List Name} {a b c : Name} (h : b ∈ deps a) (r : Reach deps b c) :
    Reach deps a c := by
  induction r with
  | refl => exact .tail (.refl a) h
  | tail _ hc ih => exact .tail ih hc

theorem Reach.trans {deps : Name → List Name} {a b c : Name} (r₁ : Reach deps a b) (r₂ : Reach deps b c) :
    Reach deps a c := by
  induction r₂ with
  | refl => exact r₁
  | tail _ hc ih => exact .tail ih hc

theorem Reach.mem_of_closed {deps : Name → List Name} {l : List Name} {r x : Name}
    (hcl : ∀ a ∈ l, ∀ b ∈ deps a, b ∈ l) (hr : r ∈ l) (h : Reach deps r x) : x ∈ l := by
  induction h with
  | refl => exact hr
  | tail _ hc ih => exact hcl _ ih _ hc

/-! ### The fuel measure: entries of `U` (the nodes that may have successors) not yet visited -/

def nv (vis : List Name) (u : Name) : Bool := !decide (u ∈ vis)

def unvisited (U vis : List Name) : Nat := U.countP (nv vis)

theorem unvisited_mono (U : List Name) {vis vis' : List Name} (h : ∀ x ∈ vis, x ∈ vis') :
    unvisited U vis' ≤ unvisited U vis := by
  unfold unvisited
  apply List.countP_mono_left
  intro x _ hx
  simp only [nv, Bool.not_eq_true', decide_eq_false_iff_not] at hx ⊢
  exact fun hv => hx (h x hv)

theorem unvisited_lt (U : List Name) {vis : List Name} {node : Name} (hU : node ∈ U) (hv : node ∉ vis) :
    unvisited U (vis ++ [node]) < unvisited U vis :=
  Lists.countP_lt_of _ _ U (fun x _ hx => by
      simp only [nv, Bool.not_eq_true', decide_eq_false_iff_not] at hx ⊢
      exact fun h => hx (List.mem_append_left _ h))
    ⟨node, hU, by simp [nv, hv], by simp [nv]⟩

theorem unvisited_nil (U : List Name) : unvisited U [] = U.length := by
  simp [unvisited, nv]

structure DfsSpec (deps : Name → List Name) (node : Name) (vis vis' : List Name) : Prop where
  ext : ∃ new, vis' = vis ++ new ∧ (∀ x ∈ new, Reach deps node x) ∧ (∀ x ∈ new, ∀ y ∈ deps x, y ∈ vis')
  mem : node ∈ vis'

structure LoopSpec (deps : Name → List Name) (ns : List Name) (vis vis' : List Name) : Prop where
  ext : ∃ new, vis' = vis ++ new ∧ (∀ x ∈ new, ∃ n ∈ ns, Reach deps n x) ∧
      (∀ x ∈ new, ∀ y ∈ deps x, y ∈ vis')
  mem : ∀ n ∈ ns, n ∈ vis'

theorem loop_spec (deps : Name → List Name) (U : List Name) (fuel : Nat)
    (ih : ∀ node vis, unvisited U vis < fuel →
      ∃ vis', dfs deps fuel node vis = some vis' ∧ DfsSpec deps node vis vis') :
    ∀ (ns vis : List Name), unvisited U vis < fuel →
      ∃ vis', ns.foldlM (fun v n => dfs deps fuel n v) vis = some vis' ∧ LoopSpec deps ns vis vis' := by
  intro ns
  induction ns with
  | nil =>
    intro vis _
    exact ⟨vis, by simp, ⟨[], by simp, by simp, by simp⟩, by simp⟩
  | cons n ns ihns =>
    intro vis hm
    obtain ⟨vis1, h1, s1⟩ := ih n vis hm
    obtain ⟨new1, e1, r1, c1⟩ := s1.ext
    have hsub : ∀ x ∈ vis, x ∈ vis1 := by intro x hx; rw [e1]; simp [hx]
    have hm1 : unvisited U vis1 < fuel := Nat.lt_of_le_of_lt (unvisited_mono U hsub) hm
    obtain ⟨vis', h2, s2⟩ := ihns vis1 hm1
    obtain ⟨new2, e2, r2, c2⟩ := s2.ext
    have hsub2 : ∀ x ∈ vis1, x ∈ vis' := by intro x hx; rw [e2]; simp [hx]
    refine ⟨vis', ?_, ⟨new1 ++ new2, ?_, ?_, ?_⟩, ?_⟩
    · simp [List.foldlM_cons, h1, h2]
    · rw [e2, e1]; simp
    · intro x hx
      rcases List.mem_append.mp hx with hx | hx
      · exact ⟨n, by simp, r1 x hx⟩
      · obtain ⟨n', hn', hr⟩ := r2 x hx
        exact ⟨n', by simp [hn'], hr⟩
    · intro x hx y hy
      rcases List.mem_append.mp hx with hx | hx
      · exact hsub2 y (c1 x hx y hy)
      · exact c2 x hx y hy
    · intro n' hn'
      rcases List.mem_cons.mp hn' with h | h
      · subst h; exact hsub2 _ s1.mem
      · exact s2.mem n' h

/-- Induction on the fuel; no assumption on the shape of the graph. -/
theorem dfs_spec (deps : Name → List Name) (U : List Name) (hU : ∀ n, n ∉ U → deps n = []) :
    ∀ (fuel : Nat) (node : Name) (vis : List Name), unvisited U vis < fuel →
      ∃ vis', dfs deps fuel node vis = some vis' ∧ DfsSpec deps node vis vis' := by
  intro fuel
  induction fuel with
  | zero => intro node vis h; exact absurd h (Nat.not_lt_zero _)
  | succ fuel ih =>
    intro node vis hm
    by_cases hv : node ∈ vis
    · exact ⟨vis, by simp [dfs, hv], ⟨[], by simp, by simp, by simp⟩, hv⟩
    · by_cases hn : node ∈ U
      · have hlt : unvisited U (vis ++ [node]) < fuel := by
          have := unvisited_lt U hn hv
          omega
        obtain ⟨vis', hf, sp⟩ := loop_spec deps U fuel ih (deps node) (vis ++ [node]) hlt
        obtain ⟨new, e, r, c⟩ := sp.ext
        refine ⟨vis', by simp [dfs, hv, hf], ⟨node :: new, ?_, ?_, ?_⟩, ?_⟩
        · rw [e]; simp
        · intro x hx
          rcases List.mem_cons.mp hx with h | h
          · subst h; exact .refl _
          · obtain ⟨n, hn', hr⟩ := r x h
            exact Reach.head hn' hr
        · intro x hx y hy
          rcases List.mem_cons.mp hx with h | h
          · subst h; exact sp.mem y hy
          · exact c x h y hy
        · rw [e]; simp
      · have hd : deps node = [] := hU node hn
        refine ⟨vis ++ [node], by simp [dfs, hv, hd], ⟨[node], rfl, ?_, ?_⟩, by simp⟩
        · intro x hx
          have : x = node := by simpa using hx
          subst this; exact .refl _
        · intro x hx y hy
          have : x = node := by simpa using hx
          subst this
          rw [hd] at hy; simp at hy

theorem depsOf_nil_of_not_mem (tbl : List InputDef) (n : Name) (h : n ∉ tbl.map (·.name)) :
    depsOf tbl n = [] := by
  unfold depsOf
  have : tbl.filter (fun d => d.name == n) = [] := by
    rw [List.filter_eq_nil_iff]
    intro d hd hbeq
    have : d.name = n := by simpa using hbeq
    exact h (by rw [← this]; exact List.mem_map.mpr ⟨d, hd, rfl⟩)
  simp [this]

theorem getDependenciesOfType_spec (tbl : List InputDef) (r : Name) :
    ∃ l, getDependenciesOfType tbl r = some l ∧ ∀ x, x ∈ l ↔ Reach (depsOf tbl) r x := by
  have hm : unvisited (tbl.map (·.name)) [] < tbl.length + 1 := by
    rw [unvisited_nil]; simp
  obtain ⟨l, hl, sp⟩ := dfs_spec (depsOf tbl) (tbl.map (·.name)) (depsOf_nil_of_not_mem tbl)
    (tbl.length + 1) r [] hm
  obtain ⟨new, e, rch, cl⟩ := sp.ext
  have e' : l = new := by simpa using e
  subst e'
  refine ⟨l, hl, fun x => ⟨rch x, fun h => Reach.mem_of_closed cl sp.mem h⟩⟩

theorem typesNames_aux (tbl : List InputDef) :
    ∀ (roots acc : List Name),
      ∃ l, roots.foldlM (fun acc r => (getDependenciesOfType tbl r).map (acc ++ ·)) acc = some l ∧
        ∀ x, x ∈ l ↔ (x ∈ acc ∨ ∃ r ∈ roots, Reach (depsOf tbl) r x) := by
  intro roots
  induction roots with
  | nil => intro acc; exact ⟨acc, by simp, by simp⟩
  | cons r roots ih =>
    intro acc
    obtain ⟨d, hd, hmem⟩ := getDependenciesOfType_spec tbl r
    obtain ⟨l, hl, hx⟩ := ih (acc ++ d)
    refine ⟨l, by simp [List.foldlM_cons, hd, hl], ?_⟩
    intro x
    rw [hx x]
    constructor
    · rintro (h | ⟨r', hr', hreach⟩)
      · rcases List.mem_append.mp h with h | h
        · exact .inl h
        · exact .inr ⟨r, by simp, (hmem x).mp h⟩
      · exact .inr ⟨r', by simp [hr'], hreach⟩
    · rintro (h | ⟨r', hr', hreach⟩)
      · exact .inl (by simp [h])
      · rcases List.mem_cons.mp hr' with h | h
        · subst h; exact .inl (by simp [(hmem x).mpr hreach])
        · exact .inr ⟨r', h, hreach⟩

theorem typesNames_spec (tbl : List InputDef) (roots : List Name) :
    ∃ l, typesNames tbl roots = some l ∧ ∀ x, x ∈ l ↔ ∃ r ∈ roots, Reach (depsOf tbl) r x := by
  obtain ⟨l, hl, hx⟩ := typesNames_aux tbl roots []
  exact ⟨l, hl, fun x => by simpa using hx x⟩

theorem mem_usedEnumsOf (tbl : List InputDef) (n e : Name) :
    e ∈ usedEnumsOf tbl n ↔ ∃ d ∈ tbl, d.name = n ∧ e ∈ enumRefs d := by
  simp [usedEnumsOf, List.mem_flatMap, List.mem_filter, and_assoc]

theorem mem_depsOf (tbl : List InputDef) (n m : Name) :
    m ∈ depsOf tbl n ↔ ∃ d ∈ tbl, d.name = n ∧ m ∈ inputRefs d := by
  simp [depsOf, List.mem_flatMap, List.mem_filter, and_assoc]

theorem mem_inputsUsedEnums (tbl : List InputDef) (cds : List InputDef) (e : Name) :
    e ∈ inputsUsedEnums tbl (cds.map (·.name)) ↔
      ∃ c ∈ cds, ∃ d ∈ tbl, d.name = c.name ∧ e ∈ enumRefs d := by
  simp only [inputsUsedEnums, List.mem_flatMap, List.mem_map, mem_usedEnumsOf]
  constructor
  · rintro ⟨n, ⟨c, hc, rfl⟩, d, hd, hn, he⟩
    exact ⟨c, hc, d, hd, hn, he⟩
  · rintro ⟨c, hc, d, hd, hn, he⟩
    exact ⟨c.name, ⟨c, hc, rfl⟩, d, hd, hn, he⟩

theorem foldl_addOperation (ops : List Op) (st : St) :
    ops.foldl addOperation st =
      { st with usedEnums := st.usedEnums ++ ops.flatMap (·.resultEnums),
                argInputs := st.argInputs ++ ops.flatMap (·.varInputs),
                argEnums := st.argEnums ++ ops.flatMap (·.varEnums) } := by
  induction ops generalizing st with
  | nil => simp
  | cons o ops ih => simp [List.foldl_cons, ih, addOperation, List.append_assoc]

theorem initState_eq (x : Input) :
    initState x = { usedEnums := resultEnumsOf x, argInputs := varInputsOf x, argEnums := varEnumsOf x } := by
  simp [initState, foldl_addOperation, resultEnumsOf, varInputsOf, varEnumsOf]

theorem generate_eq (x : Input) :
    generate x =
      (filterInputDefs x.inputs (if x.allInputs then none else some (varInputsOf x))).map fun cds =>
        { inputsModule := cds,
          enumsModule := filterEnumDefs x.enums (if x.allEnums then none else some (usedEnumsFinal x cds)),
          inputsEnumImport := inputsUsedEnums x.inputs (names cds),
          clientInputs := varInputsOf x,
          clientEnums := varEnumsOf x } := by
  unfold generate generateWith generateOrder runSteps
  rw [initState_eq]
  simp only [List.foldlM_cons, List.foldlM_nil, step]
  cases hf : filterInputDefs x.inputs (if x.allInputs then none else some (varInputsOf x)) with
  | none => simp
  | some cds =>
    cases hfr : x.fragEnums with
    | none => simp [hfr, finish, usedEnumsFinal, fragEnumsOf, names]
    | some es => simp [hfr, finish, usedEnumsFinal, fragEnumsOf, List.append_assoc, names]

theorem mem_names_filter (l : List InputDef) (p : InputDef → Bool) (n : Name) :
    n ∈ names (l.filter p) ↔ ∃ c ∈ l, p c = true ∧ c.name = n := by
  simp [names, List.mem_map, List.mem_filter, and_assoc]

theorem mem_enames_filter (l : List EnumDef) (p : EnumDef → Bool) (n : Name) :
    n ∈ enames (l.filter p) ↔ ∃ c ∈ l, p c = true ∧ c.name = n := by
  simp [enames, List.mem_map, List.mem_filter, and_assoc]

theorem filterInputDefs_filter (tbl : List InputDef) (opt : Option (List Name)) :
    ∃ keep : Name → Bool, filterInputDefs tbl opt = some (tbl.filter fun c => keep c.name) ∧
      ∀ n, keep n = true ↔ ∀ roots, opt = some roots → ∃ r ∈ roots, Reach (depsOf tbl) r n := by
  cases opt with
  | none => exact ⟨fun _ => true, by rw [List.filter_eq_self.mpr fun _ _ => rfl]; rfl, fun n => by simp⟩
  | some roots =>
    obtain ⟨ns, hns, hx⟩ := typesNames_spec tbl roots
    exact ⟨fun n => decide (n ∈ ns), by simp [filterInputDefs, hns], fun n => by simp [hx n]⟩

theorem filterEnumDefs_filter (enums : List EnumDef) (opt : Option (List Name)) :
    ∃ keep : Name → Bool, filterEnumDefs enums opt = enums.filter (fun c => keep c.name) ∧
      ∀ n, keep n = true ↔ ∀ incl, opt = some incl → n ∈ incl := by
  cases opt with
  | none => exact ⟨fun _ => true, by rw [List.filter_eq_self.mpr fun _ _ => rfl]; rfl, fun n => by simp⟩
  | some incl => exact ⟨fun n => decide (n ∈ incl), rfl, fun n => by simp⟩

/-- left to right: a class of the table that shares its name with a kept one is kept -/
theorem mem_inputsUsedEnums_filter (tbl : List InputDef) (keep : Name → Bool) (e : Name) :
    e ∈ inputsUsedEnums tbl (names (tbl.filter fun c => keep c.name)) ↔ ∃ c ∈ tbl.filter (fun c => keep c.name), e ∈ enumRefs c := by
  unfold names
  rw [mem_inputsUsedEnums]
  constructor
  · rintro ⟨c, hc, d, hd, hn, he⟩
    exact ⟨d, List.mem_filter.mpr ⟨hd, hn ▸ (List.mem_filter.mp hc).2⟩, he⟩
  · rintro ⟨c, hc, he⟩
    exact ⟨c, hc, c, (List.mem_filter.mp hc).1, rfl, he⟩

theorem filterInputDefs_total (tbl : List InputDef) (opt : Option (List Name)) : ∃ kept, filterInputDefs tbl opt = some kept :=
  let ⟨_, h, _⟩ := filterInputDefs_filter tbl opt; ⟨_, h⟩

theorem filterInputDefs_spec {tbl kept : List InputDef} {opt : Option (List Name)} (h : filterInputDefs tbl opt = some kept) :
    (∀ c ∈ kept, c ∈ tbl) ∧
    (∀ c ∈ kept, ∀ n ∈ depsOf tbl c.name, ∀ d ∈ tbl, d.name = n → d ∈ kept) ∧
    (∀ roots, opt = some roots → ∀ r ∈ roots, ∀ d ∈ tbl, d.name = r → d ∈ kept) ∧
    (opt = none → kept = tbl) := by
  obtain ⟨keep, e, hk⟩ := filterInputDefs_filter tbl opt
  cases h.symm.trans e
  refine ⟨fun c hc => (List.mem_filter.mp hc).1, ?_, ?_, ?_⟩
  · intro c hc n hn d hd hdn
    refine List.mem_filter.mpr ⟨hd, hdn ▸ (hk n).mpr fun roots hr => ?_⟩
    obtain ⟨r, hr, hreach⟩ := (hk c.name).mp (List.mem_filter.mp hc).2 roots hr
    exact ⟨r, hr, .tail hreach hn⟩
  · intro roots hr r hrm d hd hdn
    exact List.mem_filter.mpr ⟨hd, hdn ▸ (hk r).mpr fun roots' hr' => ⟨r, Option.some.inj (hr.symm.trans hr') ▸ hrm, .refl r⟩⟩
  · rintro rfl
    exact List.filter_eq_self.mpr fun c _ => (hk c.name).mpr fun _ hr => nomatch hr

end Ariadne.Prune
